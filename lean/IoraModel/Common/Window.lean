import IoraModel.Common.Bytes
/-
What stands at an offset of a buffer.  `m.drop o = x ++ r` says that `x` stands at offset `o` of `m` and `r` follows it;
parsers that address their input by absolute index (the DNS reader, the HTTP chunk and trailer scanners) state their
exactness theorems over such a window, and move it along with `drop_at`.
-/
namespace Iora

theorem getElem?_at {m x r : Bytes} {o : Nat} (h : m.drop o = x ++ r) {i : Nat} (hi : i < x.length) : m[o + i]? = x[i]? := by
  rw [← List.getElem?_drop, h, List.getElem?_append_left hi]

theorem getElem?_after {m x r : Bytes} {c : UInt8} {o : Nat} (h : m.drop o = x ++ c :: r) : m[o + x.length]? = some c := by
  rw [← List.getElem?_drop, h, List.getElem?_append_right (Nat.le_refl _), Nat.sub_self]; rfl

theorem drop_at {m x r : Bytes} {o : Nat} (h : m.drop o = x ++ r) : m.drop (o + x.length) = r := by
  rw [← List.drop_drop, h, List.drop_left]

theorem length_at {m x r : Bytes} {o : Nat} (h : m.drop o = x ++ r) (ho : o ≤ m.length) : m.length = o + x.length + r.length := by
  have := congrArg List.length h
  simp only [List.length_drop, List.length_append] at this
  omega

/-- `w` is the window as a whole (`x ++ r`); where its shape shows that it is not empty, `simp` finds `hne` at the call site. -/
theorem lt_length_at {m w : Bytes} {o : Nat} (h : m.drop o = w) (hne : w ≠ [] := by simp) : o < m.length := by
  have h1 := congrArg List.length h
  have h2 : 0 < w.length := List.length_pos_iff.mpr hne
  rw [List.length_drop] at h1
  omega

end Iora
