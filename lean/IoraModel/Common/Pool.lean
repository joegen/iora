/-!
# A pool of threads kept as a list; the owner of a mutex

`Iora.Pool`: the threads of a small-step model are a `List` indexed by thread id, and a step of thread `i` replaces entry `i`
(`l.set i x`): what a lookup finds after a replacement, the frame rule that follows from it, and how a sum or a count over the
pool moves.

`Iora.Mutex`: a mutex is its owner, an `Option Nat`.  `OwnerStep t o o'` says that a step of thread `t` takes the owner from `o`
to `o'` and changes it only from or to `t`; whatever an invariant says about another thread `u` in terms of `owner = some u` is
then untouched by the step (`OwnerStep.other`).
-/
namespace Iora.Pool

variable {α : Type}

theorem lt_of_get {l : List α} {i : Nat} {a : α} (h : l[i]? = some a) : i < l.length :=
  (List.getElem?_eq_some_iff.mp h).1

theorem get_set_self {l : List α} {i : Nat} {a x : α} (h : l[i]? = some a) : (l.set i x)[i]? = some x :=
  List.getElem?_set_self (lt_of_get h)

theorem get_set {l : List α} {i j : Nat} {x y : α} (h : (l.set i x)[j]? = some y) :
    (j = i ∧ y = x) ∨ (j ≠ i ∧ l[j]? = some y) := by
  by_cases e : i = j
  · subst e
    rw [List.getElem?_set, if_pos rfl] at h
    split at h
    · exact .inl ⟨rfl, (Option.some.inj h).symm⟩
    · cases h
  · rw [List.getElem?_set_ne e] at h
    exact .inr ⟨fun e' => e e'.symm, h⟩

theorem forall_set {I I' : Nat → α → Prop} {l : List α} {i : Nat} {x : α} (h : ∀ j y, l[j]? = some y → I j y) (hx : I' i x)
    (hothers : ∀ j y, j ≠ i → I j y → I' j y) : ∀ j y, (l.set i x)[j]? = some y → I' j y := fun j y hj =>
  (get_set hj).elim (fun e => e.1 ▸ e.2 ▸ hx) (fun e => hothers j y e.1 (h j y e.2))

theorem set_same {l : List α} {i : Nat} {a : α} (h : l[i]? = some a) : l.set i a = l := by
  obtain ⟨hlt, rfl⟩ := List.getElem?_eq_some_iff.mp h
  exact List.set_getElem_self hlt

theorem sum_set (f : α → Nat) : ∀ {l : List α} {i : Nat} {a : α} (x : α), l[i]? = some a →
    ((l.set i x).map f).sum + f a = (l.map f).sum + f x
  | _ :: _, 0, _, x, h => by
    cases Option.some.inj h
    simp only [List.set_cons_zero, List.map_cons, List.sum_cons]; omega
  | _ :: xs, i + 1, _, x, h => by
    have := sum_set f (l := xs) (i := i) x h
    simp only [List.set_cons_succ, List.map_cons, List.sum_cons]; omega

theorem countP_set (p : α → Bool) {l : List α} {i : Nat} {a : α} (x : α) (h : l[i]? = some a) :
    (l.set i x).countP p + (if p a then 1 else 0) = l.countP p + (if p x then 1 else 0) := by
  obtain ⟨hlt, rfl⟩ := List.getElem?_eq_some_iff.mp h
  have := List.boole_getElem_le_countP (p := p) hlt
  rw [List.countP_set hlt]; omega

theorem countP_set_same (p : α → Bool) {l : List α} {i : Nat} {a x : α} (h : l[i]? = some a) (hp : p x = p a) :
    (l.set i x).countP p = l.countP p := by
  have := countP_set p x h
  rw [hp] at this; omega

theorem countP_map_same (p : α → Bool) (f : α → α) (l : List α) (h : ∀ a, p (f a) = p a) : (l.map f).countP p = l.countP p := by
  rw [List.countP_map]; exact congrArg (List.countP · l) (funext h)

theorem exists_of_sum_pos (f : α → Nat) : ∀ {l : List α}, 0 < (l.map f).sum → ∃ (j : Nat) (a : α), l[j]? = some a ∧ 0 < f a
  | a :: l, h => by
    by_cases ha : 0 < f a
    · exact ⟨0, a, rfl, ha⟩
    · obtain ⟨j, b, hj, hb⟩ := exists_of_sum_pos f (l := l) (by simp only [List.map_cons, List.sum_cons] at h; omega)
      exact ⟨j + 1, b, hj, hb⟩

end Iora.Pool

namespace Iora.Mutex

def OwnerStep (t : Nat) (o o' : Option Nat) : Prop := ∀ u, u ≠ t → (o' = some u ↔ o = some u)

theorem OwnerStep.other {t : Nat} {o o' : Option Nat} (h : OwnerStep t o o') {u : Nat} (hu : u ≠ t) : o' = some u ↔ o = some u := h u hu

theorem OwnerStep.refl (t : Nat) (o : Option Nat) : OwnerStep t o o := fun _ _ => Iff.rfl

/-- `lock` of the free mutex -/
theorem OwnerStep.acquire (t : Nat) : OwnerStep t none (some t) := fun _ hu =>
  ⟨fun e => absurd (Option.some.inj e).symm hu, nofun⟩

/-- `unlock` by the owner -/
theorem OwnerStep.release (t : Nat) : OwnerStep t (some t) none := fun _ hu =>
  ⟨nofun, fun e => absurd (Option.some.inj e).symm hu⟩

/-- the end of a `lock_guard` scope: the thread gives the mutex back if it owns it -/
theorem OwnerStep.giveBack (t : Nat) (o : Option Nat) : OwnerStep t o (if o = some t then none else o) := by
  split
  · next h => exact h ▸ .release t
  · exact .refl t o

end Iora.Mutex
