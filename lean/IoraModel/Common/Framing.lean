import IoraModel.Common.Bytes
/-
Greedy framing and segmentation independence (DESIGN §6.6, §6.7), proved once for every "stable" frame
parser.  A receive loop that appends each network read to a carried remainder and peels frames while
the parser succeeds yields, for EVERY segmentation of a stream, the frames of the unsegmented stream.

The parser may also answer `fatal` (the endpoint fails the connection and ignores all further input); the failure is handed out
as one more item, so `α` is the type of what the endpoint reports: a frame, or the event that ends the connection
(`none` for the HTTP server's close, `DnsTcp.Ev.close`, the WebSocket error kinds).
Stability is only required on a class `G` of "good" buffers (e.g. prefixes of streams of valid
frames), because real parsers have branches (WebSocket RSV bits) that are not extension-stable.
-/
namespace Iora.Framing

inductive Res (α : Type) where
  | more
  | frame (a : α) (n : Nat)
  | fatal (e : α)
  deriving Repr

/-- A frame parser `p` that is stable under appended bytes on the good buffers `G`: a frame consumes at least one byte and no more
than there is (`pos`); a frame or a failure found in `d` is found again in `d ++ x` whenever `d ++ x` is good (`ext_frame`, `ext_fatal`:
goodness is asked of the extended buffer only, never of `d`); what is left of a good buffer after a frame is good (`g_drop`).
`g_prefix`, prefixes of good buffers are good, is asked of every instance and read by no theorem of this file. -/
structure Stable (α : Type) (G : Bytes → Prop) where
  p : Bytes → Res α
  pos : ∀ d a n, p d = .frame a n → 0 < n ∧ n ≤ d.length
  ext_frame : ∀ d a n x, G (d ++ x) → p d = .frame a n → p (d ++ x) = .frame a n
  ext_fatal : ∀ d e x, G (d ++ x) → p d = .fatal e → p (d ++ x) = .fatal e
  g_drop : ∀ d a n, G d → p d = .frame a n → G (d.drop n)
  g_prefix : ∀ d x, G (d ++ x) → G d

/-- what the endpoint carries between reads: the unconsumed remainder, or "connection failed" -/
inductive Carry where
  | alive (rest : Bytes)
  | dead
  deriving Repr, DecidableEq

variable {α : Type} {G : Bytes → Prop}

/-- Fuel `d.length + 1` is enough, since a frame consumes at least one byte (`drainF_fuel`); `drain` runs on that. -/
def drainF (P : Stable α G) : Nat → Bytes → List α × Carry
  | 0, d => ([], .alive d)
  | f + 1, d =>
    match P.p d with
    | .more => ([], .alive d)
    | .fatal e => ([e], .dead)
    | .frame a n => let r := drainF P f (d.drop n); (a :: r.1, r.2)

def drain (P : Stable α G) (d : Bytes) : List α × Carry := drainF P (d.length + 1) d

theorem drainF_fuel (P : Stable α G) : ∀ (f g : Nat) (d : Bytes), d.length < f → d.length < g →
    drainF P f d = drainF P g d := by
  intro f
  induction f with
  | zero => intro g d h; omega
  | succ f ih =>
    intro g d hf hg
    cases g with
    | zero => omega
    | succ g =>
      simp only [drainF]
      cases hp : P.p d with
      | more => rfl
      | fatal e => rfl
      | frame a n =>
        have ⟨hn0, hnl⟩ := P.pos d a n hp
        have hl : (d.drop n).length < d.length := by simp [List.length_drop]; omega
        simp only
        rw [ih g (d.drop n) (by omega) (by omega)]

theorem drainF_carry_le (P : Stable α G) : ∀ (f : Nat) (d r : Bytes), (drainF P f d).2 = .alive r → r.length ≤ d.length := by
  intro f
  induction f with
  | zero => intro d r h; cases h; exact Nat.le_refl _
  | succ f ih =>
    intro d r h
    simp only [drainF] at h
    cases hp : P.p d with
    | more => rw [hp] at h; cases h; exact Nat.le_refl _
    | fatal e => rw [hp] at h; cases h
    | frame a n =>
      rw [hp] at h
      exact Nat.le_trans (ih _ r h) (by rw [List.length_drop]; omega)

/-- `d'` is a suffix of `d`, which the statement does not say. -/
theorem drainF_mem (P : Stable α G) : ∀ (f : Nat) (d : Bytes) (a : α), a ∈ (drainF P f d).1 →
    ∃ d', (∃ n, P.p d' = .frame a n) ∨ P.p d' = .fatal a := by
  intro f
  induction f with
  | zero => intro d a h; cases h
  | succ f ih =>
    intro d a h
    simp only [drainF] at h
    cases hp : P.p d with
    | more => rw [hp] at h; cases h
    | fatal e => rw [hp] at h; cases List.mem_singleton.mp h; exact ⟨d, .inr hp⟩
    | frame b n =>
      rw [hp] at h
      cases List.mem_cons.mp h with
      | inl e => exact ⟨d, .inl ⟨n, e ▸ hp⟩⟩
      | inr h' => exact ih _ a h'

theorem drain_frame (P : Stable α G) (d : Bytes) (a : α) (n : Nat) (hp : P.p d = .frame a n) :
    drain P d = (a :: (drain P (d.drop n)).1, (drain P (d.drop n)).2) := by
  have ⟨hn0, hnl⟩ := P.pos d a n hp
  have hl : (d.drop n).length < d.length := by simp [List.length_drop]; omega
  show drainF P (d.length + 1) d = _
  rw [drainF]
  simp only [hp]
  rw [drainF_fuel P d.length ((d.drop n).length + 1) (d.drop n) hl (by omega)]
  rfl

theorem drain_more (P : Stable α G) (d : Bytes) (hp : P.p d = .more) : drain P d = ([], .alive d) := by
  show drainF P (d.length + 1) d = _
  rw [drainF]; simp only [hp]

theorem drain_fatal (P : Stable α G) (d : Bytes) (e : α) (hp : P.p d = .fatal e) :
    drain P d = ([e], .dead) := by
  show drainF P (d.length + 1) d = _
  rw [drainF]; simp only [hp]

def resume (P : Stable α G) (c : Carry) (x : Bytes) : List α × Carry :=
  match c with
  | .dead => ([], .dead)
  | .alive r => drain P (r ++ x)

/-- Draining `d ++ x` is draining `d` and resuming on what it leaves over with `x`.  The induction is on the fuel, hence `drainF`
on the right; at `f = d.length + 1` it is `drain P d`. -/
theorem drainF_append (P : Stable α G) : ∀ (f : Nat) (d x : Bytes), d.length < f → G (d ++ x) →
    drain P (d ++ x) =
      ((drainF P f d).1 ++ (resume P (drainF P f d).2 x).1, (resume P (drainF P f d).2 x).2) := by
  intro f
  induction f with
  | zero => intro d x h; omega
  | succ f ih =>
    intro d x hf hg
    simp only [drainF]
    cases hp : P.p d with
    | more => simp [resume]
    | fatal e =>
      have := P.ext_fatal d e x hg hp
      simp [resume, drain_fatal P (d ++ x) e this]
    | frame a n =>
      have ⟨hn0, hnl⟩ := P.pos d a n hp
      have hext := P.ext_frame d a n x hg hp
      have hl : (d.drop n).length < f := by simp [List.length_drop]; omega
      have hdrop : (d ++ x).drop n = d.drop n ++ x := by
        rw [List.drop_append_of_le_length hnl]
      -- the frame found in `d` is the frame found in `d ++ x` (`hext`), and what `d ++ x` leaves behind it is good again
      have hg' : G (d.drop n ++ x) := by
        rw [← hdrop]; exact P.g_drop (d ++ x) a n hg hext
      rw [drain_frame P (d ++ x) a n hext, hdrop, ih (d.drop n) x hl hg']
      simp

def feed (P : Stable α G) : Carry → List Bytes → List α × Carry
  | c, [] => ([], c)
  | c, s :: ss =>
    let r := resume P c s
    let r' := feed P r.2 ss
    (r.1 ++ r'.1, r'.2)

theorem feed_dead (P : Stable α G) : ∀ ss : List Bytes, feed P .dead ss = ([], .dead) := by
  intro ss
  induction ss with
  | nil => rfl
  | cons s ss ih => simp [feed, resume, ih]

theorem resume_nil_of_drained (P : Stable α G) (f : Nat) (d : Bytes) (hf : d.length < f) :
    resume P (drainF P f d).2 [] = ([], (drainF P f d).2) := by
  induction f generalizing d with
  | zero => omega
  | succ f ih =>
    simp only [drainF]
    cases hp : P.p d with
    | more => simp [resume, drain_more P d hp]
    | fatal e => simp [resume]
    | frame a n =>
      have ⟨hn0, hnl⟩ := P.pos d a n hp
      simp only
      exact ih (d.drop n) (by simp [List.length_drop]; omega)

theorem drainF_carry_good (P : Stable α G) : ∀ (f : Nat) (d x : Bytes), d.length < f → G (d ++ x) →
    ∀ r, (drainF P f d).2 = .alive r → G (r ++ x) := by
  intro f
  induction f with
  | zero => intro d x h; omega
  | succ f ih =>
    intro d x hf hg r hr
    simp only [drainF] at hr
    cases hp : P.p d with
    | more => simp only [hp] at hr; cases hr; exact hg
    | fatal e => simp only [hp] at hr; cases hr
    | frame a n =>
      simp only [hp] at hr
      have ⟨hn0, hnl⟩ := P.pos d a n hp
      have hext := P.ext_frame d a n x hg hp
      have hdrop : (d ++ x).drop n = d.drop n ++ x := by
        rw [List.drop_append_of_le_length hnl]
      have hg' : G (d.drop n ++ x) := by
        rw [← hdrop]; exact P.g_drop (d ++ x) a n hg hext
      exact ih (d.drop n) x (by simp [List.length_drop]; omega) hg' r hr

/-- `rest` is a remainder the loop can be carrying, one in which the parser finds nothing yet: `feed` looks at it again only when
the next read arrives. -/
theorem feed_eq_drain (P : Stable α G) : ∀ (ss : List Bytes) (rest : Bytes),
    G (rest ++ ss.flatten) → (drain P rest = ([], .alive rest)) →
    feed P (.alive rest) ss = drain P (rest ++ ss.flatten) := by
  intro ss
  induction ss with
  | nil => intro rest _ h; simp [feed, h]
  | cons s ss ih =>
    intro rest hg h
    simp only [List.flatten_cons] at hg ⊢
    rw [← List.append_assoc] at hg ⊢
    -- Cut `rest ++ s ++ ss.flatten` behind the first read (`drainF_append`).  What `rest ++ s` leaves over is itself drained
    -- (`resume_nil_of_drained`) and good with the later reads behind it (`drainF_carry_good`), so `ih` applies to it.
    -- `drain P d` is `drainF P (d.length + 1) d`, which is how the three lemmas with fuel come to speak of `drain`.
    have hlt : (rest ++ s).length < (rest ++ s).length + 1 := Nat.lt_succ_self _
    have happ : drain P (rest ++ s ++ ss.flatten) = ((drain P (rest ++ s)).1 ++ (resume P (drain P (rest ++ s)).2 ss.flatten).1,
        (resume P (drain P (rest ++ s)).2 ss.flatten).2) := drainF_append P _ _ _ hlt hg
    have hres : resume P (drain P (rest ++ s)).2 [] = ([], (drain P (rest ++ s)).2) := resume_nil_of_drained P _ _ hlt
    have hgood : ∀ r, (drain P (rest ++ s)).2 = .alive r → G (r ++ ss.flatten) := drainF_carry_good P _ _ _ hlt hg
    rw [happ]
    -- the left side, `feed` unfolded on `s :: ss`:
    show ((drain P (rest ++ s)).1 ++ (feed P (drain P (rest ++ s)).2 ss).1, (feed P (drain P (rest ++ s)).2 ss).2) = _
    cases hc : (drain P (rest ++ s)).2 with
    | dead => simp [feed_dead, resume]
    | alive r =>
      rw [hc] at hres
      rw [ih r (hgood r hc) (by simpa [resume] using hres)]
      rfl

/-- `hnil`: by `pos` the parser finds no frame in the empty buffer; this says that it does not fail on it either. -/
theorem feed_eq_whole (P : Stable α G) (hnil : P.p [] = .more) (ss : List Bytes) (hg : G ss.flatten) :
    feed P (.alive []) ss = drain P ss.flatten := by
  have h0 : drain P [] = ([], .alive []) := drain_more P [] hnil
  simpa using feed_eq_drain P ss [] (by simpa using hg) h0

/-- Any two segmentations of one good stream yield the same frames
(including a terminal failure) and the same carried remainder. -/
theorem segmentation_independent (P : Stable α G) (hnil : P.p [] = .more) (ss ts : List Bytes)
    (h : ss.flatten = ts.flatten) (hg : G ss.flatten) :
    feed P (.alive []) ss = feed P (.alive []) ts := by
  rw [feed_eq_whole P hnil ss hg, feed_eq_whole P hnil ts (h ▸ hg), h]

/-- If the parser reads each encoding back whatever follows it, then draining the concatenation of the encodings hands out exactly
the messages and leaves nothing; by `feed_eq_whole` so does feeding it cut into reads in any way.  Goodness plays no part: of `P`
only `pos` is used. -/
theorem drain_encoded {β : Type} (P : Stable α G) (hnil : P.p [] = .more) (enc : β → Bytes) (out : β → α) :
    ∀ bs : List β, (∀ b ∈ bs, ∀ rest, P.p (enc b ++ rest) = .frame (out b) (enc b).length) →
      drain P (bs.map enc).flatten = (bs.map out, .alive [])
  | [], _ => drain_more P [] hnil
  | b :: bs, h => by
    rw [List.map_cons, List.flatten_cons, drain_frame P _ _ _ (h b List.mem_cons_self _), List.drop_left,
      drain_encoded P hnil enc out bs fun b' hb' => h b' (List.mem_cons_of_mem _ hb')]
    rfl

end Iora.Framing
