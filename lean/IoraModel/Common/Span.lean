import IoraModel.Common.Bytes
/-
The run of bytes with a property at the head of a buffer, and trimming.  Every "skip white space", "skip digits", "read the
hex digits" loop of the parsers computes `takeWhile p` / `dropWhile p`; what their exactness proofs need is that on `w ++ r`,
with all of `w` in the class and `r` not starting in it, the run is exactly `w`.  Trimming at both ends
(`find_first_not_of` / `find_last_not_of` + `substr`) is two such runs: `Http.trim`, `HttpRespond.trim` and `HttpRetry.trimOws`
are `trimBy` of their white-space test written out, and the lemmas of `trimBy` are passed for them as they are.
-/
namespace Iora

/-- `r` does not start with a byte of the class `p`.  `Json.Spec.NoSpaceHead` and `Xml.StartsNon p` are this body under the names of
their regions; a proof of either is passed for `HeadNot` as it is. -/
def HeadNot (p : UInt8 → Bool) (r : Bytes) : Prop := ∀ x r', r = x :: r' → p x = false

theorem HeadNot.nil {p : UInt8 → Bool} : HeadNot p [] := fun _ _ e => nomatch e

theorem HeadNot.cons {p : UInt8 → Bool} {x : UInt8} (r : Bytes) (h : p x = false) : HeadNot p (x :: r) := by
  intro y r' e; cases e; exact h

/-- `l ++ r` starts with the first byte of `l`, or of `r` when `l` is empty -/
theorem HeadNot.append {p : UInt8 → Bool} {l r : Bytes} (hl : HeadNot p l) (hr : l = [] → HeadNot p r) :
    HeadNot p (l ++ r) := by
  cases l with
  | nil => exact hr rfl
  | cons x l' => exact HeadNot.cons _ (hl x l' rfl)

theorem headNot_of_head? {p : UInt8 → Bool} {r : Bytes} (h : ∀ c, r.head? = some c → p c = false) : HeadNot p r :=
  fun x _ e => h x (e ▸ rfl)

theorem headNot_dropWhile (p : UInt8 → Bool) (l : Bytes) : HeadNot p (l.dropWhile p) := fun x r' e => by
  simpa [e] using List.head_dropWhile_not p (l := l) (by simp [e])

theorem dropWhile_of_headNot {p : UInt8 → Bool} {r : Bytes} (h : HeadNot p r) : r.dropWhile p = r := by
  cases r with
  | nil => rfl
  | cons x r' => rw [List.dropWhile_cons_of_neg (by simp [h x r' rfl])]

theorem takeWhile_of_headNot {p : UInt8 → Bool} {r : Bytes} (h : HeadNot p r) : r.takeWhile p = [] := by
  cases r with
  | nil => rfl
  | cons x r' => rw [List.takeWhile_cons_of_neg (by simp [h x r' rfl])]

theorem takeWhile_append_stop {p : UInt8 → Bool} {w r : Bytes} (hw : ∀ x ∈ w, p x = true) (hr : HeadNot p r) :
    (w ++ r).takeWhile p = w := by
  rw [List.takeWhile_append_of_pos hw, takeWhile_of_headNot hr, List.append_nil]

theorem dropWhile_append_stop {p : UInt8 → Bool} {w r : Bytes} (hw : ∀ x ∈ w, p x = true) (hr : HeadNot p r) :
    (w ++ r).dropWhile p = r := by
  rw [List.dropWhile_append_of_pos hw, dropWhile_of_headNot hr]

theorem length_takeWhile_add (p : UInt8 → Bool) (r : Bytes) : (r.takeWhile p).length + (r.dropWhile p).length = r.length := by
  rw [← List.length_append, List.takeWhile_append_dropWhile]

def trimBy (p : UInt8 → Bool) (l : Bytes) : Bytes := ((l.dropWhile p).reverse.dropWhile p).reverse

/-- With `trimBy_decomp` and `trimBy_ends`, which say that every string is such a padding of its core, this determines `trimBy`.
`h1`, `h2` have the shape of `Http.Spec.Trimmed`; `trimBy_ends` hands out the two bytes themselves. -/
theorem trimBy_padded {p : UInt8 → Bool} {a v b : Bytes} (ha : ∀ c ∈ a, p c = true) (hb : ∀ c ∈ b, p c = true)
    (h1 : ∀ c, v.head? = some c → p c = false) (h2 : ∀ c, v.getLast? = some c → p c = false) :
    trimBy p (a ++ v ++ b) = v := by
  unfold trimBy
  rw [List.append_assoc, List.dropWhile_append_of_pos ha]
  cases v with
  | nil => simp [show b.dropWhile p = [] by simpa using List.dropWhile_append_of_pos (l₂ := []) hb]
  | cons x xs =>
    rw [dropWhile_of_headNot (r := x :: xs ++ b) (.cons _ (h1 x rfl)), List.reverse_append,
      List.dropWhile_append_of_pos (by simpa using hb),
      dropWhile_of_headNot (headNot_of_head? (by rwa [List.head?_reverse])), List.reverse_reverse]

theorem trimBy_self {p : UInt8 → Bool} {v : Bytes} (h1 : ∀ c, v.head? = some c → p c = false)
    (h2 : ∀ c, v.getLast? = some c → p c = false) : trimBy p v = v := by
  simpa using trimBy_padded (p := p) (a := []) (b := []) (by simp) (by simp) h1 h2

theorem trimBy_of_none {p : UInt8 → Bool} {l : Bytes} (h : ∀ c ∈ l, p c = false) : trimBy p l = l :=
  trimBy_self (fun c hc => h c (List.mem_of_head? hc)) (fun c hc => h c (List.mem_of_getLast? hc))

theorem trimBy_decomp (p : UInt8 → Bool) (l : Bytes) :
    ∃ ws1 ws2 : Bytes, l = ws1 ++ trimBy p l ++ ws2 ∧ (∀ x ∈ ws1, p x = true) ∧ (∀ x ∈ ws2, p x = true) := by
  refine ⟨l.takeWhile p, ((l.dropWhile p).reverse.takeWhile p).reverse, ?_, List.all_eq_true.1 List.all_takeWhile,
    fun x hx => List.all_eq_true.1 List.all_takeWhile x (List.mem_reverse.1 hx)⟩
  unfold trimBy
  rw [List.append_assoc, ← List.reverse_append, List.takeWhile_append_dropWhile, List.reverse_reverse,
    List.takeWhile_append_dropWhile]

theorem trimBy_ends {p : UInt8 → Bool} {l : Bytes} (h : trimBy p l ≠ []) :
    (∃ c r, trimBy p l = c :: r ∧ p c = false) ∧ (∃ i c, trimBy p l = i ++ [c] ∧ p c = false) := by
  constructor
  · -- the head of the core is the head of `l.dropWhile p`
    have hd : l.dropWhile p = trimBy p l ++ ((l.dropWhile p).reverse.takeWhile p).reverse := by
      unfold trimBy
      rw [← List.reverse_append, List.takeWhile_append_dropWhile, List.reverse_reverse]
    obtain ⟨c, r, hc⟩ := List.exists_cons_of_ne_nil h
    rw [hc, List.cons_append] at hd
    exact ⟨c, r, hc, headNot_dropWhile p l c _ hd⟩
  · cases hr : (l.dropWhile p).reverse.dropWhile p with
    | nil => simp [trimBy, hr] at h
    | cons c r => exact ⟨r.reverse, c, by simp [trimBy, hr], headNot_dropWhile p _ c r hr⟩

end Iora
