import IoraModel.Common.Bytes
/-
First occurrence of a pattern in a byte string: what `std::string::find` and the hand-written search loops of the
HTTP framers, the WebSocket upgrade and the XML reader all compute.  Each model keeps its own loop (with a running
index, a start position, or a `startsWith` of its own); one equation ties it to `occ`, and everything else — where the
match lies, that it is the first, that more input behind it changes nothing — is proved here once.
-/
namespace Iora

/-- Offset of the first occurrence of `pat` that starts inside `s`.  The empty pattern is therefore not found at the end of `s`
(`occ [] [] = none`), where `std::string::find` finds it: a model that follows `find` there equals `occ` on `pat ≠ []` only
(`Ws.findFrom_eq_occ`). -/
def occ (pat : Bytes) : Bytes → Option Nat
  | [] => none
  | c :: cs => if pat.isPrefixOf (c :: cs) then some 0 else (occ pat cs).map (· + 1)

theorem occ_eq_some_iff {pat : Bytes} : ∀ {s : Bytes} {k : Nat},
    occ pat s = some k ↔
      k < s.length ∧ pat.isPrefixOf (s.drop k) = true ∧ ∀ j, j < k → pat.isPrefixOf (s.drop j) = false
  | [], k => by simp [occ]
  | c :: cs, k => by
    by_cases hpre : pat.isPrefixOf (c :: cs) = true
    · simp only [occ, hpre, ↓reduceIte, Option.some.injEq]
      constructor
      · rintro rfl; exact ⟨by simp, hpre, fun j hj => absurd hj (Nat.not_lt_zero j)⟩
      · rintro ⟨_, _, hall⟩
        cases k with
        | zero => rfl
        | succ k => have := hall 0 (Nat.succ_pos k); simp [hpre] at this
    · simp only [occ, hpre, Bool.false_eq_true, ↓reduceIte, Option.map_eq_some_iff]
      constructor
      · rintro ⟨m, hm, rfl⟩
        obtain ⟨h1, h2, h3⟩ := occ_eq_some_iff.mp hm
        refine ⟨by simpa using h1, by simpa using h2, fun j hj => ?_⟩
        cases j with
        | zero => exact Bool.eq_false_iff.mpr hpre
        | succ j => simpa using h3 j (by omega)
      · rintro ⟨h1, h2, h3⟩
        cases k with
        | zero => exact absurd h2 hpre
        | succ k =>
          exact ⟨k, occ_eq_some_iff.mpr ⟨by simpa using h1, by simpa using h2, fun j hj => by simpa using h3 (j + 1) (by omega)⟩, rfl⟩

theorem occ_eq_none_iff {pat : Bytes} : ∀ {s : Bytes},
    occ pat s = none ↔ ∀ j, j < s.length → pat.isPrefixOf (s.drop j) = false
  | [] => by simp [occ]
  | c :: cs => by
    by_cases hpre : pat.isPrefixOf (c :: cs) = true
    · simp only [occ, hpre, ↓reduceIte, reduceCtorEq, false_iff]
      intro h; have := h 0 (by simp); simp [hpre] at this
    · simp only [occ, hpre, Bool.false_eq_true, ↓reduceIte, Option.map_eq_none_iff, occ_eq_none_iff (s := cs)]
      constructor
      · intro h j hj
        cases j with
        | zero => exact Bool.eq_false_iff.mpr hpre
        | succ j => simpa using h j (by simpa using hj)
      · intro h j hj; simpa using h (j + 1) (by simpa using hj)

theorem occ_lt {pat s : Bytes} {k : Nat} (h : occ pat s = some k) : k < s.length :=
  (occ_eq_some_iff.mp h).1

theorem isPrefixOf_length {pat s : Bytes} (h : pat.isPrefixOf s = true) : pat.length ≤ s.length :=
  (List.isPrefixOf_iff_prefix.mp h).length_le

theorem occ_fits {pat s : Bytes} {k : Nat} (h : occ pat s = some k) : k + pat.length ≤ s.length := by
  have := isPrefixOf_length (occ_eq_some_iff.mp h).2.1
  have := occ_lt h
  simp only [List.length_drop] at *
  omega

theorem isPrefixOf_append_of_le {pat s : Bytes} (x : Bytes) (h : pat.length ≤ s.length) :
    pat.isPrefixOf (s ++ x) = pat.isPrefixOf s :=
  Bool.eq_iff_iff.mpr (by
    rw [List.isPrefixOf_iff_prefix, List.isPrefixOf_iff_prefix]
    exact ⟨fun hp => List.prefix_of_prefix_length_le hp (List.prefix_append s x) h, fun hp => hp.trans (List.prefix_append s x)⟩)

theorem isPrefixOf_drop_append {pat s : Bytes} (x : Bytes) {j : Nat} (h : j + pat.length ≤ s.length) :
    pat.isPrefixOf ((s ++ x).drop j) = pat.isPrefixOf (s.drop j) := by
  rw [List.drop_append_of_le_length (by omega), isPrefixOf_append_of_le x (by simp only [List.length_drop]; omega)]

theorem occ_append {pat s : Bytes} {k : Nat} (x : Bytes) (h : occ pat s = some k) : occ pat (s ++ x) = some k := by
  have hf := occ_fits h
  obtain ⟨h1, h2, h3⟩ := occ_eq_some_iff.mp h
  refine occ_eq_some_iff.mpr ⟨by simp only [List.length_append]; omega, ?_, fun j hj => ?_⟩
  · rw [isPrefixOf_drop_append x hf]; exact h2
  · rw [isPrefixOf_drop_append x (by omega)]; exact h3 j hj

theorem occ_prefix_none {pat b y : Bytes} {k : Nat} (h : occ pat (b ++ y) = some k) (hk : b.length < k + pat.length) :
    occ pat b = none := by
  cases hb : occ pat b with
  | none => rfl
  | some j =>
    have := occ_fits hb
    rw [occ_append y hb] at h
    cases h; omega

theorem occ_skip {pat s : Bytes} {n : Nat} (hn : n ≤ s.length) (hno : ∀ j, j < n → pat.isPrefixOf (s.drop j) = false) :
    occ pat s = (occ pat (s.drop n)).map (n + ·) := by
  cases h : occ pat (s.drop n) with
  | none =>
    rw [occ_eq_none_iff] at h
    refine occ_eq_none_iff.mpr fun j hj => ?_
    by_cases hjn : j < n
    · exact hno j hjn
    · have := h (j - n) (by simp only [List.length_drop]; omega)
      rwa [List.drop_drop, show n + (j - n) = j by omega] at this
  | some k =>
    obtain ⟨h1, h2, h3⟩ := occ_eq_some_iff.mp h
    simp only [List.length_drop, List.drop_drop] at h1 h2 h3
    show occ pat s = some (n + k)
    refine occ_eq_some_iff.mpr ⟨by omega, h2, fun j hj => ?_⟩
    by_cases hjn : j < n
    · exact hno j hjn
    · have := h3 (j - n) (by omega)
      rwa [show n + (j - n) = j by omega] at this

theorem occ_append_of_ne {p : UInt8} {ps l : Bytes} (r : Bytes) (h : ∀ c ∈ l, c ≠ p) :
    occ (p :: ps) (l ++ r) = (occ (p :: ps) r).map (l.length + ·) := by
  rw [occ_skip (n := l.length) (by simp), List.drop_left]
  intro j hj
  rw [List.drop_append_of_le_length (by omega), List.drop_eq_getElem_cons hj, List.cons_append, List.isPrefixOf_cons_cons]
  simp [(h l[j] (List.getElem_mem hj)).symm]

end Iora
