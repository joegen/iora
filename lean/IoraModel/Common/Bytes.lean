/-
Byte strings: fixed-width writers and the readers that undo them, `takeN`, decimal numerals, and the hex text of the driver's line
protocol (DESIGN §6.1, §6.7).  Core Lean only — no Mathlib — so that every model file links into the native driver.
-/
namespace Iora

abbrev Bytes := List UInt8

def b8 (n : Nat) : UInt8 := UInt8.ofNat n

@[simp] theorem b8_toNat (n : Nat) : (b8 n).toNat = n % 256 := by simp [b8]

theorem b8_of_toNat (x : UInt8) : b8 x.toNat = x := by
  simp [b8]

theorem b8_toNat_small {n : Nat} (h : n < 256) : (b8 n).toNat = n := by
  rw [b8_toNat]; omega

def be16 (n : Nat) : Bytes := [b8 (n / 256), b8 n]
def be32 (n : Nat) : Bytes := [b8 (n / 2^24), b8 (n / 2^16), b8 (n / 2^8), b8 n]
def be64 (n : Nat) : Bytes :=
  [b8 (n / 2^56), b8 (n / 2^48), b8 (n / 2^40), b8 (n / 2^32), b8 (n / 2^24), b8 (n / 2^16), b8 (n / 2^8), b8 n]

def le32 (n : Nat) : Bytes := [b8 n, b8 (n / 2^8), b8 (n / 2^16), b8 (n / 2^24)]
def le64 (n : Nat) : Bytes :=
  [b8 n, b8 (n / 2^8), b8 (n / 2^16), b8 (n / 2^24), b8 (n / 2^32), b8 (n / 2^40), b8 (n / 2^48), b8 (n / 2^56)]

def beNat : Bytes → Nat := fun bs => bs.foldl (fun acc x => acc * 256 + x.toNat) 0
def leNat : Bytes → Nat
  | [] => 0
  | x :: xs => x.toNat + 256 * leNat xs

@[simp] theorem be16_length (n : Nat) : (be16 n).length = 2 := rfl
@[simp] theorem be32_length (n : Nat) : (be32 n).length = 4 := rfl
@[simp] theorem be64_length (n : Nat) : (be64 n).length = 8 := rfl
@[simp] theorem le32_length (n : Nat) : (le32 n).length = 4 := rfl
@[simp] theorem le64_length (n : Nat) : (le64 n).length = 8 := rfl

theorem beNat_snoc (bs : Bytes) (x : UInt8) : beNat (bs ++ [x]) = beNat bs * 256 + x.toNat := by
  simp [beNat, List.foldl_append]

theorem beNat_reverse (bs : Bytes) : beNat bs.reverse = leNat bs := by
  induction bs with
  | nil => rfl
  | cons x xs ih => rw [List.reverse_cons, beNat_snoc, ih, leNat]; omega

/-- the `k` low base-256 digits of `n`, least significant first: every fixed-width writer above is this list or its reverse, and
the five round trips are `leNat_leDigits` read through that -/
def leDigits : Nat → Nat → Bytes
  | 0, _ => []
  | k + 1, n => b8 n :: leDigits k (n / 256)

theorem leNat_leDigits : ∀ k n, leNat (leDigits k n) = n % 256 ^ k
  | 0, n => by simp [leDigits, leNat, Nat.mod_one]
  | k + 1, n => by rw [leDigits, leNat, leNat_leDigits k, b8_toNat, Nat.pow_succ', Nat.mod_mul]

theorem leNat_leDigits_of_lt {k n : Nat} (h : n < 256 ^ k) : leNat (leDigits k n) = n := by
  rw [leNat_leDigits, Nat.mod_eq_of_lt h]

theorem be16_eq (n : Nat) : be16 n = (leDigits 2 n).reverse := by
  simp [be16, leDigits]
theorem be32_eq (n : Nat) : be32 n = (leDigits 4 n).reverse := by
  simp [be32, leDigits, Nat.div_div_eq_div_mul]
theorem be64_eq (n : Nat) : be64 n = (leDigits 8 n).reverse := by
  simp [be64, leDigits, Nat.div_div_eq_div_mul]
theorem le32_eq (n : Nat) : le32 n = leDigits 4 n := by
  simp [le32, leDigits, Nat.div_div_eq_div_mul]
theorem le64_eq (n : Nat) : le64 n = leDigits 8 n := by
  simp [le64, leDigits, Nat.div_div_eq_div_mul]

theorem beNat_be16 (n : Nat) (h : n < 2^16) : beNat (be16 n) = n := by
  rw [be16_eq, beNat_reverse, leNat_leDigits_of_lt h]
theorem beNat_be32 (n : Nat) (h : n < 2^32) : beNat (be32 n) = n := by
  rw [be32_eq, beNat_reverse, leNat_leDigits_of_lt h]
theorem beNat_be64 (n : Nat) (h : n < 2^64) : beNat (be64 n) = n := by
  rw [be64_eq, beNat_reverse, leNat_leDigits_of_lt h]
theorem leNat_le32 (n : Nat) (h : n < 2^32) : leNat (le32 n) = n := by
  rw [le32_eq, leNat_leDigits_of_lt h]
theorem leNat_le64 (n : Nat) (h : n < 2^64) : leNat (le64 n) = n := by
  rw [le64_eq, leNat_leDigits_of_lt h]

theorem leNat_lt : ∀ bs : Bytes, leNat bs < 256 ^ bs.length
  | [] => by simp [leNat]
  | x :: xs => by
    have := leNat_lt xs
    have := x.toNat_lt
    rw [leNat, List.length_cons, Nat.pow_succ]; omega

theorem beNat_lt (bs : Bytes) : beNat bs < 256 ^ bs.length := by
  have := leNat_lt bs.reverse
  rwa [← beNat_reverse, List.reverse_reverse, List.length_reverse] at this

def takeN (n : Nat) (d : Bytes) : Option (Bytes × Bytes) :=
  if d.length < n then none else some (d.take n, d.drop n)

theorem takeN_some {n : Nat} {d a r : Bytes} (h : takeN n d = some (a, r)) :
    a.length = n ∧ d = a ++ r := by
  unfold takeN at h
  split at h
  · cases h
  · cases h
    constructor
    · simp [List.length_take]; omega
    · simp

theorem takeN_append {n : Nat} {d a r : Bytes} (x : Bytes) (h : takeN n d = some (a, r)) :
    takeN n (d ++ x) = some (a, r ++ x) := by
  unfold takeN at *
  split at h
  · cases h
  · rename_i hl
    cases h
    have : ¬ (d ++ x).length < n := by simp; omega
    simp only [this, ↓reduceIte]
    have hl' : n ≤ d.length := by omega
    rw [List.take_append_of_le_length hl', List.drop_append_of_le_length hl']

theorem takeN_left {n : Nat} (a r : Bytes) (h : a.length = n) : takeN n (a ++ r) = some (a, r) := by
  unfold takeN
  have : ¬ (a ++ r).length < n := by simp; omega
  simp only [this, ↓reduceIte]
  rw [List.take_left' h, List.drop_left' h]

/-! ### decimal numerals: `std::to_string` on an unsigned number and the value of a digit string, once for the models that
render numbers (`Json.natToDec`, `HttpRespond.dec`: equal to `decDigits` by `natToDec_eq`, `dec_eq`) and read them back (`Json.decVal`
and the fold inside `HttpRespond.parseDec` are `decValue` written out, so `decDigits_spec` applies to them as it stands) -/

def decDigits (n : Nat) : Bytes :=
  if n < 10 then [b8 (48 + n)] else decDigits (n / 10) ++ [b8 (48 + n % 10)]
decreasing_by omega

def decValue (ds : Bytes) : Nat := ds.foldl (fun a d => a * 10 + (d.toNat - 48)) 0

theorem b8_digit {d : Nat} (h : d < 10) : (b8 (48 + d)).toNat = 48 + d := b8_toNat_small (by omega)

theorem decValue_snoc (xs : Bytes) (d : UInt8) : decValue (xs ++ [d]) = decValue xs * 10 + (d.toNat - 48) := by
  simp [decValue, List.foldl_append]

theorem decDigits_spec (n : Nat) :
    decDigits n ≠ [] ∧ (∀ d ∈ decDigits n, 48 ≤ d.toNat ∧ d.toNat ≤ 57) ∧ decValue (decDigits n) = n := by
  induction n using decDigits.induct with
  | case1 n h =>
    rw [decDigits, if_pos h]
    simp [decValue, b8_digit h]
    omega
  | case2 n h ih =>
    have hd : n % 10 < 10 := Nat.mod_lt _ (by omega)
    rw [decDigits, if_neg h, decValue_snoc, ih.2.2, b8_digit hd]
    refine ⟨by simp, ?_, by omega⟩
    intro d hm
    rcases List.mem_append.1 hm with hm | hm
    · exact ih.2.1 d hm
    · rw [List.mem_singleton.1 hm, b8_digit hd]; omega

/-! ### hex text of byte strings on the driver's line protocol (`Driver/*.lean`); no model and no theorem reads it -/

def hexDigit (n : Nat) : Char :=
  if n < 10 then Char.ofNat (48 + n) else Char.ofNat (87 + n)
/-- lower case, `-` for the empty string -/
def toHex (bs : Bytes) : String :=
  if bs.isEmpty then "-" else
  String.ofList (bs.flatMap fun x => [hexDigit (x.toNat / 16), hexDigit (x.toNat % 16)])
def hexVal (c : Char) : Option Nat :=
  if '0' ≤ c ∧ c ≤ '9' then some (c.toNat - '0'.toNat)
  else if 'a' ≤ c ∧ c ≤ 'f' then some (c.toNat - 'a'.toNat + 10)
  else none
def ofHexChars : List Char → Option Bytes
  | [] => some []
  | [_] => none
  | c1 :: c2 :: rest =>
    match hexVal c1, hexVal c2, ofHexChars rest with
    | some a, some b, some r => some (b8 (a * 16 + b) :: r)
    | _, _, _ => none
def ofHex (s : String) : Option Bytes :=
  if s = "-" then some [] else ofHexChars s.toList

end Iora
