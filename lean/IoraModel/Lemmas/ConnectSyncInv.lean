import IoraModel.Model.ConnectSync
/-! The invariant `Inv` of the C04 model (`Model/ConnectSync.lean`), what it says about one caller (`CallerOK`) and the lemmas
through which a step shows that preserved: the frame for the callers it does not move (`CallerOK.frame`) and the records a caller can
move to (`outside`, `repc`, `reparked`, `handed`). -/
namespace Iora.ConnectSync

/-- session id of the attempt a caller is in the middle of -/
def att : Pc → Option Nat
  | .connected s | .registered s | .parked s _ | .closing s | .relock s => some s
  | _ => none

/-- the caller holds `syncMutex` -/
def holds : Pc → Bool
  | .haveLock | .connected _ | .registered _ => true
  | _ => false

/-- the caller's pending record is live (registered, not yet abandoned or completed-and-returned) -/
def waiting : Pc → Option Nat
  | .registered s | .parked s _ => some s
  | _ => none

def leaving : Pc → Option Nat
  | .closing s | .relock s => some s
  | _ => none

def evSid : Ev → Option Nat
  | .created _ s | .registered _ s | .engineClose _ s | .hConnect s | .hClose s | .delivered s _ | .reaped s
  | .globalConnect s | .globalClose s => some s
  | .attemptRet _ s _ => s
  | _ => none

def cmdSid : Cmd → Nat
  | .connect s | .close s => s

def ioSid : IoPc → Option Nat
  | .connCS s | .connNotify _ s | .connGlobal s | .closeCS s | .closeNotify _ s | .closeGlobal s => some s
  | .idle => none

@[simp] theorem setC_same (f : Nat → Caller) (c : Nat) (x : Caller) : setC f c x c = x := by simp [setC]
theorem setC_other (f : Nat → Caller) {c j : Nat} (x : Caller) (h : j ≠ c) : setC f c x j = f j := by simp [setC, h]
@[simp] theorem setP_same (f : Nat → Option Pend) (c : Nat) (x : Option Pend) : setP f c x c = x := by simp [setP]
theorem setP_other (f : Nat → Option Pend) {c j : Nat} (x : Option Pend) (h : j ≠ c) : setP f c x j = f j := by simp [setP, h]
@[simp] theorem setE_same (f : Nat → ES) (c : Nat) (x : ES) : setE f c x c = x := by simp [setE]
theorem setE_other (f : Nat → ES) {c j : Nat} (x : ES) (h : j ≠ c) : setE f c x j = f j := by simp [setE, h]

theorem setP_sub {f : Nat → Option Pend} {sid sid' : Nat} {q : Option Pend} {p : Pend} (h : setP f sid q sid' = some p) :
    f sid' = some p ∨ (sid' = sid ∧ q = some p) := by
  by_cases hs : sid' = sid
  · subst hs; rw [setP_same] at h; exact .inr ⟨rfl, h⟩
  · rw [setP_other _ _ hs] at h; exact .inl h

theorem setP_none_sub {f : Nat → Option Pend} {sid : Nat} : ∀ sid' p, setP f sid none sid' = some p → f sid' = some p :=
  fun _ _ h => (setP_sub h).resolve_right fun ⟨_, e⟩ => nomatch e

theorem setP_some_ne {f : Nat → Option Pend} {sid : Nat} {p : Pend} : ∀ sid', f sid' ≠ none → setP f sid (some p) sid' ≠ none := by
  intro sid' h
  by_cases hs : sid' = sid
  · subst hs; rw [setP_same]; exact nofun
  · rwa [setP_other _ _ hs]

/-- The invariant of the control model (`Inv_init`, `step_inv`).  The theorems of `Props/C04.lean` read its fields `T1`, `FIX`, `T3a`,
`T4`, `T6a`, `T6b`, `G1`, `G2`, `Q1`, `W`, `K` at a reachable state (with `R1`, `D1`, `E3` beside them); the other fields carry these
through a step. -/
structure Inv (s : State) : Prop where
  -- freshness of session ids
  F_log : ∀ e ∈ s.log, ∀ sid, evSid e = some sid → sid < s.nextSid
  F_att : ∀ c sid, att (s.callers c).pc = some sid → sid < s.nextSid
  F_pend : ∀ sid p, s.pend sid = some p → sid < s.nextSid
  F_fifo : ∀ cmd ∈ s.fifo, cmdSid cmd < s.nextSid
  F_eng : ∀ sid, s.eng sid ≠ .none → sid < s.nextSid
  F_io : ∀ sid, ioSid s.io = some sid → sid < s.nextSid
  -- ownership of attempts
  U_att : ∀ c c' sid, att (s.callers c).pc = some sid → att (s.callers c').pc = some sid → c = c'
  A_cr : ∀ c sid, att (s.callers c).pc = some sid → Ev.created c sid ∈ s.log
  U_cr : ∀ c c' sid, Ev.created c sid ∈ s.log → Ev.created c' sid ∈ s.log → c = c'
  RC : ∀ c sid, Ev.registered c sid ∈ s.log → Ev.created c sid ∈ s.log
  E2 : ∀ c sid, Ev.engineClose c sid ∈ s.log → Ev.created c sid ∈ s.log
  -- the lock
  K : ∀ c, holds (s.callers c).pc = true ↔ s.lock = some c
  -- the fence is raised with the mutex free (`doFence`): whoever holds the mutex passed the entry check before it
  S1 : s.lock.isSome = true → s.shuttingDown = false
  -- pending records (`ACC`: a record that is gone was delivered or reaped; `P8`: a delivered `ok` stays with the caller while it
  -- is in the attempt, so that attempt can only return `ok`, which is `FIX`)
  REG : ∀ c sid, Ev.created c sid ∈ s.log → Ev.registered c sid ∈ s.log ∨ (s.callers c).pc = .connected sid
  ACC : ∀ c sid, Ev.registered c sid ∈ s.log →
    s.pend sid ≠ none ∨ Ev.delivered sid true ∈ s.log ∨ Ev.delivered sid false ∈ s.log ∨ Ev.reaped sid ∈ s.log
  P1 : ∀ sid p, s.pend sid = some p → Ev.registered p.owner sid ∈ s.log
  P2 : ∀ sid p, s.pend sid = some p → p.abandoned = false →
    waiting (s.callers p.owner).pc = some sid ∧ (s.callers p.owner).done = none
  P3 : ∀ c sid, waiting (s.callers c).pc = some sid → (s.callers c).done = none →
    s.pend sid = some { owner := c, abandoned := false }
  P4 : ∀ c r, (s.callers c).done = some r → ∃ sid a, (s.callers c).pc = .parked sid a ∧ s.pend sid = none ∧
    ((r = .ok sid ∧ Ev.delivered sid true ∈ s.log) ∨ (r = .err .closed ∧ Ev.delivered sid false ∈ s.log))
  P5 : ∀ c sid, leaving (s.callers c).pc = some sid →
    s.pend sid = some { owner := c, abandoned := true } ∨ (s.pend sid = none ∧ Ev.reaped sid ∈ s.log)
  P8 : ∀ c sid, att (s.callers c).pc = some sid → Ev.delivered sid true ∈ s.log → (s.callers c).done = some (.ok sid)
  -- handlers and the engine
  D1 : ∀ sid, (Ev.delivered sid true ∈ s.log → Ev.hConnect sid ∈ s.log) ∧
    (Ev.delivered sid false ∈ s.log → Ev.hClose sid ∈ s.log) ∧ (Ev.reaped sid ∈ s.log → Ev.hClose sid ∈ s.log)
  E3 : ∀ sid, Ev.hClose sid ∈ s.log → s.eng sid = .closed
  E5 : ∀ sid, Ev.hConnect sid ∈ s.log → s.eng sid = .established ∨ s.eng sid = .closed
  H1 : ∀ sid, s.io = .connCS sid → s.eng sid = .established ∧ Ev.hConnect sid ∉ s.log
  H2 : ∀ sid, s.io = .closeCS sid → s.eng sid = .closed ∧ Ev.hClose sid ∉ s.log
  -- results
  E1 : ∀ c sid, att (s.callers c).pc = some sid → (s.callers c).pc ≠ .relock sid → Ev.engineClose c sid ∉ s.log
  E6 : ∀ c sid, (s.callers c).pc = .relock sid → Ev.engineClose c sid ∈ s.log
  R1 : ∀ c sid r, Ev.attemptRet c (some sid) r ∈ s.log → Ev.created c sid ∈ s.log ∧ att (s.callers c).pc ≠ some sid
  T1 : ∀ c sid' sid, Ev.attemptRet c (some sid') (.ok sid) ∈ s.log →
    sid' = sid ∧ Ev.delivered sid true ∈ s.log ∧ ∀ c', Ev.engineClose c' sid ∉ s.log
  FIX : ∀ c sid r, Ev.attemptRet c (some sid) r ∈ s.log → Ev.delivered sid true ∈ s.log → r = .ok sid
  T3a : ∀ c sid, Ev.attemptRet c (some sid) (.err .timeout) ∈ s.log → Ev.engineClose c sid ∈ s.log
  T6a : ∀ c sid, Ev.wrapRet c (.ok sid) ∈ s.log → Ev.attemptRet c (some sid) (.ok sid) ∈ s.log
  T6b : ∀ c, Ev.wrapRet c (.err .cancelled) ∈ s.log → (s.callers c).cancelled = true
  -- global callbacks (`G2`: `onClose` finds no record of a connectSync-created session only after `onConnect` delivered it and
  -- erased the record; an abandoned record is kept until `onClose` reaps it)
  G1 : ∀ sid, (s.io = .connGlobal sid ∨ Ev.globalConnect sid ∈ s.log) → ∀ c, Ev.created c sid ∉ s.log
  G2 : ∀ sid, (s.io = .closeGlobal sid ∨ Ev.globalClose sid ∈ s.log) → ∀ c, Ev.created c sid ∈ s.log →
    Ev.delivered sid true ∈ s.log
  T4 : ∀ c sid, Ev.hConnect sid ∈ s.log → Ev.created c sid ∈ s.log → Ev.registered c sid ∈ s.log
  -- the engine FIFO (`ORD`: the Close of a session is queued after its Connect, `connectSync` calls `engine->close` with the id
  -- `engine->connect` returned)
  Q1 : ∀ c sid, Ev.engineClose c sid ∈ s.log → Cmd.close sid ∈ s.fifo ∨ s.eng sid = .closed
  Q3 : ∀ c sid, Ev.created c sid ∈ s.log → Cmd.connect sid ∈ s.fifo ∨ s.eng sid ≠ .none
  ORD : ∀ pre post sid, s.fifo = pre ++ Cmd.close sid :: post → Cmd.connect sid ∉ post
  -- no lost wake-up: a caller asleep in `wait_for` whose predicate (`done || shuttingDown`) holds has its `notify_one` on its way
  W : ∀ c sid, (s.callers c).pc = .parked sid false → ((s.callers c).done ≠ none ∨ s.shuttingDown = true) →
    s.io = .connNotify c sid ∨ s.io = .closeNotify c sid

theorem Inv_init : Inv init := by
  constructor <;> simp [init, att, holds, waiting, leaving, ioSid]

theorem retPc_cases (w : Bool) (r : Res) : retPc w r = .finished ∨ retPc w r = .wloop := by
  unfold retPc; split <;> simp

@[simp] theorem att_retPc (w : Bool) (r : Res) : att (retPc w r) = none := by
  rcases retPc_cases w r with h | h <;> simp [h, att]
@[simp] theorem holds_retPc (w : Bool) (r : Res) : holds (retPc w r) = false := by
  rcases retPc_cases w r with h | h <;> simp [h, holds]
@[simp] theorem waiting_retPc (w : Bool) (r : Res) : waiting (retPc w r) = none := by
  rcases retPc_cases w r with h | h <;> simp [h, waiting]
@[simp] theorem leaving_retPc (w : Bool) (r : Res) : leaving (retPc w r) = none := by
  rcases retPc_cases w r with h | h <;> simp [h, leaving]

theorem ret_att (s : State) (c : Nat) (o : Option Nat) (r : Res) (j sid : Nat)
    (h : att ((ret s c o r).callers j).pc = some sid) : att (s.callers j).pc = some sid ∧ j ≠ c := by
  unfold ret at h
  by_cases hj : j = c
  · subst hj; simp at h
  · simp [setC_other _ _ hj] at h; exact ⟨h, hj⟩

theorem mem_retEvs (c : Nat) (sid : Option Nat) (w : Bool) (r : Res) (e : Ev) :
    e ∈ retEvs c sid w r ↔ e = .attemptRet c sid r ∨ (e = .wrapRet c r ∧ w = true ∧ r ≠ .err .timeout) := by
  unfold retEvs
  split
  · rename_i h; simp at h; simp [h]
  · rename_i h; simp at h
    simp only [List.mem_singleton]
    constructor
    · intro h'; exact Or.inl h'
    · rintro (h' | ⟨_, hw, hr⟩)
      · exact h'
      · exact absurd (h hw) hr

@[simp] theorem step_call (s : State) (c : Nat) (w : Bool) : step s (.call c w) = doCall s c w := rfl
@[simp] theorem step_cancel (s : State) (c : Nat) : step s (.cancel c) = doCancel s c := rfl
@[simp] theorem step_cEnter (s : State) (c : Nat) : step s (.cEnter c) = doEnter s c := rfl
@[simp] theorem step_cConnect (s : State) (c : Nat) : step s (.cConnect c) = doConnect s c := rfl
@[simp] theorem step_cRefuse (s : State) (c : Nat) : step s (.cRefuse c) = doRefuse s c := rfl
@[simp] theorem step_cRegister (s : State) (c : Nat) : step s (.cRegister c) = doRegister s c := rfl
@[simp] theorem step_cPark (s : State) (c : Nat) : step s (.cPark c) = doPark s c := rfl
@[simp] theorem step_cWake (s : State) (c : Nat) (t : Bool) : step s (.cWake c t) = doWake s c t := rfl
@[simp] theorem step_cClose (s : State) (c : Nat) : step s (.cClose c) = doClose s c := rfl
@[simp] theorem step_cRelock (s : State) (c : Nat) : step s (.cRelock c) = doRelock s c := rfl
@[simp] theorem step_wLoop (s : State) (c : Nat) (d : Bool) : step s (.wLoop c d) = doWLoop s c d := rfl
@[simp] theorem step_ioPop (s : State) (b : Bool) : step s (.ioPop b) = doPop s b := rfl
@[simp] theorem step_ioComplete (s : State) (sid : Nat) : step s (.ioComplete sid) = doComplete s sid := rfl
@[simp] theorem step_ioFail (s : State) (sid : Nat) : step s (.ioFail sid) = doFail s sid := rfl
@[simp] theorem step_timerClose (s : State) (sid : Nat) : step s (.timerClose sid) = doFail s sid := rfl
@[simp] theorem step_ioPeerClose (s : State) (sid : Nat) : step s (.ioPeerClose sid) = doPeerClose s sid := rfl
@[simp] theorem step_ioStep (s : State) : step s .ioStep = doIoStep s := rfl
@[simp] theorem step_fence (s : State) : step s .fence = doFence s := rfl

open Lean in
/-- `pick h [X, Y]` : `have X := h.X; have Y := h.Y; clear h` -/
macro "pick " h:ident "[" xs:ident,* "]" : tactic => do
  let hs ← xs.getElems.mapM fun (x : Ident) => do
    let proj := mkIdent (h.getId ++ x.getId)
    `(tactic| have $x:ident := $proj)
  `(tactic| ($[$hs]*; clear $h))

theorem att_of_waiting {p : Pc} {sid : Nat} (h : waiting p = some sid) : att p = some sid := by
  cases p <;> simp_all [waiting, att]
theorem att_of_leaving {p : Pc} {sid : Nat} (h : leaving p = some sid) : att p = some sid := by
  cases p <;> simp_all [leaving, att]

namespace Inv
variable {s : State}
theorem F_created (h : Inv s) : ∀ c sid, Ev.created c sid ∈ s.log → sid < s.nextSid := fun _ sid hm => h.F_log _ hm sid rfl
theorem F_registered (h : Inv s) : ∀ c sid, Ev.registered c sid ∈ s.log → sid < s.nextSid := fun _ sid hm => h.F_log _ hm sid rfl
theorem F_engineClose (h : Inv s) : ∀ c sid, Ev.engineClose c sid ∈ s.log → sid < s.nextSid := fun _ sid hm => h.F_log _ hm sid rfl
theorem F_hConnect (h : Inv s) : ∀ sid, Ev.hConnect sid ∈ s.log → sid < s.nextSid := fun sid hm => h.F_log _ hm sid rfl
theorem F_hClose (h : Inv s) : ∀ sid, Ev.hClose sid ∈ s.log → sid < s.nextSid := fun sid hm => h.F_log _ hm sid rfl
theorem F_delivered (h : Inv s) : ∀ sid b, Ev.delivered sid b ∈ s.log → sid < s.nextSid := fun sid _ hm => h.F_log _ hm sid rfl
theorem F_reaped (h : Inv s) : ∀ sid, Ev.reaped sid ∈ s.log → sid < s.nextSid := fun sid hm => h.F_log _ hm sid rfl
theorem F_gConnect (h : Inv s) : ∀ sid, Ev.globalConnect sid ∈ s.log → sid < s.nextSid := fun sid hm => h.F_log _ hm sid rfl
theorem F_gClose (h : Inv s) : ∀ sid, Ev.globalClose sid ∈ s.log → sid < s.nextSid := fun sid hm => h.F_log _ hm sid rfl
theorem F_aret (h : Inv s) : ∀ c sid r, Ev.attemptRet c (some sid) r ∈ s.log → sid < s.nextSid :=
  fun _ sid _ hm => h.F_log _ hm sid rfl
theorem F_connCS (h : Inv s) : ∀ sid, s.io = .connCS sid → sid < s.nextSid := fun sid hm => h.F_io sid (by rw [hm]; rfl)
theorem F_connNotify (h : Inv s) : ∀ c sid, s.io = .connNotify c sid → sid < s.nextSid := fun _ sid hm => h.F_io sid (by rw [hm]; rfl)
theorem F_connGlobal (h : Inv s) : ∀ sid, s.io = .connGlobal sid → sid < s.nextSid := fun sid hm => h.F_io sid (by rw [hm]; rfl)
theorem F_closeCS (h : Inv s) : ∀ sid, s.io = .closeCS sid → sid < s.nextSid := fun sid hm => h.F_io sid (by rw [hm]; rfl)
theorem F_closeNotify (h : Inv s) : ∀ c sid, s.io = .closeNotify c sid → sid < s.nextSid := fun _ sid hm => h.F_io sid (by rw [hm]; rfl)
theorem F_closeGlobal (h : Inv s) : ∀ sid, s.io = .closeGlobal sid → sid < s.nextSid := fun sid hm => h.F_io sid (by rw [hm]; rfl)
theorem F_fconn (h : Inv s) : ∀ sid, Cmd.connect sid ∈ s.fifo → sid < s.nextSid := fun _ hm => h.F_fifo _ hm
theorem F_fclose (h : Inv s) : ∀ sid, Cmd.close sid ∈ s.fifo → sid < s.nextSid := fun _ hm => h.F_fifo _ hm

theorem done_none (h : Inv s) {c : Nat} (hp : ∀ sid a, (s.callers c).pc ≠ .parked sid a) : (s.callers c).done = none := by
  refine Option.eq_none_iff_forall_ne_some.2 fun r hd => ?_
  obtain ⟨sid, a, h1, _⟩ := h.P4 c r hd
  exact hp sid a h1
theorem done_att (h : Inv s) {c sid : Nat} {r : Res} (ha : att (s.callers c).pc = some sid)
    (hd : (s.callers c).done = some r) : (∃ a, (s.callers c).pc = .parked sid a) ∧
      ((r = .ok sid ∧ Ev.delivered sid true ∈ s.log) ∨ (r = .err .closed ∧ Ev.delivered sid false ∈ s.log)) := by
  obtain ⟨sid', a, hp, _, hr⟩ := h.P4 c r hd
  rw [hp] at ha; cases ha; exact ⟨⟨a, hp⟩, hr⟩
theorem not_holds_of_free (h : Inv s) (hl : s.lock = none) (c : Nat) : holds (s.callers c).pc = false :=
  eq_false_of_ne_true fun hh => nomatch hl.symm.trans ((h.K c).1 hh)
theorem free_not_haveLock (h : Inv s) (hl : s.lock = none) : ∀ c, (s.callers c).pc ≠ .haveLock := by
  intro c hp; have := h.not_holds_of_free hl c; simp [hp, holds] at this
theorem free_not_connected (h : Inv s) (hl : s.lock = none) : ∀ c sid, (s.callers c).pc ≠ .connected sid := by
  intro c sid hp; have := h.not_holds_of_free hl c; simp [hp, holds] at this
theorem free_not_registered (h : Inv s) (hl : s.lock = none) : ∀ c sid, (s.callers c).pc ≠ .registered sid := by
  intro c sid hp; have := h.not_holds_of_free hl c; simp [hp, holds] at this
theorem free_waiting_parked (h : Inv s) (hl : s.lock = none) {c sid : Nat} (hw : waiting (s.callers c).pc = some sid) :
    ∃ a, (s.callers c).pc = .parked sid a := by
  have := h.free_not_registered hl c
  cases hp : (s.callers c).pc <;> simp_all [waiting]
theorem outside_of_idle (h : Inv s) {c : Nat} (hpc : (s.callers c).pc = .idle ∨ (s.callers c).pc = .finished) :
    att (s.callers c).pc = none ∧ holds (s.callers c).pc = false ∧ (s.callers c).done = none := by
  refine ⟨?_, ?_, h.done_none ?_⟩ <;> rcases hpc with hp | hp <;> simp [hp, att, holds]
end Inv

/-- `Inv.ORD` of a state whose FIFO is `l` -/
def OrdP (l : List Cmd) : Prop := ∀ pre post sid, l = pre ++ Cmd.close sid :: post → Cmd.connect sid ∉ post

theorem OrdP_tail {x : Cmd} {l : List Cmd} (h : OrdP (x :: l)) : OrdP l := by
  intro pre post sid heq
  exact h (x :: pre) post sid (by simp [heq])

theorem OrdP_snoc {x : Cmd} {l : List Cmd} (h : OrdP l) (hx : ∀ sid, x = Cmd.connect sid → Cmd.close sid ∉ l) :
    OrdP (l ++ [x]) := by
  intro pre post sid heq
  rcases List.eq_nil_or_concat post with hp | ⟨post', y, hp⟩
  · subst hp; simp
  · subst hp
    have heq' : l ++ [x] = (pre ++ Cmd.close sid :: post') ++ [y] := by simp [heq]
    obtain ⟨h1, h2⟩ := List.append_inj' heq' rfl
    simp at h2
    subst h2
    intro hm
    simp at hm
    rcases hm with hm | hm
    · exact h pre post' sid h1 hm
    · exact hx sid hm.symm (by simp [h1])

/-- What `Inv` says about ONE caller `c` whose record is `x`, beyond the order of its own program: the fields of `Inv` that read
`s.callers` and have no event for their hypothesis, under the names they have there (`Inv.caller`).  A step that replaces the record
of one caller proves `CallerOK` for the new record; for every other caller it survives by `CallerOK.frame`. -/
structure CallerOK (s : State) (c : Nat) (x : Caller) : Prop where
  K : holds x.pc = true ↔ s.lock = some c
  P2 : ∀ sid p, s.pend sid = some p → p.owner = c → p.abandoned = false → waiting x.pc = some sid ∧ x.done = none
  P3 : ∀ sid, waiting x.pc = some sid → x.done = none → s.pend sid = some { owner := c, abandoned := false }
  P4 : ∀ r, x.done = some r → ∃ sid a, x.pc = .parked sid a ∧ s.pend sid = none ∧
    ((r = .ok sid ∧ Ev.delivered sid true ∈ s.log) ∨ (r = .err .closed ∧ Ev.delivered sid false ∈ s.log))
  P5 : ∀ sid, leaving x.pc = some sid →
    s.pend sid = some { owner := c, abandoned := true } ∨ (s.pend sid = none ∧ Ev.reaped sid ∈ s.log)
  W : ∀ sid, x.pc = .parked sid false → (x.done ≠ none ∨ s.shuttingDown = true) →
    s.io = .connNotify c sid ∨ s.io = .closeNotify c sid

theorem Inv.caller {s : State} (h : Inv s) (c : Nat) : CallerOK s c (s.callers c) :=
  ⟨h.K c, fun sid p hp ho => ho ▸ h.P2 sid p hp, h.P3 c, h.P4 c, h.P5 c, h.W c⟩

/-- **The frame.**  What the invariant says about a caller whose record `x` a step does not touch survives the step if the log grows
(`hlog`), the mutex moves only where `j` is not concerned (`hlock`), no fence is raised (`hsd`), the notify the I/O thread owes `j` is kept
(`hio`), and of the pending records (`hpend`) the one of `j`'s attempt and those `j` owns are left alone, except that a record `j` is not
waiting on may be erased, as reaped if it is the one `j` left behind.  Each hypothesis defaults to "not at all": with all five defaults
`frame` carries `CallerOK` over to any state that differs from `s` in `callers`, `fifo`, `eng`, `nextSid`, or by events appended to the log. -/
theorem CallerOK.frame {s s' : State} {j : Nat} {x : Caller} (h : CallerOK s j x)
    (hlog : ∀ e ∈ s.log, e ∈ s'.log := by first | exact fun _ => id | exact fun _ => List.mem_append_left _)
    (hlock : s'.lock = some j ↔ s.lock = some j := by exact Iff.rfl)
    (hsd : s'.shuttingDown = true → s.shuttingDown = true := by exact id)
    (hio : s'.io = s.io ∨ ∀ sid, s.io ≠ .connNotify j sid ∧ s.io ≠ .closeNotify j sid := by exact .inl rfl)
    (hpend : ∀ sid, s'.pend sid = s.pend sid ∨ (att x.pc ≠ some sid ∧ ∀ p, s'.pend sid = some p → p.owner ≠ j) ∨
      (s'.pend sid = none ∧ waiting x.pc ≠ some sid ∧ (leaving x.pc = some sid → Ev.reaped sid ∈ s'.log)) := by
      exact fun _ => .inl rfl) :
    CallerOK s' j x := by
  obtain ⟨K, P2, P3, P4, P5, W⟩ := h
  constructor
  case K => rw [hlock]; exact K
  case P2 =>
    intro sid p hp ho ha
    rcases hpend sid with e | ⟨_, hne⟩ | ⟨e, _⟩
    · exact P2 sid p (e ▸ hp) ho ha
    · exact absurd ho (hne p hp)
    · exact nomatch e.symm.trans hp
  case P3 =>
    intro sid hw hd
    rcases hpend sid with e | ⟨hne, _⟩ | ⟨_, hne, _⟩
    · rw [e]; exact P3 sid hw hd
    · exact absurd (att_of_waiting hw) hne
    · exact absurd hw hne
  case P4 =>
    intro r hr
    obtain ⟨sid, a, hp, hn', hl⟩ := P4 r hr
    refine ⟨sid, a, hp, ?_, hl.imp (And.imp_right (hlog _)) (And.imp_right (hlog _))⟩
    rcases hpend sid with e | ⟨hne, _⟩ | ⟨e, _⟩
    · rw [e]; exact hn'
    · rw [hp] at hne; exact absurd rfl hne
    · exact e
  case P5 =>
    intro sid hl
    rcases hpend sid with e | ⟨hne, _⟩ | ⟨e, _, hr⟩
    · rw [e]; exact (P5 sid hl).imp id (And.imp_right (hlog _))
    · exact absurd (att_of_leaving hl) hne
    · exact .inr ⟨e, hr hl⟩
  case W =>
    intro sid hp hpred
    have w := W sid hp (hpred.imp id hsd)
    rcases hio with e | n
    · rwa [e]
    · exact w.elim (absurd · (n sid).1) (absurd · (n sid).2)

theorem CallerOK.setC {s' : State} {f : Nat → Caller} {c : Nat} {x : Caller} (hc : CallerOK s' c x)
    (ho : ∀ j, j ≠ c → CallerOK s' j (f j)) : ∀ j, CallerOK s' j (setC f c x j) := by
  intro j
  by_cases hj : j = c
  · subst hj; rw [setC_same]; exact hc
  · rw [setC_other _ _ hj]; exact ho j hj

theorem outside_of_att {p : Pc} (h : att p = none) : waiting p = none ∧ leaving p = none := by
  cases p <;> simp_all [att, waiting, leaving]

/-- A record outside an attempt (the caller has returned, or has not called `engine->connect` yet) is in order in any state in which it
agrees with the mutex and `c` leaves no live pending record behind. -/
theorem CallerOK.outside {s' : State} {c : Nat} {x' : Caller} (hx' : att x'.pc = none ∧ x'.done = none)
    (hK : holds x'.pc = true ↔ s'.lock = some c) (hp : ∀ sid p, s'.pend sid = some p → p.owner = c → p.abandoned = true) :
    CallerOK s' c x' := by
  obtain ⟨hatt, hd⟩ := hx'
  obtain ⟨hw, hl⟩ := outside_of_att hatt
  constructor
  case K => exact hK
  case P2 => intro sid p h1 h2 h3; rw [hp sid p h1 h2] at h3; cases h3
  case P3 => intro sid h; rw [hw] at h; cases h
  case P4 => intro r h; rw [hd] at h; cases h
  case P5 => intro sid h; rw [hl] at h; cases h
  case W => intro sid h; rw [h] at hatt; cases hatt

theorem CallerOK.no_live_pend {s : State} {c : Nat} {x : Caller} (h : CallerOK s c x) (hw : waiting x.pc = none) :
    ∀ sid p, s.pend sid = some p → p.owner = c → p.abandoned = true :=
  fun sid p hp ho => eq_true_of_ne_false fun hab => nomatch hw.symm.trans (h.P2 sid p hp ho hab).1

theorem CallerOK.move_outside {s s' : State} {c : Nat} {x x' : Caller} (h : CallerOK s c x) (hx : att x.pc = none)
    (hx' : att x'.pc = none ∧ x'.done = none) (hh : holds x'.pc = holds x.pc) (hlock : s'.lock = s.lock := by rfl)
    (hpend : s'.pend = s.pend := by rfl) : CallerOK s' c x' :=
  .outside hx' (by rw [hh, hlock]; exact h.K) (hpend ▸ h.no_live_pend (outside_of_att hx).1)

/-- of the program counter of a caller that is not parked the invariant reads only whether it holds the mutex, waits or is leaving -/
theorem CallerOK.repc {s : State} {c : Nat} {x : Caller} {p : Pc} (h : CallerOK s c x)
    (hv : holds p = holds x.pc ∧ waiting p = waiting x.pc ∧ leaving p = leaving x.pc) (hp : ∀ sid a, p ≠ .parked sid a)
    (hx : ∀ sid a, x.pc ≠ .parked sid a) : CallerOK s c { x with pc := p } := by
  obtain ⟨K, P2, P3, P4, P5, W⟩ := h
  constructor
  case K => rw [hv.1]; exact K
  case P2 => rw [hv.2.1]; exact P2
  case P3 => rw [hv.2.1]; exact P3
  case P4 => intro r hr; obtain ⟨sid, a, e, -⟩ := P4 r hr; exact absurd e (hx sid a)
  case P5 => rw [hv.2.2]; exact P5
  case W => exact fun sid e => absurd e (hp sid false)

/-- the `awake` flag of a parked caller may be set, and may be cleared while the caller has nothing to wake up for: nothing else the
invariant says about the caller reads it -/
theorem CallerOK.reparked {s : State} {c sid : Nat} {x : Caller} {a a' : Bool} (h : CallerOK s c x) (hpc : x.pc = .parked sid a)
    (hW : a' = false → x.done = none ∧ s.shuttingDown = false) : CallerOK s c { x with pc := .parked sid a' } := by
  obtain ⟨K, P2, P3, P4, P5, W⟩ := h
  rw [hpc] at K P2 P3 P4 P5
  refine ⟨K, P2, P3, fun r hr => ?_, P5, fun sid' hp hpred => ?_⟩
  · obtain ⟨_, _, e, rest⟩ := P4 r hr
    cases e; exact ⟨sid, a', rfl, rest⟩
  · cases hp
    obtain ⟨hd, hs⟩ := hW rfl
    exact hpred.elim (absurd hd) fun x => nomatch hs.symm.trans x

/-- the frame for a handler that completes or reaps session `sid`, for a caller that is not in attempt `sid`, or is not waiting in it
when the handler reaps: the record of `sid` is erased -/
theorem CallerOK.frame_erase {s s' : State} {j sid : Nat} {x : Caller} (h : CallerOK s j x)
    (hj : att x.pc ≠ some sid ∨ (waiting x.pc ≠ some sid ∧ Ev.reaped sid ∈ s'.log))
    (hpend : s'.pend = setP s.pend sid none) (hio : ∀ sid, s.io ≠ .connNotify j sid ∧ s.io ≠ .closeNotify j sid)
    (hlog : ∀ e ∈ s.log, e ∈ s'.log := by first | exact fun _ => id | exact fun _ => List.mem_append_left _)
    (hlock : s'.lock = s.lock := by rfl) (hsd : s'.shuttingDown = s.shuttingDown := by rfl) : CallerOK s' j x := by
  refine h.frame hlog (by rw [hlock]) (by rw [hsd]; exact id) (.inr hio) fun sid' => ?_
  rw [hpend]
  by_cases hs : sid' = sid
  · subst hs
    rcases hj with hj | ⟨hw, hr⟩
    · exact .inr (.inl ⟨hj, by rw [setP_same]; exact nofun⟩)
    · exact .inr (.inr ⟨setP_same _ _ _, hw, fun _ => hr⟩)
  · exact .inl (setP_other _ _ hs)

theorem Inv.att_owner {s : State} (h : Inv s) {sid j : Nat} {p : Pend} (hp : s.pend sid = some p)
    (ha : att (s.callers j).pc = some sid) : j = p.owner :=
  h.U_cr j p.owner sid (h.A_cr j sid ha) (h.RC _ sid (h.P1 sid p hp))

/-- the frame for another caller `j` when `c` writes the pending record of its own attempt: `j` is not in that attempt and the record is
not `j`'s -/
theorem Inv.frame_own {s s' : State} (h : Inv s) {c j sid : Nat} {ab : Bool} (hatt : att (s.callers c).pc = some sid) (hj : j ≠ c)
    (hpend : s'.pend = setP s.pend sid (some { owner := c, abandoned := ab }))
    (hlog : ∀ e ∈ s.log, e ∈ s'.log := by first | exact fun _ => id | exact fun _ => List.mem_append_left _)
    (hlock : s'.lock = s.lock := by rfl) (hsd : s'.shuttingDown = s.shuttingDown := by rfl) (hio : s'.io = s.io := by rfl) :
    CallerOK s' j (s.callers j) := by
  refine (h.caller j).frame hlog (by rw [hlock]) (by rw [hsd]; exact id) (.inl hio) fun sid' => ?_
  rw [hpend]
  by_cases hs : sid' = sid
  · subst hs
    refine .inr (.inl ⟨fun ha => hj (h.U_att j c _ ha hatt), ?_⟩)
    rw [setP_same]; intro p hp; cases hp; exact fun e => hj e.symm
  · exact .inl (setP_other _ _ hs)

/-- a handler hands the result `r` of session `sid` over to its waiter: the record is erased, the delivery is logged, and the I/O
thread owes the waiter its notify -/
theorem CallerOK.handed {s s' : State} {o sid : Nat} {a b : Bool} {r : Res} {x : Caller} (h : CallerOK s o x)
    (hpc : x.pc = .parked sid a) (hlog : Ev.delivered sid b ∈ s'.log)
    (hr : (r = .ok sid ∧ b = true) ∨ (r = .err .closed ∧ b = false)) (hio : s'.io = .connNotify o sid ∨ s'.io = .closeNotify o sid)
    (hpend : s'.pend = setP s.pend sid none := by rfl) (hlock : s'.lock = s.lock := by rfl) :
    CallerOK s' o { x with done := some r } := by
  obtain ⟨K, P2, P3, P4, P5, W⟩ := h
  constructor
  case K => rw [hlock]; exact K
  case P2 =>
    intro sid' p hp ho hab
    rw [hpend] at hp
    have w := (P2 sid' p (setP_none_sub _ _ hp) ho hab).1
    rw [hpc] at w; cases w
    rw [setP_same] at hp; cases hp
  case P3 => exact fun _ _ hd' => nomatch hd'
  case P4 =>
    intro r' hr'
    cases hr'
    exact ⟨sid, a, hpc, by rw [hpend, setP_same], hr.imp (fun ⟨e1, e2⟩ => ⟨e1, e2 ▸ hlog⟩) fun ⟨e1, e2⟩ => ⟨e1, e2 ▸ hlog⟩⟩
  case P5 => intro sid' hl; rw [hpc] at hl; cases hl
  case W => intro sid' hp _; rw [hpc] at hp; cases hp; exact hio

/-- the fence's `notify_all`: a parked caller whose record is still pending is woken, every other caller is left as it is -/
theorem np_cases (s : State) (j : Nat) :
    (notifyPending s j = s.callers j ∧ ∀ sid a, (s.callers j).pc = .parked sid a → ∀ p, s.pend sid = some p → p.owner ≠ j) ∨
    ∃ sid a, (s.callers j).pc = .parked sid a ∧ notifyPending s j = { s.callers j with pc := .parked sid true } := by
  unfold notifyPending
  split
  · rename_i sid a hpc
    have own {q : Pend → Prop} (hq : ∀ p, s.pend sid = some p → q p) :
        ∀ sid' a', (s.callers j).pc = .parked sid' a' → ∀ p, s.pend sid' = some p → q p :=
      fun _ _ e => by rw [hpc] at e; cases e; exact hq
    split
    · rename_i p hp
      split
      · exact .inr ⟨sid, a, hpc, rfl⟩
      · rename_i ho; exact .inl ⟨rfl, own fun p' hp' => Option.some.inj (hp.symm.trans hp') ▸ ho⟩
    · rename_i hp; exact .inl ⟨rfl, own fun p' hp' => nomatch hp.symm.trans hp'⟩
  · rename_i hn; exact .inl ⟨rfl, fun sid a e => absurd e (hn sid a)⟩

theorem np_parked (s : State) (j sid : Nat) (a : Bool) (hp : (notifyPending s j).pc = .parked sid a) :
    ∃ a', (s.callers j).pc = .parked sid a' := by
  rcases np_cases s j with ⟨e, -⟩ | ⟨sid', a', hpc, e⟩ <;> rw [e] at hp
  · exact ⟨a, hp⟩
  · cases hp; exact ⟨a', hpc⟩

end Iora.ConnectSync
