import IoraModel.Lemmas.TlsPlan
/-! C07: the outcome of a planned session against any peer under the assumed OpenSSL semantics, for every request and every configuration
whose cipher string does not enable anonymous suites; the cells of the three matrices of T6 are instances. -/
namespace Iora.Tls
open Iora.Gen.TlsCalls

theorem cond_eq_some {α : Type} {b : Bool} {x v : α} (h : (bif b then some x else none) = some v) : b = true ∧ x = v := by
  cases b
  · cases h
  · exact ⟨rfl, Option.some.inj h⟩

theorem isSome_cond {α : Type} (b : Bool) (x : α) : (bif b then some x else none).isSome = b := by cases b <;> rfl

/-! ### the reference handshake as one Boolean condition, for every peer

On a context on which an anonymous peer cannot complete, "the peer authenticates" is one more conjunct, not a case split.  `bif` for the
reason given at `Ctx.step` (`Lemmas/TlsPlan.lean`). -/

theorem Ossl.client_eq (c : Ctx) (h : Option String) (a : Anchors) (k : PeerKind) (cert : CertProps) (ceil : Int) (ha : c.anon = false) :
    Ossl.client c h a ⟨k, cert, ceil⟩ =
      bif k == .tls && cert.possession && decide (c.lowest ≤ negotiated ceil) &&
          (!c.verify.contains .peer || (chains cert a && cert.inTime && nameOk h cert))
      then some (negotiated ceil) else none := by
  cases k
  case tls => rw [Bool.cond_eq_ite, Bool.and_right_comm _ cert.possession]; rfl
  case anon => rw [Ossl.client, anonClient, ha]; rfl
  all_goals rfl

/-- `ha`: when `anonServer` is `none` — the cipher list has no anonymous suites, or a client certificate is required (the request for one
is illegal in an anonymous handshake) -/
theorem Ossl.server_eq (c : Ctx) (a : Anchors) (k : PeerKind) (cert : Option CertProps) (ceil : Int)
    (ha : (c.anon && (!c.verify.contains .peer || !c.verify.contains .failIfNoPeerCert)) = false) :
    Ossl.server c a ⟨k, cert, ceil⟩ =
      bif k == .tls && decide (c.lowest ≤ negotiated ceil) && (c.certLoaded && c.keyLoaded) &&
          (!c.verify.contains .peer || Ossl.clientCertOk c a cert)
      then some (negotiated ceil) else none := by
  cases k
  case tls => rw [Bool.cond_eq_ite]; rfl
  case anon => rw [Ossl.server, anonServer, Bool.and_right_comm, ha]; rfl
  all_goals rfl

/-- what a completed client handshake says of the peer, on a context without anonymous suites -/
theorem Handshake.Assumed.client_peer {H : Handshake} (hA : H.Assumed) {c : Ctx} (ha : c.anon = false) {h : Option String}
    {a : Anchors} {p : SrvPeer} {v : Int} (hr : H.client c h a p = some v) :
    p.kind = .tls ∧ p.cert.possession = true ∧
      (c.verify.contains .peer = true → chains p.cert a = true ∧ p.cert.inTime = true ∧ nameOk h p.cert = true) := by
  obtain ⟨k, cert, ceil⟩ := p
  rw [assumed_client hA, Ossl.client_eq _ _ _ _ _ _ ha] at hr
  have hb := (cond_eq_some hr).1
  simp only [Bool.and_eq_true, beq_iff_eq, Bool.or_eq_true, Bool.not_eq_true'] at hb
  refine ⟨hb.1.1.1, hb.1.1.2, fun hpe => ?_⟩
  rcases hb.2 with h' | h'
  · rw [hpe] at h'; cases h'
  · exact ⟨h'.1.1, h'.1.2, h'.2⟩

theorem Handshake.Assumed.server_peer {H : Handshake} (hA : H.Assumed) {c : Ctx}
    (ha : (c.anon && (!c.verify.contains .peer || !c.verify.contains .failIfNoPeerCert)) = false)
    {a : Anchors} {p : CliPeer} {v : Int} (hr : H.server c a p = some v) :
    p.kind = .tls ∧ (c.verify.contains .peer = true → Ossl.clientCertOk c a p.cert = true) := by
  obtain ⟨k, cert, ceil⟩ := p
  rw [assumed_server hA, Ossl.server_eq _ _ _ _ _ ha] at hr
  have hb := (cond_eq_some hr).1
  simp only [Bool.and_eq_true, beq_iff_eq, Bool.or_eq_true, Bool.not_eq_true'] at hb
  refine ⟨hb.1.1.1, fun hpe => ?_⟩
  rcases hb.2 with h' | h'
  · rw [hpe] at h'; cases h'
  · exact h'

/-! ### the outcome of a planned session, for every configuration without anonymous suites

The minimum version and the peer's components are variables of their own, for the same reason: instantiated at a cell, no projection of
the cell is left inside a `Decidable` instance. -/

theorem clientOutcome_connectPlan {H : Handshake} (hA : H.Assumed) (tc : TCfg) (tf : TFiles) (req : Mode) (t : Target) (n : Int)
    (hc : tc.client.ciphers ≠ .enablesAnon) (hn : tc.client.minVersion = n)
    (a sys : Anchors) (k : PeerKind) (cert : CertProps) (ceil : Int) :
    clientOutcome H (connectPlan tc tf req t) a sys ⟨k, cert, ceil⟩ =
      bif (!startRefused tc tf && req == .client && tc.client.on .client && k == .tls && cert.possession) &&
          decide ((applyFloorMin none n).getD tls10 ≤ negotiated ceil) &&
          (!tc.client.verifyPeer ||
            (chains cert (if tc.client.caFileSet || tc.client.caPathSet then a else sys) && cert.inTime && nameOk t.name? cert))
      then some (negotiated ceil) else none := by
  subst hn
  rw [connectPlan_eq]
  cases startRefused tc tf
  · cases req <;> try rfl
    cases tc.client.on .client
    · rfl
    · rw [Plan.decided_on (by simp), clientOutcome, assumed_client hA, Ossl.client_eq _ _ _ _ _ _ (by simp [clientCtxOf, hc])]
      cases hv : tc.client.verifyPeer <;> cases hl : tc.client.caFileSet || tc.client.caPathSet <;>
        simp [Ctx.lowest, clientCtxOf, hv, hl, storeOf, Trust.located, Anchors.union_empty, Anchors.empty_union]
  · rfl

theorem serverOutcome_listenPlan {H : Handshake} (hA : H.Assumed) (tc : TCfg) (tf : TFiles) (req : Mode) (n : Int)
    (hc : tc.server.ciphers ≠ .enablesAnon) (hn : tc.server.minVersion = n)
    (a sys : Anchors) (k : PeerKind) (cert : Option CertProps) (ceil : Int) :
    serverOutcome H (listenPlan tc tf req) a sys ⟨k, cert, ceil⟩ =
      bif (!startRefused tc tf && req == .server && tc.server.on .server && k == .tls) &&
          decide ((applyFloorMin none n).getD tls10 ≤ negotiated ceil) &&
          (tc.server.certFileSet && tc.server.keyFileSet && (!tc.server.verifyPeer ||
            match cert with
            | none => false
            | some cc => chains cc a && cc.inTime && cc.possession))
      then some (negotiated ceil) else none := by
  subst hn
  rw [listenPlan_eq]
  cases hr : startRefused tc tf
  · cases req <;> try rfl
    cases hon : tc.server.on .server
    · rfl
    · rw [Plan.decided_on (by simp), serverOutcome, assumed_server hA, Ossl.server_eq _ _ _ _ _ (by simp [serverCtxOf, hc])]
      cases hv : tc.server.verifyPeer
      · simp [Ctx.lowest, serverCtxOf, hv, Bool.and_assoc]
      · have hca := server_ca_of_verifyPeer hr hon hv
        cases cert <;>
          simp [Ctx.lowest, serverCtxOf, Ossl.clientCertOk, hv, hca, storeOf, Trust.located, Anchors.union_empty, Bool.and_assoc]
  · rfl

/-! ### the version of a completed planned session: TLS 1.2 or above, and the configured minimum or above when the library knows it -/

/-- the version test in the two outcome theorems, whatever stands left (`x`) and right (`y`) of it -/
theorem version_of_cond {x y : Bool} {n ceil v : Int}
    (h : (bif x && decide ((applyFloorMin none n).getD tls10 ≤ negotiated ceil) && y then some (negotiated ceil) else none) = some v) :
    tls12 ≤ v ∧ (n ≤ 772 → n ≤ v) := by
  obtain ⟨hb, rfl⟩ := cond_eq_some h
  obtain ⟨m, hm, h1, _, h2⟩ := applyFloorMin_bounds n
  simp only [hm, Option.getD_some, Bool.and_eq_true, decide_eq_true_eq] at hb
  exact ⟨Int.le_trans h1 hb.1.2, fun hn => Int.le_trans (h2 hn) hb.1.2⟩

theorem clientOutcome_version {H : Handshake} (hA : H.Assumed) {tc : TCfg} {tf : TFiles} {req : Mode} {t : Target}
    (hc : tc.client.ciphers ≠ .enablesAnon) {a sys : Anchors} {p : SrvPeer} {v : Int}
    (h : clientOutcome H (connectPlan tc tf req t) a sys p = some v) :
    tls12 ≤ v ∧ (tc.client.minVersion ≤ 772 → tc.client.minVersion ≤ v) := by
  obtain ⟨k, cert, ceil⟩ := p
  rw [clientOutcome_connectPlan hA tc tf req t _ hc rfl] at h
  exact version_of_cond h

theorem serverOutcome_version {H : Handshake} (hA : H.Assumed) {tc : TCfg} {tf : TFiles} {req : Mode}
    (hc : tc.server.ciphers ≠ .enablesAnon) {a sys : Anchors} {p : CliPeer} {v : Int}
    (h : serverOutcome H (listenPlan tc tf req) a sys p = some v) :
    tls12 ≤ v ∧ (tc.server.minVersion ≤ 772 → tc.server.minVersion ≤ v) := by
  obtain ⟨k, cert, ceil⟩ := p
  rw [serverOutcome_listenPlan hA tc tf req _ hc rfl] at h
  exact version_of_cond h

/-! ### the cells of the three matrices: instances, the rest read off the specification -/

theorem version_ok (n x : Int) (hn : n ≤ 772) :
    decide ((applyFloorMin none n).getD tls10 ≤ x) = (decide (Spec.tls12 ≤ x) && decide (n ≤ x)) := by
  rw [applyFloorMin_eq, Option.getD_some, ← Bool.decide_and, decide_eq_decide, Spec.tls12]
  split <;> omega

theorem version_table (m : MinSel) (ce : Ver) :
    decide ((applyFloorMin none m.num).getD tls10 ≤ negotiated ce.num) = Spec.versionOk m ce :=
  version_ok _ _ (by cases m <;> decide)

theorem own_table (o : CertKind) : o.files.ownOk = (o.props.possession && o.props.inTime) := by cases o <;> rfl

theorem caLoads_table (o : CertKind) : o.files.caLoads = true := by cases o <;> rfl

theorem CliCell.outcome_admissible {H : Handshake} (hA : H.Assumed) (c : CliCell) :
    (c.outcome H).isSome = Spec.cliAdmissible c ∧ ∀ v, c.outcome H = some v → Spec.tls12 ≤ v := by
  obtain ⟨v, t, s, ce, pk, bn, m⟩ := c
  refine ⟨?_, fun v hv => (clientOutcome_version hA (by intro h; cases h) hv).1⟩
  rw [CliCell.outcome, CliCell.plan, CliCell.srvPeer, clientOutcome_connectPlan hA _ _ _ _ m.num (by intro h; cases h) rfl,
    isSome_cond, version_table]
  dsimp only [CliCell.tcfg, CliCell.target, Spec.cliAdmissible]
  -- left to compare with `Spec`: `t` says whether a CA file is configured and what it holds, `bn` the target, so what `nameOk` asks
  cases t <;> cases bn <;>
    simp [startRefused, Cfg.on, clientCtx_refused, Target.name?, nameOk, TrustSel.anchors]

theorem SrvCell.outcome_admissible {H : Handshake} (hA : H.Assumed) (c : SrvCell) :
    (c.outcome H).isSome = Spec.srvAdmissible c ∧ ∀ v, c.outcome H = some v → Spec.tls12 ≤ v := by
  obtain ⟨v, t, o, cc, ce, pk, m⟩ := c
  refine ⟨?_, fun v hv => (serverOutcome_version hA (by intro h; cases h) hv).1⟩
  rw [SrvCell.outcome, SrvCell.plan, SrvCell.cliPeer, serverOutcome_listenPlan hA _ _ _ m.num (by intro h; cases h) rfl,
    isSome_cond, version_table]
  dsimp only [SrvCell.tcfg, SrvCell.files, Spec.srvAdmissible]
  -- `v` and "a CA file is configured" decide whether the start is refused (`serverCtx_refused`), `cc` whether a certificate is shown
  cases v <;> cases t != TrustSel.none <;> cases cc.props <;>
    simp [startRefused, Cfg.on, serverCtx_refused, own_table, caLoads_table]

theorem HttpCell.outcome_admissible {H : Handshake} (hA : H.Assumed) (c : HttpCell) :
    (c.nameUnchecked = false → (c.outcome H).isSome = Spec.httpAdmissible c) ∧
    ∀ v, c.outcome H = some v → Spec.tls12 ≤ v := by
  obtain ⟨v, ca, sy, s, ce, pk, bn⟩ := c
  refine ⟨fun hn => ?_, fun v hv => (clientOutcome_version hA (by intro h; cases h) hv).1⟩
  -- `httpClientCfg` leaves `minVersion` at its default, 0 (unset)
  have h0 : (applyFloorMin none 0).getD tls10 = Spec.tls12 := by rw [applyFloorMin_eq]; rfl
  rw [HttpCell.outcome, HttpCell.plan, httpClientPlan, HttpCell.srvPeer, if_pos rfl, httpClientHttpsReq,
    clientOutcome_connectPlan hA _ _ _ _ 0 (by intro h; cases h) rfl, isSome_cond, h0]
  dsimp only [Spec.httpAdmissible, Spec.httpAnchors, HttpCell.nameUnchecked] at hn ⊢
  -- `bn`: the URL names the host or an address; with `bn` and `v` fixed the carve-out `hn` says the certificate names the host
  cases bn <;> cases v <;>
    simp_all [startRefused, Cfg.on, clientCtx_refused, httpClientCfg_eq, httpTarget, httpClientHost, Target.name?, nameOk]

end Iora.Tls
