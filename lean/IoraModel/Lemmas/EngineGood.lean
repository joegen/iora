import IoraModel.Lemmas.EngineSteps
/-!
# What every step keeps (C02)

Three levels above `SInv`, each adding what the next theorems need: `Good` (no dangling access: `G.stale` is set by the model exactly
where the C++ would dereference a `Session*` after the session has been erased, or use `cr.sid` of a request that is not in flight),
`Good2` (no connect callback fires twice: `G.dupAnn`) and, on UDP, `GoodU` (no payload before the accept / connect callback:
`G.envBad`; on TCP that holds of the steps that honour the environment contract `Tcp.envOk`).  Each level is shown once, by the kind of
the step (`Kind.good`, `Kind.good2`, `Kind.goodU`); the step theorems of the engines follow from `step_kind`.
-/
namespace Iora.Lifecycle

/-- `SInv`, plus no dangling access so far, plus no closed flag in the table except while the
session loop of the drain runs (what lets a handler use any entry it finds) -/
structure Good (g : G) : Prop where
  sinv : SInv g
  nostale : g.stale = false
  noflag : g.phase ≠ .drainSess → NoFlag g

/-- `Good`, plus the state facts about the connect callback (`JInv`), plus no connect callback has fired twice.
Every TCP history keeps it (`Tcp.good2_run`). -/
structure Good2 (g : G) : Prop where
  good : Good g
  jinv : JInv g
  nodup : g.dupAnn = false

/-- UDP: `Good2`, plus every session in the table is announced (a UDP connect creates and announces in one go), which
is why no payload ever precedes the announce on UDP without any hypothesis on the environment -/
structure GoodU (g : G) : Prop where
  good2 : Good2 g
  allAnn : AllAnn g
  noenv : g.envBad = false

variable {tcp : Bool} {E : Prop} {g g' : G}

/-- a property of every session in the table that survives the closed flag of the drain survives every step -/
theorem Kind.tableAll {Q : Sess → Prop} (k : Kind tcp E g g') (hU : ClosedU0 (TableAll Q)) (hT : tcp = true → Closed0 (TableAll Q))
    (hq : ∀ s, Q s → Q { s with closed := true }) (h : TableAll Q g) : TableAll Q g' := by
  cases k with
  | api a => exact h.of_table a.table
  | run _ w => exact w.presU hT h
  | cmd _ _ w => exact w.presU hT h.pop
  | drainClose sid => exact TableAll.drainClose sid (h.of_table rfl) hq
  | drainFinish _ hc => exact fun x s hx => nomatch ((drainFinish_drained g hc).table x).symm.trans hx

/-- what a handler run that leaves no request in flight keeps of the invariants.  `g0` is the state the handler starts in: `g`
itself or, for process(), `g` with the command taken off the batch. -/
theorem Good.of_walk {g0 : G} (h : Good g) (hp : g.phase = .loop ∨ g.phase = .drainProc)
    (h0 : g0 = g ∨ (g.cur = none ∧ g0 = (popCmd g).2)) (w : Walk tcp E g0 g') (hc : g'.cur = none) :
    Good g' ∧ g'.dupAnn = g.dupAnn ∧ (E → g'.envBad = g.envBad) := by
  have hne : g.phase ≠ .stopped ∧ g.phase ≠ .drainSess := by rcases hp with hp | hp <;> rw [hp] <;> exact ⟨nofun, nofun⟩
  have hn := h.noflag hne.2
  have q := w.quiet
  -- taking a command off the batch keeps `Inv` and `NoFlag` and changes neither the flags nor the control fields
  obtain ⟨hi0, hn0, e1, e2, e3, e4, e5⟩ : Inv g0 ∧ NoFlag g0 ∧ g0.stale = g.stale ∧ g0.dupAnn = g.dupAnn ∧
      g0.envBad = g.envBad ∧ g0.phase = g.phase ∧ g0.cmdsClosed = g.cmdsClosed := by
    rcases h0 with e | ⟨hcur, e⟩
    · subst e; exact ⟨h.sinv.inv, hn, rfl, rfl, rfl, rfl, rfl⟩
    · refine ⟨e ▸ inv_popCmd h.sinv.inv hcur, e ▸ TableAll.pop hn, ?_⟩
      rw [e]; rcases popCmd_cases g with ⟨_, e⟩ | ⟨_, _, _, e⟩ <;> rw [e] <;> exact ⟨rfl, rfl, rfl, rfl, rfl⟩
  exact ⟨⟨⟨w.pres hi0, hc, h.sinv.stop.of_not_stopped hne.1 (q.frame.phase.trans e4) (q.frame.cmdsClosed.trans e5)⟩,
    q.stale.trans (e1.trans h.nostale), fun _ => w.pres hn0⟩, q.dupAnn.trans e2, fun e => (q.envBad e).trans e3⟩

/-- every step keeps `Good` and does not fire a second connect callback; a step that honours the environment contract does not
deliver payload before the accept / connect callback -/
theorem Kind.good (k : Kind tcp E g g') (h : Good g) : Good g' ∧ g'.dupAnn = g.dupAnn ∧ (E → g'.envBad = g.envBad) := by
  cases k with
  | api a =>
    exact ⟨⟨a.sinv h.sinv, a.stale.trans h.nostale, fun hne => TableAll.of_table (h.noflag (mt a.drainSess hne)) a.table⟩,
      a.dupAnn, fun _ => a.envBad⟩
  | run hp w => exact h.of_walk (.inl hp) (.inl rfl) w (w.quiet.cur_none h.sinv.cur)
  | cmd hp hc w hc' => exact h.of_walk hp (.inr ⟨hc, rfl⟩) w hc'
  | drainClose sid hp =>
    have hf := (drainClose_quiet (E := E) sid { g with phase := .drainSess }).1
    have hcf := h.sinv.stop.queue_open (by rcases hp with hp | hp <;> rw [hp] <;> nofun)
    have hstop : Stop { g with phase := .drainSess } := ⟨fun hc => (nomatch hcf.symm.trans hc), nofun⟩
    exact ⟨⟨⟨inv_drainClose sid (h.sinv.inv.frame rfl rfl rfl rfl rfl rfl rfl), hf.cur_none h.sinv.cur,
        hstop.of_not_stopped nofun hf.frame.phase hf.frame.cmdsClosed⟩, hf.stale.trans h.nostale, fun hne => absurd hf.frame.phase hne⟩,
      hf.dupAnn, hf.envBad⟩
  | drainFinish hb hc =>
    have d := drainFinish_drained g hc
    exact ⟨⟨⟨d.inv h.sinv.inv hb, d.cur, ⟨fun _ => d.phase, fun _ => ⟨d.cmdsClosed, d.batch, d.queue, d.table⟩⟩⟩, d.stale.trans h.nostale,
      fun _ x s hx => nomatch (d.table x).symm.trans hx⟩, d.dupAnn, fun _ => d.envBad⟩

theorem Kind.good2 (k : Kind tcp E g g') (h : Good2 g) : Good2 g' ∧ (E → g'.envBad = g.envBad) :=
  have hg := k.good h.good
  ⟨⟨hg.1, k.tableAll (inferInstanceAs (ClosedU0 JInv)) (fun _ => inferInstanceAs (Closed0 JInv)) (fun _ h => h) h.jinv, hg.2.1.trans h.nodup⟩, hg.2.2⟩

theorem Kind.goodU (k : Kind false True g g') (h : GoodU g) : GoodU g' :=
  have h2 := k.good2 h.good2
  ⟨h2.1, k.tableAll (inferInstanceAs (ClosedU0 AllAnn)) nofun (fun _ h => h) h.allAnn, (h2.2 trivial).trans h.noenv⟩

theorem Good.handlers {g : G} (h : Good g) (hp : g.phase = .loop ∨ g.phase = .drainProc) : NoFlag g :=
  h.noflag (by rcases hp with hp | hp <;> rw [hp] <;> nofun)

theorem Tcp.good2_step (g : G) (i : In) (h : Good2 g) :
    Good2 (Tcp.step g i) ∧ (Tcp.envOk g i = true → (Tcp.step g i).envBad = g.envBad) :=
  (Tcp.step_kind g i h.good.handlers h.jinv).good2 h

theorem Udp.goodU_step (g : G) (i : In) (h : GoodU g) : GoodU (Udp.step g i) :=
  (Udp.step_kind g i h.good2.good.sinv.inv h.good2.good.handlers h.allAnn).goodU h

theorem good_init (cfg : Cfg) : Good (init cfg) :=
  ⟨sinv_init cfg, rfl, by intro _ x s hx; simp [init] at hx⟩

theorem good_run (stepf : G → In → G) (hs : ∀ g i, Good g → Good (stepf g i)) (g : G) (h : Good g) (is : List In) :
    Good (run stepf g is) :=
  run_inv stepf hs g h is

theorem good2_init (cfg : Cfg) : Good2 (init cfg) :=
  ⟨good_init cfg, by intro x s hx; simp [init] at hx, rfl⟩

theorem Tcp.good2_run (cfg : Cfg) (is : List In) : Good2 (run Tcp.step (init cfg) is) :=
  run_inv _ (fun g i h => (Tcp.good2_step g i h).1) _ (good2_init cfg) is

theorem Tcp.env_run (g : G) (is : List In) (h : Good2 g) (henv : Tcp.envOkHistory Tcp.step g is = true) :
    (run Tcp.step g is).envBad = g.envBad := by
  unfold run
  induction is generalizing g with
  | nil => rfl
  | cons i r ih =>
    simp only [Tcp.envOkHistory, Bool.and_eq_true] at henv
    have hs := Tcp.good2_step g i h
    exact (ih _ hs.1 henv.2).trans (hs.2 henv.1)

theorem goodU_init (cfg : Cfg) : GoodU (init cfg) :=
  ⟨good2_init cfg, by intro x s hx; simp [init] at hx, rfl⟩

theorem Udp.goodU_run (cfg : Cfg) (is : List In) : GoodU (run Udp.step (init cfg) is) :=
  run_inv _ Udp.goodU_step _ (goodU_init cfg) is

@[simp] theorem bumpBp_stale (g : G) : (bumpBp g).stale = g.stale := rfl
@[simp] theorem bumpBp_table (g : G) : (bumpBp g).table = g.table := rfl
@[simp] theorem burnId_stale (g : G) : (burnId g).stale = g.stale := rfl
@[simp] theorem acceptFresh_stale (t : Tls) (k : Option Key) (o : Lid) (g : G) : (acceptFresh t k o g).1.stale = g.stale := rfl

/-- the two order flags as one value, with the primitives and field updates that leave them alone as `simp` facts.  The levels
above do not go through `fl`: they read `dupAnn` and `envBad` one by one, through `Quiet`. -/
def fl (g : G) : Bool × Bool := (g.dupAnn, g.envBad)

@[simp] theorem closeNow_fl (sid : Sid) (site : Site) (g : G) : fl (closeNow sid site g) = fl g := by
  rcases closeNow_cases sid site g with ⟨_, e⟩ | ⟨_, _, _, e⟩ <;> rw [e] <;> rfl
@[simp] theorem failConnect_fl (site : Site) (g : G) : fl (failConnect site g) = fl g := by
  rcases failConnect_cases site g with ⟨_, e⟩ | ⟨_, _, e⟩ <;> rw [e] <;> rfl
@[simp] theorem acceptFresh_fl (t : Tls) (k : Option Key) (o : Lid) (g : G) : fl (acceptFresh t k o g).1 = fl g := rfl
@[simp] theorem burnId_fl (g : G) : fl (burnId g) = fl g := rfl
@[simp] theorem bumpBp_fl (g : G) : fl (bumpBp g) = fl g := rfl
@[simp] theorem stale_fl (g : G) : fl { g with stale := true } = fl g := rfl
@[simp] theorem listeners_fl (l : Lid → Option Nat) (g : G) : fl { g with listeners := l } = fl g := rfl
@[simp] theorem running_fl (b : Bool) (g : G) : fl { g with running := b } = fl g := rfl

end Iora.Lifecycle
