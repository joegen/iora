import IoraModel.Model.BlockingQueue
import IoraModel.Lemmas.MonitorBroadcast
/-!
# `~BlockingQueue()` — destruction with and without callers inside (blocking_queue.hpp l.80-83)

The destructor's body is `close()` (translator fact `("~BlockingQueue#0", [("call", "close", "", "")])`); when it returns
the members `_mutex`, `_condNotEmpty`, `_condNotFull`, `_queue` are destroyed.  In the monitor model a *destroying
thread* is a thread whose LAST call is `close`; "the destructor has returned" = that thread is `finished`.  Every step of
another thread after that moment touches a destroyed member (a woken waiter re-acquires `_mutex`, reads `_queue`, …):
destruction is safe exactly when no other thread has anything left to do.
-/
namespace Iora.BQ
open Iora.Monitor

/-- thread state of somebody who will never touch the queue again -/
def Gone (ts : TState Loc) : Prop := ts.status = .ready ∧ ts.loc.pc = .finished

/-- the full statement one would like: when the destructor (thread `d`, last call `close`) has returned, every other
thread is out of the object -/
def destroy_statement : Prop :=
  ∀ (cap : Nat) (ps : List (List Call)) (sched : List Choice) (d : Tid),
    (progOf ps d).getLast? = some .close →
    let s := run (prog true) (init cap ps) sched
    (s.thr d).loc.pc = .finished → ∀ t, t < s.n → t ≠ d → Gone (s.thr t)

/-- witness: one blocked `dequeue`, the other thread destroys: `close()` wakes the waiter (Q3), but when the destructor
returns the waiter is only *woken* - it still has to re-acquire `_mutex`, a member of the destroyed object -/
def destroySchedule : List Choice :=
  [.run 0 0, .run 0 0, .run 0 0, .run 1 0, .run 1 0, .run 1 0, .run 1 0, .run 1 0]

/-- a thread that is gone stays exactly as it is under every step of anybody: it is neither the thread that moves (its
pending operation is `done`) nor a sleeper that is woken -/
theorem step_gone (fixed : Bool) (s : State Data Loc) (c : Choice) (t : Tid) (h : Gone (s.thr t)) :
    (step (prog fixed) s c).thr t = s.thr t := by
  obtain ⟨hst, hpc⟩ := h
  have hop : (prog fixed).op (s.thr t).loc = .done := by simp [prog, op, hpc]
  have hna : ∀ cv, isAsleepOn cv (s.thr t) = false := by intro cv; simp [isAsleepOn, hst]
  have ne_of_op : ∀ u o, (prog fixed).op (s.thr u).loc = o → o ≠ .done → t ≠ u := by
    rintro u o ho hd rfl; exact hd (ho.symm.trans hop)
  have ne_of_st : ∀ u st, (s.thr u).status = st → st ≠ .ready → t ≠ u := by
    rintro u st hs hr rfl; exact hr (hs.symm.trans hst)
  rcases step_tr (prog fixed) s c with e | tr
  · rw [e]
  · generalize step (prog fixed) s c = s' at tr
    cases tr with
    | wake u cv m timed to hu hs => exact updT_other _ _ _ _ (ne_of_st u _ hs (by simp))
    | sleep u cv m timed hu hs ho => exact updT_other _ _ _ _ (ne_of_op u _ ho (by simp))
    | reacquire u m timed to late hu hs hfree => exact runAfter_other _ _ u t late (ne_of_st u _ hs (by simp))
    | lock u m hu hs ho hfree => exact runAfter_other _ _ u t false (ne_of_op u _ ho (by simp))
    | unlock u m hu hs ho => exact runAfter_other _ _ u t false (ne_of_op u _ ho (by simp))
    | plain u hu hs ho =>
      exact runAfter_other _ _ u t false (by rcases ho with ho | ho <;> exact ne_of_op u _ ho (by simp))
    | notifyNone u cv hu hs ho hno => exact runAfter_other _ _ u t false (ne_of_op u _ ho (by simp))
    | notifyWake u cv w hu hs ho hw hsl =>
      rw [runAfter_other _ _ u t false (ne_of_op u _ ho (by simp))]
      exact updT_other _ _ _ _ (by rintro rfl; rw [hna cv] at hsl; cases hsl)
    | notifyAll u cv hu hs ho =>
      rw [runAfter_other _ _ u t false (ne_of_op u _ ho (by simp))]
      exact wakeAll_not_asleep cv s.thr t (hna cv)

/-- Q5, partial, for the class as found and as repaired -/
theorem destroy_partial (fixed : Bool) (d : Tid) (sched : List Choice) :
    ∀ (s : State Data Loc), (∀ t, t ≠ d → Gone (s.thr t)) →
      ∀ t, t ≠ d → (run (prog fixed) s sched).thr t = s.thr t ∧ Gone ((run (prog fixed) s sched).thr t) := by
  induction sched with
  | nil => intro s h t ht; exact ⟨rfl, h t ht⟩
  | cons c cs ih =>
    intro s h t ht
    have hs : ∀ u, u ≠ d → Gone ((step (prog fixed) s c).thr u) := by
      intro u hu; rw [step_gone fixed s c u (h u hu)]; exact h u hu
    have := ih (step (prog fixed) s c) hs t ht
    rw [run_cons]
    exact ⟨by rw [this.1, step_gone fixed s c t (h t ht)], this.2⟩

end Iora.BQ
