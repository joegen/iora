import IoraModel.Model.Assets
/-!
C20: the read loop of `Assets::readFile` — for EVERY way the kernel may cut a file into reads (full buffers, short reads,
`EINTR` failures in between) the loop returns the concatenation of the bytes it was given; and what the model of `readFile`
therefore is on a file at rest.
-/
namespace Iora.Assets
open Iora

/-- the answers before the final `n == 0`: only data and retry-errno failures -/
def ReadEv.benign : ReadEv → Bool
  | .data _ => true
  | .eintr => true
  | _ => false

def dataOf : List ReadEv → Bytes
  | [] => []
  | .data b :: rest => b ++ dataOf rest
  | _ :: rest => dataOf rest

theorem readAccumulate_eq : Gen.Assets.readAccumulate = "append" := by decide
theorem readAtEof_eq : loopAct Gen.Assets.readAtEof = .brk := by decide
theorem readAtRetryErrno_eq : loopAct Gen.Assets.readAtRetryErrno = .cont := by decide
theorem readAtError_eq : loopAct Gen.Assets.readAtError = .fail := by decide
theorem readBufSize_pos : 0 < Gen.Assets.readBufSize := by decide
theorem openNoFollow_eq : Gen.Assets.openNoFollow = true := by decide

theorem readLoop_append (pre : List ReadEv) (h : ∀ e ∈ pre, e.benign = true) (acc : Bytes) (rest : List ReadEv) :
    readLoop acc (pre ++ rest) = readLoop (acc ++ dataOf pre) rest := by
  induction pre generalizing acc with
  | nil => simp [dataOf]
  | cons e pre ih =>
    have ih' := ih (fun e he => h e (List.mem_cons_of_mem _ he))
    cases e with
    | data b => simp [readLoop, readAccumulate_eq, ih', dataOf, List.append_assoc]
    | eintr => simp [readLoop, readAtRetryErrno_eq, ih', dataOf]
    | eof | err => exact absurd (h _ (List.mem_cons_self ..)) (by simp [ReadEv.benign])

theorem readLoop_benign (pre : List ReadEv) (h : ∀ e ∈ pre, e.benign = true) (acc : Bytes) (rest : List ReadEv) :
    readLoop acc (pre ++ .eof :: rest) = some (acc ++ dataOf pre) := by
  rw [readLoop_append pre h]
  simp [readLoop, readAtEof_eq]

theorem chunksOf_flatten (n : Nat) (hn : 0 < n) : ∀ (f : Nat) (d : Bytes), d.length ≤ f → (chunksOf n f d).flatten = d := by
  intro f
  induction f with
  | zero => intro d hd; have : d = [] := List.length_eq_zero_iff.mp (by omega); subst this; simp [chunksOf]
  | succ f ih =>
    intro d hd
    unfold chunksOf
    by_cases he : d.isEmpty = true
    · have : d = [] := by simpa using he
      subst this; simp
    · simp only [he, Bool.false_eq_true, ↓reduceIte, List.flatten_cons]
      have hlen : 0 < d.length := by
        cases d with
        | nil => simp at he
        | cons _ _ => simp
      rw [ih (d.drop n) (by simp [List.length_drop]; omega), List.take_append_drop]

theorem dataOf_map_data (cs : List Bytes) : dataOf (cs.map .data) = cs.flatten := by
  induction cs with
  | nil => rfl
  | cons c cs ih => simp [dataOf, ih]

theorem benign_map_data (cs : List Bytes) : ∀ e ∈ cs.map ReadEv.data, e.benign = true := by
  intro e he
  obtain ⟨c, _, rfl⟩ := List.mem_map.mp he
  rfl

theorem readLoop_kernelReads (d : Bytes) : readLoop [] (kernelReads Gen.Assets.readBufSize d) = some d := by
  unfold kernelReads
  rw [readLoop_benign _ (benign_map_data _) [] [], dataOf_map_data,
    chunksOf_flatten _ readBufSize_pos _ _ (Nat.le_refl _)]
  simp

theorem readFile_eq (fs : Fs) (p : Bytes) :
    readFile fs p = (match kwalk fs (!Gen.Assets.openNoFollow) p with
      | .ok (_, .file d) => some d
      | _ => none) := by
  unfold readFile
  split <;> simp_all [readLoop_kernelReads]

theorem readFile_some (fs : Fs) (p d : Bytes) (h : readFile fs p = some d) : ∃ l, kwalk fs false p = .ok (l, .file d) := by
  rw [readFile_eq, openNoFollow_eq] at h
  split at h
  · rename_i l d' hk; injection h with h; subst h; exact ⟨l, hk⟩
  · cases h

end Iora.Assets
