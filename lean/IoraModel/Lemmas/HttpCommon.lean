import IoraModel.Model.Http1Spec
import IoraModel.Common.Find
import IoraModel.Common.Window
import IoraModel.Common.Span
/-
The string vocabulary of the HTTP framing models.  `std::string::find` (first match at or after `pos`) is `Iora.occ` of the text from
`pos` on, whence its behaviour under appended bytes and skipped prefixes; the number parser `parseFullUInt` accepts exactly the digit
strings whose unbounded value (`Spec.tokValue`) is below 2^64, and returns that value; the scanning, trimming, splitting and header-map
operations are characterised on text built from parts with known bytes; the two framing field names, by evaluation over their letters.
-/
namespace Iora.Http
open Iora

/-- To the kernel a string literal is `String.ofList` of its characters.  Reading `ascii` of a literal through this lemma
(`rw`, whose unifier matches the literal against `String.ofList _`) spares the kernel the UTF-8 decoder inside `String.toList`, which is
what evaluating `ascii "…"` directly spends nearly all its time in. -/
theorem ascii_ofList (l : List Char) : ascii (String.ofList l) = l.map (fun c => UInt8.ofNat c.toNat) := by
  simp only [ascii, String.toList_ofList]

def matchAt (pat s : Bytes) (j : Nat) : Bool := pat.isPrefixOf (s.drop j)

theorem findAux_eq_occ (pat : Bytes) : ∀ (t : Bytes) (i : Nat), findAux pat t i = (occ pat t).map (i + ·)
  | [], _ => rfl
  | c :: cs, i => by
    simp only [findAux, occ]
    split
    · rfl
    · rw [findAux_eq_occ pat cs (i + 1), Option.map_map]; congr 1; funext m; simp only [Function.comp]; omega

theorem find_eq_occ (pat s : Bytes) (pos : Nat) : find pat s pos = (occ pat (s.drop pos)).map (pos + ·) :=
  findAux_eq_occ pat _ pos

theorem find_bounds (pat s : Bytes) (pos k : Nat) (h : find pat s pos = some k) : pos ≤ k ∧ k + pat.length ≤ s.length := by
  rw [find_eq_occ, Option.map_eq_some_iff] at h
  obtain ⟨m, hm, rfl⟩ := h
  have := occ_fits hm
  have := occ_lt hm
  simp only [List.length_drop] at *
  omega

theorem matchAt_beyond (pat s : Bytes) (j : Nat) (hp : pat ≠ []) (h : s.length ≤ j) : matchAt pat s j = false := by
  unfold matchAt
  rw [List.drop_eq_nil_of_le h]
  cases pat with
  | nil => exact absurd rfl hp
  | cons a as => rfl

theorem findAux_skip (p : UInt8) (ps : Bytes) (l r : Bytes) (i : Nat) (h : ∀ c ∈ l, c ≠ p) :
    findAux (p :: ps) (l ++ r) i = findAux (p :: ps) r (i + l.length) := by
  rw [findAux_eq_occ, findAux_eq_occ, occ_append_of_ne r h, Option.map_map]
  congr 1; funext m; simp only [Function.comp]; omega

theorem find_append_some (pat s x : Bytes) (pos k : Nat) (h : find pat s pos = some k) : find pat (s ++ x) pos = some k := by
  have hb := find_bounds pat s pos k h
  rw [find_eq_occ, Option.map_eq_some_iff] at h ⊢
  obtain ⟨m, hm, rfl⟩ := h
  rw [List.drop_append_of_le_length (by omega)]
  exact ⟨m, occ_append x hm, rfl⟩

/-- the same for a search that runs over the text from `p` on and counts from there, as the line searches of both chunk decoders do -/
theorem findAux_drop_append (pat buf x : Bytes) (p off : Nat) (hf : findAux pat (buf.drop p) 0 = some off) :
    findAux pat ((buf ++ x).drop p) 0 = some off ∧ p + off + pat.length ≤ buf.length := by
  rw [findAux_eq_occ, Option.map_eq_some_iff] at hf ⊢
  obtain ⟨m, hm, rfl⟩ := hf
  have hb := occ_fits hm
  have hlt := occ_lt hm
  rw [List.length_drop] at hb hlt
  rw [List.drop_append_of_le_length (by omega)]
  exact ⟨⟨m, occ_append x hm, rfl⟩, by omega⟩

theorem take_drop_append (buf x : Bytes) (p k : Nat) (h : p + k ≤ buf.length) :
    ((buf ++ x).drop p).take k = (buf.drop p).take k := by
  rw [List.drop_append_of_le_length (by omega), List.take_append_of_le_length (by rw [List.length_drop]; omega)]

/-- resuming a failed search after more bytes arrived: back up `pat.length - 1` bytes.  `hback` is what `headerScanPos = size - 3`
of `frameResponse` (`http_client.hpp`) meets for the four-byte terminator. -/
theorem find_resume (pat s x : Bytes) (pos pos' : Nat) (hp : pat ≠ []) (hle : pos ≤ pos')
    (hback : pos' + pat.length ≤ s.length + 1)
    (h : find pat s pos = none) : find pat (s ++ x) pos = find pat (s ++ x) pos' := by
  have hl : 0 < pat.length := List.length_pos_iff.mpr hp
  rw [find_eq_occ, Option.map_eq_none_iff, occ_eq_none_iff] at h
  rw [find_eq_occ, find_eq_occ, occ_skip (n := pos' - pos) (by simp only [List.length_drop, List.length_append]; omega),
    List.drop_drop, show pos + (pos' - pos) = pos' by omega, Option.map_map]
  · congr 1; funext m; simp only [Function.comp]; omega
  · intro j hj
    have := h j (by rw [List.length_drop]; omega)
    rw [List.drop_drop] at this ⊢
    rwa [isPrefixOf_drop_append x (by omega)]

theorem find_prepend (pat pre s : Bytes) (pos : Nat) :
    find pat (pre ++ s) (pre.length + pos) = (find pat s pos).map (pre.length + ·) := by
  rw [find_eq_occ, find_eq_occ, show (pre ++ s).drop (pre.length + pos) = s.drop pos by simp, Option.map_map]
  congr 1; funext m; simp only [Function.comp]; omega

open Spec

theorem digitVal_range (base : Nat) (c : UInt8) (v : Nat) (h : digitVal base c = some v) :
    (48 ≤ c.toNat ∧ c.toNat ≤ 57) ∨ (97 ≤ c.toNat ∧ c.toNat ≤ 102) ∨ (65 ≤ c.toNat ∧ c.toNat ≤ 70) := by
  unfold digitVal at h
  by_cases h1 : 48 ≤ c.toNat ∧ c.toNat ≤ 57
  · exact .inl h1
  · by_cases h2 : 97 ≤ c.toNat ∧ c.toNat ≤ 102
    · exact .inr (.inl h2)
    · by_cases h3 : 65 ≤ c.toNat ∧ c.toNat ≤ 70
      · exact .inr (.inr h3)
      · simp only [h1, h2, h3, ↓reduceIte] at h; cases h

theorem digitVal16_hex (c : UInt8) (v : Nat) (h : digitVal 16 c = some v) : isHexDigit c = true ∧ c ≠ 10 ∧ c ≠ 13 := by
  have hr := digitVal_range 16 c v h
  refine ⟨by simpa [isHexDigit] using hr, ?_, ?_⟩ <;> (intro hc; subst hc; simp at hr)

theorem digitVal10_facts (c : UInt8) (v : Nat) (h : digitVal 10 c = some v) :
    c ≠ 13 ∧ c ≠ 10 ∧ isOWS c = false ∧ c ≠ 44 := by
  have hr := digitVal_range 10 c v h
  have ne : ∀ d : UInt8, d.toNat < 48 → c ≠ d := by
    intro d hd hc; subst hc; omega
  refine ⟨ne 13 (by decide), ne 10 (by decide), ?_, ne 44 (by decide)⟩
  simp [isOWS, ne 32 (by decide), ne 9 (by decide)]

theorem digitVal_lt (base : Nat) (c : UInt8) (v : Nat) (h : digitVal base c = some v) : v < base := by
  dsimp only [digitVal] at h
  split at h
  · split at h
    · cases h; assumption
    · cases h
  · cases h

theorem tokFold_ge (base : Nat) : ∀ (tok : Bytes) (acc n : Nat), tokFold base tok acc = some n → acc ≤ n := by
  intro tok
  induction tok with
  | nil => intro acc n h; simp [tokFold] at h; omega
  | cons c cs ih =>
    intro acc n h
    simp only [tokFold] at h
    cases hd : digitVal base c with
    | none => rw [hd] at h; cases h
    | some v =>
      rw [hd] at h
      have := ih _ _ h
      have : acc ≤ acc * base := Nat.le_mul_of_pos_right acc (by have := digitVal_lt base c v hd; omega)
      omega

theorem tokFold_digits (base : Nat) : ∀ (tok : Bytes) (acc n : Nat), tokFold base tok acc = some n →
    ∀ c ∈ tok, ∃ v, digitVal base c = some v := by
  intro tok
  induction tok with
  | nil => intro acc n _ c hc; simp at hc
  | cons x xs ih =>
    intro acc n h c hc
    simp only [tokFold] at h
    cases hd : digitVal base x with
    | none => rw [hd] at h; cases h
    | some v =>
      rw [hd] at h
      rcases List.mem_cons.mp hc with rfl | hc
      · exact ⟨v, hd⟩
      · exact ih _ _ h c hc

theorem tokValue_some (base : Nat) (tok : Bytes) (n : Nat) (h : tokValue base tok = some n) :
    tok ≠ [] ∧ tokFold base tok 0 = some n ∧ ∀ c ∈ tok, ∃ v, digitVal base c = some v := by
  unfold tokValue at h
  split at h
  · cases h
  · rename_i hne
    exact ⟨by simpa using hne, h, tokFold_digits base tok 0 n h⟩

/-- `parseDigits` is `tokFold` with the overflow check of `std::from_chars` -/
theorem parseDigits_iff (base : Nat) : ∀ (s : Bytes) (acc n : Nat),
    parseDigits base s acc = some n ↔ tokFold base s acc = some n ∧ (s = [] ∨ n < 2 ^ 64) := by
  intro s
  induction s with
  | nil => intro acc n; simp [parseDigits, tokFold]
  | cons c cs ih =>
    intro acc n
    simp only [parseDigits, tokFold, reduceCtorEq, false_or]
    cases hd : digitVal base c with
    | none => simp
    | some v =>
      simp only
      constructor
      · intro h
        split at h
        · obtain ⟨h1, h2⟩ := (ih _ _).1 h
          refine ⟨h1, h2.elim (fun e => ?_) id⟩
          subst e; simp only [tokFold, Option.some.injEq] at h1; omega
        · cases h
      · intro ⟨h1, h2⟩
        -- the accumulator only grows, so it stays below the final value
        rw [if_pos (by have := tokFold_ge base _ _ _ h1; omega)]
        exact (ih _ _).2 ⟨h1, .inr h2⟩

theorem parseFullUInt_iff (base : Nat) (s : Bytes) (n : Nat) :
    parseFullUInt base s = some n ↔ tokValue base s = some n ∧ n < 2 ^ 64 := by
  unfold parseFullUInt tokValue
  cases s with
  | nil => simp
  | cons c cs => simp [parseDigits_iff]

theorem parseFullUInt_sound (base : Nat) (s : Bytes) (n : Nat) (h : parseFullUInt base s = some n) :
    s ≠ [] ∧ (∀ c ∈ s, (digitVal base c).isSome = true) ∧ n < 2 ^ 64 := by
  obtain ⟨h1, h2⟩ := (parseFullUInt_iff base s n).1 h
  obtain ⟨hne, _, hd⟩ := tokValue_some base s n h1
  exact ⟨hne, fun c hc => by obtain ⟨v, hv⟩ := hd c hc; simp [hv], h2⟩

theorem isOWS_cases (c : UInt8) (h : isOWS c = true) : c = 32 ∨ c = 9 := by
  simpa [isOWS] using h

theorem indexOf?_eq (p : UInt8 → Bool) : ∀ l : Bytes, indexOf? p l = l.findIdx? p
  | [] => rfl
  | c :: cs => by rw [indexOf?, indexOf?_eq p cs, List.findIdx?_cons]

theorem indexOf_append_of_none (p : UInt8 → Bool) (l r : Bytes) (h : ∀ c ∈ l, p c = false) :
    indexOf? p (l ++ r) = (indexOf? p r).map (· + l.length) := by
  rw [indexOf?_eq, indexOf?_eq, List.findIdx?_append, List.findIdx?_eq_none_iff.2 h]
  simp

theorem indexOf_skip (p : UInt8 → Bool) (l : Bytes) (c0 : UInt8) (r : Bytes) (h : ∀ c ∈ l, p c = false) (h0 : p c0 = true) :
    indexOf? p (l ++ c0 :: r) = some l.length := by
  simp [indexOf_append_of_none p l _ h, indexOf?, h0]

theorem indexOf_none (p : UInt8 → Bool) (l : Bytes) (h : ∀ c ∈ l, p c = false) : indexOf? p l = none := by
  rw [indexOf?_eq, List.findIdx?_eq_none_iff.2 h]

theorem trim_padded (a v b : Bytes) (ha : AllOWS a) (hb : AllOWS b) (hv : Trimmed v) : trim (a ++ v ++ b) = v :=
  trimBy_padded ha hb hv.1 hv.2

theorem trimmed_of_noOWS (l : Bytes) (h : ∀ c ∈ l, isOWS c = false) : Trimmed l :=
  ⟨fun c hc => h c (List.mem_of_head? hc), fun c hc => h c (List.mem_of_getLast? hc)⟩

theorem trim_self (l : Bytes) (h : Trimmed l) : trim l = l :=
  trimBy_self h.1 h.2

theorem trim_token_sp (m t : Bytes) (hne : m ≠ []) (hm : ∀ c ∈ m, isOWS c = false) :
    trim (m ++ 32 :: t) = m ∨ ∃ w, trim (m ++ 32 :: t) = m ++ 32 :: w := by
  have hl : (m ++ 32 :: t).dropWhile isOWS = m ++ 32 :: t := by
    cases m with
    | nil => exact absurd rfl hne
    | cons a as => exact dropWhile_of_headNot (.cons _ (hm a (by simp)))
  have hr : m.reverse.dropWhile isOWS = m.reverse :=
    dropWhile_of_headNot (headNot_of_head? fun c hc => hm c (by rw [List.head?_reverse] at hc; exact List.mem_of_getLast? hc))
  unfold trim trimLeft trimRight
  rw [hl, List.reverse_append, List.reverse_cons, List.append_assoc, List.dropWhile_append]
  split
  · left
    rw [List.singleton_append, List.dropWhile_cons_of_pos (by decide), hr, List.reverse_reverse]
  · exact .inr ⟨(t.reverse.dropWhile isOWS).reverse, by simp⟩

theorem splitOn_none (sep : UInt8) : ∀ (l : Bytes), (∀ c ∈ l, c ≠ sep) → splitOn sep l = [l] := by
  intro l
  induction l with
  | nil => intro _; rfl
  | cons c cs ih =>
    intro h
    simp only [splitOn, h c (by simp), ↓reduceIte, ih (fun c hc => h c (by simp [hc]))]

theorem splitOn_line (sep : UInt8) : ∀ (l r : Bytes), (∀ c ∈ l, c ≠ sep) → splitOn sep (l ++ sep :: r) = l :: splitOn sep r := by
  intro l
  induction l with
  | nil => intro r _; simp [splitOn]
  | cons c cs ih =>
    intro r h
    simp only [List.cons_append, splitOn, h c (by simp), ↓reduceIte, ih r (fun c hc => h c (by simp [hc]))]

/-- `ciEq` is equality of the lower-case forms, so in the map a key stands for every name with its lower-case form -/
theorem hdrFind_hdrSet : ∀ (h : Headers) (k v k' : Bytes),
    hdrFind (hdrSet h k v) k' = if ciEq k k' then some v else hdrFind h k'
  | [], k, v, k' => by simp [hdrSet, hdrFind]
  | (k0, v0) :: t, k, v, k' => by
    have ih := hdrFind_hdrSet t k v k'
    simp only [ciEq, beq_iff_eq, hdrSet, hdrFind] at ih ⊢
    by_cases h0 : lower k0 = lower k
    · simp only [h0, ↓reduceIte, hdrFind, ciEq, beq_iff_eq]
      split <;> rfl
    · simp only [h0, ↓reduceIte, hdrFind, ciEq, beq_iff_eq, ih]
      by_cases h2 : lower k0 = lower k'
      · simp only [h2, ↓reduceIte, if_neg (fun e : lower k = lower k' => h0 (h2.trans e.symm))]
      · simp only [h2, ↓reduceIte]

/-- looking up a name other than `Connection`: `hdrAdd` behaves like `headers[name] = value` -/
theorem hdrFind_hdrAdd (h : Headers) (k v k' : Bytes) (hk' : ciEq (ascii "Connection") k' = false) :
    hdrFind (hdrAdd h k v) k' = if ciEq k k' then some v else hdrFind h k' := by
  unfold hdrAdd
  by_cases hc : ciEq k (ascii "Connection") = true
  · have hkk : ciEq k k' = false := by
      simp only [ciEq, beq_iff_eq, beq_eq_false_iff_ne] at hc hk' ⊢; rwa [hc]
    simp only [hc, ↓reduceIte, hkk, Bool.false_eq_true]
    cases hdrFind h k <;> simp only [hdrFind_hdrSet, hkk, Bool.false_eq_true, ↓reduceIte]
  · simp only [hc, Bool.false_eq_true, ↓reduceIte, hdrFind_hdrSet]

theorem clName_tok : clName ≠ [] ∧ ∀ c ∈ clName, c ≠ 58 ∧ c ≠ 13 ∧ c ≠ 10 ∧ isOWS c = false := by
  rw [clName, ascii_ofList]
  decide +kernel

theorem teName_tok : teName ≠ [] ∧ ∀ c ∈ teName, c ≠ 58 ∧ c ≠ 13 ∧ c ≠ 10 ∧ isOWS c = false := by
  rw [teName, ascii_ofList]
  decide +kernel

theorem ciEq_refl (a : Bytes) : ciEq a a = true := by simp [ciEq]

theorem cl_te_distinct : ciEq clName teName = false ∧ ciEq teName clName = false := by
  rw [clName, teName, ascii_ofList, ascii_ofList]
  decide +kernel

theorem conn_ne_framing : ciEq (ascii "Connection") clName = false ∧ ciEq (ascii "Connection") teName = false := by
  rw [clName, teName]
  repeat rw [ascii_ofList]
  decide +kernel

theorem lower_clName : lower clName = ascii "content-length" := by
  rw [clName, ascii_ofList, ascii_ofList]
  rfl

theorem lower_teName : lower teName = ascii "transfer-encoding" := by
  rw [teName, ascii_ofList, ascii_ofList]
  rfl

theorem cl_ne_te : ascii "content-length" ≠ ascii "transfer-encoding" := by
  rw [ascii_ofList, ascii_ofList]
  decide +kernel

theorem names_no_space : (32 : UInt8) ∉ ascii "content-length" ∧ (32 : UInt8) ∉ ascii "transfer-encoding" := by
  rw [ascii_ofList, ascii_ofList]
  decide +kernel

end Iora.Http
