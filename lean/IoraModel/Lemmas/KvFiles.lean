import IoraModel.Lemmas.KvLog
import IoraModel.Lemmas.KvStore
/-! Files vs memory: the directory always replays to what memory holds (`FInv`; restart, M4), what the records of one critical
section must satisfy for that (`Sect`, `IsSect`), and recovery from a directory with a torn tail (`open_torn`, D4). -/
namespace Iora.Kv
open Iora

/-- two entries that no reader can tell apart at any time `t ≥ now` -/
def Eqv (now : Int) (a b : Option Ent) : Prop := ∀ t, now ≤ t → live t a = live t b

theorem Eqv.refl (now : Int) (a : Option Ent) : Eqv now a a := fun _ _ => rfl
theorem Eqv.symm {now : Int} {a b : Option Ent} (h : Eqv now a b) : Eqv now b a := fun t ht => (h t ht).symm
theorem Eqv.trans {now : Int} {a b c : Option Ent} (h1 : Eqv now a b) (h2 : Eqv now b c) : Eqv now a c :=
  fun t ht => (h1 t ht).trans (h2 t ht)
theorem Eqv.mono {now now' : Int} {a b : Option Ent} (h : Eqv now a b) (hn : now ≤ now') : Eqv now' a b :=
  fun t ht => h t (by omega)

theorem Eqv.live_left (now : Int) (a : Option Ent) : Eqv now (live now a) a :=
  fun t ht => live_mono t now ht a

theorem Eqv.iff_live {now : Int} {a b : Option Ent} : Eqv now a b ↔ live now a = live now b := by
  constructor
  · intro h; exact h now (Int.le_refl _)
  · intro h t ht
    rw [← live_mono t now ht a, ← live_mono t now ht b, h]

theorem Eqv.of_eq {now : Int} {a b : Option Ent} (h : a = b) : Eqv now a b := h ▸ Eqv.refl now a

theorem Eqv.expired (now : Int) (v : Val) (e : Int) (h : e ≤ now) : Eqv now (some (v, some e)) none := by
  intro t ht
  have : ¬ t < e := by omega
  simp [live, this]

theorem live_map_expiry (t : Int) (x : Option Ent) (E : Option Int) :
    live t ((live t x).map (fun p => (p.1, E))) = live t (x.map (fun p => (p.1, E))) ∨ live t x = none := by
  match x with
  | none => right; rfl
  | some (v, none) => left; rfl
  | some (v, some e) =>
    by_cases h : t < e
    · left; simp [live, h]
    · right; simp [live, h]

/-- `exp ⊆ kv`, no key twice, every key and value one `validateKeyValue` admits, every expiry at most `kMaxPlausibleEpochMs` -/
structure LOK (l : Lim) (st : LState) : Prop where
  wf : Map.KvWF st.kv st.exp
  valid : ∀ k v, st.kv.get? k = some v → 1 ≤ k.length ∧ k.length ≤ l.maxKey ∧ v.length ≤ l.maxVal
  plaus : ∀ k e, st.exp.get? k = some e → e ≤ l.maxPlausible

theorem LOK.init (l : Lim) : LOK l {} := ⟨Map.KvWF.nil, fun _ _ h => (nomatch h), fun _ _ h => (nomatch h)⟩

theorem LOK.chg {l : Lim} {st : LState} (h : LOK l st) (k : Key) (a : Map.Chg Val) (b : Map.Chg Int)
    (hsub : (b.at (st.exp.get? k)).isSome = true → (a.at (st.kv.get? k)).isSome = true)
    (hk : 1 ≤ k.length ∧ k.length ≤ l.maxKey) (hv : ∀ v, a.at (st.kv.get? k) = some v → v.length ≤ l.maxVal)
    (hp : ∀ e, b.at (st.exp.get? k) = some e → e ≤ l.maxPlausible) : LOK l { kv := st.kv.chg k a, exp := st.exp.chg k b } :=
  ⟨h.wf.chg k a b hsub (fun e => by subst e; simp at hk), Map.forall_chg _ k a h.valid (fun v hv' => ⟨hk.1, hk.2, hv v hv'⟩),
    Map.forall_chg _ k b h.plaus hp⟩

theorem LOK.applyRec (l : Lim) (hl : l.OK) (st : LState) (h : LOK l st) (r : Rec) (hr : r.WF l) : LOK l (applyRec l st r) := by
  have hk := WF_key hr
  cases r with
  | set a v =>
    exact h.chg a (.put v) .erase (fun h => nomatch h) hk (fun _ e => Option.some.inj e ▸ hr.2.2) (fun _ e => nomatch e)
  | setE a v e =>
    exact h.chg a (.put v) (.put e) (fun _ => rfl) hk (fun _ e' => Option.some.inj e' ▸ hr.2.2.1)
      (fun _ e' => Option.some.inj e' ▸ (plausible_range hl hr.2.2.2).2.1)
  | del a => exact h.chg a .erase .erase (fun h => nomatch h) hk (fun _ e => nomatch e) (fun _ e => nomatch e)
  | exp a e =>
    simp only [Iora.Kv.applyRec]
    split
    · exact h
    · next hh =>
      have hs : st.kv.has a = true := by simpa using hh
      split
      · exact h.chg a .keep .erase (fun h => nomatch h) hk (fun v hv => (h.valid a v hv).2.2) (fun _ e => nomatch e)
      · split
        · next hp =>
          exact h.chg a .keep (.put e) (fun _ => hs) hk (fun v hv => (h.valid a v hv).2.2)
            (fun _ e' => Option.some.inj e' ▸ (plausible_range hl hp).2.1)
        · exact h

theorem LOK.foldl (l : Lim) (hl : l.OK) (rs : List Rec) (h : ∀ r ∈ rs, r.WF l) (st : LState) (hi : LOK l st) :
    LOK l (rs.foldl (Iora.Kv.applyRec l) st) :=
  List.foldlRecOn rs _ hi fun st hi r hr => LOK.applyRec l hl st hi r (h r hr)

theorem LOK.snapState (l : Lim) (hl : l.OK) (ents : List (Key × Val × Option Int)) (h : ∀ x ∈ ents, EntWF l x) :
    LOK l (snapState ents) :=
  List.foldlRecOn ents Iora.Kv.snapApply (LOK.init l) fun st hi x hx => by
    obtain ⟨k, v, eo⟩ := x
    obtain ⟨h1, h2, h3, h4⟩ := h (k, v, eo) hx
    cases eo with
    | none =>
      exact hi.chg k (.put v) .keep (fun _ => rfl) ⟨h1, h2⟩ (fun _ e => Option.some.inj e ▸ h3) (hi.plaus k)
    | some e =>
      exact hi.chg k (.put v) (.put e) (fun _ => rfl) ⟨h1, h2⟩ (fun _ e' => Option.some.inj e' ▸ h3)
        (fun _ e' => Option.some.inj e' ▸ (plausible_range hl (h4 e rfl)).2.1)

/-- the sweep at `now` leaves of every entry what a reader at `now` sees of it (the memory side: `compact_look_eq_live`) -/
theorem look_sweep (now : Int) (st : LState) (k : Key) : (sweep now st).look k = live now (st.look k) := by
  simp only [sweep, LState.look]
  rw [Map.get?_filter_key st.kv (fun a => !expiredAt st.exp now a),
      Map.get?_filter_key st.exp (fun a => !expiredAt st.exp now a)]
  unfold expiredAt
  cases st.kv.get? k with
  | none => simp [live]
  | some v =>
    cases st.exp.get? k with
    | none => simp [live]
    | some e => by_cases h : e ≤ now <;> simp [live, h, Int.not_lt.mpr, Int.not_le.mp]

theorem LOK.sweep (l : Lim) (now : Int) (st : LState) (h : LOK l st) : LOK l (sweep now st) :=
  ⟨h.wf.filter_key (fun a => !expiredAt st.exp now a),
   Map.forall_filter_key st.kv (fun a => !expiredAt st.exp now a) h.valid,
   Map.forall_filter_key st.exp (fun a => !expiredAt st.exp now a) h.plaus⟩

theorem sweep_live (now : Int) (st : LState) (k : Key) (e : Int) (h : (sweep now st).exp.get? k = some e) : now < e := by
  simp only [sweep] at h
  rw [Map.get?_filter_key st.exp (fun a => !expiredAt st.exp now a)] at h
  cases hx : expiredAt st.exp now k with
  | true => rw [hx] at h; simp at h
  | false =>
    rw [hx] at h
    simp only [Bool.not_false, ↓reduceIte] at h
    unfold expiredAt at hx
    rw [h] at hx
    simpa using hx

/-- the files are what the store wrote: a complete snapshot of `ents` (or none) and a log of complete records `rs` -/
structure Durable (cfg : Cfg) (fs : Fs) (ents : List (Key × Val × Option Int)) (rs : List Rec) : Prop where
  snap : (fs.snap = none ∧ ents = []) ∨ fs.snap = some (encodeSnap cfg.lim ents)
  entsWF : ∀ x ∈ ents, EntWF cfg.lim x
  count : ents.length ≤ cfg.lim.snapCountMax
  log : fs.log = some (rs.flatMap (encode cfg.crc))
  recsWF : ∀ r ∈ rs, r.WF cfg.lim

/-- what `load` replays from a `Durable` directory, before the sweep -/
def rep (l : Lim) (ents : List (Key × Val × Option Int)) (rs : List Rec) : LState :=
  rs.foldl (applyRec l) (snapState ents)

/-- the replay-irrelevant facts about memory that every critical section keeps -/
structure MemOK (cfg : Cfg) (m : Mem) : Prop where
  valid : ∀ k v, m.kv.get? k = some v → 1 ≤ k.length ∧ k.length ≤ cfg.lim.maxKey ∧ v.length ≤ cfg.lim.maxVal
  plaus : ∀ k e, m.expiry.get? k = some e → e.at_ ≤ cfg.lim.maxPlausible
  nodup : (Map.keys m.kv).Nodup

/-- the file-side invariant of a quiescent store: memory is `MemOK`, and the directory replays to what memory holds -/
structure FInv (cfg : Cfg) (w : W) : Prop where
  /-- a deadline that has not passed is then positive, hence `plausible` and persistable (`survivors_wf`, `deadlineAfter_plausible`) -/
  pos : 0 < w.now
  valid : ∀ k v, w.mem.kv.get? k = some v → 1 ≤ k.length ∧ k.length ≤ cfg.lim.maxKey ∧ v.length ≤ cfg.lim.maxVal
  plaus : ∀ k e, w.mem.expiry.get? k = some e → e.at_ ≤ cfg.lim.maxPlausible
  nodup : (Map.keys w.mem.kv).Nodup
  /-- `Eqv`, not equality: the sweep at the end of `load` drops expired entries from memory only, and `expireAt` logs `max t 1`
  where memory holds `t` -/
  file : ∃ ents rs, Durable cfg w.fs ents rs ∧ ∀ k, Eqv w.now ((rep cfg.lim ents rs).look k) (w.mem.look k)

theorem FInv.memOK (cfg : Cfg) (w : W) (hf : FInv cfg w) : MemOK cfg w.mem := ⟨hf.valid, hf.plaus, hf.nodup⟩

theorem FInv.of_memOK {cfg : Cfg} {w : W} (pos : 0 < w.now) (ok : MemOK cfg w.mem)
    (file : ∃ ents rs, Durable cfg w.fs ents rs ∧ ∀ k, Eqv w.now ((rep cfg.lim ents rs).look k) (w.mem.look k)) : FInv cfg w :=
  ⟨pos, ok.valid, ok.plaus, ok.nodup, file⟩

theorem Durable.append (cfg : Cfg) (fs : Fs) (ents : List (Key × Val × Option Int)) (rs : List Rec)
    (h : Durable cfg fs ents rs) (r : Rec) (hr : r.WF cfg.lim) :
    Durable cfg ((FsOp.append .log (encode cfg.crc r)).apply fs) ents (rs ++ [r]) where
  snap := by simpa [FsOp.apply, Fs.set] using h.snap
  entsWF := h.entsWF
  count := h.count
  log := by simp [FsOp.apply, Fs.set, Fs.get, h.log]
  recsWF := by
    intro x hx
    rcases List.mem_append.mp hx with hx | hx
    · exact h.recsWF x hx
    · simp at hx; subst hx; exact hr

theorem Durable.appends {cfg : Cfg} {ents : List (Key × Val × Option Int)} (recs : List Rec) (hwf : ∀ r ∈ recs, r.WF cfg.lim) :
    ∀ {fs : Fs} {rs : List Rec}, Durable cfg fs ents rs →
      Durable cfg (applyAll fs (recs.map (fun r => FsOp.append .log (encode cfg.crc r)))) ents (rs ++ recs) := by
  induction recs with
  | nil => intro fs rs h; rw [List.append_nil]; exact h
  | cons r rest ih =>
    intro fs rs h
    have := ih (fun x hx => hwf x (by simp [hx])) (Durable.append cfg fs ents rs h r (hwf r (by simp)))
    rwa [List.append_assoc] at this

theorem look_rep (l : Lim) (ents : List (Key × Val × Option Int)) (rs : List Rec) (k : Key) :
    (rep l ents rs).look k = foldKey l k rs ((snapState ents).look k) :=
  look_foldl_applyRec l rs k _

theorem rep_append_list (l : Lim) (ents : List (Key × Val × Option Int)) (rs rs' : List Rec) (k : Key) :
    (rep l ents (rs ++ rs')).look k = foldKey l k rs' ((rep l ents rs).look k) := by
  rw [look_rep, look_rep, foldKey_append]

theorem MemOK.upd {cfg : Cfg} {m : Mem} (h : MemOK cfg m) (k : Key) (a : Map.Chg Val) (b : Map.Chg ExpEnt) (n : Nat) (c : Option Ent)
    (hv : ∀ v, a.at (m.kv.get? k) = some v → 1 ≤ k.length ∧ k.length ≤ cfg.lim.maxKey ∧ v.length ≤ cfg.lim.maxVal)
    (hp : ∀ e, b.at (m.expiry.get? k) = some e → e.at_ ≤ cfg.lim.maxPlausible) : MemOK cfg (m.upd cfg k a b n c) := by
  refine ⟨?_, ?_, ?_⟩
  · rw [upd_kv]; exact Map.forall_chg m.kv k a h.valid hv
  · rw [upd_expiry]; exact Map.forall_chg m.expiry k b h.plaus hp
  · rw [upd_kv]; exact Map.nodup_chg m.kv k a h.nodup

/-- one critical section takes memory from `m` to `mF` and appends the records `recs` to the log (`W.sec`).  All the file side needs
to know about the records: replayed over anything that shows what `m` holds they show what `mF` holds
(to every reader from `now` on).  Whether the replay of a record agrees with the memory update it stands for is decided per call,
by `Sect.upd` (directly for `clear`: `opClear_sect`); `FInv`, the crash images, the batches are composition from there. -/
structure Sect (cfg : Cfg) (now : Int) (m mF : Mem) (recs : List Rec) : Prop where
  wf : ∀ r ∈ recs, r.WF cfg.lim
  eqv : ∀ k x, Eqv now x (m.look k) → Eqv now (foldKey cfg.lim k recs x) (mF.look k)
  ok : MemOK cfg mF

/-- no record: only what neither a replay nor a reader sees (cache, timers) may change -/
theorem Sect.quiet {cfg : Cfg} {now : Int} {m mF : Mem} (hl : mF.look = m.look) (ok : MemOK cfg mF) : Sect cfg now m mF [] :=
  ⟨nofun, fun k x hx => by rw [hl]; exact hx, ok⟩

theorem Sect.trans {cfg : Cfg} {now : Int} {m m1 m2 : Mem} {a b : List Rec} (h1 : Sect cfg now m m1 a) (h2 : Sect cfg now m1 m2 b) :
    Sect cfg now m m2 (a ++ b) :=
  ⟨fun r hr => (List.mem_append.mp hr).elim (h1.wf r) (h2.wf r),
   fun k x hx => by rw [foldKey_append]; exact h2.eqv k _ (h1.eqv k x hx), h2.ok⟩

theorem Sect.upd {cfg : Cfg} {now : Int} {m : Mem} (hm : MemOK cfg m) (k : Key) (a : Map.Chg Val) (b : Map.Chg ExpEnt) (n : Nat)
    (c : Option Ent) (r : Rec) (hr : r.key = k) (hwf : r.WF cfg.lim)
    (hkey : ∀ y, Eqv now y (m.look k) → Eqv now (applyKey cfg.lim r y) (m.newAt k a b))
    (hv : ∀ v, a.at (m.kv.get? k) = some v → 1 ≤ k.length ∧ k.length ≤ cfg.lim.maxKey ∧ v.length ≤ cfg.lim.maxVal)
    (hp : ∀ e, b.at (m.expiry.get? k) = some e → e.at_ ≤ cfg.lim.maxPlausible) :
    Sect cfg now m (m.upd cfg k a b n c) [r] := by
  subst hr
  refine ⟨fun x hx => by rw [List.mem_singleton.mp hx]; exact hwf, fun k' x hx => ?_, hm.upd _ a b n c hv hp⟩
  show Eqv now (if r.key = k' then applyKey cfg.lim r x else x) _
  rw [look_upd]
  split
  · next e => subst e; exact hkey x hx
  · exact hx

theorem FInv.sect {cfg : Cfg} {w : W} (hf : FInv cfg w) {mF : Mem} {recs : List Rec} (h : Sect cfg w.now w.mem mF recs) :
    FInv cfg (w.sec cfg mF recs) := by
  obtain ⟨hm, hn, -, hfs⟩ := sec_io cfg w mF recs
  refine .of_memOK (by rw [hn]; exact hf.pos) (by rw [hm]; exact h.ok) ?_
  obtain ⟨ents, rs, hd, he⟩ := hf.file
  refine ⟨ents, rs ++ recs, by rw [hfs]; exact hd.appends recs h.wf, fun k => ?_⟩
  rw [rep_append_list, hn, hm]
  exact h.eqv k _ (he k)

theorem look_snapApply (st : LState) (a : Key) (v : Val) (eo : Option Int) (k : Key) :
    (snapApply st (a, v, eo)).look k =
      if a = k then some (v, match eo with | none => st.exp.get? a | some e => some e) else st.look k := by
  cases eo with
  | none =>
    simp only [snapApply, LState.look, Map.get?_put]
    by_cases h : a = k <;> simp [h]
  | some e =>
    simp only [snapApply, LState.look, Map.get?_put]
    by_cases h : a = k <;> simp [h]

theorem exp_snapApply_other (st : LState) (a : Key) (v : Val) (eo : Option Int) (k : Key) (h : a ≠ k) :
    (snapApply st (a, v, eo)).exp.get? k = st.exp.get? k := by
  cases eo with
  | none => rfl
  | some e => simp [snapApply, Map.get?_put, h]

theorem look_snapFold (f : Key → Option Int) (kvl : List (Key × Val)) (hn : (Map.keys kvl).Nodup) (k : Key) :
    ∀ st : LState, (∀ x ∈ kvl, st.exp.get? x.1 = none) →
      ((kvl.map (fun x => (x.1, x.2, f x.1))).foldl snapApply st).look k
        = match Map.get? kvl k with
          | some v => some (v, f k)
          | none => st.look k := by
  induction kvl with
  | nil => intro st _; rfl
  | cons x r ih =>
    intro st hst
    obtain ⟨a, v⟩ := x
    simp only [Map.keys, List.map_cons, List.nodup_cons] at hn
    simp only [List.map_cons, List.foldl_cons]
    rw [ih hn.2 _ (fun y hy => by
      have hne : a ≠ y.1 := fun e => hn.1 (e ▸ List.mem_map.mpr ⟨y, hy, rfl⟩)
      rw [exp_snapApply_other _ _ _ _ _ hne]
      exact hst y (by simp [hy]))]
    simp only [Map.get?_cons]
    by_cases h : a = k
    · subst h
      have hnone : Map.get? r a = none :=
        Option.eq_none_iff_forall_ne_some.mpr fun v' hg => hn.1 ((Map.mem_keys_iff r a).mpr ⟨v', hg⟩)
      simp only [hnone, ↓reduceIte]
      rw [look_snapApply]
      simp only [↓reduceIte]
      have := hst (a, v) (by simp)
      simp only at this
      cases hf : f a <;> simp [this]
    · simp only [h, ↓reduceIte]
      cases hg : Map.get? r k with
      | some v' => rfl
      | none => simp only; rw [look_snapApply]; simp [h]

theorem look_snapState_survivors (cfg : Cfg) (w : W) (hn : (Map.keys w.mem.kv).Nodup) (k : Key) :
    (snapState (survivors w.mem w.now)).look k = (compactLocked cfg w).mem.look k := by
  unfold snapState survivors
  rw [look_snapFold w.mem.expOf _ (Map.nodup_filter _ _ hn) k {} (fun _ _ => rfl)]
  rw [look_compact]
  rw [Map.get?_filter_key w.mem.kv (fun a => !w.mem.expired w.now a)]
  unfold Mem.look
  cases hx : w.mem.expired w.now k with
  | true => simp [LState.look]
  | false =>
    simp only [Bool.not_false, ↓reduceIte, Bool.false_eq_true]
    cases hk : w.mem.kv.get? k <;> simp [LState.look]

theorem compact_fs (cfg : Cfg) (w : W) :
    (compactLocked cfg w).fs = { snap := some (encodeSnap cfg.lim (survivors w.mem w.now)), log := some [], tmp := none } := by
  simp [compactLocked, W.emit, FsOp.apply, Fs.set, Fs.get]

theorem survivors_length (m : Mem) (now : Int) : (survivors m now).length ≤ m.kv.length := by
  unfold survivors
  simp only [List.length_map]
  exact List.length_filter_le _ _

theorem survivors_wf (cfg : Cfg) (w : W) (hf : FInv cfg w) (x : Key × Val × Option Int) (hx : x ∈ survivors w.mem w.now) :
    EntWF cfg.lim x := by
  unfold survivors at hx
  obtain ⟨y, hy, rfl⟩ := List.mem_map.mp hx
  obtain ⟨hy1, hy2⟩ := List.mem_filter.mp hy
  have hget := Map.get?_of_mem_nodup w.mem.kv hf.nodup y.1 y.2 hy1
  obtain ⟨v1, v2, v3⟩ := hf.valid y.1 y.2 hget
  refine ⟨v1, v2, v3, ?_⟩
  intro e he
  simp only at he
  have hxf : w.mem.expired w.now y.1 = false := by simpa using hy2
  have hlt := (expired_false_iff w.mem w.now y.1).mp hxf e he
  unfold Mem.expOf at he
  cases hg : w.mem.expiry.get? y.1 with
  | none => rw [hg] at he; simp at he
  | some ent =>
    rw [hg] at he
    simp only [Option.map_some, Option.some.injEq] at he
    have hp := hf.plaus y.1 ent hg
    have hpos := hf.pos
    exact plausible_of (by omega) (by omega)

/-- `compactLocked` keeps the file-side invariant: the new snapshot alone replays to the memory left behind -/
theorem FInv.compact (cfg : Cfg) (w : W) (hf : FInv cfg w) (hc : w.mem.kv.length ≤ cfg.lim.snapCountMax) :
    FInv cfg (compactLocked cfg w) where
  pos := hf.pos
  valid := Map.forall_filter_key w.mem.kv (fun a => !w.mem.expired w.now a) hf.valid
  plaus := Map.forall_filter_key w.mem.expiry (fun a => !w.mem.expired w.now a) hf.plaus
  nodup := Map.nodup_filter _ _ hf.nodup
  file := by
    refine ⟨survivors w.mem w.now, [], ⟨.inr ?_, survivors_wf cfg w hf, ?_, ?_, by simp⟩, ?_⟩
    · rw [compact_fs]
    · have := survivors_length w.mem w.now; omega
    · rw [compact_fs]; rfl
    · intro k
      simp only [rep, List.foldl_nil]
      rw [look_snapState_survivors cfg w hf.nodup k]
      exact Eqv.refl _ _

theorem maybeCompact_or (cfg : Cfg) (w : W) : maybeCompact cfg w = w ∨ maybeCompact cfg w = compactLocked cfg w := by
  unfold maybeCompact; split
  · exact .inr rfl
  · exact .inl rfl

theorem FInv.maybeCompact (cfg : Cfg) (w : W) (hf : FInv cfg w) (hc : w.mem.kv.length ≤ cfg.lim.snapCountMax) :
    FInv cfg (maybeCompact cfg w) := by
  rcases maybeCompact_or cfg w with h | h
  · rw [h]; exact hf
  · rw [h]; exact FInv.compact cfg w hf hc

/-- after the epoch (`FInv.pos`) the saturated deadline of a positive TTL is a plausible (persistable, representable) expiry -/
theorem deadlineAfter_plausible (l : Lim) (hl : l.OK) (now ttl : Int) (hn : 0 < now) (ht : ¬ ttl ≤ 0) :
    plausible l (deadlineAfter l now ttl) = true ∧ deadlineAfter l now ttl ≤ l.maxPlausible := by
  have := hl.plausPos
  have hle : deadlineAfter l now ttl ≤ l.maxPlausible := by unfold deadlineAfter; omega
  exact ⟨plausible_of (by unfold deadlineAfter; omega) hle, hle⟩

/-- a call that is one critical section: memory becomes `mF`, records for pairwise different keys are logged (so after any prefix
of them every key shows its old or its new entry: what a crash needs), and then possibly `maybeCompact` -/
inductive IsSect (cfg : Cfg) (w : W) : W → Prop
  | plain (mF : Mem) (recs : List Rec) (h : Sect cfg w.now w.mem mF recs) (hd : recs.Pairwise (fun a b => a.key ≠ b.key)) :
      IsSect cfg w (w.sec cfg mF recs)
  | compact (mF : Mem) (recs : List Rec) (h : Sect cfg w.now w.mem mF recs) (hd : recs.Pairwise (fun a b => a.key ≠ b.key))
      (hc : mF.kv.length ≤ cfg.lim.snapCountMax) : IsSect cfg w (maybeCompact cfg (w.sec cfg mF recs))

theorem IsSect.refl {cfg : Cfg} {w : W} (hf : FInv cfg w) : IsSect cfg w w :=
  .plain w.mem [] (.quiet rfl hf.memOK) .nil

theorem FInv.isSect {cfg : Cfg} {w w' : W} (hf : FInv cfg w) (h : IsSect cfg w w') : FInv cfg w' := by
  cases h with
  | plain mF recs h _ => exact hf.sect h
  | compact mF recs h _ hc => exact FInv.maybeCompact cfg _ (hf.sect h) (by rw [(sec_io cfg w mF recs).1]; exact hc)

theorem IsSect.now {cfg : Cfg} {w w' : W} (h : IsSect cfg w w') : w'.now = w.now := by
  cases h with
  | plain mF recs => exact (sec_io cfg w mF recs).2.1
  | compact mF recs => exact (maybeCompact_now cfg _).trans (sec_io cfg w mF recs).2.1

theorem opSet_sect (cfg : Cfg) (w : W) (hf : FInv cfg w) (k : Key) (v : Val)
    (hc : w.mem.kv.length + 1 ≤ cfg.lim.snapCountMax) : IsSect cfg w (opSet cfg w k v).1 := by
  rw [opSet_eq]
  split
  · exact .refl hf
  · next hv =>
    have hk := validate_none hv
    refine .compact _ [.set k v] (.upd hf.memOK k _ _ _ _ _ rfl hk (fun _ _ => Eqv.refl _ _)
      (fun _ e => Option.some.inj e ▸ hk) (fun _ e => nomatch e)) (List.pairwise_singleton _ _) ?_
    rw [upd_kv]
    have := Map.length_chg_le w.mem.kv k (.put v)
    omega

theorem opSetTtl_sect (cfg : Cfg) (hl : cfg.lim.OK) (w : W) (hf : FInv cfg w) (k : Key) (v : Val) (ttl : Int)
    (hc : w.mem.kv.length + 1 ≤ cfg.lim.snapCountMax) : IsSect cfg w (opSetTtl cfg w k v ttl).1 := by
  rw [opSetTtl_eq]
  split
  · exact .refl hf
  · next h0 =>
    split
    · exact .refl hf
    · next hv =>
      have hk := validate_none hv
      obtain ⟨hpl, hle⟩ := deadlineAfter_plausible cfg.lim hl w.now ttl hf.pos h0
      refine .compact _ [.setE k v _] (.upd hf.memOK k _ _ _ _ _ rfl ⟨hk.1, hk.2.1, hk.2.2, hpl⟩ (fun _ _ => Eqv.refl _ _)
        (fun _ e => Option.some.inj e ▸ hk) (fun _ e => Option.some.inj e ▸ hle)) (List.pairwise_singleton _ _) ?_
      rw [upd_kv]
      have := Map.length_chg_le w.mem.kv k (.put v)
      omega

theorem opGet_sect (cfg : Cfg) (w : W) (hf : FInv cfg w) (k : Key) : IsSect cfg w (opGet cfg w k).1 := by
  rw [opGet_eq]
  split
  · exact .refl hf
  · split
    · exact .refl hf
    · split
      · exact .refl hf
      · split
        · exact .refl hf
        · exact .plain _ [] (.quiet (look_congr rfl rfl) ⟨hf.valid, hf.plaus, hf.nodup⟩) .nil

theorem opRemove_sect (cfg : Cfg) (w : W) (hf : FInv cfg w) (k : Key)
    (hc : w.mem.kv.length ≤ cfg.lim.snapCountMax) : IsSect cfg w (opRemove cfg w k) := by
  rw [opRemove_eq]
  split
  · exact .refl hf
  · split
    · next hh =>
      obtain ⟨v, hv⟩ := (Map.has_iff _ _).mp hh
      have hk := hf.valid k v hv
      refine .compact _ [.del k] (.upd hf.memOK k _ _ _ _ _ rfl ⟨hk.1, hk.2.1⟩ (fun _ _ => Eqv.refl _ _)
        (fun _ e => nomatch e) (fun _ e => nomatch e)) (List.pairwise_singleton _ _) ?_
      exact Nat.le_trans (Map.length_erase_le w.mem.kv k) hc
    · exact .refl hf

/-- under the guard of `expireAt` / `persist` the entry of `k` is visible, so whatever replays to an equivalent entry holds
the same value -/
theorem visible_entry {w : W} {k : Key} {v : Val} (hv : w.mem.kv.get? k = some v)
    (hx : w.mem.expired w.now k = false) {y : Option Ent} (hy : Eqv w.now y (w.mem.look k)) : ∃ eo, y = some (v, eo) := by
  have h := Eqv.iff_live.mp hy
  rw [show live w.now (w.mem.look k) = some (v, w.mem.expOf k) from abs_some w k v hv hx] at h
  match y with
  | none => simp [live] at h
  | some (v', none) => simp [live] at h; exact ⟨none, by rw [h.1]⟩
  | some (v', some e') =>
    by_cases hl : w.now < e'
    · simp [live, hl] at h; exact ⟨some e', by rw [h.1]⟩
    · simp [live, hl] at h

theorem opExpireAt_sect (cfg : Cfg) (hl : cfg.lim.OK) (w : W) (hf : FInv cfg w) (k : Key) (t : Int)
    (ht : t ≤ cfg.lim.maxPlausible) : IsSect cfg w (opExpireAt cfg w k t) := by
  rw [opExpireAt_eq]
  split
  · exact .refl hf
  · split
    · exact .refl hf
    · next hb =>
      obtain ⟨v, hv, hx⟩ := visible_of_guard hb
      have hk := hf.valid k v hv
      have hpos := hf.pos
      have hpl : plausible cfg.lim (max t 1) = true := by
        have := hl.plausPos
        exact plausible_of (by omega) (by omega)
      refine .plain _ [.exp k (max t 1)] (.upd hf.memOK k _ _ _ _ _ rfl ⟨hk.1, hk.2.1, .inr hpl⟩ ?_
        (fun v' hv' => hf.valid k v' hv') (fun _ e => Option.some.inj e ▸ ht)) (List.pairwise_singleton _ _)
      intro y hy
      obtain ⟨eo, rfl⟩ := visible_entry hv hx hy
      -- `expireAt` persists `max(when, 1)`: never the no-expiry sentinel INT64_MIN, never a non-positive instant
      have hs : max t 1 ≠ sentinel := by unfold sentinel; omega
      simp only [applyKey, hs, ↓reduceIte, hpl, Mem.newAt, Map.Chg.at, hv, Option.map_some]
      -- persisted `max t 1` vs `t` in memory: equal, or both in the past
      by_cases h1t : 1 ≤ t
      · have : max t 1 = t := by omega
        rw [this]; exact Eqv.refl _ _
      · have hm : max t 1 = 1 := by omega
        rw [hm]
        exact (Eqv.expired w.now v 1 (by omega)).trans (Eqv.expired w.now v t (by omega)).symm

theorem opPersist_sect (cfg : Cfg) (w : W) (hf : FInv cfg w) (k : Key) : IsSect cfg w (opPersist cfg w k) := by
  rw [opPersist_eq]
  split
  · exact .refl hf
  · split
    · exact .refl hf
    · next h1 =>
      split
      · exact .refl hf
      · split
        · exact .refl hf
        · next h3 =>
          obtain ⟨v, hv⟩ := (Map.has_iff w.mem.kv k).mp (by simpa using h1)
          have hk := hf.valid k v hv
          refine .plain _ [.exp k sentinel] (.upd hf.memOK k _ _ _ _ _ rfl ⟨hk.1, hk.2.1, .inl rfl⟩ ?_
            (fun v' hv' => hf.valid k v' hv') (fun _ e => nomatch e)) (List.pairwise_singleton _ _)
          intro y hy
          obtain ⟨eo, rfl⟩ := visible_entry hv (by simpa using h3) hy
          simp only [applyKey, ↓reduceIte, Mem.newAt, Map.Chg.at, hv, Option.map_some, Option.map_none]
          exact Eqv.refl _ _

theorem opEvictFire_sect (cfg : Cfg) (w : W) (hf : FInv cfg w)
    (hsub : ∀ k, (w.mem.expiry.get? k).isSome = true → (w.mem.kv.get? k).isSome = true) (k : Key) (gen : Nat) :
    IsSect cfg w (opEvictFire cfg w k gen) := by
  rw [opEvictFire_eq]
  split
  · exact .refl hf
  · next e he =>
    split
    · exact .refl hf
    · split
      · exact .plain _ [] (.quiet (look_rearm w.mem k e { e with timer := w.mem.nextTimer, due0 := false } he rfl _)
          ⟨hf.valid, Map.forall_chg w.mem.expiry k (.put { e with timer := w.mem.nextTimer, due0 := false }) hf.plaus
            (fun _ h => Option.some.inj h ▸ hf.plaus k e he), hf.nodup⟩) .nil
      · -- EVICT: the key is in `_expiry`, hence in `_kv`; the 'D' record deletes it on both sides
        obtain ⟨v, hv⟩ := (Map.has_iff _ _).mp (hsub k (by rw [he]; rfl))
        have hk := hf.valid k v hv
        exact .plain _ [.del k] (.upd hf.memOK k _ _ _ _ _ rfl ⟨hk.1, hk.2.1⟩ (fun _ _ => Eqv.refl _ _)
          (fun _ e => nomatch e) (fun _ e => nomatch e)) (List.pairwise_singleton _ _)

theorem FInv.set (cfg : Cfg) (w : W) (hf : FInv cfg w) (k : Key) (v : Val)
    (hc : w.mem.kv.length + 1 ≤ cfg.lim.snapCountMax) : FInv cfg (opSet cfg w k v).1 :=
  hf.isSect (opSet_sect cfg w hf k v hc)

theorem FInv.setTtl (cfg : Cfg) (hl : cfg.lim.OK) (w : W) (hf : FInv cfg w) (k : Key) (v : Val) (ttl : Int)
    (hc : w.mem.kv.length + 1 ≤ cfg.lim.snapCountMax) :
    FInv cfg (opSetTtl cfg w k v ttl).1 :=
  hf.isSect (opSetTtl_sect cfg hl w hf k v ttl hc)

theorem FInv.get (cfg : Cfg) (w : W) (hf : FInv cfg w) (k : Key) : FInv cfg (opGet cfg w k).1 :=
  hf.isSect (opGet_sect cfg w hf k)

theorem FInv.remove (cfg : Cfg) (w : W) (hf : FInv cfg w) (k : Key)
    (hc : w.mem.kv.length ≤ cfg.lim.snapCountMax) : FInv cfg (opRemove cfg w k) :=
  hf.isSect (opRemove_sect cfg w hf k hc)

theorem FInv.expireAt (cfg : Cfg) (hl : cfg.lim.OK) (w : W) (hf : FInv cfg w) (k : Key) (t : Int)
    (ht : t ≤ cfg.lim.maxPlausible) : FInv cfg (opExpireAt cfg w k t) :=
  hf.isSect (opExpireAt_sect cfg hl w hf k t ht)

theorem FInv.persist (cfg : Cfg) (w : W) (hf : FInv cfg w) (k : Key) : FInv cfg (opPersist cfg w k) :=
  hf.isSect (opPersist_sect cfg w hf k)

theorem FInv.evictFire (cfg : Cfg) (w : W) (hf : FInv cfg w)
    (hsub : ∀ k, (w.mem.expiry.get? k).isSome = true → (w.mem.kv.get? k).isSome = true) (k : Key) (gen : Nat) :
    FInv cfg (opEvictFire cfg w k gen) :=
  hf.isSect (opEvictFire_sect cfg w hf hsub k gen)

theorem pairwise_keys_map {α : Type} (g : α → Rec) (f : α → Key) (hg : ∀ x, (g x).key = f x) (l : List α)
    (h : (l.map f).Nodup) : (l.map g).Pairwise (fun a b => a.key ≠ b.key) := by
  rw [List.pairwise_map]
  have h' := List.pairwise_map.mp h
  exact h'.imp (fun hab => by rw [hg, hg]; exact hab)

/-- a valid batch is the composition of its one-record sections -/
theorem setAll_sect (cfg : Cfg) (now : Int) (eo : Option Int) (hpl : ∀ e, eo = some e → plausible cfg.lim e = true)
    (kvs : List (Key × Val)) (hb : batchBad cfg.lim kvs = false) :
    ∀ (m : Mem), MemOK cfg m → Sect cfg now m (m.setAll cfg eo kvs) (kvs.map (batchRec eo)) ∧
      (m.setAll cfg eo kvs).kv.length ≤ m.kv.length + kvs.length := by
  induction kvs with
  | nil => intro m h; exact ⟨.quiet rfl h, Nat.le_refl _⟩
  | cons x r ih =>
    intro m h
    obtain ⟨hx, hr⟩ := batchBad_valid _ _ _ hb
    have h1 : Sect cfg now m (m.upd cfg x.1 (.put x.2) (batchExp eo m).1 (batchExp eo m).2 (some (x.2, eo))) [batchRec eo x] := by
      refine .upd h x.1 _ _ _ _ _ (by cases eo <;> rfl) ?_ (fun y _ => ?_) (fun _ e => Option.some.inj e ▸ hx) (fun e' h' => ?_)
      · cases eo with
        | none => exact hx
        | some e => exact ⟨hx.1, hx.2.1, hx.2.2, hpl e rfl⟩
      · rw [newAt_batch]; cases eo <;> exact Eqv.refl _ _
      · cases eo with
        | none => cases h'
        | some e => cases h'; exact plausible_le (hpl e rfl)
    obtain ⟨h2, h3⟩ := ih hr _ h1.ok
    refine ⟨h1.trans h2, ?_⟩
    have := Map.length_chg_le m.kv x.1 (.put x.2)
    simp only [Mem.setAll, List.foldl_cons, upd_kv, List.length_cons] at h3 ⊢
    omega

/-- `FInv` for every batch; `IsSect`, which the crash side needs, only when the batch is a map (its keys are pairwise different) -/
theorem batch_sect (cfg : Cfg) (w : W) (hf : FInv cfg w) (eo : Option Int) (kvs : List (Key × Val))
    (hpl : ∀ e, eo = some e → plausible cfg.lim e = true) (hc : w.mem.kv.length + kvs.length ≤ cfg.lim.snapCountMax) :
    FInv cfg (batchCall cfg w eo kvs).1 ∧ ((kvs.map (·.1)).Nodup → IsSect cfg w (batchCall cfg w eo kvs).1) := by
  unfold batchCall
  split
  · exact ⟨hf, fun _ => .refl hf⟩
  · split
    · exact ⟨hf, fun _ => .refl hf⟩
    · next hb =>
      obtain ⟨hs, hlen⟩ := setAll_sect cfg w.now eo hpl kvs (by simpa using hb) w.mem hf.memOK
      exact ⟨FInv.maybeCompact cfg _ (hf.sect hs) (by rw [(sec_io cfg w _ _).1]; omega),
        fun hd => .compact _ _ hs (pairwise_keys_map (batchRec eo) (·.1) (fun x => by cases eo <;> rfl) kvs hd) (by omega)⟩

theorem opSetBatch_sect (cfg : Cfg) (w : W) (hf : FInv cfg w) (kvs : List (Key × Val))
    (hc : w.mem.kv.length + kvs.length ≤ cfg.lim.snapCountMax) :
    FInv cfg (opSetBatch cfg w kvs).1 ∧ ((kvs.map (·.1)).Nodup → IsSect cfg w (opSetBatch cfg w kvs).1) := by
  rw [opSetBatch_eq]
  exact batch_sect cfg w hf none kvs nofun hc

theorem opSetBatchTtl_sect (cfg : Cfg) (hl : cfg.lim.OK) (w : W) (hf : FInv cfg w) (kvs : List (Key × Val)) (ttl : Int)
    (hc : w.mem.kv.length + kvs.length ≤ cfg.lim.snapCountMax) :
    FInv cfg (opSetBatchTtl cfg w kvs ttl).1 ∧ ((kvs.map (·.1)).Nodup → IsSect cfg w (opSetBatchTtl cfg w kvs ttl).1) := by
  rw [opSetBatchTtl_eq]
  split
  · exact ⟨hf, fun _ => .refl hf⟩
  · next h0 =>
    exact batch_sect cfg w hf _ kvs (fun _ h => Option.some.inj h ▸ (deadlineAfter_plausible cfg.lim hl w.now ttl hf.pos h0).1) hc

theorem FInv.setBatch (cfg : Cfg) (w : W) (hf : FInv cfg w) (hi : MemInv w.mem) (hz : CacheOff cfg w.mem) (kvs : List (Key × Val))
    (hc : w.mem.kv.length + kvs.length ≤ cfg.lim.snapCountMax) : FInv cfg (opSetBatch cfg w kvs).1 := by
  -- the proof uses neither `hi` nor `hz`
  have _ := hi; have _ := hz
  exact (opSetBatch_sect cfg w hf kvs hc).1

theorem FInv.setBatchTtl (cfg : Cfg) (hl : cfg.lim.OK) (w : W) (hf : FInv cfg w) (hi : MemInv w.mem) (hz : CacheOff cfg w.mem)
    (kvs : List (Key × Val)) (ttl : Int) (hc : w.mem.kv.length + kvs.length ≤ cfg.lim.snapCountMax) :
    FInv cfg (opSetBatchTtl cfg w kvs ttl).1 := by
  have _ := hi; have _ := hz
  exact (opSetBatchTtl_sect cfg hl w hf kvs ttl hc).1

theorem foldKey_dels (l : Lim) (k : Key) (ks : List Key) :
    ∀ x, foldKey l k (ks.map Rec.del) x = if k ∈ ks then none else x := by
  induction ks with
  | nil => intro x; rfl
  | cons a r ih =>
    intro x
    rw [List.map_cons, foldKey_cons, ih]
    show (if k ∈ r then none else if a = k then none else x) = _
    by_cases e : a = k
    · subst e; simp
    · have : ¬ k = a := fun h => e h.symm
      simp [e, this]

/-- `clear`: a 'D' for every key (each key once), replayed they leave nothing -/
theorem opClear_sect (cfg : Cfg) (w : W) (hf : FInv cfg w) : IsSect cfg w (opClear cfg w) := by
  rw [opClear_eq]
  refine .compact _ _ ⟨fun r hr => ?_, fun k x hx => ?_, nofun, nofun, .nil⟩
    (pairwise_keys_map (fun x : Key × Val => Rec.del x.1) (·.1) (fun _ => rfl) w.mem.kv hf.nodup) (Nat.zero_le _)
  · obtain ⟨y, hy, rfl⟩ := List.mem_map.mp hr
    have := hf.valid y.1 y.2 (Map.get?_of_mem_nodup _ hf.nodup y.1 y.2 hy)
    exact ⟨this.1, this.2.1⟩
  · have hkeys : w.mem.kv.map (fun x => Rec.del x.1) = (Map.keys w.mem.kv).map Rec.del := by
      simp [Map.keys, List.map_map]
    rw [hkeys, foldKey_dels]
    show Eqv w.now _ none
    split
    · exact Eqv.refl _ _
    · next hk =>
      -- a key `_kv` does not hold is absent from memory, hence (to every reader) from the files
      have : w.mem.look k = none := by
        unfold Mem.look
        rw [Option.eq_none_iff_forall_ne_some.mpr fun v hg => hk ((Map.mem_keys_iff _ _).mpr ⟨v, hg⟩)]
      rwa [this] at hx

theorem FInv.clear (cfg : Cfg) (w : W) (hf : FInv cfg w) : FInv cfg (opClear cfg w) :=
  hf.isSect (opClear_sect cfg w hf)

theorem compact_kv_length (cfg : Cfg) (w : W) : (compactLocked cfg w).mem.kv.length ≤ w.mem.kv.length := by
  simp only [compactLocked]; exact List.length_filter_le _ _

theorem maybeCompact_kv_length (cfg : Cfg) (w : W) : (maybeCompact cfg w).mem.kv.length ≤ w.mem.kv.length := by
  rcases maybeCompact_or cfg w with h | h
  · rw [h]; exact Nat.le_refl _
  · rw [h]; exact compact_kv_length cfg w

theorem opRemove_kv_length (cfg : Cfg) (w : W) (k : Key) : (opRemove cfg w k).mem.kv.length ≤ w.mem.kv.length := by
  rw [opRemove_eq]
  split
  · exact Nat.le_refl _
  · split
    · refine Nat.le_trans (maybeCompact_kv_length cfg _) ?_
      rw [(sec_io cfg w _ _).1, upd_kv]
      exact Map.length_erase_le _ _
    · exact Nat.le_refl _

theorem removeFold_finv (cfg : Cfg) (ks : List Key) (w : W) (hf : FInv cfg w) (hc : w.mem.kv.length ≤ cfg.lim.snapCountMax) :
    FInv cfg (ks.foldl (opRemove cfg) w) ∧ (ks.foldl (opRemove cfg) w).mem.kv.length ≤ cfg.lim.snapCountMax :=
  List.foldlRecOn (motive := fun w => FInv cfg w ∧ w.mem.kv.length ≤ cfg.lim.snapCountMax) ks (opRemove cfg) ⟨hf, hc⟩
    fun w h a _ => ⟨FInv.remove cfg w h.1 a h.2, Nat.le_trans (opRemove_kv_length cfg w a) h.2⟩

theorem FInv.advance (cfg : Cfg) (w : W) (hf : FInv cfg w) (dt : Nat) : FInv cfg { w with now := w.now + dt } := by
  obtain ⟨ents, rs, hd, he⟩ := hf.file
  exact .of_memOK (by have := hf.pos; show 0 < w.now + dt; omega) hf.memOK
    ⟨ents, rs, hd, fun k => (he k).mono (by show w.now ≤ w.now + dt; omega)⟩

/-- `shutdown()`: the drain runs eviction callbacks -/
theorem shutdown_ok (cfg : Cfg) (l : List (Key × Nat)) (w : W) (hi : MInv cfg w.mem) (hf : FInv cfg w) :
    MInv cfg (l.foldl (fun w x => opEvictFire cfg w x.1 x.2) w).mem ∧ FInv cfg (l.foldl (fun w x => opEvictFire cfg w x.1 x.2) w)
      ∧ (l.foldl (fun w x => opEvictFire cfg w x.1 x.2) w).abs = w.abs :=
  List.foldlRecOn (motive := fun w' => MInv cfg w'.mem ∧ FInv cfg w' ∧ w'.abs = w.abs) l _ ⟨hi, hf, rfl⟩ fun w' h x _ =>
    ⟨(evictFire_ok cfg w' h.1 x.1 x.2).1, FInv.evictFire cfg w' h.2.1 h.1.1.sub x.1 x.2, (evictFire_ok cfg w' h.1 x.1 x.2).2.trans h.2.2⟩

/-- `postLoadArm` keeps every expiry -/
theorem armAll_get? (exp : Map Int) (n : Nat) (k : Key) : ((armAll exp n).1.get? k).map (·.at_) = exp.get? k := by
  induction exp with
  | nil => rfl
  | cons x r ih =>
    obtain ⟨a, e⟩ := x
    simp only [armAll, List.foldr_cons] at ih ⊢
    simp only [Map.get?_cons]
    by_cases h : a = k
    · simp [h]
    · simp only [h, ↓reduceIte]; exact ih

theorem armAll_keys (exp : Map Int) (n : Nat) : Map.keys (armAll exp n).1 = Map.keys exp := by
  induction exp with
  | nil => rfl
  | cons x r ih =>
    simp only [armAll, List.foldr_cons, Map.keys, List.map_cons] at ih ⊢
    rw [ih]

theorem look_memOfLoad (st : LState) (m0 : Mem) (k : Key) : (memOfLoad st m0).look k = st.look k := by
  simp only [memOfLoad, Mem.look, Mem.expOf, LState.look]
  rw [armAll_get? st.exp m0.nextTimer k]
  cases st.kv.get? k <;> rfl

theorem memOfLoad_exp (st : LState) (m0 : Mem) (k : Key) (e : ExpEnt) (h : (memOfLoad st m0).expiry.get? k = some e) :
    st.exp.get? k = some e.at_ := by
  have := armAll_get? st.exp m0.nextTimer k
  simp only [memOfLoad] at h
  rw [h] at this
  exact this.symm

theorem MemOK.memOfLoad {cfg : Cfg} {st : LState} (h : LOK cfg.lim st) (m0 : Mem) : MemOK cfg (memOfLoad st m0) :=
  ⟨h.valid, fun k e hg => h.plaus k e.at_ (memOfLoad_exp st m0 k e hg), h.wf.nodupKv⟩

theorem MemInv.memOfLoad (st : LState) (m0 : Mem) (hli : Map.KvWF st.kv st.exp) : MemInv (memOfLoad st m0) where
  cache := by intro x hx; cases hx
  sub := by
    intro k hk
    apply hli.sub k
    obtain ⟨e, he'⟩ := Option.isSome_iff_exists.mp hk
    rw [memOfLoad_exp st m0 k e he']; rfl
  nodupKv := hli.nodupKv
  nodupExp := by
    show (Map.keys (armAll st.exp m0.nextTimer).1).Nodup
    rw [armAll_keys]; exact hli.nodupExp
  noEmpty := hli.noEmpty

/-- complete snapshot (or none), complete records, then possibly a strict prefix of one more record; `<path>.tmp` arbitrary -/
structure TornDurable (cfg : Cfg) (img : Fs) (ents : List (Key × Val × Option Int)) (rs : List Rec) (p : Bytes) : Prop where
  snap : (img.snap = none ∧ ents = []) ∨ img.snap = some (encodeSnap cfg.lim ents)
  entsWF : ∀ x ∈ ents, EntWF cfg.lim x
  count : ents.length ≤ cfg.lim.snapCountMax
  log : img.log = some (rs.flatMap (encode cfg.crc) ++ p)
  recsWF : ∀ r ∈ rs, r.WF cfg.lim
  torn : p = [] ∨ ∃ r q, r.WF cfg.lim ∧ p ++ q = encode cfg.crc r ∧ q ≠ []

theorem Durable.torn (cfg : Cfg) (fs : Fs) (ents : List (Key × Val × Option Int)) (rs : List Rec) (h : Durable cfg fs ents rs) :
    TornDurable cfg fs ents rs [] :=
  ⟨h.snap, h.entsWF, h.count, by simp [h.log], h.recsWF, .inl rfl⟩

theorem TornDurable.durable {cfg : Cfg} {fs : Fs} {ents : List (Key × Val × Option Int)} {rs : List Rec}
    (h : TornDurable cfg fs ents rs []) : Durable cfg fs ents rs :=
  ⟨h.snap, h.entsWF, h.count, by simpa using h.log, h.recsWF⟩

/-- `tmp` is never read -/
theorem TornDurable.setTmp (cfg : Cfg) (img : Fs) (ents : List (Key × Val × Option Int)) (rs : List Rec) (p : Bytes)
    (h : TornDurable cfg img ents rs p) (d : Option Bytes) : TornDurable cfg (img.set .tmp d) ents rs p :=
  ⟨h.snap, h.entsWF, h.count, h.log, h.recsWF, h.torn⟩

theorem openStore_torn (cfg : Cfg) (hl : cfg.lim.OK) (img : Fs) (ents : List (Key × Val × Option Int)) (rs : List Rec) (p : Bytes)
    (hd : TornDurable cfg img ents rs p) (now : Int) :
    openStore cfg.lim cfg.crc img now
      = .ok (sweep now (rep cfg.lim ents rs), if p = [] then [] else [.trunc .log (rs.flatMap (encode cfg.crc)).length]) := by
  unfold openStore
  have hsnap : loadSnapOpt cfg.lim img.snap = .ok (snapState ents) := by
    rcases hd.snap with ⟨h1, h2⟩ | h1
    · rw [h1, h2]; rfl
    · rw [h1]; exact loadSnap_ok cfg.lim hl ents hd.entsWF hd.count
  rw [hsnap, hd.log]
  simp only
  by_cases hp : p = []
  · subst hp
    rw [List.append_nil, replayLoop_records_all cfg.lim hl cfg.crc rs hd.recsWF]
    simp [rep]
  · rcases hd.torn with h | ⟨r, q, hr, hpq, hq⟩
    · exact absurd h hp
    · rw [replayLoop_records_torn cfg.lim hl cfg.crc rs hd.recsWF r hr p q hpq hq]
      simp [rep, hp]

/-- the whole invariant of a quiescent store -/
structure Inv (cfg : Cfg) (w : W) : Prop where
  mem : MemInv w.mem
  file : FInv cfg w
  /-- `maxCacheSize == 0`: the cache is never filled -/
  cacheOff : CacheOff cfg w.mem

theorem Inv.minv {cfg : Cfg} {w : W} (h : Inv cfg w) : MInv cfg w.mem := ⟨h.mem, h.cacheOff⟩

/-- **recovery (D4 core).** A new process on any `TornDurable` directory: the constructor succeeds, cuts the torn tail, and the new
store satisfies the full invariant again.  Its memory is the swept replay of the complete part. -/
theorem open_torn (cfg : Cfg) (hl : cfg.lim.OK) (w : W) (ents : List (Key × Val × Option Int)) (rs : List Rec) (p : Bytes)
    (hd : TornDurable cfg w.fs ents rs p) (ht : 0 < w.now) :
    (opOpen cfg w).2 = .ok ∧ Inv cfg (opOpen cfg w).1 ∧ (opOpen cfg w).1.now = w.now ∧
    (∀ k, (opOpen cfg w).1.mem.look k = (sweep w.now (rep cfg.lim ents rs)).look k) := by
  unfold opOpen
  rw [openStore_torn cfg hl w.fs ents rs p hd w.now]
  simp only
  have hlo : LOK cfg.lim (sweep w.now (rep cfg.lim ents rs)) :=
    LOK.sweep _ _ _ (LOK.foldl cfg.lim hl rs hd.recsWF _ (LOK.snapState cfg.lim hl ents hd.entsWF))
  have hfs : Durable cfg ((if p = [] then [] else [FsOp.trunc .log (rs.flatMap (encode cfg.crc)).length]).foldl W.emit w).fs
      ents rs := by
    by_cases hp : p = []
    · subst hp
      simp only [↓reduceIte, List.foldl_nil]
      exact hd.durable
    · simp only [hp, ↓reduceIte, List.foldl_cons, List.foldl_nil, W.emit, FsOp.apply, Fs.get, hd.log, Option.getD_some]
      refine ⟨by simpa [Fs.set] using hd.snap, hd.entsWF, hd.count, ?_, hd.recsWF⟩
      simp [Fs.set, List.take_left']
  have hnow : ((if p = [] then [] else [FsOp.trunc .log (rs.flatMap (encode cfg.crc)).length]).foldl W.emit w).now = w.now := by
    by_cases hp : p = [] <;> simp [hp, W.emit]
  refine ⟨trivial, ⟨MemInv.memOfLoad _ _ hlo.wf, .of_memOK (by rw [hnow]; exact ht) (.memOfLoad hlo _) ?_, fun _ => rfl⟩, hnow, ?_⟩
  · refine ⟨ents, rs, hfs, ?_⟩
    intro k
    show Eqv _ _ ((memOfLoad _ _).look k)
    rw [look_memOfLoad, hnow]
    rw [look_sweep]
    exact (Eqv.live_left _ _).symm
  · intro k
    show (memOfLoad _ _).look k = _
    rw [look_memOfLoad]

/-- the constructor on the directory of a cleanly closed store: **restart** -/
theorem open_ok (cfg : Cfg) (hl : cfg.lim.OK) (w : W) (hf : FInv cfg w) :
    Inv cfg (opOpen cfg w).1 ∧ (opOpen cfg w).1.abs = w.abs ∧ (opOpen cfg w).2 = .ok := by
  obtain ⟨ents, rs, hd, he⟩ := hf.file
  obtain ⟨h1, h2, h3, h4⟩ := open_torn cfg hl w ents rs [] hd.torn hf.pos
  refine ⟨h2, ?_, h1⟩
  unfold W.abs
  rw [h3]
  simp only [SpecSt.mk.injEq, and_true]
  funext k
  rw [h4, look_sweep, live_idem, Eqv.iff_live.mp (he k)]

theorem reopen_ok (cfg : Cfg) (hl : cfg.lim.OK) (w : W) (hi : MInv cfg w.mem) (hf : FInv cfg w) :
    Inv cfg (opReopen cfg w).1 ∧ (opReopen cfg w).1.abs = w.abs ∧ (opReopen cfg w).2 = .ok := by
  unfold opReopen opShutdown
  obtain ⟨_, h2, h3⟩ := shutdown_ok cfg (drainFires w.mem) w hi hf
  obtain ⟨a, c, d⟩ := open_ok cfg hl _ h2
  exact ⟨a, by rw [c, h3], d⟩

theorem FInv.resetTr (cfg : Cfg) (w : W) (hf : FInv cfg w) : FInv cfg { w with tr := [] } :=
  .of_memOK hf.pos hf.memOK hf.file

/-- an upper bound on the keys an operation adds (a batch that overwrites adds fewer) -/
def Op.adds : Op → Nat
  | .set _ _ => 1
  | .setTtl _ _ _ => 1
  | .setBatch kvs => kvs.length
  | .setBatchTtl kvs _ => kvs.length
  | _ => 0

/-- side conditions under which the on-disk format can represent what an operation does: the entry count of a snapshot
fits its 32-bit count field (`snapCountMax`), and the `time_point` handed to `expireAt` is representable (`≤ kMaxPlausibleEpochMs`, the last
millisecond a `system_clock::time_point` holds).  TTLs need no side condition: the deadline saturates. -/
def StepOK (cfg : Cfg) (w : W) (op : Op) : Prop :=
  w.mem.kv.length + op.adds ≤ cfg.lim.snapCountMax ∧
  (match op with
   | .expireAt _ t => t ≤ cfg.lim.maxPlausible
   | _ => True)

theorem step_finv (cfg : Cfg) (hl : cfg.lim.OK) (w : W) (hi : Inv cfg w) (op : Op) (hok : StepOK cfg w op) :
    FInv cfg (step cfg w op).1 := by
  have hf := FInv.resetTr cfg w hi.file
  have him : MemInv ({ w with tr := [] } : W).mem := hi.mem
  obtain ⟨hc, ht⟩ := hok
  unfold step
  cases op with
  | set k v => exact FInv.set cfg _ hf k v hc
  | setTtl k v ttl => exact FInv.setTtl cfg hl _ hf k v ttl hc
  | setBatch kvs => exact FInv.setBatch cfg _ hf him hi.cacheOff kvs hc
  | setBatchTtl kvs ttl => exact FInv.setBatchTtl cfg hl _ hf him hi.cacheOff kvs ttl hc
  | get k => exact FInv.get cfg _ hf k
  | remove k => exact FInv.remove cfg _ hf k (by simp only [Op.adds] at hc; exact hc)
  | removeWithPrefix p ord =>
    exact (removeFold_finv cfg _ _ hf (by simp only [Op.adds] at hc; exact hc)).1
  | clear => exact FInv.clear cfg _ hf
  | expireAt k t => exact FInv.expireAt cfg hl _ hf k t ht
  | persist k => exact FInv.persist cfg _ hf k
  | compact => exact FInv.compact cfg _ hf (by simp only [Op.adds] at hc; exact hc)
  | advance dt => exact FInv.advance cfg _ hf dt
  | evictFire k g => exact FInv.evictFire cfg _ hf him.sub k g
  | reopen => exact (reopen_ok cfg hl { w with tr := [] } hi.minv hf).1.file

/-- **simulation of one step**, every operation: the invariants are kept, the abstract state moves as the reference
map says, the result is what the reference map allows -/
theorem step_ok (cfg : Cfg) (hl : cfg.lim.OK) (w : W) (hi : Inv cfg w) (op : Op) (hok : StepOK cfg w op) :
    Inv cfg (step cfg w op).1 ∧ (step cfg w op).1.abs = specStep cfg.lim w.abs op
      ∧ OutOK cfg.lim w.abs op (step cfg w op).2 := by
  have hfin := step_finv cfg hl w hi op hok
  have hm : MInv cfg ({ w with tr := [] } : W).mem := hi.minv
  by_cases hre : op = .reopen
  · subst hre
    exact reopen_ok cfg hl _ hm (FInv.resetTr cfg w hi.file)
  · obtain ⟨a, b, c⟩ := step_mem_ok cfg w hm op hre
    exact ⟨⟨a.1, hfin, a.2⟩, b, c⟩

def RunOK (cfg : Cfg) : W → List Op → Prop
  | _, [] => True
  | w, op :: ops => StepOK cfg w op ∧ RunOK cfg (step cfg w op).1 ops

def OutsOK (cfg : Cfg) : W → SpecSt → List Op → Prop
  | _, _, [] => True
  | w, s, op :: ops => OutOK cfg.lim s op (step cfg w op).2 ∧ OutsOK cfg (step cfg w op).1 (specStep cfg.lim s op) ops

theorem run_ok (cfg : Cfg) (hl : cfg.lim.OK) (ops : List Op) :
    ∀ (w : W), Inv cfg w → RunOK cfg w ops →
      Inv cfg (run cfg w ops) ∧ (run cfg w ops).abs = specRun cfg.lim w.abs ops ∧ OutsOK cfg w w.abs ops := by
  induction ops with
  | nil => intro w hi _; exact ⟨hi, rfl, trivial⟩
  | cons op ops ih =>
    intro w hi hok
    obtain ⟨h1, h2, h3⟩ := step_ok cfg hl w hi op hok.1
    obtain ⟨a, b, c⟩ := ih _ h1 hok.2
    refine ⟨a, ?_, h3, ?_⟩
    · show (run cfg (step cfg w op).1 ops).abs = specRun cfg.lim (specStep cfg.lim w.abs op) ops
      rw [b, h2]
    · rw [← h2]; exact c

theorem run_append (cfg : Cfg) (a b : List Op) : ∀ w : W, run cfg w (a ++ b) = run cfg (run cfg w a) b := by
  induction a with
  | nil => intro w; rfl
  | cons o r ih => intro w; exact ih _

/-- a history, then a clean close and a new instance: the reference map after the history -/
theorem run_reopen_ok (cfg : Cfg) (hl : cfg.lim.OK) (ops : List Op) (w : W) (hi : Inv cfg w) (hok : RunOK cfg w ops) :
    (run cfg w (ops ++ [.reopen])).abs = specRun cfg.lim w.abs ops := by
  obtain ⟨h1, h2, _⟩ := run_ok cfg hl ops w hi hok
  rw [run_append]
  exact (reopen_ok cfg hl { run cfg w ops with tr := [] } h1.minv (FInv.resetTr cfg _ h1.file)).2.1.trans h2

theorem init_eq (cfg : Cfg) (now : Int) (ch : List Nat) :
    W.init cfg now ch = { mem := memOfLoad (sweep now {}) { choices := ch }, fs := { log := some [] }, tr := [.append .log []], now := now } := by
  simp [W.init, opOpen, openStore, loadSnapOpt, W.emit, FsOp.apply, Fs.set, Fs.get]

theorem init_inv (cfg : Cfg) (now : Int) (hn : 0 < now) (ch : List Nat) : Inv cfg (W.init cfg now ch) := by
  rw [init_eq]
  have hli := (LOK.init cfg.lim).sweep cfg.lim now {}
  refine ⟨MemInv.memOfLoad _ _ hli.wf, .of_memOK hn (.memOfLoad hli _) ?_, fun _ => rfl⟩
  · refine ⟨[], [], ⟨.inl ⟨rfl, rfl⟩, by simp, Nat.zero_le _, rfl, by simp⟩, ?_⟩
    intro k
    exact Eqv.of_eq (by simp [rep, snapState, LState.look, look_memOfLoad, sweep])

theorem init_abs (cfg : Cfg) (now : Int) (ch : List Nat) :
    (W.init cfg now ch).abs = { m := fun _ => none, now := now } := by
  rw [init_eq]
  unfold W.abs
  simp only [SpecSt.mk.injEq, and_true]
  funext k
  rw [look_memOfLoad]
  simp [sweep, LState.look, live]

end Iora.Kv
