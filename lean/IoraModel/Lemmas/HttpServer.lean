import IoraModel.Model.HttpServerFraming
import IoraModel.Lemmas.HttpClient
import IoraModel.Common.Framing
/-
Stability of the server framing model: once the request extractor has answered with a request or a close, bytes that follow change
nothing.  So it is a stable frame parser (`stableParser`, DESIGN §6.6), and `handleIncomingData` over a list of reads is the generic
greedy receive loop on some first reads, all of them while the buffer cap is kept (`srvFeed_feed`).  What acceptance guarantees
stands at the end: the header scan (`ScanKnows`: S3, S6) and the chunk-size digits (S6b).
-/
namespace Iora.Http.Srv
open Iora Iora.Http

theorem trailerEnd_append (data x : Bytes) (pos e : Nat) (h : trailerEnd data pos = some e) :
    trailerEnd (data ++ x) pos = some e ∧ pos + 2 ≤ e ∧ e ≤ data.length := by
  induction pos using trailerEnd.induct data with
  | case1 p hlt hf => rw [trailerEnd] at h; simp [hlt, hf] at h
  | case2 p hlt hf =>
    obtain ⟨hf', hle⟩ := findAux_drop_append crlf data x p 0 hf
    simp only [crlf, List.length_cons, List.length_nil] at hle
    rw [trailerEnd] at h ⊢
    simp only [hlt, show p < (data ++ x).length by simp; omega, ↓reduceDIte, hf, hf', ↓reduceIte] at h ⊢
    cases h
    exact ⟨rfl, by omega, by omega⟩
  | case3 p hlt off hf hne ih =>
    obtain ⟨hf', hle⟩ := findAux_drop_append crlf data x p off hf
    rw [trailerEnd] at h ⊢
    simp only [hlt, show p < (data ++ x).length by simp; omega, ↓reduceDIte, hf, hf', if_neg hne] at h ⊢
    have := ih h
    exact ⟨this.1, by omega, this.2.2⟩
  | case4 p hlt => rw [trailerEnd] at h; simp [hlt] at h

theorem scanStep_append (mb : Nat) (data x : Bytes) (pos : Nat) (r : ScanStep)
    (h : scanStep mb data pos = r) (hr : r ≠ .needMore) :
    scanStep mb (data ++ x) pos = r ∧ (∀ e, r = .last e → pos < e ∧ e ≤ data.length) ∧
      (∀ p c, r = .next p c → p ≤ data.length) := by
  unfold scanStep at h ⊢
  cases hf : findAux crlf (data.drop pos) 0 with
  | none => rw [hf] at h; exact absurd h.symm hr
  | some off =>
    obtain ⟨hf', hle⟩ := findAux_drop_append crlf data x pos off hf
    simp only [crlf, List.length_cons, List.length_nil] at hle
    rw [hf] at h
    rw [hf']
    simp only [take_drop_append data x pos off (by omega)] at h ⊢
    cases hs : sizeLine mb ((data.drop pos).take off) with
    | none => rw [hs] at h; dsimp only at h ⊢; subst h; exact ⟨rfl, fun _ h => (nomatch h), fun _ _ h => (nomatch h)⟩
    | some size =>
      rw [hs] at h
      simp only at h ⊢
      by_cases hz : size = 0
      · simp only [hz, ↓reduceIte] at h ⊢
        cases ht : trailerEnd data (pos + off + 2) with
        | none => rw [ht] at h; exact absurd h.symm hr
        | some e =>
          obtain ⟨t1, t2, t3⟩ := trailerEnd_append data x _ e ht
          rw [ht] at h
          rw [t1]
          dsimp only at h ⊢
          subst h
          exact ⟨rfl, fun e' he' => (by cases he'; omega), fun _ _ h => (nomatch h)⟩
      · simp only [hz, ↓reduceIte] at h ⊢
        by_cases hlen : data.length - (pos + off + 2) < size + 2
        · simp only [hlen, ↓reduceIte] at h; exact absurd h.symm hr
        · have hg1 : (data ++ x)[pos + off + 2 + size]? = data[pos + off + 2 + size]? :=
            List.getElem?_append_left (by omega)
          have hg2 : (data ++ x)[pos + off + 2 + size + 1]? = data[pos + off + 2 + size + 1]? :=
            List.getElem?_append_left (by omega)
          rw [if_neg hlen] at h
          rw [if_neg (by simp only [List.length_append]; omega), hg1, hg2,
            take_drop_append data x (pos + off + 2) size (by omega)]
          refine ⟨h, ?_, ?_⟩
          · intro e he; subst he; split at h <;> cases h
          · intro p c hp
            subst hp
            split at h
            · cases h
            · cases h; omega

theorem scanStep_next_le {mb : Nat} {data : Bytes} {pos p : Nat} {c : Bytes} (h : scanStep mb data pos = .next p c) :
    p ≤ data.length :=
  (scanStep_append mb data [] pos _ h (by simp)).2.2 p c rfl

theorem chunkScan_oob (mb : Nat) (data : Bytes) (pos : Nat) (dec : Bytes) (h : ¬ pos < data.length) :
    chunkScan mb data pos dec = .needMore := by
  rw [chunkScan, dif_neg h]

theorem chunkScan_step (mb : Nat) (data : Bytes) (pos : Nat) (dec : Bytes) (h : pos < data.length) :
    chunkScan mb data pos dec =
      match scanStep mb data pos with
      | .needMore => .needMore
      | .malformed => .malformed
      | .last e => .done e dec
      | .next p c => chunkScan mb data p (dec ++ c) := by
  rw [chunkScan, dif_pos h]; split <;> simp_all

theorem chunkScan_append (mb : Nat) (data x : Bytes) (pos : Nat) (dec : Bytes) (r : Scan)
    (h : chunkScan mb data pos dec = r) (hr : r ≠ .needMore) :
    chunkScan mb (data ++ x) pos dec = r ∧ ∀ e d, r = .done e d → pos < e ∧ e ≤ data.length := by
  induction pos, dec using chunkScan.induct mb data with
  | case1 p d hlt hs => rw [chunkScan_step mb data p d hlt, hs] at h; exact absurd h.symm hr
  | case2 p d hlt hs =>
    have hlt' : p < (data ++ x).length := by simp; omega
    rw [chunkScan_step mb data p d hlt, hs] at h
    rw [chunkScan_step mb (data ++ x) p d hlt', (scanStep_append mb data x p _ hs (by simp)).1]
    subst h
    exact ⟨rfl, by intro e d h; cases h⟩
  | case3 p d hlt e hs =>
    have hlt' : p < (data ++ x).length := by simp; omega
    rw [chunkScan_step mb data p d hlt, hs] at h
    rw [chunkScan_step mb (data ++ x) p d hlt', (scanStep_append mb data x p _ hs (by simp)).1]
    subst h
    refine ⟨rfl, ?_⟩
    intro e' d' h'; cases h'
    exact (scanStep_append mb data x p _ hs (by simp)).2.1 e rfl
  | case4 p d hlt p2 c hs ih =>
    have hlt' : p < (data ++ x).length := by simp; omega
    rw [chunkScan_step mb data p d hlt, hs] at h
    rw [chunkScan_step mb (data ++ x) p d hlt', (scanStep_append mb data x p _ hs (by simp)).1]
    have := ih h
    refine ⟨this.1, ?_⟩
    intro e d' hd
    have hlt2 := scanStep_next_lt mb data p p2 c hs
    have := this.2 e d' hd
    omega
  | case5 p d hlt => rw [chunkScan_oob mb data p d hlt] at h; exact absurd h.symm hr

/-- the header section `hd`, found to end at offset `he`, makes `extractOne` close: too long, refused by the header scan, or with framing
fields the server does not frame -/
def HeadRejected (he : Nat) (hd : Bytes) : Prop :=
  he > Gen.Http.serverMaxHeaderSize ∨ scanHeaderLines (getLines hd) {} = none ∨
    ∃ hs, scanHeaderLines (getLines hd) {} = some hs ∧
      ((hs.haveTE = true ∧ ¬ hs.isChunked = true) ∨ (hs.isChunked = true ∧ hs.haveCL = true))

/-- … or is accepted, and the header scan ends in `hs` -/
def HeadAccepted (he : Nat) (hd : Bytes) (hs : HdrScan) : Prop :=
  he ≤ Gen.Http.serverMaxHeaderSize ∧ scanHeaderLines (getLines hd) {} = some hs ∧
    ¬ (hs.haveTE = true ∧ ¬ hs.isChunked = true) ∧ ¬ (hs.isChunked = true ∧ hs.haveCL = true)

theorem head_cases (he : Nat) (hd : Bytes) : HeadRejected he hd ∨ ∃ hs, HeadAccepted he hd hs := by
  by_cases hgt : he > Gen.Http.serverMaxHeaderSize
  · exact .inl (.inl hgt)
  · cases hsc : scanHeaderLines (getLines hd) {} with
    | none => exact .inl (.inr (.inl hsc))
    | some hs =>
      by_cases hbad : (hs.haveTE = true ∧ ¬ hs.isChunked = true) ∨ (hs.isChunked = true ∧ hs.haveCL = true)
      · exact .inl (.inr (.inr ⟨hs, hsc, hbad⟩))
      · exact .inr ⟨hs, Nat.not_lt.mp hgt, hsc, fun h => hbad (.inl h), fun h => hbad (.inr h)⟩

/-! `extractOne` by its three ways out of the header section; with `head_cases` they are its case analysis. -/

theorem extractOne_noHead {buf : Bytes} (hf : find crlf2 buf 0 = none) : extractOne buf = .needMore := by
  simp only [extractOne, hf]

theorem extractOne_rejected {buf : Bytes} {he : Nat} (hf : find crlf2 buf 0 = some he) (h : HeadRejected he (buf.take he)) :
    extractOne buf = .close := by
  unfold extractOne
  rw [hf]
  rcases h with hgt | hsc | ⟨hs, hsc, hte | hboth⟩
  · simp [hgt]
  · simp [hsc]
  · simp [hsc, hte]
  · simp [hsc, hboth]

theorem extractOne_accepted {buf : Bytes} {he : Nat} {hs : HdrScan} (hf : find crlf2 buf 0 = some he)
    (h : HeadAccepted he (buf.take he) hs) :
    extractOne buf =
      if hs.isChunked = true then
        match findChunkedRequestEnd buf (he + 4) with
        | .malformed => .close
        | .needMore => .needMore
        | .done e decoded => .request (buf.take (he + 4) ++ decoded) e
      else if buf.length < he + 4 + hs.contentLength then .needMore
      else .request (buf.take (he + 4 + hs.contentLength)) (he + 4 + hs.contentLength) := by
  obtain ⟨hle, hsc, h1, h2⟩ := h
  unfold extractOne
  rw [hf]
  simp only [Nat.not_lt.mpr hle, ↓reduceIte, hsc, if_neg h1, if_neg h2]
  rfl

theorem extractOne_request (buf raw : Bytes) (n : Nat) (h : extractOne buf = .request raw n) :
    ∃ he hs, find crlf2 buf 0 = some he ∧ HeadAccepted he (buf.take he) hs := by
  cases hf : find crlf2 buf 0 with
  | none => rw [extractOne_noHead hf] at h; cases h
  | some he =>
    rcases head_cases he (buf.take he) with hrej | ⟨hs, hacc⟩
    · rw [extractOne_rejected hf hrej] at h; cases h
    · exact ⟨he, hs, rfl, hacc⟩

/-- what lies before `he + 4` is the same in `buf ++ x` -/
theorem head_append {buf : Bytes} {he : Nat} (x : Bytes) (hf : find crlf2 buf 0 = some he) :
    find crlf2 (buf ++ x) 0 = some he ∧ (buf ++ x).take he = buf.take he ∧
      (buf ++ x).take (he + 4) = buf.take (he + 4) ∧ he + 4 ≤ buf.length := by
  have hb := find_bounds crlf2 buf _ _ hf
  simp only [crlf2, List.length_cons, List.length_nil] at hb
  exact ⟨find_append_some _ _ _ _ _ hf, List.take_append_of_le_length (by omega), List.take_append_of_le_length (by omega),
    by omega⟩

theorem extractOne_append (buf x : Bytes) (r : Extract) (h : extractOne buf = r) (hr : r ≠ .needMore) :
    extractOne (buf ++ x) = r ∧ ∀ raw n, r = .request raw n → 0 < n ∧ n ≤ buf.length := by
  subst h
  cases hf : find crlf2 buf 0 with
  | none => exact absurd (extractOne_noHead hf) hr
  | some he =>
    obtain ⟨hf', ht, ht4, hb⟩ := head_append x hf
    rcases head_cases he (buf.take he) with hrej | ⟨hs, hacc⟩
    · rw [extractOne_rejected hf hrej, extractOne_rejected hf' (ht ▸ hrej)]
      exact ⟨rfl, nofun⟩
    · -- the declared body lies within `buf`; the chunk scan is `chunkScan_append`
      rw [extractOne_accepted hf hacc] at hr ⊢
      rw [extractOne_accepted hf' (ht ▸ hacc), ht4]
      by_cases hc : hs.isChunked = true
      · simp only [if_pos hc] at hr ⊢
        unfold findChunkedRequestEnd at hr ⊢
        cases hcs : chunkScan Gen.Http.serverMaxBodySize buf (he + 4) [] with
        | needMore => rw [hcs] at hr; exact absurd rfl hr
        | malformed =>
          rw [(chunkScan_append _ buf x _ _ _ hcs (by simp)).1]
          exact ⟨rfl, nofun⟩
        | done e dec =>
          obtain ⟨hcs', hle⟩ := chunkScan_append _ buf x _ _ _ hcs (by simp)
          rw [hcs']
          refine ⟨rfl, ?_⟩
          intro raw n hrn; cases hrn
          have := hle e dec rfl
          omega
      · simp only [if_neg hc] at hr ⊢
        by_cases hlen : buf.length < he + 4 + hs.contentLength
        · rw [if_pos hlen] at hr; exact absurd rfl hr
        · rw [if_neg hlen, if_neg (by simp only [List.length_append]; omega),
            List.take_append_of_le_length (Nat.not_lt.mp hlen)]
          refine ⟨rfl, ?_⟩
          intro raw n hrn; cases hrn
          omega

theorem extractOne_request_le {buf raw : Bytes} {n : Nat} (h : extractOne buf = .request raw n) : 0 < n ∧ n ≤ buf.length :=
  (extractOne_append buf [] _ h (by simp)).2 raw n rfl

/-- one extracted item: a dispatched request, or the I/O thread's close -/
abbrev Item := Option Ev

/-- `extractOne` as a frame parser in the sense of `Common/Framing.lean` -/
def parser (d : Bytes) : Framing.Res Item :=
  match extractOne d with
  | .needMore => .more
  | .close => .fatal none
  | .request raw n => .frame (some (dispatch raw)) n

/-- the request extractor is stable for ALL buffers: a `Framing.Stable` parser whose guard `G` is `True` -/
def stableParser : Framing.Stable Item (fun _ => True) where
  p := parser
  pos := by
    intro d a n h
    unfold parser at h
    cases he : extractOne d with
    | needMore => rw [he] at h; cases h
    | close => rw [he] at h; cases h
    | request raw k =>
      rw [he] at h; cases h
      exact (extractOne_append d [] _ he (by simp)).2 raw n rfl
  ext_frame := by
    intro d a n x _ h
    unfold parser at h ⊢
    cases he : extractOne d with
    | needMore => rw [he] at h; cases h
    | close => rw [he] at h; cases h
    | request raw k =>
      rw [he] at h
      rw [(extractOne_append d x _ he (by simp)).1]
      exact h
  ext_fatal := by
    intro d e x _ h
    unfold parser at h ⊢
    cases he : extractOne d with
    | needMore => rw [he] at h; cases h
    | request raw k => rw [he] at h; cases h
    | close =>
      rw [he] at h
      rw [(extractOne_append d x _ he (by simp)).1]
      exact h
  g_drop := by intros; trivial
  g_prefix := by intros; trivial

theorem stableParser_request {d raw : Bytes} {n : Nat} (h : extractOne d = .request raw n) :
    stableParser.p d = .frame (some (dispatch raw)) n := by
  show parser d = _
  rw [parser, h]

/-- feed a list of reads to `handleIncomingData`, collecting what is dispatched -/
def srvFeed : Sess → List Bytes → List Ev × Sess
  | s, [] => ([], s)
  | s, seg :: ss =>
    let r1 := handleIncomingData s seg
    let r := srvFeed r1.1 ss
    (r1.2.1 ++ r.1, r.2)

/-- session state vs. the generic carry -/
def Corr (s : Sess) : Framing.Carry → Prop
  | .alive r => s = { buffer := r, alive := true }
  | .dead => s.alive = false

theorem Corr.unique {s t : Sess} {c : Framing.Carry} (hs : Corr s c) (ht : Corr t c) :
    s.alive = t.alive ∧ (s.alive = true → s = t) := by
  cases c with
  | dead => simp only [Corr] at hs ht; exact ⟨hs.trans ht.symm, fun h => by rw [hs] at h; cases h⟩
  | alive r => simp only [Corr] at hs ht; rw [hs, ht]; exact ⟨rfl, fun _ => rfl⟩

/-- the extraction loop is the generic greedy drain: same frames (the generic loop also lists the close, as `none`), and the session
it leaves is the generic carry -/
theorem drainLoop_eq (f : Nat) : ∀ (buf : Bytes),
    (drainLoop f buf).1 = (Framing.drainF stableParser f buf).1.filterMap id ∧
    Corr { buffer := (drainLoop f buf).2.2, alive := !(drainLoop f buf).2.1 } (Framing.drainF stableParser f buf).2 := by
  induction f with
  | zero => intro buf; exact ⟨rfl, rfl⟩
  | succ f ih =>
    intro buf
    simp only [drainLoop, Framing.drainF]
    rw [show stableParser.p buf = parser buf from rfl]
    unfold parser
    cases he : extractOne buf with
    | needMore => exact ⟨rfl, rfl⟩
    | close => exact ⟨rfl, rfl⟩
    | request raw n =>
      have hn0 : n ≠ 0 := by have := extractOne_request_le he; omega
      simp only [hn0, ↓reduceIte]
      exact ⟨by simp [(ih (buf.drop n)).1], (ih (buf.drop n)).2⟩

theorem hid_dead (s : Sess) (seg : Bytes) (h : s.alive = false) : handleIncomingData s seg = (s, [], false) := by
  simp [handleIncomingData, h]

theorem hid_over (s : Sess) (seg : Bytes) (ha : s.alive = true)
    (hlim : s.buffer.length + seg.length > Gen.Http.serverMaxBufferSize) :
    handleIncomingData s seg = ({ s with alive := false }, [], true) := by
  simp [handleIncomingData, ha, hlim]

theorem hid_pass (s : Sess) (seg : Bytes) (ha : s.alive = true)
    (hlim : ¬ s.buffer.length + seg.length > Gen.Http.serverMaxBufferSize) :
    handleIncomingData s seg =
      ({ buffer := (drainLoop ((s.buffer ++ seg).length + 1) (s.buffer ++ seg)).2.2,
         alive := !(drainLoop ((s.buffer ++ seg).length + 1) (s.buffer ++ seg)).2.1 },
       (drainLoop ((s.buffer ++ seg).length + 1) (s.buffer ++ seg)).1,
       (drainLoop ((s.buffer ++ seg).length + 1) (s.buffer ++ seg)).2.1) := by
  simp [handleIncomingData, ha, hlim]

theorem srvFeed_dead : ∀ (ss : List Bytes) (s : Sess), s.alive = false → srvFeed s ss = ([], s) := by
  intro ss
  induction ss with
  | nil => intro s _; rfl
  | cons seg ss ih =>
    intro s hs
    simp only [srvFeed, hid_dead s seg hs, ih s hs, List.append_nil]

/-- one accepted read is one `resume` of the generic receive loop -/
theorem hid_resume (r seg : Bytes) (hlim : ¬ (r.length + seg.length > Gen.Http.serverMaxBufferSize)) :
    (handleIncomingData { buffer := r, alive := true } seg).2.1 =
      (Framing.drain stableParser (r ++ seg)).1.filterMap id ∧
    Corr (handleIncomingData { buffer := r, alive := true } seg).1 (Framing.drain stableParser (r ++ seg)).2 := by
  rw [hid_pass _ seg rfl hlim]
  exact drainLoop_eq _ (r ++ seg)

/-- every read, when it arrives, fits the buffer cap together with what the session still holds (the check
`buffer.size() + dataStr.size() > MAX_BUFFER_SIZE` of `handleIncomingData` never fires) -/
def fits : Sess → List Bytes → Prop
  | _, [] => True
  | s, seg :: ss =>
    (s.alive = true → s.buffer.length + seg.length ≤ Gen.Http.serverMaxBufferSize) ∧ fits (handleIncomingData s seg).1 ss

theorem fits_dead : ∀ (ss : List Bytes) (s : Sess), s.alive = false → fits s ss := by
  intro ss
  induction ss with
  | nil => intro s _; trivial
  | cons seg ss ih =>
    intro s hs
    refine ⟨fun h => (by rw [hs] at h; cases h), ?_⟩
    rw [hid_dead s seg hs]; exact ih s hs

/-- `handleIncomingData` over ANY list of reads dispatches what the generic greedy receive loop for `stableParser` does on some
first `j` of them (the proof stops at the first read that trips the buffer cap); under `fits` that is all of them, and the session
left is the generic carry. -/
theorem srvFeed_feed : ∀ (ss : List Bytes) (s : Sess) (c : Framing.Carry), Corr s c →
    ∃ j, j ≤ ss.length ∧ (srvFeed s ss).1 = (Framing.feed stableParser c (ss.take j)).1.filterMap id ∧
      (fits s ss → j = ss.length ∧ Corr (srvFeed s ss).2 (Framing.feed stableParser c ss).2) := by
  intro ss
  induction ss with
  | nil => intro s c hc; exact ⟨0, Nat.le_refl _, by simp [srvFeed, Framing.feed], fun _ => ⟨rfl, hc⟩⟩
  | cons seg ss ih =>
    intro s c hc
    cases c with
    | dead =>
      simp only [Corr] at hc
      simp only [srvFeed_dead _ s hc, Framing.feed_dead]
      exact ⟨_, Nat.le_refl _, rfl, fun _ => ⟨rfl, hc⟩⟩
    | alive r =>
      simp only [Corr] at hc
      subst hc
      by_cases hlim : r.length + seg.length > Gen.Http.serverMaxBufferSize
      · refine ⟨0, Nat.zero_le _, ?_, fun hf => absurd (hf.1 rfl) (by simpa using hlim)⟩
        simp only [srvFeed, hid_over { buffer := r, alive := true } seg rfl hlim]
        rw [srvFeed_dead ss _ rfl]; simp [Framing.feed]
      · obtain ⟨h1, h2⟩ := hid_resume r seg hlim
        obtain ⟨j, hj, hje, hfit⟩ := ih _ _ h2
        refine ⟨j + 1, by simp; omega, ?_, fun hf => ?_⟩
        · simp only [srvFeed, List.take_succ_cons, Framing.feed, Framing.resume, h1, hje, List.filterMap_append]
        · obtain ⟨rfl, hcorr⟩ := hfit hf.2
          exact ⟨rfl, hcorr⟩

/-- the generic theorem for the extractor: reads fed from an empty buffer are one pass over their concatenation -/
theorem feed_stableParser (ss : List Bytes) :
    Framing.feed stableParser (.alive []) ss = Framing.drain stableParser ss.flatten :=
  Framing.feed_eq_whole stableParser rfl ss trivial

theorem srvFeed_eq_feed_fits (ss : List Bytes) (s : Sess) (c : Framing.Carry) (hc : Corr s c) (hf : fits s ss) :
    (srvFeed s ss).1 = (Framing.feed stableParser c ss).1.filterMap id ∧
    Corr (srvFeed s ss).2 (Framing.feed stableParser c ss).2 := by
  obtain ⟨j, _, he, h⟩ := srvFeed_feed ss s c hc
  obtain ⟨rfl, hcorr⟩ := h hf
  exact ⟨by rwa [List.take_length] at he, hcorr⟩

/-- the value of a `Content-Length` line as the header scan of `handleIncomingData` sees it -/
def clValue? (line : Bytes) : Option Bytes :=
  match indexOf? (· == 58) line with
  | none => none
  | some colon =>
    if lower (trim (line.take colon)) = ascii "content-length" then some (trim (line.drop (colon + 1))) else none

/-- the final transfer coding of a `Transfer-Encoding` line (lower-cased), as the header scan sees it -/
def teFinal? (line : Bytes) : Option Bytes :=
  match indexOf? (· == 58) line with
  | none => none
  | some colon =>
    if lower (trim (line.take colon)) = ascii "transfer-encoding" then
      some (lastToken (splitOn 44 (lower (trim (line.drop (colon + 1))))) [])
    else none

/-- the final coding of the LAST `Transfer-Encoding` line (`acc`: of the lines before) -/
def lastTE : List Bytes → Option Bytes → Option Bytes
  | [], acc => acc
  | l :: ls, acc => lastTE ls (match teFinal? l with | some t => some t | none => acc)

theorem lastTE_some : ∀ (ls : List Bytes) (t : Bytes), lastTE ls (some t) ≠ none := by
  intro ls
  induction ls with
  | nil => intro t h; cases h
  | cons l ls ih =>
    intro t
    simp only [lastTE]
    cases teFinal? l with
    | none => exact ih t
    | some t' => exact ih t'

/-- what a header scan that started in `hs0`, ran over the lines `ls` and ended in `hs` knows; `te` is the final coding of the last
`Transfer-Encoding` line it has seen, before `ls` or in it -/
structure ScanKnows (ls : List Bytes) (hs0 hs : HdrScan) (te : Option Bytes) : Prop where
  cl_le : hs.contentLength ≤ Gen.Http.serverMaxBodySize
  cl_kept : hs0.haveCL = true → hs.haveCL = true ∧ hs.contentLength = hs0.contentLength
  cl_lines : ∀ l ∈ ls, ∀ v, clValue? l = some v → hs.haveCL = true ∧ parseFullUInt 10 v = some hs.contentLength
  te_seen : hs.haveTE = te.isSome
  te_chunked : ∀ t, te = some t → hs.isChunked = (t == ascii "chunked")
  te_none : te = none → hs.isChunked = hs0.isChunked

/-- stated for a scan under way: `acc` is the final coding of the last `Transfer-Encoding` line that `hs0` has seen -/
theorem scanHeaderLines_spec : ∀ (ls : List Bytes) (hs0 hs : HdrScan) (acc : Option Bytes),
    scanHeaderLines ls hs0 = some hs → hs0.contentLength ≤ Gen.Http.serverMaxBodySize →
    hs0.haveTE = acc.isSome → (∀ t, acc = some t → hs0.isChunked = (t == ascii "chunked")) →
    ScanKnows ls hs0 hs (lastTE ls acc) := by
  intro ls
  induction ls with
  | nil =>
    intro hs0 hs acc h hb h1 h2
    simp only [scanHeaderLines, Option.some.injEq] at h
    subst h
    exact ⟨hb, fun h => ⟨h, rfl⟩, by simp, h1, h2, fun _ => rfl⟩
  | cons line rest ih =>
    intro hs0 hs acc h hb h1 h2
    simp only [scanHeaderLines] at h
    simp only [lastTE]
    -- a line that is no Content-Length line adds nothing to the Content-Length part
    have other : clValue? line = none → ∀ {P : Bytes → Prop},
        (∀ l ∈ rest, ∀ v, clValue? l = some v → P v) → ∀ l ∈ line :: rest, ∀ v, clValue? l = some v → P v := by
      intro hn P d l hl v hv
      rcases List.mem_cons.mp hl with rfl | hl
      · rw [hn] at hv; cases hv
      · exact d l hl v hv
    cases hc : indexOf? (· == 58) line with
    | none =>
      rw [hc] at h
      have hte : teFinal? line = none := by simp [teFinal?, hc]
      rw [hte]
      obtain ⟨a, b, d, e1, e2, e3⟩ := ih hs0 hs acc h hb h1 h2
      exact ⟨a, b, other (by simp [clValue?, hc]) d, e1, e2, e3⟩
    | some colon =>
      rw [hc] at h
      simp only at h
      by_cases hk : lower (trim (line.take colon)) = ascii "content-length"
      · simp only [hk, ↓reduceIte] at h
        have hte : teFinal? line = none := by simp [teFinal?, hc, hk, cl_ne_te]
        rw [hte]
        cases hp : parseFullUInt 10 (trim (line.drop (colon + 1))) with
        | none => rw [hp] at h; cases h
        | some n =>
          rw [hp] at h
          simp only at h
          split at h
          · cases h
          · rename_i hconf
            split at h
            · cases h
            · rename_i hbig
              obtain ⟨a, b, d, e1, e2, e3⟩ := ih { hs0 with contentLength := n, haveCL := true } hs acc h
                (by simp only; omega) h1 h2
              have hb1 := b rfl
              simp only at hb1
              refine ⟨a, ?_, ?_, e1, e2, e3⟩
              · intro h0
                refine ⟨hb1.1, ?_⟩
                rw [hb1.2]
                exact Decidable.not_not.mp fun hne => hconf ⟨h0, hne⟩
              · intro l hl v hv
                rcases List.mem_cons.mp hl with rfl | hl
                · simp only [clValue?, hc, hk, ↓reduceIte, Option.some.injEq] at hv
                  subst hv
                  exact ⟨hb1.1, by rw [hp, hb1.2]⟩
                · exact d l hl v hv
      · simp only [hk, ↓reduceIte] at h
        have hcl : clValue? line = none := by simp [clValue?, hc, hk]
        by_cases ht : lower (trim (line.take colon)) = ascii "transfer-encoding"
        · simp only [ht, ↓reduceIte] at h
          have hte : teFinal? line = some (lastToken (splitOn 44 (lower (trim (line.drop (colon + 1))))) []) := by
            simp [teFinal?, hc, ht]
          rw [hte]
          obtain ⟨a, b, d, e1, e2, _⟩ := ih _ hs (some (lastToken (splitOn 44 (lower (trim (line.drop (colon + 1))))) []))
            h hb rfl (by intro t htt; cases htt; rfl)
          exact ⟨a, b, other hcl d, e1, e2, fun hnone => absurd hnone (lastTE_some _ _)⟩
        · simp only [ht, ↓reduceIte] at h
          have hte : teFinal? line = none := by simp [teFinal?, hc, ht]
          rw [hte]
          obtain ⟨a, b, d, e1, e2, e3⟩ := ih hs0 hs acc h hb h1 h2
          exact ⟨a, b, other hcl d, e1, e2, e3⟩

theorem scanHeaderLines_fresh {ls : List Bytes} {hs : HdrScan} (h : scanHeaderLines ls {} = some hs) :
    ScanKnows ls {} hs (lastTE ls none) :=
  scanHeaderLines_spec ls {} hs none h (by simp [Gen.Http.serverMaxBodySize]) rfl (fun _ ht => nomatch ht)

theorem sizeDigits_le (mb : Nat) : ∀ (l : Bytes) (acc k n d : Nat) (r : Bytes),
    sizeDigits mb l acc k = some (n, d, r) → acc ≤ mb → n ≤ mb := by
  intro l
  induction l with
  | nil => intro acc k n d r h hacc; simp [sizeDigits] at h; omega
  | cons c cs ih =>
    intro acc k n d r h hacc
    simp only [sizeDigits] at h
    cases hd : digitVal 16 c with
    | none => rw [hd] at h; simp at h; omega
    | some v =>
      rw [hd] at h
      simp only at h
      split at h
      · cases h
      · exact ih _ _ n d r h (by omega)

end Iora.Http.Srv
