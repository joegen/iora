import IoraModel.Lemmas.JsonLimits
/-! Lemmas for J1 (C13): the parser run on `render t` yields `denote t`. Continuation form throughout:
`f ⟨render x ++ rest, pos⟩ = ok (denote x, ⟨rest, pos + |render x|⟩)`. -/
namespace Iora.Json.Spec
open Iora Iora.Json

theorem isDigit_iff (b : UInt8) : isDigit b = true ↔ 48 ≤ b.toNat ∧ b.toNat ≤ 57 := by
  simp [isDigit, UInt8.le_iff_toNat_le]

theorem isSpace_iff (b : UInt8) : isSpace b = true ↔ b.toNat = 32 ∨ (9 ≤ b.toNat ∧ b.toNat ≤ 13) := by
  simp [isSpace, UInt8.le_iff_toNat_le, ← UInt8.toNat_inj]

/-- `HeadNot isSpace x` (`Common/Span.lean`) written out: `HeadNot.cons` and `HeadNot.nil` prove it -/
def NoSpaceHead (x : Bytes) : Prop := ∀ b r, x = b :: r → isSpace b = false

theorem wsByte_isSpace (c : WsChar) : isSpace c.byte = true := by cases c <;> rfl

theorem skipWs_ws (w : Ws) (x : Bytes) (p : Nat) (hx : NoSpaceHead x) :
    skipWs ⟨w.render ++ x, p⟩ = ⟨x, p + w.render.length⟩ :=
  skipWs_eq _ ▸ Cur.skip_append isSpace _ x p (fun a ha => by obtain ⟨c, -, rfl⟩ := List.mem_map.mp ha; exact wsByte_isSpace c) hx

theorem skipWs_ws_cons (w : Ws) (b : UInt8) (r : Bytes) (p : Nat) (hb : isSpace b = false) :
    skipWs ⟨w.render ++ b :: r, p⟩ = ⟨b :: r, p + w.render.length⟩ := skipWs_ws w _ p (HeadNot.cons r hb)

theorem skipWs_noop (x : Bytes) (p : Nat) (hx : NoSpaceHead x) : skipWs ⟨x, p⟩ = ⟨x, p⟩ := by
  have := skipWs_ws [] x p hx; simpa [Ws.render] using this

theorem ws_render_nil : Ws.render [] = [] := rfl

theorem ws_render_append (a b : Ws) : (a ++ b).render = a.render ++ b.render := by simp [Ws.render]

theorem skipDigits_digits (ds x : Bytes) (p : Nat) (hd : ∀ d ∈ ds, isDigit d = true) (hx : HeadNot isDigit x) :
    skipDigits ⟨ds ++ x, p⟩ = ⟨x, p + ds.length⟩ :=
  skipDigits_eq _ ▸ Cur.skip_append isDigit ds x p hd hx

theorem natToDec_eq (n : Nat) : natToDec n = decDigits n := by
  induction n using natToDec.induct with
  | case1 n h => rw [natToDec, decDigits]; simp [h]
  | case2 n h ih => rw [natToDec, decDigits, ih]; simp [h]

theorem natToDec_digits (n : Nat) : ∀ d ∈ natToDec n, isDigit d = true := fun d hd =>
  (isDigit_iff d).2 ((decDigits_spec n).2.1 d (natToDec_eq n ▸ hd))

theorem natToDec_digit {n : Nat} (h : n < 10) : natToDec n = [b8 (48 + n)] := by
  rw [natToDec]; simp [h]

theorem natToDec_ne_nil (n : Nat) : natToDec n ≠ [] := by
  rw [natToDec]; split <;> simp

/-- `decVal` (`Model/Json.lean`) has the body of `decValue` (`Common/Bytes.lean`), of which `decDigits_spec` speaks -/
theorem decVal_natToDec (n : Nat) : decVal (natToDec n) = n :=
  natToDec_eq n ▸ show decValue (decDigits n) = n from (decDigits_spec n).2.2

theorem natToDec_head (n : Nat) : ∃ d r, natToDec n = d :: r ∧ isDigit d = true ∧ (n ≠ 0 → d ≠ 0x30) := by
  induction n using natToDec.induct with
  | case1 n h =>
    refine ⟨b8 (48 + n), [], natToDec_digit h, ?_, ?_⟩
    · rw [isDigit_iff, b8_toNat_small (by omega)]; omega
    · intro hn heq; rw [← UInt8.toNat_inj, b8_toNat_small (by omega)] at heq; simp at heq; omega
  | case2 n h ih =>
    obtain ⟨d, r, hr, hd, hnz⟩ := ih
    refine ⟨d, r ++ [b8 (48 + n % 10)], ?_, hd, fun _ => hnz (by omega)⟩
    rw [natToDec]; simp [h, hr]

/-- what may follow a number token: not a digit, `.`, `e`, `E` -/
def NumStop (x : Bytes) : Prop := ∀ b r, x = b :: r → isDigit b = false ∧ b ≠ 0x2E ∧ b ≠ 0x65 ∧ b ≠ 0x45

theorem digit_ne {d c : UInt8} (hd : isDigit d = true) (hc : isDigit c = false) : d ≠ c :=
  fun e => by rw [e, hc] at hd; cases hd

theorem digitsRequired_digits (ds x : Bytes) (p : Nat) (hd : Digits1 ds) (hx : HeadNot isDigit x) :
    digitsRequired ⟨ds ++ x, p⟩ = .ok ⟨x, p + ds.length⟩ := by
  obtain ⟨hne, hall⟩ := hd
  cases ds with
  | nil => exact absurd rfl hne
  | cons d ds' =>
    have h1 : isDigit d = true := hall d (by simp)
    have := skipDigits_digits (d :: ds') x p hall hx
    simp only [List.cons_append] at this
    simp only [digitsRequired, List.cons_append, h1, ↓reduceIte, this]

theorem skipSign_cases (d : UInt8) (x : Bytes) (q : Nat) (hd : isDigit d = true) :
    skipSign ⟨d :: x, q⟩ = ⟨d :: x, q⟩ ∧ skipSign ⟨0x2B :: d :: x, q⟩ = ⟨d :: x, q + 1⟩ ∧
      skipSign ⟨0x2D :: d :: x, q⟩ = ⟨d :: x, q + 1⟩ := by
  simp [skipSign, digit_ne hd (c := 0x2D) rfl, digit_ne hd (c := 0x2B) rfl]

theorem scanExp_render (n : SNum) (hok : n.ok) (rest : Bytes) (p : Nat) (hs : NumStop rest) :
    scanExp ⟨n.renderExp ++ rest, p⟩ = .ok (n.exp.isSome, ⟨rest, p + n.renderExp.length⟩) := by
  unfold SNum.renderExp
  cases he : n.exp with
  | none =>
    cases rest with
    | nil => simp [scanExp]
    | cons b r =>
      have := hs b r rfl
      simp [scanExp, this.2.2.1, this.2.2.2]
  | some x =>
    obtain ⟨u, sg, ds⟩ := x
    have hd : Digits1 ds := hok.2 u sg ds he
    obtain ⟨d0, ds0, rfl⟩ : ∃ d0 ds0, ds = d0 :: ds0 := by
      cases ds with
      | nil => exact absurd rfl hd.1
      | cons a b => exact ⟨a, b, rfl⟩
    have hE : ((if u then (0x45 : UInt8) else 0x65) = 0x65 ∨ (if u then (0x45 : UInt8) else 0x65) = 0x45) := by
      cases u <;> simp
    have hsg := skipSign_cases d0 (ds0 ++ rest) (p + 1) (hd.2 d0 (by simp))
    have key : ∀ q, digitsRequired ⟨d0 :: (ds0 ++ rest), q⟩ = .ok ⟨rest, q + (d0 :: ds0).length⟩ :=
      fun q => digitsRequired_digits (d0 :: ds0) rest q hd (fun b r e => (hs b r e).1)
    rcases sg with _ | _ | _
    all_goals
      simp only [Option.isSome_some, List.cons_append, List.nil_append, scanExp, hE, ↓reduceIte, hsg, key, List.length_cons]
      congr 3; omega

theorem renderExp_head (n : SNum) (x : Bytes) {P : UInt8 → Prop} (he : P 0x65 ∧ P 0x45) (hx : ∀ b r, x = b :: r → P b) :
    ∀ b r, n.renderExp ++ x = b :: r → P b := by
  intro b r h
  unfold SNum.renderExp at h
  cases hexp : n.exp with
  | none => simp only [hexp, List.nil_append] at h; exact hx b r h
  | some t =>
    obtain ⟨u, sg, ds⟩ := t
    simp only [hexp, List.cons_append, List.cons.injEq] at h
    obtain ⟨rfl, -⟩ := h
    cases u
    · exact he.1
    · exact he.2

theorem scanFrac_render (n : SNum) (hok : n.ok) (z : Bytes) (p : Nat)
    (hz : ∀ b r, z = b :: r → isDigit b = false ∧ b ≠ 0x2E) :
    scanFrac ⟨n.renderFrac ++ z, p⟩ = .ok (n.frac.isSome, ⟨z, p + n.renderFrac.length⟩) := by
  unfold SNum.renderFrac
  cases hf : n.frac with
  | none =>
    cases z with
    | nil => simp [scanFrac]
    | cons b r => simp [scanFrac, (hz b r rfl).2]
  | some ds =>
    have hd : Digits1 ds := hok.1 ds hf
    have := digitsRequired_digits ds z (p + 1) hd (fun b r e => (hz b r e).1)
    simp only [Option.isSome_some, List.cons_append, scanFrac, ↓reduceIte, this, List.length_cons]
    congr 3; omega

theorem scanInt_render (k : Nat) (y : Bytes) (p : Nat) (hy : HeadNot isDigit y) :
    scanInt ⟨natToDec k ++ y, p⟩ = .ok ⟨y, p + (natToDec k).length⟩ := by
  obtain ⟨d, r, hr, hd, hnz⟩ := natToDec_head k
  have hall := natToDec_digits k
  by_cases hk : k = 0
  · subst hk
    simp [natToDec_digit, scanInt, isDigit, b8]
  · have hne := hnz hk
    have := skipDigits_digits (natToDec k) y p hall hy
    rw [hr] at this ⊢
    simp only [List.cons_append] at this
    simp only [scanInt, List.cons_append, hd, ↓reduceIte, hne, this]

theorem skipMinus_render (neg : Bool) (k : Nat) (y : Bytes) (p : Nat) :
    skipMinus ⟨(if neg then [0x2D] else []) ++ natToDec k ++ y, p⟩ = ⟨natToDec k ++ y, p + (if neg then 1 else 0)⟩ := by
  cases neg with
  | true => simp [skipMinus]
  | false =>
    obtain ⟨d, r, hr, hd, -⟩ := natToDec_head k
    simp [skipMinus, hr, digit_ne hd (c := 0x2D) rfl]

theorem SNum.render_length (n : SNum) :
    n.render.length = (if n.neg then 1 else 0) + (natToDec n.int).length + n.renderFrac.length + n.renderExp.length := by
  unfold SNum.render
  cases n.neg <;> simp [List.length_append] <;> omega

theorem scanNumber_render (n : SNum) (hok : n.ok) (rest : Bytes) (p : Nat) (hs : NumStop rest) :
    scanNumber ⟨n.render ++ rest, p⟩ = .ok (n.isFloat, ⟨rest, p + n.render.length⟩) := by
  have hE : ∀ b r, n.renderExp ++ rest = b :: r → isDigit b = false ∧ b ≠ 0x2E :=
    renderExp_head n rest (by decide) fun b r e => ⟨(hs b r e).1, (hs b r e).2.1⟩
  have hY : HeadNot isDigit (n.renderFrac ++ (n.renderExp ++ rest)) := by
    intro b r h
    unfold SNum.renderFrac at h
    cases hf : n.frac with
    | none => simp only [hf, List.nil_append] at h; exact (hE b r h).1
    | some ds =>
      simp only [hf, List.cons_append, List.cons.injEq] at h
      obtain ⟨rfl, -⟩ := h; rfl
  have h1 := skipMinus_render n.neg n.int (n.renderFrac ++ (n.renderExp ++ rest)) p
  rw [List.append_assoc] at h1
  rw [SNum.render_length]
  simp only [scanNumber, SNum.render, List.append_assoc, h1, scanInt_render _ _ _ hY, scanFrac_render n hok _ _ hE,
    scanExp_render n hok rest _ hs, SNum.isFloat]
  congr 3; omega

/-- `std::from_chars` on the numeral of `±k`: the value if it fits `int64`, in the form `SNum.denote` uses -/
theorem fromCharsInt64_render (neg : Bool) (k : Nat) :
    fromCharsInt64 ((if neg then [0x2D] else []) ++ natToDec k) =
      if -(2 ^ 63 : Int) ≤ (if neg then -(k : Int) else k) ∧ (if neg then -(k : Int) else k) < 2 ^ 63
      then some (if neg then -(k : Int) else k) else none := by
  cases neg with
  | true =>
    have : k ≤ 2 ^ 63 ↔ -(2 ^ 63 : Int) ≤ -(k : Int) ∧ -(k : Int) < 2 ^ 63 := by constructor <;> intro <;> omega
    simp [fromCharsInt64, decVal_natToDec, this]
  | false =>
    obtain ⟨d, r, hr, hd, -⟩ := natToDec_head k
    have hne : d ≠ 0x2D := digit_ne hd rfl
    have hv := decVal_natToDec k
    have : k < 2 ^ 63 ↔ -(2 ^ 63 : Int) ≤ (k : Int) ∧ (k : Int) < 2 ^ 63 := by constructor <;> intro <;> omega
    rw [hr] at hv
    simp only [Bool.false_eq_true, ↓reduceIte, List.nil_append, hr]
    unfold fromCharsInt64
    split
    · rename_i ds heq
      simp only [List.cons.injEq] at heq
      exact absurd heq.1 hne
    · simp [hv, this]

theorem SNum.not_isFloat {n : SNum} (hf : n.isFloat = false) :
    n.frac = none ∧ n.exp = none ∧ n.render = (if n.neg then [0x2D] else []) ++ natToDec n.int := by
  have hfe : n.frac = none ∧ n.exp = none := by simpa [SNum.isFloat, Bool.or_eq_false_iff] using hf
  exact ⟨hfe.1, hfe.2, by simp [SNum.render, SNum.renderFrac, SNum.renderExp, hfe.1, hfe.2]⟩

theorem parseNumber_render (ops : FloatOps) (n : SNum) (hok : n.ok) (rest : Bytes) (p : Nat) (hs : NumStop rest) :
    parseNumber ops ⟨n.render ++ rest, p⟩ = .ok (n.denote ops, ⟨rest, p + n.render.length⟩) := by
  -- the token is cut out of the text by the positions before and after the scan
  have htok : (n.render ++ rest).take (p + n.render.length - p) = n.render := by rw [Nat.add_sub_cancel_left]; simp
  simp only [parseNumber, scanNumber_render n hok rest p hs, htok]
  congr 2
  unfold convertNumber SNum.denote
  cases hf : n.isFloat with
  | true => simp
  | false =>
    simp only [Bool.false_eq_true, ↓reduceIte]
    rw [(SNum.not_isFloat hf).2.2, fromCharsInt64_render]
    by_cases h : -(2 ^ 63 : Int) ≤ (if n.neg then -(n.int : Int) else n.int) ∧ (if n.neg then -(n.int : Int) else n.int) < 2 ^ 63
    · rw [if_pos h, if_pos h]
    · rw [if_neg h, if_neg h]

theorem hexVal_byte (h : HexDigit) : hexVal h.byte = some h.val.val :=
  (by decide +kernel : ∀ (v : Fin 16) (u : Bool), hexVal (HexDigit.byte ⟨v, u⟩) = some v.val) h.val h.upper

theorem parseHex4_render (a1 a2 a3 a4 : HexDigit) (x : Bytes) :
    parseHex4 (a1.byte :: a2.byte :: a3.byte :: a4.byte :: x) = some (codeUnit a1 a2 a3 a4) := by
  simp [parseHex4, hexVal_byte, codeUnit]

theorem isHiSurr_eq (cu : Nat) : isHiSurr cu = isHigh cu := rfl
theorem isLoSurr_eq (cu : Nat) : isLoSurr cu = isLow cu := rfl

theorem esc_letter_ne_u (e : Esc) : e.letter ≠ 0x75 := by cases e <;> decide
theorem esc_lookup (e : Esc) : Gen.Json.parseEscapes.lookup e.letter.toNat = some e.char.toNat := by cases e <;> rfl

/-- what follows the four hex digits of a `\u` that is NOT the first half of a pair -/
def NoLowAfter (x : Bytes) : Prop := lowSurrogate x = none

theorem decodeU_single (a1 a2 a3 a4 : HexDigit) (x : Bytes)
    (h : isHigh (codeUnit a1 a2 a3 a4) = true → NoLowAfter x) :
    ∃ cp, decodeU (a1.byte :: a2.byte :: a3.byte :: a4.byte :: x) = some (cp, 5) ∧ utf8 cp = loneUnit (codeUnit a1 a2 a3 a4) := by
  unfold decodeU
  rw [parseHex4_render]
  simp only
  by_cases hh : isHiSurr (codeUnit a1 a2 a3 a4) = true
  · rw [if_pos hh]
    rw [isHiSurr_eq] at hh
    have : lowSurrogate (List.drop Gen.Json.hexAdvance (a1.byte :: a2.byte :: a3.byte :: a4.byte :: x)) = none := by
      simpa [Gen.Json.hexAdvance, NoLowAfter] using h hh
    rw [this]
    exact ⟨_, rfl, by simp [loneUnit, hh, Gen.Json.replacementCp]⟩
  · rw [if_neg hh]
    rw [isHiSurr_eq] at hh
    by_cases hl : isLoSurr (codeUnit a1 a2 a3 a4) = true
    · rw [if_pos hl]; rw [isLoSurr_eq] at hl; exact ⟨_, rfl, by simp [loneUnit, hl, Gen.Json.replacementCp]⟩
    · rw [if_neg hl]; rw [isLoSurr_eq] at hl; exact ⟨_, rfl, by simp [loneUnit, hh, hl]⟩

theorem lowSurrogate_u (b1 b2 b3 b4 : HexDigit) (x : Bytes) :
    lowSurrogate (0x5C :: 0x75 :: b1.byte :: b2.byte :: b3.byte :: b4.byte :: x)
      = if isLow (codeUnit b1 b2 b3 b4) then some (codeUnit b1 b2 b3 b4) else none := by
  unfold lowSurrogate
  simp only [and_self, ↓reduceIte, parseHex4_render]
  rfl

theorem decodeU_pair (a1 a2 a3 a4 b1 b2 b3 b4 : HexDigit) (x : Bytes)
    (h : (isHigh (codeUnit a1 a2 a3 a4) && isLow (codeUnit b1 b2 b3 b4)) = true) :
    decodeU (a1.byte :: a2.byte :: a3.byte :: a4.byte :: 0x5C :: 0x75 :: b1.byte :: b2.byte :: b3.byte :: b4.byte :: x)
      = some (0x10000 + (codeUnit a1 a2 a3 a4 - 0xD800) * 1024 + (codeUnit b1 b2 b3 b4 - 0xDC00), 11) := by
  simp only [Bool.and_eq_true] at h
  unfold decodeU
  rw [parseHex4_render]
  simp only
  have hh : isHiSurr (codeUnit a1 a2 a3 a4) = true := h.1
  rw [if_pos hh]
  have : List.drop Gen.Json.hexAdvance (a1.byte :: a2.byte :: a3.byte :: a4.byte :: 0x5C :: 0x75 :: b1.byte :: b2.byte :: b3.byte :: b4.byte :: x)
      = 0x5C :: 0x75 :: b1.byte :: b2.byte :: b3.byte :: b4.byte :: x := by simp [Gen.Json.hexAdvance]
  rw [this, lowSurrogate_u, if_pos h.2]
  simp [Gen.Json.supplementaryBase, Gen.Json.hiSurrLo, Gen.Json.loSurrLo, Gen.Json.surrogateShift, Gen.Json.hexAdvance, Gen.Json.pairAdvance]

theorem renderItems_cons (i : StrItem) (tl : List StrItem) : renderItems (i :: tl) = i.render ++ renderItems tl := by
  simp [renderItems]

/-- the two fallback equations of `denoteItems` in one: a `\u` that forms no surrogate pair with the next item stands for itself -/
theorem denoteItems_u_lone (a1 a2 a3 a4 : HexDigit) (tl : List StrItem)
    (h : ∀ b1 b2 b3 b4 tl', tl = .u b1 b2 b3 b4 :: tl' → (isHigh (codeUnit a1 a2 a3 a4) && isLow (codeUnit b1 b2 b3 b4)) = false) :
    denoteItems (.u a1 a2 a3 a4 :: tl) = loneUnit (codeUnit a1 a2 a3 a4) ++ denoteItems tl := by
  cases tl with
  | nil => simp [denoteItems]
  | cons i tl' =>
    cases i with
    | raw b => simp [denoteItems]
    | esc e => simp [denoteItems]
    | u b1 b2 b3 b4 => rw [denoteItems, if_neg (by simp [h b1 b2 b3 b4 tl' rfl])]

/-- after the hex digits of an unpaired `\u`: the next item is not a `\u`, or the string ends -/
theorem lowSurrogate_next_none (tl : List StrItem) (rest : Bytes) (hok : ∀ i ∈ tl, i.ok)
    (hnu : ∀ (b1 b2 b3 b4 : HexDigit) (tl' : List StrItem), tl = StrItem.u b1 b2 b3 b4 :: tl' → False) :
    lowSurrogate (renderItems tl ++ 0x22 :: rest) = none := by
  cases tl with
  | nil =>
    cases rest with
    | nil => simp [renderItems, lowSurrogate]
    | cons y ys => simp [renderItems, lowSurrogate]
  | cons i tl' =>
    cases i with
    | raw b =>
      have := hok (.raw b) (by simp)
      simp only [StrItem.ok] at this
      cases h : renderItems tl' ++ 0x22 :: rest with
      | nil => simp [renderItems_cons, StrItem.render, h, lowSurrogate]
      | cons y ys => simp [renderItems_cons, StrItem.render, h, lowSurrogate, this.2]
    | esc e => simp [renderItems_cons, StrItem.render, lowSurrogate, esc_letter_ne_u]
    | u b1 b2 b3 b4 => exact absurd rfl (fun h => hnu b1 b2 b3 b4 tl' h)

theorem utf8_length_pos (cp : Nat) : 1 ≤ (utf8 cp).length := (utf8_length cp).1

theorem stringExceeded_of_le {n l : Nat} (h : n ≤ l) : Gen.Json.stringExceeded n l = false :=
  Bool.eq_false_iff.mpr (mt (stringExceeded_iff n l).mp (Nat.not_lt.mpr h))

/-- one item of a string: while the length guard passes, the loop of `_parseString` consumes the item's bytes `x` in one
    iteration and appends the bytes `d` the item denotes -/
def StrStep (lim : Limits) (x d tail : Bytes) : Prop :=
  ∀ (fuel : Nat) (racc : Bytes) (n p : Nat), n ≤ lim.stringLengthMax →
    strLoop lim (fuel + 1) racc n ⟨x ++ tail, p⟩ = strLoop lim fuel (d.reverse ++ racc) (n + d.length) ⟨tail, p + x.length⟩

theorem strStep_raw (lim : Limits) {b : UInt8} (hb : (StrItem.raw b).ok) {tail : Bytes} : StrStep lim [b] [b] tail := by
  intro fuel racc n p hn
  simp only [List.cons_append, List.nil_append, strLoop, hb.1, hb.2, stringExceeded_of_le hn, ↓reduceIte, Bool.false_eq_true]
  rfl

theorem strStep_esc (lim : Limits) (e : Esc) {tail : Bytes} : StrStep lim [0x5C, e.letter] [e.char] tail := by
  intro fuel racc n p hn
  simp only [List.cons_append, List.nil_append, strLoop, stringExceeded_of_le hn, ↓reduceIte, Bool.false_eq_true, esc_letter_ne_u,
    esc_lookup, b8_of_toNat]
  rfl

theorem strStep_lone (lim : Limits) (a1 a2 a3 a4 : HexDigit) {tail : Bytes}
    (h : isHigh (codeUnit a1 a2 a3 a4) = true → NoLowAfter tail) :
    StrStep lim [0x5C, 0x75, a1.byte, a2.byte, a3.byte, a4.byte] (loneUnit (codeUnit a1 a2 a3 a4)) tail := by
  intro fuel racc n p hn
  obtain ⟨cp, hd, hcp⟩ := decodeU_single a1 a2 a3 a4 tail h
  simp only [List.cons_append, List.nil_append, strLoop, stringExceeded_of_le hn, ↓reduceIte, Bool.false_eq_true, hd,
    List.drop_succ_cons, List.drop_zero, hcp]
  rfl

theorem strStep_pair (lim : Limits) (a1 a2 a3 a4 b1 b2 b3 b4 : HexDigit) {tail : Bytes}
    (h : (isHigh (codeUnit a1 a2 a3 a4) && isLow (codeUnit b1 b2 b3 b4)) = true) :
    StrStep lim [0x5C, 0x75, a1.byte, a2.byte, a3.byte, a4.byte, 0x5C, 0x75, b1.byte, b2.byte, b3.byte, b4.byte]
      (utf8 (0x10000 + (codeUnit a1 a2 a3 a4 - 0xD800) * 1024 + (codeUnit b1 b2 b3 b4 - 0xDC00))) tail := by
  intro fuel racc n p hn
  simp only [List.cons_append, List.nil_append, strLoop, stringExceeded_of_le hn, ↓reduceIte, Bool.false_eq_true,
    decodeU_pair a1 a2 a3 a4 b1 b2 b3 b4 tail h, List.drop_succ_cons, List.drop_zero]
  rfl

theorem ok_pos {α : Type} {a : α} {rest : Bytes} {p q : Nat} (h : p = q) : (.ok (a, ⟨rest, p⟩) : Res α) = .ok (a, ⟨rest, q⟩) := by
  rw [h]

/-- `strLoop` on the items of a string up to and including the closing quote, entered with `racc` decoded so far (`n` bytes) -/
def StrRender (lim : Limits) (items : List StrItem) : Prop :=
  ∀ (fuel : Nat) (racc : Bytes) (n : Nat) (rest : Bytes) (p : Nat), n + (denoteItems items).length ≤ lim.stringLengthMax →
    (renderItems items).length + 1 ≤ fuel →
    strLoop lim fuel racc n ⟨renderItems items ++ 0x22 :: rest, p⟩
      = .ok (racc.reverse ++ denoteItems items, ⟨rest, p + (renderItems items).length + 1⟩)

theorem StrRender.cons {lim : Limits} {items tl : List StrItem} {x d : Bytes} (hx : x ≠ [])
    (hr : renderItems items = x ++ renderItems tl) (hd : denoteItems items = d ++ denoteItems tl)
    (hs : ∀ rest, StrStep lim x d (renderItems tl ++ 0x22 :: rest)) (ih : StrRender lim tl) : StrRender lim items := by
  intro fuel racc n rest p hlen hf
  have hx := List.length_pos_iff.mpr hx
  rw [hd, List.length_append] at hlen
  rw [hr, List.length_append] at hf
  cases fuel with
  | zero => omega
  | succ fuel =>
    rw [hr, List.append_assoc, hs rest fuel racc n p (by omega), ih fuel _ _ rest _ (by omega) (by omega), hd]
    simp only [List.reverse_append, List.reverse_reverse, List.append_assoc, List.length_append, Nat.add_assoc]

theorem strLoop_render (lim : Limits) (items : List StrItem) : (∀ i ∈ items, i.ok) → StrRender lim items := by
  -- the cases are the equations of `denoteItems`: end of the string, a raw byte, an escape, `\u\u` a surrogate pair, `\u\u` no pair,
  -- a `\u` before anything but a `\u`
  induction items using denoteItems.induct with
  | case1 =>
    intro _ fuel racc n rest p _ hf
    cases fuel with
    | zero => omega
    | succ fuel => simp [renderItems, strLoop, denoteItems]
  | case2 b tl ih =>
    intro hok
    obtain ⟨hb, hok'⟩ := List.forall_mem_cons.mp hok
    exact .cons (List.cons_ne_nil _ _) (renderItems_cons _ _) (by simp [denoteItems]) (fun _ => strStep_raw lim hb) (ih hok')
  | case3 e tl ih =>
    intro hok
    exact .cons (List.cons_ne_nil _ _) (renderItems_cons _ _) (by simp [denoteItems]) (fun _ => strStep_esc lim e)
      (ih (List.forall_mem_cons.mp hok).2)
  | case4 a1 a2 a3 a4 b1 b2 b3 b4 tl hc ih =>
    intro hok
    exact .cons (List.cons_ne_nil _ _) (by simp [renderItems_cons, StrItem.render]) (by simp [denoteItems, hc])
      (fun _ => strStep_pair lim a1 a2 a3 a4 b1 b2 b3 b4 hc) (ih (List.forall_mem_cons.mp (List.forall_mem_cons.mp hok).2).2)
  | case5 a1 a2 a3 a4 b1 b2 b3 b4 tl hc ih =>
    intro hok
    refine .cons (List.cons_ne_nil _ _) (renderItems_cons _ _) (by rw [denoteItems, if_neg hc])
      (fun rest => strStep_lone lim a1 a2 a3 a4 fun hh => ?_) (ih (List.forall_mem_cons.mp hok).2)
    simp only [NoLowAfter, renderItems_cons, StrItem.render, List.cons_append, List.nil_append]
    rw [lowSurrogate_u]
    simp only [hh, Bool.true_and] at hc
    simp [hc]
  | case6 a1 a2 a3 a4 tl hnu ih =>
    intro hok
    have hok' := (List.forall_mem_cons.mp hok).2
    exact .cons (List.cons_ne_nil _ _) (renderItems_cons _ _)
      (denoteItems_u_lone _ _ _ _ _ fun b1 b2 b3 b4 tl' e => (hnu b1 b2 b3 b4 tl' e).elim)
      (fun rest => strStep_lone lim a1 a2 a3 a4 fun _ => lowSurrogate_next_none tl rest hok' hnu) (ih hok')

theorem parseString_render (lim : Limits) (items : List StrItem) (rest : Bytes) (p : Nat)
    (hok : ∀ i ∈ items, i.ok) (hlen : (denoteItems items).length ≤ lim.stringLengthMax) :
    parseString lim ⟨renderString items ++ rest, p⟩ = .ok (denoteItems items, ⟨rest, p + (renderString items).length⟩) := by
  have h := strLoop_render lim items hok ((renderItems items ++ 0x22 :: rest).length + 1) [] 0 rest (p + 1) (by omega)
    (by simp only [List.length_append, List.length_cons]; omega)
  simp only [renderString, List.cons_append, List.append_assoc, List.nil_append, parseString, ↓reduceIte]
  rw [h]
  simp only [List.reverse_nil, List.nil_append, List.length_cons, List.length_append, List.length_nil]
  exact ok_pos (by omega)

-- what follows a value inside a valid text is white space, `,`, `]`, `}` or the end: none of them continues a number token
theorem numStop_ws (w : Ws) (x : Bytes) (hx : NumStop x) : NumStop (w.render ++ x) := by
  cases w with
  | nil => simpa [Ws.render] using hx
  | cons c w =>
    intro b r e
    simp only [Ws.render, List.map_cons, List.cons_append, List.cons.injEq] at e
    obtain ⟨rfl, -⟩ := e
    cases c <;> decide

theorem numStop_cons {b : UInt8} (r : Bytes) (h : b = 0x2C ∨ b = 0x5D ∨ b = 0x7D) : NumStop (b :: r) := by
  intro b' r' e
  simp only [List.cons.injEq] at e
  obtain ⟨rfl, -⟩ := e
  rcases h with h | h | h <;> subst h <;> decide

theorem numStop_nil : NumStop [] := by intro b r e; cases e

theorem render_head (v : SVal) : ∃ b r, v.render = b :: r ∧ isSpace b = false ∧ b ≠ 0x5D := by
  cases v
  case num n =>
    obtain ⟨d, r, hr, hd, -⟩ := natToDec_head n.int
    have hd' := (isDigit_iff d).mp hd
    cases hn : n.neg with
    | true =>
      refine ⟨0x2D, natToDec n.int ++ n.renderFrac ++ n.renderExp, ?_, by decide, by decide⟩
      simp [SVal.render, SNum.render, hn, List.append_assoc]
    | false =>
      refine ⟨d, r ++ n.renderFrac ++ n.renderExp, ?_, ?_, ?_⟩
      · simp [SVal.render, SNum.render, hn, hr, List.append_assoc]
      · cases h : isSpace d with
        | false => rfl
        | true => rw [isSpace_iff] at h; omega
      · intro e; subst e; simp at hd'
  all_goals exact ⟨_, _, rfl, by decide, by decide⟩

theorem noSpaceHead_render (v : SVal) (x : Bytes) : NoSpaceHead (v.render ++ x) := by
  obtain ⟨b, r, hr, hs, -⟩ := render_head v
  rw [hr]; exact HeadNot.cons _ hs

/-- `es.render` without the white space in front of the first element: the loops are entered after `skipWs`, by `_parseArray` /
    `_parseObject` at the start and by the previous iteration after a `,` -/
def SElems.renderNoLead : SElems → Bytes
  | .nil => []
  | .cons _ v w2 tl => v.render ++ w2.render ++ (match tl with | .nil => [] | tl => 0x2C :: tl.render)

def SMembers.renderNoLead : SMembers → Bytes
  | .nil => []
  | .cons _ k w2 w3 v w4 tl =>
    renderString k ++ w2.render ++ [0x3A] ++ w3.render ++ v.render ++ w4.render ++ (match tl with | .nil => [] | tl => 0x2C :: tl.render)

/-- the continuation form of J1, with the end position spelt out so that every instance is a rewrite rule. Only the number case reads
    `NumStop rest`; it stands in the common statement because `SVal.rec` takes one motive for all values -/
def PVStmt (ops : FloatOps) (lim : Limits) (v : SVal) : Prop :=
  ∀ (fuel depth : Nat) (w : Ws) (rest : Bytes) (p : Nat), v.ok → v.fits lim depth → NumStop rest →
    lim.depthMax + 2 ≤ fuel + depth →
    parseValue ops lim fuel depth ⟨w.render ++ (v.render ++ rest), p⟩
      = .ok (v.denote ops, ⟨rest, p + w.render.length + v.render.length⟩)

theorem PVStmt.nows {ops : FloatOps} {lim : Limits} {v : SVal} (h : PVStmt ops lim v) (fuel depth : Nat) (rest : Bytes) (p : Nat)
    (hok : v.ok) (hfit : v.fits lim depth) (hs : NumStop rest) (hf : lim.depthMax + 2 ≤ fuel + depth) :
    parseValue ops lim fuel depth ⟨v.render ++ rest, p⟩ = .ok (v.denote ops, ⟨rest, p + v.render.length⟩) :=
  h fuel depth [] rest p hok hfit hs hf

/-- `arrLoop` on the elements `es` (leading white space already skipped) up to and including `]`: the accumulated array. The loop
    spends one unit of `lfuel` per element, so `es.length ≤ lfuel` suffices -/
def ALStmt (ops : FloatOps) (lim : Limits) (es : SElems) : Prop :=
  es ≠ .nil → ∀ (fuel depth lfuel : Nat) (racc : List Json) (n : Nat) (rest : Bytes) (p : Nat),
    es.ok → es.fits lim (depth + 1) → n + es.length ≤ lim.arrayItemsMax → lim.depthMax + 2 ≤ fuel + (depth + 1) →
    es.length ≤ lfuel →
    arrLoop (parseValue ops lim fuel (depth + 1)) lim lfuel racc n ⟨es.renderNoLead ++ 0x5D :: rest, p⟩
      = .ok (.arr (racc.reverse ++ es.denote ops), ⟨rest, p + es.renderNoLead.length + 1⟩)

/-- the same for `objLoop` and the members `ms`, entered with the members `acc` decoded so far -/
def OLStmt (ops : FloatOps) (lim : Limits) (ms : SMembers) : Prop :=
  ms ≠ .nil → ∀ (fuel depth lfuel : Nat) (acc : List (Bytes × Json)) (rest : Bytes) (p : Nat),
    ms.ok → ms.fits lim (depth + 1) → acc.length + ms.length ≤ lim.membersMax → lim.depthMax + 2 ≤ fuel + (depth + 1) →
    ms.length ≤ lfuel →
    objLoop (parseValue ops lim fuel (depth + 1)) lim lfuel acc ⟨ms.renderNoLead ++ 0x7D :: rest, p⟩
      = .ok (.obj (ms.denote ops acc), ⟨rest, p + ms.renderNoLead.length + 1⟩)

/-- how every case of J1 starts: the budget has a level to spend (and is enough one level down), the depth guard passes, the leading
    white space is skipped -/
theorem parseValue_enter (lim : Limits) (v : SVal) (fuel depth : Nat) (w : Ws) (rest : Bytes) (p : Nat)
    (hd : depth ≤ lim.depthMax) (hf : lim.depthMax + 2 ≤ fuel + depth) :
    ∃ f, fuel = f + 1 ∧ lim.depthMax + 2 ≤ f + (depth + 1) ∧
      Gen.Json.depthExceeded depth lim.depthMax = false ∧
      skipWs ⟨w.render ++ (v.render ++ rest), p⟩ = ⟨v.render ++ rest, p + w.render.length⟩ := by
  cases fuel with
  | zero => omega
  | succ f =>
    refine ⟨f, rfl, by omega, ?_, skipWs_ws w _ p (noSpaceHead_render v rest)⟩
    simp [Gen.Json.depthExceeded]; omega

section
variable {ops : FloatOps} {lim : Limits} {f depth : Nat} {c : Cur} {b : UInt8} {r : Bytes}
  (hde : Gen.Json.depthExceeded depth lim.depthMax = false) (h : (skipWs c).rest = b :: r)
include hde h

-- `parseValue_at` read off for each first byte a value's text can have; `rfl` evaluates the comparisons of two byte literals
theorem parseValue_null (hb : b = 0x6E) : parseValue ops lim (f + 1) depth c = parseNull (skipWs c) := by
  subst hb; rw [parseValue_at hde h]; rfl

theorem parseValue_bool (hb : b = 0x74 ∨ b = 0x66) : parseValue ops lim (f + 1) depth c = parseBool (skipWs c) := by
  rcases hb with rfl | rfl <;> (rw [parseValue_at hde h]; rfl)

theorem parseValue_str (hb : b = 0x22) :
    parseValue ops lim (f + 1) depth c
      = match parseString lim (skipWs c) with
        | .ok (s, c') => .ok (.str s, c')
        | .error e => .error e := by
  subst hb; rw [parseValue_at hde h]; rfl

theorem parseValue_arr (hb : b = 0x5B) :
    parseValue ops lim (f + 1) depth c = parseArray (parseValue ops lim f (depth + 1)) lim (skipWs c) := by
  subst hb; rw [parseValue_at hde h]; rfl

theorem parseValue_obj (hb : b = 0x7B) :
    parseValue ops lim (f + 1) depth c = parseObject (parseValue ops lim f (depth + 1)) lim (skipWs c) := by
  subst hb; rw [parseValue_at hde h]; rfl

theorem parseValue_num (hb : b = 0x2D ∨ isDigit b = true) : parseValue ops lim (f + 1) depth c = parseNumber ops (skipWs c) := by
  have hne : ∀ c' : UInt8, c' ≠ 0x2D → isDigit c' = false → b ≠ c' := by
    rintro c' h1 h2 rfl
    rcases hb with hb | hb
    · exact h1 hb
    · rw [h2] at hb; cases hb
  simp [parseValue_at hde h, hb, hne 0x6E (by decide) rfl, hne 0x74 (by decide) rfl, hne 0x66 (by decide) rfl, hne 0x22 (by decide) rfl,
    hne 0x5B (by decide) rfl, hne 0x7B (by decide) rfl]

end

theorem pv_null (ops : FloatOps) (lim : Limits) : PVStmt ops lim .null := by
  intro fuel depth w rest p _ hfit _ hf
  obtain ⟨f, rfl, -, hde, hsk⟩ := parseValue_enter lim .null fuel depth w rest p hfit hf
  rw [parseValue_null hde (by rw [hsk]; rfl) rfl, hsk]
  simp [SVal.render, litNull, parseNull, SVal.denote, Nat.add_assoc]

theorem pv_true (ops : FloatOps) (lim : Limits) : PVStmt ops lim .true := by
  intro fuel depth w rest p _ hfit _ hf
  obtain ⟨f, rfl, -, hde, hsk⟩ := parseValue_enter lim .true fuel depth w rest p hfit hf
  rw [parseValue_bool hde (by rw [hsk]; rfl) (.inl rfl), hsk]
  simp [SVal.render, litTrue, parseBool, SVal.denote, Nat.add_assoc]

theorem pv_false (ops : FloatOps) (lim : Limits) : PVStmt ops lim .false := by
  intro fuel depth w rest p _ hfit _ hf
  obtain ⟨f, rfl, -, hde, hsk⟩ := parseValue_enter lim .false fuel depth w rest p hfit hf
  rw [parseValue_bool hde (by rw [hsk]; rfl) (.inr rfl), hsk]
  simp [SVal.render, litFalse, litTrue, parseBool, SVal.denote, Nat.add_assoc]

theorem pv_str (ops : FloatOps) (lim : Limits) (s : List StrItem) : PVStmt ops lim (.str s) := by
  intro fuel depth w rest p hok hfit _ hf
  obtain ⟨f, rfl, -, hde, hsk⟩ := parseValue_enter lim (.str s) fuel depth w rest p hfit.1 hf
  have hp := parseString_render lim s rest (p + w.render.length) hok hfit.2
  rw [parseValue_str hde (by rw [hsk]; rfl) rfl, hsk]
  simp only [SVal.render, SVal.denote] at hp ⊢
  simp only [hp]

theorem pv_num (ops : FloatOps) (lim : Limits) (n : SNum) : PVStmt ops lim (.num n) := by
  intro fuel depth w rest p hok hfit hstop hf
  obtain ⟨f, rfl, -, hde, hsk⟩ := parseValue_enter lim (.num n) fuel depth w rest p hfit hf
  obtain ⟨b, r, hb, hb'⟩ : ∃ b r, n.render ++ rest = b :: r ∧ (b = 0x2D ∨ isDigit b = true) := by
    obtain ⟨d, r, hr, hd, -⟩ := natToDec_head n.int
    cases hn : n.neg <;> simp [SNum.render, hn, hr, hd]
  rw [parseValue_num hde (by rw [hsk]; exact hb) hb', hsk]
  exact parseNumber_render ops n hok rest _ hstop

theorem SElems.render_cons_eq (w1 : Ws) (v : SVal) (w2 : Ws) (tl : SElems) :
    (SElems.cons w1 v w2 tl).render = w1.render ++ (SElems.cons w1 v w2 tl).renderNoLead := by
  cases tl <;> simp [SElems.render, SElems.renderNoLead, List.append_assoc]

/-- the loops spend one unit of their budget per element, and every element has at least one byte -/
theorem SElems.length_le : ∀ es : SElems, es.length ≤ es.renderNoLead.length
  | .nil => Nat.le_refl _
  | .cons _ v _ .nil => by
    obtain ⟨b, r, hr, -⟩ := render_head v
    simp [SElems.length, SElems.renderNoLead, hr]
  | .cons a v b (.cons w1 v' w2 tl) => by
    have ih := SElems.length_le (.cons w1 v' w2 tl)
    have e : (SElems.cons a v b (.cons w1 v' w2 tl)).renderNoLead = v.render ++ b.render ++ 0x2C :: (SElems.cons w1 v' w2 tl).render := rfl
    rw [e, SElems.render_cons_eq]
    simp only [SElems.length, List.length_append, List.length_cons] at ih ⊢
    omega

theorem al_nil (ops : FloatOps) (lim : Limits) : ALStmt ops lim .nil := fun h => absurd rfl h

theorem al_cons (ops : FloatOps) (lim : Limits) (w1 : Ws) (v : SVal) (w2 : Ws) (tl : SElems)
    (hv : PVStmt ops lim v) (htl : ALStmt ops lim tl) : ALStmt ops lim (.cons w1 v w2 tl) := by
  intro _ fuel depth lfuel racc n rest p hok hfit hn hf hlf
  simp only [SElems.length] at hn hlf
  cases lfuel with
  | zero => omega
  | succ lfuel =>
    rw [arrLoop, Bool.eq_false_iff.mpr (mt (arrayExceeded_iff _ _).mp (by omega))]
    cases tl with
    | nil =>
      simp only [SElems.renderNoLead, List.append_nil, List.append_assoc, Bool.false_eq_true, ↓reduceIte]
      rw [hv.nows _ _ _ _ hok.1 hfit.1 (numStop_ws w2 _ (numStop_cons rest (by simp))) hf]
      simp only [skipWs_ws_cons w2 0x5D _ _ rfl, ↓reduceIte, SElems.denote, List.reverse_cons, List.length_append, Nat.add_assoc]
    | cons w1' v' w2' tl' =>
      simp only [SElems.renderNoLead, List.append_assoc, List.cons_append, Bool.false_eq_true, ↓reduceIte]
      rw [hv.nows _ _ _ _ hok.1 hfit.1 (numStop_ws w2 _ (numStop_cons _ (by simp))) hf]
      simp only [skipWs_ws_cons w2 0x2C _ _ rfl, show ((0x2C : UInt8) = 0x5D) = False by decide, ↓reduceIte]
      rw [SElems.render_cons_eq, List.append_assoc,
        skipWs_ws w1' _ _ (by simp only [SElems.renderNoLead, List.append_assoc]; exact noSpaceHead_render v' _),
        htl (by simp) fuel depth lfuel _ _ rest _ hok.2 hfit.2 (by simp only [SElems.length] at hn ⊢; omega) hf
          (Nat.le_of_succ_le_succ hlf)]
      simp only [SElems.denote, List.reverse_cons, List.append_assoc, List.singleton_append, SElems.renderNoLead,
        List.length_append, List.length_cons]
      exact ok_pos (by omega)

theorem parseArray_ws (pv : Cur → Res Json) (lim : Limits) (w : Ws) (b : UInt8) (r : Bytes) (q : Nat) (hb : isSpace b = false) :
    parseArray pv lim ⟨0x5B :: (w.render ++ b :: r), q⟩
      = if b = 0x5D then .ok (.arr [], ⟨r, q + 1 + w.render.length + 1⟩)
        else arrLoop pv lim ((b :: r).length + 1) [] 0 ⟨b :: r, q + 1 + w.render.length⟩ := by
  simp [parseArray, Cur.adv, skipWs_ws_cons w b r (q + 1) hb]

theorem parseObject_ws (pv : Cur → Res Json) (lim : Limits) (w : Ws) (b : UInt8) (r : Bytes) (q : Nat) (hb : isSpace b = false) :
    parseObject pv lim ⟨0x7B :: (w.render ++ b :: r), q⟩
      = if b = 0x7D then .ok (.obj [], ⟨r, q + 1 + w.render.length + 1⟩)
        else objLoop pv lim ((b :: r).length + 1) [] ⟨b :: r, q + 1 + w.render.length⟩ := by
  simp [parseObject, Cur.adv, skipWs_ws_cons w b r (q + 1) hb]

theorem pv_arr (ops : FloatOps) (lim : Limits) (w : Ws) (es : SElems) (hal : ALStmt ops lim es) :
    PVStmt ops lim (.arr w es) := by
  intro fuel depth w0 rest p hok hfit hstop hf
  obtain ⟨f, rfl, hf', hde, hsk⟩ := parseValue_enter lim (.arr w es) fuel depth w0 rest p hfit.1 hf
  rw [parseValue_arr hde (r := w.render ++ es.render ++ [0x5D] ++ rest) (by rw [hsk]; rfl) rfl, hsk]
  cases es with
  | nil =>
    simp only [SVal.render, SElems.render, List.append_nil, List.append_assoc, List.cons_append, List.nil_append,
      parseArray_ws _ _ w 0x5D rest _ rfl, ↓reduceIte, SVal.denote, SElems.denote, List.length_cons, List.length_append, List.length_nil]
    exact ok_pos (by omega)
  | cons w1 v w2 tl =>
    obtain ⟨b, r, hr, hsp, hb⟩ := render_head v
    -- `w` and the first element's `w1` are one run of white space between `[` and a byte `b` that is no space (`e`), so `parseArray_ws`
    -- skips both at once; `← e2` then gives `arrLoop` its text back as `ALStmt` states it
    obtain ⟨r', e2⟩ : ∃ r', (SElems.cons w1 v w2 tl).renderNoLead ++ 0x5D :: rest = b :: r' := by
      simp only [SElems.renderNoLead, hr, List.cons_append, List.append_assoc]; exact ⟨_, rfl⟩
    have e : (SVal.arr w (.cons w1 v w2 tl)).render ++ rest = 0x5B :: ((w ++ w1).render ++ b :: r') := by
      rw [← e2]; simp [SVal.render, SElems.render_cons_eq, ws_render_append]
    rw [e, parseArray_ws _ _ _ b r' _ hsp, if_neg hb, ← e2,
      hal (by simp) f depth _ [] 0 rest _ hok hfit.2.2 (by have := hfit.2.1; omega) hf'
        (by rw [List.length_append]; exact Nat.le_succ_of_le (Nat.le_add_right_of_le (SElems.length_le _)))]
    have h1 := congrArg List.length e
    have h2 := congrArg List.length e2
    simp only [List.length_cons, List.length_append] at h1 h2 ⊢
    exact ok_pos (by omega)

theorem SMembers.render_cons_eq (w1 : Ws) (k : List StrItem) (w2 w3 : Ws) (v : SVal) (w4 : Ws) (tl : SMembers) :
    (SMembers.cons w1 k w2 w3 v w4 tl).render = w1.render ++ (SMembers.cons w1 k w2 w3 v w4 tl).renderNoLead := by
  cases tl <;> simp [SMembers.render, SMembers.renderNoLead, List.append_assoc]

theorem SMembers.length_le : ∀ ms : SMembers, ms.length ≤ ms.renderNoLead.length
  | .nil => Nat.le_refl _
  | .cons _ k _ _ _ _ .nil => by simp [SMembers.length, SMembers.renderNoLead, renderString]
  | .cons a k b c d e (.cons w1 k' w2 w3 v w4 tl) => by
    have ih := SMembers.length_le (.cons w1 k' w2 w3 v w4 tl)
    have h : (SMembers.cons a k b c d e (.cons w1 k' w2 w3 v w4 tl)).renderNoLead
        = renderString k ++ b.render ++ [0x3A] ++ c.render ++ d.render ++ e.render ++ 0x2C :: (SMembers.cons w1 k' w2 w3 v w4 tl).render := rfl
    rw [h, SMembers.render_cons_eq]
    simp only [SMembers.length, List.length_append, List.length_cons] at ih ⊢
    omega

theorem noSpaceHead_renderString (k : List StrItem) (x : Bytes) : NoSpaceHead (renderString k ++ x) :=
  HeadNot.cons _ (x := 0x22) rfl

theorem ol_nil (ops : FloatOps) (lim : Limits) : OLStmt ops lim .nil := fun h => absurd rfl h

theorem ol_cons (ops : FloatOps) (lim : Limits) (w1 : Ws) (k : List StrItem) (w2 w3 : Ws) (v : SVal) (w4 : Ws) (tl : SMembers)
    (hv : PVStmt ops lim v) (htl : OLStmt ops lim tl) : OLStmt ops lim (.cons w1 k w2 w3 v w4 tl) := by
  intro _ fuel depth lfuel acc rest p hok hfit hn hf hlf
  simp only [SMembers.length] at hn hlf
  cases lfuel with
  | zero => omega
  | succ lfuel =>
    rw [objLoop, Bool.eq_false_iff.mpr (mt (membersExceeded_iff _ _).mp (by omega))]
    cases tl with
    | nil =>
      simp only [SMembers.renderNoLead, List.append_nil, List.append_assoc, List.cons_append, List.nil_append, Bool.false_eq_true,
        ↓reduceIte]
      rw [parseString_render lim k _ _ hok.1 hfit.1]
      simp only [skipWs_ws_cons w2 0x3A _ _ rfl, ne_eq, not_true_eq_false, ↓reduceIte]
      rw [hv _ _ w3 _ _ hok.2.1 hfit.2.1 (numStop_ws w4 _ (numStop_cons rest (by simp))) hf]
      simp only [skipWs_ws_cons w4 0x7D _ _ rfl, ↓reduceIte, SMembers.denote, List.length_append, List.length_cons]
      exact ok_pos (by omega)
    | cons w1' k' w2' w3' v' w4' tl' =>
      have hil := insertOrAssign_length_le (denoteItems k) (v.denote ops) acc
      simp only [SMembers.renderNoLead, List.append_assoc, List.cons_append, List.nil_append, Bool.false_eq_true, ↓reduceIte]
      rw [parseString_render lim k _ _ hok.1 hfit.1]
      simp only [skipWs_ws_cons w2 0x3A _ _ rfl, ne_eq, not_true_eq_false, ↓reduceIte]
      rw [hv _ _ w3 _ _ hok.2.1 hfit.2.1 (numStop_ws w4 _ (numStop_cons _ (by simp))) hf]
      simp only [skipWs_ws_cons w4 0x2C _ _ rfl, show ((0x2C : UInt8) = 0x7D) = False by decide, ↓reduceIte]
      rw [SMembers.render_cons_eq, List.append_assoc,
        skipWs_ws w1' _ _ (by simp only [SMembers.renderNoLead, List.append_assoc]; exact noSpaceHead_renderString k' _),
        htl (by simp) fuel depth lfuel _ rest _ hok.2.2 hfit.2.2 (by simp only [SMembers.length] at hn ⊢; omega) hf
          (Nat.le_of_succ_le_succ hlf)]
      simp only [SMembers.denote, SMembers.renderNoLead, List.length_append, List.length_cons, List.length_nil]
      exact ok_pos (by omega)

theorem pv_obj (ops : FloatOps) (lim : Limits) (w : Ws) (ms : SMembers) (hol : OLStmt ops lim ms) :
    PVStmt ops lim (.obj w ms) := by
  intro fuel depth w0 rest p hok hfit hstop hf
  obtain ⟨f, rfl, hf', hde, hsk⟩ := parseValue_enter lim (.obj w ms) fuel depth w0 rest p hfit.1 hf
  rw [parseValue_obj hde (r := w.render ++ ms.render ++ [0x7D] ++ rest) (by rw [hsk]; rfl) rfl, hsk]
  cases ms with
  | nil =>
    simp only [SVal.render, SMembers.render, List.append_nil, List.append_assoc, List.cons_append, List.nil_append,
      parseObject_ws _ _ w 0x7D rest _ rfl, ↓reduceIte, SVal.denote, SMembers.denote, List.length_cons, List.length_append,
      List.length_nil]
    exact ok_pos (by omega)
  | cons w1 k w2 w3 v w4 tl =>
    -- as in `pv_arr`: `w ++ w1` is skipped at once, the first byte after it is the `"` of the key
    obtain ⟨r', e2⟩ : ∃ r', (SMembers.cons w1 k w2 w3 v w4 tl).renderNoLead ++ 0x7D :: rest = 0x22 :: r' := by
      simp only [SMembers.renderNoLead, renderString, List.cons_append, List.append_assoc]; exact ⟨_, rfl⟩
    have e : (SVal.obj w (.cons w1 k w2 w3 v w4 tl)).render ++ rest = 0x7B :: ((w ++ w1).render ++ 0x22 :: r') := by
      rw [← e2]; simp [SVal.render, SMembers.render_cons_eq, ws_render_append]
    rw [e, parseObject_ws _ _ _ 0x22 r' _ rfl, if_neg (by decide), ← e2,
      hol (by simp) f depth _ [] rest _ hok hfit.2.2 (by have := hfit.2.1; simp only [List.length_nil]; omega) hf'
        (by rw [List.length_append]; exact Nat.le_succ_of_le (Nat.le_add_right_of_le (SMembers.length_le _)))]
    have h1 := congrArg List.length e
    have h2 := congrArg List.length e2
    simp only [List.length_cons, List.length_append] at h1 h2 ⊢
    exact ok_pos (by omega)

theorem pv_all (ops : FloatOps) (lim : Limits) (v : SVal) : PVStmt ops lim v :=
  SVal.rec (motive_1 := PVStmt ops lim) (motive_2 := ALStmt ops lim) (motive_3 := OLStmt ops lim)
    (pv_null ops lim) (pv_true ops lim) (pv_false ops lim) (pv_num ops lim) (pv_str ops lim)
    (fun w es ih => pv_arr ops lim w es ih) (fun w ms ih => pv_obj ops lim w ms ih)
    (al_nil ops lim) (fun w1 v w2 tl ihv ihtl => al_cons ops lim w1 v w2 tl ihv ihtl)
    (ol_nil ops lim) (fun w1 k w2 w3 v w4 tl ihv ihtl => ol_cons ops lim w1 k w2 w3 v w4 tl ihv ihtl) v

theorem parse_render (ops : FloatOps) (lim : Limits) (t : SText) (hok : t.ok) (hfit : t.fits lim) :
    parse ops lim t.render = .ok (t.denote ops) := by
  have h := (pv_all ops lim t.v).nows (lim.depthMax + 2) 0 t.w2.render (0 + t.w1.render.length) hok hfit
    (by simpa using numStop_ws t.w2 [] numStop_nil) (by omega)
  have hsk := skipWs_ws t.w1 (t.v.render ++ t.w2.render) 0 (noSpaceHead_render t.v _)
  have hsk2 : ∀ q, (skipWs ⟨t.w2.render, q⟩).rest = [] := fun q => by
    have := skipWs_ws t.w2 [] q HeadNot.nil
    rw [List.append_nil] at this; rw [this]
  obtain ⟨b, r, hr, -⟩ := render_head t.v
  unfold parse SText.render
  rw [List.append_assoc, hsk]
  simp only [hr, List.cons_append]
  rw [hr] at h
  simp only [List.cons_append] at h
  rw [h]
  simp only [hsk2]
  rfl

end Iora.Json.Spec
