import IoraModel.Lemmas.TimerService
/-!
Lemmas about `drain` for property C08: (1) after a SUCCESSFUL drain nothing ever starts again; (2) without a `drain(timeout > 0)`
sweep every issued one-shot timer is pending, collected, or was cancelled by a `cancel` that answered `true` (the partial form of
clause S3b; the full clause is refuted by a drain that times out, finding FC08a).
-/
namespace Iora.Tsvc

/-- the state a successful `drain()` leaves: not accepting, not Running, no drain in progress, no live record, nothing waiting or running -/
structure Quiet (s : Svc) : Prop where
  acc : s.accepting = false
  nr : s.life ≠ .running
  dp : s.dpc = .idle
  lv : ∀ r ∈ s.records, r.canceled = true
  rd : s.ready = []
  inf : s.inflight = none

theorem Eff.quiet {s s' : Svc} {op : Op} {out : Out} (e : Eff s op s' out) (q : Quiet s) : Quiet s' := by
  have marked : ∀ {f : Rec → Rec}, Marks f → ∀ r ∈ s.records.map f, r.canceled = true :=
    fun hf => hf.forall q.lv fun _ _ => rfl
  have noDrain : ∀ {d : DPc}, s.dpc = d → d ≠ .idle → False := fun h hne => hne (h ▸ q.dp)
  cases e with
  | ctl hc =>
    cases hc with
    | idle => exact q
    | loopExit | stopHalt => exact ⟨q.acc, q.nr, q.dp, q.lv, q.rd, q.inf⟩
    | drainGate hl => exact absurd hl q.nr
    | sweep0 _ _ hd | drainDone hd | drainTimeout hd | restore hd | unwind hd => exact (noDrain hd nofun).elim
    | stopFlag => exact ⟨rfl, q.nr, q.dp, q.lv, q.rd, q.inf⟩
    | stopFinish => exact ⟨rfl, nofun, q.dp, q.lv, q.rd, q.inf⟩
  | schedAt _ _ ha | schedPer _ _ ha => rw [q.acc] at ha; cases ha
  | cancelRec id | cancelPer id => exact ⟨q.acc, q.nr, q.dp, marked (markCanceled_marks id), q.rd, q.inf⟩
  | collect now ax hx hr hi hax c hc =>
    subst hc
    -- with every record cancelled the loop re-arms nothing and hands nothing over
    have sh := collectLoop_shrinks now collectFuel { records := s.records, periodic := s.periodic, heap := s.heap }
    have nolive : ∀ rc ∈ s.records, rc.canceled = false → False := fun rc hrc hc => by rw [q.lv rc hrc] at hc; cases hc
    refine ⟨q.acc, q.nr, q.dp, ?_, List.eq_nil_iff_forall_not_mem.mpr ?_, q.inf⟩
    · intro r hr
      rcases sh.recs r hr with h | ⟨_, rc, hrc, hc, _⟩
      · exact q.lv r h
      · exact (nolive rc hrc hc).elim
    · intro e he
      rcases sh.out e he with h | ⟨rc, hrc, hc, _⟩
      · cases h
      · exact nolive rc hrc hc
  | skip e rest hi hr | start e rest hi hr => rw [q.rd] at hr; cases hr
  | hend e hi => rw [q.inf] at hi; cases hi
  | sweep now t hd => exact (noDrain hd nofun).elim

theorem liveCount_zero {s : Svc} (h : liveCount s = 0) : ∀ r ∈ s.records, r.canceled = true := by
  intro r hr
  cases hc : r.canceled
  · exfalso
    have : r ∈ s.records.filter (fun r => !r.canceled) := List.mem_filter.mpr ⟨hr, by simp [hc]⟩
    unfold liveCount at h
    rw [List.eq_nil_of_length_eq_zero h] at this
    cases this
  · rfl

/-- what `drainDone` has seen when it answers `true` -/
structure Drained (s : Svc) : Prop where
  dpc : s.dpc = .waiting
  live : liveCount s = 0
  exec : s.executing = 0
  rd : s.ready = []
  inf : s.inflight = none

theorem drainDone_true {s : Svc} (w : Wf s) (h : (drainDone s).2 = true) : Drained s ∧ (drainDone s).1 = { s with dpc := .idle } := by
  unfold drainDone at h ⊢
  split at h
  · rename_i hg
    have hp := hg.2
    simp only [drainPred, Bool.and_eq_true, beq_iff_eq] at hp
    exact ⟨⟨hg.1, hp.1, hp.2, (w.idle.mp hp.2).1, (w.idle.mp hp.2).2⟩, if_pos hg ▸ rfl⟩
  · cases h

theorem drainDone_quiet {s : Svc} (w : Wf s) (b : DrainBusy s) (h : (drainDone s).2 = true) : Quiet (drainDone s).1 := by
  obtain ⟨d, he⟩ := drainDone_true w h
  have hb := b (by rw [d.dpc]; nofun)
  rw [he]
  exact ⟨hb.2, hb.1, rfl, liveCount_zero d.live, d.rd, d.inf⟩

/-- as long as no sweep has run: a cancelled record was cancelled by a `cancel` that answered `true`, and every issued one-shot id
still has its record, or was collected, or was cancelled that way -/
structure NoLoss (s : Svc) (h : Hist) : Prop where
  u1 : ∀ r ∈ s.records, r.canceled = true → r.id ∈ userCancelled h
  u2 : ∀ id ∈ issued1 h, (∃ r ∈ s.records, r.id = id) ∨ id ∈ (collected h).map (·.id) ∨ id ∈ userCancelled h

/-- one step: a cancelled record was cancelled before or by this step's successful `cancel`; a record goes only by being handed
over or as a cancelled one; a newly issued one-shot id has its record -/
theorem NoLoss.next {s s' : Svc} {h : Hist} {x : Op × Out} (n : NoLoss s h)
    (h1 : ∀ r' ∈ s'.records, r'.canceled = true → (∃ r ∈ s.records, r.id = r'.id ∧ r.canceled = true) ∨ r'.id ∈ userCancelledOf x)
    (h2 : ∀ r ∈ s.records, (∃ r' ∈ s'.records, r'.id = r.id) ∨ r.id ∈ (collectedOf x).map (·.id) ∨ r.canceled = true)
    (h3 : ∀ id ∈ issued1Of x, ∃ r ∈ s'.records, r.id = id) : NoLoss s' (h ++ [x]) := by
  refine ⟨?_, ?_⟩
  · intro r' hr' hc
    rw [userCancelled_snoc]
    rcases h1 r' hr' hc with ⟨r, hr, hid, hrc⟩ | h'
    · exact List.mem_append_left _ (hid ▸ n.u1 r hr hrc)
    · exact List.mem_append_right _ h'
  · intro id hid
    rw [issued1_snoc] at hid
    rw [collected_snoc, userCancelled_snoc, List.map_append]
    rcases List.mem_append.mp hid with hid | hid
    · rcases n.u2 id hid with ⟨r, hr, rfl⟩ | h' | h'
      · rcases h2 r hr with h' | h' | h'
        · exact Or.inl h'
        · exact Or.inr (Or.inl (List.mem_append_right _ h'))
        · exact Or.inr (Or.inr (List.mem_append_left _ (n.u1 r hr h')))
      · exact Or.inr (Or.inl (List.mem_append_left _ h'))
      · exact Or.inr (Or.inr (List.mem_append_left _ h'))
    · exact Or.inl (h3 id hid)

theorem Eff.noLoss {s s' : Svc} {op : Op} {out : Out} {h : Hist} (e : Eff s op s' out) (i : Inv s h)
    (n : NoLoss s h) (hop : ∀ now t, op = .drainSweep now t → t ≤ 0) : NoLoss s' (h ++ [(op, out)]) := by
  -- the records stay as they are and no one-shot id is issued
  have same : ∀ {s' : Svc} {x : Op × Out}, s'.records = s.records → issued1Of x = [] → NoLoss s' (h ++ [x]) := by
    intro s' x hr hi
    refine n.next (fun r' hr' hc => Or.inl ⟨r', hr ▸ hr', rfl, hc⟩) (fun r hr' => Or.inl ⟨r, hr ▸ hr', rfl⟩) ?_
    rw [hi]; exact List.forall_mem_nil _
  -- `cancel j`: a record it newly marks is the live record of `j`, and the answer is `true`
  have cancelled : ∀ (j : Nat) (b : Bool), ((∃ rc, findRec s.records j = some rc ∧ rc.canceled = false) → b = true) →
      ∀ r' ∈ s.records.map (markCanceled j), r'.canceled = true →
        (∃ r ∈ s.records, r.id = r'.id ∧ r.canceled = true) ∨ r'.id ∈ userCancelledOf (Op.cancel j, Out.bool b) := by
    intro j b hb r' hr' hc
    obtain ⟨r0, h0, rfl⟩ := List.mem_map.mp hr'
    have hid := ((markCanceled_marks j).fields r0).1
    cases hc0 : r0.canceled
    · right
      have hj : r0.id = j := by
        unfold markCanceled at hc
        split at hc
        · rename_i hcond; simp only [Bool.and_eq_true, beq_iff_eq] at hcond; exact hcond.1
        · rw [hc0] at hc; cases hc
      have hb' : b = true := hb ⟨r0, hj ▸ findRec_of_mem i.wf.core.rnd h0, hc0⟩
      rw [hb', hid, hj]; exact List.mem_singleton.mpr rfl
    · exact Or.inl ⟨r0, h0, hid.symm, hc0⟩
  -- `[]` is `collectedOf` of a `cancel` step, spelt as `n.next` will ask for it
  have kept : ∀ (j : Nat), ∀ r ∈ s.records, (∃ r' ∈ s.records.map (markCanceled j), r'.id = r.id) ∨
      r.id ∈ ([] : List Hnd).map (·.id) ∨ r.canceled = true :=
    fun j r hr => Or.inl ⟨_, List.mem_map_of_mem hr, ((markCanceled_marks j).fields r).1⟩
  cases e with
  | ctl hc => exact same hc.data.records hc.silent.issued1
  | schedAt now tp ha =>
    refine n.next ?_ (fun r hr => Or.inl ⟨r, List.mem_append_left _ hr, rfl⟩) ?_
    · intro r' hr' hc
      rcases List.mem_append.mp hr' with hr' | hr'
      · exact Or.inl ⟨r', hr', rfl, hc⟩
      · cases List.mem_singleton.mp hr'; cases hc
    · intro id hid
      have : id = s.nextId + 1 := by simpa [issued1Of] using hid
      exact ⟨_, List.mem_append_right _ (List.mem_singleton.mpr rfl), this.symm⟩
  | schedPer now iv ha =>
    refine n.next ?_ (fun r hr => Or.inl ⟨r, List.mem_append_left _ hr, rfl⟩) (List.forall_mem_nil _)
    intro r' hr' hc
    rcases List.mem_append.mp hr' with hr' | hr'
    · exact Or.inl ⟨r', hr', rfl, hc⟩
    · cases List.mem_singleton.mp hr'; cases hc
  | cancelRec j b hp hb => exact n.next (cancelled j b hb.mpr) (kept j) (List.forall_mem_nil _)
  | cancelPer j pt hp => exact n.next (cancelled j true fun _ => rfl) (kept j) (List.forall_mem_nil _)
  | collect now ax hx hr hi hax c hc =>
    subst hc
    have sp := (collect_spec i now).1
    have sh := collectLoop_shrinks now collectFuel { records := s.records, periodic := s.periodic, heap := s.heap }
    refine n.next ?_ ?_ (List.forall_mem_nil _)
    · intro r' hr' hc
      rcases sh.recs r' hr' with h' | ⟨hl, _⟩
      · exact Or.inl ⟨r', h', rfl, hc⟩
      · rw [hc] at hl; cases hl
    · intro r hr
      rcases sp.acct r hr with h' | ⟨_, h'⟩ | ⟨hc, _⟩
      · exact Or.inl ⟨r, h', rfl⟩
      · exact Or.inr (Or.inl (List.mem_map.mpr ⟨r.hnd, h', rfl⟩))
      · exact Or.inr (Or.inr hc)
  | skip | start | hend => exact same rfl rfl
  | sweep now t hd ht => have := hop now t rfl; omega

theorem noLoss_runFrom (L : Limits) (ops : List Op) (s : Svc) (h : Hist) (i : Inv s h) (n : NoLoss s h) (hns : noSweep ops) :
    NoLoss (runFrom L s h ops).1 (runFrom L s h ops).2 :=
  (runFrom_ind (fun s h => Inv s h ∧ NoLoss s h) (fun op => ∀ now t, op = .drainSweep now t → t ≤ 0)
    (fun s _ op hop x => ⟨(step_eff L s op).inv x.1, (step_eff L s op).noLoss x.1 x.2 hop⟩) ops s h hns ⟨i, n⟩).2

end Iora.Tsvc
