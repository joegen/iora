import IoraModel.Model.DnsTcp
import IoraModel.Lemmas.DnsTransport
/-! The receive path of the DNS client (`Model/DnsTcp.lean`): `frameAt` is a stable frame parser on every buffer, so `tcpLoop` is the
generic greedy drain of `Common/Framing`, and every segmentation of a stream of valid length-prefixed messages in which no read
trips the growth check (`Fits`; none does when the stream is within the limit) hands out exactly the messages
(`tcpFeed_segmentation`, `_small`); `respond` and `deliver` of the complete data callbacks end normally whatever the bytes, because
`processResponse` does (`DnsTransport.processResponse_total`). -/
namespace Iora.DnsTcp
open Iora Iora.Dns

theorem frameAt_cons2 (cap : Nat) (b0 b1 : UInt8) (rest : Bytes) :
    frameAt cap (b0 :: b1 :: rest) =
      if b0.toNat * 256 + b1.toNat = 0 ∨ b0.toNat * 256 + b1.toNat > 65535 then .fatal .close
      else if b0.toNat * 256 + b1.toNat > cap then .fatal .close
      else if rest.length < b0.toNat * 256 + b1.toNat then .more
      else .frame (.msg (rest.take (b0.toNat * 256 + b1.toNat))) (2 + (b0.toNat * 256 + b1.toNat)) := rfl

theorem frameAt_short (cap : Nat) (d : Bytes) (h : d.length < 2) : frameAt cap d = .more := by
  match d, h with
  | [], _ => rfl
  | [_], _ => rfl
  | _ :: _ :: _, h => simp only [List.length_cons] at h; omega

/-- a verdict other than "wait for more bytes" depends on the two prefix bytes and on enough bytes being there, so it stands
whatever is appended to the buffer -/
theorem frameAt_append (cap : Nat) (d x : Bytes) (h : frameAt cap d ≠ .more) : frameAt cap (d ++ x) = frameAt cap d := by
  match d, h with
  | [], h => exact absurd rfl h
  | [_], h => exact absurd rfl h
  | b0 :: b1 :: rest, h =>
    rw [frameAt_cons2] at h ⊢
    rw [List.cons_append, List.cons_append, frameAt_cons2]
    generalize b0.toNat * 256 + b1.toNat = len at h ⊢
    split
    · rfl
    split
    · rfl
    have c3 : ¬ rest.length < len := fun c3 => h (by rw [if_neg ‹_›, if_neg ‹_›, if_pos c3])
    rw [if_neg c3, if_neg (by rw [List.length_append]; omega), List.take_append_of_le_length (Nat.le_of_not_lt c3)]

theorem frameAt_frame_inv (cap : Nat) (d : Bytes) (a : Ev) (n : Nat) (h : frameAt cap d = .frame a n) :
    ∃ b0 b1 rest, d = b0 :: b1 :: rest ∧ n = 2 + (b0.toNat * 256 + b1.toNat) ∧
      a = .msg (rest.take (b0.toNat * 256 + b1.toNat)) ∧ b0.toNat * 256 + b1.toNat ≤ rest.length ∧
      0 < b0.toNat * 256 + b1.toNat ∧ b0.toNat * 256 + b1.toNat ≤ cap ∧ b0.toNat * 256 + b1.toNat ≤ 65535 := by
  match d, h with
  | [], h => exact nomatch h
  | [_], h => exact nomatch h
  | b0 :: b1 :: rest, h =>
    rw [frameAt_cons2] at h
    refine ⟨b0, b1, rest, rfl, ?_⟩
    generalize b0.toNat * 256 + b1.toNat = len at h ⊢
    split at h
    · exact nomatch h
    split at h
    · exact nomatch h
    split at h
    · exact nomatch h
    injection h with ha hn
    exact ⟨hn.symm, ha.symm, by omega, by omega, by omega, by omega⟩

theorem frameAt_fatal (cap : Nat) (d : Bytes) (e : Ev) (h : frameAt cap d = .fatal e) : e = .close := by
  match d, h with
  | [], h => exact nomatch h
  | [_], h => exact nomatch h
  | b0 :: b1 :: rest, h =>
    rw [frameAt_cons2] at h
    split at h
    · exact (Framing.Res.fatal.inj h).symm
    · split at h
      · exact (Framing.Res.fatal.inj h).symm
      · split at h <;> cases h

/-- `frameAt cap` as a stable frame parser: its answer depends only on the first two bytes and on whether enough bytes
are present, so `frame` and `fatal` answers survive every extension of the buffer — of any buffer: the set of good buffers, on
which `Framing.Stable` asks for this, is all of them -/
def tcpParser (cap : Nat) : Framing.Stable Ev (fun _ => True) where
  p := frameAt cap
  pos := by
    intro d a n h
    obtain ⟨b0, b1, rest, rfl, rfl, _, hle, h0, _⟩ := frameAt_frame_inv cap d a n h
    exact ⟨by omega, by simp only [List.length_cons]; omega⟩
  ext_frame := by
    intro d a n x _ h
    exact (frameAt_append cap d x (by rw [h]; nofun)).trans h
  ext_fatal := by
    intro d e x _ h
    exact (frameAt_append cap d x (by rw [h]; nofun)).trans h
  g_drop := fun _ _ _ _ _ => trivial
  g_prefix := fun _ _ _ => trivial

@[simp] theorem tcpParser_p (cap : Nat) (d : Bytes) : (tcpParser cap).p d = frameAt cap d := rfl

/-- the buffer left behind by a carry (`dead`: `buffer.clear()`) -/
def carryBuf : Framing.Carry → Bytes
  | .alive r => r
  | .dead => []

theorem tcpLoop_eq_drainF_carryBuf (cap : Nat) : ∀ (f : Nat) (d : Bytes),
    tcpLoop cap f d =
      ((Framing.drainF (tcpParser cap) f d).1, carryBuf (Framing.drainF (tcpParser cap) f d).2) := by
  intro f
  induction f with
  | zero => intro d; rfl
  | succ f ih =>
    intro d
    simp only [tcpLoop, Framing.drainF, tcpParser_p]
    cases frameAt cap d with
    | more => rfl
    | fatal e => rfl
    | frame a n => simp only [ih (d.drop n)]

theorem tcpLoop_eq_drainF (cap : Nat) (f : Nat) (d : Bytes) :
    tcpLoop cap f d =
      (match Framing.drainF (tcpParser cap) f d with
       | (evs, .alive r) => (evs, r)
       | (evs, .dead) => (evs, [])) := by
  rw [tcpLoop_eq_drainF_carryBuf]
  generalize Framing.drainF (tcpParser cap) f d = r
  obtain ⟨evs, c⟩ := r
  cases c <;> rfl

/-- the fuel handed in by `tcpData` is always enough -/
theorem tcpLoop_fuel (cap : Nat) (f : Nat) (d : Bytes) (h : d.length < f) :
    tcpLoop cap f d = tcpLoop cap (d.length + 1) d := by
  rw [tcpLoop_eq_drainF_carryBuf, tcpLoop_eq_drainF_carryBuf,
    Framing.drainF_fuel (tcpParser cap) f (d.length + 1) d h (by omega)]

theorem tcpLoop_buf_le (cap f : Nat) (d : Bytes) : (tcpLoop cap f d).2.length ≤ d.length := by
  rw [tcpLoop_eq_drainF_carryBuf]
  cases h : (Framing.drainF (tcpParser cap) f d).2 with
  | dead => exact Nat.zero_le _
  | alive r => exact Framing.drainF_carry_le _ f d r h

theorem tcpLoop_msg_bounds (cap : Nat) : ∀ (f : Nat) (d : Bytes) (m : Bytes), Ev.msg m ∈ (tcpLoop cap f d).1 →
    0 < m.length ∧ m.length ≤ 65535 ∧ m.length ≤ cap := by
  intro f d m h
  rw [tcpLoop_eq_drainF_carryBuf] at h
  obtain ⟨d', ⟨n, hp⟩ | hp⟩ := Framing.drainF_mem _ f d _ h
  · obtain ⟨b0, b1, rest, _, _, ha, hle, h0, hc, hm⟩ := frameAt_frame_inv cap d' _ n hp
    rw [Ev.msg.inj ha, List.length_take]
    omega
  · cases frameAt_fatal cap d' _ hp

theorem tcpData_fits (cap : Nat) (buf data : Bytes) (h : buf.length + data.length ≤ cap) :
    tcpData cap buf data =
      ((Framing.drain (tcpParser cap) (buf ++ data)).1, carryBuf (Framing.drain (tcpParser cap) (buf ++ data)).2) := by
  unfold tcpData
  rw [if_neg (by omega)]
  exact tcpLoop_eq_drainF_carryBuf cap _ _

theorem tcpData_buf_le (cap : Nat) (buf data : Bytes) : (tcpData cap buf data).2.length ≤ buf.length + data.length := by
  unfold tcpData
  split
  · exact Nat.zero_le _
  · have := tcpLoop_buf_le cap ((buf ++ data).length + 1) (buf ++ data)
    simpa only [List.length_append] using this

/-- every message of the list is non-empty, fits the 16-bit length prefix and the configured buffer limit -/
def ValidMsgs (cap : Nat) (ms : List Bytes) : Prop := ∀ m ∈ ms, 0 < m.length ∧ m.length ≤ 65535 ∧ m.length ≤ cap

instance (cap : Nat) (ms : List Bytes) : Decidable (ValidMsgs cap ms) := List.decidableBAll _ ms

theorem frameAt_msg (cap : Nat) (m rest : Bytes) (h0 : 0 < m.length) (h1 : m.length ≤ 65535) (h2 : m.length ≤ cap) :
    frameAt cap (be16 m.length ++ m ++ rest) = .frame (.msg m) (2 + m.length) := by
  have hlen : (b8 (m.length / 256)).toNat * 256 + (b8 m.length).toNat = m.length := by
    simp only [b8_toNat]; omega
  show frameAt cap (b8 (m.length / 256) :: b8 m.length :: (m ++ rest)) = _
  rw [frameAt_cons2, hlen, if_neg (by omega), if_neg (by omega), if_neg (by rw [List.length_append]; omega), List.take_left' rfl]

theorem tcpStream_eq : ∀ ms : List Bytes, tcpStream ms = (ms.map fun m => be16 m.length ++ m).flatten
  | [] => rfl
  | m :: ms => by rw [tcpStream, tcpStream_eq ms]; rfl

theorem drain_tcpStream (cap : Nat) (ms : List Bytes) (hv : ValidMsgs cap ms) :
    Framing.drain (tcpParser cap) (tcpStream ms) = (ms.map Ev.msg, .alive []) := by
  rw [tcpStream_eq]
  refine Framing.drain_encoded (tcpParser cap) rfl _ Ev.msg ms fun m hm rest => ?_
  have ⟨h0, h1, h2⟩ := hv m hm
  rw [List.length_append, be16_length]
  exact frameAt_msg cap m rest h0 h1 h2

theorem tcpFeed_eq_feed (cap : Nat) : ∀ (ss : List Bytes) (buf : Bytes), Fits cap buf ss →
    (Framing.feed (tcpParser cap) (.alive buf) ss).2 ≠ .dead →
    tcpFeed cap buf ss =
      ((Framing.feed (tcpParser cap) (.alive buf) ss).1, carryBuf (Framing.feed (tcpParser cap) (.alive buf) ss).2)
  | [], _, _, _ => rfl
  | s :: ss, buf, hfit, hal => by
    have hdata := tcpData_fits cap buf s hfit.1
    have hfit' := hfit.2
    simp only [Framing.feed, Framing.resume] at hal ⊢
    simp only [tcpFeed, hdata] at hfit' ⊢
    cases hc : (Framing.drain (tcpParser cap) (buf ++ s)).2 with
    | dead => rw [hc, Framing.feed_dead] at hal; exact absurd rfl hal
    | alive r1 => rw [hc] at hal hfit'; simp only [carryBuf, tcpFeed_eq_feed cap ss r1 hfit' hal]

/-- segmentation independence for ARBITRARY bytes: as long as no read trips the growth check and nothing closes the session, feeding
the reads one by one hands out what one pass over the whole stream hands out, and leaves what it leaves -/
theorem tcpFeed_eq_drain (cap : Nat) (ss : List Bytes) (evs : List Ev) (r : Bytes) (hfit : Fits cap [] ss)
    (h : Framing.drain (tcpParser cap) ss.flatten = (evs, .alive r)) : tcpFeed cap [] ss = (evs, r) := by
  have hw := Framing.feed_eq_whole (tcpParser cap) rfl ss trivial
  rw [tcpFeed_eq_feed cap ss [] hfit (by rw [hw, h]; nofun), hw, h]
  rfl

theorem tcpFeed_segmentation (cap : Nat) (ms : List Bytes) (hv : ValidMsgs cap ms) (ss : List Bytes)
    (hflat : ss.flatten = tcpStream ms) (hfit : Fits cap [] ss) :
    tcpFeed cap [] ss = (ms.map Ev.msg, []) :=
  tcpFeed_eq_drain cap ss _ _ hfit (by rw [hflat]; exact drain_tcpStream cap ms hv)

theorem fits_of_small (cap : Nat) : ∀ (ss : List Bytes) (buf : Bytes),
    buf.length + ss.flatten.length ≤ cap → Fits cap buf ss := by
  intro ss
  induction ss with
  | nil => intro buf _; exact trivial
  | cons s ss ih =>
    intro buf h
    simp only [List.flatten_cons, List.length_append] at h
    refine ⟨by omega, ih _ ?_⟩
    have := tcpData_buf_le cap buf s
    omega

/-- model-independent form: a stream no longer than the buffer limit is received correctly under EVERY segmentation -/
theorem tcpFeed_segmentation_small (cap : Nat) (ms : List Bytes) (hv : ValidMsgs cap ms) (ss : List Bytes)
    (hflat : ss.flatten = tcpStream ms) (hsmall : (tcpStream ms).length ≤ cap) :
    tcpFeed cap [] ss = (ms.map Ev.msg, []) := by
  apply tcpFeed_segmentation cap ms hv ss hflat
  apply fits_of_small
  rw [hflat]
  simpa only [List.length_nil, Nat.zero_add] using hsmall

theorem tcpData_zero_length (cap : Nat) (buf data rest : Bytes) (hd : buf ++ data = 0 :: 0 :: rest) (h : buf.length + data.length ≤ cap) :
    tcpData cap buf data = ([.close], []) := by
  unfold tcpData
  rw [if_neg (by omega), hd]
  have hf : frameAt cap (0 :: 0 :: rest) = .fatal .close := by rw [frameAt_cons2, if_pos (Or.inl (by decide))]
  simp only [tcpLoop, hf]

theorem respond_total (p : List (Nat × Nat)) (s : Nat) (d : Bytes) : ∃ out, respond p s d = .ok out := by
  unfold respond
  obtain ⟨⟨c, left⟩, h⟩ := DnsTransport.processResponse_total ((p.filter (fun q => q.2 = s)).map (·.1)) d
  rw [h]
  exact ⟨_, rfl⟩

theorem deliver_total (sid : Nat) (srv : Option Nat) : ∀ (evs : List Ev) (p : List (Nat × Nat)), ∃ out, deliver sid srv evs p = .ok out := by
  intro evs
  induction evs with
  | nil => intro p; exact ⟨_, rfl⟩
  | cons e r ih =>
    intro p
    cases e with
    | close =>
      obtain ⟨⟨o, p'⟩, h⟩ := ih p
      simp only [deliver, h]
      exact ⟨_, rfl⟩
    | msg m =>
      cases srv with
      | none => simp only [deliver]; exact ih p
      | some s =>
        obtain ⟨⟨c, p1⟩, h1⟩ := respond_total p s m
        obtain ⟨⟨o, p'⟩, h2⟩ := ih p1
        simp only [deliver, h1, h2]
        exact ⟨_, rfl⟩

example : tcpFeed 64 [] [[0], [3, 1, 2], [3, 0, 1, 9]] = ([.msg [1, 2, 3], .msg [9]], []) := by decide

example : ValidMsgs 64 [[1, 2, 3], [9]] := by decide

example : ([[0], [3, 1, 2], [3, 0, 1, 9]] : List Bytes).flatten = tcpStream [[1, 2, 3], [9]] := by decide

example : tcpFeed 64 [] [[0], [3, 1, 2], [3, 0, 1, 9]] = ([.msg [1, 2, 3], .msg [9]], []) :=
  tcpFeed_segmentation_small 64 [[1, 2, 3], [9]] (by decide) [[0], [3, 1, 2], [3, 0, 1, 9]] (by decide) (by decide)

end Iora.DnsTcp
