import IoraModel.Lemmas.JsonSer
/-! Lemmas for J2 with `sortKeys` (C13): the sorted serializer is the unsorted serializer applied to `sortDeep v`,
and `sortDeep v` equals `v` for `Json::operator==`. -/
namespace Iora.Json.Spec
open Iora Iora.Json

theorem sortDeepList_eq (xs : List Json) : sortDeepList xs = xs.map sortDeep := by
  induction xs with
  | nil => rfl
  | cons x xs ih => simp [sortDeepList, ih]

theorem sortDeepList_isEmpty (xs : List Json) : (sortDeepList xs).isEmpty = xs.isEmpty := by rw [sortDeepList_eq]; simp

theorem sortDeepMembers_eq (ms : List (Bytes × Json)) : sortDeepMembers ms = ms.map (fun kv => (kv.1, sortDeep kv.2)) := by
  induction ms with
  | nil => rfl
  | cons m ms ih => obtain ⟨k, v⟩ := m; simp [sortDeepMembers, ih]

theorem serMembers_eq (ops : FloatOps) (o : Opts) (d : Nat) (ms : List (Bytes × Json)) :
    serMembers ops o d ms = ms.map (fun kv => (kv.1, serialize ops o (d + 1) kv.2)) := by
  induction ms with
  | nil => rfl
  | cons m ms ih => obtain ⟨k, v⟩ := m; simp [serMembers, ih]

theorem eqvMembers_iff (ms ns : List (Bytes × Json)) :
    eqvMembers ms ns = true ↔ ∀ kv ∈ ms, ∃ w, lookupKey kv.1 ns = some w ∧ eqv kv.2 w = true := by
  induction ms with
  | nil => simp [eqvMembers]
  | cons m ms ih =>
    obtain ⟨k, v⟩ := m
    simp only [eqvMembers, Bool.and_eq_true, ih, List.mem_cons, forall_eq_or_imp]
    cases hl : lookupKey k ns with
    | none => simp
    | some w => simp

theorem eqvList_map (xs : List Json) (f : Json → Json) (h : ∀ x ∈ xs, eqv x (f x) = true) : eqvList xs (xs.map f) = true := by
  induction xs with
  | nil => rfl
  | cons x xs ih =>
    simp only [List.map_cons, eqvList, Bool.and_eq_true]
    exact ⟨h x (by simp), ih (fun y hy => h y (by simp [hy]))⟩

theorem lookupKey_of_mem {ns : List (Bytes × Json)} {k : Bytes} {w : Json} (hn : (ns.map Prod.fst).Nodup) (hm : (k, w) ∈ ns) :
    lookupKey k ns = some w := by
  induction ns with
  | nil => cases hm
  | cons m ns ih =>
    obtain ⟨k', v'⟩ := m
    simp only [List.map_cons, List.nodup_cons] at hn
    simp only [List.mem_cons, Prod.mk.injEq] at hm
    simp only [lookupKey]
    rcases hm with ⟨rfl, rfl⟩ | hm
    · simp
    · have : k' ≠ k := fun e => hn.1 (e ▸ List.mem_map.mpr ⟨(k, w), hm, rfl⟩)
      rw [if_neg this, ih hn.2 hm]

theorem dblEq_self_of_finite (d : UInt64) (h : isFiniteBits d = true) : dblEq d d = true := by
  have hn : isNaNBits d = false := by
    simp only [isFiniteBits, decide_eq_true_eq] at h
    simp only [isNaNBits, decide_eq_false_iff_not, not_and]
    intro h'; exact absurd h' h
  simp [dblEq, hn]

theorem joinMembers_sortKeys (o : Opts) (b : Bool) (d : Nat) (items : List (Bytes × Bytes)) :
    joinMembers { o with sortKeys := b } d items = joinMembers o d items := by
  induction items with
  | nil => rfl
  | cons i items ih => obtain ⟨k, sv⟩ := i; simp only [joinMembers, ih]; rfl

section
variable (ops : FloatOps) (o : Opts)

/-- what `sortDeep` does to one value. Each field needs only itself at the children; they go through one induction so that `Json.rec`
    with its four motives is set up once -/
structure SortP (v : Json) : Prop where
  ser : ∀ d, serialize ops { o with sortKeys := true } d v = serialize ops { o with sortKeys := false } d (sortDeep v)
  good : v.Good → (sortDeep v).Good
  within : ∀ lim s d, v.within lim s d → (sortDeep v).within lim s d
  equiv : v.Good → eqv v (sortDeep v) = true
  utf8 : v.utf8 → (sortDeep v).utf8

theorem serElems_sorted (xs : List Json) (h : ∀ x ∈ xs, SortP ops o x) (d : Nat) :
    serElems ops { o with sortKeys := true } d xs = serElems ops { o with sortKeys := false } d (sortDeepList xs) := by
  induction xs with
  | nil => rfl
  | cons x xs ih =>
    have hx := (h x (by simp)).ser (d + 1)
    have ih' := ih (fun y hy => h y (by simp [hy]))
    have he := sortDeepList_isEmpty xs
    simp only [sortDeepList, serElems, hx, ih', he]
    rfl

theorem sortP_arr (xs : List Json) (h : ∀ x ∈ xs, SortP ops o x) : SortP ops o (.arr xs) where
  ser d := by
    have he := sortDeepList_isEmpty xs
    simp only [sortDeep, serialize, serElems_sorted ops o xs h d, he]
    rfl
  good hg := by
    simp only [Json.Good, sortDeep, goodList_iff, sortDeepList_eq] at hg ⊢
    intro y hy
    obtain ⟨x, hx, rfl⟩ := List.mem_map.mp hy
    exact (h x hx).good (hg x hx)
  within lim s d hw := by
    simp only [Json.within, sortDeep, withinList_iff, sortDeepList_eq, List.length_map] at hw ⊢
    refine ⟨hw.1, hw.2.1, ?_⟩
    intro y hy
    obtain ⟨x, hx, rfl⟩ := List.mem_map.mp hy
    exact (h x hx).within lim s (d + 1) (hw.2.2 x hx)
  equiv hg := by
    simp only [Json.Good, goodList_iff] at hg
    simp only [sortDeep, eqv, sortDeepList_eq]
    exact eqvList_map xs sortDeep (fun x hx => (h x hx).equiv (hg x hx))
  utf8 hu := by
    simp only [Json.utf8, sortDeep, utf8List_iff, sortDeepList_eq] at hu ⊢
    intro y hy
    obtain ⟨x, hx, rfl⟩ := List.mem_map.mp hy
    exact (h x hx).utf8 (hu x hx)

theorem mem_sortMs_sortDeepMembers {ms : List (Bytes × Json)} {kv : Bytes × Json} (h : kv ∈ sortMs (sortDeepMembers ms)) :
    ∃ kv0 ∈ ms, kv = (kv0.1, sortDeep kv0.2) := by
  have h' := (List.mergeSort_perm _ _).mem_iff.mp h
  rw [sortDeepMembers_eq] at h'
  obtain ⟨kv0, h0, rfl⟩ := List.mem_map.mp h'
  exact ⟨kv0, h0, rfl⟩

theorem sortP_obj (ms : List (Bytes × Json)) (h : ∀ kv ∈ ms, SortP ops o kv.2) : SortP ops o (.obj ms) := by
  have hperm : (sortMs (sortDeepMembers ms)).Perm (sortDeepMembers ms) := List.mergeSort_perm _ _
  have hlen : (sortMs (sortDeepMembers ms)).length = ms.length := by
    rw [hperm.length_eq, sortDeepMembers_eq]; simp
  have hnd : (ms.map Prod.fst).Nodup → ((sortMs (sortDeepMembers ms)).map Prod.fst).Nodup := by
    have hkeys : (sortDeepMembers ms).map Prod.fst = ms.map Prod.fst := by
      rw [sortDeepMembers_eq]; simp [List.map_map, Function.comp_def]
    rw [(hperm.map Prod.fst).nodup_iff, hkeys]; exact id
  refine { ser := fun d => ?_, good := fun hg => ?_, within := fun lim s d hw => ?_, equiv := fun hg => ?_, utf8 := fun hu => ?_ }
  · have he : (sortMs (sortDeepMembers ms)).isEmpty = ms.isEmpty := by
      rw [Bool.eq_iff_iff, List.isEmpty_iff_length_eq_zero, List.isEmpty_iff_length_eq_zero, hlen]
    -- sorting the members by key commutes with serialising their values, which leaves the keys alone (`List.map_mergeSort`)
    have hmap : serMembers ops { o with sortKeys := false } d (sortMs (sortDeepMembers ms))
        = sortItems (serMembers ops { o with sortKeys := true } d ms) := by
      rw [serMembers_eq, serMembers_eq, sortMs, sortItems]
      have := List.map_mergeSort (r := fun (a b : Bytes × Json) => bytesLe a.1 b.1)
        (s := fun (a b : Bytes × Bytes) => bytesLe a.1 b.1)
        (f := fun kv => (kv.1, serialize ops { o with sortKeys := false } (d + 1) kv.2))
        (l := sortDeepMembers ms) (fun a _ b _ => rfl)
      rw [this]
      congr 1
      rw [sortDeepMembers_eq, List.map_map]
      apply List.map_congr_left
      intro kv hkv
      simp only [Function.comp_def]
      rw [(h kv hkv).ser (d + 1)]
    simp only [sortDeep, serialize, he, hmap, ↓reduceIte, joinMembers_sortKeys]
    rfl
  · simp only [Json.Good, sortDeep] at hg ⊢
    refine ⟨hnd hg.1, ?_⟩
    rw [goodMembers_iff] at hg ⊢
    intro kv hkv
    obtain ⟨kv0, h0, rfl⟩ := mem_sortMs_sortDeepMembers hkv
    exact (h kv0 h0).good (hg.2 kv0 h0)
  · simp only [Json.within, sortDeep] at hw ⊢
    refine ⟨hw.1, by rw [hlen]; exact hw.2.1, ?_⟩
    rw [withinMembers_iff] at hw ⊢
    intro kv hkv
    obtain ⟨kv0, h0, rfl⟩ := mem_sortMs_sortDeepMembers hkv
    exact ⟨(hw.2.2 kv0 h0).1, (h kv0 h0).within lim s (d + 1) (hw.2.2 kv0 h0).2⟩
  · simp only [Json.Good] at hg
    have hg2 := (goodMembers_iff ms).mp hg.2
    simp only [sortDeep, eqv, Bool.and_eq_true, beq_iff_eq]
    refine ⟨hlen.symm, ?_⟩
    rw [eqvMembers_iff]
    intro kv hkv
    refine ⟨sortDeep kv.2, ?_, (h kv hkv).equiv (hg2 kv hkv)⟩
    exact lookupKey_of_mem (hnd hg.1) (hperm.mem_iff.mpr (by rw [sortDeepMembers_eq]; exact List.mem_map.mpr ⟨kv, hkv, rfl⟩))
  · simp only [Json.utf8, sortDeep] at hu ⊢
    rw [utf8Members_iff] at hu ⊢
    intro kv hkv
    obtain ⟨kv0, h0, rfl⟩ := mem_sortMs_sortDeepMembers hkv
    exact ⟨(hu kv0 h0).1, (h kv0 h0).utf8 (hu kv0 h0).2⟩

theorem sortP_scalar (v : Json) (hs : sortDeep v = v) (hser : ∀ d, serialize ops { o with sortKeys := true } d v
    = serialize ops { o with sortKeys := false } d v) (he : v.Good → eqv v v = true) : SortP ops o v where
  ser d := by rw [hs, hser]
  good hg := by rw [hs]; exact hg
  within lim s d hw := by rw [hs]; exact hw
  equiv hg := by rw [hs]; exact he hg
  utf8 hu := by rw [hs]; exact hu

theorem sortP_all (v : Json) : SortP ops o v :=
  Json.rec (motive_1 := SortP ops o) (motive_2 := fun xs => ∀ x ∈ xs, SortP ops o x)
    (motive_3 := fun ms => ∀ kv ∈ ms, SortP ops o kv.2) (motive_4 := fun kv => SortP ops o kv.2)
    (sortP_scalar ops o _ rfl (fun _ => rfl) (fun _ => rfl))
    (fun b => sortP_scalar ops o _ rfl (fun _ => rfl) (fun _ => by simp [eqv]))
    (fun i => sortP_scalar ops o _ rfl (fun _ => rfl) (fun _ => by simp [eqv]))
    (fun d => sortP_scalar ops o _ rfl (fun _ => rfl) (fun hg => by
      simp only [Json.Good] at hg
      simp only [eqv]
      exact dblEq_self_of_finite d hg))
    (fun s => sortP_scalar ops o _ rfl (fun _ => rfl) (fun _ => by simp [eqv]))
    (fun xs ih => sortP_arr ops o xs ih) (fun ms ih => sortP_obj ops o ms ih)
    (fun _ h => by cases h)
    (fun x xs ihx ihxs => List.forall_mem_cons.mpr ⟨ihx, ihxs⟩)
    (fun _ h => by cases h)
    (fun kv ms ihkv ihms => List.forall_mem_cons.mpr ⟨ihkv, ihms⟩)
    (fun _ _ ih => ih) v

end

theorem serialize_sorted (ops : FloatOps) {o : Opts} (hs : o.sortKeys = true) (d : Nat) (v : Json) :
    serialize ops o d v = serialize ops { o with sortKeys := false } d (sortDeep v) := by
  rw [← (sortP_all ops o v).ser d, show ({ o with sortKeys := true } : Opts) = o by cases o; simp_all]

/-- With `sortKeys` the output is the unsorted output for `sortDeep v`, so the tree `serialize_tree` builds for that value serves, and
    denotes `sortDeep v`. -/
theorem serialize_tree_any (ops : FloatOps) (hl : LibcOk ops) (o : Opts) (wi : Ws) (hind : wi.render = o.indent) (v : Json)
    (hg : v.Good) :
    ∃ t : SVal, t.render = serialize ops o 0 v ∧ t.ok ∧ t.denote ops = (if o.sortKeys then sortDeep v else v) ∧
      (∀ lim, v.within lim 0 0 → t.fits lim 0) ∧ (v.utf8 → t.strict) := by
  cases hs : o.sortKeys with
  | false =>
    obtain ⟨t, ht⟩ := serialize_tree ops o wi hind hl hs v 0 hg
    exact ⟨t, ht.render, ht.ok, by simpa using ht.denote, fun lim => ht.fits lim 0, ht.strict⟩
  | true =>
    have hv := sortP_all ops o v
    obtain ⟨t, ht⟩ := serialize_tree ops { o with sortKeys := false } wi hind hl rfl (sortDeep v) 0 (hv.good hg)
    exact ⟨t, by rw [ht.render, serialize_sorted ops hs], ht.ok, by simpa using ht.denote,
      fun lim hw => ht.fits lim 0 (hv.within lim 0 0 hw), fun hu => ht.strict (hv.utf8 hu)⟩

/-- J1 on the tree of `serialize_tree_any`, as `parse_serialize` is J1 on the tree of `serialize_tree` -/
theorem parse_serialize_any (ops : FloatOps) (hl : LibcOk ops) (lim : Limits) (o : Opts) (wi : Ws) (hind : wi.render = o.indent)
    (v : Json) (hg : v.Good) (hw : v.within lim 0 0) :
    parse ops lim (serialize ops o 0 v) = .ok (if o.sortKeys then sortDeep v else v) ∧ eqv v (sortDeep v) = true := by
  obtain ⟨t, hr, hok, hd, hf, -⟩ := serialize_tree_any ops hl o wi hind v hg
  have := parse_render ops lim ⟨[], t, []⟩ hok (hf lim hw)
  exact ⟨by simpa [SText.render, SText.denote, ws_render_nil, hr, hd] using this, (sortP_all ops o v).equiv hg⟩

end Iora.Json.Spec
