import IoraModel.Model.RingBuffer
/-!
The sequential ring (R1) refines a bounded FIFO for every capacity `2^k`, slot wrap (`& mask`) and batches across the wrap
included, as long as the counters do not overflow `2^64` and no `resize` asks for more than `2^63`.  `abs_eq` reads what a
well-formed ring stands for as `contentOf`: the slots of the indices `tail … head - 1`, each taken `% cap`.  `advance_head`,
`advance_tail`, `abs_cons`, `abs_writeFrom` and `fresh_abs` say what moving a counter, the batch copy and a fresh buffer do to
it; the `*_refines` of the operations are read off these and collected in `step_refines`; `ok_cons` gives the side condition
of each step from those `R1_ring_refines_fifo` puts on a history.  In between, `nextPowerOfTwo`: the smear `v |= v >> s` over the
extracted shifts sets every bit below the highest one set (`smearN_eq`).
-/
namespace Iora.Ring

/-- well-formed ring state: power-of-two capacity, `mask = cap - 1`, counters ordered and at most `cap` apart -/
structure WF {α : Type} (r : Ring α) : Prop where
  pow : ∃ k, k ≤ 63 ∧ r.cap.toNat = 2 ^ k
  mask : r.mask = r.cap - 1
  le : r.tail.toNat ≤ r.head.toNat
  bound : r.head.toNat - r.tail.toNat ≤ r.cap.toNat

/-- Nat-level content: slots `(t+i) % c`, `i < n` -/
def contentOf {α : Type} (b : Nat → α) (t n c : Nat) : List α := (List.range n).map (fun i => b ((t + i) % c))

theorem cap_pos {α : Type} {r : Ring α} (h : WF r) : 0 < r.cap.toNat := by
  obtain ⟨k, _, hk⟩ := h.pow
  rw [hk]; exact Nat.two_pow_pos k

theorem slot_eq {α : Type} {r : Ring α} (h : WF r) (c : UInt64) : slot r c = c.toNat % r.cap.toNat := by
  obtain ⟨k, hk63, hk⟩ := h.pow
  have h1 : (1 : UInt64) ≤ r.cap := by
    rw [UInt64.le_iff_toNat_le, hk]
    exact Nat.one_le_two_pow
  have hm : r.mask.toNat = 2 ^ k - 1 := by
    rw [h.mask, UInt64.toNat_sub_of_le _ _ h1, hk]; rfl
  unfold slot
  rw [UInt64.toNat_and, hm, hk, Nat.and_two_pow_sub_one_eq_mod]

/-- **no out-of-range slot**: every index the code computes is `< capacity` -/
theorem slot_lt {α : Type} {r : Ring α} (h : WF r) (c : UInt64) : slot r c < r.cap.toNat := by
  rw [slot_eq h]; exact Nat.mod_lt _ (cap_pos h)

theorem toNat_add_ofNat (c : UInt64) (k : Nat) (h : c.toNat + k < 2 ^ 64) : (c + UInt64.ofNat k).toNat = c.toNat + k := by
  rw [UInt64.toNat_add, UInt64.toNat_ofNat']
  have : k % 2 ^ 64 = k := Nat.mod_eq_of_lt (by omega)
  rw [this]; exact Nat.mod_eq_of_lt h

theorem mod_ne_of_lt {a b c : Nat} (h1 : a < b) (h2 : b - a < c) : a % c ≠ b % c := by
  intro e
  have := Nat.sub_mod_eq_zero_of_mod_eq e.symm
  rw [Nat.mod_eq_of_lt h2] at this
  omega

theorem ge_of_mod_eq {a b c : Nat} (h1 : a < b) (h2 : a % c = b % c) : a + c ≤ b :=
  Nat.le_of_not_lt fun hn => mod_ne_of_lt h1 (by omega) h2

theorem readFrom_eq {α : Type} {r : Ring α} (h : WF r) (s : UInt64) (n : Nat) (hn : s.toNat + n ≤ 2 ^ 64) :
    readFrom r s n = contentOf r.buf s.toNat n r.cap.toNat := by
  unfold readFrom contentOf
  apply List.map_congr_left
  intro i hi
  have hi' : i < n := List.mem_range.mp hi
  rw [slot_eq h, toNat_add_ofNat _ _ (by omega)]

theorem contentOf_congr {α : Type} (b b' : Nat → α) (t n c : Nat) (h : ∀ i, i < n → b ((t + i) % c) = b' ((t + i) % c)) :
    contentOf b t n c = contentOf b' t n c := by
  unfold contentOf
  apply List.map_congr_left
  intro i hi
  exact h i (List.mem_range.mp hi)

theorem contentOf_upd_snoc {α : Type} (b : Nat → α) (t n c k : Nat) (x : α) (hn : n < c) (hk : k = t + n) :
    contentOf (upd b (k % c) x) t (n + 1) c = contentOf b t n c ++ [x] := by
  subst hk
  unfold contentOf
  rw [List.range_succ, List.map_append]
  congr 1
  · apply List.map_congr_left
    intro i hi
    have hi' : i < n := List.mem_range.mp hi
    have : (t + i) % c ≠ (t + n) % c := mod_ne_of_lt (by omega) (by omega)
    simp [upd, this]
  · simp [upd]

theorem contentOf_add {α : Type} (b : Nat → α) (t m n c : Nat) :
    contentOf b t (m + n) c = contentOf b t m c ++ contentOf b (t + m) n c := by
  unfold contentOf
  rw [List.range_add, List.map_append, List.map_map]
  congr 1
  apply List.map_congr_left
  intro i _
  simp [Nat.add_assoc]

theorem contentOf_succ {α : Type} (b : Nat → α) (t n c : Nat) :
    contentOf b t (n + 1) c = b (t % c) :: contentOf b (t + 1) n c := by
  rw [Nat.add_comm n 1, contentOf_add]
  rfl

theorem contentOf_length {α : Type} (b : Nat → α) (t n c : Nat) : (contentOf b t n c).length = n := by
  simp [contentOf]

theorem contentOf_take {α : Type} (b : Nat → α) (t m n c : Nat) (h : m ≤ n) :
    (contentOf b t n c).take m = contentOf b t m c := by
  obtain ⟨d, rfl⟩ := Nat.exists_eq_add_of_le h
  rw [contentOf_add, List.take_left' (contentOf_length ..)]

theorem contentOf_drop {α : Type} (b : Nat → α) (t m n c : Nat) (h : m ≤ n) :
    (contentOf b t n c).drop m = contentOf b (t + m) (n - m) c := by
  obtain ⟨d, rfl⟩ := Nat.exists_eq_add_of_le h
  rw [contentOf_add, List.drop_left' (contentOf_length ..)]
  congr 1; omega

/-- the batch copy loop appends the batch (`t` the tail, `n` the items held before the batch, `k` those of the batch already
written) -/
theorem contentOf_writeFrom {α : Type} {r : Ring α} (h : WF r) (t n : Nat) (hh : r.head.toNat = t + n) :
    ∀ (xs : List α) (b : Nat → α) (k : Nat), n + k + xs.length ≤ r.cap.toNat → r.head.toNat + k + xs.length < 2 ^ 64 →
      contentOf (writeFrom r b k xs) t (n + k + xs.length) r.cap.toNat = contentOf b t (n + k) r.cap.toNat ++ xs := by
  intro xs
  induction xs with
  | nil => intro b k _ _; simp [writeFrom]
  | cons x xs ih =>
    intro b k hc ho
    rw [List.length_cons] at hc ho
    have key : n + (k + 1) + xs.length ≤ r.cap.toNat ∧ r.head.toNat + (k + 1) + xs.length < 2 ^ 64 ∧
        n + k + (xs.length + 1) = n + (k + 1) + xs.length ∧ r.head.toNat + k < 2 ^ 64 ∧ n + k < r.cap.toNat := by omega
    rw [writeFrom, List.length_cons, key.2.2.1, ih _ (k + 1) key.1 key.2.1, slot_eq h, toNat_add_ofNat _ _ key.2.2.2.1, hh,
      ← Nat.add_assoc n k 1, contentOf_upd_snoc _ _ _ _ _ _ key.2.2.2.2 (Nat.add_assoc t n k), List.append_assoc]
    rfl

theorem sub_toNat {α : Type} {r : Ring α} (h : WF r) : (r.head - r.tail).toNat = r.head.toNat - r.tail.toNat :=
  UInt64.toNat_sub_of_le _ _ (UInt64.le_iff_toNat_le.mpr h.le)

theorem abs_eq {α : Type} {r : Ring α} (h : WF r) :
    abs r = ⟨r.cap.toNat, contentOf r.buf r.tail.toNat (r.head.toNat - r.tail.toNat) r.cap.toNat⟩ := by
  unfold abs
  rw [sub_toNat h, readFrom_eq h]
  have := UInt64.toNat_lt r.head
  have := h.le
  omega

theorem abs_len {α : Type} {r : Ring α} (h : WF r) : (abs r).items.length = r.head.toNat - r.tail.toNat := by
  rw [abs_eq h, contentOf_length]

theorem abs_cap {α : Type} (r : Ring α) : (abs r).cap = r.cap.toNat := rfl

theorem ge_iff {α : Type} {r : Ring α} (h : WF r) : (r.head - r.tail ≥ r.cap) ↔ r.cap.toNat ≤ r.head.toNat - r.tail.toNat := by
  show r.cap ≤ r.head - r.tail ↔ _
  rw [UInt64.le_iff_toNat_le, sub_toNat h]

theorem avail_toNat {α : Type} {r : Ring α} (h : WF r) :
    (r.cap - (r.head - r.tail)).toNat = r.cap.toNat - (r.head.toNat - r.tail.toNat) := by
  rw [UInt64.toNat_sub_of_le _ _ (by rw [UInt64.le_iff_toNat_le, sub_toNat h]; exact h.bound), sub_toNat h]

/-- the producer publishes `m` more slots (`_head += m`), with any new slot array -/
theorem advance_head {α : Type} {r : Ring α} (h : WF r) (b : Nat → α) (m : Nat)
    (hm : r.head.toNat - r.tail.toNat + m ≤ r.cap.toNat) (ho : r.head.toNat + m < 2 ^ 64) :
    WF { r with buf := b, head := r.head + UInt64.ofNat m } ∧
    abs { r with buf := b, head := r.head + UInt64.ofNat m } =
      ⟨r.cap.toNat, contentOf b r.tail.toNat (r.head.toNat - r.tail.toNat + m) r.cap.toNat⟩ := by
  have hh := toNat_add_ofNat r.head m ho
  have key : r.tail.toNat ≤ r.head.toNat + m ∧ r.head.toNat + m - r.tail.toNat ≤ r.cap.toNat ∧
      r.head.toNat + m - r.tail.toNat = r.head.toNat - r.tail.toNat + m := by have := h.le; omega
  have hw : WF { r with buf := b, head := r.head + UInt64.ofNat m } :=
    ⟨h.pow, h.mask, by show r.tail.toNat ≤ (r.head + UInt64.ofNat m).toNat; rw [hh]; exact key.1,
      by show (r.head + UInt64.ofNat m).toNat - r.tail.toNat ≤ r.cap.toNat; rw [hh]; exact key.2.1⟩
  refine ⟨hw, ?_⟩
  rw [abs_eq hw]
  show Fifo.mk _ (contentOf b _ ((r.head + UInt64.ofNat m).toNat - r.tail.toNat) _) = _
  rw [hh, key.2.2]

/-- the consumer releases `m` slots (`_tail += m`) -/
theorem advance_tail {α : Type} {r : Ring α} (h : WF r) (m : Nat) (hm : m ≤ r.head.toNat - r.tail.toNat) :
    WF { r with tail := r.tail + UInt64.ofNat m } ∧
    abs { r with tail := r.tail + UInt64.ofNat m } =
      ⟨r.cap.toNat, contentOf r.buf (r.tail.toNat + m) (r.head.toNat - r.tail.toNat - m) r.cap.toNat⟩ := by
  have key : r.tail.toNat + m < 2 ^ 64 ∧ r.tail.toNat + m ≤ r.head.toNat ∧
      r.head.toNat - (r.tail.toNat + m) ≤ r.cap.toNat := by
    have := UInt64.toNat_lt r.head; have := h.le; have := h.bound; omega
  have ht := toNat_add_ofNat r.tail m key.1
  have hw : WF { r with tail := r.tail + UInt64.ofNat m } :=
    ⟨h.pow, h.mask, by show (r.tail + UInt64.ofNat m).toNat ≤ r.head.toNat; rw [ht]; exact key.2.1,
      by show r.head.toNat - (r.tail + UInt64.ofNat m).toNat ≤ r.cap.toNat; rw [ht]; exact key.2.2⟩
  refine ⟨hw, ?_⟩
  rw [abs_eq hw]
  show Fifo.mk _ (contentOf _ (r.tail + UInt64.ofNat m).toNat (r.head.toNat - (r.tail + UInt64.ofNat m).toNat) _) = _
  rw [ht, Nat.sub_add_eq]

/-- the oldest item of a non-empty ring is the slot at `_tail`; the rest is the ring with `_tail + 1` -/
theorem abs_cons {α : Type} {r : Ring α} (h : WF r) (hne : ¬ r.head.toNat ≤ r.tail.toNat) :
    WF { r with tail := r.tail + UInt64.ofNat 1 } ∧
    abs r = ⟨r.cap.toNat, r.buf (slot r r.tail) :: (abs { r with tail := r.tail + UInt64.ofNat 1 }).items⟩ := by
  obtain ⟨n, hn⟩ : ∃ n, r.head.toNat - r.tail.toNat = n + 1 := ⟨r.head.toNat - r.tail.toNat - 1, by omega⟩
  obtain ⟨hw, ha⟩ := advance_tail h 1 (by rw [hn]; exact Nat.le_add_left 1 n)
  exact ⟨hw, by rw [ha, abs_eq h, hn, contentOf_succ, slot_eq h, Nat.add_sub_cancel]⟩

/-- slots written behind `_head` and not published do not change what the ring stands for -/
theorem abs_writeFrom {α : Type} {r : Ring α} (h : WF r) (ys : List α)
    (hroom : r.head.toNat - r.tail.toNat + ys.length ≤ r.cap.toNat) (ho : r.head.toNat + ys.length < 2 ^ 64) :
    abs { r with buf := writeFrom r r.buf 0 ys } = abs r := by
  have hw : WF { r with buf := writeFrom r r.buf 0 ys } := ⟨h.pow, h.mask, h.le, h.bound⟩
  rw [abs_eq hw, abs_eq h]
  show Fifo.mk _ (contentOf (writeFrom r r.buf 0 ys) _ _ _) = _
  have e := congrArg (List.take (r.head.toNat - r.tail.toNat))
    (contentOf_writeFrom h r.tail.toNat (r.head.toNat - r.tail.toNat) (Nat.add_sub_cancel' h.le).symm ys r.buf 0 hroom ho)
  rw [Nat.add_zero, contentOf_take _ _ _ _ _ (Nat.le_add_right _ _), List.take_left' (contentOf_length ..)] at e
  rw [e]

theorem tryPush_refines {α : Type} {r : Ring α} (h : WF r) (x : α) (ho : r.head.toNat + 1 < 2 ^ 64) :
    WF (tryPush r x).2 ∧ (abs r).step (.push x) = (abs (tryPush r x).2, .bool (tryPush r x).1) := by
  have hstep : (abs r).step (.push x) =
      if r.head.toNat - r.tail.toNat ≥ r.cap.toNat then (abs r, .bool false)
      else ({ abs r with items := (abs r).items ++ [x] }, .bool true) := by
    simp only [Fifo.step, abs_len h, abs_cap]
  rw [hstep]
  unfold tryPush
  split
  · rename_i hf
    exact ⟨h, if_pos ((ge_iff h).mp hf)⟩
  · rename_i hf
    have hc : r.head.toNat - r.tail.toNat < r.cap.toNat := Nat.lt_of_not_le fun c => hf ((ge_iff h).mpr c)
    obtain ⟨hw, ha⟩ := advance_head h (upd r.buf (slot r r.head) x) 1 hc ho
    refine ⟨hw, ?_⟩
    rw [if_neg (Nat.not_le_of_lt hc)]
    show _ = (abs { r with buf := upd r.buf (slot r r.head) x, head := r.head + UInt64.ofNat 1 }, _)
    rw [ha, abs_eq h, slot_eq h, contentOf_upd_snoc _ _ _ _ _ _ hc (Nat.add_sub_cancel' h.le).symm]

theorem tryPop_refines {α : Type} {r : Ring α} (h : WF r) :
    WF (tryPop r).2 ∧ (abs r).step .pop = (abs (tryPop r).2, .item (tryPop r).1) := by
  unfold tryPop
  split
  · rename_i he
    refine ⟨h, ?_⟩
    rw [abs_eq h, Nat.sub_eq_zero_of_le (UInt64.le_iff_toNat_le.mp he)]
    rfl
  · rename_i he
    obtain ⟨hw, ha⟩ := abs_cons h fun c => he (UInt64.le_iff_toNat_le.mpr c)
    exact ⟨hw, by rw [ha]; rfl⟩

theorem peek_refines {α : Type} {r : Ring α} (h : WF r) : (abs r).items.head? = peek r := by
  unfold peek
  split
  · rename_i he
    rw [abs_eq h, Nat.sub_eq_zero_of_le (UInt64.le_iff_toNat_le.mp he)]
    rfl
  · rename_i he
    rw [(abs_cons h fun c => he (UInt64.le_iff_toNat_le.mpr c)).2]
    rfl

theorem empty_refines {α : Type} {r : Ring α} (h : WF r) : (abs r).items.isEmpty = empty r := by
  have := abs_len h
  have hs := sub_toNat h
  unfold empty size
  rw [Bool.eq_iff_iff]
  simp only [List.isEmpty_iff, beq_iff_eq]
  constructor
  · intro e; rw [e] at this
    apply UInt64.toNat_inj.mp; rw [hs]; simpa using this.symm
  · intro e; rw [e] at hs
    apply List.eq_nil_of_length_eq_zero; rw [this]; simpa using hs.symm

theorem full_refines {α : Type} {r : Ring α} (h : WF r) : decide ((abs r).items.length ≥ (abs r).cap) = full r := by
  rw [abs_len h, abs_cap]
  unfold full size
  have e := ge_iff h
  by_cases hc : r.head - r.tail ≥ r.cap
  · have := e.mp hc; simp [hc, this]
  · have : ¬ r.cap.toNat ≤ r.head.toNat - r.tail.toNat := fun c => hc (e.mpr c)
    simp [hc, this]

theorem ite_lt_eq_min (a b : Nat) : (if a < b then a else b) = min a b := by
  split <;> omega

theorem tryPushBatch_refines {α : Type} {r : Ring α} (h : WF r) (xs : List α) (ho : r.head.toNat + xs.length < 2 ^ 64) :
    WF (tryPushBatch r xs).2 ∧
      (abs r).step (.pushBatch xs) = (abs (tryPushBatch r xs).2, .count (tryPushBatch r xs).1) := by
  unfold tryPushBatch
  simp only [avail_toNat h, ite_lt_eq_min, Fifo.step, abs_len h, abs_cap]
  generalize hm : min xs.length (r.cap.toNat - (r.head.toNat - r.tail.toNat)) = m
  have key : m ≤ xs.length ∧ r.head.toNat - r.tail.toNat + m ≤ r.cap.toNat ∧ r.head.toNat + m < 2 ^ 64 := by
    have := h.bound; omega
  have hl : (xs.take m).length = m := by rw [List.length_take, Nat.min_eq_left key.1]
  obtain ⟨hw, ha⟩ := advance_head h (writeFrom r r.buf 0 (xs.take m)) m key.2.1 key.2.2
  have hB := contentOf_writeFrom h r.tail.toNat (r.head.toNat - r.tail.toNat) (Nat.add_sub_cancel' h.le).symm (xs.take m)
    r.buf 0 (by rw [hl]; exact key.2.1) (by rw [hl]; exact key.2.2)
  rw [hl, Nat.add_zero] at hB
  exact ⟨hw, by rw [ha, hB, abs_eq h]⟩

theorem tryPopBatch_refines {α : Type} {r : Ring α} (h : WF r) (n : Nat) :
    WF (tryPopBatch r n).2 ∧
      (abs r).step (.popBatch n) = (abs (tryPopBatch r n).2, .items (tryPopBatch r n).1) := by
  unfold tryPopBatch
  simp only [sub_toNat h, ite_lt_eq_min, Fifo.step]
  generalize hm : min n (r.head.toNat - r.tail.toNat) = m
  have hmle : m ≤ r.head.toNat - r.tail.toNat := hm ▸ Nat.min_le_right _ _
  have ho : r.tail.toNat + m ≤ 2 ^ 64 := by have := UInt64.toNat_lt r.head; have := h.le; omega
  obtain ⟨hw, ha⟩ := advance_tail h m hmle
  refine ⟨hw, ?_⟩
  rw [ha, abs_eq h, readFrom_eq h _ _ ho, ← contentOf_take r.buf r.tail.toNat m _ r.cap.toNat hmle,
    ← contentOf_drop r.buf r.tail.toNat m _ r.cap.toNat hmle]
  have hlen := contentOf_length r.buf r.tail.toNat (r.head.toNat - r.tail.toNat) r.cap.toNat
  generalize contentOf r.buf r.tail.toNat (r.head.toNat - r.tail.toNat) r.cap.toNat = l at hlen
  rw [← hm, ← hlen, ← List.take_eq_take_min, ← List.drop_eq_drop_min]

theorem smear_step (x y s : Nat) (hy : ∀ i, y.testBit i = true ↔ ∃ d, d ≤ s ∧ x.testBit (i + d) = true) :
    ∀ i, (y ||| y >>> (s + 1)).testBit i = true ↔ ∃ d, d ≤ 2 * s + 1 ∧ x.testBit (i + d) = true := by
  intro i
  rw [Nat.testBit_or, Nat.testBit_shiftRight, Bool.or_eq_true, hy, hy]
  constructor
  · rintro (⟨d, hd, h⟩ | ⟨d, hd, h⟩)
    · exact ⟨d, by omega, h⟩
    · exact ⟨s + 1 + d, by omega, by rwa [show i + (s + 1 + d) = s + 1 + i + d by omega]⟩
  · rintro ⟨d, hd, h⟩
    by_cases hds : d ≤ s
    · exact Or.inl ⟨d, hds, h⟩
    · exact Or.inr ⟨d - (s + 1), by omega, by rwa [show s + 1 + i + (d - (s + 1)) = i + d by omega]⟩

/-- `smear Gen.Orders.npotShifts` on naturals (`smear_toNat`) -/
def smearN (x : Nat) : Nat := [1, 2, 4, 8, 16, 32].foldl (fun v k => v ||| v >>> k) x

theorem smearN_testBit (x i : Nat) : (smearN x).testBit i = true ↔ ∃ d, d ≤ 63 ∧ x.testBit (i + d) = true := by
  have h0 : ∀ i, x.testBit i = true ↔ ∃ d, d ≤ 0 ∧ x.testBit (i + d) = true := by
    intro i; constructor
    · intro h; exact ⟨0, by omega, h⟩
    · rintro ⟨d, hd, h⟩; have : d = 0 := by omega
      subst this; exact h
  -- each shift doubles the window: before the shift by `s + 1` a bit is set iff one of the `s + 1` bits of `x` from it upwards
  -- is, afterwards iff one of `2 s + 2`; the six shifts take the window from 1 bit to 64
  have h1 := smear_step x _ 0 h0
  have h2 := smear_step x _ 1 h1
  have h3 := smear_step x _ 3 h2
  have h4 := smear_step x _ 7 h3
  have h5 := smear_step x _ 15 h4
  have h6 := smear_step x _ 31 h5
  exact h6 i

/-- the smear sets every bit up to the top bit of `x` -/
theorem smearN_eq (x : Nat) (hx : x ≠ 0) (h64 : x < 2 ^ 64) : smearN x = 2 ^ (x.log2 + 1) - 1 := by
  apply Nat.eq_of_testBit_eq
  intro i
  rw [Nat.testBit_two_pow_sub_one]
  have hlt : x < 2 ^ (x.log2 + 1) := Nat.lt_log2_self
  have hge : 2 ^ x.log2 ≤ x := Nat.log2_self_le hx
  have hL : x.log2 < 64 := (Nat.log2_lt hx).mpr h64
  by_cases hi : i < x.log2 + 1
  · simp only [hi, decide_true]
    rw [smearN_testBit]
    obtain ⟨j, hj, hb⟩ := Nat.exists_ge_and_testBit_of_ge_two_pow hge
    have hj2 : j < x.log2 + 1 := by
      apply Classical.byContradiction
      intro hc
      have : x < 2 ^ j := Nat.lt_of_lt_of_le hlt (Nat.pow_le_pow_right (by decide) (by omega))
      rw [Nat.testBit_lt_two_pow this] at hb
      cases hb
    have : j = x.log2 := by omega
    subst this
    exact ⟨x.log2 - i, by omega, by rwa [show i + (x.log2 - i) = x.log2 by omega]⟩
  · simp only [hi, decide_false]
    apply Bool.eq_false_iff.mpr
    intro hc
    rw [smearN_testBit] at hc
    obtain ⟨d, _, hb⟩ := hc
    have : x < 2 ^ (i + d) := Nat.lt_of_lt_of_le hlt (Nat.pow_le_pow_right (by decide) (by omega))
    rw [Nat.testBit_lt_two_pow this] at hb
    cases hb

theorem smear_toNat (v : UInt64) : (smear Gen.Orders.npotShifts v).toNat = smearN v.toNat := by
  simp only [smear, Gen.Orders.npotShifts, List.foldl, smearN, UInt64.toNat_or, UInt64.toNat_shiftRight]
  rfl

/-- the value of `nextPowerOfTwo` for `v ≥ 2`, before the 64-bit wrap is decided -/
theorem nextPowerOfTwo_toNat (v : UInt64) (hv : 1 < v.toNat) :
    (nextPowerOfTwo v).toNat = 2 ^ ((v.toNat - 1).log2 + 1) % 2 ^ 64 := by
  have h0 : v ≠ 0 := by rintro rfl; exact absurd hv (by decide)
  have hx : (v - 1).toNat = v.toNat - 1 := UInt64.toNat_sub_of_le _ _ (UInt64.le_iff_toNat_le.mpr (Nat.le_of_lt hv))
  rw [nextPowerOfTwo, if_neg h0, UInt64.toNat_add, smear_toNat, hx,
    smearN_eq _ (Nat.sub_ne_zero_of_lt hv) (Nat.lt_of_le_of_lt (Nat.sub_le _ _) (UInt64.toNat_lt v))]
  show (2 ^ _ - 1 + 1) % 2 ^ 64 = _
  rw [Nat.sub_add_cancel (Nat.two_pow_pos _)]

theorem nextPowerOfTwo_spec (v : UInt64) (hv : v.toNat ≤ 2 ^ 63) :
    ∃ k, k ≤ 63 ∧ (nextPowerOfTwo v).toNat = 2 ^ k ∧ v.toNat ≤ 2 ^ k ∧ (1 < v.toNat → 2 ^ k < 2 * v.toNat) := by
  by_cases h1 : 1 < v.toNat
  · have hx0 : v.toNat - 1 ≠ 0 := Nat.sub_ne_zero_of_lt h1
    have hlt : v.toNat - 1 < 2 ^ ((v.toNat - 1).log2 + 1) := Nat.lt_log2_self
    have hge : 2 ^ (v.toNat - 1).log2 ≤ v.toNat - 1 := Nat.log2_self_le hx0
    have hL : (v.toNat - 1).log2 < 63 := (Nat.log2_lt hx0).mpr (by omega)
    have hle : 2 ^ ((v.toNat - 1).log2 + 1) ≤ 2 ^ 63 := Nat.pow_le_pow_right (by decide) hL
    refine ⟨_, hL, ?_, by omega, fun _ => by rw [Nat.pow_succ]; omega⟩
    rw [nextPowerOfTwo_toNat v h1]
    exact Nat.mod_eq_of_lt (by omega)
  · have : v = 0 ∨ v = 1 := by
      rcases Nat.le_one_iff_eq_zero_or_eq_one.mp (Nat.le_of_not_lt h1) with e | e
      · exact Or.inl (UInt64.toNat_inj.mp e)
      · exact Or.inr (UInt64.toNat_inj.mp e)
    rcases this with rfl | rfl <;> exact ⟨0, by decide, by decide, by decide, by decide⟩

/-- above `2^63` no power of two fits into 64 bits: the final `+ 1` wraps to 0 -/
theorem nextPowerOfTwo_overflow (v : UInt64) (hv : 2 ^ 63 < v.toNat) : nextPowerOfTwo v = 0 := by
  have hlt := UInt64.toNat_lt v
  have hx0 : v.toNat - 1 ≠ 0 := by omega
  have hL : (v.toNat - 1).log2 = 63 :=
    Nat.le_antisymm (Nat.le_of_lt_succ ((Nat.log2_lt hx0).mpr (by omega)))
      (Nat.le_of_not_lt fun c => absurd ((Nat.log2_lt hx0).mp c) (by omega))
  apply UInt64.toNat_inj.mp
  rw [nextPowerOfTwo_toNat v (by omega), hL]
  rfl

/-- the model's `resize` (evaluated from the extracted expression trees) is the hand-written function on this source -/
theorem resize_unfold {α : Type} (r : Ring α) (n : UInt64) : resize r n = resizeRef r n := rfl

theorem contentOf_ofList {α : Type} (d : α) (xs : List α) (c : Nat) (h : xs.length ≤ c) :
    contentOf (ofList d xs) 0 xs.length c = xs := by
  apply List.ext_getElem
  · simp [contentOf]
  · intro i h1 h2
    have hi : i < xs.length := h2
    simp only [contentOf, List.getElem_map, List.getElem_range, Nat.zero_add, ofList]
    rw [Nat.mod_eq_of_lt (by omega)]
    simp [hi]

theorem fresh_abs {α : Type} (r : Ring α) (C m : UInt64) (k : Nat) (hk : k ≤ 63) (hC : C.toNat = 2 ^ k) (xs : List α)
    (hl : xs.length = m.toNat) (hm : m.toNat ≤ C.toNat) :
    WF { r with cap := C, mask := C - 1, buf := ofList r.dflt xs, tail := 0, head := m } ∧
    abs { r with cap := C, mask := C - 1, buf := ofList r.dflt xs, tail := 0, head := m } = ⟨C.toNat, xs⟩ := by
  have hw : WF { r with cap := C, mask := C - 1, buf := ofList r.dflt xs, tail := 0, head := m } :=
    ⟨⟨k, hk, hC⟩, rfl, Nat.zero_le _, Nat.le_trans (Nat.sub_le m.toNat 0) hm⟩
  refine ⟨hw, ?_⟩
  rw [abs_eq hw]
  show Fifo.mk C.toNat (contentOf _ 0 (m.toNat - 0) C.toNat) = _
  rw [Nat.sub_zero, ← hl, contentOf_ofList _ _ _ (by rw [hl]; exact hm)]

/-- `toCopy = min(count, newCapacity)` -/
theorem toCopy_toNat {α : Type} {r : Ring α} (h : WF r) (C : UInt64) :
    (if r.head - r.tail < C then r.head - r.tail else C).toNat = min (r.head.toNat - r.tail.toNat) C.toNat := by
  rw [← sub_toNat h, ← ite_lt_eq_min]
  split <;> rename_i hlt <;> rw [UInt64.lt_iff_toNat_lt] at hlt <;> simp only [hlt, if_true, if_false]

/-- `startTail` is `count - newCapacity` slots past `_tail` -/
theorem startTail_toNat {α : Type} {r : Ring α} (h : WF r) (C : UInt64) :
    (if r.head - r.tail > C then r.head - C else r.tail).toNat =
      r.tail.toNat + (r.head.toNat - r.tail.toNat - C.toNat) := by
  split <;> rename_i hgt <;> rw [GT.gt, UInt64.lt_iff_toNat_lt, sub_toNat h] at hgt
  · have key : C.toNat ≤ r.head.toNat ∧
        r.head.toNat - C.toNat = r.tail.toNat + (r.head.toNat - r.tail.toNat - C.toNat) := by have := h.le; omega
    rw [UInt64.toNat_sub_of_le _ _ (UInt64.le_iff_toNat_le.mpr key.1), key.2]
  · rw [Nat.sub_eq_zero_of_le (Nat.le_of_not_lt hgt), Nat.add_zero]

/-- the newest `m` items of the ring are those read from `d = count - m` slots past `_tail` on -/
theorem readFrom_newest {α : Type} {r : Ring α} (h : WF r) (st : UInt64) (m d : Nat)
    (hd : d + m = r.head.toNat - r.tail.toNat) (hst : st.toNat = r.tail.toNat + d) :
    readFrom r st m = (abs r).items.drop d := by
  have key : st.toNat + m ≤ 2 ^ 64 ∧ d ≤ r.head.toNat - r.tail.toNat ∧ r.head.toNat - r.tail.toNat - d = m := by
    have := UInt64.toNat_lt r.head; have := h.le; omega
  rw [readFrom_eq h _ _ key.1, abs_eq h, contentOf_drop _ _ _ _ _ key.2.1, hst, key.2.2]

/-- `resize` refines the FIFO resize: the newest `min count newCap` items survive, in order -/
theorem resize_refines {α : Type} {r : Ring α} (h : WF r) (n : UInt64) (hn : n.toNat ≤ 2 ^ 63) :
    WF (resize r n).2 ∧ (abs r).step (.resize n) = (abs (resize r n).2, .count (resize r n).1.toNat) := by
  obtain ⟨k, hk, hc, _, _⟩ := nextPowerOfTwo_spec n hn
  rw [resize_unfold]
  simp only [resizeRef, Fifo.step, abs_len h]
  generalize nextPowerOfTwo n = C at hc ⊢
  have hmN := toCopy_toNat h C
  have hstN := startTail_toNat h C
  generalize (if r.head - r.tail < C then r.head - r.tail else C) = m at hmN ⊢
  generalize (if r.head - r.tail > C then r.head - C else r.tail) = st at hstN ⊢
  have hdrop : (r.head - r.tail - m).toNat = r.head.toNat - r.tail.toNat - C.toNat := by
    rw [UInt64.toNat_sub_of_le _ _ (UInt64.le_iff_toNat_le.mpr (by rw [sub_toNat h, hmN]; exact Nat.min_le_left _ _)),
      sub_toNat h, hmN]
    omega
  have hitems := readFrom_newest h st m.toNat (r.head.toNat - r.tail.toNat - C.toNat)
    (by rw [hmN]; exact Nat.sub_add_min_cancel _ _) hstN
  obtain ⟨hw, ha⟩ := fresh_abs r C m k hk hc (readFrom r st m.toNat)
    (by rw [readFrom, List.length_map, List.length_range]) (by rw [hmN]; exact Nat.min_le_right _ _)
  exact ⟨hw, by rw [ha, hitems, hdrop]⟩

theorem clear_wf {α : Type} {r : Ring α} (h : WF r) : WF (clear r) :=
  ⟨h.pow, h.mask, by show (0 : UInt64).toNat ≤ (0 : UInt64).toNat; omega, by show (0 : UInt64).toNat - (0 : UInt64).toNat ≤ _; simp⟩

theorem clear_abs {α : Type} {r : Ring α} (h : WF r) : abs (clear r) = ⟨r.cap.toNat, []⟩ := by
  rw [abs_eq (clear_wf h)]
  show Fifo.mk r.cap.toNat (contentOf _ _ ((0 : UInt64).toNat - (0 : UInt64).toNat) _) = _
  simp [contentOf]

/-- side condition of one operation: counters do not overflow, requested capacities are representable (`ok_cons`: the
conditions `R1_ring_refines_fifo` puts on a history give it for every step) -/
def Op.ok {α : Type} (r : Ring α) : Op α → Prop
  | .push _ => r.head.toNat + 1 < 2 ^ 64
  | .pushBatch xs => r.head.toNat + xs.length < 2 ^ 64
  | .resize n => n.toNat ≤ 2 ^ 63
  | _ => True

/-- every operation of the ring is the same operation of the bounded FIFO it stands for -/
theorem step_refines {α : Type} {r : Ring α} (h : WF r) (o : Op α) (ho : o.ok r) :
    WF (step r o).1 ∧ (abs r).step o = (abs (step r o).1, (step r o).2) := by
  cases o with
  | push x => exact tryPush_refines h x ho
  | pop => exact tryPop_refines h
  | peek => exact ⟨h, by simp only [step, Fifo.step, peek_refines h]⟩
  | pushBatch xs => exact tryPushBatch_refines h xs ho
  | popBatch n => exact tryPopBatch_refines h n
  | size => exact ⟨h, by simp only [step, Fifo.step, abs_len h, size, sub_toNat h]⟩
  | empty => exact ⟨h, by simp only [step, Fifo.step, empty_refines h]⟩
  | full => exact ⟨h, by simp only [step, Fifo.step, full_refines h]⟩
  | capacity => exact ⟨h, rfl⟩
  | clear => exact ⟨clear_wf h, by simp only [step, Fifo.step, clear_abs h]; rfl⟩
  | resize n => exact resize_refines h n ho

theorem step_head_le {α : Type} {r : Ring α} (h : WF r) (o : Op α) (ho : o.ok r) :
    (step r o).1.head.toNat ≤ r.head.toNat + o.weight := by
  cases o with
  | push x =>
    show (tryPush r x).2.head.toNat ≤ r.head.toNat + 1
    unfold tryPush; split
    · exact Nat.le_add_right _ _
    · exact Nat.le_of_eq (toNat_add_ofNat _ 1 ho)
  | pushBatch xs =>
    show (tryPushBatch r xs).2.head.toNat ≤ r.head.toNat + xs.length
    unfold tryPushBatch
    simp only [ite_lt_eq_min]
    have hml := Nat.min_le_left xs.length (r.cap - (r.head - r.tail)).toNat
    show (r.head + UInt64.ofNat _).toNat ≤ _
    rw [toNat_add_ofNat _ _ (Nat.lt_of_le_of_lt (Nat.add_le_add_left hml _) ho)]
    exact Nat.add_le_add_left hml _
  | resize n =>
    show (resize r n).2.head.toNat ≤ r.head.toNat
    rw [resize_unfold]
    show (if r.head - r.tail < nextPowerOfTwo n then r.head - r.tail else nextPowerOfTwo n).toNat ≤ _
    rw [toCopy_toNat h]
    exact Nat.le_trans (Nat.min_le_left _ _) (Nat.sub_le _ _)
  | clear => exact Nat.zero_le _
  | pop =>
    show (tryPop r).2.head.toNat ≤ r.head.toNat
    unfold tryPop; split <;> exact Nat.le_refl _
  | _ => exact Nat.le_refl _

/-- total number of items a history may add to `_head` -/
def totalWeight {α : Type} (ops : List (Op α)) : Nat := (ops.map Op.weight).sum

/-- every `resize` request in the history is representable (`≤ 2^63`; beyond that `nextPowerOfTwo` wraps to 0) -/
def resizesOk {α : Type} : List (Op α) → Prop
  | [] => True
  | .resize n :: os => n.toNat ≤ 2 ^ 63 ∧ resizesOk os
  | _ :: os => resizesOk os

/-- the conditions on a history give the side condition of its first step, and hold of the rest after that step -/
theorem ok_cons {α : Type} {r : Ring α} (h : WF r) {o : Op α} {os : List (Op α)}
    (hov : r.head.toNat + totalWeight (o :: os) < 2 ^ 64) (hrs : resizesOk (o :: os)) :
    o.ok r ∧ (step r o).1.head.toNat + totalWeight os < 2 ^ 64 ∧ resizesOk os := by
  have hw : r.head.toNat + (o.weight + totalWeight os) < 2 ^ 64 := by simpa [totalWeight] using hov
  have hok : o.ok r := by
    cases o with
    | push x => exact Nat.lt_of_le_of_lt (Nat.add_le_add_left (Nat.le_add_right 1 _) _) hw
    | pushBatch xs => exact Nat.lt_of_le_of_lt (Nat.add_le_add_left (Nat.le_add_right xs.length _) _) hw
    | resize n => exact hrs.1
    | _ => trivial
  have := step_head_le h o hok
  exact ⟨hok, by omega, by cases o <;> first | exact hrs.2 | exact hrs⟩

theorem mkStatic_wf {α : Type} (d : α) (c : UInt64) (k : Nat) (hk : k ≤ 63) (hc : c.toNat = 2 ^ k) : WF (mkStatic d c) :=
  ⟨⟨k, hk, hc⟩, rfl, Nat.le_refl _, by show (0 : UInt64).toNat - (0 : UInt64).toNat ≤ _; simp⟩

theorem mkDynamic_wf {α : Type} (d : α) (req : UInt64) (h : req.toNat ≤ 2 ^ 63) : WF (mkDynamic d req) := by
  obtain ⟨k, hk, hc, _, _⟩ := nextPowerOfTwo_spec req h
  exact mkStatic_wf d _ k hk hc

theorem mkStatic_abs {α : Type} (d : α) (c : UInt64) : abs (mkStatic d c) = ⟨c.toNat, []⟩ := by
  simp [abs, mkStatic, readFrom]

end Iora.Ring
