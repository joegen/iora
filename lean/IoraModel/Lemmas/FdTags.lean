import IoraModel.Model.FdTags
/-!
# The fd-tag map only ever points at the live owner of the fd, given that the drain erases the tag of each session it frees (`erases`; C02)
-/
namespace Iora.FdTags

structure Inv (t : T) : Prop where
  /-- a tag points at a session that is in the map, open, and owns exactly this fd -/
  tag_live : ∀ fd sid, t.tags fd = some sid → ∃ s, t.sess sid = some s ∧ s.fd = fd ∧ s.closed = false
  /-- every open session owns an open fd and is tagged under it -/
  open_tagged : ∀ sid s, t.sess sid = some s → s.closed = false → t.kopen s.fd = true ∧ t.tags s.fd = some sid
  /-- the drain walks `keys`: it reaches every session in the map -/
  dom : ∀ sid s, t.sess sid = some s → sid ∈ t.keys

theorem upd_same {β : Type} (f : Nat → β) (k : Nat) (v : β) : upd f k v k = v := by simp [upd]
theorem upd_other {β : Type} (f : Nat → β) (k x : Nat) (v : β) (h : x ≠ k) : upd f k v x = f x := by simp [upd, h]

theorem inv_init (e : Bool) : Inv { erases := e } :=
  ⟨by intro fd sid h; simp at h, by intro sid s h; simp at h, by intro sid s h; simp at h⟩

/-- a fresh session on an fd number the kernel has just handed out (not open before) -/
theorem inv_add {t t' : T} (h : Inv t) (sid : Sid) (fd : Fd) (hk : t.kopen fd = false) (hs : t.sess sid = none)
    (hsess : t'.sess = upd t.sess sid (some { fd := fd })) (htags : t'.tags = upd t.tags fd (some sid))
    (hko : t'.kopen = upd t.kopen fd true) (hkeys : t'.keys = sid :: t.keys) : Inv t' := by
  refine ⟨?_, ?_, ?_⟩
  · intro fd' sid' ht
    rw [htags] at ht
    by_cases hf : fd' = fd
    · rw [hf, upd_same] at ht
      cases ht
      exact ⟨{ fd := fd }, by rw [hsess, upd_same], hf.symm, rfl⟩
    · rw [upd_other _ _ _ _ hf] at ht
      obtain ⟨s', hs', hfd, hc⟩ := h.tag_live fd' sid' ht
      have hne : sid' ≠ sid := by intro e; rw [e, hs] at hs'; cases hs'
      exact ⟨s', by rw [hsess, upd_other _ _ _ _ hne]; exact hs', hfd, hc⟩
  · intro sid' s' hs' hc
    rw [hsess] at hs'
    by_cases he : sid' = sid
    · rw [he, upd_same] at hs'
      cases hs'
      exact ⟨by rw [hko, upd_same], by rw [htags, upd_same, he]⟩
    · rw [upd_other _ _ _ _ he] at hs'
      obtain ⟨h1, h2⟩ := h.open_tagged sid' s' hs' hc
      have hf : s'.fd ≠ fd := by intro e; rw [e, hk] at h1; cases h1
      exact ⟨by rw [hko, upd_other _ _ _ _ hf]; exact h1, by rw [htags, upd_other _ _ _ _ hf]; exact h2⟩
  · intro sid' s' hs'
    rw [hkeys]
    rw [hsess] at hs'
    by_cases he : sid' = sid
    · rw [he]; exact List.mem_cons_self
    · rw [upd_other _ _ _ _ he] at hs'
      exact List.mem_cons_of_mem _ (h.dom sid' s' hs')

theorem inv_insert {t : T} (h : Inv t) (sid : Sid) (fd : Fd) : Inv (step t (.insert sid fd)) := by
  simp only [step]
  by_cases hg : (t.kopen fd || (t.sess sid).isSome) = true
  · simp only [hg, if_true]; exact h
  · simp only [hg]
    have hk : t.kopen fd = false := by
      cases e : t.kopen fd with
      | false => rfl
      | true => simp [e] at hg
    have hs : t.sess sid = none := by
      cases e : t.sess sid with
      | none => rfl
      | some s => simp [e] at hg
    have htag : t.tags fd = none := by
      cases e : t.tags fd with
      | none => rfl
      | some sid' =>
        obtain ⟨s', hs', hfd, hc⟩ := h.tag_live fd sid' e
        have := (h.open_tagged sid' s' hs' hc).1
        rw [hfd, hk] at this; cases this
    simp only [htag, Option.isSome_none, Bool.false_eq_true, if_false]
    exact inv_add h sid fd hk hs rfl rfl rfl rfl

/-- closing one open session and dropping ITS tag keeps the invariant, whether the entry leaves the map (closeNow) or stays as closed
(the drain loop) -/
theorem inv_drop {t t' : T} (h : Inv t) (sid : Sid) (s : Sess) (hs : t.sess sid = some s) (hc : s.closed = false)
    (hsess : ∀ x, x ≠ sid → t'.sess x = t.sess x)
    (hself : t'.sess sid = none ∨ ∃ s', t'.sess sid = some s' ∧ s'.closed = true)
    (htags : t'.tags = upd t.tags s.fd none) (hko : t'.kopen = upd t.kopen s.fd false) (hkeys : t'.keys = t.keys) : Inv t' := by
  have hown := h.open_tagged sid s hs hc
  refine ⟨?_, ?_, ?_⟩
  · intro fd' sid' ht
    rw [htags] at ht
    by_cases hf : fd' = s.fd
    · rw [hf, upd_same] at ht; cases ht
    · rw [upd_other _ _ _ _ hf] at ht
      obtain ⟨s', hs', hfd, hc'⟩ := h.tag_live fd' sid' ht
      have hne : sid' ≠ sid := by
        intro e; rw [e, hs] at hs'; cases hs'; exact hf hfd.symm
      exact ⟨s', by rw [hsess sid' hne]; exact hs', hfd, hc'⟩
  · intro sid' s' hs' hc'
    by_cases he : sid' = sid
    · subst he
      rcases hself with hn | ⟨s2, h2, hcl⟩
      · rw [hn] at hs'; cases hs'
      · rw [h2] at hs'; cases hs'; rw [hcl] at hc'; cases hc'
    · rw [hsess sid' he] at hs'
      obtain ⟨h1, h2⟩ := h.open_tagged sid' s' hs' hc'
      have hf : s'.fd ≠ s.fd := by
        intro e; rw [e, hown.2] at h2; cases h2; exact he rfl
      exact ⟨by rw [hko, upd_other _ _ _ _ hf]; exact h1, by rw [htags, upd_other _ _ _ _ hf]; exact h2⟩
  · intro sid' s' hs'
    rw [hkeys]
    by_cases he : sid' = sid
    · subst he; exact h.dom _ s hs
    · rw [hsess sid' he] at hs'; exact h.dom sid' s' hs'

theorem inv_closeNow {t : T} (h : Inv t) (sid : Sid) : Inv (step t (.closeNow sid)) := by
  simp only [step]
  cases hs : t.sess sid with
  | none => exact h
  | some s =>
    cases hc : s.closed with
    | true => simp only [hc, if_true]; exact h
    | false =>
      simp only [hc, Bool.false_eq_true, if_false]
      exact inv_drop h sid s hs hc (fun x hx => upd_other _ _ _ _ hx) (Or.inl (upd_same _ _ _)) rfl rfl rfl

theorem drainClose_cases (t : T) (sid : Sid) :
    ((∀ s, t.sess sid = some s → s.closed = true) ∧ drainClose t sid = t) ∨ ∃ s, t.sess sid = some s ∧ s.closed = false ∧
      drainClose t sid = { t with sess := upd t.sess sid (some { s with closed := true }),
                                  tags := if t.erases then upd t.tags s.fd none else t.tags, kopen := upd t.kopen s.fd false } := by
  unfold drainClose
  cases hs : t.sess sid with
  | none => exact Or.inl ⟨(fun _ h => nomatch h), rfl⟩
  | some s =>
    cases hc : s.closed with
    | true => exact Or.inl ⟨fun _ h => Option.some.inj h ▸ hc, if_pos hc⟩
    | false => exact Or.inr ⟨s, rfl, hc, if_neg (by simp [hc])⟩

theorem drainClose_frame (t : T) (sid : Sid) : (drainClose t sid).keys = t.keys ∧ (drainClose t sid).erases = t.erases := by
  rcases drainClose_cases t sid with ⟨_, e⟩ | ⟨_, _, _, e⟩ <;> rw [e] <;> exact ⟨rfl, rfl⟩

theorem drainLoop_frame (l : List Sid) (t : T) : (l.foldl drainClose t).keys = t.keys ∧ (l.foldl drainClose t).erases = t.erases := by
  induction l generalizing t with
  | nil => exact ⟨rfl, rfl⟩
  | cons a r ih => exact ⟨(ih _).1.trans (drainClose_frame t a).1, (ih _).2.trans (drainClose_frame t a).2⟩

/-- the loop leaves every id it has walked over closed (or absent), and opens no closed entry again; the same argument as
`Lifecycle.drainAll_closed` on the engine model -/
theorem drainLoop_closed (l : List Sid) (t : T) (x : Sid) (hx : x ∈ l ∨ ∀ s, t.sess x = some s → s.closed = true) (s : Sess)
    (hs : (l.foldl drainClose t).sess x = some s) : s.closed = true := by
  induction l generalizing t with
  | nil => exact hx.elim nofun (· s hs)
  | cons a r ih =>
    refine ih (drainClose t a) ?_ hs
    by_cases hr : x ∈ r
    · exact .inl hr
    · refine .inr ?_
      have hx : x = a ∨ ∀ s, t.sess x = some s → s.closed = true := hx.imp_left fun h => (List.mem_cons.1 h).resolve_right hr
      rcases drainClose_cases t a with ⟨h0, e⟩ | ⟨s0, _, _, e⟩ <;> rw [e]
      · exact hx.elim (· ▸ h0) id
      · intro s' hs'
        by_cases ex : x = a
        · subst ex; cases (upd_same _ _ _).symm.trans hs'; rfl
        · exact hx.resolve_left ex s' ((upd_other _ _ _ _ ex).symm.trans hs')

theorem inv_drainLoop (l : List Sid) {t : T} (he : t.erases = true) (h : Inv t) : Inv (l.foldl drainClose t) := by
  induction l generalizing t with
  | nil => exact h
  | cons a r ih =>
    refine ih ((drainClose_frame t a).2.trans he) ?_
    rcases drainClose_cases t a with ⟨_, e⟩ | ⟨s0, hs, hc, e⟩ <;> rw [e]
    · exact h
    · rw [he]
      exact inv_drop h a s0 hs hc (fun x hx => upd_other _ _ _ _ hx) (Or.inr ⟨_, upd_same _ _ _, rfl⟩) rfl rfl rfl

theorem inv_drain {t : T} (he : t.erases = true) (h : Inv t) : Inv (step t .drain) := by
  simp only [step]
  have hl := inv_drainLoop t.keys he h
  refine ⟨?_, by intro sid s hs; simp at hs, by intro sid s hs; simp at hs⟩
  intro fd sid ht
  -- a tag left after the loop would name an open session, which is in `keys` - and the loop has closed all of `keys`
  obtain ⟨s, hs, _, hc⟩ := hl.tag_live fd sid ht
  have := drainLoop_closed t.keys t sid (.inl ((drainLoop_frame t.keys t).1 ▸ hl.dom sid s hs)) s hs
  rw [hc] at this; cases this

theorem step_erases (t : T) (op : Op) : (step t op).erases = t.erases := by
  cases op with
  | insert sid fd => simp only [step]; split <;> rfl
  | closeNow sid => simp only [step]; split <;> (try split) <;> rfl
  | drain => exact (drainLoop_frame t.keys t).2

theorem inv_step (op : Op) {t : T} (he : t.erases = true) (h : Inv t) : Inv (step t op) := by
  cases op with
  | insert sid fd => exact inv_insert h sid fd
  | closeNow sid => exact inv_closeNow h sid
  | drain => exact inv_drain he h

theorem inv_run (ops : List Op) {t : T} (he : t.erases = true) (h : Inv t) : Inv (run t ops) := by
  unfold run
  induction ops generalizing t with
  | nil => exact h
  | cons op r ih => exact ih ((step_erases t op).trans he) (inv_step op he h)

end Iora.FdTags
