import IoraModel.Model.RingSpsc
import IoraModel.Lemmas.RingBuffer
/-!
Invariant of the SPSC view model and its consequences: FIFO / lossless / bounded for every interleaving (also with
stale counter reads), and data-race freedom when the extracted memory orders are acquire/release.
-/
namespace Iora.Spsc

/-- how many items of the batch in progress are written to their slots and not yet published -/
def pK : PPc → Nat
  | .writing _ _ k => k
  | .idle => 0

/-- `ht … rm`: the counters and what each side has seen of the other are ordered, at most `C` apart (`cap2`), and the consumer
has read only indices it has seen published (`rm`); `hl`: `hist` holds every value written, i.e. `head` published ones plus
the `k` of the batch in progress; `pw`/`qr`: what a `writing`/`reading` pc records (the count decided at the load is within
the room seen then; the values read so far are `hist` from `tail` on; `R2_peek_returns_oldest` reads this); `content`: every
unconsumed index of `hist` is still in its slot `i % C` (what a slot read returns, so that `qr` is kept); `accI`/`recvI`: the
ghost logs are prefixes of `hist` (`R2_spsc_fifo` reads these) -/
structure Inv (c : Cfg) (s : S) : Prop where
  ht : s.tail ≤ s.head
  ps : s.pSeen ≤ s.tail
  qs : s.qSeen ≤ s.head
  tq : s.tail ≤ s.qSeen
  cap2 : s.head ≤ s.pSeen + c.C
  rm : s.rmax ≤ s.qSeen
  hl : s.hist.length = s.head + pK s.pPc
  pw : ∀ ts n k, s.pPc = .writing ts n k → ts = s.pSeen ∧ k ≤ n ∧ s.head + n ≤ ts + c.C ∧
        ∃ op rest, s.pTodo = op :: rest ∧ n ≤ op.items.length ∧ s.hist.drop s.head = op.items.take k
  qr : ∀ hs n got, s.qPc = .reading hs n got → hs = s.qSeen ∧ got.length ≤ n ∧ s.tail + n ≤ hs ∧
        got = (s.hist.drop s.tail).take got.length
  content : ∀ i, s.tail ≤ i → i < s.hist.length → s.hist[i]? = some (s.buf (i % c.C))
  accI : s.acc = s.hist.take s.head
  recvI : s.recv = s.hist.take s.tail

/-- clock part of the invariant (kept by `invK_fires` when the four orders are acquire/release) -/
structure InvK (s : S) : Prop where
  pk : s.pSeen ≤ s.pKq
  qk : s.qSeen ≤ s.qKp

theorem inv_init (c : Cfg) (p : List POp) (q : List QOp) : Inv c (init p q) := by
  constructor <;> simp [init, pK]

theorem invK_init (p : List POp) (q : List QOp) : InvK (init p q) := by
  constructor <;> simp [init]

theorem pcount_le (c : Nat) (head ts : Nat) (op : POp) (h2 : head ≤ ts + c) :
    op.count c head ts ≤ op.items.length ∧ head + op.count c head ts ≤ ts + c := by
  cases op with
  | push x =>
    simp only [POp.count, POp.items, List.length_singleton]
    split <;> omega
  | pushBatch xs =>
    simp only [POp.count, POp.items]
    omega

theorem qcount_le (tail hs : Nat) (op : QOp) (h : tail ≤ hs) : tail + op.count tail hs ≤ hs := by
  cases op <;> simp only [QOp.count] <;> (try split) <;> omega

/-- the enabled steps of the two threads, as explicit state updates (`h1`, `h2` of the two loads: a load may return any value
from the newest one the thread has seen to the latest, see the header of `Model/RingSpsc.lean`) -/
inductive Fires (c : Cfg) (s : S) : S → Prop
  | pLoad (v : Nat) (op : POp) (rest : List POp) (hpc : s.pPc = .idle) (htodo : s.pTodo = op :: rest)
      (h1 : s.pSeen ≤ v) (h2 : v ≤ s.tail) :
      Fires c s { s with pPc := .writing v (op.count c.C s.head v) 0, pSeen := v,
                         pKq := if c.pAcq && c.qRel then max s.pKq v else s.pKq }
  | pWrite (ts n k : Nat) (op : POp) (rest : List POp) (x : Val) (hpc : s.pPc = .writing ts n k)
      (htodo : s.pTodo = op :: rest) (hk : k < n) (hx : op.items[k]? = some x) :
      Fires c s { s with buf := upd s.buf ((s.head + k) % c.C) x, hist := s.hist ++ [x], pPc := .writing ts n (k + 1) }
  | pStore (ts n : Nat) (op : POp) (rest : List POp) (hpc : s.pPc = .writing ts n n) (htodo : s.pTodo = op :: rest) :
      Fires c s { s with head := s.head + n, acc := s.acc ++ op.items.take n, pRets := s.pRets ++ [n], pTodo := rest,
                         pPc := .idle }
  | qLoad (v : Nat) (op : QOp) (rest : List QOp) (hpc : s.qPc = .idle) (htodo : s.qTodo = op :: rest)
      (h1 : s.qSeen ≤ v) (h2 : v ≤ s.head) :
      Fires c s { s with qPc := .reading v (op.count s.tail v) [], qSeen := v,
                         qKp := if c.qAcq && c.pRel then max s.qKp v else s.qKp }
  | qRead (hs n : Nat) (got : List Val) (hpc : s.qPc = .reading hs n got) (hg : got.length < n) :
      Fires c s { s with qPc := .reading hs n (got ++ [s.buf ((s.tail + got.length) % c.C)]),
                         rmax := max s.rmax (s.tail + got.length + 1) }
  | qPeek (hs : Nat) (got : List Val) (rest : List QOp) (hpc : s.qPc = .reading hs got.length got)
      (htodo : s.qTodo = .peek :: rest) :
      Fires c s { s with qRets := s.qRets ++ [got], qTodo := rest, qPc := .idle }
  | qStore (hs : Nat) (got : List Val) (op : QOp) (rest : List QOp) (hpc : s.qPc = .reading hs got.length got)
      (htodo : s.qTodo = op :: rest) (hop : op ≠ .peek) :
      Fires c s { s with tail := s.tail + got.length, recv := s.recv ++ got, qRets := s.qRets ++ [got], qTodo := rest,
                         qPc := .idle }

theorem step_fires (c : Cfg) (s : S) (a : Act) : step c s a = s ∨ Fires c s (step c s a) := by
  cases a <;> simp only [step]
  · split
    · split
      · rename_i hpc htodo g; exact Or.inr (.pLoad _ _ _ hpc htodo g.1 g.2)
      · exact Or.inl rfl
    · exact Or.inl rfl
  · split
    · split
      · split
        · rename_i hpc htodo hk _ _ hx; exact Or.inr (.pWrite _ _ _ _ _ _ hpc htodo hk hx)
        · exact Or.inl rfl
      · exact Or.inl rfl
    · exact Or.inl rfl
  · split
    · split
      · rename_i hpc htodo hk; subst hk; exact Or.inr (.pStore _ _ _ _ hpc htodo)
      · exact Or.inl rfl
    · exact Or.inl rfl
  · split
    · split
      · rename_i hpc htodo g; exact Or.inr (.qLoad _ _ _ hpc htodo g.1 g.2)
      · exact Or.inl rfl
    · exact Or.inl rfl
  · split
    · split
      · rename_i hpc hg; exact Or.inr (.qRead _ _ _ hpc hg)
      · exact Or.inl rfl
    · exact Or.inl rfl
  · split
    · split
      · rename_i hpc htodo hg
        subst hg
        split
        · rename_i hop; subst hop; exact Or.inr (.qPeek _ _ _ hpc htodo)
        · rename_i hop; exact Or.inr (.qStore _ _ _ _ hpc htodo hop)
      · exact Or.inl rfl
    · exact Or.inl rfl

theorem run_of_fires (c : Cfg) (P : S → Prop) (hstep : ∀ s s', P s → Fires c s s' → P s') (as : List Act) (s : S) (h : P s) :
    P (run c s as) :=
  as.foldlRecOn (step c) h fun s h a _ => (step_fires c s a).elim (fun e => e.symm ▸ h) (hstep s _ h)

/-- the slots written so far: everything published, and never more than a capacity ahead of what the producer saw freed -/
theorem Inv.hist_bounds {c : Cfg} {s : S} (h : Inv c s) : s.head ≤ s.hist.length ∧ s.hist.length ≤ s.pSeen + c.C := by
  have hl := h.hl
  cases hpc : s.pPc with
  | idle => rw [hpc] at hl; exact ⟨Nat.le_of_eq hl.symm, hl ▸ h.cap2⟩
  | writing ts n k =>
    rw [hpc] at hl
    obtain ⟨e1, e2, e3, _⟩ := h.pw ts n k hpc
    have hl : s.hist.length = s.head + k := hl
    omega

theorem inv_fires (c : Cfg) (s s' : S) (h : Inv c s) (f : Fires c s s') : Inv c s' := by
  have hlen := h.hl
  cases f with
  | pLoad v op rest hpc htodo g1 g2 =>
    rw [hpc] at hlen
    have hcnt := pcount_le c.C s.head v op (Nat.le_trans h.cap2 (Nat.add_le_add_right g1 _))
    refine { h with ps := g2, cap2 := Nat.le_trans h.cap2 (Nat.add_le_add_right g1 _), hl := hlen, pw := ?_ }
    intro ts n k e
    cases e
    refine ⟨rfl, Nat.zero_le _, hcnt.2, op, rest, htodo, hcnt.1, ?_⟩
    show s.hist.drop s.head = _
    rw [← (show s.hist.length = s.head from hlen), List.drop_length]; rfl
  | pWrite ts n k op rest x hpc htodo hk hx =>
    obtain ⟨e1, e2, e3, op', rest', ht', hn', hd'⟩ := h.pw ts n k hpc
    rw [htodo] at ht'; cases ht'
    rw [hpc] at hlen
    have hlen : s.hist.length = s.head + k := hlen
    -- the index written, `|hist|`, is less than a capacity ahead of `tail`: its slot holds no value still to be read
    have key : s.head ≤ s.hist.length ∧ s.tail ≤ s.hist.length ∧ s.hist.length < s.tail + c.C := by
      have := h.ht; have := h.ps; have := h.hist_bounds; omega
    refine { h with hl := ?_, pw := ?_, qr := ?_, content := ?_, accI := ?_, recvI := ?_ }
    · show (s.hist ++ [x]).length = s.head + (k + 1)
      rw [List.length_append, hlen]; rfl
    · intro ts' n' k' e
      cases e
      refine ⟨e1, hk, e3, op, rest, htodo, hn', ?_⟩
      show (s.hist ++ [x]).drop s.head = _
      rw [List.drop_append_of_le_length key.1, hd', List.take_add_one, hx]; rfl
    · intro hs n' got e
      obtain ⟨q1, q2, q3, q4⟩ := h.qr hs n' got e
      refine ⟨q1, q2, q3, ?_⟩
      show got = ((s.hist ++ [x]).drop s.tail).take got.length
      have := h.qs
      rw [List.drop_append_of_le_length (by omega), List.take_append_of_le_length (by simp; omega)]; exact q4
    · intro i hi1 hi2
      show (s.hist ++ [x])[i]? = some (upd s.buf ((s.head + k) % c.C) x (i % c.C))
      rw [← hlen]
      rw [List.length_append] at hi2
      by_cases hi : i = s.hist.length
      · subst hi
        simp [upd]
      · have hi3 : i < s.hist.length := Nat.lt_of_le_of_ne (Nat.le_of_lt_succ hi2) hi
        have hi1' : s.tail ≤ i := hi1
        rw [List.getElem?_append_left hi3, h.content i hi1' hi3]
        have : i % c.C ≠ s.hist.length % c.C := Ring.mod_ne_of_lt hi3 (by omega)
        simp [upd, this]
    · show s.acc = (s.hist ++ [x]).take s.head
      rw [List.take_append_of_le_length key.1]; exact h.accI
    · show s.recv = (s.hist ++ [x]).take s.tail
      rw [List.take_append_of_le_length key.2.1]; exact h.recvI
  | pStore ts k op rest hpc htodo =>
    obtain ⟨e1, e2, e3, op', rest', ht', hn', hd'⟩ := h.pw ts k k hpc
    rw [htodo] at ht'; cases ht'
    rw [hpc] at hlen
    have hlen : s.hist.length = s.head + k := hlen
    refine { h with ht := Nat.le_trans h.ht (Nat.le_add_right _ _), qs := Nat.le_trans h.qs (Nat.le_add_right _ _),
                    cap2 := e1 ▸ e3, hl := hlen, pw := nofun, accI := ?_ }
    show s.acc ++ op.items.take k = s.hist.take (s.head + k)
    rw [h.accI, ← hd', ← hlen, List.take_length, List.take_append_drop]
  | qLoad v op rest hpc htodo g1 g2 =>
    have hcnt := qcount_le s.tail v op (Nat.le_trans h.tq g1)
    refine { h with qs := g2, tq := Nat.le_trans h.tq g1, rm := Nat.le_trans h.rm g1, qr := ?_ }
    intro hs n got e
    cases e
    exact ⟨rfl, Nat.zero_le _, hcnt, rfl⟩
  | qRead hs n got hpc hg =>
    obtain ⟨q1, q2, q3, q4⟩ := h.qr hs n got hpc
    have key : s.tail + got.length + 1 ≤ s.qSeen ∧ s.tail + got.length < s.hist.length := by
      have := h.qs; have := h.hist_bounds; omega
    refine { h with rm := Nat.max_le.mpr ⟨h.rm, key.1⟩, qr := ?_ }
    intro hs' n' got' e
    cases e
    refine ⟨q1, by rw [List.length_append]; exact hg, q3, ?_⟩
    -- the index read, `tail + |got|`, is below `qSeen ≤ head ≤ |hist|` and unconsumed: its slot holds `hist[tail + |got|]`
    have hc := h.content (s.tail + got.length) (Nat.le_add_right _ _) key.2
    rw [List.length_append, List.length_singleton, List.take_add_one, ← q4]
    congr 1
    rw [List.getElem?_drop, hc]; rfl
  | qPeek hs got rest hpc htodo =>
    exact { h with qr := nofun }
  | qStore hs got op rest hpc htodo hop =>
    obtain ⟨q1, q2, q3, q4⟩ := h.qr hs _ got hpc
    have key : s.tail + got.length ≤ s.qSeen := q1 ▸ q3
    refine { h with ht := Nat.le_trans key h.qs, ps := Nat.le_trans h.ps (Nat.le_add_right _ _), tq := key, qr := nofun,
                    content := ?_, recvI := ?_ }
    · intro i hi1 hi2
      exact h.content i (Nat.le_trans (Nat.le_add_right _ _) hi1) hi2
    · show s.recv ++ got = s.hist.take (s.tail + got.length)
      rw [h.recvI, List.take_add, ← q4]

theorem inv_reach (c : Cfg) (p : List POp) (q : List QOp) (as : List Act) : Inv c (run c (init p q) as) :=
  run_of_fires c (Inv c) (inv_fires c) as _ (inv_init c p q)

theorem invK_fires (c : Cfg) (hp : c.pAcq = true) (hq : c.qAcq = true) (hpr : c.pRel = true) (hqr : c.qRel = true)
    (s s' : S) (h : InvK s) (f : Fires c s s') : InvK s' := by
  obtain ⟨pk, qk⟩ := h
  cases f with
  | pLoad v => exact ⟨by show v ≤ (if c.pAcq && c.qRel then max s.pKq v else s.pKq); simp [hp, hqr]; omega, qk⟩
  | qLoad v => exact ⟨pk, by show v ≤ (if c.qAcq && c.pRel then max s.qKp v else s.qKp); simp [hq, hpr]; omega⟩
  | _ => exact ⟨pk, qk⟩

/-- with acquire loads of the other thread's counter and release stores of one's own, no schedule reaches a racy slot access -/
theorem drf_of_orders (c : Cfg) (hp : c.pAcq = true) (hq : c.qAcq = true) (hpr : c.pRel = true)
    (hqr : c.qRel = true) : DRF c := by
  intro p q as a
  have I := inv_reach c p q as
  have K := run_of_fires c InvK (invK_fires c hp hq hpr hqr) as _ (invK_init p q)
  generalize run c (init p q) as = s at I K
  cases a with
  | pLoad v => simp [Racy]
  | qLoad v => simp [Racy]
  | pStore => simp [Racy]
  | qStore => simp [Racy]
  | pWrite =>
    rintro ⟨ts, n, k, hpc, hk, j, hj, hmod, hn⟩
    obtain ⟨e1, e2, e3, _⟩ := I.pw ts n k hpc
    -- an earlier read `j` of the slot about to be written lies a whole capacity back, below the `_tail` value the
    -- producer loaded, and an acquire load of that value has put every such read before the producer's next action
    have hlt : j < s.head + k := by have := I.rm; have := I.qs; omega
    have hback : j + c.C ≤ s.head + k := Ring.ge_of_mod_eq hlt hmod
    have hseen : j < s.pSeen := by omega
    exact hn (Nat.lt_of_lt_of_le hseen K.pk)
  | qRead =>
    rintro ⟨hs, n, got, hpc, hg, j, hj, hmod, hn⟩
    obtain ⟨q1, q2, q3, _⟩ := I.qr hs n got hpc
    -- a write `j` of the slot about to be read that is not ordered before the read (`qSeen ≤ qKp ≤ j`) would lie a whole
    -- capacity ahead of `tail + |got|`, beyond what has been written at all
    have hpub : s.qSeen ≤ j := Nat.le_trans K.qk (Nat.le_of_not_lt hn)
    have hahead : s.tail + got.length + c.C ≤ j := Ring.ge_of_mod_eq (by omega) hmod.symm
    have := I.ps; have := I.hist_bounds
    omega

/-- what is in flight: accepted from the producer, not yet handed to the consumer -/
def inflight (s : S) : List Val := (s.hist.take s.head).drop s.tail

theorem fifo_of_inv (c : Cfg) (s : S) (h : Inv c s) :
    s.acc = s.recv ++ inflight s ∧ (inflight s).length = s.head - s.tail ∧ s.head - s.tail ≤ c.C := by
  refine ⟨?_, ?_, ?_⟩
  · rw [h.accI, h.recvI, inflight]
    have : s.hist.take s.tail = (s.hist.take s.head).take s.tail := by
      rw [List.take_take]; congr 1; have := h.ht; omega
    rw [this, List.take_append_drop]
  · have := h.hist_bounds; simp [inflight]; omega
  · have := h.cap2; have := h.ps; omega

/-- results are consistent with the ghost logs: the accepted items are the prefixes (of length = returned count) of the
producer's completed calls; the received items are the items returned by the consumer's completed non-peek calls -/
structure RetInv (p : List POp) (q : List QOp) (s : S) : Prop where
  pdone : ∃ done, p = done ++ s.pTodo ∧ done.length = s.pRets.length ∧
            s.acc = ((done.zip s.pRets).map (fun x => x.1.items.take x.2)).flatten
  qdone : ∃ done, q = done ++ s.qTodo ∧ done.length = s.qRets.length ∧
            s.recv = (((done.zip s.qRets).filter (fun x => x.1 != .peek)).map (fun x => x.2)).flatten

theorem retInv_init (p : List POp) (q : List QOp) : RetInv p q (init p q) :=
  ⟨⟨[], by simp [init], by simp [init], by simp [init]⟩, ⟨[], by simp [init], by simp [init], by simp [init]⟩⟩

theorem retInv_fires (c : Cfg) (p : List POp) (q : List QOp) (s s' : S) (h : RetInv p q s) (f : Fires c s s') :
    RetInv p q s' := by
  obtain ⟨⟨pd, p1, p2, p3⟩, ⟨qd, q1, q2, q3⟩⟩ := h
  cases f with
  | pStore ts n op rest hpc htodo =>
    refine ⟨⟨pd ++ [op], ?_, ?_, ?_⟩, ⟨qd, q1, q2, q3⟩⟩
    · show p = (pd ++ [op]) ++ rest; rw [p1, htodo]; simp
    · show (pd ++ [op]).length = (s.pRets ++ [n]).length; simp [p2]
    · show s.acc ++ op.items.take n = _
      rw [List.zip_append p2, p3]; simp
  | qPeek hs got rest hpc htodo =>
    refine ⟨⟨pd, p1, p2, p3⟩, ⟨qd ++ [QOp.peek], ?_, ?_, ?_⟩⟩
    · show q = (qd ++ [QOp.peek]) ++ rest; rw [q1, htodo]; simp
    · show (qd ++ [QOp.peek]).length = (s.qRets ++ [got]).length; simp [q2]
    · show s.recv = _
      rw [List.zip_append q2, q3]; simp
  | qStore hs got op rest hpc htodo hop =>
    refine ⟨⟨pd, p1, p2, p3⟩, ⟨qd ++ [op], ?_, ?_, ?_⟩⟩
    · show q = (qd ++ [op]) ++ rest; rw [q1, htodo]; simp
    · show (qd ++ [op]).length = (s.qRets ++ [got]).length; simp [q2]
    · show s.recv ++ got = _
      rw [List.zip_append q2, q3]; simp [hop]
  | _ => exact ⟨⟨pd, p1, p2, p3⟩, ⟨qd, q1, q2, q3⟩⟩

/-- a refusal decided on a FRESH read of `_tail` is genuine: the ring really is full at that moment -/
theorem push_refusal_genuine (c : Cfg) (s : S) (x : Val) (h : Inv c s)
    (h0 : (POp.push x).count c.C s.head s.tail = 0) : (inflight s).length = c.C := by
  have := (fifo_of_inv c s h).2
  simp only [POp.count] at h0
  split at h0 <;> omega

/-- an "empty" answer decided on a FRESH read of `_head` is genuine -/
theorem pop_refusal_genuine (c : Cfg) (s : S) (h : Inv c s) (h0 : QOp.pop.count s.tail s.head = 0) : inflight s = [] := by
  have := (fifo_of_inv c s h).2
  simp only [QOp.count] at h0
  apply List.eq_nil_of_length_eq_zero
  split at h0 <;> omega

/-- a refusal that is RETURNED after a load of the latest `_tail`: the load step is taken (a fresh value is admissible), and had it
decided to transfer, the store step right after it would not fire (nothing is written yet) and nothing would be returned -/
theorem Inv.returned_push_refusal {c : Cfg} {s : S} (I : Inv c s) (x : Val) (rest : List POp) (hpc : s.pPc = .idle)
    (ht : s.pTodo = .push x :: rest) (hret : (step c (step c s (.pLoad s.tail)) .pStore).pRets = s.pRets ++ [0]) :
    (inflight s).length = c.C := by
  have h1 : step c s (.pLoad s.tail) =
      { s with pPc := .writing s.tail ((POp.push x).count c.C s.head s.tail) 0, pSeen := s.tail,
               pKq := if c.pAcq && c.qRel then max s.pKq s.tail else s.pKq } := by
    simp [step, hpc, ht, I.ps]
  rw [h1] at hret
  by_cases h0 : (POp.push x).count c.C s.head s.tail = 0
  · exact push_refusal_genuine c s x I h0
  · have hne : ¬ (0 = (POp.push x).count c.C s.head s.tail) := fun e => h0 e.symm
    simp [step, ht, hne] at hret

theorem Inv.returned_pop_refusal {c : Cfg} {s : S} (I : Inv c s) (rest : List QOp) (hpc : s.qPc = .idle)
    (ht : s.qTodo = .pop :: rest) (hret : (step c (step c s (.qLoad s.head)) .qStore).qRets = s.qRets ++ [[]]) :
    inflight s = [] := by
  have h1 : step c s (.qLoad s.head) =
      { s with qPc := .reading s.head (QOp.pop.count s.tail s.head) [], qSeen := s.head,
               qKp := if c.qAcq && c.pRel then max s.qKp s.head else s.qKp } := by
    simp [step, hpc, ht, I.qs]
  rw [h1] at hret
  by_cases h0 : QOp.pop.count s.tail s.head = 0
  · exact pop_refusal_genuine c s I h0
  · have hne : ¬ (0 = QOp.pop.count s.tail s.head) := fun e => h0 e.symm
    simp [step, ht, hne] at hret

/-- what a completing `peek` has read (`qr`) is the front of what is in flight -/
theorem Inv.peek_returns_oldest {c : Cfg} {s : S} (I : Inv c s) {hs n : Nat} {got : List Val} {rest : List QOp}
    (hpc : s.qPc = .reading hs n got) (htodo : s.qTodo = .peek :: rest) (hlen : got.length = n) :
    (step c s .qStore).qRets = s.qRets ++ [(inflight s).take n] ∧ (step c s .qStore).recv = s.recv ∧
    (step c s .qStore).tail = s.tail ∧ n ≤ (inflight s).length := by
  obtain ⟨_, _, hle, hgot⟩ := I.qr hs n got hpc
  have hqs := I.qs
  have hinf : (inflight s).take n = got := by
    rw [hgot, hlen, inflight, List.drop_take, List.take_take]
    congr 1
    omega
  have hn : n ≤ (inflight s).length := by
    rw [(fifo_of_inv c s I).2.1]; omega
  simp only [step, hpc, htodo, hlen, if_true, hinf]
  simp [hn]

theorem allOf_intro {o : Orders} {ms : List String} {var acc : String} {p : String → Bool}
    (h : ∀ cls ∈ classes, ∀ m ∈ ms, ∀ a ∈ counterAccessesOf o cls m, a.1 = var → a.2.1 = acc → p a.2.2 = true) :
    allOf o ms var acc p = true := by
  unfold allOf
  refine List.all_eq_true.mpr fun cls hc => List.all_eq_true.mpr fun m hm => List.all_eq_true.mpr fun a ha => ?_
  split
  · rename_i hv
    have hv := (Bool.and_eq_true _ _).mp hv
    exact h cls hc m hm a ha (eq_of_beq hv.1) (eq_of_beq hv.2)
  · rfl

theorem countersOK_methods {o : Orders} (h : countersOK o = true) {cls : String} (hc : cls ∈ classes) :
    (∀ m ∈ producerMethods, producerOk (counterAccessesOf o cls m) = true) ∧
    (∀ m ∈ consumerMethods, consumerOk (counterAccessesOf o cls m) (m != "peek#0") = true) := by
  have := List.all_eq_true.mp h cls hc
  simp only [Bool.and_eq_true, List.all_eq_true] at this
  exact ⟨this.1.1.1, this.1.1.2⟩

/-- the per-access test shared by `producerOk` (`v = "_tail"`) and `consumerOk` (`v = "_head"`): a load of the other side's
counter is acquire, a store is release (`x`: what else the method's side asks of a store) -/
theorem access_ok {v : String} {x : Bool} {a : String × String × String}
    (h : (if a.2.1 == "load" then (if a.1 == v then isAcq a.2.2 else true) else x && isRel a.2.2) = true) :
    (a.1 = v → a.2.1 = "load" → isAcq a.2.2 = true) ∧ (a.2.1 = "store" → isRel a.2.2 = true) := by
  constructor
  · intro e1 e2
    rwa [e1, e2, if_pos (beq_self_eq_true _), if_pos (beq_self_eq_true _)] at h
  · intro e
    rw [e, if_neg (by decide)] at h
    exact ((Bool.and_eq_true _ _).mp h).2

theorem producerOk_mem {acc : List (String × String × String)} {a : String × String × String}
    (h : producerOk acc = true) (ha : a ∈ acc) :
    (a.1 = "_tail" → a.2.1 = "load" → isAcq a.2.2 = true) ∧ (a.2.1 = "store" → isRel a.2.2 = true) :=
  access_ok (List.all_eq_true.mp ((Bool.and_eq_true _ _).mp h).2 a ha)

theorem consumerOk_mem {acc : List (String × String × String)} {a : String × String × String} {mayStore : Bool}
    (h : consumerOk acc mayStore = true) (ha : a ∈ acc) :
    (a.1 = "_head" → a.2.1 = "load" → isAcq a.2.2 = true) ∧ (a.2.1 = "store" → isRel a.2.2 = true) :=
  access_ok (List.all_eq_true.mp ((Bool.and_eq_true _ _).mp h).2 a ha)

/-- the four orders of the configuration come from the per-method checks of the counters alone (`shapeOK` is not needed) -/
theorem cfg_of_countersOK (o : Orders) (C : Nat) (hc : countersOK o = true) :
    (cfgOf o C).pAcq = true ∧ (cfgOf o C).qAcq = true ∧ (cfgOf o C).pRel = true ∧ (cfgOf o C).qRel = true :=
  ⟨allOf_intro fun _ hcls _ hm _ ha e1 e2 => (producerOk_mem ((countersOK_methods hc hcls).1 _ hm) ha).1 e1 e2,
    allOf_intro fun _ hcls _ hm _ ha e1 e2 => (consumerOk_mem ((countersOK_methods hc hcls).2 _ hm) ha).1 e1 e2,
    allOf_intro fun _ hcls _ hm _ ha _ e2 => (producerOk_mem ((countersOK_methods hc hcls).1 _ hm) ha).2 e2,
    allOf_intro fun _ hcls _ hm _ ha _ e2 => (consumerOk_mem ((countersOK_methods hc hcls).2 _ hm) ha).2 e2⟩

end Iora.Spsc
