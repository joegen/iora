import IoraModel.Lemmas.EngineGood
/-!
# What the application has seen gets its close (C02, T2)

An id the application has seen (`Seen`) is pending, in the table or closed (`Seen.dom`: T2 while running), and closed once the
drain has run (`stopped_closed`: T2 after stop).  The rest is about an accepted close() request.

`Hon sid g`: the id is closed already, or a `Close sid` command issued by the application is still pending in the I/O thread's work
list (`batch ++ queue`, the FIFO order in which process() takes commands) and NO Connect / Via command for the same id stands behind
it.  Every step of both engines preserves it for an id the application has seen; when the command reaches the head of the list the
session is in the table (its Connect was queued earlier and has been processed) or the id is closed, so `closeCmd` closes it.
-/
namespace Iora.Lifecycle

theorem proj_mono {t0 : List Out} {g : G} (h : TrExt t0 g) {f : Out → Option Sid} {sid : Sid} (hm : sid ∈ t0.filterMap f) :
    sid ∈ g.tr.filterMap f := by
  obtain ⟨e, he⟩ := h; rw [he, List.filterMap_append]; exact List.mem_append_left _ hm

/-- the application has seen the id: connect()/connectViaListener() returned it, or an accept / connect callback announced it -/
def Seen (sid : Sid) (g : G) : Prop := sid ∈ retOf g.tr ∨ sid ∈ annOf g.tr

theorem Seen.mono {sid : Sid} {g g' : G} (h : Seen sid g) (ht : TrExt g.tr g') : Seen sid g' :=
  h.imp (proj_mono ht) (proj_mono ht)

/-- nothing the application has seen is lost: the id's request is pending, its session is in the table, or it has its close -/
theorem Seen.dom {sid : Sid} {g : G} (h : Seen sid g) (hi : Inv g) :
    sid ∈ pend g ∨ (∃ s, g.table sid = some s) ∨ sid ∈ closesOf g.tr :=
  h.elim (hi.ret_dom sid) fun ha => .inr (hi.ann_dom sid ha)

theorem Seen.lt {sid : Sid} {g : G} (h : Seen sid g) (hi : Inv g) : sid < g.nextId := by
  rcases h.dom hi with h | ⟨s, hs⟩ | h
  · exact hi.pend_lt sid h
  · exact hi.tbl_lt sid s hs
  · exact hi.cl_lt sid h

/-- the close request is honoured (the id is closed), or pending in the work list with no Connect / Via of the id BEHIND it -
so that when process() reaches it the id's own connect has been carried out -/
def Hon (sid : Sid) (g : G) : Prop :=
  sid ∈ closesOf g.tr ∨ ∃ pre post, g.batch ++ g.queue = pre ++ Cmd.close sid .app :: post ∧ sid ∉ connSids post

theorem Hon.grow {sid : Sid} {g g' : G} (h : Hon sid g) (tail : List Cmd) (hq : g'.batch ++ g'.queue = g.batch ++ g.queue ++ tail)
    (ht : sid ∉ connSids tail) (htr : TrExt g.tr g') : Hon sid g' := by
  rcases h with h | ⟨pre, post, he, hn⟩
  · exact Or.inl (proj_mono htr h)
  · refine Or.inr ⟨pre, post ++ tail, by rw [hq, he]; simp, ?_⟩
    unfold connSids at *
    rw [List.filterMap_append]
    intro hm
    rcases List.mem_append.1 hm with h1 | h1
    · exact hn h1
    · exact ht h1

theorem Hon.of_frame {sid : Sid} {g g' : G} (h : Hon sid g) (hf : Frame g g') : Hon sid g' ∧ TrExt g.tr g' :=
  ⟨h.grow [] (by rw [hf.batch, hf.queue]; simp) (by simp [connSids]) hf.tr, hf.tr⟩

/-- the head of the work list was taken and handled: the request itself (then the id must be closed now), or an earlier command -/
theorem Hon.pop {sid : Sid} {g g' : G} (h : Hon sid g) (c : Cmd) (rest : List Cmd) (hb : g.batch = c :: rest)
    (hf : g'.batch = rest ∧ g'.queue = g.queue ∧ TrExt g.tr g') (hclose : c = Cmd.close sid .app → sid ∉ connSids (rest ++ g.queue) → sid ∈ closesOf g'.tr) :
    Hon sid g' := by
  rcases h with h | ⟨pre, post, he, hn⟩
  · exact Or.inl (proj_mono hf.2.2 h)
  · rw [hb] at he
    cases pre with
    | nil =>
      simp only [List.nil_append, List.cons_append, List.cons.injEq] at he
      obtain ⟨hc, hr⟩ := he
      exact Or.inl (hclose hc (by rw [hr]; exact hn))
    | cons p pre' =>
      simp only [List.cons_append, List.cons.injEq] at he
      exact Or.inr ⟨pre', post, by rw [hf.1, hf.2.1]; exact he.2, hn⟩

/-- when the request is at the head and no connect of the id is pending, the session is in the table and open (or the id is
closed): the `Cmd::Close` arm closes it -/
theorem closeCmd_honours {sid : Sid} {g : G} (hi : Inv g) (hseen : Seen sid g) (hp : sid ∉ pend g) :
    sid ∈ closesOf (closeCmd sid .app g).tr := by
  rcases (hseen.dom hi).resolve_left hp with ⟨s, hs⟩ | h3
  · unfold closeCmd; rw [hs]; dsimp only
    rcases closeNow_cases sid (.procClose .app) g with ⟨hcl, e⟩ | ⟨_, _, _, e⟩ <;> rw [e]
    · exact (hi.tbl_cl sid s hs).1 (hcl s hs)
    · exact mem_closesOf_snoc
  · exact proj_mono (closeCmd_walk (tcp := true) (E := True) sid .app g).quiet.frame.tr h3

theorem stopped_closed {sid : Sid} {g : G} (h : SInv g) (hs : g.phase = .stopped) (hseen : Seen sid g) : sid ∈ closesOf g.tr := by
  obtain ⟨_, hb, hq, ht⟩ := h.stop.stopped hs
  rcases hseen.dom h.inv with h1 | ⟨s, hs⟩ | h3
  · simp [pend, h.cur, hb, hq, connSids] at h1
  · exact nomatch (ht sid).symm.trans hs
  · exact h3

variable {tcp : Bool} {E : Prop} {g g' : G}

theorem Kind.hon (k : Kind tcp E g g') (hg : Good g) {sid : Sid} (hseen : Seen sid g) (h : Hon sid g) :
    Hon sid g' ∧ TrExt g.tr g' := by
  cases k with
  | api a =>
    obtain ⟨tail, ht, hfresh⟩ := a.work
    exact ⟨h.grow tail ht (fun hm => Nat.lt_irrefl _ (Nat.lt_of_lt_of_le (hseen.lt hg.sinv.inv) (hfresh sid hm))) a.tr, a.tr⟩
  | run _ w => exact h.of_frame w.quiet.frame
  | cmd hp hc w _ hclose =>
    rcases popCmd_cases g with ⟨_, e⟩ | ⟨c, rest, hb, e⟩ <;> rw [e] at w
    · exact h.of_frame w.quiet.frame
    · have hf := w.quiet.frame
      refine ⟨h.pop c rest hb ⟨hf.batch, hf.queue, hf.tr⟩ fun hcl hn => ?_, hf.tr⟩
      subst hcl
      rw [hclose sid rest hb]
      -- the request is at the head and no connect of `sid` stands behind it: `sid` is not pending
      have hp : pend { g with batch := rest } = pend g := by unfold pend; rw [hb]; rfl
      refine closeCmd_honours (g := { g with batch := rest }) (hg.sinv.inv.frame rfl rfl hp rfl rfl rfl rfl) hseen ?_
      show sid ∉ g.cur.toList ++ connSids rest ++ connSids g.queue
      rw [hc, List.append_assoc]
      simpa [connSids, List.filterMap_append] using hn
  | drainClose s =>
    exact Hon.of_frame (g := { g with phase := .drainSess }) h (drainClose_quiet (E := True) s _).1.frame
  | drainFinish hb hc =>
    have d := drainFinish_drained g hc
    exact ⟨Or.inl (stopped_closed ((Kind.drainFinish (tcp := tcp) (E := E) hb hc).good hg).1.sinv d.phase (hseen.mono d.tr)), d.tr⟩

theorem Tcp.step_hon (sid : Sid) (g : G) (i : In) (h : Good2 g) (hseen : Seen sid g) (hh : Hon sid g) :
    Hon sid (Tcp.step g i) ∧ TrExt g.tr (Tcp.step g i) :=
  (Tcp.step_kind g i h.good.handlers h.jinv).hon h.good hseen hh

theorem Udp.step_hon (sid : Sid) (g : G) (i : In) (h : GoodU g) (hseen : Seen sid g) (hh : Hon sid g) :
    Hon sid (Udp.step g i) ∧ TrExt g.tr (Udp.step g i) :=
  (Udp.step_kind g i h.good2.good.sinv.inv h.good2.good.handlers h.allAnn).hon h.good2.good hseen hh

theorem hon_run {I : G → Prop} (stepf : G → In → G) (hI : ∀ g i, I g → I (stepf g i))
    (hstep : ∀ (sid : Sid) g i, I g → Seen sid g → Hon sid g → Hon sid (stepf g i) ∧ TrExt g.tr (stepf g i))
    (sid : Sid) (g : G) (hs : I g) (hseen : Seen sid g) (h : Hon sid g) (is : List In) : Hon sid (run stepf g is) :=
  (run_inv (I := fun g => I g ∧ Seen sid g ∧ Hon sid g) stepf
    (fun g i ⟨hi, hs, hh⟩ => have t := hstep sid g i hi hs hh; ⟨hI g i hi, hs.mono t.2, t.1⟩) g ⟨hs, hseen, h⟩ is).2.2

theorem hon_after_apiClose (sid : Sid) (g : G) (hopen : g.cmdsClosed = false) : Hon sid (apiPlain (.close sid .app) g) := by
  unfold apiPlain enqueue
  simp only [hopen, Bool.false_eq_true, if_false]
  exact Or.inr ⟨g.batch ++ g.queue, [], by simp, by simp [connSids]⟩

/-- an accepted close() is honoured, for any step function that keeps an invariant `I` under which its steps keep `Hon`, and whose
`close(sid)` is the plain enqueue: once the work list is empty again the id has its close -/
theorem close_request_honoured {I : G → Prop} (stepf : G → In → G) (hI : ∀ g i, I g → I (stepf g i))
    (hstep : ∀ (sid : Sid) g i, I g → Seen sid g → Hon sid g → Hon sid (stepf g i) ∧ TrExt g.tr (stepf g i))
    (hclose : ∀ g sid, stepf g (.apiClose sid) = apiPlain (.close sid .app) g)
    (g : G) (hg : I g) (sid : Sid) (hseen : Seen sid g) (hopen : g.cmdsClosed = false) (is : List In)
    (hq : (run stepf g (In.apiClose sid :: is)).queue = []) (hb : (run stepf g (In.apiClose sid :: is)).batch = []) :
    sid ∈ closesOf (run stepf g (In.apiClose sid :: is)).tr := by
  have hrun : run stepf g (In.apiClose sid :: is) = run stepf (stepf g (.apiClose sid)) is := rfl
  rw [hrun] at hq hb ⊢
  have hseen2 : Seen sid (stepf g (.apiClose sid)) := by
    rw [hclose]; unfold Seen apiPlain enqueue; split <;> exact hseen
  rcases hon_run stepf hI hstep sid _ (hI _ _ hg) hseen2 (by rw [hclose]; exact hon_after_apiClose sid _ hopen) is
    with h | ⟨pre, post, he, _⟩
  · exact h
  · rw [hq, hb] at he; cases pre <;> simp at he

end Iora.Lifecycle
