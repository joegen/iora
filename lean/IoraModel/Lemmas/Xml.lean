import IoraModel.Lemmas.XmlClosed
import IoraModel.Common.Find
import IoraModel.Common.Span
/-! The tokenizer in closed form (`Lemmas/XmlClosed.lean`: `skipSpacesC`, `readNameC`, …, `nextC`, `runC`, `tokensC`): its scans
(`spanLen`, `startsWith`, `findSub`, `doctypeScan`) in terms of the library and of `Common/Find.lean`, cursor discipline (`c.over w r`,
the cursor after exactly the bytes `w`), what each reader guarantees on ARBITRARY input (`Res.Sat`), the specification of one call
(`next_sat`) and of a whole run (`run_ok`).
A lemma named after a reader (`readName_sat`; `readName_eval` in `Lemmas/XmlRender.lean`) is about its closed form (`readNameC`).
`Lemmas/XmlExplicit.lean` proves `next = nextC` and `tokens = tokensC`, and `Lemmas/XmlTransfer.lean` / `Props/C14.lean` carry the results
over. -/
namespace Iora.Xml
open Iora

theorem spanLen_eq (p : UInt8 → Bool) : ∀ r : Bytes, spanLen p r = (r.takeWhile p).length
  | [] => rfl
  | ch :: r => by
    rw [spanLen, List.takeWhile_cons, spanLen_eq p r]
    split <;> simp

theorem spanLen_le (p : UInt8 → Bool) (r : Bytes) : spanLen p r ≤ r.length := by
  have := length_takeWhile_add p r
  rw [spanLen_eq]; omega

theorem startsWith_eq : ∀ (p r : Bytes), startsWith p r = p.isPrefixOf r
  | [], r => by cases r <;> simp [startsWith]
  | _ :: _, [] => by simp [startsWith]
  | p :: ps, x :: xs => by simp only [startsWith, startsWith_eq ps xs, List.isPrefixOf_cons_cons]; rfl

theorem findSub_eq_occ (pat : Bytes) : ∀ r : Bytes, findSub pat r = occ pat r
  | [] => rfl
  | ch :: r => by
    simp only [findSub, occ, startsWith_eq, findSub_eq_occ pat r]
    split
    · rfl
    · cases occ pat r <;> rfl

theorem startsWith_self_append (p r : Bytes) : startsWith p (p ++ r) = true := by
  rw [startsWith_eq, List.isPrefixOf_iff_prefix]; exact List.prefix_append p r

theorem startsWith_iff (p r : Bytes) : startsWith p r = true ↔ ∃ t, r = p ++ t := by
  rw [startsWith_eq, List.isPrefixOf_iff_prefix]; exact ⟨fun ⟨t, h⟩ => ⟨t, h.symm⟩, fun ⟨t, h⟩ => ⟨t, h.symm⟩⟩

theorem startsWithCI_eq : ∀ (p r : Bytes), startsWithCI p r = (p.map lowerAscii).isPrefixOf (r.map lowerAscii)
  | [], r => by cases r <;> rfl
  | _ :: _, [] => rfl
  | p :: ps, x :: xs => by
    simp only [startsWithCI, startsWithCI_eq ps xs, List.map_cons, List.isPrefixOf_cons_cons, eq_comm (a := lowerAscii x)]; rfl

theorem startsWithCI_append_of_eq (w kw rest : Bytes) (h : startsWithCI w kw = true) : startsWithCI w (kw ++ rest) = true := by
  rw [startsWithCI_eq] at h ⊢
  rw [List.map_append, isPrefixOf_append_of_le _ (by simpa using isPrefixOf_length h)]; exact h

theorem findSub_bound (pat r : Bytes) (k : Nat) (h : findSub pat r = some k) : k + pat.length ≤ r.length :=
  occ_fits (findSub_eq_occ pat r ▸ h)

theorem findSub_append (pat r rest : Bytes) (k : Nat) (h : findSub pat r = some k) : findSub pat (r ++ rest) = some k := by
  rw [findSub_eq_occ] at h ⊢; exact occ_append rest h

/-- the bracket count of `readDoctype` behind the byte `ch` -/
def bracketAfter (ch : UInt8) (b : Nat) : Nat := if ch = 0x5B then b + 1 else if ch = 0x5D then b - 1 else b

theorem doctypeScan_cons (ch : UInt8) (r : Bytes) (b : Nat) :
    doctypeScan (ch :: r) b = if ch = 0x3E ∧ b = 0 then some 0 else (doctypeScan r (bracketAfter ch b)).map (· + 1) := by
  rw [doctypeScan, bracketAfter]
  by_cases h1 : ch = 0x5B
  · subst h1; simp
  by_cases h2 : ch = 0x5D
  · subst h2; simp
  simp [h1, h2]

theorem doctypeScan_bound : ∀ (r : Bytes) (b k : Nat), doctypeScan r b = some k → k + 1 ≤ r.length
  | [], b, k, h => by simp [doctypeScan] at h
  | ch :: r, b, k, h => by
    rw [doctypeScan_cons] at h
    split at h
    · cases h; exact Nat.succ_le_succ (Nat.zero_le _)
    · obtain ⟨k', hk', rfl⟩ := Option.map_eq_some_iff.1 h
      exact Nat.succ_le_succ (doctypeScan_bound r _ k' hk')

theorem doctypeScan_append : ∀ (r rest : Bytes) (b k : Nat), doctypeScan r b = some k → doctypeScan (r ++ rest) b = some k
  | [], _, b, k, h => by simp [doctypeScan] at h
  | ch :: r, rest, b, k, h => by
    rw [doctypeScan_cons] at h
    rw [List.cons_append, doctypeScan_cons]
    split
    · rwa [if_pos ‹_›] at h
    · rw [if_neg ‹_›] at h
      obtain ⟨k', hk', rfl⟩ := Option.map_eq_some_iff.1 h
      rw [doctypeScan_append r rest _ k' hk']; rfl

/-- `c'` is `c` after `k` reads: the position grew by `k`, and `rest` lost its first `k` bytes -/
def Cur.Reach (c c' : Cur) : Prop :=
  ∃ k, k ≤ c.rest.length ∧ c'.pos = c.pos + k ∧ c'.rest = c.rest.drop k

theorem Cur.Reach.refl (c : Cur) : c.Reach c := ⟨0, by simp, by simp, by simp⟩

theorem Cur.Reach.trans {a b c : Cur} (h1 : a.Reach b) (h2 : b.Reach c) : a.Reach c := by
  obtain ⟨k1, hk1, hp1, hr1⟩ := h1
  obtain ⟨k2, hk2, hp2, hr2⟩ := h2
  refine ⟨k1 + k2, ?_, ?_, ?_⟩
  · rw [hr1, List.length_drop] at hk2; omega
  · omega
  · rw [hr2, hr1, List.drop_drop]

theorem Cur.Reach.pos_le {a b : Cur} (h : a.Reach b) : a.pos ≤ b.pos := by
  obtain ⟨k, _, hp, _⟩ := h; omega

theorem Cur.Reach.total {a b : Cur} (h : a.Reach b) : b.pos + b.rest.length = a.pos + a.rest.length := by
  obtain ⟨k, hk, hp, hr⟩ := h
  rw [hr, List.length_drop]; omega

theorem Cur.Reach.at {bs : Bytes} {a b : Cur} (ha : a.At bs) (h : a.Reach b) : b.At bs := by
  obtain ⟨k, hk, hp, hr⟩ := h
  obtain ⟨hle, hrest⟩ := ha
  constructor
  · rw [hrest, List.length_drop] at hk; omega
  · rw [hr, hrest, List.drop_drop, hp]

theorem Cur.At.total {bs : Bytes} {c : Cur} (h : c.At bs) : c.pos + c.rest.length = bs.length := by
  obtain ⟨hle, hr⟩ := h
  rw [hr, List.length_drop]; omega

theorem Cur.init_at (bs : Bytes) : (Cur.init bs).At bs := ⟨by simp [Cur.init], by simp [Cur.init]⟩

theorem Cur.peek_eq_get {bs : Bytes} {c : Cur} (h : c.At bs) : c.rest.head? = bs[c.pos]? := by
  rw [h.2, List.head?_drop]

theorem Cur.At.slice {bs : Bytes} {c : Cur} {sl : Slice} (h : c.At bs) (hoff : sl.off = c.pos) :
    sl.bytes bs = c.rest.take sl.len := by
  simp [Slice.bytes, hoff, h.2]

/-- line and column after `advance()` over the bytes `w` -/
def lineAfter : Nat → Bytes → Nat
  | l, [] => l
  | l, ch :: w => lineAfter (if ch = 10 then l + 1 else l) w

def colAfter : Nat → Bytes → Nat
  | k, [] => k
  | k, ch :: w => colAfter (if ch = 10 then 1 else k + 1) w

/-- the cursor after `advance()` over exactly the bytes `w`, with `r` left to read.  Total, and `rest`/`pos` of the result are so by
`rfl`; `Cur.adv_cons` is the one fact that ties it to the model.  A reader that "consumes exactly `w`" is stated as
`reader c = .ok v (c.over w r)`. -/
def Cur.over (c : Cur) (w r : Bytes) : Cur := ⟨c.pos + w.length, lineAfter c.line w, colAfter c.col w, r⟩

@[simp] theorem Cur.over_rest (c : Cur) (w r : Bytes) : (c.over w r).rest = r := rfl
@[simp] theorem Cur.over_pos (c : Cur) (w r : Bytes) : (c.over w r).pos = c.pos + w.length := rfl

theorem lineAfter_append : ∀ (w w' : Bytes) (l : Nat), lineAfter l (w ++ w') = lineAfter (lineAfter l w) w'
  | [], _, _ => rfl
  | _ :: w, w', _ => lineAfter_append w w' _

theorem colAfter_append : ∀ (w w' : Bytes) (k : Nat), colAfter k (w ++ w') = colAfter (colAfter k w) w'
  | [], _, _ => rfl
  | _ :: w, w', _ => colAfter_append w w' _

theorem Cur.over_over (c : Cur) (w r w' r' : Bytes) : (c.over w r).over w' r' = c.over (w ++ w') r' := by
  simp only [Cur.over, lineAfter_append, colAfter_append, List.length_append, Nat.add_assoc]

theorem Cur.adv_cons {c : Cur} {ch : UInt8} {r : Bytes} (h : c.rest = ch :: r) : c.adv = some (c.over [ch] r) := by
  unfold Cur.adv; rw [h]
  by_cases h10 : ch = 10
  · simp only [Cur.over, lineAfter, colAfter, if_pos h10, List.length_cons, List.length_nil]
  · simp only [Cur.over, lineAfter, colAfter, if_neg h10, List.length_cons, List.length_nil]

theorem advN_over : ∀ (w : Bytes) (c : Cur) (r : Bytes), c.rest = w ++ r → advN w.length c = some (c.over w r)
  | [], c, r, h => by cases c; cases h; rfl
  | ch :: w, c, r, h => by
    rw [List.cons_append] at h
    simp only [List.length_cons, advN, Cur.adv_cons h]
    rw [advN_over w _ r rfl, Cur.over_over]; rfl

theorem advR_over {c : Cur} {w r : Bytes} (h : c.rest = w ++ r) : advR w.length c = .ok () (c.over w r) := by
  rw [advR, advN_over w c r h]

theorem advR_one {c : Cur} {ch : UInt8} {r : Bytes} (h : c.rest = ch :: r) : advR 1 c = .ok () (c.over [ch] r) :=
  advR_over (w := [ch]) h

theorem Cur.At.over {bs : Bytes} {c : Cur} {w r : Bytes} (hat : c.At bs) (h : c.rest = w ++ r) : (c.over w r).At bs := by
  have htot := hat.total
  rw [h, List.length_append] at htot
  have hr := hat.2
  rw [h] at hr
  exact ⟨by rw [Cur.over_pos]; omega, by rw [Cur.over_pos, Cur.over_rest, ← List.drop_drop, ← hr, List.drop_left]⟩

theorem Cur.At.over1 {bs : Bytes} {c : Cur} {ch : UInt8} {r : Bytes} (hat : c.At bs) (h : c.rest = ch :: r) :
    (c.over [ch] r).At bs := hat.over (w := [ch]) h

theorem Cur.At.slice_eq {bs : Bytes} {c : Cur} {n r : Bytes} (hat : c.At bs) (h : c.rest = n ++ r) :
    (⟨c.pos, n.length⟩ : Slice).bytes bs = n := by
  rw [hat.slice (sl := ⟨c.pos, n.length⟩) rfl, h, List.take_left]

/-- the two messages only `DomBuilder` produces -/
def ErrKind.isDom : ErrKind → Bool
  | .domUnbalancedEnd | .domUnclosed => true
  | _ => false

/-- what a reader started at `c` must satisfy: it stops at a cursor reachable from `c` (value subject to `Q`), or fails at one;
it never reads out of range -/
def Res.Sat {α : Type} (r : Res α) (c : Cur) (Q : α → Cur → Prop) : Prop :=
  match r with
  | .ok a c' => c.Reach c' ∧ Q a c'
  | .fail e c' => c.Reach c' ∧ e.isDom = false
  | .bad _ => False

theorem Res.Sat.mono {α : Type} {r : Res α} {c : Cur} {P Q : α → Cur → Prop}
    (h : r.Sat c P) (hpq : ∀ a c', c.Reach c' → P a c' → Q a c') : r.Sat c Q := by
  cases r with
  | ok a c' => exact ⟨h.1, hpq a c' h.1 h.2⟩
  | fail e c' => exact h
  | bad b => exact h

theorem Res.bind_sat {α β : Type} {r : Res α} {c : Cur} {P : α → Cur → Prop} {k : α → Cur → Res β}
    {Q : β → Cur → Prop} (h : r.Sat c P)
    (hk : ∀ a c', c.Reach c' → P a c' → (k a c').Sat c' Q) : (r.bind k).Sat c Q := by
  cases r with
  | ok a c' =>
    have := hk a c' h.1 h.2
    simp only [Res.bind]
    cases hr : k a c' with
    | ok b c'' => rw [hr] at this; exact ⟨h.1.trans this.1, this.2⟩
    | fail e c'' => rw [hr] at this; exact ⟨h.1.trans this.1, this.2⟩
    | bad b => rw [hr] at this; exact this
  | fail e c' => exact h
  | bad b => exact h

theorem Res.Sat.rebase {α : Type} {r : Res α} {c0 c : Cur} {Q : α → Cur → Prop}
    (h0 : c0.Reach c) (h : r.Sat c Q) : r.Sat c0 Q := by
  cases r with
  | ok a c' => exact ⟨h0.trans h.1, h.2⟩
  | fail e c' => exact ⟨h0.trans h.1, h.2⟩
  | bad b => exact h

theorem advR_take {k : Nat} {c : Cur} (hk : k ≤ c.rest.length) :
    advR k c = .ok () (c.over (c.rest.take k) (c.rest.drop k)) := by
  have h := advR_over (c := c) (List.take_append_drop k c.rest).symm
  rwa [List.length_take_of_le hk] at h

theorem advR_sat {k : Nat} {c : Cur} (hk : k ≤ c.rest.length) :
    (advR k c).Sat c (fun _ c' => c'.pos = c.pos + k ∧ c'.rest = c.rest.drop k) := by
  have hp : (c.over (c.rest.take k) (c.rest.drop k)).pos = c.pos + k := by rw [Cur.over_pos, List.length_take_of_le hk]
  rw [advR_take hk]
  exact ⟨⟨k, hk, hp, rfl⟩, hp, rfl⟩

theorem advR_one_sat {c : Cur} {ch : UInt8} {r : Bytes} (h : c.rest = ch :: r) :
    (advR 1 c).Sat c (fun _ c' => c'.pos = c.pos + 1 ∧ c'.rest = r) := by
  have := advR_sat (k := 1) (c := c) (by rw [h]; exact Nat.le_add_left 1 _)
  rw [h] at this
  exact this

theorem Res.sat_here {α : Type} {c : Cur} {Q : α → Cur → Prop} {a : α} (h : Q a c) : (Res.ok a c).Sat c Q :=
  ⟨Cur.Reach.refl c, h⟩

theorem Res.sat_fail {α : Type} {c : Cur} {Q : α → Cur → Prop} {e : ErrKind} (he : e.isDom = false) :
    (Res.fail e c : Res α).Sat c Q :=
  ⟨Cur.Reach.refl c, he⟩

theorem skipSpaces_sat (c : Cur) : (skipSpacesC c).Sat c (fun _ _ => True) :=
  (advR_sat (spanLen_le _ _)).mono (fun _ _ _ _ => trivial)

theorem skipWs_sat (c : Cur) : (skipWhitespaceOutsideTextC c).Sat c (fun _ _ => True) := by
  unfold skipWhitespaceOutsideTextC
  dsimp only
  cases c.rest[spanLen isSpace c.rest]? with
  | none => exact skipSpaces_sat c
  | some ch =>
    dsimp only
    by_cases h : ch ≠ 0x3C
    · rw [if_pos h]; exact Res.sat_here trivial
    · rw [if_neg h]; exact skipSpaces_sat c

/-- the tail shared by `matchString` and `matchWordCaseInsensitive`, over the `k` matched bytes -/
theorem matched_sat {k : Nat} {c : Cur} (hk : k ≤ c.rest.length) :
    ((advR k c).bind fun _ c' => Res.ok true c').Sat c (fun _ _ => True) :=
  Res.bind_sat (advR_sat hk) fun _ _ _ _ => Res.sat_here trivial

theorem matchString_sat (s : Bytes) (c : Cur) : (matchStringC s c).Sat c (fun _ _ => True) := by
  unfold matchStringC
  by_cases h : startsWith s c.rest = true
  · rw [if_pos h]; exact matched_sat (isPrefixOf_length (startsWith_eq s c.rest ▸ h))
  · rw [if_neg h]; exact Res.sat_here trivial

theorem matchWordCI_sat (w : Bytes) (c : Cur) : (matchWordCIC w c).Sat c (fun _ _ => True) := by
  unfold matchWordCIC
  have miss : (Res.ok false c).Sat c (fun _ _ => True) := Res.sat_here trivial
  by_cases h : startsWithCI w c.rest = true
  · rw [if_pos h]
    cases c.rest[w.length]? with
    | none => exact miss
    | some nx =>
      dsimp only
      by_cases hb : (isSpace nx || nx = 0x3E || nx = 0x5B) = true
      · rw [if_pos hb]
        rw [startsWithCI_eq] at h
        exact matched_sat (by simpa using isPrefixOf_length h)
      · rw [if_neg hb]; exact miss
  · rw [if_neg h]; exact miss

theorem readName_sat (o : Options) (c : Cur) :
    (readNameC o c).Sat c (fun r c' => match r with
      | none => True
      | some sl => sl.off = c.pos ∧ 0 < sl.len ∧ sl.len ≤ o.maxName ∧ c'.pos = c.pos + sl.len) := by
  unfold readNameC
  cases hr : c.rest with
  | nil => exact Res.sat_here trivial
  | cons ch r =>
    dsimp only
    by_cases hns : (!isNameStart ch) = true
    · rw [if_pos hns]; exact Res.sat_here trivial
    rw [if_neg hns]
    have hk : 1 + spanLen isNameChar r ≤ c.rest.length := by
      rw [hr, List.length_cons, Nat.add_comm]; exact Nat.succ_le_succ (spanLen_le _ r)
    apply Res.bind_sat (advR_sat hk)
    intro _ c' _ hp
    by_cases hlen : c'.pos - c.pos > o.maxName
    · rw [if_pos hlen]
      by_cases ht : o.throwing = true
      · rw [if_pos ht]; exact Res.sat_fail rfl
      · rw [if_neg ht]; exact Res.sat_here trivial
    · rw [if_neg hlen]
      have := hp.1
      exact Res.sat_here ⟨rfl, by dsimp only; omega, by dsimp only; omega, by dsimp only; omega⟩

theorem readUntil_sat (e : Bytes) (c : Cur) :
    (readUntilC e c).Sat c (fun r c' => match r with
      | none => True
      | some sl => sl.off = c.pos ∧ c'.pos = c.pos + sl.len + e.length) := by
  unfold readUntilC
  cases hk : findSub e c.rest with
  | none => exact Res.sat_here trivial
  | some k =>
    dsimp only
    apply Res.bind_sat (advR_sat (findSub_bound _ _ _ hk))
    intro _ c' _ hp
    exact Res.sat_here ⟨rfl, by rw [hp.1, Nat.add_assoc]⟩

theorem readQuotedValue_sat (o : Options) (c : Cur) :
    (readQuotedValueC o c).Sat c (fun sl c' => c.pos < sl.off ∧ sl.off + sl.len < c'.pos ∧ sl.len ≤ o.maxText) := by
  unfold readQuotedValueC
  cases hr : c.rest with
  | nil => exact Res.sat_fail rfl
  | cons q r =>
    dsimp only
    by_cases hq : (q ≠ 0x22 && q ≠ 0x27) = true
    · rw [if_pos hq]; exact Res.sat_fail rfl
    rw [if_neg hq]
    apply Res.bind_sat (advR_one_sat hr)
    intro _ c0 _ hp0
    apply Res.bind_sat (advR_sat (spanLen_le _ _))
    intro _ c1 _ hp1
    cases hr1 : c1.rest with
    | nil => rw [Cur.eof, hr1]; exact Res.sat_fail rfl
    | cons q' r1 =>
      rw [Cur.eof, hr1, List.isEmpty_cons, if_neg Bool.false_ne_true]
      apply Res.bind_sat (advR_one_sat hr1)
      intro _ c2 _ hp2
      have := hp0.1; have := hp1.1; have := hp2.1
      by_cases hlen : c1.pos - c0.pos > o.maxText
      · rw [if_pos hlen]; exact Res.sat_fail rfl
      · rw [if_neg hlen]
        exact Res.sat_here ⟨by dsimp only; omega, by dsimp only; omega, by dsimp only; omega⟩

def Attr.Ok (o : Options) (hi : Nat) (a : Attr) : Prop :=
  a.name.off + a.name.len ≤ hi ∧ a.value.off + a.value.len ≤ hi ∧ a.name.len ≤ o.maxName ∧ a.value.len ≤ o.maxText

theorem Attr.Ok.mono {o : Options} {hi hi' : Nat} {a : Attr} (h : a.Ok o hi) (hle : hi ≤ hi') : a.Ok o hi' :=
  ⟨Nat.le_trans h.1 hle, Nat.le_trans h.2.1 hle, h.2.2⟩

/-- the budget: each round consumes at least the attribute's name, so fuel beyond the bytes that are left never runs out -/
theorem readAttributes_sat (o : Options) : ∀ (fuel : Nat) (acc : List Attr) (c : Cur),
    c.rest.length < fuel → acc.length ≤ o.maxAttrs → (∀ a ∈ acc, a.Ok o c.pos) →
    (readAttributesC o fuel acc c).Sat c (fun as c' =>
      as.length ≤ o.maxAttrs ∧ (∀ a ∈ as, a.Ok o c'.pos) ∧ ∃ ch r, c'.rest = ch :: r) := by
  intro fuel
  induction fuel with
  | zero => intro acc c h; omega
  | succ fuel ih =>
    intro acc c hfuel hacc hok
    unfold readAttributesC
    apply Res.bind_sat (skipSpaces_sat c)
    intro _ c1 hr1 _
    cases hrest : c1.rest with
    | nil => exact Res.sat_fail rfl
    | cons ch r =>
      dsimp only
      by_cases hch : (ch = 0x2F || ch = 0x3E) = true
      · rw [if_pos hch]
        exact Res.sat_here ⟨hacc, fun a ha => (hok a ha).mono hr1.pos_le, ch, r, hrest⟩
      rw [if_neg hch]
      apply Res.bind_sat (readName_sat o c1)
      intro name c2 hr2 hp2
      cases name with
      | none => exact Res.sat_fail rfl
      | some nm =>
        dsimp only
        apply Res.bind_sat (skipSpaces_sat c2)
        intro _ c3 hr3 _
        cases hrest3 : c3.rest with
        | nil => exact Res.sat_fail rfl
        | cons e r3 =>
          dsimp only
          by_cases he : e ≠ 0x3D
          · rw [if_pos he]; exact Res.sat_fail rfl
          rw [if_neg he]
          apply Res.bind_sat (advR_one_sat hrest3)
          intro _ c4 hr4 _
          apply Res.bind_sat (skipSpaces_sat c4)
          intro _ c5 hr5 _
          apply Res.bind_sat (readQuotedValue_sat o c5)
          intro v c6 hr6 hp6
          by_cases hlen : (acc ++ [(⟨nm, v⟩ : Attr)]).length > o.maxAttrs
          · rw [if_pos hlen]; exact Res.sat_fail rfl
          rw [if_neg hlen]
          -- positions along the round: `c ≤ c1 < c2 ≤ c3 ≤ c4 ≤ c5 < c6`
          have hreach : c.Reach c6 := hr1.trans (hr2.trans (hr3.trans (hr4.trans (hr5.trans hr6))))
          have p1 := hr1.pos_le; have p3 := hr3.pos_le; have p4 := hr4.pos_le; have p5 := hr5.pos_le
          have ⟨q1, q2, q3, q4⟩ := hp2
          have ⟨v1, v2, v3⟩ := hp6
          have htot := hreach.total
          refine ih (acc ++ [⟨nm, v⟩]) c6 (by omega) (Nat.le_of_not_gt hlen) ?_
          intro a ha
          rcases List.mem_append.1 ha with h | h
          · exact (hok a h).mono hreach.pos_le
          · rw [List.mem_singleton.1 h]
            exact ⟨by dsimp only; omega, by dsimp only; omega, q3, v3⟩

/-- all slices of a token, and its start offset, lie at or before `hi` -/
def Token.Below (t : Token) (hi : Nat) : Prop :=
  t.name.off + t.name.len ≤ hi ∧ t.text.off + t.text.len ≤ hi ∧ t.offset ≤ hi ∧
  ∀ a ∈ t.attrs, a.name.off + a.name.len ≤ hi ∧ a.value.off + a.value.len ≤ hi

theorem Token.Below.mono {t : Token} {hi hi' : Nat} (h : t.Below hi) (hle : hi ≤ hi') : t.Below hi' :=
  ⟨Nat.le_trans h.1 hle, Nat.le_trans h.2.1 hle, Nat.le_trans h.2.2.1 hle,
    fun a ha => ⟨Nat.le_trans (h.2.2.2 a ha).1 hle, Nat.le_trans (h.2.2.2 a ha).2 hle⟩⟩

/-- the limits a produced token respects (the depth bound of an end tag is that of its start tag: run-level invariant) -/
def Token.Limits (o : Options) (t : Token) : Prop :=
  t.name.len ≤ o.maxName ∧ t.attrs.length ≤ o.maxAttrs ∧
  (∀ a ∈ t.attrs, a.name.len ≤ o.maxName ∧ a.value.len ≤ o.maxText) ∧
  (t.kind = .text → t.text.len ≤ o.maxText) ∧
  ((t.kind = .startElement ∨ t.kind = .emptyElement) → t.depth ≤ o.maxDepth)

/-- the limits, including the depth of end tags -/
def Token.LimitsAll (o : Options) (t : Token) : Prop :=
  t.Limits o ∧ (t.kind = .endElement → t.depth ≤ o.maxDepth)

/-- how a produced token changes `_elementStack` / `_depth`, and the depth it reports: a start tag, an end tag, an
empty-element tag, or one of the five kinds that leave both alone.  The `(s.depth - 1) + 1` of an end tag is
`--_depth; _token.depth = _depth + 1;` -/
def Trans (bs : Bytes) (s : St) (t : Token) (s' : St) : Prop :=
  (t.kind = .startElement ∧ s'.stack = t.name.bytes bs :: s.stack ∧ s'.depth = s.depth + 1 ∧ t.depth = s.depth + 1) ∨
  (t.kind = .endElement ∧ s.stack = t.name.bytes bs :: s'.stack ∧ s'.depth = s.depth - 1 ∧ t.depth = (s.depth - 1) + 1) ∨
  (t.kind = .emptyElement ∧ s'.stack = s.stack ∧ s'.depth = s.depth ∧ t.depth = s.depth + 1) ∨
  ((t.kind = .text ∨ t.kind = .cdata ∨ t.kind = .comment ∨ t.kind = .pi ∨ t.kind = .doctype) ∧
    s'.stack = s.stack ∧ s'.depth = s.depth ∧ t.depth = s.depth)

/-- the specification of one call of `next()` from `s` (`next_sat`); `run_ok` folds it over a run -/
def Step.Sat (bs : Bytes) (o : Options) (s : St) (st : Step) : Prop :=
  match st with
  | .tok t s' => s.cur.Reach s'.cur ∧ s.cur.pos < s'.cur.pos ∧ t.Below s'.cur.pos ∧ t.Limits o ∧
                 s'.produced = s.produced + 1 ∧ Trans bs s t s'
  | .eof t s' => s.cur.Reach s'.cur ∧ s.stack = [] ∧ s'.stack = [] ∧ s'.produced = s.produced ∧
                 t.kind = .eof ∧ t.offset = s'.cur.pos ∧ s'.cur.rest = []
  | .err e c => s.cur.Reach c ∧ e.isDom = false
  | .bad _ => False

theorem Step.sat_err {bs : Bytes} {o : Options} {s : St} {c : Cur} {e : ErrKind} (hr : s.cur.Reach c) (he : e.isDom = false) :
    Step.Sat bs o s (.err e c) :=
  ⟨hr, he⟩

/-- the common tail of `readComment` / `readCData` -/
def untilTokC (s : St) (start c : Cur) (e : Bytes) (kd : Kind) (ek : ErrKind) : Step :=
  (readUntilC e c).toStep fun r c1 =>
    match r with
    | none => .err ek c1
    | some sl => emit s c1 { kind := kd, text := sl, depth := s.depth,
                             offset := start.pos, line := start.line, column := start.col }

theorem readCommentC_eq (s : St) (start c : Cur) :
    readCommentC s start c = untilTokC s start c [0x2D, 0x2D, 0x3E] .comment .unterminatedComment := rfl

theorem readCDataC_eq (s : St) (start c : Cur) :
    readCDataC s start c = untilTokC s start c [0x5D, 0x5D, 0x3E] .cdata .unterminatedCData := rfl

/-- the keyword of `<!DOCTYPE`, which `matchWordCaseInsensitive` compares in any letter case -/
def doctypeWord : Bytes := [0x44, 0x4F, 0x43, 0x54, 0x59, 0x50, 0x45]

/-- `next()` after `<!`, the cursor `c2` behind it: a comment, a CDATA section or a DOCTYPE declaration.  `bangC` and `markupC` are
the text of `nextC`'s dispatch under names (`nextC_eq`), so that each can be specified on its own. -/
def bangC (s : St) (c c2 : Cur) : Step :=
  (matchStringC [0x2D, 0x2D] c2).toStep fun m c3 =>
    if m then readCommentC s c c3
    else
      (matchStringC [0x5B, 0x43, 0x44, 0x41, 0x54, 0x41, 0x5B] c3).toStep fun m c4 =>
        if m then readCDataC s c c4
        else
          (matchWordCIC doctypeWord c4).toStep fun m c5 =>
            if m then readDoctypeC s c c5 else .err .badDecl c5

/-- `next()` after `<` (at `c`), the cursor `c1` standing on the byte `n` behind it -/
def markupC (o : Options) (s : St) (c c1 : Cur) (n : UInt8) : Step :=
  if n = 0x3F then (advR 1 c1).toStep fun _ c2 => readPIC o s c c2
  else if n = 0x21 then (advR 1 c1).toStep fun _ c2 => bangC s c c2
  else if n = 0x2F then (advR 1 c1).toStep fun _ c2 => readEndTagC o s c c2
  else readStartOrEmptyTagC o s c c1

theorem nextC_eq (o : Options) (s : St) : nextC o s =
    if o.maxTokens ≠ 0 && s.produced ≥ o.maxTokens then .err .tokenLimit s.cur
    else (skipWhitespaceOutsideTextC s.cur).toStep fun _ c =>
      match c.rest with
      | [] => emitEof s c
      | ch :: r =>
        if ch = 0x3C then
          (advR 1 c).toStep fun _ c1 =>
            match c1.rest with
            | [] => .err .eofAfterLt c1
            | n :: _ => markupC o s c c1 n
        else readTextC o s c r := rfl

theorem toStep_sat {α : Type} {bs : Bytes} {o : Options} {s : St} {r : Res α} {c : Cur} {P : α → Cur → Prop}
    {k : α → Cur → Step} (hc : s.cur.Reach c) (h : r.Sat c P)
    (hk : ∀ a c', s.cur.Reach c' → c.pos ≤ c'.pos → P a c' → Step.Sat bs o s (k a c')) : Step.Sat bs o s (r.toStep k) := by
  cases r with
  | ok a c' => exact hk a c' (hc.trans h.1) h.1.pos_le h.2
  | fail e c' => exact Step.sat_err (hc.trans h.1) h.2
  | bad b => exact h

theorem emit_sat {bs : Bytes} {o : Options} {s : St} {start c : Cur} {kd : Kind} {nm tx : Slice}
    (hr : s.cur.Reach c) (h0 : s.cur.pos ≤ start.pos) (hlt : start.pos < c.pos)
    (hn : nm.off + nm.len ≤ c.pos) (ht : tx.off + tx.len ≤ c.pos) (hnl : nm.len ≤ o.maxName)
    (htl : kd = .text → tx.len ≤ o.maxText)
    (hk : kd = .text ∨ kd = .cdata ∨ kd = .comment ∨ kd = .pi ∨ kd = .doctype) :
    Step.Sat bs o s (emit s c { kind := kd, name := nm, text := tx, depth := s.depth,
                                offset := start.pos, line := start.line, column := start.col }) := by
  refine ⟨hr, Nat.lt_of_le_of_lt h0 hlt, ⟨hn, ht, Nat.le_of_lt hlt, nofun⟩, ⟨hnl, Nat.zero_le _, nofun, htl, ?_⟩, rfl,
    .inr (.inr (.inr ⟨hk, rfl, rfl, rfl⟩))⟩
  rcases hk with h | h | h | h | h <;> subst h <;> exact fun h => by rcases h with h | h <;> cases h

theorem readPI_sat {bs : Bytes} {o : Options} {s : St} {start c : Cur}
    (hc : s.cur.Reach c) (h0 : s.cur.pos ≤ start.pos) (hlt : start.pos < c.pos) :
    Step.Sat bs o s (readPIC o s start c) := by
  unfold readPIC
  apply toStep_sat hc (readName_sat o c)
  intro target c1 hr1 p1 hp1
  cases target with
  | none => exact Step.sat_err hr1 rfl
  | some tg =>
    dsimp only
    cases hk : findSub [0x3F, 0x3E] c1.rest with
    | none => exact Step.sat_err hr1 rfl
    | some k =>
      dsimp only
      have hb : k + 2 ≤ c1.rest.length := findSub_bound _ _ _ hk
      apply toStep_sat hr1 (advR_sat hb)
      intro _ c2 hr2 _ hp2
      have := hp2.1
      have ⟨q1, q2, q3, q4⟩ := hp1
      exact emit_sat hr2 h0 (by omega) (by omega) (by dsimp only; omega) q3 nofun (.inr (.inr (.inr (.inl rfl))))

theorem untilTokC_sat {bs : Bytes} {o : Options} {s : St} {start c : Cur} (e : Bytes) (kd : Kind) (ek : ErrKind)
    (hkd : kd = .comment ∨ kd = .cdata) (hek : ek.isDom = false)
    (hc : s.cur.Reach c) (h0 : s.cur.pos ≤ start.pos) (hlt : start.pos < c.pos) :
    Step.Sat bs o s (untilTokC s start c e kd ek) := by
  unfold untilTokC
  apply toStep_sat hc (readUntil_sat e c)
  intro r c1 hr1 p1 hp1
  cases r with
  | none => exact Step.sat_err hr1 hek
  | some sl =>
    dsimp only
    have ⟨q1, q2⟩ := hp1
    refine emit_sat hr1 h0 (by omega) (Nat.zero_le _) (by omega) (Nat.zero_le _) ?_ ?_
    · rcases hkd with h | h <;> subst h <;> nofun
    · rcases hkd with h | h <;> subst h <;> simp

theorem readDoctype_sat {bs : Bytes} {o : Options} {s : St} {start c : Cur}
    (hc : s.cur.Reach c) (h0 : s.cur.pos ≤ start.pos) (hlt : start.pos < c.pos) :
    Step.Sat bs o s (readDoctypeC s start c) := by
  unfold readDoctypeC
  cases hk : doctypeScan c.rest 0 with
  | none => exact Step.sat_err hc rfl
  | some k =>
    dsimp only
    apply toStep_sat hc (advR_sat (doctypeScan_bound _ _ _ hk))
    intro _ c1 hr1 _ hp1
    have := hp1.1
    exact emit_sat hr1 h0 (by omega) (Nat.zero_le _) (by dsimp only; omega) (Nat.zero_le _) nofun (.inr (.inr (.inr (.inr rfl))))

theorem readEndTag_sat {bs : Bytes} {o : Options} {s : St} {start c : Cur} (hat : s.cur.At bs)
    (hc : s.cur.Reach c) (h0 : s.cur.pos ≤ start.pos) (hlt : start.pos < c.pos) :
    Step.Sat bs o s (readEndTagC o s start c) := by
  unfold readEndTagC
  apply toStep_sat hc (readName_sat o c)
  intro name c1 hr1 p1 hp1
  cases name with
  | none => exact Step.sat_err hr1 rfl
  | some nm =>
    dsimp only
    apply toStep_sat hr1 (skipSpaces_sat c1)
    intro _ c2 hr2 p2 _
    cases hrest : c2.rest with
    | nil => exact Step.sat_err hr2 rfl
    | cons g r =>
      dsimp only
      by_cases hg : g ≠ 0x3E
      · rw [if_pos hg]; exact Step.sat_err hr2 rfl
      rw [if_neg hg]
      apply toStep_sat hr2 (advR_one_sat hrest)
      intro _ c3 hr3 p3 _
      cases hstack : s.stack with
      | nil => exact Step.sat_err hr3 rfl
      | cons top below =>
        dsimp only
        by_cases htop : top ≠ c.rest.take nm.len
        · rw [if_pos htop]; exact Step.sat_err hr3 rfl
        rw [if_neg htop]
        have ⟨q1, q2, q3, q4⟩ := hp1
        refine ⟨hr3, by dsimp only; omega, ⟨by dsimp only; omega, Nat.zero_le _, by dsimp only; omega, nofun⟩,
          ⟨q3, Nat.zero_le _, nofun, nofun, fun h => by rcases h with h | h <;> cases h⟩, rfl, .inr (.inl ⟨rfl, ?_, rfl, rfl⟩)⟩
        rw [(hc.at hat).slice q1, hstack]
        exact congrArg (· :: below) (Decidable.not_not.1 htop)

theorem readStartOrEmptyTag_sat {bs : Bytes} {o : Options} {s : St} {start c : Cur} (hat : s.cur.At bs)
    (hc : s.cur.Reach c) (h0 : s.cur.pos ≤ start.pos) (hlt : start.pos < c.pos) :
    Step.Sat bs o s (readStartOrEmptyTagC o s start c) := by
  unfold readStartOrEmptyTagC
  apply toStep_sat hc (readName_sat o c)
  intro name c1 hr1 p1 hp1
  cases name with
  | none => exact Step.sat_err hr1 rfl
  | some nm =>
    dsimp only
    apply toStep_sat hr1 (readAttributes_sat o (c1.rest.length + 1) [] c1 (Nat.lt_succ_self _) (Nat.zero_le _) nofun)
    intro attrs c2 hr2 p2 hp2
    obtain ⟨hlen, hok, p, r, hrest2⟩ := hp2
    rw [hrest2]
    dsimp only
    have hsat3 : (if p = 0x2F then advR 1 c2 else Res.ok () c2).Sat c2 (fun _ _ => True) := by
      by_cases hp : p = 0x2F
      · rw [if_pos hp]; exact (advR_one_sat hrest2).mono (fun _ _ _ _ => trivial)
      · rw [if_neg hp]; exact Res.sat_here trivial
    apply toStep_sat hr2 hsat3
    intro _ c3 hr3 p3 _
    cases hrest3 : c3.rest with
    | nil => exact Step.sat_err hr3 rfl
    | cons g r3 =>
      dsimp only
      by_cases hg : g ≠ 0x3E
      · rw [if_pos hg]; exact Step.sat_err hr3 rfl
      rw [if_neg hg]
      apply toStep_sat hr3 (advR_one_sat hrest3)
      intro _ c4 hr4 p4 _
      by_cases hdepth : s.depth + 1 > o.maxDepth
      · rw [if_pos hdepth]; exact Step.sat_err hr4 rfl
      rw [if_neg hdepth]
      have ⟨q1, q2, q3, q4⟩ := hp1
      have hle : c2.pos ≤ c4.pos := Nat.le_trans p3 p4
      -- what the two tokens share: progress, slices below the cursor, limits
      have hbelow : ∀ t : Token, t.name = nm → t.text = ⟨0, 0⟩ → t.offset = start.pos → t.attrs = attrs → t.Below c4.pos := by
        intro t e1 e2 e3 e4
        rw [Token.Below, e1, e2, e3, e4]
        exact ⟨by omega, Nat.zero_le _, by omega,
          fun a ha => ⟨Nat.le_trans (hok a ha).1 hle, Nat.le_trans (hok a ha).2.1 hle⟩⟩
      have hlim : ∀ t : Token, t.name = nm → t.attrs = attrs → t.kind ≠ .text → t.depth = s.depth + 1 → t.Limits o := by
        intro t e1 e2 e3 e4
        rw [Token.Limits, e1, e2, e4]
        exact ⟨q3, hlen, fun a ha => (hok a ha).2.2, fun h => (e3 h).elim, fun _ => Nat.le_of_not_gt hdepth⟩
      by_cases hempty : p = 0x2F
      · rw [if_pos hempty]
        exact ⟨hr4, by dsimp only; omega, hbelow _ rfl rfl rfl rfl, hlim _ rfl rfl nofun rfl, rfl, .inr (.inr (.inl ⟨rfl, rfl, rfl, rfl⟩))⟩
      · rw [if_neg hempty]
        refine ⟨hr4, by dsimp only; omega, hbelow _ rfl rfl rfl rfl, hlim _ rfl rfl nofun rfl, rfl, .inl ⟨rfl, ?_, rfl, rfl⟩⟩
        rw [(hc.at hat).slice q1]

theorem readText_sat {bs : Bytes} {o : Options} {s : St} {c : Cur} {ch : UInt8} {r : Bytes}
    (hc : s.cur.Reach c) (hrest : c.rest = ch :: r) :
    Step.Sat bs o s (readTextC o s c r) := by
  unfold readTextC
  dsimp only
  have hk : 1 + spanLen notLt r ≤ c.rest.length := by
    rw [hrest, List.length_cons, Nat.add_comm]; exact Nat.succ_le_succ (spanLen_le _ r)
  by_cases hgt : 1 + spanLen notLt r > o.maxText
  · rw [if_pos hgt]
    apply toStep_sat hc (advR_sat (Nat.le_trans (Nat.le_of_lt hgt) hk))
    intro _ c1 hr1 _ _
    exact Step.sat_err hr1 rfl
  · rw [if_neg hgt]
    apply toStep_sat hc (advR_sat hk)
    intro _ c1 hr1 _ hp1
    have := hp1.1
    exact emit_sat hr1 hc.pos_le (by omega) (Nat.zero_le _) (by dsimp only; omega) (Nat.zero_le _)
      (fun _ => by dsimp only; omega) (.inl rfl)

theorem bangC_sat {bs : Bytes} {o : Options} {s : St} {c c2 : Cur}
    (hc : s.cur.Reach c) (hr2 : s.cur.Reach c2) (hlt : c.pos < c2.pos) : Step.Sat bs o s (bangC s c c2) := by
  unfold bangC
  have h0 := hc.pos_le
  apply toStep_sat hr2 (matchString_sat _ c2)
  intro m c3 hr3 p3 _
  by_cases hm : m = true
  · rw [if_pos hm, readCommentC_eq]; exact untilTokC_sat _ _ _ (.inl rfl) rfl hr3 h0 (by omega)
  rw [if_neg hm]
  apply toStep_sat hr3 (matchString_sat _ c3)
  intro m c4 hr4 p4 _
  by_cases hm : m = true
  · rw [if_pos hm, readCDataC_eq]; exact untilTokC_sat _ _ _ (.inr rfl) rfl hr4 h0 (by omega)
  rw [if_neg hm]
  apply toStep_sat hr4 (matchWordCI_sat _ c4)
  intro m c5 hr5 p5 _
  by_cases hm : m = true
  · rw [if_pos hm]; exact readDoctype_sat hr5 h0 (by omega)
  · rw [if_neg hm]; exact Step.sat_err hr5 rfl

theorem markupC_sat {bs : Bytes} {o : Options} {s : St} {c c1 : Cur} {n : UInt8} {r : Bytes} (hat : s.cur.At bs)
    (hc : s.cur.Reach c) (hr1 : s.cur.Reach c1) (hlt : c.pos < c1.pos) (hrest : c1.rest = n :: r) :
    Step.Sat bs o s (markupC o s c c1 n) := by
  unfold markupC
  have h0 := hc.pos_le
  by_cases h1 : n = 0x3F
  · rw [if_pos h1]
    apply toStep_sat hr1 (advR_one_sat hrest)
    intro _ c2 hr2 p2 _
    exact readPI_sat hr2 h0 (by omega)
  rw [if_neg h1]
  by_cases h2 : n = 0x21
  · rw [if_pos h2]
    apply toStep_sat hr1 (advR_one_sat hrest)
    intro _ c2 hr2 p2 _
    exact bangC_sat hc hr2 (by omega)
  rw [if_neg h2]
  by_cases h3 : n = 0x2F
  · rw [if_pos h3]
    apply toStep_sat hr1 (advR_one_sat hrest)
    intro _ c2 hr2 p2 _
    exact readEndTag_sat hat hr2 h0 (by omega)
  · rw [if_neg h3]; exact readStartOrEmptyTag_sat hat hr1 h0 hlt

theorem next_sat (bs : Bytes) (o : Options) (s : St) (hat : s.cur.At bs) : Step.Sat bs o s (nextC o s) := by
  rw [nextC_eq]
  by_cases hb : (o.maxTokens ≠ 0 && s.produced ≥ o.maxTokens) = true
  · rw [if_pos hb]; exact Step.sat_err (Cur.Reach.refl _) rfl
  rw [if_neg hb]
  apply toStep_sat (Cur.Reach.refl _) (skipWs_sat s.cur)
  intro _ c hr _ _
  cases hrest : c.rest with
  | nil =>
    dsimp only
    unfold emitEof
    cases hst : s.stack with
    | nil => exact ⟨hr, hst, rfl, rfl, rfl, rfl, hrest⟩
    | cons _ _ => exact Step.sat_err hr rfl
  | cons ch r =>
    dsimp only
    by_cases hch : ch = 0x3C
    · rw [if_pos hch]
      apply toStep_sat hr (advR_one_sat hrest)
      intro _ c1 hr1 _ hp1
      cases hrest1 : c1.rest with
      | nil => exact Step.sat_err hr1 rfl
      | cons n r1 => exact markupC_sat hat hr hr1 (by omega) hrest1
    · rw [if_neg hch]; exact readText_sat hr hrest

/-- the token budget is tested before anything else -/
theorem next_budget (o : Options) (s : St) (t : Token) (s' : St) (h : nextC o s = .tok t s') :
    o.maxTokens ≠ 0 → s.produced < o.maxTokens := by
  intro hne
  rw [nextC_eq] at h
  by_cases hb : (o.maxTokens ≠ 0 && s.produced ≥ o.maxTokens) = true
  · rw [if_pos hb] at h; cases h
  · simp only [Bool.and_eq_true, decide_eq_true_eq, not_and] at hb
    have := hb (by simpa using hne)
    omega

/-- the stack discipline of the Start/End tokens of a token list, names compared as the bytes their slices denote:
`some st'` = no end tag was unmatched or mismatched, `st'` = names still open at the end (innermost first) -/
def sm (bs : Bytes) : List Bytes → List Token → Option (List Bytes)
  | st, [] => some st
  | st, t :: ts =>
    match t.kind with
    | .startElement => sm bs (t.name.bytes bs :: st) ts
    | .endElement =>
      match st with
      | top :: below => if top = t.name.bytes bs then sm bs below ts else none
      | [] => none
    | _ => sm bs st ts

/-- what one token does to the stack of `sm` (`sm_cons`: `sm` is its fold) -/
def smStep (bs : Bytes) (st : List Bytes) (t : Token) : Option (List Bytes) :=
  match t.kind with
  | .startElement => some (t.name.bytes bs :: st)
  | .endElement =>
    match st with
    | top :: below => if top = t.name.bytes bs then some below else none
    | [] => none
  | _ => some st

theorem sm_cons (bs : Bytes) (st : List Bytes) (t : Token) (ts : List Token) :
    sm bs st (t :: ts) = (smStep bs st t).bind fun st' => sm bs st' ts := by
  simp only [sm, smStep]
  cases hk : t.kind <;> simp only [Option.bind]
  cases st with
  | nil => rfl
  | cons top below => simp only; split <;> rfl

theorem smStep_other {bs : Bytes} {st : List Bytes} {t : Token} (h1 : t.kind ≠ .startElement) (h2 : t.kind ≠ .endElement) :
    smStep bs st t = some st := by
  unfold smStep
  split
  · exact (h1 ‹_›).elim
  · exact (h2 ‹_›).elim
  · rfl

/-- **balance, as a grammar** (independent of any stack): a token list is well nested when it is empty, or a non-tag token
followed by a well-nested list, or `start inner end rest` with `inner` and `rest` well nested and the two names byte-equal -/
inductive Nest (bs : Bytes) : List Token → Prop where
  | nil : Nest bs []
  | flat (t : Token) (ts : List Token) : t.kind ≠ .startElement → t.kind ≠ .endElement → Nest bs ts → Nest bs (t :: ts)
  | elem (s e : Token) (inner rest : List Token) : s.kind = .startElement → e.kind = .endElement →
      s.name.bytes bs = e.name.bytes bs → Nest bs inner → Nest bs rest → Nest bs (s :: inner ++ e :: rest)

/-- `ts` still owes one end tag to every name of `st`, innermost first: it splits into well-nested pieces separated by those end
tags.  This is `Nest` generalised to a non-empty stack, which is what an induction over the tokens of `sm` needs. -/
def Closes (bs : Bytes) : List Bytes → List Token → Prop
  | [], ts => Nest bs ts
  | n :: st, ts => ∃ inner e rest, ts = inner ++ e :: rest ∧ Nest bs inner ∧ e.kind = .endElement ∧
      e.name.bytes bs = n ∧ Closes bs st rest

theorem sm_closes (bs : Bytes) : ∀ (ts : List Token) (st : List Bytes), sm bs st ts = some [] → Closes bs st ts := by
  intro ts
  induction ts with
  | nil =>
    intro st h
    simp only [sm, Option.some.injEq] at h
    subst h
    exact Nest.nil
  | cons t ts ih =>
    intro st h
    simp only [sm] at h
    split at h
    · -- start tag: the tail owes it an end tag `e`; `t :: inner ++ [e]` is one element, which joins the piece behind it
      rename_i hk
      have := ih _ h
      obtain ⟨inner, e, rest, hts, hin, hek, hen, hrest⟩ := this
      cases st with
      | nil =>
        simp only [Closes] at hrest ⊢
        rw [hts]
        exact Nest.elem t e inner rest hk hek hen.symm hin hrest
      | cons n st' =>
        simp only [Closes] at hrest ⊢
        obtain ⟨inner2, e2, rest2, hts2, hin2, hek2, hen2, hrest2⟩ := hrest
        refine ⟨t :: inner ++ e :: inner2, e2, rest2, ?_, ?_, hek2, hen2, hrest2⟩
        · rw [hts, hts2]; simp
        · exact Nest.elem t e inner inner2 hk hek hen.symm hin hin2
    · -- end tag
      rename_i hk
      split at h
      · rename_i top below
        split at h
        · rename_i heq
          have := ih _ h
          simp only [Closes]
          exact ⟨[], t, ts, by simp, Nest.nil, hk, heq.symm, this⟩
        · cases h
      · cases h
    · -- any other token
      rename_i hk1 hk2
      have := ih _ h
      cases st with
      | nil =>
        simp only [Closes] at this ⊢
        exact Nest.flat t ts hk1 hk2 this
      | cons n st' =>
        simp only [Closes] at this ⊢
        obtain ⟨inner, e, rest, hts, hin, hek, hen, hrest⟩ := this
        exact ⟨t :: inner, e, rest, by rw [hts]; simp, Nest.flat t inner hk1 hk2 hin, hek, hen, hrest⟩

/-- the state between two calls of `next()`.  `depth` is what makes the `s.depth - 1` of an end tag a decrement, `maxd` what bounds the
depth that end tag reports (`Inv.step`); `prod` holds because the token budget is tested before anything else (`next_budget`). -/
structure Inv (bs : Bytes) (o : Options) (s : St) : Prop where
  cur : s.cur.At bs
  depth : s.depth = s.stack.length
  maxd : s.depth ≤ o.maxDepth
  prod : o.maxTokens ≠ 0 → s.produced ≤ o.maxTokens

theorem Inv.init (bs : Bytes) (o : Options) : Inv bs o (St.init bs) :=
  ⟨Cur.init_at bs, rfl, Nat.zero_le _, fun _ => Nat.zero_le _⟩

theorem Inv.step {bs : Bytes} {o : Options} {s s' : St} {t : Token} (hi : Inv bs o s)
    (h : Step.Sat bs o s (.tok t s')) (hbud : o.maxTokens ≠ 0 → s.produced < o.maxTokens) :
    Inv bs o s' ∧ t.LimitsAll o := by
  obtain ⟨hr, _, _, hl, hp, htr⟩ := h
  have hpr : o.maxTokens ≠ 0 → s'.produced ≤ o.maxTokens := fun hne => by have := hbud hne; omega
  have hat := hr.at hi.cur
  have hd := hi.depth
  have hm := hi.maxd
  rcases htr with ⟨hk, h1, h2, h3⟩ | ⟨hk, h1, h2, h3⟩ | ⟨hk, h1, h2, h3⟩ | ⟨hk, h1, h2, h3⟩
  · exact ⟨⟨hat, by rw [h1, h2, hd]; rfl, by rw [h2, ← h3]; exact hl.2.2.2.2 (.inl hk), hpr⟩, hl,
      fun h => by rw [hk] at h; cases h⟩
  · -- an end tag: `depth = stack.length` is what makes its `s.depth - 1` a decrement
    rw [h1, List.length_cons] at hd
    exact ⟨⟨hat, by omega, by omega, hpr⟩, hl, fun _ => by omega⟩
  · exact ⟨⟨hat, by rw [h1, h2, hd], by rw [h2]; exact hm, hpr⟩, hl, fun h => by rw [hk] at h; cases h⟩
  · exact ⟨⟨hat, by rw [h1, h2, hd], by rw [h2]; exact hm, hpr⟩, hl,
      fun h => by rcases hk with k | k | k | k | k <;> rw [k] at h <;> cases h⟩

theorem Trans.smStep {bs : Bytes} {s s' : St} {t : Token} (h : Trans bs s t s') : smStep bs s.stack t = some s'.stack := by
  rcases h with ⟨hk, h1, _⟩ | ⟨hk, h1, _⟩ | ⟨hk, h1, _⟩ | ⟨hk, h1, _⟩
  · simp only [Xml.smStep, hk, h1]
  · simp only [Xml.smStep, hk, h1, if_true]
  · simp only [Xml.smStep, hk, h1]
  · rcases hk with k | k | k | k | k <;> simp only [Xml.smStep, k, h1]

theorem sm_step {bs : Bytes} {s s' : St} {t : Token} (ts : List Token) (h : Trans bs s t s') :
    sm bs s.stack (t :: ts) = sm bs s'.stack ts := by
  rw [sm_cons, h.smStep]; rfl

theorem Trans.kind_ok {bs : Bytes} {s s' : St} {t : Token} (h : Trans bs s t s') :
    t.kind ≠ .eof ∧ t.kind ≠ .invalid ∧ t.kind ≠ .xmlDecl := by
  rcases h with ⟨k, _⟩ | ⟨k, _⟩ | ⟨k, _⟩ | ⟨k | k | k | k | k, _⟩ <;> rw [k] <;> exact ⟨nofun, nofun, nofun⟩

/-- the stack discipline of a finished run: an accepted run closes everything; a failed run leaves the names that were open -/
def StackP (bs : Bytes) (s : St) (ts : List Token) : Outcome → Prop
  | .accepted _ _ => sm bs s.stack ts = some []
  | .error _ _ s' => sm bs s.stack ts = some s'.stack
  | .bad _ => True

/-- where a finished run stands.  `e.isDom = false` is what lets `domBuild_spec` tell the tokenizer's errors from the two of `DomBuilder` -/
def FinalP (bs : Bytes) (s : St) (ts : List Token) : Outcome → Prop
  | .accepted t s' => t.kind = .eof ∧ t.offset = bs.length ∧ s'.cur.pos = bs.length ∧ s'.stack = [] ∧
      s'.produced = s.produced + ts.length
  | .error e c s' => c.pos ≤ bs.length ∧ s'.produced = s.produced + ts.length ∧ s'.depth = s'.stack.length ∧
      e.isDom = false
  | .bad _ => True

/-- the specification of a run from a state satisfying `Inv`, with enough fuel (`run_ok`); X1–X4 of `Props/C14.lean` are its fields -/
structure RunOk (bs : Bytes) (o : Options) (s : St) (ts : List Token) (out : Outcome) : Prop where
  notBad : ∀ b, out ≠ .bad b
  count : ts.length + s.cur.pos ≤ bs.length
  below : ∀ t ∈ ts, t.Below bs.length
  limits : ∀ t ∈ ts, t.LimitsAll o
  budget : o.maxTokens ≠ 0 → s.produced + ts.length ≤ o.maxTokens
  kinds : ∀ t ∈ ts, t.kind ≠ .eof ∧ t.kind ≠ .invalid ∧ t.kind ≠ .xmlDecl
  stack : StackP bs s ts out
  final : FinalP bs s ts out

/-- the budget: every token moves the cursor by at least one byte, and one more call ends the run with Eof or an error -/
theorem run_ok (bs : Bytes) (o : Options) : ∀ (fuel : Nat) (s : St), Inv bs o s → bs.length - s.cur.pos < fuel →
    RunOk bs o s (runC o fuel s).1 (runC o fuel s).2 := by
  intro fuel
  induction fuel with
  | zero => intro s _ h; omega
  | succ fuel ih =>
    intro s hi hfuel
    have hsat := next_sat bs o s hi.cur
    -- a run that ends with this call
    have stop : ∀ out, (∀ b, out ≠ .bad b) → StackP bs s [] out → FinalP bs s [] out → RunOk bs o s [] out :=
      fun out hnb hs hf =>
        ⟨hnb, by simpa using hi.cur.1, by simp, by simp, fun hne => by simpa using hi.prod hne, by simp, hs, hf⟩
    simp only [runC]
    cases hn : nextC o s with
    | tok t s' =>
      rw [hn] at hsat
      have hbud := next_budget o s t s' hn
      obtain ⟨hi', hlim⟩ := hi.step hsat hbud
      obtain ⟨hr, hlt, hb, hl, hp, htr⟩ := hsat
      have hbound : s'.cur.pos ≤ bs.length := hi'.cur.1
      have ih' := ih s' hi' (by omega)
      simp only
      cases hrun : runC o fuel s' with
      | mk ts out =>
        rw [hrun] at ih'
        simp only at ih' ⊢
        have hcount := ih'.count
        refine ⟨ih'.notBad, by simp only [List.length_cons]; omega, List.forall_mem_cons.2 ⟨hb.mono hbound, ih'.below⟩,
          List.forall_mem_cons.2 ⟨hlim, ih'.limits⟩, fun hne => ?_, List.forall_mem_cons.2 ⟨htr.kind_ok, ih'.kinds⟩, ?_, ?_⟩
        · have := ih'.budget hne
          simp only [List.length_cons]; omega
        · have hs := ih'.stack
          cases out with
          | accepted _ _ => exact (sm_step ts htr).trans hs
          | error _ _ _ => exact (sm_step ts htr).trans hs
          | bad _ => trivial
        · have hf := ih'.final
          cases out with
          -- only the token count speaks of the state the run started from
          | accepted _ _ =>
            obtain ⟨hk, hoff, hpos, hst, hcnt⟩ := hf
            exact ⟨hk, hoff, hpos, hst, by rw [hcnt, hp, List.length_cons]; omega⟩
          | error _ _ _ =>
            obtain ⟨hpos, hcnt, hrest⟩ := hf
            exact ⟨hpos, by rw [hcnt, hp, List.length_cons]; omega, hrest⟩
          | bad _ => trivial
    | eof t s' =>
      rw [hn] at hsat
      obtain ⟨hr, hs0, hs1, hp, hk, hoff, hrest⟩ := hsat
      have htot := (hr.at hi.cur).total
      rw [hrest, List.length_nil, Nat.add_zero] at htot
      simp only
      exact stop _ nofun (congrArg some hs0) ⟨hk, hoff.trans htot, htot, hs1, by simpa using hp⟩
    | err e c =>
      rw [hn] at hsat
      simp only
      exact stop _ nofun rfl ⟨(hsat.1.at hi.cur).1, rfl, hi.depth, hsat.2⟩
    | bad b =>
      rw [hn] at hsat
      exact hsat.elim

theorem tokens_ok (o : Options) (bs : Bytes) : RunOk bs o (St.init bs) (tokensC o bs).1 (tokensC o bs).2 := by
  unfold tokensC
  exact run_ok bs o _ _ (Inv.init bs o) (by simp [St.init, Cur.init])

end Iora.Xml
