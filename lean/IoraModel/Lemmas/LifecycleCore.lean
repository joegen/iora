import IoraModel.Model.LifecycleCore
/-!
# The lifecycle invariant (C02)

`Inv g` relates the I/O-thread state (`table`, `cur`, command queues, `nextId`, gauge, udp peer index) to the trace of
callbacks emitted so far (`g.tr`).  `Closed0 P` says that a predicate on states is preserved by every primitive operation
of `Model/LifecycleCore.lean` but `popCmd` and `enqueue`: a handler's body is a run of these, so an invariant only has to be established for them.
The `_cases` lemmas say what each primitive computes: the identity, `stale` set, or one explicit update.
-/
namespace Iora.Lifecycle

def closeSid : Out → Option Sid | .close sid _ => some sid | _ => none
def annSid : Out → Option Sid | .announce sid _ => some sid | _ => none
def retSid : Out → Option Sid | .ret sid true => some sid | _ => none
def allocSid : Out → Option Sid | .ret sid _ => some sid | .announce sid .accept => some sid | _ => none
def closesOf (tr : List Out) : List Sid := tr.filterMap closeSid
def annOf (tr : List Out) : List Sid := tr.filterMap annSid
def retOf (tr : List Out) : List Sid := tr.filterMap retSid
/-- ids whose allocation the application can see (every connect() call, every accept) -/
def allocsOf (tr : List Out) : List Sid := tr.filterMap allocSid

def connSid : Cmd → Option Sid | .connect sid _ _ => some sid | .via sid _ _ => some sid | _ => none
def connSids (cs : List Cmd) : List Sid := cs.filterMap connSid
/-- ids handed out by connect() whose request has not been carried out yet -/
def pend (g : G) : List Sid := g.cur.toList ++ connSids g.batch ++ connSids g.queue

@[simp] theorem closesOf_nil : closesOf [] = [] := rfl
theorem filterMap_snoc {α β : Type} (f : α → Option β) (l : List α) (a : α) : (l ++ [a]).filterMap f = l.filterMap f ++ (f a).toList := by
  rw [List.filterMap_append, List.filterMap_cons, List.filterMap_nil]
  cases f a <;> rfl
@[simp] theorem closesOf_snoc (tr : List Out) (o : Out) : closesOf (tr ++ [o]) = closesOf tr ++ (closeSid o).toList := filterMap_snoc ..
@[simp] theorem annOf_snoc (tr : List Out) (o : Out) : annOf (tr ++ [o]) = annOf tr ++ (annSid o).toList := filterMap_snoc ..
@[simp] theorem retOf_snoc (tr : List Out) (o : Out) : retOf (tr ++ [o]) = retOf tr ++ (retSid o).toList := filterMap_snoc ..
@[simp] theorem allocsOf_snoc (tr : List Out) (o : Out) : allocsOf (tr ++ [o]) = allocsOf tr ++ (allocSid o).toList := filterMap_snoc ..
@[simp] theorem connSids_snoc (cs : List Cmd) (c : Cmd) : connSids (cs ++ [c]) = connSids cs ++ (connSid c).toList := filterMap_snoc ..
@[simp] theorem connSids_cons (c : Cmd) (cs : List Cmd) : connSids (c :: cs) = (connSid c).toList ++ connSids cs := by
  simp only [connSids, List.filterMap_cons]
  cases connSid c <;> rfl
@[simp] theorem connSids_nil : connSids [] = [] := rfl

theorem mem_annOf_of_mem {tr : List Out} {sid : Sid} {k : AnnKind} (h : Out.announce sid k ∈ tr) : sid ∈ annOf tr := by
  simp only [annOf, List.mem_filterMap]
  exact ⟨_, h, rfl⟩

theorem mem_closesOf_snoc {tr : List Out} {sid : Sid} {site : Site} : sid ∈ closesOf (tr ++ [.close sid site]) := by simp [closeSid]

/-- the session id an engine callback is about (`connect()` returning is not a callback) -/
def evSid : Out → Option Sid
  | .announce sid _ => some sid
  | .data sid => some sid
  | .close sid _ => some sid
  | .ret _ _ => none

/-- (a) nothing for an id after its close -/
def okClosed (pre : List Out) (o : Out) : Prop := ∀ sid, evSid o = some sid → sid ∉ closesOf pre
/-- (b) an accept callback / a connect callback fires at most once per id -/
def okOnce (pre : List Out) : Out → Prop
  | .announce sid k => Out.announce sid k ∉ pre
  | _ => True
/-- (c) data only after the accept/connect callback -/
def okData (pre : List Out) : Out → Prop
  | .data sid => sid ∈ annOf pre
  | _ => True

/-- every event of `tr` satisfies `ok` with respect to everything before it (`pre` = what came before `tr`) -/
def AllFrom (ok : List Out → Out → Prop) (pre : List Out) : List Out → Prop
  | [] => True
  | o :: rest => ok pre o ∧ AllFrom ok (pre ++ [o]) rest

theorem allFrom_append (ok : List Out → Out → Prop) (pre a b : List Out) :
    AllFrom ok pre (a ++ b) ↔ AllFrom ok pre a ∧ AllFrom ok (pre ++ a) b := by
  induction a generalizing pre with
  | nil => simp [AllFrom]
  | cons x r ih => simp [AllFrom, ih, and_assoc]

theorem all_snoc (ok : List Out → Out → Prop) (tr : List Out) (o : Out) :
    AllFrom ok [] (tr ++ [o]) ↔ AllFrom ok [] tr ∧ ok tr o := by
  simp [allFrom_append, AllFrom]

theorem allFrom_split_nil {ok : List Out → Out → Prop} {tr : List Out} (h : AllFrom ok [] tr) {pre : List Out} {o : Out}
    {post : List Out} (hsplit : tr = pre ++ o :: post) : ok pre o :=
  ((allFrom_append ok [] pre (o :: post)).1 (hsplit ▸ h)).2.1

def live (g : G) (sid : Sid) : Bool := match g.table sid with | some s => !s.closed | none => false
def liveCount (g : G) : Nat := (List.range g.nextId).countP (live g)

theorem liveCount_eq_zero {g : G} (h : ∀ x s, g.table x = some s → s.closed = true) : liveCount g = 0 := by
  unfold liveCount
  rw [List.countP_eq_zero]
  intro x _
  simp only [live]
  cases e : g.table x with
  | none => simp
  | some s => simp [h x s e]

/-- `p` and `q` differ at `a` only, and `a` is in the range if either holds of it: the two counts differ by what they say of `a` -/
theorem countP_range_diff (p q : Nat → Bool) (a : Nat) (h : ∀ x, x ≠ a → p x = q x) (n : Nat) (hp : p a = true → a < n)
    (hq : q a = true → a < n) : (List.range n).countP q + (p a).toNat = (List.range n).countP p + (q a).toNat := by
  induction n with
  | zero => rw [Bool.eq_false_iff.2 fun h => Nat.not_lt_zero _ (hp h), Bool.eq_false_iff.2 fun h => Nat.not_lt_zero _ (hq h)]; rfl
  | succ n ih =>
    rw [List.range_succ, List.countP_append, List.countP_append]
    by_cases e : a = n
    · subst e
      have : (List.range a).countP q = (List.range a).countP p :=
        List.countP_congr fun x hx => by rw [h x (Nat.ne_of_lt (List.mem_range.1 hx))]
      rw [this, List.countP_singleton, List.countP_singleton]; cases p a <;> cases q a <;> rfl
    · have := ih (fun hpa => by have := hp hpa; omega) (fun hqa => by have := hq hqa; omega)
      have : [n].countP p = [n].countP q := List.countP_congr fun x hx => by rw [List.mem_singleton.1 hx, h n (Ne.symm e)]
      omega

theorem liveCount_step {g g' : G} {sid : Sid} (ht : ∀ x, x ≠ sid → live g' x = live g x) (hn : g.nextId ≤ g'.nextId)
    (hlt : ∀ x s, g.table x = some s → x < g.nextId) (hs : ∀ s, g'.table sid = some s → sid < g'.nextId) :
    liveCount g' + (live g sid).toNat = liveCount g + (live g' sid).toNat := by
  have lt_of_live : ∀ x, live g x = true → x < g.nextId := by
    intro x hx; unfold live at hx; split at hx
    · exact hlt x _ ‹_›
    · cases hx
  -- counting `g` further up adds nothing: no entry there
  have : ∀ k, (List.range (g.nextId + k)).countP (live g) = liveCount g := by
    intro k
    induction k with
    | zero => rfl
    | succ k ih =>
      rw [← Nat.add_assoc, List.range_succ, List.countP_append, ih]; simp
      exact Bool.eq_false_iff.2 fun hl => Nat.lt_irrefl _ (Nat.lt_of_le_of_lt (Nat.le_add_right _ k) (lt_of_live _ hl))
  obtain ⟨k, hk⟩ := Nat.exists_eq_add_of_le hn
  rw [← this k, ← hk]
  refine countP_range_diff (live g) (live g') sid (fun x hx => (ht x hx).symm) _
    (fun hl => Nat.lt_of_lt_of_le (lt_of_live _ hl) hn) fun hl => ?_
  unfold live at hl; split at hl
  · exact hs _ ‹_›
  · cases hl

/-- the order clauses of T3 (a, b, c).  `cann`: an entry's `connAnnounced` says exactly whether the connect callback of the id is
in the trace, which is what shows `okOnce` when `announceConnect` fires it (`inv_announceConnect`). -/
structure Ord (g : G) : Prop where
  closed : AllFrom okClosed [] g.tr
  once : g.dupAnn = false → AllFrom okOnce [] g.tr
  data : g.envBad = false → AllFrom okData [] g.tr
  cann : ∀ sid s, g.table sid = some s → (s.connAnnounced = true ↔ Out.announce sid .connect ∈ g.tr)

theorem Ord.step {g g' : G} (h : Ord g) (o : Option Out) (htr : g'.tr = g.tr ++ o.toList)
    (hc : ∀ x, o = some x → okClosed g.tr x)
    (hd : g'.dupAnn = false → g.dupAnn = false ∧ ∀ x, o = some x → okOnce g.tr x)
    (he : g'.envBad = false → g.envBad = false ∧ ∀ x, o = some x → okData g.tr x)
    (hcann : ∀ sid s, g'.table sid = some s → (s.connAnnounced = true ↔ Out.announce sid .connect ∈ g'.tr)) : Ord g' := by
  cases o with
  | none =>
    have e : g'.tr = g.tr := by simpa using htr
    exact ⟨by rw [e]; exact h.closed, fun hx => by rw [e]; exact h.once (hd hx).1, fun hx => by rw [e]; exact h.data (he hx).1, hcann⟩
  | some x =>
    have e : g'.tr = g.tr ++ [x] := by simpa using htr
    refine ⟨?_, ?_, ?_, hcann⟩
    · rw [e, all_snoc]; exact ⟨h.closed, hc x rfl⟩
    · intro hx; rw [e, all_snoc]; exact ⟨h.once (hd hx).1, (hd hx).2 x rfl⟩
    · intro hx; rw [e, all_snoc]; exact ⟨h.data (he hx).1, (he hx).2 x rfl⟩

/-- The lifecycle invariant: the I/O-thread state against the trace emitted so far.
`tbl_lt`, `pend_lt`, `cl_lt`, `alloc_lt`: every id in the table, pending, closed or allocated is below the counter (T4);
`alloc_sorted`: allocations are strictly increasing (T4).  `pend_nd`, `pend_tbl`, `pend_cl`, `pend_ann`: a pending id (connect()
returned it, its request is not carried out yet) occurs once, has no table entry, no close and no announce.  `cl_nd`: at most one
close per id (T1).  `tbl_cl`, `tbl_ann`: an entry's `closed` / `announced` says exactly whether the id has its close / an
announce in the trace.  `ann_dom`, `ret_dom`: an announced id is in the table or closed, a returned one pending, in the table or
closed (T2: nothing the application has seen is lost).  `gauge`: `sessionsCurrent` is the number of open entries (T6).
`ord`: the order clauses of T3 (`Ord`).  `idx_live`: the UDP peer index points at open announced sessions of that peer. -/
structure Inv (g : G) : Prop where
  tbl_lt : ∀ sid s, g.table sid = some s → sid < g.nextId
  pend_nd : (pend g).Nodup
  pend_lt : ∀ sid, sid ∈ pend g → sid < g.nextId
  pend_tbl : ∀ sid, sid ∈ pend g → g.table sid = none
  pend_cl : ∀ sid, sid ∈ pend g → sid ∉ closesOf g.tr
  pend_ann : ∀ sid, sid ∈ pend g → sid ∉ annOf g.tr
  cl_nd : (closesOf g.tr).Nodup
  cl_lt : ∀ sid, sid ∈ closesOf g.tr → sid < g.nextId
  tbl_cl : ∀ sid s, g.table sid = some s → (s.closed = true ↔ sid ∈ closesOf g.tr)
  tbl_ann : ∀ sid s, g.table sid = some s → (s.announced = true ↔ sid ∈ annOf g.tr)
  ann_dom : ∀ sid, sid ∈ annOf g.tr → (∃ s, g.table sid = some s) ∨ sid ∈ closesOf g.tr
  ret_dom : ∀ sid, sid ∈ retOf g.tr → sid ∈ pend g ∨ (∃ s, g.table sid = some s) ∨ sid ∈ closesOf g.tr
  gauge : g.current = (liveCount g : Int)
  alloc_lt : ∀ sid, sid ∈ allocsOf g.tr → sid < g.nextId
  alloc_sorted : (allocsOf g.tr).Pairwise (· < ·)
  ord : Ord g
  idx_live : ∀ k sid, g.index k = some sid → ∃ s, g.table sid = some s ∧ s.closed = false ∧ s.announced = true ∧ s.pkey = some k

theorem Inv.ann_lt {g : G} (h : Inv g) : ∀ sid, sid ∈ annOf g.tr → sid < g.nextId := by
  intro sid hs
  rcases h.ann_dom sid hs with ⟨s, hs'⟩ | hc
  · exact h.tbl_lt sid s hs'
  · exact h.cl_lt sid hc

theorem Inv.fresh_tbl {g : G} (h : Inv g) : g.table g.nextId = none := by
  cases e : g.table g.nextId with
  | none => rfl
  | some s => exact absurd (h.tbl_lt _ s e) (Nat.lt_irrefl _)

/-- `P` is kept by every primitive of `Model/LifecycleCore.lean` but `popCmd` and `enqueue`, and by the four field updates that occur outside them: `stale`
(what a primitive does when its guard fails), `backpressureCloses` (`bumpBp`), `listeners` and `running` (written by the handlers) -/
class Closed0 (P : G → Prop) : Prop where
  closeNow : ∀ sid site g, P g → P (closeNow sid site g)
  failConnect : ∀ site g, P g → P (failConnect site g)
  insertCur : ∀ (t : Bool) k o g, P g → P (insertCur t k o g)
  acceptFresh : ∀ t k o g, P g → P (acceptFresh t k o g).1
  burnId : ∀ g, P g → P (burnId g)
  announceConnect : ∀ sid c g, P g → P (announceConnect sid g c)
  dataCb : ∀ sid g, P g → P (dataCb sid g)
  setWq : ∀ sid n g, P g → P (setWq sid n g)
  viaIndex : ∀ sid k g, P g → P (viaIndex sid k g)
  stale : ∀ g, P g → P { g with stale := true }
  bp : ∀ n g, P g → P { g with backpressureCloses := n }
  listeners : ∀ l g, P g → P { g with listeners := l }
  running : ∀ b g, P g → P { g with running := b }

/-- the primitives the UDP engine is made of: a UDP "connect" creates and announces the session in one go (`connectNow`), there is
no separate insert / announce.  Every `Closed0` predicate is `ClosedU0`; a predicate like "every session in the table is announced"
is `ClosedU0` only. -/
class ClosedU0 (P : G → Prop) : Prop where
  closeNow : ∀ sid site g, P g → P (closeNow sid site g)
  failConnect : ∀ site g, P g → P (failConnect site g)
  connectNow : ∀ k o c g, P g → P (connectNow k o c g)
  acceptFresh : ∀ t k o g, P g → P (acceptFresh t k o g).1
  dataCb : ∀ sid g, P g → P (dataCb sid g)
  setWq : ∀ sid n g, P g → P (setWq sid n g)
  viaIndex : ∀ sid k g, P g → P (viaIndex sid k g)
  stale : ∀ g, P g → P { g with stale := true }
  bp : ∀ n g, P g → P { g with backpressureCloses := n }
  listeners : ∀ l g, P g → P { g with listeners := l }
  running : ∀ b g, P g → P { g with running := b }

instance (P : G → Prop) [h : Closed0 P] : ClosedU0 P where
  closeNow := h.closeNow
  failConnect := h.failConnect
  connectNow := by
    intro k o c g hp
    unfold Iora.Lifecycle.connectNow
    split
    · exact h.stale _ hp
    · exact h.announceConnect _ _ _ (h.insertCur _ _ _ _ hp)
  acceptFresh := h.acceptFresh
  dataCb := h.dataCb
  setWq := h.setWq
  viaIndex := h.viaIndex
  stale := h.stale
  bp := h.bp
  listeners := h.listeners
  running := h.running

theorem connectNow_pres {P : G → Prop} [Closed0 P] (k : Option Key) (o : Lid) (c : Bool) (g : G) (h : P g) : P (connectNow k o c g) :=
  ClosedU0.connectNow k o c g h

theorem upd_same {β : Type} (f : Nat → Option β) (k : Nat) (v : Option β) : upd f k v k = v := by simp [upd]
theorem upd_other {β : Type} (f : Nat → Option β) (k x : Nat) (v : Option β) (h : x ≠ k) : upd f k v x = f x := by simp [upd, h]

theorem closeNow_cases (sid : Sid) (site : Site) (g : G) :
    ((∀ s, g.table sid = some s → s.closed = true) ∧ closeNow sid site g = g) ∨ ∃ s, g.table sid = some s ∧ s.closed = false ∧
      closeNow sid site g = emit (.close sid site)
        { g with table := upd g.table sid none, index := eraseIdx g.cfg.peerEraseGuarded g.index s.pkey sid,
                 closedCnt := g.closedCnt + 1, current := g.current - 1 } := by
  unfold closeNow
  cases hs : g.table sid with
  | none => exact Or.inl ⟨(fun _ h => nomatch h), rfl⟩
  | some s =>
    cases hc : s.closed with
    | true => exact Or.inl ⟨fun _ h => Option.some.inj h ▸ hc, if_pos hc⟩
    | false => exact Or.inr ⟨s, rfl, hc, if_neg (by simp [hc])⟩

theorem withLive_cases (sid : Sid) (g : G) (k : Sess → G) :
    withLive sid g k = { g with stale := true } ∨ ∃ s, g.table sid = some s ∧ s.closed = false ∧ withLive sid g k = k s := by
  unfold withLive
  cases hs : g.table sid with
  | none => exact Or.inl rfl
  | some s =>
    cases hc : s.closed with
    | true => exact Or.inl (if_pos hc)
    | false => exact Or.inr ⟨s, rfl, hc, if_neg (by simp [hc])⟩

theorem withLive_live {sid : Sid} {g : G} {s : Sess} (k : Sess → G) (hs : g.table sid = some s) (hc : s.closed = false) :
    withLive sid g k = k s := by
  unfold withLive; rw [hs]; exact if_neg (by simp [hc])

theorem announceConnect_cases (sid : Sid) (c : Bool) (g : G) :
    announceConnect sid g c = { g with stale := true } ∨ ∃ s, g.table sid = some s ∧ s.closed = false ∧
      announceConnect sid g c = emit (.announce sid .connect)
        { g with table := upd g.table sid (some { s with connectPending := false, connAnnounced := true,
                                                         tls := if s.tls = .handshake then .opened else s.tls }),
                 connected := if c then g.connected + 1 else g.connected, dupAnn := g.dupAnn || s.connAnnounced } :=
  withLive_cases sid g _

theorem dataCb_cases (sid : Sid) (g : G) :
    dataCb sid g = { g with stale := true } ∨ ∃ s, g.table sid = some s ∧ s.closed = false ∧
      dataCb sid g = emit (.data sid) { g with envBad := g.envBad || !s.announced } :=
  withLive_cases sid g _

theorem setWq_cases (sid : Sid) (n : Nat) (g : G) :
    setWq sid n g = { g with stale := true } ∨ ∃ s, g.table sid = some s ∧ s.closed = false ∧
      setWq sid n g = { g with table := upd g.table sid (some { s with wq := n }) } :=
  withLive_cases sid g _

theorem viaIndex_cases (sid : Sid) (k : Key) (g : G) :
    viaIndex sid k g = { g with stale := true } ∨ viaIndex sid k g = g ∨ ∃ s, g.table sid = some s ∧ s.closed = false ∧
      s.announced = true ∧ s.pkey = some k ∧ viaIndex sid k g = { g with index := upd g.index k (some sid) } := by
  rcases withLive_cases sid g (fun s => if s.announced ∧ s.pkey = some k ∧ g.index k = none then { g with index := upd g.index k (some sid) } else g)
    with e | ⟨s, hs, hc, e⟩
  · exact Or.inl e
  · by_cases h : s.announced ∧ s.pkey = some k ∧ g.index k = none
    · exact Or.inr (Or.inr ⟨s, hs, hc, h.1, h.2.1, e.trans (if_pos h)⟩)
    · exact Or.inr (Or.inl (e.trans (if_neg h)))

theorem failConnect_cases (site : Site) (g : G) :
    (g.cur = none ∧ failConnect site g = { g with stale := true }) ∨
    ∃ sid, g.cur = some sid ∧ failConnect site g = emit (.close sid site) { g with cur := none } := by
  unfold failConnect
  cases g.cur with
  | none => exact Or.inl ⟨rfl, rfl⟩
  | some sid => exact Or.inr ⟨sid, rfl, rfl⟩

theorem insertCur_cases (t : Bool) (k : Option Key) (o : Lid) (g : G) :
    (g.cur = none ∧ insertCur t k o g = { g with stale := true }) ∨
    ∃ sid, g.cur = some sid ∧ insertCur t k o g =
      { g with cur := none, current := g.current + 1,
               table := upd g.table sid (some { client := true, connectPending := true, tls := if t then .handshake else .none,
                                                pkey := k, owner := o }) } := by
  unfold insertCur
  cases g.cur with
  | none => exact Or.inl ⟨rfl, rfl⟩
  | some sid => exact Or.inr ⟨sid, rfl, rfl⟩

theorem popCmd_cases (g : G) :
    (g.batch = [] ∧ popCmd g = (none, g)) ∨
    ∃ c rest, g.batch = c :: rest ∧ popCmd g = (some c, { g with batch := rest, cur := (connSid c).or g.cur }) := by
  unfold popCmd
  cases g.batch with
  | nil => exact Or.inl ⟨rfl, rfl⟩
  | cons c rest => exact Or.inr ⟨c, rest, rfl, by cases c <;> rfl⟩

end Iora.Lifecycle
