import IoraModel.Model.Xml
/-!
Closed forms of the XML tokenizer: every loop of `Model/Xml.lean` (which mirrors the C++ read by read, guard by guard) summarised
as a pure scan of the remaining input followed by `advN`.  These are proof devices only; `Lemmas/XmlExplicit.lean` proves that
each explicit function equals its closed form, and the specifications are then proved about the closed forms.
-/
namespace Iora.Xml
open Iora

/-- number of leading bytes satisfying `p` (how often a `while (!eof() && p(peek())) advance();` loop runs) -/
def spanLen (p : UInt8 → Bool) : Bytes → Nat
  | [] => 0
  | ch :: r => if p ch then spanLen p r + 1 else 0

/-- mirrors `skipSpaces` -/
def skipSpacesC (c : Cur) : Res Unit := advR (spanLen isSpace c.rest) c

/-- mirrors `skipWhitespaceOutsideText` **as repaired (F29)**: look ahead over the white space; consume it only when markup
(`<`) or the end of input follows.  (The unrepaired function consumed it unconditionally, i.e. was `skipSpaces`.) -/
def skipWhitespaceOutsideTextC (c : Cur) : Res Unit :=
  let k := spanLen isSpace c.rest
  match c.rest[k]? with
  | some ch => if ch ≠ 0x3C then .ok () c else advR k c
  | none => advR k c

/-- mirrors `matchString(s)`: on a match the cursor moves over `s` -/
def matchStringC (s : Bytes) (c : Cur) : Res Bool :=
  if startsWith s c.rest then (advR s.length c).bind fun _ c' => .ok true c' else .ok false c

/-- the case-insensitive comparison loop of `matchWordCaseInsensitive` -/
def startsWithCI : Bytes → Bytes → Bool
  | [], _ => true
  | _ :: _, [] => false
  | p :: ps, x :: xs => lowerAscii x = lowerAscii p && startsWithCI ps xs

/-- mirrors `matchWordCaseInsensitive(s)`: the word, then a boundary byte (white space, `>` or `[`; at the end of the input the
code substitutes `'\0'`, which is none of them) -/
def matchWordCIC (w : Bytes) (c : Cur) : Res Bool :=
  if startsWithCI w c.rest then
    match c.rest[w.length]? with
    | none => .ok false c
    | some nx =>
      if isSpace nx || nx = 0x3E || nx = 0x5B then (advR w.length c).bind fun _ c' => .ok true c'
      else .ok false c
  else .ok false c

/-- mirrors `readName`: `none` is the empty view.  When the name is longer than `maxNameLength` the code calls
`fail("name too long")` and returns the empty view; every caller then calls `fail` again with its own message at the same cursor,
so only the cursor (after the over-long name) is observable. -/
def readNameC (o : Options) (c : Cur) : Res (Option Slice) :=
  match c.rest with
  | [] => .ok none c
  | ch :: r =>
    if !isNameStart ch then .ok none c
    else
      (advR (1 + spanLen isNameChar r) c).bind fun _ c' =>
        let len := c'.pos - c.pos
        if len > o.maxName then (if o.throwing then .fail .nameTooLong c' else .ok none c') else .ok (some ⟨c.pos, len⟩) c'

/-- mirrors `readUntil(endSeq, start, len)`: `none` = returned false (cursor untouched) -/
def readUntilC (endSeq : Bytes) (c : Cur) : Res (Option Slice) :=
  match findSub endSeq c.rest with
  | none => .ok none c
  | some k => (advR (k + endSeq.length) c).bind fun _ c' => .ok (some ⟨c.pos, k⟩) c'

/-- mirrors `readQuotedValue` -/
def readQuotedValueC (o : Options) (c : Cur) : Res Slice :=
  match c.rest with
  | [] => .fail .expectedQuote c
  | q :: _ =>
    if q ≠ 0x22 && q ≠ 0x27 then .fail .expectedQuoteChar c
    else
      (advR 1 c).bind fun _ c0 =>
      (advR (spanLen (fun x => x ≠ q) c0.rest) c0).bind fun _ c1 =>
        if c1.eof then .fail .unterminatedAttr c1
        else
          (advR 1 c1).bind fun _ c2 =>
            let out : Slice := ⟨c0.pos, c1.pos - c0.pos⟩
            if out.len > o.maxText then .fail .attrTooLong c2 else .ok out c2

/-- mirrors `readAttributes` (`fuel` bounds the `while (true)`; each round consumes at least the attribute name) -/
def readAttributesC (o : Options) : Nat → List Attr → Cur → Res (List Attr)
  | 0, _, _ => .bad .fuel
  | fuel + 1, acc, c =>
    (skipSpacesC c).bind fun _ c1 =>
      match c1.rest with
      | [] => .fail .eofInAttrs c1
      | ch :: _ =>
        if ch = 0x2F || ch = 0x3E then .ok acc c1
        else
          (readNameC o c1).bind fun name c2 =>
            match name with
            | none => .fail .badAttrName c2
            | some nm =>
              (skipSpacesC c2).bind fun _ c3 =>
                match c3.rest with
                | [] => .fail .expectedEq c3
                | e :: _ =>
                  if e ≠ 0x3D then .fail .expectedEq c3
                  else
                    (advR 1 c3).bind fun _ c4 =>
                    (skipSpacesC c4).bind fun _ c5 =>
                    (readQuotedValueC o c5).bind fun v c6 =>
                      let acc' := acc ++ [⟨nm, v⟩]
                      if acc'.length > o.maxAttrs then .fail .tooManyAttrs c6
                      else readAttributesC o fuel acc' c6

/-- mirrors `readProcessingInstruction` -/
def readPIC (o : Options) (s : St) (start : Cur) (c : Cur) : Step :=
  (readNameC o c).toStep fun target c1 =>
    match target with
    | none => .err .badPiTarget c1
    | some tg =>
      match findSub [0x3F, 0x3E] c1.rest with
      | none => .err .unterminatedPi c1
      | some k =>
        (advR (k + 2) c1).toStep fun _ c2 =>
          emit s c2 { kind := .pi, name := tg, text := ⟨c1.pos, k⟩, depth := s.depth,
                      offset := start.pos, line := start.line, column := start.col }

/-- mirrors `readComment` (after `<!--`) -/
def readCommentC (s : St) (start : Cur) (c : Cur) : Step :=
  (readUntilC [0x2D, 0x2D, 0x3E] c).toStep fun r c1 =>
    match r with
    | none => .err .unterminatedComment c1
    | some sl => emit s c1 { kind := .comment, text := sl, depth := s.depth,
                             offset := start.pos, line := start.line, column := start.col }

/-- mirrors `readCData` (after `<![CDATA[`) -/
def readCDataC (s : St) (start : Cur) (c : Cur) : Step :=
  (readUntilC [0x5D, 0x5D, 0x3E] c).toStep fun r c1 =>
    match r with
    | none => .err .unterminatedCData c1
    | some sl => emit s c1 { kind := .cdata, text := sl, depth := s.depth,
                             offset := start.pos, line := start.line, column := start.col }

/-- the scan loop of `readDoctype`: index of the first `>` outside `[...]` (`bracket` never goes below zero) -/
def doctypeScan : Bytes → Nat → Option Nat
  | [], _ => none
  | ch :: r, b =>
    if ch = 0x5B then (doctypeScan r (b + 1)).map (· + 1)
    else if ch = 0x5D then (doctypeScan r (b - 1)).map (· + 1)
    else if ch = 0x3E && b = 0 then some 0
    else (doctypeScan r b).map (· + 1)

/-- mirrors `readDoctype` (after `<!DOCTYPE`) -/
def readDoctypeC (s : St) (start : Cur) (c : Cur) : Step :=
  match doctypeScan c.rest 0 with
  | none => .err .unterminatedDoctype c
  | some k =>
    (advR (k + 1) c).toStep fun _ c1 =>
      emit s c1 { kind := .doctype, text := ⟨c.pos, k⟩, depth := s.depth,
                  offset := start.pos, line := start.line, column := start.col }

/-- mirrors `readEndTag` (after `</`) -/
def readEndTagC (o : Options) (s : St) (start : Cur) (c : Cur) : Step :=
  (readNameC o c).toStep fun name c1 =>
    match name with
    | none => .err .badEndName c1
    | some nm =>
      (skipSpacesC c1).toStep fun _ c2 =>
        match c2.rest with
        | [] => .err .expectedGtEnd c2
        | g :: _ =>
          if g ≠ 0x3E then .err .expectedGtEnd c2
          else
            (advR 1 c2).toStep fun _ c3 =>
              match s.stack with
              | [] => .err .strayEnd c3
              | top :: below =>
                -- `_elementStack.back() != name`: the name's bytes are the `nm.len` bytes the cursor `c` stood on
                if top ≠ c.rest.take nm.len then .err .mismatch c3
                else
                  .tok { kind := .endElement, name := nm, depth := (s.depth - 1) + 1,
                         offset := start.pos, line := start.line, column := start.col }
                       { cur := c3, depth := s.depth - 1, stack := below, produced := s.produced + 1 }

/-- mirrors `readStartOrEmptyTag` (after `<`) -/
def readStartOrEmptyTagC (o : Options) (s : St) (start : Cur) (c : Cur) : Step :=
  (readNameC o c).toStep fun name c1 =>
    match name with
    | none => .err .badStartName c1
    | some nm =>
      (readAttributesC o (c1.rest.length + 1) [] c1).toStep fun attrs c2 =>
        -- `peek()` without an `eof()` test: safe only because `readAttributes` returned true on `/` or `>`
        match c2.rest with
        | [] => .bad .oob
        | p :: _ =>
          let empty := p = 0x2F
          (if empty then advR 1 c2 else .ok () c2).toStep fun _ c3 =>
            match c3.rest with
            | [] => .err .expectedGtStart c3
            | g :: _ =>
              if g ≠ 0x3E then .err .expectedGtStart c3
              else
                (advR 1 c3).toStep fun _ c4 =>
                  if s.depth + 1 > o.maxDepth then .err .depthExceeded c4
                  else if empty then
                    .tok { kind := .emptyElement, name := nm, attrs := attrs, selfClosing := true, depth := s.depth + 1,
                           offset := start.pos, line := start.line, column := start.col }
                         { s with cur := c4, produced := s.produced + 1 }
                  else
                    .tok { kind := .startElement, name := nm, attrs := attrs, depth := s.depth + 1,
                           offset := start.pos, line := start.line, column := start.col }
                         { cur := c4, depth := s.depth + 1, stack := c.rest.take nm.len :: s.stack,
                           produced := s.produced + 1 }

/-- the loop condition of `readText`: `peek() != '<'` -/
def notLt (x : UInt8) : Bool := x ≠ 0x3C

/-- mirrors `readText`, entered with a byte other than `<` under the cursor (the only call site has just tested exactly that, so
the `sv.empty()` re-entry into `next()` is dead code).  The loop fails at the first byte for which `_cur - start ≥ maxTextSpan`. -/
def readTextC (o : Options) (s : St) (c : Cur) (r : Bytes) : Step :=
  let k := 1 + spanLen notLt r
  if k > o.maxText then
    (advR o.maxText c).toStep fun _ c1 => .err .textTooLarge c1
  else
    (advR k c).toStep fun _ c1 =>
      emit s c1 { kind := .text, text := ⟨c.pos, c1.pos - c.pos⟩, depth := s.depth,
                  offset := c.pos, line := c.line, column := c.col }

/-- mirrors `Parser::next()` for a parser that has neither failed nor emitted Eof yet -/
def nextC (o : Options) (s : St) : Step :=
  if o.maxTokens ≠ 0 && s.produced ≥ o.maxTokens then .err .tokenLimit s.cur
  else
    (skipWhitespaceOutsideTextC s.cur).toStep fun _ c =>
      match c.rest with
      | [] => emitEof s c
      | ch :: r =>
        if ch = 0x3C then
          (advR 1 c).toStep fun _ c1 =>
            match c1.rest with
            | [] => .err .eofAfterLt c1
            | n :: _ =>
              if n = 0x3F then (advR 1 c1).toStep fun _ c2 => readPIC o s c c2
              else if n = 0x21 then
                (advR 1 c1).toStep fun _ c2 =>
                  (matchStringC [0x2D, 0x2D] c2).toStep fun m c3 =>
                    if m then readCommentC s c c3
                    else
                      (matchStringC [0x5B, 0x43, 0x44, 0x41, 0x54, 0x41, 0x5B] c3).toStep fun m c4 =>
                        if m then readCDataC s c c4
                        else
                          (matchWordCIC [0x44, 0x4F, 0x43, 0x54, 0x59, 0x50, 0x45] c4).toStep fun m c5 =>
                            if m then readDoctypeC s c c5 else .err .badDecl c5
              else if n = 0x2F then (advR 1 c1).toStep fun _ c2 => readEndTagC o s c c2
              else readStartOrEmptyTagC o s c c1
        else readTextC o s c r

/-- the tokens `next()` returns true for, then how it stopped -/
def runC (o : Options) : Nat → St → List Token × Outcome
  | 0, _ => ([], .bad .fuel)
  | fuel + 1, s =>
    match nextC o s with
    | .tok t s' => let (ts, out) := runC o fuel s'; (t :: ts, out)
    | .eof t s' => ([], .accepted t s')
    | .err e c => ([], .error e c s)
    | .bad b => ([], .bad b)

/-- the whole pull API on one document.  `length + 2` calls suffice (X3). -/
def tokensC (o : Options) (bs : Bytes) : List Token × Outcome := runC o (bs.length + 2) (St.init bs)

end Iora.Xml
