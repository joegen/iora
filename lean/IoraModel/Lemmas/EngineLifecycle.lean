import IoraModel.Model.EngineLifecycle
import IoraModel.Lemmas.LifecycleInv
/-!
# The handlers of both engines as runs of guarded primitive steps (C02)

A handler of `Model/EngineLifecycle.lean` is a composition of the primitives of `Model/LifecycleCore.lean`.  `Prim` is one primitive
taken under the guard that makes it do what the C++ does (the session it touches is live, a request is in flight, ...), `Walk` a
finite run of such steps.  Every handler, started in a state of the invariants its lemma names (no closed flag in the table, `JInv`,
`AllAnn`, `Inv`), is a `Walk` (`onSession_walk`, `dispatch_walk`, ...); what a `Walk` preserves - every predicate closed under the primitives, `stale`, the two order flags - is
proved once, on `Prim`.
-/
namespace Iora.Lifecycle

/-- no entry of the table carries the closed flag (true whenever handlers run: only the shutdown drain flags entries) -/
def NoFlag (g : G) : Prop := ∀ sid s, g.table sid = some s → s.closed = false

/-- `Q` holds of every session in the table.  `NoFlag` is of this form, and so are the facts about the connect callback (`JInv`) and
`AllAnn` below; such a predicate is closed under a primitive as soon as `Q` holds of the entry the primitive writes. -/
def TableAll (Q : Sess → Prop) (g : G) : Prop := ∀ sid s, g.table sid = some s → Q s

namespace TableAll
variable {Q : Sess → Prop} {g : G}

theorem of_table {g' : G} (h : TableAll Q g) (ht : g'.table = g.table) : TableAll Q g' := by
  intro x s hx; rw [ht] at hx; exact h x s hx

theorem upd {g' : G} (h : TableAll Q g) (sid : Sid) (v : Option Sess) (hv : ∀ s, v = some s → Q s)
    (ht : g'.table = Lifecycle.upd g.table sid v) : TableAll Q g' := by
  intro x s hx
  rw [ht] at hx
  by_cases e : x = sid
  · subst e; rw [upd_same] at hx; exact hv s hx
  · rw [upd_other _ _ _ _ e] at hx; exact h x s hx

theorem closeNow (sid : Sid) (site : Site) (h : TableAll Q g) : TableAll Q (closeNow sid site g) := by
  rcases closeNow_cases sid site g with ⟨_, e⟩ | ⟨_, _, _, e⟩ <;> rw [e]
  · exact h
  · exact h.upd sid none (fun _ h => nomatch h) rfl

theorem failConnect (site : Site) (h : TableAll Q g) : TableAll Q (failConnect site g) := by
  rcases failConnect_cases site g with ⟨_, e⟩ | ⟨_, _, e⟩ <;> rw [e] <;> exact h

theorem insertCur (t : Bool) (k : Option Key) (o : Lid) (h : TableAll Q g)
    (hq : Q { client := true, connectPending := true, tls := if t then .handshake else .none, pkey := k, owner := o }) :
    TableAll Q (insertCur t k o g) := by
  rcases insertCur_cases t k o g with ⟨_, e⟩ | ⟨sid, _, e⟩ <;> rw [e]
  · exact h
  · exact h.upd sid _ (fun s hs => Option.some.inj hs ▸ hq) rfl

theorem acceptFresh (t : Tls) (k : Option Key) (o : Lid) (h : TableAll Q g) (hq : Q { tls := t, pkey := k, owner := o }) :
    TableAll Q (acceptFresh t k o g).1 :=
  h.upd g.nextId _ (fun _ hs => Option.some.inj hs ▸ hq) rfl

theorem announceConnect (sid : Sid) (c : Bool) (h : TableAll Q g)
    (hq : ∀ s, Q s → Q { s with connectPending := false, connAnnounced := true, tls := if s.tls = .handshake then .opened else s.tls }) :
    TableAll Q (announceConnect sid g c) := by
  rcases announceConnect_cases sid c g with e | ⟨s, hs, _, e⟩ <;> rw [e]
  · exact h
  · exact h.upd sid _ (fun s' hs' => Option.some.inj hs' ▸ hq s (h sid s hs)) rfl

theorem dataCb (sid : Sid) (h : TableAll Q g) : TableAll Q (dataCb sid g) := by
  rcases dataCb_cases sid g with e | ⟨_, _, _, e⟩ <;> rw [e] <;> exact h

theorem setWq (sid : Sid) (n : Nat) (h : TableAll Q g) (hq : ∀ s, Q s → Q { s with wq := n }) : TableAll Q (setWq sid n g) := by
  rcases setWq_cases sid n g with e | ⟨s, hs, _, e⟩ <;> rw [e]
  · exact h
  · exact h.upd sid _ (fun s' hs' => Option.some.inj hs' ▸ hq s (h sid s hs)) rfl

theorem viaIndex (sid : Sid) (k : Key) (h : TableAll Q g) : TableAll Q (viaIndex sid k g) := by
  rcases viaIndex_cases sid k g with e | e | ⟨_, _, _, _, _, e⟩ <;> rw [e] <;> exact h

theorem pop (h : TableAll Q g) : TableAll Q (popCmd g).2 := by
  rcases popCmd_cases g with ⟨_, e⟩ | ⟨_, _, _, e⟩ <;> rw [e] <;> exact h

theorem closed0 (hi : ∀ (t : Bool) k o, Q { client := true, connectPending := true, tls := if t then .handshake else .none, pkey := k, owner := o })
    (ha : ∀ (t : Tls) k o, Q { tls := t, pkey := k, owner := o })
    (hc : ∀ s, Q s → Q { s with connectPending := false, connAnnounced := true, tls := if s.tls = .handshake then .opened else s.tls })
    (hw : ∀ n s, Q s → Q { s with wq := n }) : Closed0 (TableAll Q) where
  closeNow := fun sid site _ h => h.closeNow sid site
  failConnect := fun site _ h => h.failConnect site
  insertCur := fun t k o _ h => h.insertCur t k o (hi t k o)
  acceptFresh := fun t k o _ h => h.acceptFresh t k o (ha t k o)
  burnId := fun _ h => h
  announceConnect := fun sid c _ h => h.announceConnect sid c hc
  dataCb := fun sid _ h => h.dataCb sid
  setWq := fun sid n _ h => h.setWq sid n (hw n)
  viaIndex := fun sid k _ h => h.viaIndex sid k
  stale := fun _ h => h
  bp := fun _ _ h => h
  listeners := fun _ _ h => h
  running := fun _ _ h => h

end TableAll

instance : Closed0 NoFlag := TableAll.closed0 (fun _ _ _ => rfl) (fun _ _ _ => rfl) (fun _ h => h) (fun _ _ h => h)

/-- state facts about the connect callback: a session in the TLS handshake, or whose connect is pending, has not had its connect
callback yet; a client whose connect is pending is not in TLS state `opened` -/
def JInv : G → Prop := TableAll fun s =>
  (s.tls = .handshake → s.connAnnounced = false) ∧ (s.connectPending = true → s.connAnnounced = false) ∧
  (s.client = true → s.connectPending = true → s.tls ≠ .opened)

instance : Closed0 JInv :=
  TableAll.closed0 (fun t _ _ => by cases t <;> simp) (fun _ _ _ => by simp)
    (fun s _ => ⟨by split <;> simp_all, by simp, by simp⟩) (fun _ _ h => h)

/-- udp: every session in the table has been announced (a UDP "connect" creates and announces the session in one go) -/
def AllAnn : G → Prop := TableAll fun s => s.announced = true

instance : ClosedU0 AllAnn where
  closeNow := fun sid site _ h => h.closeNow sid site
  failConnect := fun site _ h => h.failConnect site
  connectNow := by
    intro k o c g h
    unfold connectNow
    split
    · exact h
    · rename_i sid hc
      rw [announceConnect, insertCur, hc, withLive_live _ (upd_same _ _ _) rfl]
      intro x s hx
      have hx : upd (upd g.table sid (some _)) sid (some _) x = some s := hx
      by_cases e : x = sid
      · subst e; rw [upd_same] at hx; cases hx; simp [Sess.announced]
      · rw [upd_other _ _ _ _ e, upd_other _ _ _ _ e] at hx; exact h x s hx
  acceptFresh := fun t k o _ h => h.acceptFresh t k o (by simp [Sess.announced])
  dataCb := fun sid _ h => h.dataCb sid
  setWq := fun sid n _ h => h.setWq sid n (fun _ h => h)
  viaIndex := fun sid k _ h => h.viaIndex sid k
  stale := fun _ h => h
  bp := fun _ _ h => h
  listeners := fun _ _ h => h
  running := fun _ _ h => h

theorem failConnect_cur (site : Site) (g : G) : (failConnect site g).cur = none := by
  rcases failConnect_cases site g with ⟨h, e⟩ | ⟨_, _, e⟩ <;> rw [e]
  · exact h
  · rfl
theorem insertCur_cur (t : Bool) (k : Option Key) (o : Lid) (g : G) : (insertCur t k o g).cur = none := by
  rcases insertCur_cases t k o g with ⟨h, e⟩ | ⟨_, _, e⟩ <;> rw [e]
  exact h
theorem connectNow_cur (k : Option Key) (o : Lid) (c : Bool) {g : G} {sid : Sid} (hc : g.cur = some sid) : (connectNow k o c g).cur = none := by
  rw [connectNow, hc]
  show (announceConnect sid (insertCur false k o g) c).cur = none
  rcases announceConnect_cases sid c (insertCur false k o g) with e | ⟨_, _, _, e⟩ <;> rw [e] <;> exact insertCur_cur ..

def Has (sid : Sid) (g : G) : Prop := g.table sid ≠ none
/-- the session is in the table and not marked closed: a `Session*` to it may be used -/
def Live (sid : Sid) (g : G) : Prop := ∃ s, g.table sid = some s ∧ s.closed = false
def NotAnn (sid : Sid) (g : G) : Prop := ∀ s, g.table sid = some s → s.connAnnounced = false
/-- "announced" read off the table entry, true of an id that has none; `annOf` is the trace side (`Inv.tbl_ann` ties the two) -/
def Ann (sid : Sid) (g : G) : Prop := ∀ s, g.table sid = some s → s.announced = true

theorem live_iff {g : G} {sid : Sid} : live g sid = true ↔ Live sid g := by
  unfold live Live
  cases g.table sid <;> simp

theorem insertCur_live (t : Bool) (k : Option Key) (o : Lid) {g : G} {sid : Sid} (hc : g.cur = some sid) : Live sid (insertCur t k o g) := by
  unfold insertCur; rw [hc]; exact ⟨_, upd_same _ _ _, rfl⟩

theorem insertCur_has (t : Bool) (k : Option Key) (o : Lid) {g : G} {sid : Sid} (hc : g.cur = some sid) : Has sid (insertCur t k o g) :=
  let ⟨_, hs, _⟩ := insertCur_live t k o hc; fun e => nomatch hs.symm.trans e

theorem insertCur_notAnn (t : Bool) (k : Option Key) (o : Lid) {g : G} {sid : Sid} (hc : g.cur = some sid) :
    NotAnn sid (insertCur t k o g) := by
  unfold insertCur; rw [hc]
  intro s hs; cases (upd_same _ _ _).symm.trans hs; rfl

/-- one primitive operation, taken where it does what the C++ does: a `Session*` is only used while the session is live, `cr.sid` only
while a request is in flight, the connect callback only fires for a session that has not had it, and - under `E`, the environment
contract of T3 - payload is only delivered for an announced session.  `tcp` says whether the separate insert / announce / id-burn
steps of the TCP engine may occur (UDP creates and announces in one go: `connectNow`). -/
inductive Prim (tcp : Bool) (E : Prop) : G → G → Prop
  | closeNow (sid site g) : Prim tcp E g (closeNow sid site g)
  | failConnect (site) {g sid} (hc : g.cur = some sid) : Prim tcp E g (failConnect site g)
  | insertCur (t k o) {g sid} (ht : tcp = true) (hc : g.cur = some sid) : Prim tcp E g (insertCur t k o g)
  | connectNow (k o c) {g sid} (hc : g.cur = some sid) : Prim tcp E g (connectNow k o c g)
  | acceptFresh (t k o g) : Prim tcp E g (acceptFresh t k o g).1
  | burnId (g) (ht : tcp = true) : Prim tcp E g (burnId g)
  | announce (c) {sid g} (ht : tcp = true) (hl : Live sid g) (hna : NotAnn sid g) : Prim tcp E g (announceConnect sid g c)
  | data {sid g} (hl : Live sid g) (ha : E → Ann sid g) : Prim tcp E g (dataCb sid g)
  | setWq (n) {sid g} (hl : Live sid g) : Prim tcp E g (setWq sid n g)
  | viaIndex (k) {sid g} (hl : Live sid g) : Prim tcp E g (viaIndex sid k g)
  | bp (n g) : Prim tcp E g { g with backpressureCloses := n }
  | listeners (l g) : Prim tcp E g { g with listeners := l }
  | running (b g) : Prim tcp E g { g with running := b }

inductive Walk (tcp : Bool) (E : Prop) : G → G → Prop
  | refl (g) : Walk tcp E g g
  | step {g g1 g2} : Prim tcp E g g1 → Walk tcp E g1 g2 → Walk tcp E g g2

variable {tcp : Bool} {E : Prop} {g g' : G}

theorem Walk.one (h : Prim tcp E g g') : Walk tcp E g g' := .step h (.refl _)

theorem Walk.trans {g1 : G} (h : Walk tcp E g g1) (h2 : Walk tcp E g1 g') : Walk tcp E g g' := by
  induction h with
  | refl => exact h2
  | step p _ ih => exact .step p (ih h2)

/-- a step keeps every predicate closed under the UDP primitives - and under the three TCP-only ones, if the step may be one -/
theorem Prim.presU (h : Prim tcp E g g') {P : G → Prop} [ClosedU0 P] (hT : tcp = true → Closed0 P) (hp : P g) : P g' := by
  cases h with
  | closeNow => exact ClosedU0.closeNow _ _ _ hp
  | failConnect => exact ClosedU0.failConnect _ _ hp
  | insertCur _ _ _ ht => exact (hT ht).insertCur _ _ _ _ hp
  | connectNow => exact ClosedU0.connectNow _ _ _ _ hp
  | acceptFresh => exact ClosedU0.acceptFresh _ _ _ _ hp
  | burnId _ ht => exact (hT ht).burnId _ hp
  | announce _ ht => exact (hT ht).announceConnect _ _ _ hp
  | data => exact ClosedU0.dataCb _ _ hp
  | setWq => exact ClosedU0.setWq _ _ _ hp
  | viaIndex => exact ClosedU0.viaIndex _ _ _ hp
  | bp => exact ClosedU0.bp _ _ hp
  | listeners => exact ClosedU0.listeners _ _ hp
  | running => exact ClosedU0.running _ _ hp

theorem Walk.presU (h : Walk tcp E g g') {P : G → Prop} [ClosedU0 P] (hT : tcp = true → Closed0 P) (hp : P g) : P g' := by
  induction h with
  | refl => exact hp
  | step p _ ih => exact ih (p.presU hT hp)

theorem Walk.pres (h : Walk tcp E g g') {P : G → Prop} [inst : Closed0 P] (hp : P g) : P g' :=
  h.presU (fun _ => inst) hp

def TrExt (t0 : List Out) (g : G) : Prop := ∃ ext, g.tr = t0 ++ ext

/-- what no primitive touches (the control fields), `cur` (only ever cleared) and the trace (only ever extended).  The defaults
are for a state that differs from `g` in other fields only; after an `emit` give `tr`, after a connect handler `cur`. -/
structure Frame (g g' : G) : Prop where
  phase : g'.phase = g.phase := by rfl
  cmdsClosed : g'.cmdsClosed = g.cmdsClosed := by rfl
  queue : g'.queue = g.queue := by rfl
  batch : g'.batch = g.batch := by rfl
  cur : g'.cur = g.cur ∨ g'.cur = none := by exact .inl rfl
  tr : TrExt g.tr g' := by exact ⟨[], (List.append_nil _).symm⟩

theorem Frame.trans {g1 : G} (h : Frame g g1) (h2 : Frame g1 g') : Frame g g' :=
  ⟨h2.phase.trans h.phase, h2.cmdsClosed.trans h.cmdsClosed, h2.queue.trans h.queue, h2.batch.trans h.batch,
    h2.cur.elim (fun e => h.cur.imp e.trans e.trans) .inr,
    let ⟨e1, h1⟩ := h.tr; let ⟨e2, h2⟩ := h2.tr; ⟨e1 ++ e2, by rw [h2, h1, List.append_assoc]⟩⟩

/-- `Frame`, and the three flags are as before: no dangling access, no second connect callback, and - under `E` - no payload before
the accept / connect callback -/
structure Quiet (E : Prop) (g g' : G) : Prop where
  frame : Frame g g' := by exact {}
  stale : g'.stale = g.stale := by rfl
  dupAnn : g'.dupAnn = g.dupAnn := by rfl
  envBad : E → g'.envBad = g.envBad := by exact fun _ => rfl

theorem Quiet.cur_none (h : Quiet E g g') (hc : g.cur = none) : g'.cur = none := h.frame.cur.elim (·.trans hc) id

theorem Quiet.trans {g1 : G} (h : Quiet E g g1) (h2 : Quiet E g1 g') : Quiet E g g' :=
  ⟨h.frame.trans h2.frame, h2.stale.trans h.stale, h2.dupAnn.trans h.dupAnn, fun e => (h2.envBad e).trans (h.envBad e)⟩

theorem Prim.quiet (h : Prim tcp E g g') : Quiet E g g' := by
  have announce : ∀ {sid c} {g : G}, Live sid g → NotAnn sid g → Quiet E g (announceConnect sid g c) := by
    intro sid c g ⟨s, hs, hc⟩ hna
    rw [announceConnect, withLive_live _ hs hc]
    exact { frame := { tr := ⟨_, rfl⟩ }, dupAnn := by simp [Lifecycle.emit, hna s hs] }
  cases h with
  | closeNow sid site =>
    rcases closeNow_cases sid site g with ⟨_, e⟩ | ⟨_, _, _, e⟩ <;> rw [e]
    · exact {}
    · exact { frame := { tr := ⟨_, rfl⟩ } }
  | failConnect site hc => rw [Lifecycle.failConnect, hc]; exact { frame := { cur := .inr rfl, tr := ⟨_, rfl⟩ } }
  | insertCur t k o _ hc => rw [Lifecycle.insertCur, hc]; exact { frame := { cur := .inr rfl } }
  | connectNow k o c hc =>
    rw [Lifecycle.connectNow, hc]
    have h1 : Quiet E g (Lifecycle.insertCur false k o g) := by
      rw [Lifecycle.insertCur, hc]; exact { frame := { cur := .inr rfl } }
    exact h1.trans (announce (c := c) (insertCur_live false k o hc) (insertCur_notAnn false k o hc))
  | acceptFresh => exact { frame := { tr := ⟨_, rfl⟩ } }
  | burnId => exact {}
  | announce c _ hl hna => exact announce hl hna
  | data hl ha =>
    obtain ⟨s, hs, hc⟩ := hl
    rw [Lifecycle.dataCb, withLive_live _ hs hc]
    exact { frame := { tr := ⟨_, rfl⟩ }, envBad := fun e => by simp [Lifecycle.emit, ha e s hs] }
  | setWq n hl => obtain ⟨s, hs, hc⟩ := hl; rw [Lifecycle.setWq, withLive_live _ hs hc]; exact {}
  | viaIndex k hl => obtain ⟨s, hs, hc⟩ := hl; rw [Lifecycle.viaIndex, withLive_live _ hs hc]; split <;> exact {}
  | bp => exact {}
  | listeners => exact {}
  | running => exact {}

theorem Walk.quiet (h : Walk tcp E g g') : Quiet E g g' := by
  induction h with
  | refl => exact {}
  | step p _ ih => exact p.quiet.trans ih

theorem live_of {g : G} {sid : Sid} (hn : NoFlag g) (hh : Has sid g) : Live sid g := by
  cases e : g.table sid with
  | none => exact absurd e hh
  | some s => exact ⟨s, e, hn sid s e⟩

theorem has_of_table_eq {g g' : G} (h : g'.table = g.table) (x : Sid) : Has x g' ↔ Has x g := by simp [Has, h]
theorem ann_of_table_eq {g g' : G} (h : g'.table = g.table) (sid : Sid) : Ann sid g' ↔ Ann sid g := by simp [Ann, h]

theorem has_upd {g g' : G} {sid : Sid} {s s' : Sess} (hs : g.table sid = some s) (ht : g'.table = upd g.table sid (some s')) (x : Sid) :
    Has x g' ↔ Has x g := by
  unfold Has; rw [ht]
  by_cases e : x = sid
  · subst e; rw [upd_same, hs]; simp
  · rw [upd_other _ _ _ _ e]

theorem dataCb_table (sid : Sid) (g : G) : (dataCb sid g).table = g.table := by
  rcases dataCb_cases sid g with e | ⟨_, _, _, e⟩ <;> rw [e] <;> rfl

theorem setWq_has (sid : Sid) (n : Nat) (g : G) (x : Sid) : Has x (setWq sid n g) ↔ Has x g := by
  rcases setWq_cases sid n g with e | ⟨s, hs, _, e⟩ <;> rw [e]
  · exact Iff.rfl
  · exact has_upd hs rfl x

theorem announceConnect_has (sid : Sid) (c : Bool) (g : G) (x : Sid) : Has x (announceConnect sid g c) ↔ Has x g := by
  rcases announceConnect_cases sid c g with e | ⟨s, hs, _, e⟩ <;> rw [e]
  · exact Iff.rfl
  · exact has_upd hs rfl x

theorem closeNow_has (sid x : Sid) (site : Site) (g : G) (h : Has x (closeNow sid site g)) : Has x g := by
  rcases closeNow_cases sid site g with ⟨_, e⟩ | ⟨s, hs, _, e⟩ <;> rw [e] at h
  · exact h
  · by_cases ex : x = sid
    · subst ex; exact fun hn => Option.some_ne_none _ (hs.symm.trans hn)
    · exact fun hn => h ((upd_other _ _ _ _ ex).trans hn)

theorem closeNow_ann (sid x : Sid) (site : Site) {g : G} (h : Ann x g) : Ann x (closeNow sid site g) := by
  rcases closeNow_cases sid site g with ⟨_, e⟩ | ⟨_, _, _, e⟩ <;> rw [e]
  · exact h
  · intro s hs
    by_cases ex : x = sid
    · subst ex; exact absurd ((upd_same _ _ _).symm.trans hs) (nomatch ·)
    · exact h s ((upd_other _ _ _ _ ex).symm.trans hs)

theorem announceConnect_announces (sid : Sid) (c : Bool) {g : G} (hl : Live sid g) : Ann sid (announceConnect sid g c) := by
  obtain ⟨s, hs, hc⟩ := hl
  rw [announceConnect, withLive_live _ hs hc]
  intro s' hs'; cases (upd_same _ _ _).symm.trans hs'; simp [Sess.announced]

theorem announceConnect_ann (sid x : Sid) (c : Bool) {g : G} (h : Ann x g) : Ann x (announceConnect sid g c) := by
  rcases announceConnect_cases sid c g with e | ⟨_, _, _, e⟩ <;> rw [e]
  · exact h
  · intro s hs
    by_cases ex : x = sid
    · subst ex; cases (upd_same _ _ _).symm.trans hs; simp [Sess.announced]
    · exact h s ((upd_other _ _ _ _ ex).symm.trans hs)

theorem closeCmd_walk (sid : Sid) (o : Origin) (g : G) : Walk tcp E g (closeCmd sid o g) := by
  unfold closeCmd
  split
  · exact .refl _
  · split <;> (try split) <;> first | exact .refl _ | exact .one (.closeNow ..)

theorem runGc_walk (picks : List Sid) (g : G) : Walk tcp E g (runGc picks g) := by
  induction picks generalizing g with
  | nil => exact .refl _
  | cons sid r ih => exact .step (.closeNow ..) (ih _)

/-- the tail of doSend / sendDo after EAGAIN: queue, then the backpressure check.  `Tcp.queueWrite` and `Udp.queueClient` are this
term for their backpressure site. -/
theorem queue_walk (sid : Sid) (wq : Nat) (site : Site) (g : G) (hn : NoFlag g) (hh : Has sid g) :
    Walk tcp E g (if wq + 1 > g.cfg.maxWriteQueue then
        (if g.cfg.closeOnBackpressure then closeNow sid site (setWq sid (wq + 1) (bumpBp g)) else setWq sid (wq + 1 - 1) (bumpBp g))
      else setWq sid (wq + 1) g) := by
  have hl : Live sid (bumpBp g) := live_of hn hh
  split
  · split
    · exact .step (.bp ..) (.step (.setWq _ hl) (.one (.closeNow ..)))
    · exact .step (.bp ..) (.one (.setWq _ hl))
  · exact .one (.setWq _ (live_of hn hh))

namespace Tcp

theorem readAvail_walk (sid : Sid) (t : Bool) (as : List A) (g : G) (hn : NoFlag g) (hh : Has sid g) (ha : E → Ann sid g) :
    Walk true E g (readAvail sid t as g).1 ∧ (Ann sid g → Ann sid (readAvail sid t as g).1) := by
  fun_induction readAvail sid t as g
  all_goals first
    | exact ⟨.refl _, id⟩
    | exact ⟨.one (.closeNow ..), closeNow_ann _ _ _⟩
    | (rename_i ih
       have ht := dataCb_table sid ‹G›
       have := ih (Closed0.dataCb _ _ hn) ((has_of_table_eq ht sid).2 hh) (fun e => (ann_of_table_eq ht sid).2 (ha e))
       exact ⟨.step (.data (live_of hn hh) ha) this.1, fun h => this.2 ((ann_of_table_eq ht sid).2 h)⟩)

/-- a plain read whose first recv does not return data delivers nothing -/
theorem readAvail_walk0 (sid : Sid) (as : List A) (g : G) (h : as.head? ≠ some A.data) : Walk true E g (readAvail sid false as g).1 := by
  unfold readAvail
  cases as with
  | nil => exact .refl _
  | cons a r =>
    simp only [Bool.false_eq_true, if_false]
    cases a <;> first | exact .refl _ | exact .one (.closeNow ..) | exact absurd rfl h

theorem writePending_walk (sid : Sid) (t : Bool) (as : List A) (g : G) (hn : NoFlag g) (hh : Has sid g) :
    Walk true E g (writePending sid t as g).1 := by
  fun_induction writePending sid t as g
  all_goals first
    | exact .refl _
    | exact .one (.closeNow ..)
    | exact absurd ‹_ = none› hh
    | (rename_i ih; exact .step (.setWq _ (live_of hn hh)) (ih (Closed0.setWq _ _ _ hn) ((setWq_has ..).2 hh)))

theorem doSend_walk (sid : Sid) (as : List A) (g : G) (hn : NoFlag g) : Walk true E g (doSend sid as g).1 := by
  fun_cases doSend sid as g
  all_goals first
    | exact .refl _
    | exact .one (.closeNow ..)
    | (have hh : Has sid g := by simp [Has, ‹g.table sid = some _›]
       first | exact .one (.setWq _ (live_of hn hh)) | exact queue_walk sid _ .backpressure g hn hh)

theorem handshakeStep_walk (sid : Sid) (as : List A) (g : G) (hn : NoFlag g) (hh : Has sid g) (hna : NotAnn sid g) :
    Walk true E g (handshakeStep sid as g).2.1 ∧ ((handshakeStep sid as g).1 = true → Ann sid (handshakeStep sid as g).2.1) := by
  fun_cases handshakeStep sid as g
  all_goals first
    | exact ⟨.refl _, (nomatch ·)⟩
    | exact ⟨.one (.closeNow ..), (nomatch ·)⟩
    | (have hl := live_of hn hh
       have ha := announceConnect_announces sid true hl
       have w := readAvail_walk (E := E) sid true ‹List A› (announceConnect sid g) (Closed0.announceConnect _ _ _ hn)
         ((announceConnect_has ..).2 hh) (fun _ => ha)
       exact ⟨.step (.announce true rfl hl hna) w.1, fun _ => w.2 ha⟩)

theorem driveHandshake_walk (sid : Sid) (as : List A) (g : G) (hn : NoFlag g) (hh : Has sid g) (hna : NotAnn sid g) :
    Walk true E g (driveHandshake sid as g).2.1 ∧ ((driveHandshake sid as g).1 = true → Ann sid (driveHandshake sid as g).2.1) := by
  unfold driveHandshake
  split
  · dsimp only; split
    · exact ⟨.one (.closeNow ..), (nomatch ·)⟩
    · exact handshakeStep_walk sid _ g hn hh hna
  · exact handshakeStep_walk sid _ g hn hh hna

theorem connectCheck_walk (sid : Sid) (a b c : Site) (as : List A) (g : G) (hn : NoFlag g) (hh : Has sid g) (hna : NotAnn sid g) :
    Walk true E g (connectCheck sid a b c as g).2.1 ∧
    ((connectCheck sid a b c as g).1 = true → Has sid (connectCheck sid a b c as g).2.1) ∧
    (Ann sid g → Ann sid (connectCheck sid a b c as g).2.1) := by
  fun_cases connectCheck sid a b c as g
  all_goals first
    | exact ⟨.one (.closeNow ..), (nomatch ·), closeNow_ann _ _ _⟩
    | exact ⟨.one (.announce true rfl (live_of hn hh) hna), fun _ => (announceConnect_has ..).2 hh, announceConnect_ann _ _ _⟩
    | exact ⟨.refl _, fun _ => hh, id⟩

theorem sessEarly_walk (sid : Sid) (o : Bool) (as : List A) (g : G) :
    Walk true E g (sessEarly sid o as g).2.1 ∧ ((sessEarly sid o as g).1 = false → (sessEarly sid o as g).2.1 = g) := by
  fun_cases sessEarly sid o as g
  all_goals first
    | exact ⟨.one (.closeNow ..), (nomatch ·)⟩
    | exact ⟨.refl _, fun _ => rfl⟩

/-- onSession, the handshake / connect-completion alternative for the session `s` found at entry.  If the handler goes on, the
session is still in the table; and unless it is a plain client whose connect is still pending (the case the environment contract
is about), it has been announced by then. -/
theorem sessConnect_walk (sid : Sid) (s : Sess) (o : Bool) (as : List A) (g : G) (hn : NoFlag g) (hj : JInv g)
    (hs : g.table sid = some s) :
    Walk true E g (sessConnect sid s o as g).2.1 ∧
    ((sessConnect sid s o as g).1 = false → Has sid (sessConnect sid s o as g).2.1 ∧
      (¬(s.client = true ∧ s.connectPending = true ∧ s.tls = .none) → Ann sid (sessConnect sid s o as g).2.1)) := by
  have hh : Has sid g := by simp [Has, hs]
  have hna : s.tls = .handshake ∨ s.connectPending = true → NotAnn sid g := by
    intro h s' hs'; cases hs.symm.trans hs'
    exact h.elim (hj sid s hs).1 (hj sid s hs).2.1
  have hag : s.announced = true → Ann sid g := by
    intro ha s' hs'; cases hs.symm.trans hs'; exact ha
  unfold sessConnect
  by_cases ht : s.tls = .handshake
  · rw [if_pos ht]
    have hd := driveHandshake_walk (E := E) sid as g hn hh (hna (.inl ht))
    dsimp only
    cases hdone : (driveHandshake sid as g).1 with
    | false => exact ⟨hd.1, (nomatch ·)⟩
    | true =>
      simp only [Bool.not_true, Bool.false_eq_true, if_false]
      split
      · exact ⟨hd.1, (nomatch ·)⟩
      · rename_i hx; exact ⟨hd.1, fun _ => ⟨by simp [Has, hx], fun _ => hd.2 hdone⟩⟩
  · rw [if_neg ht]
    split
    · rename_i hc
      have hk := connectCheck_walk (E := E) sid .evGsoFail .evPeerFail .evSoErr as g hn hh (hna (.inr hc.2.1))
      refine ⟨hk.1, fun hgo => ⟨hk.2.1 (by simpa using hgo), fun hcond => hk.2.2 (hag ?_)⟩⟩
      cases e : s.client with
      | false => simp [Sess.announced, e]
      | true => exact absurd ⟨e, hc.2.1, hc.2.2⟩ hcond
    · refine ⟨.refl _, fun _ => ⟨hh, fun hcond => hag ?_⟩⟩
      cases e1 : s.client with
      | false => simp [Sess.announced, e1]
      | true =>
        cases e2 : s.connectPending with
        | false => simp [Sess.announced, e2]
        | true =>
          exfalso
          cases e3 : s.tls with
          | none => exact hcond ⟨e1, e2, e3⟩
          | handshake => exact ht e3
          | opened => exact (hj sid s hs).2.2 e1 e2 e3

/-- onSession, `if (events & EPOLLIN)`.  Under `E` a session that is read from is announced, or the read is a plain one whose first
recv is not data. -/
theorem sessRead_walk (sid : Sid) (i : Bool) (as : List A) (g : G) (hn : NoFlag g) (hh : Has sid g)
    (ha : E → i = true → Ann sid g ∨ (tlsOpenOf sid g = false ∧ as.head? ≠ some A.data)) :
    Walk true E g (sessRead sid i as g).2.1 ∧ ((sessRead sid i as g).1 = false → Has sid (sessRead sid i as g).2.1) := by
  have hr : i = true → Walk true E g (readAvail sid (tlsOpenOf sid g) as g).1 := by
    intro hi
    by_cases he : E
    · rcases ha he hi with h | ⟨h1, h2⟩
      · exact (readAvail_walk sid _ as g hn hh fun _ => h).1
      · rw [h1]; exact readAvail_walk0 sid as g h2
    · exact (readAvail_walk sid _ as g hn hh fun e => absurd e he).1
  fun_cases sessRead sid i as g
  · exact ⟨hr ‹_›, (nomatch ·)⟩
  · rename_i hx; exact ⟨hr ‹_›, fun _ => by simp [Has, hx]⟩
  · exact ⟨.refl _, fun _ => hh⟩

theorem onSession_walk (sid : Sid) (i o hup : Bool) (as : List A) (g : G) (hn : NoFlag g) (hj : JInv g)
    (henv : E → envOkSession sid i o hup as g = true) : Walk true E g (onSession sid i o hup as g).1 := by
  unfold onSession
  cases hs : g.table sid with
  | none => exact .refl _
  | some s =>
    dsimp only
    have hcf : s.closed = false := hn sid s hs
    rw [if_neg (by simp [hcf])]
    -- name the results of the two stages: `(b1, g1, as1)` after the early probe, `(b2, g2, as2)` after the connect alternative
    have e1 := sessEarly_walk (E := E) sid o as g
    obtain ⟨b1, g1, as1, he1⟩ : ∃ b g' as', sessEarly sid o as g = (b, g', as') := ⟨_, _, _, rfl⟩
    rw [he1] at e1 ⊢
    cases b1 with
    | true => exact e1.1
    | false =>
      rw [if_neg Bool.false_ne_true]
      obtain rfl : g = g1 := (e1.2 rfl).symm
      have e2 := sessConnect_walk (E := E) sid s o as1 g hn hj hs
      obtain ⟨b2, g2, as2, he2⟩ : ∃ b g' as', sessConnect sid s o as1 g = (b, g', as') := ⟨_, _, _, rfl⟩
      rw [he2] at e2 ⊢
      cases b2 with
      | true => exact e2.1
      | false =>
        rw [if_neg Bool.false_ne_true]
        by_cases h3 : hup = true
        · rw [if_pos h3]; exact e2.1.trans (.one (.closeNow ..))
        · rw [if_neg h3]
          have hn2 : NoFlag g2 := e2.1.pres hn
          obtain ⟨hh2, ha2⟩ := e2.2 rfl
          -- what the contract says when the session is a plain client whose connect is still pending after this event's check
          have hread : E → i = true → Ann sid g2 ∨ (tlsOpenOf sid g2 = false ∧ as2.head? ≠ some A.data) := by
            intro he hi
            by_cases hcond : s.client = true ∧ s.connectPending = true ∧ s.tls = .none
            · have henv := henv he
              unfold envOkSession at henv
              have hup' : hup = false := by cases hup <;> simp_all
              simp only [hs, hcond.1, hcond.2.1, hcond.2.2, hcf, he1, he2, hup', hi] at henv
              obtain ⟨s', hs'⟩ : ∃ s', g2.table sid = some s' := by
                cases e : g2.table sid with
                | none => exact absurd e hh2
                | some s' => exact ⟨s', rfl⟩
              cases hna' : s'.announced with
              | true => exact .inl fun s'' hs'' => by cases hs'.symm.trans hs''; exact hna'
              | false =>
                have hcl' : s'.client = true ∧ s'.connectPending = true := by simpa [Sess.announced] using hna'
                refine .inr ⟨?_, ?_⟩
                · simp [tlsOpenOf, hs', (e2.1.pres hj sid s' hs').2.2 hcl'.1 hcl'.2]
                · simpa [hs', hna'] using henv
            · exact .inl (ha2 hcond)
          have e3 := sessRead_walk (E := E) sid i as2 g2 hn2 hh2 hread
          have w3 := e2.1.trans e3.1
          cases h4 : (sessRead sid i as2 g2).1 with
          | true => exact w3
          | false =>
            rw [if_neg Bool.false_ne_true]
            split
            · exact w3.trans (writePending_walk sid _ _ _ (w3.pres hn) (e3.2 h4))
            · exact w3

theorem resolveStep_shape (named : Bool) (as : List A) (g : G) :
    ((resolveStep named as g).1 = true ∧ ∃ site, (resolveStep named as g).2.2.1 = failConnect site g) ∨
    ((resolveStep named as g).1 = false ∧ (resolveStep named as g).2.2.1 = g) := by
  fun_cases resolveStep named as g <;> first | exact Or.inl ⟨rfl, _, rfl⟩ | exact Or.inr ⟨rfl, rfl⟩

theorem tlsSetup_shape (u named : Bool) (as : List A) (g : G) :
    ((tlsSetup u named as g).1 = true ∧ ∃ site, (tlsSetup u named as g).2.1 = failConnect site g) ∨
    ((tlsSetup u named as g).1 = false ∧ (tlsSetup u named as g).2.1 = g) := by
  fun_cases tlsSetup u named as g <;> first | exact Or.inl ⟨rfl, _, rfl⟩ | exact Or.inr ⟨rfl, rfl⟩

/-- doConnect with a request in flight: every failure path is `failConnect`; on success the session is inserted and, for a plain
connect, checked at once (`connectCheck`) -/
theorem doConnect_walk (tls : TlsReq) (named : Bool) (as : List A) (g : G) {sid : Sid} (hc : g.cur = some sid) (hn : NoFlag g) :
    Walk true E g (doConnect tls named as g).1 ∧ (doConnect tls named as g).1.cur = none := by
  have fail : ∀ site, Walk true E g (failConnect site g) ∧ (failConnect site g).cur = none :=
    fun site => ⟨.one (.failConnect site hc), failConnect_cur ..⟩
  unfold doConnect
  dsimp only
  split
  · exact fail _
  · rcases resolveStep_shape named as g with ⟨h1, site, e⟩ | ⟨h1, e⟩
    · rw [if_pos h1, e]; exact fail site
    · rw [if_neg (by rw [h1]; exact Bool.false_ne_true), e]
      split
      · exact fail _
      · exact fail _
      · rcases tlsSetup_shape (decide (tls = .client) && g.cfg.cliCtx) named
          (connLoop (resolveStep named as g).2.1 (resolveStep named as g).2.2.2).2 g with ⟨h2, site, e2⟩ | ⟨h2, e2⟩
        · rw [if_pos h2, e2]; exact fail site
        · rw [if_neg (by rw [h2]; exact Bool.false_ne_true), e2, hc]
          dsimp only
          have wi : Walk true E g (insertCur (decide (tls = .client) && g.cfg.cliCtx) none 0 g) := .one (.insertCur _ _ _ rfl hc)
          have ck := fun as' => (connectCheck_walk (E := E) sid .immGsoFail .immPeerFail .immSoErr as' _ (wi.pres hn)
            (insertCur_has _ _ _ hc) (insertCur_notAnn _ _ _ hc)).1
          split
          · exact ⟨wi.trans (ck _), (ck _).quiet.cur_none (insertCur_cur ..)⟩
          · exact ⟨wi, insertCur_cur ..⟩

theorem onListener_walk (t : Bool) (as : List A) (g : G) : Walk true E g (onListener t as g).1 := by
  fun_induction onListener t as g
  all_goals first
    | exact .refl _
    | (rename_i ih; exact .step (.burnId _ rfl) ih)
    | (rename_i ih; exact .step (.acceptFresh ..) ih)

/-- one iteration of the command loop of process(): the command is taken off the batch, its handler is a run, and no request is
left in flight -/
theorem dispatch_walk (as : List A) (g : G) (hc : g.cur = none) (hn : NoFlag g) :
    Walk true E (popCmd g).2 (dispatch as g).1 ∧ (dispatch as g).1.cur = none := by
  unfold dispatch
  rcases popCmd_cases g with ⟨_, e⟩ | ⟨c, rest, _, e⟩ <;> rw [e]
  · exact ⟨.refl _, hc⟩
  · have hn' : NoFlag { g with batch := rest, cur := (connSid c).or g.cur } := hn
    cases c with
    | shutdown => exact ⟨.one (.running ..), hc⟩
    | addListener lid t => dsimp only; split <;> first | exact ⟨.one (.listeners ..), hc⟩ | exact ⟨.refl _, hc⟩
    | connect s t n => exact doConnect_walk _ _ _ _ rfl hn'
    | via s l k => exact ⟨.one (.failConnect _ rfl), failConnect_cur ..⟩
    | send s => exact ⟨doSend_walk _ _ _ hn', (doSend_walk (E := E) _ _ _ hn').quiet.cur_none hc⟩
    | close s o => exact ⟨closeCmd_walk .., (closeCmd_walk (tcp := true) (E := E) ..).quiet.cur_none hc⟩

end Tcp

namespace Udp
theorem readFromListener_walk (lid : Lid) (as : List A) (g : G) (hi : Inv g) (ha : AllAnn g) :
    Walk false E g (readFromListener lid as g).1 := by
  induction as generalizing g with
  | nil => exact .refl _
  | cons a r ih =>
    -- a datagram goes to the session the peer index names (live by `Inv.idx_live`) or to a freshly accepted one
    have data : ∀ {sid : Sid} {g : G}, Inv g → AllAnn g → Live sid g → Walk false E g (readFromListener lid r (dataCb sid g)).1 :=
      fun hi ha hl => .step (.data hl fun _ s hs => ha _ s hs) (ih _ (Closed0.dataCb _ _ hi) (ClosedU0.dataCb _ _ ha))
    unfold readFromListener
    cases a <;> first | exact .refl _ | exact ih g hi ha | skip
    case dgram k =>
      dsimp only
      cases hk : g.index k with
      | none =>
        dsimp only
        split
        · exact ih g hi ha
        · exact .step (.acceptFresh ..) (data (Closed0.acceptFresh _ _ _ _ hi) (ClosedU0.acceptFresh _ _ _ _ ha) ⟨_, upd_same _ _ _, rfl⟩)
      | some sid =>
        obtain ⟨s, hs, hcf, _⟩ := hi.idx_live k sid hk
        exact data hi ha ⟨s, hs, hcf⟩

theorem flushListener_walk (lid : Lid) (as : List A) (g : G) : Walk false E g (flushListener lid as g).1 := by
  fun_induction flushListener lid as g
  all_goals first
    | exact .refl _
    | (rename_i ih; exact .step (.listeners ..) ih)

theorem writeClient_walk (sid : Sid) (as : List A) (g : G) (hn : NoFlag g) (hh : Has sid g) :
    Walk false E g (writeClient sid as g).1 := by
  fun_induction writeClient sid as g
  all_goals first
    | exact .refl _
    | exact .one (.closeNow ..)
    | exact absurd ‹_ = none› hh
    | (rename_i ih; exact .step (.setWq _ (live_of hn hh)) (ih (ClosedU0.setWq _ _ _ hn) ((setWq_has ..).2 hh)))

theorem clientRead_walk (sid : Sid) (as : List A) (g : G) (hn : NoFlag g) (hh : Has sid g) (ha : AllAnn g) :
    Walk false E g (clientRead sid as g).2.1 ∧ ((clientRead sid as g).1 = true → Has sid (clientRead sid as g).2.1) := by
  fun_induction clientRead sid as g
  all_goals first
    | exact ⟨.refl _, fun _ => hh⟩
    | exact ⟨.one (.closeNow ..), (nomatch ·)⟩
    | (rename_i ih
       have := ih (ClosedU0.dataCb _ _ hn) ((has_of_table_eq (dataCb_table ..) sid).2 hh) (ClosedU0.dataCb _ _ ha)
       exact ⟨.step (.data (live_of hn hh) fun _ s hs => ha _ s hs) this.1, this.2⟩)

theorem onClient_walk (sid : Sid) (i o : Bool) (as : List A) (g : G) (hn : NoFlag g) (ha : AllAnn g) :
    Walk false E g (onClient sid i o as g).1 := by
  unfold onClient
  cases hs : g.table sid with
  | none => exact .refl _
  | some s =>
    dsimp only
    split
    · exact .refl _
    · have hh : Has sid g := by simp [Has, hs]
      cases i with
      | false =>
        simp only [Bool.false_eq_true, if_false]
        split
        · exact writeClient_walk sid as g hn hh
        · exact .refl _
      | true =>
        simp only [if_true]
        have e := clientRead_walk (E := E) sid as g hn hh ha
        split
        · rename_i hc; exact e.1.trans (writeClient_walk sid _ _ (e.1.pres hn) (e.2 hc.1))
        · exact e.1

theorem sendDo_walk (sid : Sid) (as : List A) (g : G) (hn : NoFlag g) : Walk false E g (sendDo sid as g).1 := by
  fun_cases sendDo sid as g
  all_goals first
    | exact .refl _
    | exact .one (.closeNow ..)
    | exact queue_walk sid _ .usBackpressure g hn (by simp [Has, ‹g.table sid = some _›])
    | (unfold queueListener; dsimp only; split <;> (try split) <;>
        first | exact .step (.bp ..) (.step (.listeners ..) (.one (.closeNow ..))) | exact .step (.bp ..) (.one (.listeners ..))
              | exact .one (.listeners ..))

theorem connectDo_walk (as : List A) (g : G) {sid : Sid} (hc : g.cur = some sid) :
    Walk false E g (connectDo as g).1 ∧ (connectDo as g).1.cur = none := by
  fun_cases connectDo as g <;>
    first | exact ⟨.one (.failConnect _ hc), failConnect_cur ..⟩ | exact ⟨.one (.connectNow _ _ _ hc), connectNow_cur _ _ _ hc⟩

theorem viaDo_walk (lid : Lid) (k : Key) (as : List A) (g : G) {sid : Sid} (hc : g.cur = some sid) (hn : NoFlag g) :
    Walk false E g (viaDo lid k as g).1 ∧ (viaDo lid k as g).1.cur = none := by
  fun_cases viaDo lid k as g
  -- the last two cases: no request in flight (excluded by `hc`), and the success path
  case case7 h => rw [hc] at h; cases h
  case case8 sid' h =>
    cases hc.symm.trans h
    have w : Walk false E g (connectNow (some k) lid false g) := .one (.connectNow _ _ _ hc)
    have w2 : Walk false E (connectNow (some k) lid false g) (viaIndex sid k (connectNow (some k) lid false g)) := by
      refine .one (.viaIndex k (live_of (w.pres hn) ?_))
      rw [connectNow, hc]; exact (announceConnect_has ..).2 (insertCur_has _ _ _ hc)
    exact ⟨w.trans w2, w2.quiet.cur_none (connectNow_cur _ _ _ hc)⟩
  all_goals exact ⟨.one (.failConnect _ hc), failConnect_cur ..⟩

theorem dispatch_walk (as : List A) (g : G) (hc : g.cur = none) (hn : NoFlag g) :
    Walk false E (popCmd g).2 (dispatch as g).1 ∧ (dispatch as g).1.cur = none := by
  unfold dispatch
  rcases popCmd_cases g with ⟨_, e⟩ | ⟨c, rest, _, e⟩ <;> rw [e]
  · exact ⟨.refl _, hc⟩
  · have hn' : NoFlag { g with batch := rest, cur := (connSid c).or g.cur } := hn
    cases c with
    | shutdown => exact ⟨.one (.running ..), hc⟩
    | addListener lid t => dsimp only; split <;> first | exact ⟨.one (.listeners ..), hc⟩ | exact ⟨.refl _, hc⟩
    | connect s t n => exact connectDo_walk _ _ rfl
    | via s l k => exact viaDo_walk _ _ _ _ rfl hn'
    | send s => exact ⟨sendDo_walk _ _ _ hn', (sendDo_walk (E := E) _ _ _ hn').quiet.cur_none hc⟩
    -- `CmdType::Close` of UdpEngine carries no origin ("closed by app"): `Udp.dispatch` passes `.app` whatever `o` is
    | close s o => exact ⟨closeCmd_walk s .app _, (closeCmd_walk (tcp := false) (E := E) s .app _).quiet.cur_none hc⟩

/-- the `ioListener` arm of `Udp.step` is this term: read if readable (`a`), then flush if writable (`b`) -/
theorem listener_walk (lid : Lid) (a b : Bool) (as : List A) (g : G) (hi : Inv g) (ha : AllAnn g) :
    Walk false E g (match (if a = true then readFromListener lid as g else (g, as)) with
      | (g, as) => if b = true then (flushListener lid as g).1 else g) := by
  split
  rename_i g1 as1 he
  have h1 : Walk false E g g1 := by
    split at he
    · have := readFromListener_walk (E := E) lid as g hi ha; rw [he] at this; exact this
    · cases he; exact .refl _
  split
  · exact h1.trans (flushListener_walk ..)
  · exact h1

end Udp
end Iora.Lifecycle
