import IoraModel.Lemmas.JsonSer
import IoraModel.Model.JsonApi
/-! Lemmas about the public surface of json.hpp (`Model/JsonApi.lean`): the locale layer (repair FC13b), `JsonStreamParser`,
the wrappers, non-finite doubles. `LocaleLibc` (with `SNum.renderL`) is the hypothesis L0–L4 of Props/C13 are stated under, an
assumption about libc like `LibcOk`; `StreamInv` is the invariant behind S1–S3. -/
namespace Iora.Json.Spec
open Iora Iora.Json

/-- the number token as a process whose LC_NUMERIC decimal point is `dp` writes and reads it -/
def SNum.renderL (dp : Bytes) (n : SNum) : Bytes :=
  (if n.neg then [0x2D] else []) ++ natToDec n.int ++ (match n.frac with | none => [] | some ds => dp ++ ds) ++ n.renderExp

/-- What the repair assumes about `std::strtod` in a process whose numeric locale has the decimal point `dp`: the decimal point is
    not empty (POSIX), and strtod reads the LOCALISED token exactly as the "C" locale's strtod reads the JSON token.
    (The unrepaired code handed strtod the JSON token itself: under `dp = ","` glibc stops at the `.`.) -/
structure LocaleLibc (lc : Libc) (dp : Bytes) : Prop where
  nonempty : dp ≠ []
  reads : ∀ n : SNum, n.ok → lc.strtodL dp (n.renderL dp) = lc.strtodL pointC n.render

theorem point_eq : b8 Gen.Json.decimalPointByte = 0x2E := by decide

theorem substPoint_noPoint_append (dp xs ys : Bytes) (h : ∀ b ∈ xs, b ≠ 0x2E) :
    substPoint dp (xs ++ ys) = xs ++ substPoint dp ys := by
  induction xs with
  | nil => rfl
  | cons x xs ih =>
    have hx : x ≠ 0x2E := h x (by simp)
    simp only [List.cons_append, substPoint, point_eq, hx, ↓reduceIte, ih (fun b hb => h b (by simp [hb]))]

theorem substPoint_noPoint (dp xs : Bytes) (h : ∀ b ∈ xs, b ≠ 0x2E) : substPoint dp xs = xs := by
  have := substPoint_noPoint_append dp xs [] h
  simpa [substPoint] using this

theorem renderExp_noPoint (n : SNum) (hok : n.ok) : ∀ b ∈ n.renderExp, b ≠ 0x2E := by
  intro b hb
  unfold SNum.renderExp at hb
  cases he : n.exp with
  | none => simp [he] at hb
  | some t =>
    obtain ⟨u, s, ds⟩ := t
    have hd := (hok.2 u s ds he).2
    simp only [he, List.mem_cons, List.mem_append] at hb
    rcases hb with hb | hb | hb
    · cases u <;> simp_all
    · cases s with
      | none => simp at hb
      | some sg => cases sg <;> simp_all
    · exact digit_ne (hd b hb) rfl

/-- the helper's `find('.')` + `replace` turns a JSON number token into the localised token -/
theorem substPoint_render (dp : Bytes) (n : SNum) (hok : n.ok) : substPoint dp n.render = n.renderL dp := by
  have hsign : ∀ b ∈ (if n.neg then [0x2D] else ([] : Bytes)), b ≠ 0x2E := by
    intro b hb; cases n.neg <;> simp_all
  have hint : ∀ b ∈ natToDec n.int, b ≠ 0x2E := fun b hb => digit_ne (natToDec_digits n.int b hb) rfl
  simp only [SNum.render, SNum.renderL, List.append_assoc]
  rw [substPoint_noPoint_append dp _ _ hsign, substPoint_noPoint_append dp _ _ hint]
  congr 2
  unfold SNum.renderFrac
  cases hf : n.frac with
  | none => simpa using substPoint_noPoint dp _ (renderExp_noPoint n hok)
  | some ds => simp [substPoint, point_eq]

theorem jsonToDouble_render {lc : Libc} {dp : Bytes} (hl : LocaleLibc lc dp) (n : SNum) (hok : n.ok) :
    jsonToDouble lc dp n.render = lc.strtodL pointC n.render := by
  unfold jsonToDouble
  by_cases hp : dp = pointC
  · subst hp; simp
  · simp only [ne_eq, hl.nonempty, not_false_eq_true, hp, and_self, ↓reduceIte]
    rw [substPoint_render dp n hok, hl.reads n hok]

theorem opsIn_strtod {lc : Libc} {dp : Bytes} (hl : LocaleLibc lc dp) (n : SNum) (hok : n.ok) :
    (opsIn lc dp).strtod n.render = (opsIn lc pointC).strtod n.render := by
  show jsonToDouble lc dp n.render = jsonToDouble lc pointC n.render
  rw [jsonToDouble_render hl n hok]
  simp [jsonToDouble]

theorem opsIn_printfG (lc : Libc) (dp : Bytes) : (opsIn lc dp).printfG = (opsIn lc pointC).printfG := rfl

/-- The libc facts carry over from the "C" locale: every text `strtod` is asked about is a rendered token (`shape`, `render_dotZero`), on
    which the two `strtod`s agree (`opsIn_strtod`); `shape` speaks of `printfG` only (`opsIn_printfG`). -/
theorem libcOk_opsIn {lc : Libc} {dp : Bytes} (hc : LibcOk (opsIn lc pointC)) (hl : LocaleLibc lc dp) : LibcOk (opsIn lc dp) where
  shape := hc.shape
  exactHi := by
    intro d hd
    obtain ⟨n, hok, hr⟩ := hc.shape Gen.Json.fmtPrecHi d (by decide) (Nat.le_refl _) hd
    rw [opsIn_printfG, ← hr, opsIn_strtod hl n hok, hr]
    exact hc.exactHi d hd
  zeroSign := by
    intro p d hlo hhi hz hz'
    have hfin : isFiniteBits d = true := by
      simp only [isZeroBits, decide_eq_true_eq] at hz
      simp only [isFiniteBits, decide_eq_true_eq, ne_eq]
      omega
    obtain ⟨n, hok, hr⟩ := hc.shape p d hlo hhi hfin
    rw [opsIn_printfG, ← hr, opsIn_strtod hl n hok, hr] at hz' ⊢
    exact hc.zeroSign p d hlo hhi hz hz'
  dotZero := by
    intro n hok hf
    obtain ⟨n', hok', -, hr'⟩ := render_dotZero n hok hf
    rw [← hr', opsIn_strtod hl n' hok', opsIn_strtod hl n hok, hr']
    exact hc.dotZero n hok hf

mutual
theorem sval_denote_congr {o1 o2 : FloatOps} (h : ∀ n : SNum, n.ok → o1.strtod n.render = o2.strtod n.render) :
    ∀ v : SVal, v.ok → v.denote o1 = v.denote o2
  | .null, _ => rfl
  | .true, _ => rfl
  | .false, _ => rfl
  | .num n, hok => by simp only [SVal.denote, SNum.denote, h n hok]
  | .str _, _ => rfl
  | .arr _ es, hok => by
    simp only [SVal.denote]
    rw [selems_denote_congr h es (by simpa [SVal.ok] using hok)]
  | .obj _ ms, hok => by
    simp only [SVal.denote]
    rw [smembers_denote_congr h ms (by simpa [SVal.ok] using hok)]
theorem selems_denote_congr {o1 o2 : FloatOps} (h : ∀ n : SNum, n.ok → o1.strtod n.render = o2.strtod n.render) :
    ∀ es : SElems, es.ok → es.denote o1 = es.denote o2
  | .nil, _ => rfl
  | .cons _ v _ tl, hok => by
    simp only [SElems.ok] at hok
    simp only [SElems.denote]
    rw [sval_denote_congr h v hok.1, selems_denote_congr h tl hok.2]
theorem smembers_denote_congr {o1 o2 : FloatOps} (h : ∀ n : SNum, n.ok → o1.strtod n.render = o2.strtod n.render) :
    ∀ ms : SMembers, ms.ok → ∀ acc, ms.denote o1 acc = ms.denote o2 acc
  | .nil, _, _ => rfl
  | .cons _ k _ _ v _ tl, hok, acc => by
    simp only [SMembers.ok] at hok
    simp only [SMembers.denote]
    rw [sval_denote_congr h v hok.2.1, smembers_denote_congr h tl hok.2.2]
end

theorem denote_locale_free {lc : Libc} {dp : Bytes} (hl : LocaleLibc lc dp) (t : SText) (hok : t.ok) :
    t.denote (opsIn lc dp) = t.denote (opsIn lc pointC) :=
  sval_denote_congr (fun n hn => opsIn_strtod hl n hn) t.v hok

theorem formatDouble_nonfinite (ops : FloatOps) (d : UInt64) (h : isFiniteBits d = false) : formatDouble ops d = litNull := by
  simp only [formatDouble, h, Bool.not_false, ↓reduceIte]
  decide

mutual
theorem serialize_nullify (ops : FloatOps) (o : Opts) : ∀ (d : Nat) (v : Json), serialize ops o d v.nullify = serialize ops o d v
  | _, .null => rfl
  | _, .bool _ => rfl
  | _, .int _ => rfl
  | _, .str _ => rfl
  | _, .dbl b => by
    simp only [Json.nullify]
    cases hf : isFiniteBits b with
    | true => simp
    | false => simp [serialize, formatDouble_nonfinite ops b hf]
  | d, .arr xs => by
    cases xs with
    | nil => rfl
    | cons x xs =>
      simp only [Json.nullify, Json.nullifyElems, serialize, List.isEmpty_cons, Bool.false_eq_true, ↓reduceIte]
      have := serElems_nullify ops o d (x :: xs)
      simp only [Json.nullifyElems] at this
      rw [this]
  | d, .obj ms => by
    cases ms with
    | nil => rfl
    | cons m ms =>
      obtain ⟨k, v⟩ := m
      simp only [Json.nullify, Json.nullifyMembers, serialize, List.isEmpty_cons, Bool.false_eq_true, ↓reduceIte]
      have := serMembers_nullify ops o d ((k, v) :: ms)
      simp only [Json.nullifyMembers] at this
      rw [this]
theorem serElems_nullify (ops : FloatOps) (o : Opts) : ∀ (d : Nat) (xs : List Json),
    serElems ops o d (Json.nullifyElems xs) = serElems ops o d xs
  | _, [] => rfl
  | d, x :: xs => by
    simp only [Json.nullifyElems, serElems]
    rw [serialize_nullify ops o (d + 1) x, serElems_nullify ops o d xs]
    cases xs <;> simp [Json.nullifyElems]
theorem serMembers_nullify (ops : FloatOps) (o : Opts) : ∀ (d : Nat) (ms : List (Bytes × Json)),
    serMembers ops o d (Json.nullifyMembers ms) = serMembers ops o d ms
  | _, [] => rfl
  | d, (k, v) :: ms => by
    simp only [Json.nullifyMembers, serMembers]
    rw [serialize_nullify ops o (d + 1) v, serMembers_nullify ops o d ms]
end

theorem fmtSearch_locale_free {lc : Libc} {dp : Bytes} (hc : LibcOk (opsIn lc pointC)) (hl : LocaleLibc lc dp) (d : UInt64)
    (hd : isFiniteBits d = true) : ∀ (k p : Nat), Gen.Json.fmtPrecLo ≤ p → p + k = Gen.Json.fmtPrecHi →
      fmtSearch (opsIn lc dp) d k p = fmtSearch (opsIn lc pointC) d k p := by
  intro k
  induction k with
  | zero => intro p _ _; rfl
  | succ k ih =>
    intro p hp hk
    obtain ⟨n, hok, hr⟩ := hc.shape p d hp (by omega) hd
    -- given as a hypothesis, the equation is also applied inside the `Decidable` instance of the `if`; given as the lemma it is not
    have h1 := opsIn_printfG lc dp
    simp only [fmtSearch, h1]
    rw [← hr, opsIn_strtod hl n hok, ih (p + 1) (by omega) (by omega)]

theorem formatDouble_locale_free {lc : Libc} {dp : Bytes} (hc : LibcOk (opsIn lc pointC)) (hl : LocaleLibc lc dp) (d : UInt64) :
    formatDouble (opsIn lc dp) d = formatDouble (opsIn lc pointC) d := by
  unfold formatDouble
  cases hd : isFiniteBits d with
  | false => rfl
  | true =>
    simp only [Bool.not_true, Bool.false_eq_true, ↓reduceIte]
    rw [fmtSearch_locale_free hc hl d hd _ _ (Nat.le_refl _) (by decide)]

mutual
/-- `serialize` reads its `FloatOps` through `formatDouble` only -/
theorem serialize_congr {o1 o2 : FloatOps} (h : ∀ d, formatDouble o1 d = formatDouble o2 d) (o : Opts) :
    ∀ (d : Nat) (v : Json), serialize o1 o d v = serialize o2 o d v
  | _, .null => rfl
  | _, .bool _ => rfl
  | _, .int _ => rfl
  | _, .str _ => rfl
  | _, .dbl b => by simp only [serialize]; exact h b
  | d, .arr xs => by
    simp only [serialize]
    rw [serElems_congr h o d xs]
  | d, .obj ms => by
    simp only [serialize]
    rw [serMembers_congr h o d ms]
theorem serElems_congr {o1 o2 : FloatOps} (h : ∀ d, formatDouble o1 d = formatDouble o2 d) (o : Opts) :
    ∀ (d : Nat) (xs : List Json), serElems o1 o d xs = serElems o2 o d xs
  | _, [] => rfl
  | d, x :: xs => by
    simp only [serElems]
    rw [serialize_congr h o (d + 1) x, serElems_congr h o d xs]
theorem serMembers_congr {o1 o2 : FloatOps} (h : ∀ d, formatDouble o1 d = formatDouble o2 d) (o : Opts) :
    ∀ (d : Nat) (ms : List (Bytes × Json)), serMembers o1 o d ms = serMembers o2 o d ms
  | _, [] => rfl
  | d, (k, v) :: ms => by
    simp only [serMembers]
    rw [serialize_congr h o (d + 1) v, serMembers_congr h o d ms]
end

theorem serialize_locale_free {lc : Libc} {dp : Bytes} (hc : LibcOk (opsIn lc pointC)) (hl : LocaleLibc lc dp) (o : Opts) :
    ∀ (d : Nat) (v : Json), serialize (opsIn lc dp) o d v = serialize (opsIn lc pointC) o d v :=
  serialize_congr (formatDouble_locale_free hc hl) o

theorem serElems_locale_free {lc : Libc} {dp : Bytes} (hc : LibcOk (opsIn lc pointC)) (hl : LocaleLibc lc dp) (o : Opts) :
    ∀ (d : Nat) (xs : List Json), serElems (opsIn lc dp) o d xs = serElems (opsIn lc pointC) o d xs :=
  serElems_congr (formatDouble_locale_free hc hl) o

theorem serMembers_locale_free {lc : Libc} {dp : Bytes} (hc : LibcOk (opsIn lc pointC)) (hl : LocaleLibc lc dp) (o : Opts) :
    ∀ (d : Nat) (ms : List (Bytes × Json)), serMembers (opsIn lc dp) o d ms = serMembers (opsIn lc pointC) o d ms :=
  serMembers_congr (formatDouble_locale_free hc hl) o

end Iora.Json.Spec

namespace Iora.Json
open Iora.Json.Spec

/-- what is true of a stream parser that was fed `fed` (the chunks so far): the buffer is their concatenation; a value, once
    latched, is the parse of the concatenation of SOME prefix of the chunks; while nothing is latched the error is the parse error
    of the whole buffer (or nothing was fed yet) -/
structure StreamInv (ops : FloatOps) (lim : Limits) (st : StreamSt) (fed : List Bytes) : Prop where
  buf : st.buf = fed.flatten
  latched : st.complete = true → ∃ k, k ≤ fed.length ∧ parse ops lim (fed.take k).flatten = .ok st.value
  lastOk : ∀ v, parse ops lim fed.flatten = .ok v → fed ≠ [] → st.complete = true ∧ st.value = v ∧ st.error = none
  pending : st.complete = false → fed ≠ [] → ∃ e, parse ops lim fed.flatten = .error e ∧ st.error = some (fed.flatten, e)

theorem streamInv_init (ops : FloatOps) (lim : Limits) : StreamInv ops lim {} [] where
  buf := rfl
  latched := fun h => by simp at h
  lastOk := fun _ _ h => absurd rfl h
  pending := fun _ h => absurd rfl h

theorem streamInv_feed {ops : FloatOps} {lim : Limits} {st : StreamSt} {fed : List Bytes} (h : StreamInv ops lim st fed) (ch : Bytes) :
    StreamInv ops lim (st.feed ops lim ch).1 (fed ++ [ch]) := by
  have hb : st.buf ++ ch = (fed ++ [ch]).flatten := by simp [h.buf]
  unfold StreamSt.feed
  simp only
  cases hp : parse ops lim (st.buf ++ ch) with
  | ok v =>
    simp only
    refine ⟨hb, fun _ => ⟨(fed ++ [ch]).length, Nat.le_refl _, ?_⟩, ?_, fun hc => by cases hc⟩
    · rw [List.take_length, ← hb, hp]
    · intro v' hv' _
      rw [← hb, hp] at hv'
      cases hv'
      exact ⟨rfl, rfl, rfl⟩
  | error e =>
    simp only
    refine ⟨hb, ?_, ?_, ?_⟩
    · intro hc
      obtain ⟨k, hk, hv⟩ := h.latched hc
      refine ⟨k, by simp; omega, ?_⟩
      rw [List.take_append_of_le_length hk]
      exact hv
    · intro v' hv' _
      rw [← hb, hp] at hv'
      cases hv'
    · intro _ _
      exact ⟨e, by rw [← hb, hp], by rw [← hb]⟩

theorem streamInv_feedAll {ops : FloatOps} {lim : Limits} : ∀ (chunks : List Bytes) {st : StreamSt} {fed : List Bytes},
    StreamInv ops lim st fed → StreamInv ops lim (streamFeedAll ops lim st chunks) (fed ++ chunks)
  | [], _, _, h => by simpa [streamFeedAll] using h
  | ch :: rest, _, _, h => by
    have := streamInv_feedAll rest (streamInv_feed h ch)
    simpa [streamFeedAll, List.append_assoc] using this

theorem streamInv_run (ops : FloatOps) (lim : Limits) (chunks : List Bytes) :
    StreamInv ops lim (streamFeedAll ops lim {} chunks) chunks := by
  simpa using streamInv_feedAll chunks (streamInv_init ops lim)

/-- after at least one `feed`, `finish()` changes nothing and returns `complete()`: while nothing is latched the last `feed` has
    already parsed the whole buffer and stored its error -/
theorem streamRun_eq (ops : FloatOps) (lim : Limits) {chunks : List Bytes} (hne : chunks ≠ []) :
    streamRun ops lim chunks = (streamFeedAll ops lim {} chunks, (streamFeedAll ops lim {} chunks).complete) := by
  have inv := streamInv_run ops lim chunks
  unfold streamRun StreamSt.finish
  cases hc : (streamFeedAll ops lim {} chunks).complete with
  | true => rfl
  | false =>
    obtain ⟨e, he, herr⟩ := inv.pending hc hne
    have hb := inv.buf
    generalize streamFeedAll ops lim {} chunks = st at *
    cases st
    simp_all

theorem parse_nil (ops : FloatOps) (lim : Limits) : parse ops lim [] = .error (.eof, 0) := rfl

/-- the loop of `_getLocation` from line `l`, column `c` over the bytes `xs` -/
theorem location_aux (xs : Bytes) : ∀ (l c : Nat), 1 ≤ c →
    let r := xs.foldl (fun (lc : Nat × Nat) b => if b = 0x0A then (lc.1 + 1, 1) else (lc.1, lc.2 + 1)) (l, c)
    r.1 = l + xs.count 0x0A ∧ 1 ≤ r.2 ∧ r.2 ≤ c + xs.length := by
  induction xs with
  | nil => intro l c hc; exact ⟨rfl, hc, Nat.le_refl _⟩
  | cons x xs ih =>
    intro l c hc
    simp only [List.foldl_cons, List.length_cons]
    by_cases hx : x = 0x0A
    · rw [if_pos hx, hx, List.count_cons_self]
      obtain ⟨h1, h2, h3⟩ := ih (l + 1) 1 (Nat.le_refl _)
      exact ⟨by omega, h2, by omega⟩
    · rw [if_neg hx]
      obtain ⟨h1, h2, h3⟩ := ih l (c + 1) (by omega)
      rw [List.count_cons_of_ne hx]
      exact ⟨h1, h2, by omega⟩

theorem parseOrThrow_ok (ops : FloatOps) (lim : Limits) (bs : Bytes) (v : Json) :
    parseOrThrow ops lim bs = .ok v ↔ parse ops lim bs = .ok v := by
  unfold parseOrThrow
  cases parse ops lim bs <;> simp

theorem parseOrThrow_error (ops : FloatOps) (lim : Limits) (bs : Bytes) (t : Thrown) :
    parseOrThrow ops lim bs = .error t ↔ ∃ k off, parse ops lim bs = .error (k, off) ∧ t = (k, location bs off) := by
  unfold parseOrThrow
  cases hp : parse ops lim bs with
  | ok v => simp
  | error e =>
    obtain ⟨k, off⟩ := e
    constructor
    · intro h
      cases h
      exact ⟨k, off, rfl, rfl⟩
    · rintro ⟨k', off', h1, h2⟩
      cases h1
      rw [h2]

end Iora.Json
