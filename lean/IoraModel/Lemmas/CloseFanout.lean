import IoraModel.Model.CloseFanout
/-! # The Transport close fan-out (C02, T5)

What a callback does from inside is a list of actions, and no action emits a callback (`runInside_noCb`): so the callbacks of
`closeFan` are those of its three parts, whatever the callbacks do.  `FInv`: the observer lists are in registration order and agree
with the id index, after every history.  With nothing queued for the inside of callbacks (`inside = []`) the parts are computed
outright (`_noInside`): a close leaves neither observers nor user data (`closeFan_state`), so a second one finds none (`closeFan_bare`). -/
namespace Iora.Fanout

/-- the events that are callbacks of the fan-out itself (`unobserved` only reports the return value of a nested unobserve) -/
def isCb : Out → Bool
  | .unobserved _ _ => false
  | _ => true

@[simp] theorem isCb_global (sid : Sid) : isCb (.global sid) = true := rfl
@[simp] theorem isCb_observer (sid : Sid) (o : Obs) : isCb (.observer sid o) = true := rfl
@[simp] theorem isCb_cleanup (sid : Sid) (t : Nat) : isCb (.cleanup sid t) = true := rfl
@[simp] theorem isCb_unobserved (o : Obs) (b : Bool) : isCb (.unobserved o b) = false := rfl

theorem applyAct_noCb (a : Act) (f : F) : (applyAct a f).2.filter isCb = [] := by
  cases a <;> simp [applyAct]

theorem runActs_noCb (as : List Act) (f : F) : (runActs as f).2.filter isCb = [] := by
  induction as generalizing f with
  | nil => simp [runActs]
  | cons a r ih => simp [runActs, List.filter_append, applyAct_noCb, ih]

theorem runInside_noCb (w : Where) (f : F) : (runInside w f).2.filter isCb = [] := by
  simp [runInside, runActs_noCb]

/-- copy-then-iterate: every observer of the snapshot is called exactly once, in snapshot order, whatever the callbacks do -/
theorem notify_cbs (sid : Sid) (snap : List Obs) (f : F) :
    (notify sid snap f).2.filter isCb = snap.map (Out.observer sid) := by
  induction snap generalizing f with
  | nil => simp [notify]
  | cons o r ih => simp [notify, List.filter_cons, List.filter_append, runInside_noCb, ih]

theorem globalPart_cbs (sid : Sid) (f : F) :
    (globalPart sid f).2.filter isCb = if f.hasGlobal then [Out.global sid] else [] := by
  unfold globalPart
  split <;> simp [List.filter_cons, runInside_noCb]

theorem observerPart_cbs (sid : Sid) (f : F) :
    (observerPart sid f).2.filter isCb = (f.observers sid).map (Out.observer sid) := by
  simp [observerPart, notify_cbs]

/-- what the cleanup step reports for a state: the cleanup of the user data present at that moment, if it has a cleanup function
and a non-null pointer -/
def cleanupOf (sid : Sid) (f : F) : List Out :=
  match f.data sid with
  | some (tag, true) => if tag ≠ 0 then [.cleanup sid tag] else []
  | _ => []

theorem cleanupPart_cbs (sid : Sid) (f : F) : (cleanupPart sid f).2.filter isCb = cleanupOf sid f := by
  unfold cleanupPart cleanupOf
  split
  · rename_i hd; simp [hd]
  · rename_i tag hc hd
    cases hc
    · simp [hd]
    · by_cases ht : tag = 0
      · simp [hd, ht]
      · simp [hd, ht, List.filter_cons, runInside_noCb]

theorem runInside_noInside (w : Where) (f : F) (h : f.inside = []) : runInside w f = (f, []) := by
  cases f; cases h; rfl

theorem notify_noInside (sid : Sid) (snap : List Obs) (f : F) (h : f.inside = []) :
    notify sid snap f = (f, snap.map (Out.observer sid)) := by
  induction snap generalizing f with
  | nil => simp [notify]
  | cons o r ih => simp [notify, runInside_noInside _ f h, ih f h]

theorem globalPart_noInside (sid : Sid) (f : F) (h : f.inside = []) :
    globalPart sid f = (f, if f.hasGlobal then [Out.global sid] else []) := by
  unfold globalPart; split <;> simp [runInside_noInside _ f h]

theorem closeFan_state (sid : Sid) (f : F) (hi : f.inside = []) :
    (closeFan sid f).1.inside = [] ∧ (closeFan sid f).1.hasGlobal = f.hasGlobal ∧ (closeFan sid f).1.observers sid = [] ∧
      (closeFan sid f).1.data sid = none := by
  unfold closeFan
  simp only [globalPart_noInside sid f hi]
  unfold observerPart
  rw [notify_noInside _ _ _ (by simpa using hi)]
  unfold cleanupPart
  dsimp only
  split
  · rename_i hd; simp [hi, updL, hd]
  · rename_i tag hc hd
    split
    · rw [runInside_noInside _ _ (by simpa using hi)]; simp [hi, updL, updO]
    · simp [hi, updL, updO]

/-- with no observer and no user data left the close reaches the global callback only -/
theorem closeFan_bare (sid : Sid) (f : F) (hi : f.inside = []) (ho : f.observers sid = []) (hd : f.data sid = none) :
    (closeFan sid f).2 = if f.hasGlobal then [Out.global sid] else [] := by
  unfold closeFan
  simp only [globalPart_noInside sid f hi]
  unfold observerPart
  rw [ho]
  simp only [notify]
  unfold cleanupPart
  simp [hd]

/-- the observer lists are in registration order (so without duplicates) and agree with the id index.  `lt_next`, ids in use are below
the counter, is what lets `observe` keep the other three. -/
structure FInv (f : F) : Prop where
  sorted : ∀ sid, (f.observers sid).Pairwise (· < ·)
  idx_of_mem : ∀ sid o, o ∈ f.observers sid → f.obsIndex o = some sid
  mem_of_idx : ∀ o sid, f.obsIndex o = some sid → o ∈ f.observers sid
  lt_next : ∀ sid o, o ∈ f.observers sid → o < f.nextObs

/-- the observer list of `sid` is replaced by `l`, and the index follows: the members of `l` map to `sid`, the former members that are
gone map to nothing.  New members were not indexed before; observer ids are only handed out. -/
theorem FInv.upd {f f' : F} (h : FInv f) (sid : Sid) (l : List Obs) (hobs : f'.observers = updL f.observers sid l)
    (hn : f.nextObs ≤ f'.nextObs) (hl : l.Pairwise (· < ·)) (hlt : ∀ o, o ∈ l → o < f'.nextObs)
    (hnew : ∀ o, o ∈ l → o ∈ f.observers sid ∨ f.obsIndex o = none)
    (hidx : ∀ o, f'.obsIndex o = if o ∈ l then some sid else if o ∈ f.observers sid then none else f.obsIndex o) : FInv f' := by
  have hother : ∀ x, x ≠ sid → f'.observers x = f.observers x := fun x e => by rw [hobs]; simp [updL, e]
  have hself : f'.observers sid = l := by rw [hobs]; simp [updL]
  constructor
  · intro x
    by_cases e : x = sid
    · rw [e, hself]; exact hl
    · rw [hother x e]; exact h.sorted x
  · intro x o ho
    by_cases e : x = sid
    · rw [e, hself] at ho; rw [hidx, if_pos ho, e]
    · rw [hother x e] at ho
      have hx := h.idx_of_mem x o ho
      have hnot : o ∉ f.observers sid := fun hm => e (Option.some.inj (hx.symm.trans (h.idx_of_mem sid o hm)))
      have hnl : o ∉ l := fun hm => (hnew o hm).elim hnot fun hnone => nomatch hnone.symm.trans hx
      rw [hidx, if_neg hnl, if_neg hnot]; exact hx
  · intro o x ho
    rw [hidx] at ho
    split at ho
    · rename_i hm; cases ho; rw [hself]; exact hm
    · split at ho
      · cases ho
      · rename_i hnot
        have hm := h.mem_of_idx o x ho
        have e : x ≠ sid := fun e => hnot (e ▸ hm)
        rw [hother x e]; exact hm
  · intro x o ho
    by_cases e : x = sid
    · rw [e, hself] at ho; exact hlt o ho
    · rw [hother x e] at ho; exact Nat.lt_of_lt_of_le (h.lt_next x o ho) hn

theorem finv_observe (sid : Sid) {f : F} (h : FInv f) : FInv (observe sid f) := by
  have hfresh : f.nextObs ∉ f.observers sid := fun hm => Nat.lt_irrefl _ (h.lt_next sid _ hm)
  refine h.upd sid (f.observers sid ++ [f.nextObs]) rfl (Nat.le_succ _) ?_ ?_ ?_ ?_
  · rw [List.pairwise_append]
    exact ⟨h.sorted sid, by simp, by intro a ha b hb; cases List.mem_singleton.1 hb; exact h.lt_next sid a ha⟩
  · intro o ho
    rcases List.mem_append.1 ho with ho | ho
    · exact Nat.lt_succ_of_lt (h.lt_next sid o ho)
    · exact List.mem_singleton.1 ho ▸ Nat.lt_succ_self _
  · intro o ho
    rcases List.mem_append.1 ho with ho | ho
    · exact .inl ho
    · right
      cases List.mem_singleton.1 ho
      cases e : f.obsIndex f.nextObs with
      | none => rfl
      | some x => exact absurd (h.lt_next x _ (h.mem_of_idx _ x e)) (Nat.lt_irrefl _)
  · intro o
    show updO f.obsIndex f.nextObs (some sid) o = _
    by_cases eo : o = f.nextObs
    · subst eo; simp [updO]
    · by_cases hm : o ∈ f.observers sid
      · simp [updO, eo, hm, h.idx_of_mem sid o hm]
      · simp [updO, eo, hm]

theorem finv_unobserve (o : Obs) {f : F} (h : FInv f) : FInv (unobserve o f).1 := by
  unfold unobserve
  split
  · exact h
  · rename_i sid hs
    refine h.upd sid ((f.observers sid).filter (· != o)) rfl (Nat.le_refl _) ((h.sorted sid).filter _)
      (fun o' ho' => h.lt_next sid o' (List.mem_filter.1 ho').1) (fun o' ho' => .inl (List.mem_filter.1 ho').1) ?_
    intro o'
    show updO f.obsIndex o none o' = _
    by_cases eo : o' = o
    · subst eo; simp [updO, h.mem_of_idx _ _ hs]
    · by_cases hm : o' ∈ f.observers sid
      · simp [updO, eo, hm, h.idx_of_mem sid o' hm]
      · simp [updO, eo, hm]

theorem finv_frame {f f' : F} (h : FInv f) (h1 : f'.observers = f.observers) (h2 : f'.obsIndex = f.obsIndex) (h3 : f'.nextObs = f.nextObs) :
    FInv f' := by
  constructor
  · rw [h1]; exact h.sorted
  · rw [h1, h2]; exact h.idx_of_mem
  · rw [h1, h2]; exact h.mem_of_idx
  · rw [h1, h3]; exact h.lt_next

theorem finv_applyAct (a : Act) {f : F} (h : FInv f) : FInv (applyAct a f).1 := by
  cases a with
  | observe sid => exact finv_observe sid h
  | unobserve o => simpa [applyAct] using finv_unobserve o h
  | setData sid tag c => exact finv_frame h rfl rfl rfl

theorem finv_runActs (as : List Act) {f : F} (h : FInv f) : FInv (runActs as f).1 := by
  induction as generalizing f with
  | nil => exact h
  | cons a r ih => simpa [runActs] using ih (finv_applyAct a h)

theorem finv_runInside (w : Where) {f : F} (h : FInv f) : FInv (runInside w f).1 := by
  unfold runInside
  exact finv_runActs _ (finv_frame h rfl rfl rfl)

theorem finv_notify (sid : Sid) (snap : List Obs) {f : F} (h : FInv f) : FInv (notify sid snap f).1 := by
  induction snap generalizing f with
  | nil => exact h
  | cons o r ih => simpa [notify] using ih (finv_runInside (.obs o) h)

theorem eraseIndex_spec (snap : List Obs) (ix : Obs → Option Sid) (o : Obs) :
    eraseIndex snap ix o = if o ∈ snap then none else ix o := by
  induction snap generalizing ix with
  | nil => simp [eraseIndex]
  | cons x r ih =>
    simp only [eraseIndex, ih]
    by_cases h1 : o ∈ r
    · simp [h1]
    · by_cases h2 : o = x
      · simp [h2, updO]
      · simp [h1, h2, updO]

theorem finv_observerPart (sid : Sid) {f : F} (h : FInv f) : FInv (observerPart sid f).1 := by
  unfold observerPart
  refine finv_notify _ _ (h.upd sid [] rfl (Nat.le_refl _) .nil nofun nofun fun o => ?_)
  show eraseIndex (f.observers sid) f.obsIndex o = _
  rw [eraseIndex_spec]; simp

theorem finv_closeFan (sid : Sid) {f : F} (h : FInv f) : FInv (closeFan sid f).1 := by
  unfold closeFan
  have h1 : FInv (globalPart sid f).1 := by
    unfold globalPart; split
    · exact finv_runInside _ h
    · exact h
  have h2 := finv_observerPart sid h1
  dsimp only
  unfold cleanupPart
  split
  · exact h2
  · dsimp only
    split
    · exact finv_runInside _ (finv_frame h2 rfl rfl rfl)
    · exact finv_frame h2 rfl rfl rfl

theorem finv_step (op : Op) {f : F} (h : FInv f) : FInv (step f op).1 := by
  cases op with
  | act a => exact finv_applyAct a h
  | inside w a => exact finv_frame h rfl rfl rfl
  | close sid => exact finv_closeFan sid h

/-- the state after a history of API calls, actions queued for the inside of callbacks, and closes -/
def runOps (f : F) : List Op → F
  | [] => f
  | op :: r => runOps (step f op).1 r

theorem finv_run (ops : List Op) {f : F} (h : FInv f) : FInv (runOps f ops) := by
  induction ops generalizing f with
  | nil => exact h
  | cons op r ih => exact ih (finv_step op h)

theorem finv_init (g : Bool) : FInv { hasGlobal := g } := by
  constructor <;> simp

end Iora.Fanout
