import IoraModel.Lemmas.Teardown
/-! Completion of the teardown model (C05): `rank` counts the steps still owed by the threads inside a call, by the destructor and by
the I/O thread; a thread inside a call always has a step of its own that lowers it (`own_step`), and once destruction has begun some
thread can lower it (`progress`), so that no reachable state is a dead end (`completes`, `stop_completes`). -/
namespace Iora.Teardown

/-- own steps to `done` along the longest exit: parked → window → relock → done for `connectSync`, fcb → floop → fend → done for a
flush; the maximum is the 3 of `T1_finite_path` -/
def pcRank : Pc → Nat
  | .notStarted => 0 | .parked _ => 3 | .window => 2 | .relock => 1 | .floop => 2 | .fcb => 3 | .fend _ => 1 | .fdtor => 1
  | .done _ => 0

/-- the destructor's steps to `destroyed` along the longest path: fence, `engine->stop()`, join, wait and, when a flusher runs it,
the hand-over to the flush frame and that frame's unwinding -/
def tdRank : Td → Nat
  | .idle => 6 | .fenced => 5 | .joining => 4 | .waiting _ => 3 | .waited => 2 | .ioWaiting _ => 3 | .ioReleased => 2
  | .flushOwned => 1 | .destroyed => 0

-- `Nat.le_of_ble_eq_true rfl` compares two literals by reduction where `decide` refuses the goal for its free variables
theorem pcRank_le_three (pc : Pc) : pcRank pc ≤ 3 := by cases pc <;> exact Nat.le_of_ble_eq_true rfl

def trank (l : List Thread) : Nat := (l.map (fun t => pcRank t.pc)).sum

/-- steps still owed: by every thread inside a call, by the destructor, by the I/O thread (one per open session, one to terminate) -/
def rank (s : State) : Nat := trank s.threads + tdRank s.td + (if s.ioAlive then s.live.length + 1 else 0)

theorem trank_set {l : List Thread} {i : Nat} {t : Thread} (x : Thread) (h : l[i]? = some t) :
    trank (l.set i x) + pcRank t.pc = trank l + pcRank x.pc := Pool.sum_set (fun t : Thread => pcRank t.pc) x h

theorem trank_wakeAll (q : Thread → Bool) (l : List Thread) : trank (wakeAll q l) = trank l :=
  congrArg List.sum (map_wakeAll (fun t => pcRank t.pc) (fun ⟨_, pc, _⟩ => by cases pc <;> rfl) q l)

@[simp] theorem tdRank_notifyTd (td : Td) : tdRank (notifyTd td) = tdRank td := by cases td <;> rfl

@[simp] theorem rank_touch (s : State) : rank (touch s) = rank s := by unfold touch; split <;> rfl

theorem filter_length_lt {l : List Nat} {x : Nat} (h : l.contains x = true) : (l.filter (· != x)).length < l.length :=
  List.length_filter_lt_length_iff_exists.mpr ⟨x, by simpa using h, by simp⟩

theorem rank_closeSess {s : State} {sid : Nat} (hio : s.ioAlive = true) (hm : s.live.contains sid = true) :
    rank (closeSess s sid) < rank s := by
  have := filter_length_lt hm
  unfold closeSess rank
  simp only [touch_threads, touch_td, touch_ioAlive, touch_live, trank_wakeAll, hio, if_true]
  omega

/-- `s'` is `s` after a section of thread `i` alone, which goes from `t` to `t'` -/
structure OwnSection (s s' : State) (i : Nat) (t' : Thread) : Prop where
  threads : s'.threads = s.threads.set i t'
  /-- `.inr`: the thread stops being counted and the destructor is notified; `.inl`: it stays inside the call -/
  td : s'.td = s.td ∨ s'.td = notifyTd s.td
  ioAlive : s'.ioAlive = s.ioAlive
  live : s'.live = s.live

theorem OwnSection.rank {s s' : State} {i : Nat} {t t' : Thread} (h : OwnSection s s' i t') (hi : s.threads[i]? = some t) :
    rank s' + pcRank t.pc = rank s + pcRank t'.pc ∧ shape s'.td = shape s.td := by
  obtain ⟨hth, htd, hio, hlive⟩ := h
  have := trank_set t' hi
  have e : tdRank s'.td = tdRank s.td ∧ shape s'.td = shape s.td := by
    rcases htd with e | e <;> rw [e]
    · exact ⟨rfl, rfl⟩
    · exact ⟨tdRank_notifyTd _, shape_notifyTd _⟩
  refine ⟨?_, e.2⟩
  unfold Teardown.rank
  rw [hth, e.1, hio, hlive]
  omega

/-- the steps thread `i` takes itself once it is inside a call -/
def ownStep (i : Nat) : Step → Prop
  | .wake j _ | .connClose j | .connRelock j | .flushStep j _ => j = i
  | _ => False

/-- step `st`, from `s` to `s'`, is thread `i`'s own and permitted, and takes it from `t` to a `t'` closer to its return -/
structure Advances (s : State) (i : Nat) (t : Thread) (st : Step) (s' : State) (t' : Thread) : Prop where
  own : ownStep i st
  ok : ok s st = true
  sect : OwnSection s s' i t'
  kind : kindOk t' = true
  lt : pcRank t'.pc < pcRank t.pc
  next : inside t'.pc = true ∨ ∃ r, t'.pc = .done r

/-- a thread inside a call always has a step of its own (a timed wait takes its timeout) that brings it closer to its return -/
theorem own_step {s : State} {i : Nat} {t : Thread} (hi : s.threads[i]? = some t) (hk : kindOk t = true)
    (hin : inside t.pc = true) : ∃ st t', Advances s i t st (step s st) t' := by
  obtain ⟨u, _, hu⟩ := touch_eq s
  obtain ⟨k, pc, c⟩ := t
  cases pc <;> try cases hin
  · refine ⟨.wake i true, ?_⟩
    cases k <;> try cases hk
    · simp only [step, doWake, hi, hu, Bool.or_true, if_true]
      exact ⟨_, rfl, rfl, ⟨rfl, .inr rfl, rfl, rfl⟩, rfl, Nat.le_of_ble_eq_true rfl, .inr ⟨_, rfl⟩⟩
    · simp only [step, doWake, hi, hu, if_true]
      split
      · exact ⟨_, rfl, rfl, ⟨rfl, .inr rfl, rfl, rfl⟩, rfl, Nat.le_of_ble_eq_true rfl, .inr ⟨_, rfl⟩⟩
      · split
        · exact ⟨_, rfl, rfl, ⟨rfl, .inr rfl, rfl, rfl⟩, rfl, Nat.le_of_ble_eq_true rfl, .inr ⟨_, rfl⟩⟩
        · exact ⟨_, rfl, rfl, ⟨rfl, .inl rfl, rfl, rfl⟩, rfl, Nat.le_of_ble_eq_true rfl, .inl rfl⟩
  · refine ⟨.connClose i, ?_⟩
    cases k <;> cases hk
    simp only [step, doConnClose, hi, hu]
    exact ⟨_, rfl, rfl, ⟨rfl, .inl rfl, rfl, rfl⟩, rfl, Nat.le_of_ble_eq_true rfl, .inl rfl⟩
  · refine ⟨.connRelock i, ?_⟩
    cases k <;> cases hk
    simp only [step, doConnRelock, hi, hu]
    exact ⟨_, rfl, rfl, ⟨rfl, .inr rfl, rfl, rfl⟩, rfl, Nat.le_of_ble_eq_true rfl, .inr ⟨_, rfl⟩⟩
  · refine ⟨.flushStep i false, ?_⟩
    cases k <;> cases hk
    simp only [step, doFlushStep, hi, hu, Bool.false_eq_true, if_false]
    split <;> exact ⟨_, rfl, rfl, ⟨rfl, .inl rfl, rfl, rfl⟩, rfl, Nat.le_of_ble_eq_true rfl, .inl rfl⟩
  · refine ⟨.flushStep i false, ?_⟩
    cases k <;> cases hk
    simp only [step, doFlushStep, hi]
    exact ⟨_, rfl, rfl, ⟨rfl, .inl rfl, rfl, rfl⟩, rfl, Nat.le_of_ble_eq_true rfl, .inl rfl⟩
  · refine ⟨.flushStep i false, ?_⟩
    cases k <;> cases hk
    simp only [step, doFlushStep, hi, hu]
    exact ⟨_, rfl, rfl, ⟨rfl, .inr rfl, rfl, rfl⟩, rfl, Nat.le_of_ble_eq_true rfl, .inr ⟨_, rfl⟩⟩

/-- a thread inside a call reaches `done` within `pcRank` (at most three) steps, all of them its own and permitted: whatever the
other threads do or do not do. `n` is any bound on `pcRank t.pc`, so that `T1_finite_path` takes 3 for every thread -/
theorem finite_path : ∀ (n : Nat) {s : State} {i : Nat} {t : Thread}, s.threads[i]? = some t → kindOk t = true →
    pcRank t.pc ≤ n → (inside t.pc = true ∨ ∃ r, t.pc = .done r) →
    ∃ steps : List Step, (∀ st ∈ steps, ownStep i st) ∧ Disciplined s steps ∧ steps.length ≤ n ∧
      ∃ t' r, (run s steps).threads[i]? = some t' ∧ t'.pc = .done r
  | n, _, _, t, hi, _, _, .inr ⟨r, hr⟩ => ⟨[], nofun, trivial, Nat.zero_le _, t, r, hi, hr⟩
  | 0, _, _, t, _, _, hn, .inl hin => by
    obtain ⟨k, pc, c⟩ := t
    cases pc <;> first | exact (Nat.not_succ_le_zero _ hn).elim | cases hin
  | n + 1, s, i, t, hi, hk, hn, .inl hin => by
    obtain ⟨st, t', a⟩ := own_step hi hk hin
    obtain ⟨steps, ho, hd, hl, hfin⟩ := finite_path n (s := step s st) (i := i) (by rw [a.sect.threads]; exact Pool.get_set_self hi)
      a.kind (by have := a.lt; omega) a.next
    exact ⟨st :: steps, List.forall_mem_cons.mpr ⟨a.own, ho⟩, ⟨a.ok, hd⟩, Nat.succ_le_succ hl, hfin⟩

/-- destruction has begun: the destructor has taken its first step, or a flusher has released its guard inside `~Transport` -/
def begun (s : State) : Prop := shape s.td ≠ 0 ∨ s.dtorOn ≠ none

theorem td_step {s s' : State} (e : (trank s'.threads, s'.ioAlive, s'.live) = (trank s.threads, s.ioAlive, s.live))
    (h : tdRank s'.td < tdRank s.td) : rank s' < rank s ∧ begun s' := by
  simp only [Prod.mk.injEq] at e
  refine ⟨by unfold rank; rw [e.1, e.2.1, e.2.2]; omega, .inl (shape_ne_zero fun h0 => ?_)⟩
  -- `idle` has the largest `tdRank`
  rw [h0] at h
  exact Nat.not_le.mpr h (by cases s.td <;> exact Nat.le_of_ble_eq_true rfl)

theorem exists_inside_of_gate_false {s : State} (T : ThreadsOk s) (hg : gate s = false) :
    ∃ (j : Nat) (t : Thread), s.threads[j]? = some t ∧ inside t.pc = true :=
  Classical.byContradiction fun hn => by
    rw [(gate_iff T).mpr fun j t hj => Bool.eq_false_iff.mpr fun hi => hn ⟨j, t, hj, hi⟩] at hg; cases hg

/-- **no dead end**: once destruction has begun and until `Impl` is gone, some thread can take a step that respects the contract
and strictly decreases `rank` -/
theorem progress {s : State} (h : Inv s) (h2 : Inv2 s) (hb : begun s) (hnd : s.td ≠ .destroyed) :
    ∃ st, ok s st = true ∧ rank (step s st) < rank s ∧ begun (step s st) := by
  have g := Good.of_inv h h2
  -- the shutdown drain: the I/O thread closes an open session, or terminates (and, after a self-destruct, deletes `Impl`)
  have drain : s.ioAlive = true → s.running = false → s.td = .joining ∨ s.td = .ioReleased →
      ∃ st, ok s st = true ∧ rank (step s st) < rank s ∧ begun (step s st) := fun hio hrun htd => by
    have hfree : ioFree s = true := by rcases htd with e | e <;> simp [ioFree, hio, e]
    have hne : shape s.td ≠ 0 := shape_ne_zero (by rcases htd with e | e <;> rw [e] <;> nofun)
    cases hl : s.live with
    | nil =>
      refine ⟨.ioDrain none, rfl, ?_⟩
      simp only [step, doIoDrain, hfree, hrun, hl]
      rcases htd with e | e <;> simp [rank, hio, hl, tdRank, e, begun, shape] <;> omega
    | cons sid rest =>
      have hm : s.live.contains sid = true := by simp [hl]
      refine ⟨.ioDrain (some sid), rfl, ?_⟩
      simp only [step, doIoDrain, hfree, hrun, hm]
      exact ⟨by simpa using rank_closeSess hio hm, .inl (by simpa [closeSess] using hne)⟩
  cases htd : s.td with
  | destroyed => exact absurd htd hnd
  | idle =>
    obtain ⟨_, _, _, hsj⟩ := g.locAt htd
    have hdt : s.dtorOn ≠ none := hb.resolve_left fun h0 => h0 (by rw [htd]; rfl)
    have hsj : s.stopJoining = false := Bool.eq_false_iff.mpr fun hs => hdt (hsj hs).1
    refine ⟨.tdBegin, by simp [ok, hsj], ?_⟩
    simp only [step, doTdBegin, htd]
    split
    · exact td_step (by simp [waitOutEntry, trank_wakeAll]) (by simp [htd, tdRank])
    · split <;> exact td_step (by simp [waitOutEntry, trank_wakeAll]) (by simp [htd, tdRank])
  | fenced =>
    obtain ⟨_, _, hrun⟩ := g.locAt htd
    refine ⟨.tdStop, rfl, ?_⟩
    simp only [step, doTdStop, htd, hrun, if_true]
    exact td_step rfl (by simp [htd, tdRank])
  | joining =>
    obtain ⟨_, _, hrun⟩ := g.locAt htd
    cases hio : s.ioAlive with
    | true => exact drain hio hrun (.inl htd)
    | false =>
      refine ⟨.tdJoined, rfl, ?_⟩
      simp only [step, doTdJoined, htd, hio, Bool.false_eq_true, if_false]
      split <;> exact td_step (by simp [waitOutEntry, trank_wakeAll]) (by simp [htd, tdRank])
  | waiting a | ioWaiting a =>
    cases hg : gate s with
    | true =>
      refine ⟨.tdWake, rfl, ?_⟩
      simp only [step, doTdWake, htd, hg, if_true]
      exact td_step rfl (by simp [htd, tdRank])
    | false =>
      obtain ⟨j, t, hj, hin⟩ := exists_inside_of_gate_false g.T hg
      obtain ⟨st, _, a⟩ := own_step hj (g.T.KP j t hj) hin
      obtain ⟨hr, hs⟩ := a.sect.rank hj
      exact ⟨st, a.ok, by have := a.lt; omega, .inl (by rw [hs, htd]; nofun)⟩
  | waited =>
    cases hdt : s.dtorOn with
    | none =>
      refine ⟨.tdDestroy, rfl, ?_⟩
      simp only [step, doTdDestroy, htd, hdt]
      exact td_step rfl (by simp [htd, tdRank])
    | some i =>
      refine ⟨.tdOrphan, rfl, ?_⟩
      simp only [step, doTdOrphan, htd, hdt]
      exact td_step rfl (by simp [htd, tdRank])
  | ioReleased =>
    obtain ⟨_, _, hown, hrun, _⟩ := g.locAt htd
    exact drain hown.1 hrun (.inr htd)
  | flushOwned =>
    obtain ⟨hal, _, _, hne, _⟩ := g.locAt htd
    cases hdt : s.dtorOn with
    | none => exact absurd hdt hne
    | some i =>
      obtain ⟨t, hi, hpc⟩ := get_of_fdAt (hal.2 i hdt)
      refine ⟨.flushStep i false, rfl, ?_⟩
      obtain ⟨k, pc, c⟩ := t
      simp only at hpc; subst hpc
      simp only [step, doFlushStep, hi, htd, setT, touch_threads]
      have := trank_set { kind := k, pc := Pc.done (Res.flushed false), completed := c } hi
      refine ⟨?_, Or.inl (by simp [shape])⟩
      simp only [rank, pcRank, tdRank, htd, touch_ioAlive, touch_live] at this ⊢
      omega

/-- from every state in which destruction has begun there is a schedule, respecting the contract and at most `rank s` steps
long, that ends with `Impl` destroyed -/
theorem completes : ∀ (n : Nat) (s : State), Inv s → Inv2 s → begun s → rank s ≤ n →
    ∃ steps : List Step, Disciplined s steps ∧ steps.length ≤ n ∧ (run s steps).td = .destroyed := by
  intro n
  induction n with
  | zero =>
    intro s _ _ _ hr
    refine ⟨[], trivial, Nat.le_refl _, ?_⟩
    have : tdRank s.td = 0 := by unfold rank at hr; omega
    simp only [run]
    cases htd : s.td <;> simp [htd, tdRank] at this
    rfl
  | succ n ih =>
    intro s h h2 hb hr
    by_cases hd : s.td = .destroyed
    · exact ⟨[], trivial, Nat.zero_le _, hd⟩
    · obtain ⟨st, hok, hlt, hb'⟩ := progress h h2 hb hd
      have hi := step_inv h h2 st hok
      obtain ⟨steps, hds, hlen, hfin⟩ := ih (step s st) hi.1 hi.2 hb' (by omega)
      exact ⟨st :: steps, ⟨hok, hds⟩, by simp; omega, hfin⟩

/-- `stop()` completes: a thread inside `stop()` returns after at most one step of the I/O thread per open session (the recursion
is on their number), one for the I/O thread to terminate, and one for the join -/
theorem stop_completes (s : State) (hsj : s.stopJoining = true) (hrun : s.running = false) (htd : s.td = .idle) :
    ∃ steps : List Step, steps.length ≤ s.live.length + 2 ∧ Disciplined s steps ∧ Ev.stopReturned ∈ (run s steps).log ∧
      (run s steps).stopJoining = false := by
  cases hio : s.ioAlive with
  | false =>
    refine ⟨[.stopJoin], by simp, ⟨rfl, trivial⟩, ?_⟩
    simp [run, step, doStopJoin, hsj, hio]
  | true =>
    have hfree : ioFree s = true := by simp [ioFree, hio, htd]
    cases hlv : s.live with
    | nil =>
      refine ⟨[.ioDrain none, .stopJoin], by simp, ⟨rfl, rfl, trivial⟩, ?_⟩
      simp [run, step, doIoDrain, doStopJoin, hfree, hrun, hlv, htd, hsj]
    | cons sid rest =>
      have hm : s.live.contains sid = true := by simp [hlv]
      have hlt : (closeSess s sid).live.length < s.live.length := by simpa [closeSess] using filter_length_lt hm
      have hstep : step s (.ioDrain (some sid)) = closeSess s sid := by
        simp [step, doIoDrain, hfree, hrun, show sid ∈ s.live by simp [hlv]]
      obtain ⟨e1, e2, e3⟩ := closeSess_flags s sid
      obtain ⟨steps, hlen, hd, hlog, hsj'⟩ := stop_completes (closeSess s sid) (e1.trans hsj) (e2.trans hrun) (e3.trans htd)
      refine ⟨.ioDrain (some sid) :: steps, by rw [← hlv]; simp; omega, ⟨rfl, by rw [hstep]; exact hd⟩, ?_⟩
      simp only [run, hstep]
      exact ⟨hlog, hsj'⟩
termination_by s.live.length
decreasing_by exact hlt

end Iora.Teardown
