import IoraModel.Lemmas.TimingWheel
/-!
Restart of the timing wheel, `stop()`/`drain()` → `reset()` → `start()` (timing_wheel.hpp `reset`, `start` from RESET): the model of
a life of one wheel object (`ROp`, `Life`, `rstep`, `rrun`) and its invariant.

`reset()` restarts the ids at 1 (`_nextId.store(1)`), so timer ids are unique only WITHIN an epoch (the span between two
successful `reset()` calls).  The life of one wheel object is therefore modelled as a list of `ROp`s: ordinary operations, which
extend the history of the CURRENT epoch, and `reset`, which — on a STOPPED wheel, the only state in which the code allows the call
(`assert`) — installs the reset wheel and opens a new, empty epoch history.  The invariant `Inv` of `Lemmas/TimingWheel.lean`
holds for the current epoch of every reachable life (`inv_rrun`): by `Inv.idle` a STOPPED wheel holds no entry, so the reset wheel
satisfies `Inv` with the empty history (`reset_inv`), and `reset()`'s own `clearAllEntries()` never drops a timer that conservation (W1)
has not already accounted for.
-/
namespace Iora.Wheel

inductive ROp where
  | op (o : Op)
  | reset
  deriving Repr

/-- one wheel object: the wheel, the `(op, answer)` history of the CURRENT epoch, and the number of completed epochs -/
structure Life where
  w : Wheel
  h : Hist
  epochs : Nat

/-- `reset()` on a wheel that is not STOPPED violates the code's `assert` (a contract violation of the caller): no transition -/
def rstep (c : Cfg) (s : Life) : ROp → Life
  | .op o => ⟨(step c s.w o).1, s.h ++ [(o, (step c s.w o).2)], s.epochs⟩
  | .reset => if s.w.state = .stopped then ⟨reset s.w, [], s.epochs + 1⟩ else s

def rrunFrom (c : Cfg) (s : Life) (rops : List ROp) : Life := rops.foldl (rstep c) s

def rrun (c : Cfg) (rops : List ROp) : Life := rrunFrom c ⟨Wheel.init c, [], 0⟩ rops

/-- what `reset()` makes of a STOPPED wheel `w` -/
structure Cleared (w w' : Wheel) : Prop where
  entries : w'.entries = []
  nextId : w'.nextId = 1
  lastAdvance : w'.lastAdvance = none
  cur : ∀ l, curAt w' l = 0
  curLen : w'.cur.length = w.cur.length
  state : w'.state = .reset
  accepting : w'.accepting = w.accepting

theorem reset_clears (w : Wheel) (h : w.state = .stopped) : Cleared w (reset w) := by
  have hr : reset w = { w with entries := [], cur := List.replicate w.cur.length 0, lastAdvance := none, nextId := 1, state := .reset } :=
    if_pos h
  rw [hr]
  refine ⟨rfl, rfl, rfl, fun l => ?_, List.length_replicate, rfl, rfl⟩
  unfold curAt
  simp only [List.getElem?_replicate]
  split <;> rename_i hh
  · split at hh
    · cases hh; rfl
    · cases hh
  · rfl

theorem reset_inv {c : Cfg} {w : Wheel} {h : Hist} (i : Inv c w h) (hs : w.state = .stopped) : Inv c (reset w) [] := by
  have r := reset_clears w hs
  refine ⟨by simp [ids, r.entries, left, issued], by simp [issued], by simp [issued], by rw [r.nextId]; decide, by simp [r.entries],
          r.curLen.trans i.curLen, by simp [r.entries], ?_, fun _ => r.entries⟩
  intro ha
  rw [r.accepting, i.not_accepting_of_stopped hs] at ha
  cases ha

theorem rrun_reset (c : Cfg) (rops : List ROp) (hs : (rrun c rops).w.state = .stopped) :
    rrun c (rops ++ [.reset]) = ⟨reset (rrun c rops).w, [], (rrun c rops).epochs + 1⟩ := by
  simp only [rrun, rrunFrom, List.foldl_append, List.foldl_cons, List.foldl_nil, rstep]
  simp only [rrun, rrunFrom] at hs
  simp [hs]

theorem inv_rstep (c : Cfg) (s : Life) (r : ROp) (i : Inv c s.w s.h) : Inv c (rstep c s r).w (rstep c s r).h := by
  cases r with
  | op o => exact inv_step c s.w s.h o i
  | reset =>
    simp only [rstep]
    split
    · rename_i hs; exact reset_inv i hs
    · exact i

theorem inv_rrunFrom (c : Cfg) : ∀ (rops : List ROp) (s : Life), Inv c s.w s.h → Inv c (rrunFrom c s rops).w (rrunFrom c s rops).h
  | [], _, i => i
  | r :: rops, s, i => inv_rrunFrom c rops (rstep c s r) (inv_rstep c s r i)

theorem inv_rrun (c : Cfg) (rops : List ROp) : Inv c (rrun c rops).w (rrun c rops).h := inv_rrunFrom c rops _ (Inv.init c)

/-- a run is a life without `reset` -/
theorem rrunFrom_ops (c : Cfg) : ∀ (ops : List Op) (s : Life),
    (rrunFrom c s (ops.map .op)).w = (runFrom c s.w s.h ops).1 ∧ (rrunFrom c s (ops.map .op)).h = (runFrom c s.w s.h ops).2
  | [], _ => ⟨rfl, rfl⟩
  | o :: ops, s => by
    simp only [List.map_cons, rrunFrom, List.foldl_cons, runFrom]
    exact rrunFrom_ops c ops (rstep c s (.op o))

end Iora.Wheel
