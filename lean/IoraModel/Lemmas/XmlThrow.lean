import IoraModel.Lemmas.XmlExplicit
/-! The two builds of the tokenizer (`IORA_XML_THROW_ON_ERROR` = 0 / 1) compared: one call of `next()` gives the same token and state
in both; an error is the same error at the same cursor, or the default build's "invalid … name" (`isNameErr`) where the throwing
build reports "name too long" (the first `fail()` ends the call). -/
namespace Iora.Xml
open Iora

def Options.thr (o : Options) : Options := { o with throwing := true }

/-- the four messages a caller of `readName` substitutes for the empty view -/
def ErrKind.isNameErr : ErrKind → Bool
  | .badStartName | .badEndName | .badAttrName | .badPiTarget => true
  | _ => false

/-- reader results: equal, or the default build's `fail(k)` is the throwing build's `fail("name too long")` at the same cursor -/
def RRel {α : Type} (k : ErrKind) (r r' : Res α) : Prop := r' = r ∨ ∃ c, r = .fail k c ∧ r' = .fail .nameTooLong c

/-- step results: equal, or an error at the same cursor that the throwing build reports as "name too long" -/
def SRel (s s' : Step) : Prop := s' = s ∨ ∃ e c, e.isNameErr = true ∧ s = .err e c ∧ s' = .err .nameTooLong c

theorem RRel.refl {α : Type} (k : ErrKind) (r : Res α) : RRel k r r := Or.inl rfl
theorem SRel.refl (s : Step) : SRel s s := Or.inl rfl

theorem bind_rrel {α β : Type} {k : ErrKind} (r : Res α) {f f' : α → Cur → Res β} (h : ∀ a c, RRel k (f a c) (f' a c)) :
    RRel k (r.bind f) (r.bind f') := by
  cases r with
  | ok a c => exact h a c
  | fail e c => exact Or.inl rfl
  | bad b => exact Or.inl rfl

theorem toStep_srel {α : Type} (r : Res α) {f f' : α → Cur → Step} (h : ∀ a c, SRel (f a c) (f' a c)) :
    SRel (r.toStep f) (r.toStep f') := by
  cases r with
  | ok a c => exact h a c
  | fail e c => exact Or.inl rfl
  | bad b => exact Or.inl rfl

theorem ite_rel {α : Sort _} {R : α → α → Prop} {p : Prop} [Decidable p] {a a' b b' : α} (ha : R a a') (hb : R b b') :
    R (if p then a else b) (if p then a' else b') := by
  by_cases h : p
  · rw [if_pos h, if_pos h]; exact ha
  · rw [if_neg h, if_neg h]; exact hb

theorem readName_thr (o : Options) (c : Cur) :
    readNameC o.thr c = readNameC o c ∨ ∃ c', readNameC o c = .ok none c' ∧ readNameC o.thr c = .fail .nameTooLong c' := by
  unfold readNameC
  cases c.rest with
  | nil => exact .inl rfl
  | cons ch r =>
    dsimp only
    by_cases hns : (!isNameStart ch) = true
    · rw [if_pos hns, if_pos hns]; exact .inl rfl
    rw [if_neg hns, if_neg hns]
    cases advR (1 + spanLen isNameChar r) c with
    | fail e c' => exact .inl rfl
    | bad b => exact .inl rfl
    | ok a c' =>
      simp only [Res.bind, Options.thr]
      by_cases hl : c'.pos - c.pos > o.maxName
      · rw [if_pos hl, if_pos hl, if_pos trivial]
        by_cases ht : o.throwing = true
        · rw [if_pos ht]; exact .inl rfl
        · rw [if_neg ht]; exact .inr ⟨c', rfl, rfl⟩
      · rw [if_neg hl, if_neg hl]; exact .inl rfl

/-- a caller of `readName` that turns the empty view into its own error -/
theorem readName_toStep_srel (o : Options) (c : Cur) (ek : ErrKind) (hek : ek.isNameErr = true) {f f' : Slice → Cur → Step}
    (h : ∀ nm c1, SRel (f nm c1) (f' nm c1)) :
    SRel ((readNameC o c).toStep fun name c1 => match name with | none => .err ek c1 | some nm => f nm c1)
         ((readNameC o.thr c).toStep fun name c1 => match name with | none => .err ek c1 | some nm => f' nm c1) := by
  rcases readName_thr o c with he | ⟨c', h1, h2⟩
  · rw [he]
    apply toStep_srel
    intro a c1
    cases a with
    | none => exact Or.inl rfl
    | some nm => exact h nm c1
  · rw [h1, h2]
    exact Or.inr ⟨ek, c', hek, rfl, rfl⟩

theorem readAttributes_thr (o : Options) : ∀ (fuel : Nat) (acc : List Attr) (c : Cur),
    RRel .badAttrName (readAttributesC o fuel acc c) (readAttributesC o.thr fuel acc c)
  | 0, _, _ => .inl rfl
  | fuel + 1, acc, c => by
    unfold readAttributesC
    refine bind_rrel _ fun _ c1 => ?_
    cases c1.rest with
    | nil => exact .inl rfl
    | cons ch _ =>
      refine ite_rel (.inl rfl) ?_
      rcases readName_thr o c1 with he | ⟨c', h1, h2⟩
      · rw [he]
        refine bind_rrel _ fun name c2 => ?_
        cases name with
        | none => exact .inl rfl
        | some nm =>
          refine bind_rrel _ fun _ c3 => ?_
          cases c3.rest with
          | nil => exact .inl rfl
          | cons e _ =>
            exact ite_rel (.inl rfl) (bind_rrel _ fun _ c4 => bind_rrel _ fun _ c5 => bind_rrel _ fun v c6 =>
              ite_rel (.inl rfl) (readAttributes_thr o fuel _ c6))
      · rw [h1, h2]; exact .inr ⟨c', rfl, rfl⟩

theorem readStart_thr (o : Options) (s : St) (st c : Cur) :
    SRel (readStartOrEmptyTagC o s st c) (readStartOrEmptyTagC o.thr s st c) := by
  unfold readStartOrEmptyTagC
  apply readName_toStep_srel o c .badStartName rfl
  intro nm c1
  rcases readAttributes_thr o (c1.rest.length + 1) [] c1 with he | ⟨c', h1, h2⟩
  · rw [he]; exact Or.inl rfl
  · rw [h1, h2]; exact Or.inr ⟨_, c', rfl, rfl, rfl⟩

theorem markupC_thr (o : Options) (s : St) (c c1 : Cur) (n : UInt8) : SRel (markupC o s c c1 n) (markupC o.thr s c c1 n) := by
  unfold markupC
  refine ite_rel (toStep_srel _ fun _ c2 => readName_toStep_srel o c2 .badPiTarget rfl fun _ _ => .inl rfl) ?_
  -- `<!`: `bangC` does not look at the options
  refine ite_rel (SRel.refl _) ?_
  exact ite_rel (toStep_srel _ fun _ c2 => readName_toStep_srel o c2 .badEndName rfl fun _ _ => .inl rfl) (readStart_thr o s c c1)

theorem nextC_thr (o : Options) (s : St) : SRel (nextC o s) (nextC o.thr s) := by
  rw [nextC_eq o s, nextC_eq o.thr s]
  refine ite_rel (SRel.refl _) (toStep_srel _ fun _ c => ?_)
  cases c.rest with
  | nil => exact SRel.refl _
  | cons ch r =>
    refine ite_rel (toStep_srel _ fun _ c1 => ?_) (SRel.refl _)
    cases c1.rest with
    | nil => exact SRel.refl _
    | cons n _ => exact markupC_thr o s c c1 n

/-- **the two builds, one call of `next()`**: same token and state, same Eof, and an error is the same error at the same cursor
unless the throwing build reports it as "name too long" -/
theorem next_thr (o : Options) (s : St) : SRel (next o s) (next o.thr s) := by
  rw [next_eq, next_eq]; exact nextC_thr o s

/-- how a run ends in the two builds: the same way, or with an "invalid … name" error that the throwing build reports as
"name too long" — same cursor, same state -/
def ORel (out out' : Outcome) : Prop :=
  out' = out ∨ ∃ e c s, e.isNameErr = true ∧ out = .error e c s ∧ out' = .error .nameTooLong c s

theorem run_thr (o : Options) : ∀ (fuel : Nat) (s : St),
    (run o.thr fuel s).1 = (run o fuel s).1 ∧ ORel (run o fuel s).2 (run o.thr fuel s).2 := by
  intro fuel
  induction fuel with
  | zero => intro s; exact ⟨rfl, Or.inl rfl⟩
  | succ f ih =>
    intro s
    simp only [run]
    rcases next_thr o s with he | ⟨e, c, hn, h1, h2⟩
    · rw [he]
      cases next o s with
      | tok t s' =>
        simp only
        have := ih s'
        exact ⟨by rw [this.1], this.2⟩
      | eof t s' => exact ⟨rfl, Or.inl rfl⟩
      | err e c => exact ⟨rfl, Or.inl rfl⟩
      | bad b => exact ⟨rfl, Or.inl rfl⟩
    · rw [h1, h2]
      exact ⟨rfl, Or.inr ⟨e, c, s, hn, rfl, rfl⟩⟩

/-- **the two builds, whole documents**: the throwing build returns exactly the tokens of the default build and ends the same way
(the exception carries the same error, recorded at the same cursor), or as `ORel` allows: "name too long" for an "invalid … name" -/
theorem tokens_thr (o : Options) (bs : Bytes) :
    (tokens o.thr bs).1 = (tokens o bs).1 ∧ ORel (tokens o bs).2 (tokens o.thr bs).2 :=
  run_thr o (bs.length + 2) (St.init bs)

/-- **SAX in the two builds**: the same callbacks with the same tokens in the same order (whether `runSax` then returns false or
the exception leaves it is `ORel`) -/
theorem runSax_thr (reg : Registered) (o : Options) (bs : Bytes) : (runSax reg o.thr bs).1 = (runSax reg o bs).1 := by
  unfold runSax
  simp only [(tokens_thr o bs).1]

/-- **DOM in the two builds**: whenever the default build returns a document or fails in `decodeEntities`, the throwing build
returns exactly the same; where the default build returns `nullptr` with the tokenizer's error, the throwing build lets the
exception out of `build` — the same error at the same position, or "name too long" for an "invalid … name" -/
theorem domBuildT_spec (o : Options) (bs : Bytes) :
    match domBuildT o bs with
    | .ret r => domBuild o bs = r
    | .thrown e c => ∃ e', domBuild o bs = .null e' c.pos c.line c.col ∧ (e = e' ∨ (e'.isNameErr = true ∧ e = .nameTooLong)) := by
  obtain ⟨htok, hout⟩ := tokens_thr o bs
  have hthr : ({ o with throwing := true } : Options) = o.thr := rfl
  unfold domBuildT domBuild domOf
  simp only [hthr, htok]
  cases hf : domFold bs {} (tokens o bs).1 with
  | inr res => simp only
  | inl d =>
    simp only
    rcases hout with he | ⟨e, c, s, hn, h1, h2⟩
    · rw [he]
      cases ho : (tokens o bs).2 with
      | accepted t s => simp only
      | error e c s => simp only; exact ⟨e, rfl, Or.inl rfl⟩
      | bad b => simp only
    · rw [h2, h1]
      simp only
      exact ⟨e, rfl, Or.inr ⟨hn, trivial⟩⟩

end Iora.Xml
