import IoraModel.Model.JsonFileStore
import IoraModel.Lemmas.KvLog
/-! One flush of `JsonFileStore` is the replacement of a file through a temporary file (`replaceOps` of `Lemmas/KvLog.lean`): the
store file holds the old text or the new one, never a part. -/
namespace Iora.Jfs
open Iora Iora.Kv

theorem saveOps_eq (data : Bytes) : saveOps data = replaceOps data := rfl

theorem saveOps_snap (fs : Fs) (data : Bytes) : (applyAll fs (saveOps data)).snap = some data := by
  rw [saveOps_eq, applyAll_replaceOps]

/-- every crash image of one flush (temp file truncated, written in part or in full, renamed): the store file is untouched, or it
is the complete new text -/
theorem crash_any (fs : Fs) (data : Bytes) (img : Fs) (h : IsCrashImage fs (saveOps data) img) :
    loaded img = loaded fs ∨ loaded img = some data := by
  rcases isCrashImage_replaceOps fs data img (saveOps_eq data ▸ h) with ⟨t, rfl⟩ | rfl
  · exact .inl rfl
  · exact .inr rfl

/-- the working tree has the temp-file + rename shape (fails to build if `saveToFile` rewrites in place) -/
theorem saveToFile_eq (data : Bytes) : saveToFile data = saveOps data := by
  have h : Gen.Kv.jsonSaveViaTempRename = true := by decide
  simp [saveToFile, h]

theorem flushAll_snap (fs : Fs) (datas : List Bytes) (d : Bytes) : (flushAll fs (datas ++ [d])).snap = some d := by
  simp only [flushAll, List.foldl_append, List.foldl_cons, List.foldl_nil, saveToFile_eq]
  exact saveOps_snap _ d

end Iora.Jfs
