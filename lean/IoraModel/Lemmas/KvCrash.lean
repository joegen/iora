import IoraModel.Lemmas.KvFiles
/-! Crash images of the store's directory: every image of the file operations a call issues is a directory the constructor
recovers from, showing for each key what memory held before or after the call (D3; recovery itself: `open_torn` in
`Lemmas/KvFiles.lean`). -/
namespace Iora.Kv
open Iora

/-- every crash image of `tr` issued on `fs` is a directory the constructor recovers from, and what it replays to shows,
for every key, `old` or `new` (to every reader from `now` on) -/
def CrashAdm (cfg : Cfg) (now : Int) (fs : Fs) (tr : List FsOp) (old new : Key → Option Ent) : Prop :=
  ∀ img, IsCrashImage fs tr img → ∃ ents rs p, TornDurable cfg img ents rs p ∧
    ∀ k, Eqv now ((rep cfg.lim ents rs).look k) (old k) ∨ Eqv now ((rep cfg.lim ents rs).look k) (new k)

/-- what one image must be: `CrashAdm` of the empty trace, at the image (`CrashAdm.self` is the converse) -/
theorem CrashAdm.nil {cfg : Cfg} {now : Int} {fs : Fs} {ents : List (Key × Val × Option Int)} {rs : List Rec} {p : Bytes}
    {old new : Key → Option Ent} (hd : TornDurable cfg fs ents rs p)
    (h : ∀ k, Eqv now ((rep cfg.lim ents rs).look k) (old k) ∨ Eqv now ((rep cfg.lim ents rs).look k) (new k)) :
    CrashAdm cfg now fs [] old new := by
  intro img hi
  rw [isCrashImage_nil fs img hi]
  exact ⟨ents, rs, p, hd, h⟩

theorem CrashAdm.self {cfg : Cfg} {now : Int} {fs : Fs} {old new : Key → Option Ent} (h : CrashAdm cfg now fs [] old new) :
    ∃ ents rs p, TornDurable cfg fs ents rs p ∧
      ∀ k, Eqv now ((rep cfg.lim ents rs).look k) (old k) ∨ Eqv now ((rep cfg.lim ents rs).look k) (new k) :=
  h fs ⟨[], [], rfl, .inl rfl⟩

theorem CrashAdm.head {cfg : Cfg} {now : Int} {fs : Fs} {tr : List FsOp} {old new : Key → Option Ent}
    (h : CrashAdm cfg now fs tr old new) : CrashAdm cfg now fs [] old new :=
  fun img hi => isCrashImage_nil fs img hi ▸ h fs ⟨[], tr, rfl, .inl rfl⟩

theorem CrashAdm.swap {cfg : Cfg} {now : Int} {fs : Fs} {tr : List FsOp} {old new : Key → Option Ent}
    (h : CrashAdm cfg now fs tr old new) : CrashAdm cfg now fs tr new old := fun img hi =>
  have ⟨ents, rs, p, hd, hk⟩ := h img hi
  ⟨ents, rs, p, hd, fun k => (hk k).symm⟩

/-- the first operation: the directory before it and — for a write — after any part of it (each as a trace of no operation),
then the rest of the trace on the directory after it -/
theorem CrashAdm.cons {cfg : Cfg} {now : Int} {fs : Fs} {o : FsOp} {ops : List FsOp} {old new : Key → Option Ent}
    (h0 : CrashAdm cfg now fs [] old new)
    (hcut : ∀ f bs p q, o = .append f bs → bs = p ++ q → CrashAdm cfg now ((FsOp.append f p).apply fs) [] old new)
    (h1 : CrashAdm cfg now (o.apply fs) ops old new) : CrashAdm cfg now fs (o :: ops) old new := by
  intro img hi
  rcases isCrashImage_cons fs o ops img hi with h | ⟨f, bs, p, q, ho, hb, h⟩ | h
  · rw [h]; exact h0.self
  · rw [h]; exact (hcut f bs p q ho hb).self
  · exact h1 img h

theorem CrashAdm.append (cfg : Cfg) (now : Int) (fs : Fs) (a b : List FsOp) (old new : Key → Option Ent)
    (h1 : CrashAdm cfg now fs a old new) (h2 : CrashAdm cfg now (applyAll fs a) b old new) :
    CrashAdm cfg now fs (a ++ b) old new := by
  induction a generalizing fs with
  | nil => exact h2
  | cons o a ih =>
    -- what `CrashAdm.cons` asks about `o` and about `a` are images of `o :: a`
    refine .cons h1.head (fun f bs p q ho hb img hi => h1 img ?_)
      (ih _ (fun img hi => h1 img ?_) h2)
    · rw [isCrashImage_nil _ img hi]; exact ⟨[], o :: a, rfl, .inr ⟨f, bs, a, p, q, by rw [ho], hb, rfl⟩⟩
    · obtain ⟨pre, post, he, h⟩ := hi
      exact ⟨o :: pre, post, by rw [he]; rfl, h⟩

theorem CrashAdm.mono {cfg : Cfg} {now : Int} {fs : Fs} {tr : List FsOp} {old new old' new' : Key → Option Ent}
    (h : CrashAdm cfg now fs tr old' new')
    (ho : ∀ k, Eqv now (old' k) (old k) ∨ Eqv now (old' k) (new k))
    (hn : ∀ k, Eqv now (new' k) (old k) ∨ Eqv now (new' k) (new k)) : CrashAdm cfg now fs tr old new := by
  intro img hi
  obtain ⟨ents, rs, p, hd, hk⟩ := h img hi
  refine ⟨ents, rs, p, hd, fun k => ?_⟩
  rcases hk k with h1 | h1
  · rcases ho k with h2 | h2
    · exact .inl (h1.trans h2)
    · exact .inr (h1.trans h2)
  · rcases hn k with h2 | h2
    · exact .inl (h1.trans h2)
    · exact .inr (h1.trans h2)

/-- replaying the same written records a second time over (the live part of) their own result changes nothing that a
reader can see: this is why a crash between the snapshot rename and the log reset is harmless -/
theorem foldKey_idem (l : Lim) (k : Key) (rs : List Rec) (h : ∀ r ∈ rs, r.WF l) (now : Int) (x : Option Ent) :
    Eqv now (foldKey l k rs (live now (foldKey l k rs x))) (foldKey l k rs x) := by
  cases foldKey_class l k rs h with
  | const c hc => rw [hc, hc]; exact Eqv.refl _ _
  | ident hi => rw [hi, hi]; exact Eqv.live_left now x
  | expiry E hE =>
    rw [hE (live now _), hE x]
    -- F x = x.map (·.1, E): either it is live now (then re-applying E changes nothing) or it is dead from now on
    match x with
    | none => exact Eqv.refl _ _
    | some (v, old) =>
      simp only [Option.map_some]
      match E with
      | none => simp only [live_some_none, Option.map_some]; exact Eqv.refl _ _
      | some e =>
        by_cases hlt : now < e
        · simp only [live, hlt, ↓reduceIte, Option.map_some]; exact Eqv.refl _ _
        · simp only [live, hlt, ↓reduceIte, Option.map_none]
          exact (Eqv.expired now v e (by omega)).symm

/-- the file operations of `compactLocked`: the snapshot replaced through `<path>.tmp`, then the log reset -/
def compOps (cfg : Cfg) (w : W) : List FsOp :=
  replaceOps (encodeSnap cfg.lim (survivors w.mem w.now)) ++ [.trunc .log 0]

theorem compactLocked_tr (cfg : Cfg) (w : W) : (compactLocked cfg w).tr = w.tr ++ compOps cfg w := by
  simp [compactLocked, W.emit, compOps, replaceOps]

theorem compactLocked_fs_applyAll (cfg : Cfg) (w : W) : (compactLocked cfg w).fs = applyAll w.fs (compOps cfg w) := by
  simp [compactLocked, W.emit, compOps, replaceOps, applyAll]

/-- a crash anywhere inside a compaction — temp file partly or fully written, renamed over the snapshot but the log not
yet reset (the old log is then replayed over the new snapshot: idempotent), or after the reset — loses and resurrects nothing: every
image shows the old entry of every key, so `new` is arbitrary -/
theorem CrashAdm.comp (cfg : Cfg) (w : W) (hf : FInv cfg w) (hc : w.mem.kv.length ≤ cfg.lim.snapCountMax)
    (new : Key → Option Ent) : CrashAdm cfg w.now w.fs (compOps cfg w) w.mem.look new := by
  obtain ⟨ents, rs, hd, he⟩ := hf.file
  have hsw := survivors_wf cfg w hf
  have hsl : (survivors w.mem w.now).length ≤ cfg.lim.snapCountMax := by
    have := survivors_length w.mem w.now; omega
  -- what the new snapshot replays to, alone and under the old log
  have hnew0 : ∀ k, (snapState (survivors w.mem w.now)).look k = live w.now (w.mem.look k) := by
    intro k; rw [look_snapState_survivors cfg w hf.nodup k, compact_look_eq_live]
  have hnew1 : ∀ k, Eqv w.now ((rep cfg.lim (survivors w.mem w.now) rs).look k) (w.mem.look k) := by
    intro k
    have h := he k
    rw [look_rep] at h
    rw [look_rep, hnew0 k, ← Eqv.iff_live.mp h]
    exact (foldKey_idem cfg.lim k rs hd.recsWF w.now _).trans h
  -- the directories the four operations go through: old snapshot + old log (whatever `<path>.tmp` holds); new snapshot +
  -- old log; new snapshot + empty log
  have told : ∀ t, CrashAdm cfg w.now (w.fs.set .tmp t) [] w.mem.look new :=
    fun t => .nil ((hd.torn).setTmp _ _ _ _ _ t) fun k => .inl (he k)
  have tren : CrashAdm cfg w.now { snap := some (encodeSnap cfg.lim (survivors w.mem w.now)), log := w.fs.log, tmp := none } []
      w.mem.look new :=
    .nil (ents := survivors w.mem w.now) (rs := rs) (p := []) ⟨.inr rfl, hsw, hsl, by simp [hd.log], hd.recsWF, .inl rfl⟩
      fun k => .inl (hnew1 k)
  have tfin : CrashAdm cfg w.now { snap := some (encodeSnap cfg.lim (survivors w.mem w.now)), log := some [], tmp := none } []
      w.mem.look new :=
    .nil (ents := survivors w.mem w.now) (rs := []) (p := []) ⟨.inr rfl, hsw, hsl, rfl, by simp, .inl rfl⟩ fun k => .inl (by
      simp only [rep, List.foldl_nil]
      rw [hnew0 k]
      exact Eqv.live_left w.now _)
  refine .append _ _ _ _ _ _ _ (fun img hi => ?_) ?_
  · rcases isCrashImage_replaceOps _ _ _ hi with ⟨t, rfl⟩ | rfl
    · exact (told t).self
    · exact tren.self
  · rw [applyAll_replaceOps]
    exact .cons tren (fun _ _ _ _ h _ => nomatch h) tfin

/-- no I/O at all: every key shows its old entry, whatever `new` is -/
theorem crash_none (cfg : Cfg) (w : W) (hf : FInv cfg w) (new : Key → Option Ent) :
    CrashAdm cfg w.now w.fs [] w.mem.look new := by
  obtain ⟨ents, rs, hd, he⟩ := hf.file
  exact .nil hd.torn fun k => .inl (he k)

theorem crash_compact (cfg : Cfg) (w : W) (hf : FInv cfg w) (htr : w.tr = []) (hc : w.mem.kv.length ≤ cfg.lim.snapCountMax) :
    CrashAdm cfg w.now w.fs (compactLocked cfg w).tr w.mem.look (compactLocked cfg w).mem.look := by
  rw [compactLocked_tr, htr, List.nil_append]
  exact CrashAdm.comp cfg w hf hc _

/-- a crash while a list of records is being appended: some prefix of them made it, then possibly a torn tail -/
theorem CrashAdm.recs (cfg : Cfg) (now : Int) (ents : List (Key × Val × Option Int)) (old new : Key → Option Ent)
    (recs : List Rec) (hwf : ∀ r ∈ recs, r.WF cfg.lim) :
    ∀ (fs : Fs) (rs : List Rec), Durable cfg fs ents rs →
      (∀ j k, Eqv now ((rep cfg.lim ents (rs ++ recs.take j)).look k) (old k)
            ∨ Eqv now ((rep cfg.lim ents (rs ++ recs.take j)).look k) (new k)) →
      CrashAdm cfg now fs (recs.map (fun r => FsOp.append .log (encode cfg.crc r))) old new := by
  induction recs with
  | nil =>
    intro fs rs hd hadm
    exact .nil hd.torn fun k => by simpa using hadm 0 k
  | cons r rest ih =>
    intro fs rs hd hadm
    have hr := hwf r (by simp)
    have h1 := ih (fun x hx => hwf x (by simp [hx])) _ (rs ++ [r]) (Durable.append cfg fs ents rs hd r hr)
      (fun j k => by simpa [List.append_assoc] using hadm (j + 1) k)
    refine .cons (.nil hd.torn fun k => by simpa using hadm 0 k) (fun f bs p q ho hb => ?_) h1
    cases ho
    by_cases hq : q = []
    · -- all of the record: the directory the rest starts from
      subst hq
      rw [List.append_nil] at hb
      exact hb ▸ h1.head
    · -- a part of it: a torn tail behind the records so far
      refine .nil (p := p) ⟨by simpa [FsOp.apply, Fs.set] using hd.snap, hd.entsWF, hd.count, ?_, hd.recsWF,
        .inr ⟨r, q, hr, hb.symm, hq⟩⟩ fun k => by simpa using hadm 0 k
      simp [FsOp.apply, Fs.set, Fs.get, hd.log]

theorem foldKey_absent (l : Lim) (k : Key) (rs : List Rec) (h : ∀ r ∈ rs, r.key ≠ k) (x : Option Ent) :
    foldKey l k rs x = x := by
  induction rs generalizing x with
  | nil => rfl
  | cons r rest ih =>
    rw [foldKey_cons, if_neg (h r (by simp))]
    exact ih (fun y hy => h y (by simp [hy])) x

/-- records for pairwise different keys: after any prefix of them every key shows its old entry or its final one -/
theorem foldKey_take (l : Lim) (k : Key) (recs : List Rec) (hd : recs.Pairwise (fun a b => a.key ≠ b.key)) :
    ∀ (j : Nat) (x : Option Ent), foldKey l k (recs.take j) x = x ∨ foldKey l k (recs.take j) x = foldKey l k recs x := by
  induction recs with
  | nil => intro j x; left; simp [foldKey]
  | cons r rest ih =>
    intro j x
    cases j with
    | zero => left; rfl
    | succ j =>
      have hp := List.pairwise_cons.mp hd
      rw [List.take_succ_cons, foldKey_cons, foldKey_cons]
      by_cases hk : r.key = k
      · simp only [hk, ↓reduceIte]
        right
        have habs : ∀ y ∈ rest, y.key ≠ k := fun y hy => by rw [← hk]; exact fun e => hp.1 y hy e.symm
        rw [foldKey_absent l k rest habs]
        exact foldKey_absent l k (rest.take j) (fun y hy => habs y (List.mem_of_mem_take hy)) _
      · simp only [hk, ↓reduceIte]
        exact ih hp.2 j x

theorem crash_sect (cfg : Cfg) {w : W} (hf : FInv cfg w) {mF : Mem} {recs : List Rec} (h : Sect cfg w.now w.mem mF recs)
    (hd : recs.Pairwise (fun a b => a.key ≠ b.key)) :
    CrashAdm cfg w.now w.fs (recs.map (fun r => FsOp.append .log (encode cfg.crc r))) w.mem.look mF.look := by
  obtain ⟨ents, rs, hdur, he⟩ := hf.file
  refine CrashAdm.recs cfg w.now ents _ _ recs h.wf w.fs rs hdur fun j k => ?_
  rw [rep_append_list]
  rcases foldKey_take cfg.lim k recs hd j ((rep cfg.lim ents rs).look k) with e | e
  · rw [e]; exact .inl (he k)
  · rw [e]; exact .inr (h.eqv k _ (he k))

/-- every call that is one critical section, crashed anywhere: the file operations it adds to the trace, the directory they
lead to, and every crash image of them -/
theorem crash_isSect (cfg : Cfg) {w w' : W} (hf : FInv cfg w) (h : IsSect cfg w w') :
    ∃ ops, w'.tr = w.tr ++ ops ∧ w'.fs = applyAll w.fs ops ∧ CrashAdm cfg w.now w.fs ops w.mem.look w'.mem.look := by
  cases h with
  | plain mF recs h hd =>
    obtain ⟨hm, -, ht, hfs⟩ := sec_io cfg w mF recs
    exact ⟨_, ht, hfs, by rw [hm]; exact crash_sect cfg hf h hd⟩
  | compact mF recs h hd hc =>
    obtain ⟨hm, hn, ht, hfs⟩ := sec_io cfg w mF recs
    rcases maybeCompact_or cfg (w.sec cfg mF recs) with e | e <;> rw [e]
    · exact ⟨_, ht, hfs, by rw [hm]; exact crash_sect cfg hf h hd⟩
    · -- the records, then the compaction on the directory they left
      have hcomp := CrashAdm.comp cfg _ (hf.sect h) (by rw [hm]; exact hc) w.mem.look
      rw [hn, hm, hfs] at hcomp
      refine ⟨recs.map (fun r => FsOp.append .log (encode cfg.crc r)) ++ compOps cfg (w.sec cfg mF recs),
        by rw [compactLocked_tr, ht, List.append_assoc],
        by rw [compactLocked_fs_applyAll, hfs, applyAll_append], ?_⟩
      -- the images of the records show `w.mem` or `mF`, those of the compaction `mF`; to every reader `mF` is the compacted memory
      -- (`mono`)
      refine (CrashAdm.append _ _ _ _ _ _ _ (crash_sect cfg hf h hd) hcomp.swap).mono (fun _ => .inl (Eqv.refl _ _)) (fun k' => .inr ?_)
      rw [compact_look_eq_live, hn, hm]
      exact (Eqv.live_left _ _).symm

/-- a sequence of critical sections, crashed anywhere: every state along the way keeps `FInv` (`hF`), every step from there is a
critical section (`hS`), and every state along the way shows, per key, `old` or `new` (`hmid`) -/
theorem crash_fold {α : Type} (cfg : Cfg) (f : W → α → W) (old new : Key → Option Ent) (xs : List α) :
    ∀ w : W,
      (∀ pre post, xs = pre ++ post → FInv cfg (pre.foldl f w)) →
      (∀ pre x post, xs = pre ++ x :: post → IsSect cfg (pre.foldl f w) (f (pre.foldl f w) x)) →
      (∀ pre post, xs = pre ++ post →
        ∀ k, Eqv w.now ((pre.foldl f w).mem.look k) (old k) ∨ Eqv w.now ((pre.foldl f w).mem.look k) (new k)) →
      ∃ ops, (xs.foldl f w).tr = w.tr ++ ops ∧ (xs.foldl f w).fs = applyAll w.fs ops ∧ CrashAdm cfg w.now w.fs ops old new := by
  induction xs with
  | nil =>
    intro w hF _ hmid
    exact ⟨[], (List.append_nil _).symm, rfl, (crash_none cfg w (hF [] [] rfl) w.mem.look).mono (hmid [] [] rfl) (hmid [] [] rfl)⟩
  | cons x rest ih =>
    intro w hF hS hmid
    have hs : IsSect cfg w (f w x) := hS [] x rest rfl
    have hn1 := hs.now
    obtain ⟨ops1, ht1, hfs1, hc1⟩ := crash_isSect cfg (show FInv cfg w from hF [] (x :: rest) rfl) hs
    obtain ⟨ops2, ht2, hfs2, hc2⟩ := ih (f w x) (fun pre post he => hF (x :: pre) post (by rw [he]; rfl))
      (fun pre y post he => hS (x :: pre) y post (by rw [he]; rfl))
      (fun pre post he k => by rw [hn1]; exact hmid (x :: pre) post (by rw [he]; rfl) k)
    refine ⟨ops1 ++ ops2, ?_, ?_, ?_⟩
    · show (rest.foldl f (f w x)).tr = _
      rw [ht2, ht1, List.append_assoc]
    · show (rest.foldl f (f w x)).fs = _
      rw [hfs2, hfs1, applyAll_append]
    · apply CrashAdm.append
      · exact hc1.mono (hmid [] (x :: rest) rfl) (hmid [x] rest rfl)
      · rw [← hfs1, ← hn1]; exact hc2

/-- a state whose reference map is `s` (at the time of `w`) shows, for every key, what `s` holds -/
theorem eqv_of_abs {w w' : W} {s : SpecSt} (h : w'.abs = s) (hn : s.now = w.now) (k : Key) :
    Eqv w.now (w'.mem.look k) (s.m k) := by
  subst h
  rw [Eqv.iff_live]
  show live w.now (w'.mem.look k) = live w.now (live w'.now (w'.mem.look k))
  rw [show w'.now = w.now from hn, live_idem]

/-- `removeWithPrefix` (a `remove` per key, each possibly followed by an inline compaction), crashed anywhere -/
theorem crash_removeWithPrefix (cfg : Cfg) (w : W) (hi : MInv cfg w.mem) (hf : FInv cfg w) (htr : w.tr = []) (p : Bytes) (ord : List Key)
    (hc : w.mem.kv.length ≤ cfg.lim.snapCountMax) :
    CrashAdm cfg w.now w.fs (opRemoveWithPrefix cfg w p ord).1.tr w.mem.look (opRemoveWithPrefix cfg w p ord).1.mem.look := by
  unfold opRemoveWithPrefix
  simp only
  have h := crash_fold cfg (opRemove cfg) w.mem.look ((prefixOrder w.mem w.now p ord).foldl (opRemove cfg) w).mem.look
    (prefixOrder w.mem w.now p ord) w (fun pre _ _ => (removeFold_finv cfg pre w hf hc).1)
    (fun pre x _ _ => opRemove_sect cfg _ (removeFold_finv cfg pre w hf hc).1 x (removeFold_finv cfg pre w hf hc).2)
  suffices hmid : _ by
    obtain ⟨ops, ht, -, hadm⟩ := h hmid
    rw [ht, htr]; exact hadm
  -- along the way every key shows its old entry or its final one
  intro pre post he k
  have h1 := eqv_of_abs (removeFold_ok cfg pre w hi).2 rfl k
  have h2 := eqv_of_abs (removeFold_ok cfg (prefixOrder w.mem w.now p ord) w hi).2 rfl k
  by_cases hk : k ∈ pre
  · have hk2 : k ∈ prefixOrder w.mem w.now p ord := by rw [he]; exact List.mem_append_left _ hk
    simp only [hk, hk2, ↓reduceIte] at h1 h2
    exact .inr (h1.trans h2.symm)
  · simp only [hk, ↓reduceIte] at h1
    exact .inl (h1.trans (Eqv.live_left _ _))

theorem opOpen_tr_durable (cfg : Cfg) (hl : cfg.lim.OK) (w : W) (hf : FInv cfg w) : (opOpen cfg w).1.tr = w.tr := by
  obtain ⟨ents, rs, hd, _⟩ := hf.file
  unfold opOpen
  rw [openStore_torn cfg hl w.fs ents rs [] hd.torn w.now]
  rfl

/-- clean close (the drain runs eviction callbacks, each appending a 'D') + reopen, crashed anywhere -/
theorem crash_reopen (cfg : Cfg) (hl : cfg.lim.OK) (w : W) (hi : MInv cfg w.mem) (hf : FInv cfg w) (htr : w.tr = []) :
    CrashAdm cfg w.now w.fs (opReopen cfg w).1.tr w.mem.look (opReopen cfg w).1.mem.look := by
  unfold opReopen opShutdown
  obtain ⟨_, hf2, _⟩ := shutdown_ok cfg (drainFires w.mem) w hi hf
  rw [opOpen_tr_durable cfg hl _ hf2]
  have h := crash_fold cfg (fun w (x : Key × Nat) => opEvictFire cfg w x.1 x.2) w.mem.look
    (opOpen cfg ((drainFires w.mem).foldl (fun w x => opEvictFire cfg w x.1 x.2) w)).1.mem.look (drainFires w.mem) w
    (fun pre _ _ => (shutdown_ok cfg pre w hi hf).2.1)
    (fun pre x _ _ => opEvictFire_sect cfg _ (shutdown_ok cfg pre w hi hf).2.1 (shutdown_ok cfg pre w hi hf).1.1.sub x.1 x.2)
  suffices hmid : _ by
    obtain ⟨ops, ht, -, hadm⟩ := h hmid
    rw [ht, htr]; exact hadm
  intro pre post _ k
  left
  exact (eqv_of_abs (shutdown_ok cfg pre w hi hf).2.2 rfl k).trans (Eqv.live_left _ _)

/-- a batch is a map: its keys are pairwise different (`std::unordered_map` argument of `setBatch`) -/
def Op.Distinct : Op → Prop
  | .setBatch kvs => (kvs.map (·.1)).Nodup
  | .setBatchTtl kvs _ => (kvs.map (·.1)).Nodup
  | _ => True

/-- one step, crashed anywhere: every crash image of the file operations a step issues is a directory the constructor recovers
from, and shows for each key what memory held before the step or after it.  Ten operations are one critical section (`crash_isSect`);
`removeWithPrefix` and close+reopen are sequences of them, `compact` is `compOps` alone, a clock advance issues nothing. -/
theorem crash_step (cfg : Cfg) (hl : cfg.lim.OK) (w : W) (hi : Inv cfg w) (op : Op) (hok : StepOK cfg w op) (hd : op.Distinct) :
    CrashAdm cfg w.now w.fs (step cfg w op).1.tr w.mem.look (step cfg w op).1.mem.look := by
  have hf := FInv.resetTr cfg w hi.file
  have him : MInv cfg ({ w with tr := [] } : W).mem := hi.minv
  obtain ⟨hc, ht⟩ := hok
  have one {w' : W} (h : IsSect cfg { w with tr := [] } w') : CrashAdm cfg w.now w.fs w'.tr w.mem.look w'.mem.look := by
    obtain ⟨ops, ht, -, hadm⟩ := crash_isSect cfg hf h
    rw [ht]; exact hadm
  unfold step
  cases op with
  | set k v => exact one (opSet_sect cfg _ hf k v hc)
  | setTtl k v ttl => exact one (opSetTtl_sect cfg hl _ hf k v ttl hc)
  | setBatch kvs => exact one ((opSetBatch_sect cfg _ hf kvs hc).2 hd)
  | setBatchTtl kvs ttl => exact one ((opSetBatchTtl_sect cfg hl _ hf kvs ttl hc).2 hd)
  | get k => exact one (opGet_sect cfg _ hf k)
  | remove k => exact one (opRemove_sect cfg _ hf k (by simp only [Op.adds] at hc; exact hc))
  | removeWithPrefix p ord => exact crash_removeWithPrefix cfg _ him hf rfl p ord (by simp only [Op.adds] at hc; exact hc)
  | clear => exact one (opClear_sect cfg _ hf)
  | expireAt k t => exact one (opExpireAt_sect cfg hl _ hf k t ht)
  | persist k => exact one (opPersist_sect cfg _ hf k)
  | compact => exact crash_compact cfg _ hf rfl (by simp only [Op.adds] at hc; exact hc)
  | advance dt => exact crash_none cfg _ hf _
  | evictFire k g => exact one (opEvictFire_sect cfg _ hf hi.mem.sub k g)
  | reopen => exact crash_reopen cfg hl _ him hf rfl

/-- a process crash at file operation `k` (cut after `cut` bytes if it is a write) of step `op`, then a new process on
what is left, at time `t` -/
def crashRecover (cfg : Cfg) (w : W) (op : Op) (k cut : Nat) (t : Int) (m0 : Mem) : W × Out :=
  opOpen cfg { mem := m0, fs := crashImage w.fs (step cfg w op).1.tr k cut, tr := [], now := t }

end Iora.Kv
