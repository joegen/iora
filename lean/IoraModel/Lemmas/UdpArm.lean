import IoraModel.Lemmas.UdpEngine
/-!
The epoll interest invariant: every listener socket and every client socket always has `EPOLLIN` in the mask last handed to epoll, and
`EPOLLOUT` exactly when `wantWrite && !wq.empty()` — so an arriving datagram is never left unseen for lack of interest.
-/
namespace Iora.Udp

structure ArmInv (st : State) : Prop where
  lst : ∀ (lid : Nat) l, st.listeners lid = some l → LstOk l
  cli : ∀ (sid : Nat) s, st.sessions sid = some s → SessOk s

theorem arm_init : ArmInv {} := ⟨fun _ _ h => (nomatch h), fun _ _ h => (nomatch h)⟩

theorem Ops.arm {cfg : Cfg} {loud : Bool} (hf : ArmFacts cfg) {st : State} {r : State × List Out} (hops : Ops cfg loud st r) (h : ArmInv st) : ArmInv r.1 := by
  induction hops with
  | emit => exact h
  | skipId | tick => exact ⟨h.lst, h.cli⟩
  | setSess _ _ hs _ hok => exact ⟨h.lst, upd_all h.cli fun _ e => Option.some.inj e ▸ hok hf (h.cli _ _ hs)⟩
  | setLst _ _ _ hok => exact ⟨upd_all h.lst fun _ e => Option.some.inj e ▸ hok hf, h.cli⟩
  | opens _ _ _ hok => exact ⟨h.lst, upd_all h.cli fun _ e => Option.some.inj e ▸ hok hf⟩
  | drop => exact ⟨h.lst, upd_all h.cli fun _ e => nomatch e⟩
  | @restart st =>
    obtain ⟨ix, e, _⟩ := shutdownDrain_eq cfg st
    rw [e]
    exact ⟨fun _ _ e => (nomatch e), fun _ _ e => (nomatch e)⟩
  | seq _ _ ih1 ih2 => exact ih2 (ih1 h)

theorem run_arm (cfg : Cfg) (hf : ArmFacts cfg) (is : List In) : ArmInv (run cfg is).1 := (runFrom_ops cfg is 0 {}).arm hf arm_init

end Iora.Udp
