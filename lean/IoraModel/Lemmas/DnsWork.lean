import IoraModel.Lemmas.DnsSafe
/-! N4 for C19 at message level: the work of `parse` is linear in the message size.  Every question / record round advances
the offset by at least 5 / 11 bytes or ends the parse, and every name decoded in a round costs a CONSTANT number of loop
iterations (the bound on compression pointers per name). -/
namespace Iora.Dns
open Iora

/-- rounds of the question loop that `parse` executes (it stops at the first failure) -/
def questionRounds (m : Bytes) : Nat → Nat → Nat
  | 0, _ => 0
  | n + 1, off =>
    match parseQuestion m off with
    | .error _ => 1
    | .ok (_, off') => 1 + questionRounds m n off'

/-- rounds of one record-section loop that `parse` executes (the inner `.error` arm is that of `parseSection`; it never fires:
`parseTypedRecord_eq`) -/
def sectionRounds (m : Bytes) : Nat → Nat → Nat
  | 0, _ => 0
  | n + 1, off =>
    match parseRR m off with
    | .error _ => 1
    | .ok (rr, rdOff, off') =>
      match parseTypedRecord rr m rdOff with
      | .error _ => 1
      | .ok _ => 1 + sectionRounds m n off'

/-- the question loop started inside the message: its rounds are paid for, five bytes each, by the bytes up to the end of the
message, and if it runs through, by the bytes up to where it stops (inside the message) — and then it made exactly `n` rounds -/
theorem questionRounds_spec (m : Bytes) : ∀ (n off : Nat), off ≤ m.length →
    5 * questionRounds m n off + off ≤ m.length + 5 ∧
    ∀ acc qs o1, parseQuestions m n off acc = .ok (qs, o1) →
      5 * questionRounds m n off + off ≤ o1 ∧ o1 ≤ m.length ∧ questionRounds m n off = n
  | 0, off, h => ⟨Nat.le_add_right_of_le (by rw [questionRounds]; omega), fun acc qs o1 hq => by cases hq; rw [questionRounds]; omega⟩
  | n + 1, off, _ => by
    cases hq : parseQuestion m off with
    | error e => simp only [questionRounds, parseQuestions, hq]; exact ⟨by omega, nofun⟩
    | ok r =>
      obtain ⟨q, off'⟩ := r
      have hp : off + 5 ≤ off' ∧ off' ≤ m.length := (parseQuestion_post m off).of_ok hq
      have ih := questionRounds_spec m n off' hp.2
      simp only [questionRounds, parseQuestions, hq]
      refine ⟨by omega, fun acc qs o1 h => ?_⟩
      have := ih.2 _ qs o1 h
      omega

/-- the same for a record section, eleven bytes per accepted record -/
theorem sectionRounds_spec (m : Bytes) : ∀ (n off : Nat), off ≤ m.length →
    11 * sectionRounds m n off + off ≤ m.length + 11 ∧
    ∀ rs ts rs' ts' o1, parseSection m n off rs ts = .ok (rs', ts', o1) →
      11 * sectionRounds m n off + off ≤ o1 ∧ o1 ≤ m.length ∧ sectionRounds m n off = n
  | 0, off, h => ⟨Nat.le_add_right_of_le (by rw [sectionRounds]; omega), fun rs ts rs' ts' o1 hq => by cases hq; rw [sectionRounds]; omega⟩
  | n + 1, off, _ => by
    cases hr : parseRR m off with
    | error e => simp only [sectionRounds, parseSection, hr]; exact ⟨by omega, nofun⟩
    | ok r =>
      obtain ⟨rr, rdOff, off'⟩ := r
      have hp : off + 11 ≤ off' ∧ off' ≤ m.length := (parseRR_post m off).of_ok hr
      have ih := sectionRounds_spec m n off' hp.2
      -- `parseTypedRecord` does not fail (`parseTypedRecord_eq`), so an accepted record never ends the loop
      simp only [sectionRounds, parseSection, hr, parseTypedRecord_eq]
      refine ⟨by omega, fun rs ts rs' ts' o1 h => ?_⟩
      have := ih.2 _ _ rs' ts' o1 h
      omega

/-- all loop rounds `parse` executes on `m` (header aside): questions, then the three record sections, stopping at the first
failure.  The three counters follow the loops of `parseQuestions`, `parseSection` and `parse` call by call (same calls of
`parseQuestion` / `parseRR` / `parseTypedRecord` on the same offsets, `1` where the loop stops): that they count the rounds of `parse`
is by this construction; `parseRounds_of_ok` checks it on the accepted messages. -/
def parseRounds (m : Bytes) : Nat :=
  if m.length < Gen.Dns.headerSize then 0
  else
    match parseHeader m 0 with
    | .error _ => 0
    | .ok (h, off) =>
      questionRounds m h.qd off +
      (match parseQuestions m h.qd off [] with
       | .error _ => 0
       | .ok (_, o1) =>
         sectionRounds m h.an o1 +
         (match parseSection m h.an o1 [] [] with
          | .error _ => 0
          | .ok (_, ts, o2) =>
            sectionRounds m h.ns o2 +
            (match parseSection m h.ns o2 [] ts with
             | .error _ => 0
             | .ok (_, _, o3) => sectionRounds m h.ar o3)))

theorem bind_ok_inv {α β : Type} {x : R α} {f : α → R β} {b : β} (h : (x >>= f) = .ok b) : ∃ a, x = .ok a ∧ f a = .ok b := by
  cases x with
  | error e => cases h
  | ok a => exact ⟨a, rfl, h⟩

theorem parseRounds_of_ok {m : Bytes} {r : Result} (h : parse m = .ok r) :
    parseRounds m = r.header.qd + (r.header.an + (r.header.ns + r.header.ar)) := by
  unfold parse at h
  unfold parseRounds
  split at h
  · cases h
  · rename_i hl
    rw [if_neg hl]
    obtain ⟨⟨hd, off⟩, hh, h⟩ := bind_ok_inv h
    obtain ⟨⟨qs, o1⟩, hq, h⟩ := bind_ok_inv h
    obtain ⟨⟨an, ts, o2⟩, ha, h⟩ := bind_ok_inv h
    obtain ⟨⟨ns, ts2, o3⟩, hn, h⟩ := bind_ok_inv h
    obtain ⟨⟨ar, ts3, o4⟩, hr, h⟩ := bind_ok_inv h
    cases h
    obtain ⟨h12, rfl, _⟩ := parseHeader_ok_inv hh
    have q := (questionRounds_spec m hd.qd _ h12).2 _ _ _ hq
    have a := (sectionRounds_spec m hd.an o1 q.2.1).2 _ _ _ _ _ ha
    have n := (sectionRounds_spec m hd.ns o2 a.2.1).2 _ _ _ _ _ hn
    have r := (sectionRounds_spec m hd.ar o3 n.2.1).2 _ _ _ _ _ hr
    simp only [hh, hq, ha, hn, q.2.2, a.2.2, n.2.2, r.2.2]

theorem parseRounds_linear (m : Bytes) : 5 * parseRounds m ≤ m.length + 11 := by
  -- a loop that runs through to `o'` from `o` has paid for its rounds with `o' - o` bytes: `5·q + 12 ≤ o1`, `11·a + o1 ≤ o2`,
  -- `11·b + o2 ≤ o3`; the loop that stops early, or the last one, is paid for up to `m.length`, and its one failing round is the `+ 11`
  unfold parseRounds
  split
  · omega
  split
  · omega
  rename_i h off hh
  obtain ⟨h12, ho, _⟩ := parseHeader_ok_inv hh
  rw [Nat.zero_add] at h12 ho
  subst ho
  have hq := questionRounds_spec m h.qd 12 h12
  split
  · omega
  rename_i qs o1 hqs
  have hq1 := hq.2 _ _ _ hqs
  have ha := sectionRounds_spec m h.an o1 hq1.2.1
  -- from here on `show` writes the sum out again: `split` leaves the inner sums in a form `omega` takes for atoms
  split
  · show 5 * (questionRounds m h.qd 12 + (sectionRounds m h.an o1 + 0)) ≤ m.length + 11
    omega
  rename_i an ts o2 han
  have ha1 := ha.2 _ _ _ _ _ han
  have hb := sectionRounds_spec m h.ns o2 ha1.2.1
  split
  · show 5 * (questionRounds m h.qd 12 + (sectionRounds m h.an o1 + (sectionRounds m h.ns o2 + 0))) ≤ m.length + 11
    omega
  rename_i ns ts2 o3 hns
  have hb1 := hb.2 _ _ _ _ _ hns
  have hc := sectionRounds_spec m h.ar o3 hb1.2.1
  show 5 * (questionRounds m h.qd 12 + (sectionRounds m h.an o1 + (sectionRounds m h.ns o2 + sectionRounds m h.ar o3))) ≤ m.length + 11
  omega

/-- names decoded per round: the owner / question name plus at most two names inside RDATA (SOA: MNAME and RNAME; every other
typed parser calls `decodeNameFromRdata` at most once, which calls `decodeName` at most once).  Read off `Model/Dns.lean` by hand and
not proved: `N4_message_work_linear` takes it as given. -/
def namesPerRound : Nat := 3

/-- loop iterations of `decodeNameWithLoopDetection` `parse` can perform on a message of `size` bytes (257 is `nameFuel`) -/
def workBound (size : Nat) : Nat := ((size + 11) / 5) * (namesPerRound * 257)

end Iora.Dns
