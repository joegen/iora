import IoraModel.Lemmas.SyncRecv
/-! T8: nothing is delivered through the data callback for a session after its close.  `Quiet` (the close has been processed, no flush of
the session holds bytes or could find any, and no chunk of it is pending for the callback) is preserved by EVERY disciplined
step — mode switches of the dead id included: `setReadMode` is a no-op for a closed tombstone (FC02a), and once the tombstone has been
reclaimed whatever buffer the id gets again stays empty (nothing arrives for a dead id) — and a quiet session's steps emit no `cbData`. -/
namespace Iora.SyncRecv
open Iora

/-- about the flusher's state, not the bytes (`inflight x = []`): a flusher holding `[]` would still emit `cbData sid []` -/
def noHold (x : Sess) : Bool := match x.flush with | some (.holding _) => false | _ => true

/-- the close has been processed and the tombstone is still there: no flush is in progress (and `setReadMode` ignores the id) -/
def QuietA (x : Sess) : Prop := x.dead = true ∧ tomb x = true ∧ x.flush = none

/-- the close has been processed and nothing is buffered or held (the tombstone was drained to EOF or reclaimed by the GC; a
buffer the application creates again for the dead id stays empty): a flush of the id finds nothing to deliver -/
def QuietB (x : Sess) : Prop := x.dead = true ∧ bufData x = [] ∧ noHold x = true

/-- a closed session nothing can be delivered for -/
def QuietS (x : Sess) : Prop := QuietA x ∨ QuietB x

/-- `QuietS`, and the I/O thread is not between its locked read of "Async" for a chunk of the session and the data callback (`ioPend`): that
chunk would still be delivered -/
def Quiet (s : State) (sid : Nat) : Prop := QuietS (s.sess sid) ∧ pendO s sid = none

theorem QuietS.dead {x : Sess} (h : QuietS x) : x.dead = true := by
  rcases h with h | h <;> exact h.1

theorem QuietS.holds_nothing {x : Sess} (h : QuietS x) (d : Bytes) : x.flush ≠ some (.holding d) := fun k =>
  h.elim (fun a => nomatch a.2.2.symm.trans k) fun b => by have := b.2.2; rw [noHold, k] at this; cases this

/-- once the buffer is gone (EOF answered, or reclaimed) a quiet session is quiet for the second reason -/
theorem QuietS.drop {x : Sess} (h : QuietS x) : QuietB { x with buf := none } :=
  h.elim (fun k => ⟨k.1, rfl, by simp [noHold, k.2.2]⟩) fun k => ⟨k.1, rfl, k.2.2⟩

theorem wake_quiet {x : Sess} (r : Bool) (h : QuietS x) : QuietS (wake x r) := by
  rcases x with ⟨_, _, _ | p⟩ <;> exact h

theorem drain_quiet {x : Sess} {b : Buf} (len : Nat) (hb : x.buf = some b) (h : QuietS x) : QuietS (drain x b len).1 := by
  cases x; cases hb
  unfold drain
  split
  · next hne => exact h.imp id fun k => absurd k.2.1 hne
  · split
    · exact h
    · split
      · exact .inr h.drop
      · exact h

theorem recvEnterS_quiet {sh : Bool} {x : Sess} (len : Nat) (h : QuietS x) : QuietS (recvEnterS sh x len).1 := by
  unfold recvEnterS
  split
  · exact h
  · rcases x with ⟨_, _ | b⟩ <;>
    · simp only []
      split
      · exact h
      · split
        · exact drain_quiet len rfl h
        · exact h

theorem recvWakeS_quiet {sh : Bool} {x : Sess} (t : Bool) (h : QuietS x) : QuietS (recvWakeS sh x t).1 := by
  unfold recvWakeS
  split
  · next hb =>
    split
    · exact drain_quiet _ hb h
    · split <;> exact h
  · exact h

theorem setModeS_quiet {cfg : Cfg} {x : Sess} (m : Mode) (h : QuietS x) : QuietS (setModeS cfg x m).1 := by
  unfold setModeS
  split
  · exact h
  · split
    · exact h
    · next ht =>
      -- a tombstone is ignored, so past the `tomb` test the session is quiet for the second reason
      have k := h.resolve_left fun a => ht a.2.1
      split
      · exact .inr ⟨k.1, k.2.1, rfl⟩
      · rcases x with ⟨_, _ | b⟩ <;> cases m <;> exact .inr k

theorem flushStepS_quiet {sh : Bool} {x : Sess} (h : QuietS x) : QuietS (flushStepS sh x).1 := by
  rcases h with a | k
  · -- no flush: the step is the identity
    cases x; cases a.2.2; exact .inl a
  -- nothing buffered: the loop never reaches `holding`, the other leaves keep `bufData` and `noHold`
  unfold flushStepS
  split
  · exact .inr k
  · next hf =>
    cases x; cases hf
    split
    · exact .inr ⟨k.1, k.2.1, rfl⟩
    · split
      · next hb => cases hb; exact .inr ⟨k.1, rfl, rfl⟩
      · exact .inr ⟨k.1, k.2.1, rfl⟩
  · next hf =>
    cases x; cases hf
    split
    · exact .inr ⟨k.1, k.2.1, rfl⟩
    · split
      · next b hb =>
        cases hb
        split
        · next hne => exact absurd k.2.1 hne
        · exact .inr ⟨k.1, k.2.1, rfl⟩
      · exact .inr ⟨k.1, k.2.1, rfl⟩
  · next hf =>
    cases x; cases hf
    exact nomatch k.2.2
  · next hf =>
    cases x; cases hf
    exact .inr ⟨k.1, k.2.1, rfl⟩

theorem ioCloseS_quiet (cfg : Cfg) (x : Sess) (hf : x.flush = none) :
    QuietA (ioCloseS cfg x) ∧ (ioCloseS cfg x).mode = none := by
  rcases x with ⟨_, _ | b, _ | p⟩ <;> exact ⟨⟨rfl, rfl, hf⟩, rfl⟩

theorem quiet_step {cfg : Cfg} {s : State} {sid : Nat} (hq : Quiet s sid) (st : Step) (hok : ok s st = true) :
    Quiet (step cfg s st).1 sid ∧ ∀ d, Ev.cbData sid d ∉ (step cfg s st).2 := by
  obtain ⟨hx, hpo⟩ := hq
  refine ⟨?_, fun d hev => ((step_eff cfg s st sid).cb d hev).elim (fun k => nomatch hpo.symm.trans k) (hx.holds_nothing d)⟩
  cases st with
  | ioData j chunk =>
    -- nothing arrives for a dead id
    obtain ⟨hd, hp⟩ := ok_ioData hok
    have hne : sid ≠ j := fun e => by rw [e] at hx; exact nomatch hx.dead.symm.trans hd
    simp only [step, hp]
    exact ⟨upd_cases (fun e => absurd e hne) fun _ => hx, by
      by_cases hc : (ioDataS cfg s.shuttingDown (s.sess j) chunk).2 = .toCallback <;> simp [pendO, hc, Ne.symm hne]⟩
  | ioDeliver =>
    simp only [step]
    split
    · next j d hp =>
      have hne : sid ≠ j := fun e => by simp [pendO, hp, e] at hpo
      exact ⟨upd_cases (fun e => absurd e hne) fun _ => hx, rfl⟩
    · exact ⟨hx, hpo⟩
  | ioClose j =>
    obtain ⟨hd, hp⟩ := ok_ioClose hok
    have hne : sid ≠ j := fun e => by rw [e] at hx; exact nomatch hx.dead.symm.trans hd
    simp only [step, hp, closeSess]
    refine ⟨?_, rfl⟩
    show QuietS (if sid = j then _ else _)
    rw [if_neg hne]
    split
    · exact .inr hx.drop
    · exact hx
  | recvEnter j len => exact ⟨upd_cases (fun e => e ▸ recvEnterS_quiet len hx) fun _ => hx, hpo⟩
  | recvWake j t => exact ⟨upd_cases (fun e => e ▸ recvWakeS_quiet t hx) fun _ => hx, hpo⟩
  | setMode j m => exact ⟨upd_cases (fun e => e ▸ setModeS_quiet m hx) fun _ => hx, hpo⟩
  | flushStep j => exact ⟨upd_cases (fun e => e ▸ flushStepS_quiet hx) fun _ => hx, hpo⟩
  | ioCloseCb j =>
    simp only [step]
    split <;> exact ⟨hx, hpo⟩
  | fence n => exact ⟨wake_quiet n hx, hpo⟩

theorem quiet_run {cfg : Cfg} {sid : Nat} : ∀ (steps : List Step) (s : State), Quiet s sid → Disciplined cfg s steps →
    ∀ d, Ev.cbData sid d ∉ (run cfg s steps).2 := by
  intro steps
  induction steps with
  | nil => intro s _ _ d; simp [run_nil]
  | cons st rest ih =>
    intro s hq hd d
    rw [run_cons]
    have h1 := quiet_step (cfg := cfg) hq st hd.1
    simp only [List.mem_append, not_or]
    exact ⟨h1.2 d, ih _ h1.1 hd.2 d⟩

/-! ## from the mark to the close callback (FC03c) -/

theorem closeCb_emitted {cfg : Cfg} {s : State} {st : Step} {sid : Nat} (hev : Ev.closeCb sid ∈ (step cfg s st).2) :
    st = .ioCloseCb sid ∧ s.closePend = some sid := by
  rcases step_frame cfg s st with ⟨j, rfl⟩ | ⟨j, rfl⟩ | e
  · simp only [step] at hev; split at hev <;> cases hev
  · simp only [step] at hev
    split at hev
    · next hp => cases List.mem_singleton.mp hev; exact ⟨rfl, hp⟩
    · cases hev
  · exact absurd hev (e.2.2.2 sid)

/-- while the close handler is between marking `sid` closed (`ioClose`) and invoking its close callbacks (`ioCloseCb`), the session is
already quiet — unless a flush of it was in progress when the close was processed (`closeGrace`) -/
def MarkedQuiet (s : State) : Prop := ∀ sid, s.closePend = some sid → s.closeGrace = false → Quiet s sid

theorem MarkedQuiet_init : MarkedQuiet init := by
  intro sid h; simp [init] at h

theorem ioClose_quiet {cfg : Cfg} {s : State} {sid : Nat} (hok : ok s (.ioClose sid) = true) (hf : (s.sess sid).flush = none) :
    Quiet (step cfg s (.ioClose sid)).1 sid ∧ ((step cfg s (.ioClose sid)).1.sess sid).mode = none ∧
      tomb ((step cfg s (.ioClose sid)).1.sess sid) = true := by
  obtain ⟨_, hp⟩ := ok_ioClose hok
  have h := ioCloseS_quiet cfg (s.sess sid) hf
  have e : (step cfg s (.ioClose sid)).1.sess sid = ioCloseS cfg (s.sess sid) := by simp [step, hp, closeSess]
  have hpo : pendO (step cfg s (.ioClose sid)).1 sid = none := by simp [step, hp, pendO]
  unfold Quiet
  rw [e]
  exact ⟨⟨.inl h.1, hpo⟩, h.2, h.1.2.1⟩

/-- the mark: `closeGrace = false` afterwards is `flush = none` before, the side condition of `ioClose_quiet` -/
theorem ioClose_mark {cfg : Cfg} {s : State} {sid : Nat} (hok : ok s (.ioClose sid) = true) :
    (step cfg s (.ioClose sid)).1.closePend = some sid ∧ (step cfg s (.ioClose sid)).1.closeGrace = (s.sess sid).flush.isSome := by
  obtain ⟨_, hp⟩ := ok_ioClose hok
  simp [step, hp]

/-- `ioClose` sets the handler's program counter and `closeGrace` (`ioClose_mark`), `ioCloseCb` clears the former, no other step touches
either (`step_frame`) -/
theorem step_markedQuiet {cfg : Cfg} {s : State} (h : MarkedQuiet s) (st : Step) (hok : ok s st = true) : MarkedQuiet (step cfg s st).1 := by
  intro sid hp hgr
  rcases step_frame cfg s st with ⟨j, rfl⟩ | ⟨j, rfl⟩ | e
  · obtain ⟨e1, e2⟩ := ioClose_mark (cfg := cfg) hok
    rw [e1] at hp; rw [e2] at hgr
    cases hp
    exact (ioClose_quiet hok (Option.not_isSome_iff_eq_none.mp (by simp [hgr]))).1
  · simp only [step] at hp hgr ⊢
    split at hp
    · cases hp
    · next hne => rw [if_neg hne] at hgr ⊢; exact h sid hp hgr
  · exact (quiet_step (h sid (e.2.1 ▸ hp) (e.2.2.1 ▸ hgr)) _ hok).1

theorem run_markedQuiet {cfg : Cfg} : ∀ (steps : List Step) (s : State), MarkedQuiet s → Disciplined cfg s steps → MarkedQuiet (run cfg s steps).1 :=
  run_induction fun _ st hok h => step_markedQuiet h st hok

end Iora.SyncRecv
