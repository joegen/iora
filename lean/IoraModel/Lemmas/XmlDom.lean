import IoraModel.Lemmas.Xml
import IoraModel.Lemmas.XmlEntities
/-! `DomBuilder::build` as a fold over the pull tokens: the document-order events of a token list and of a DOM, one builder step
against the events of its token (`domStep_spec`), and the whole fold against the events of its tokens (`domFold_spec`). -/
namespace Iora.Xml
open Iora

/-- what a DOM says in document order -/
inductive Ev where
  | open_ (name : Bytes) (attrs : List (Bytes × Bytes))
  | close
  | text (v : Bytes)
  | cdata (v : Bytes)
  | comment (v : Bytes)
  | pi (name : Bytes) (v : Bytes)
  deriving DecidableEq, Repr

mutual
  /-- pre-order walk of a node: an element is `open`, its children, `close` -/
  def Node.flatten : Node → List Ev
    | .elem n as ch => .open_ n as :: (flattenList ch ++ [.close])
    | .text v => [.text v]
    | .cdata v => [.cdata v]
    | .comment v => [.comment v]
    | .pi n v => [.pi n v]
  def flattenList : List Node → List Ev
    | [] => []
    | n :: r => n.flatten ++ flattenList r
end

theorem flattenList_append : ∀ (a b : List Node), flattenList (a ++ b) = flattenList a ++ flattenList b := by
  intro a
  induction a with
  | nil => intro b; simp [flattenList]
  | cons n r ih => intro b; simp [flattenList, ih]

/-- the same events read off one pull token (names copied, attribute values and text decoded); `none` when a value does not decode -/
def tokEvs (bs : Bytes) (t : Token) : Option (List Ev) :=
  match t.kind with
  | .startElement =>
    match decodeAttrs bs t.attrs with
    | .ok as => some [.open_ (t.name.bytes bs) as]
    | .error _ => none
  | .emptyElement =>
    match decodeAttrs bs t.attrs with
    | .ok as => some [.open_ (t.name.bytes bs) as, .close]
    | .error _ => none
  | .endElement => some [.close]
  | .text =>
    match decodeEntities (t.text.bytes bs) with
    | .ok v => some (if v.isEmpty then [] else [.text v])
    | _ => none
  | .cdata => some [.cdata (t.text.bytes bs)]
  | .comment => some [.comment (t.text.bytes bs)]
  | .pi => some [.pi (t.name.bytes bs) (t.text.bytes bs)]
  | _ => some []

def evsOf (bs : Bytes) : List Token → Option (List Ev)
  | [] => some []
  | t :: ts =>
    match tokEvs bs t, evsOf bs ts with
    | some a, some b => some (a ++ b)
    | _, _ => none

/-- events of the open frames: the list holds the innermost frame first, the events come outermost first -/
def flatOpen : List Frame → List Ev
  | [] => []
  | f :: fs => flatOpen fs ++ (.open_ f.name f.attrs :: flattenList f.kids)

/-- everything the builder has attached so far, in document order -/
def DomSt.flat (d : DomSt) : List Ev := flattenList d.top ++ flatOpen d.open_

theorem addChild_flat (d : DomSt) (n : Node) : (d.addChild n).flat = d.flat ++ n.flatten := by
  unfold DomSt.addChild DomSt.flat
  cases h : d.open_ with
  | nil => simp [flattenList_append, flatOpen, flattenList]
  | cons f fs => simp [flatOpen, flattenList_append, flattenList]

theorem addChild_open (d : DomSt) (n : Node) : (d.addChild n).open_.length = d.open_.length := by
  unfold DomSt.addChild
  cases d.open_ <;> simp

theorem ErrKind.isDom_of_isDecode {e : ErrKind} (h : e.isDecode = true) : e.isDom = false := by
  cases e <;> first | rfl | cases h

theorem decodeAttrs_err_kind (bs : Bytes) : ∀ (as : List Attr) (e : ErrKind) (off : Nat),
    decodeAttrs bs as = .error (e, off) → e.isDecode = true := by
  intro as
  induction as with
  | nil => intro e off h; simp [decodeAttrs] at h
  | cons a r ih =>
    intro e off h
    simp only [decodeAttrs] at h
    split at h
    · split at h
      · cases h
      · rename_i e' he'
        cases h
        exact ih _ _ he'
    · rename_i e' off' hd
      cases h
      exact decodeEntities_err_kind _ _ _ hd
    · cases h; rfl

/-- one builder step against the events of its token, with as many frames open as `st` has names.  The "unbalanced end element"
exit needs an end tag with no frame open, which `smStep … = some st'` excludes. -/
theorem domStep_spec (bs : Bytes) (d : DomSt) (t : Token) {st st' : List Bytes} (hs : smStep bs st t = some st')
    (hd : d.open_.length = st.length) :
    match tokEvs bs t with
    | none => ∃ e off, domStep bs d t = .inr (.null e off 0 0) ∧ e.isDecode = true
    | some es => ∃ d', domStep bs d t = .inl d' ∧ d'.flat = d.flat ++ es ∧ d'.open_.length = st'.length := by
  -- a step that leaves the open frames as they are (it attaches a finished node to the innermost one, or nothing)
  have keep : ∀ {d' : DomSt}, t.kind ≠ .startElement → t.kind ≠ .endElement → d'.open_.length = d.open_.length →
      d'.open_.length = st'.length :=
    fun h1 h2 ho => by rw [smStep_other h1 h2] at hs; cases hs; exact ho.trans hd
  unfold domStep tokEvs
  cases hk : t.kind
  case startElement =>
    cases hda : decodeAttrs bs t.attrs with
    | error e => exact ⟨e.1, e.2, rfl, decodeAttrs_err_kind bs _ _ _ hda⟩
    | ok as =>
      refine ⟨_, rfl, by simp [DomSt.flat, flatOpen, flattenList], ?_⟩
      simp only [smStep, hk, Option.some.injEq] at hs
      subst hs
      simp [hd]
  case emptyElement =>
    cases hda : decodeAttrs bs t.attrs with
    | error e => exact ⟨e.1, e.2, rfl, decodeAttrs_err_kind bs _ _ _ hda⟩
    | ok as =>
      exact ⟨_, rfl, by rw [addChild_flat]; simp [Node.flatten, flattenList],
        keep (by rw [hk]; nofun) (by rw [hk]; nofun) (addChild_open _ _)⟩
  case endElement =>
    cases st with
    | nil => simp only [smStep, hk] at hs; cases hs
    | cons top below =>
      cases hop : d.open_ with
      | nil => rw [hop] at hd; cases hd
      | cons f fs =>
        refine ⟨_, rfl, by rw [addChild_flat]; simp [DomSt.flat, hop, flatOpen, Node.flatten], ?_⟩
        rw [addChild_open]
        rw [hop, List.length_cons, List.length_cons] at hd
        simp only [smStep, hk] at hs
        by_cases htop : top = t.name.bytes bs
        · rw [if_pos htop] at hs; cases hs; exact Nat.succ.inj hd
        · rw [if_neg htop] at hs; cases hs
  case text =>
    cases hde : decodeEntities (t.text.bytes bs) with
    | err e off => exact ⟨e, off, rfl, decodeEntities_err_kind _ _ _ hde⟩
    | fuel => exact (decodeEntities_ne_fuel _ hde).elim
    | ok v =>
      by_cases hv : v.isEmpty = true
      · simp only [hv, if_true]
        exact ⟨_, rfl, (List.append_nil _).symm, keep (by rw [hk]; nofun) (by rw [hk]; nofun) rfl⟩
      · simp only [hv, Bool.false_eq_true, if_false]
        exact ⟨_, rfl, by rw [addChild_flat]; rfl, keep (by rw [hk]; nofun) (by rw [hk]; nofun) (addChild_open _ _)⟩
  case cdata => exact ⟨_, rfl, by rw [addChild_flat]; rfl, keep (by rw [hk]; nofun) (by rw [hk]; nofun) (addChild_open _ _)⟩
  case comment => exact ⟨_, rfl, by rw [addChild_flat]; rfl, keep (by rw [hk]; nofun) (by rw [hk]; nofun) (addChild_open _ _)⟩
  case pi => exact ⟨_, rfl, by rw [addChild_flat]; rfl, keep (by rw [hk]; nofun) (by rw [hk]; nofun) (addChild_open _ _)⟩
  all_goals exact ⟨_, rfl, (List.append_nil _).symm, keep (by rw [hk]; nofun) (by rw [hk]; nofun) rfl⟩

theorem domFold_spec (bs : Bytes) : ∀ (ts : List Token) (st fin : List Bytes) (d : DomSt),
    sm bs st ts = some fin → d.open_.length = st.length →
    match evsOf bs ts with
    | some es => ∃ d', domFold bs d ts = .inl d' ∧ d'.flat = d.flat ++ es ∧ d'.open_.length = fin.length
    | none => ∃ e off, domFold bs d ts = .inr (.null e off 0 0) ∧ e.isDecode = true
  | [], st, fin, d, h, hd => by cases h; exact ⟨d, rfl, (List.append_nil _).symm, hd⟩
  | t :: ts, st, fin, d, h, hd => by
    rw [sm_cons] at h
    unfold domFold evsOf
    cases hs : smStep bs st t with
    | none => rw [hs] at h; cases h
    | some st' =>
      rw [hs] at h
      have hsp := domStep_spec bs d t hs hd
      cases hte : tokEvs bs t with
      | none => rw [hte] at hsp; obtain ⟨e, off, h1, h2⟩ := hsp; rw [h1]; exact ⟨e, off, rfl, h2⟩
      | some e1 =>
        rw [hte] at hsp
        obtain ⟨d1, h1, hf1, ho⟩ := hsp
        have ih := domFold_spec bs ts st' fin d1 h ho
        rw [h1]
        cases hes : evsOf bs ts with
        | none => rw [hes] at ih; exact ih
        | some e2 =>
          rw [hes] at ih
          obtain ⟨d', h2, hf2, ho2⟩ := ih
          exact ⟨d', h2, by rw [hf2, hf1, List.append_assoc], ho2⟩

end Iora.Xml
