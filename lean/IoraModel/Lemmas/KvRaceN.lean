import IoraModel.Model.KvRaceN
import IoraModel.Lemmas.KvRace
/-!
# Cache coherence of one key for any number of threads and any sequences of calls, every schedule
-/
namespace Iora.Kv.RaceN
open Iora Iora.Kv Iora.Kv.Race

/-- what a thread knows about `_kv[k]` while it holds `_mutex` -/
def Th.Ok (kv : Option Ent) : Th → Prop
  | .idle => True
  | .rd pc tmp => pc ≠ .released ∧ (rKnows pc = true → tmp = kv)
  | .wr pc o => o.OK ∧ pc ≠ .released ∧ ((Th.wr pc o).mid = true → kv = o.kv)
  | .ev _ => True
  | .fp _ => True

/-- the inductive invariant; `inv_put`, `inv_stepTh` keep it when both flags of `sh` are set (the lock scopes of the working tree) -/
structure Inv (sh : Shape) (s : St) : Prop where
  /-- `_mutex`: an exclusive holder excludes every shared holder -/
  xs : ∀ i j, i < s.n → j < s.n → (s.th i).holdsX sh = true → (s.th j).holdsS sh = false
  /-- `_mutex`: at most one exclusive holder -/
  xx : ∀ i j, i < s.n → j < s.n → i ≠ j → (s.th i).holdsX sh = true → (s.th j).holdsX sh = false
  /-- `_cacheMutex`: at most one (exclusive) holder -/
  cc : ∀ i j, i < s.n → j < s.n → i ≠ j → (s.th i).holdsC = true → (s.th j).holdsC = false
  ok : ∀ i, i < s.n → (s.th i).Ok s.kv
  /-- the cache entry is absent or the linearization value -/
  cl : s.cache = none ∨ s.cache = s.lin
  /-- the linearization value is what `_kv[k]` holds, unless some writer stands between its two assignments -/
  lk : (∀ i, i < s.n → (s.th i).mid = false) → s.lin = s.kv

/-- the cache entry is coherent whenever no writer stands between its two assignments -/
theorem Inv.coh {sh : Shape} {s : St} (hi : Inv sh s) (hq : ∀ i, i < s.n → (s.th i).mid = false) : s.Coherent := by
  rw [St.Coherent, ← hi.lk hq]; exact hi.cl

/-- a lock test (`noX`, `noS`, `noC`) succeeds iff no thread holds the lock in that mode -/
theorem all_not_iff (n : Nat) (p : Nat → Bool) : ((List.range n).all fun j => !p j) = true ↔ ∀ j, j < n → p j = false := by
  simp [List.all_eq_true]

theorem holdsX_not_S (sh : Shape) (t : Th) (h : t.holdsX sh = true) : t.holdsS sh = false := by
  cases t <;> simp_all [Th.holdsX, Th.holdsS]

/-- a thread that holds `_mutex` in neither mode knows nothing about `_kv[k]` -/
theorem ok_of_not_holds (sh : Shape) (h1 : sh.refillUnderStoreLock = true) (h2 : sh.writerCacheUnderStoreLock = true)
    (kv kv' : Option Ent) (t : Th) (hs : t.holdsS sh = false) (hx : t.holdsX sh = false) (h : t.Ok kv) : t.Ok kv' := by
  cases t with
  | idle => trivial
  | ev pc => trivial
  | fp r => trivial
  | rd pc tmp =>
    obtain ⟨hr, _⟩ := h
    refine ⟨hr, fun hp => ?_⟩
    cases pc <;> simp_all [rKnows, Th.holdsS, rHoldsMu]
  | wr pc o =>
    obtain ⟨ho, hr, _⟩ := h
    refine ⟨ho, hr, fun hp => ?_⟩
    cases pc <;> simp_all [Th.mid, Th.holdsX, wHoldsMu]

theorem mid_holdsX (sh : Shape) (h2 : sh.writerCacheUnderStoreLock = true) (t : Th) (h : t.mid = true) : t.holdsX sh = true := by
  cases t with
  | wr pc o => cases pc <;> simp_all [Th.mid, Th.holdsX, wHoldsMu]
  | _ => simp [Th.mid] at h

/-- while some thread holds `_mutex` shared no writer stands between its two assignments -/
theorem no_mid_of_holdsS (sh : Shape) (h2 : sh.writerCacheUnderStoreLock = true) (s : St) (hi : Inv sh s) (i : Nat) (hn : i < s.n)
    (hs : (s.th i).holdsS sh = true) : ∀ j, j < s.n → (s.th j).mid = false := by
  intro j hj
  cases hm : (s.th j).mid with
  | false => rfl
  | true =>
    have := hi.xs j i hj hn (mid_holdsX sh h2 _ hm)
    rw [hs] at this; exact absurd this (by simp)

/-- **two lock modes that exclude each other between different threads** (`P` = holds in one mode, `Q` = in the other): thread
`i` may move to `t` if whatever `t` holds, thread `i` held before or no other thread holds in the excluded mode -/
theorem excl_put (P Q : Th → Bool) (th : Nat → Th) (n i : Nat) (t : Th)
    (h : ∀ a b, a < n → b < n → a ≠ b → P (th a) = true → Q (th b) = false)
    (hP : P t = true → P (th i) = true ∨ ∀ j, j < n → Q (th j) = false)
    (hQ : Q t = true → Q (th i) = true ∨ ∀ j, j < n → P (th j) = false) :
    ∀ a b, a < n → b < n → a ≠ b → P (if a = i then t else th a) = true → Q (if b = i then t else th b) = false := by
  intro a b ha hb hab hp
  by_cases hai : a = i
  · have hbi : b ≠ i := fun e => hab (hai.trans e.symm)
    rw [if_pos hai] at hp
    rw [if_neg hbi]
    rcases hP hp with h' | h'
    · exact h a b ha hb hab (hai ▸ h')
    · exact h' b hb
  · rw [if_neg hai] at hp
    by_cases hbi : b = i
    · rw [if_pos hbi]
      cases hq : Q t with
      | false => rfl
      | true =>
        rcases hQ hq with h' | h'
        · have := h a b ha hb hab hp; rw [hbi, h'] at this; cases this
        · have := h' a ha; rw [hp] at this; cases this
    · rw [if_neg hbi]; exact h a b ha hb hab hp

/-- `inv_put` states its lock hypotheses as `(t.holds && !told.holds) = true → free`, which a caller whose step acquires nothing
proves by `nofun`, and uses them in this form -/
theorem or_of_and_not {a b : Bool} {P : Prop} (h : (a && !b) = true → P) (ha : a = true) : b = true ∨ P := by
  cases b
  · exact .inr (h (by rw [ha]; rfl))
  · exact .inl rfl

/-- **frame lemma.**  Thread `i` moves from `told` to `t`, `_kv[k]` / `_cache[k]` become `kv` / `cache`.  The invariant
is kept if every lock `t` holds and `told` did not was free, `t` is consistent with `kv`, `_kv[k]` changes only under an
exclusive hold of `_mutex`, and (`hlin`) `t` is a writer between its two assignments, or `lin` becomes what `_kv[k]` holds (the
linearization point), or neither changes. -/
theorem inv_put (sh : Shape) (h1 : sh.refillUnderStoreLock = true) (h2 : sh.writerCacheUnderStoreLock = true)
    (s : St) (hi : Inv sh s) (i : Nat) (hn : i < s.n) (told : Th) (hti : s.th i = told) (t : Th) (kv cache lin : Option Ent)
    (hX : (t.holdsX sh && !told.holdsX sh) = true → s.noX sh = true ∧ s.noS sh = true)
    (hS : (t.holdsS sh && !told.holdsS sh) = true → s.noX sh = true)
    (hC : (t.holdsC && !told.holdsC) = true → s.noC = true)
    (hok : t.Ok kv)
    (hkv : kv = s.kv ∨ told.holdsX sh = true)
    (hcl : cache = none ∨ cache = lin)
    (hlin : t.mid = true ∨ lin = kv ∨ (kv = s.kv ∧ lin = s.lin ∧ told.mid = false)) :
    Inv sh (s.put i t kv cache lin) := by
  subst hti
  have hX := or_of_and_not hX
  have hS := or_of_and_not hS
  have hC := or_of_and_not hC
  obtain ⟨xs, xx, cc, ok, _, lk⟩ := hi
  have hX' : ∀ j, j < s.n → j ≠ i → (s.th i).holdsX sh = true → (s.th j).holdsS sh = false ∧ (s.th j).holdsX sh = false :=
    fun j hj hji h => ⟨xs i j hn hj h, xx i j hn hj (Ne.symm hji) h⟩
  refine ⟨?_, ?_, ?_, ?_, hcl, ?_⟩
  · intro a b ha hb hp
    by_cases hab : a = b
    · subst hab; exact holdsX_not_S sh _ hp
    · exact excl_put (·.holdsX sh) (·.holdsS sh) s.th s.n i t (fun a b ha hb _ => xs a b ha hb)
        (fun h => (hX h).imp_right fun h' => (all_not_iff _ _).mp h'.2) (fun h => (hS h).imp_right (all_not_iff _ _).mp) a b ha hb hab hp
  · exact excl_put (·.holdsX sh) (·.holdsX sh) s.th s.n i t xx (fun h => (hX h).imp_right fun h' => (all_not_iff _ _).mp h'.1)
      (fun h => (hX h).imp_right fun h' => (all_not_iff _ _).mp h'.1)
  · exact excl_put Th.holdsC Th.holdsC s.th s.n i t cc (fun h => (hC h).imp_right (all_not_iff _ _).mp)
      (fun h => (hC h).imp_right (all_not_iff _ _).mp)
  · intro a ha
    show (if a = i then t else s.th a).Ok kv
    by_cases hai : a = i
    · rw [if_pos hai]; exact hok
    · rw [if_neg hai]
      rcases hkv with h | h
      · rw [h]; exact ok a ha
      · exact ok_of_not_holds sh h1 h2 s.kv kv (s.th a) (hX' a ha hai h).1 (hX' a ha hai h).2 (ok a ha)
  · intro hq
    show lin = kv
    rcases hlin with h | h | ⟨hk, hl, hm⟩
    · have := hq i hn
      rw [show (s.put i t kv cache lin).th i = t from if_pos rfl, h] at this
      cases this
    · exact h
    · rw [hk, hl]
      refine lk fun a ha => ?_
      by_cases hai : a = i
      · rw [hai]; exact hm
      · have := hq a ha
        rwa [show (s.put i t kv cache lin).th a = s.th a from if_neg hai] at this

theorem inv_init (sh : Shape) (n : Nat) (kv cache : Option Ent) (h0 : cache = none ∨ cache = kv) :
    Inv sh (St.init n kv cache) :=
  ⟨fun _ _ _ _ h => (nomatch h), fun _ _ _ _ _ h => (nomatch h), fun _ _ _ _ _ h => (nomatch h), fun _ _ => trivial, h0,
    fun _ => rfl⟩

theorem inv_stepTh (sh : Shape) (h1 : sh.refillUnderStoreLock = true) (h2 : sh.writerCacheUnderStoreLock = true)
    (fresh : Bool) (s : St) (i : Nat) (hn : i < s.n) (hi : Inv sh s) : Inv sh (stepTh sh fresh s i) := by
  -- with the lock scopes concrete, which locks a program counter holds is a matter of evaluation (`nofun` below)
  obtain ⟨_, _⟩ := sh
  subst h1 h2
  have hoki := hi.ok i hn
  unfold stepTh
  cases hti : s.th i with
  | idle => exact hi
  | rd pc tmp =>
    rw [hti] at hoki
    have put := inv_put _ rfl rfl s hi i hn _ hti
    -- a step that writes nothing
    have quiet := fun t hX hS hC hok => put t s.kv s.cache s.lin hX hS hC hok (.inl rfl) hi.cl (.inr (.inr ⟨rfl, rfl, rfl⟩))
    cases pc with
    | start =>
      simp only [nextR]
      cases hx : s.noX ⟨true, true⟩ with
      | false => exact hi
      | true => exact quiet (.rd .hasS tmp) nofun (fun _ => hx) nofun ⟨nofun, nofun⟩
    | hasS =>
      simp only [nextR]
      cases hk : s.kv with
      | none => simp only; rw [← hk]; exact quiet (.rd .done tmp) nofun nofun nofun ⟨nofun, nofun⟩
      | some e =>
        simp only
        rw [← hk]
        cases fresh with
        | false => exact quiet (.rd .done tmp) nofun nofun nofun ⟨nofun, nofun⟩
        | true => exact quiet (.rd .loaded s.kv) nofun nofun nofun ⟨nofun, fun _ => rfl⟩
    | loaded =>
      simp only [nextR, ↓reduceIte]
      cases hc : s.noC with
      | false => exact hi
      | true => exact quiet (.rd .hasC tmp) nofun nofun (fun _ => hc) ⟨nofun, fun _ => hoki.2 rfl⟩
    | released => exact absurd rfl hoki.1
    | hasC =>
      -- the refill: `_kv[k]` is the linearization value while the shared hold lasts
      have hl : s.lin = s.kv := hi.lk (no_mid_of_holdsS _ rfl s hi i hn (by rw [hti]; rfl))
      exact put (.rd .wrote tmp) s.kv tmp s.lin nofun nofun nofun ⟨nofun, fun _ => hoki.2 rfl⟩ (.inl rfl)
        (.inr ((hoki.2 rfl).trans hl.symm)) (.inr (.inr ⟨rfl, rfl, rfl⟩))
    | wrote => exact quiet (.rd .relC tmp) nofun nofun nofun ⟨nofun, fun _ => hoki.2 rfl⟩
    | relC => exact quiet (.rd .done tmp) nofun nofun nofun ⟨nofun, nofun⟩
    | done => exact hi
  | wr pc o =>
    rw [hti] at hoki
    obtain ⟨hoo, hnr, hkvo⟩ := hoki
    have put := inv_put _ rfl rfl s hi i hn _ hti
    cases pc with
    | start =>
      simp only [nextW]
      cases h : (s.noX ⟨true, true⟩ && s.noS ⟨true, true⟩) with
      | false => exact hi
      | true =>
        exact put (.wr .hasX o) s.kv s.cache s.lin (fun _ => Bool.and_eq_true_iff.mp h) nofun nofun ⟨hoo, nofun, nofun⟩ (.inl rfl)
          hi.cl (.inr (.inr ⟨rfl, rfl, rfl⟩))
    | hasX => exact put (.wr .wroteKv o) o.kv s.cache s.lin nofun nofun nofun ⟨hoo, nofun, fun _ => rfl⟩ (.inr rfl) hi.cl (.inl rfl)
    | wroteKv =>
      simp only [nextW, ↓reduceIte]
      cases hc : s.noC with
      | false => exact hi
      | true =>
        exact put (.wr .hasC o) s.kv s.cache s.lin nofun nofun (fun _ => hc) ⟨hoo, nofun, fun _ => hkvo rfl⟩ (.inl rfl) hi.cl
          (.inl rfl)
    | released => exact absurd rfl hnr
    | hasC =>
      -- the linearization point: `_cache[k]` and the ghost are assigned together
      exact put (.wr .wroteC o) s.kv o.cache o.kv nofun nofun nofun ⟨hoo, nofun, nofun⟩ (.inl rfl) hoo
        (.inr (.inl (hkvo rfl).symm))
    | wroteC =>
      exact put (.wr .relC o) s.kv s.cache s.lin nofun nofun nofun ⟨hoo, nofun, nofun⟩ (.inl rfl) hi.cl
        (.inr (.inr ⟨rfl, rfl, rfl⟩))
    | relC =>
      exact put (.wr .done o) s.kv s.cache s.lin nofun nofun nofun ⟨hoo, nofun, nofun⟩ (.inl rfl) hi.cl
        (.inr (.inr ⟨rfl, rfl, rfl⟩))
    | done => exact hi
  | ev pc =>
    have put := inv_put _ rfl rfl s hi i hn _ hti
    cases pc with
    | start =>
      simp only [nextE]
      cases hc : s.noC with
      | false => exact hi
      | true =>
        exact put (.ev .hasC) s.kv s.cache s.lin nofun nofun (fun _ => hc) trivial (.inl rfl) hi.cl (.inr (.inr ⟨rfl, rfl, rfl⟩))
    | hasC => exact put (.ev .wrote) s.kv none s.lin nofun nofun nofun trivial (.inl rfl) (.inl rfl) (.inr (.inr ⟨rfl, rfl, rfl⟩))
    | wrote => exact put (.ev .done) s.kv s.cache s.lin nofun nofun nofun trivial (.inl rfl) hi.cl (.inr (.inr ⟨rfl, rfl, rfl⟩))
    | done => exact hi
  | fp ret =>
    cases ret with
    | some r => exact hi
    | none =>
      simp only
      cases hc : s.noC with
      | false => exact hi
      | true =>
        exact inv_put _ rfl rfl s hi i hn _ hti (.fp (some s.cache)) s.kv s.cache s.lin nofun nofun nofun trivial (.inl rfl) hi.cl
          (.inr (.inr ⟨rfl, rfl, rfl⟩))

theorem finished_not_mid (t : Th) (h : t.finished = true) : t.mid = false := by
  cases t with
  | idle => rfl
  | ev pc => rfl
  | fp r => rfl
  | rd pc tmp => rfl
  | wr pc o => cases pc <;> simp_all [Th.finished, Th.mid]

theorem inv_apply (sh : Shape) (h1 : sh.refillUnderStoreLock = true) (h2 : sh.writerCacheUnderStoreLock = true)
    (s : St) (a : Act) (ha : a.OK) (hi : Inv sh s) : Inv sh (apply sh s a) := by
  cases a with
  | move i fresh =>
    simp only [apply]
    split
    · next hn => exact inv_stepTh sh h1 h2 fresh s i hn hi
    · exact hi
  | call i c =>
    simp only [apply]
    split
    · next h =>
      -- a call starts holding nothing and knowing nothing
      have put := fun hok => inv_put sh h1 h2 s hi i h.1 _ rfl c.start s.kv s.cache s.lin (by cases c <;> nofun)
        (by cases c <;> nofun) (by cases c <;> nofun) hok (.inl rfl) hi.cl (.inr (.inr ⟨rfl, rfl, finished_not_mid _ h.2⟩))
      cases c with
      | fast => exact put trivial
      | get => exact put ⟨nofun, nofun⟩
      | write o => exact put ⟨ha, nofun, nofun⟩
      | evict => exact put trivial
    · exact hi

theorem inv_run (sh : Shape) (h1 : sh.refillUnderStoreLock = true) (h2 : sh.writerCacheUnderStoreLock = true)
    (sched : List Act) (s : St) (hok : ∀ a ∈ sched, a.OK) (hi : Inv sh s) : Inv sh (run sh s sched) :=
  List.foldlRecOn sched (apply sh) hi fun s hi a ha => inv_apply sh h1 h2 s a (hok a ha) hi

theorem apply_n (sh : Shape) (s : St) (a : Act) : (apply sh s a).n = s.n := by
  cases a with
  | move i fresh =>
    simp only [apply, stepTh]
    repeat' split
    all_goals rfl
  | call i c => simp only [apply]; split <;> rfl

theorem run_n (sh : Shape) (sched : List Act) (s : St) : (run sh s sched).n = s.n :=
  List.foldlRecOn (motive := fun s' => s'.n = s.n) sched (apply sh) rfl fun s' h a _ => (apply_n sh s' a).trans h

theorem inv_reach (sh : Shape) (h1 : sh.refillUnderStoreLock = true) (h2 : sh.writerCacheUnderStoreLock = true)
    (n : Nat) (kv cache : Option Ent) (h0 : cache = none ∨ cache = kv) (sched : List Act) (hok : ∀ a ∈ sched, a.OK) :
    Inv sh (run sh (St.init n kv cache) sched) ∧ (run sh (St.init n kv cache) sched).n = n :=
  ⟨inv_run sh h1 h2 sched _ hok (inv_init sh n kv cache h0), run_n sh sched _⟩

/-- the ghost `lin` is assigned by one kind of step only: a writer's assignment to `_cache[k]` (it then holds `_mutex` and
`_cacheMutex`), and it becomes what that writer stored -/
theorem lin_step (sh : Shape) (fresh : Bool) (s : St) (i : Nat) :
    (stepTh sh fresh s i).lin = s.lin ∨ ∃ o, s.th i = .wr .hasC o ∧ (stepTh sh fresh s i).lin = o.kv := by
  unfold stepTh
  cases hti : s.th i with
  | idle => exact Or.inl rfl
  | rd pc tmp => simp only; split <;> exact Or.inl rfl
  | ev pc => simp only; split <;> exact Or.inl rfl
  | fp ret =>
    cases ret with
    | some r => exact Or.inl rfl
    | none => simp only; split <;> exact Or.inl rfl
  | wr pc o =>
    cases pc with
    | start => simp only [nextW]; split <;> (try split) <;> simp_all [St.put]
    | hasX => exact Or.inl rfl
    | wroteKv =>
      simp only [nextW]
      cases sh.writerCacheUnderStoreLock <;> cases s.noC <;> simp [St.put]
    | released => simp only [nextW]; split <;> (try split) <;> simp_all [St.put]
    | hasC => exact Or.inr ⟨o, rfl, rfl⟩
    | wroteC => exact Or.inl rfl
    | relC => exact Or.inl rfl
    | done => exact Or.inl rfl

/-- thread `i` is not blocked: given the processor it changes its program counter -/
def Moves (sh : Shape) (s : St) (i : Nat) : Prop := ∀ fresh, (stepTh sh fresh s i).th i ≠ s.th i

/-- about to take `_mutex` -/
def Th.waitsMu : Th → Bool
  | .rd .start _ => true
  | .wr .start _ => true
  | _ => false

theorem put_th_self (s : St) (i : Nat) (t : Th) (kv c l : Option Ent) : (s.put i t kv c l).th i = t := by simp [St.put]

/-- a lock test that fails names a holder -/
theorem exists_of_all_false (n : Nat) (p : Nat → Bool) (h : ((List.range n).all fun j => !p j) = false) :
    ∃ k, k < n ∧ p k = true := by
  have : ¬ ((List.range n).all fun j => !p j) = true := by rw [h]; simp
  rw [List.all_eq_true] at this
  have ⟨k, hk⟩ := Classical.not_forall.mp this
  have ⟨hm, hc⟩ := Classical.not_imp.mp hk
  exact ⟨k, List.mem_range.mp hm, by simpa using hc⟩

/-- a thread inside a call moves, or waits for `_cacheMutex`, or stands at its acquisition of `_mutex` and that is taken -/
theorem moves_or_waits (sh : Shape) (h1 : sh.refillUnderStoreLock = true) (h2 : sh.writerCacheUnderStoreLock = true)
    (s : St) (i : Nat) (hf : (s.th i).finished = false) (hok : (s.th i).Ok s.kv) :
    Moves sh s i ∨ s.noC = false ∨ ((s.th i).waitsMu = true ∧ (s.noX sh = false ∨ s.noS sh = false)) := by
  unfold Moves stepTh
  cases hti : s.th i with
  | idle => simp [hti, Th.finished] at hf
  | fp ret =>
    cases ret with
    | some r => simp [hti, Th.finished] at hf
    | none =>
      cases hc : s.noC with
      | false => exact Or.inr (Or.inl rfl)
      | true => left; intro fresh; simp [St.setTh, St.put]
  | ev pc =>
    cases pc with
    | start =>
      cases hc : s.noC with
      | false => exact Or.inr (Or.inl rfl)
      | true => left; intro fresh; simp [nextE, hc, St.put]
    | hasC => left; intro fresh; simp [nextE, St.put]
    | wrote => left; intro fresh; simp [nextE, St.put]
    | done => simp [hti, Th.finished] at hf
  | rd pc tmp =>
    rw [hti] at hok
    cases pc with
    | start =>
      cases hx : s.noX sh with
      | false => exact Or.inr (Or.inr ⟨rfl, Or.inl rfl⟩)
      | true => left; intro fresh; simp [nextR, hx, St.put]
    | hasS =>
      left; intro fresh
      cases hk : s.kv with
      | none => simp [nextR, hk, St.put]
      | some e => cases fresh <;> simp [nextR, hk, St.put]
    | loaded =>
      cases hc : s.noC with
      | false => exact Or.inr (Or.inl rfl)
      | true => left; intro fresh; simp [nextR, h1, hc, St.put]
    | released => exact absurd rfl hok.1
    | hasC => left; intro fresh; simp [nextR, St.put]
    | wrote => left; intro fresh; simp [nextR, St.put]
    | relC => left; intro fresh; simp [nextR, St.put]
    | done => simp [hti, Th.finished] at hf
  | wr pc o =>
    rw [hti] at hok
    cases pc with
    | start =>
      cases hx : s.noX sh with
      | false => exact Or.inr (Or.inr ⟨rfl, Or.inl rfl⟩)
      | true =>
        cases hs : s.noS sh with
        | false => exact Or.inr (Or.inr ⟨rfl, Or.inr rfl⟩)
        | true => left; intro fresh; simp [nextW, hx, hs, St.put]
    | hasX => left; intro fresh; simp [nextW, St.put]
    | wroteKv =>
      cases hc : s.noC with
      | false => exact Or.inr (Or.inl rfl)
      | true => left; intro fresh; simp [nextW, h2, hc, St.put]
    | released => exact absurd rfl hok.2.1
    | hasC => left; intro fresh; simp [nextW, St.put]
    | wroteC => left; intro fresh; simp [nextW, St.put]
    | relC => left; intro fresh; simp [nextW, St.put]
    | done => simp [hti, Th.finished] at hf

theorem holderC_moves (sh : Shape) (s : St) (k : Nat) (hc : (s.th k).holdsC = true) : Moves sh s k := by
  unfold Moves stepTh
  intro fresh
  cases hti : s.th k with
  | idle => simp [hti, Th.holdsC] at hc
  | fp ret => simp [hti, Th.holdsC] at hc
  | ev pc => cases pc <;> simp_all [Th.holdsC, ePcHoldsC, nextE, St.put]
  | rd pc tmp => cases pc <;> simp_all [Th.holdsC, rHoldsC, nextR, St.put]
  | wr pc o => cases pc <;> simp_all [Th.holdsC, wHoldsC, nextW, St.put]

theorem holder_mu_inside (sh : Shape) (t : Th) (h : t.holdsX sh = true ∨ t.holdsS sh = true) :
    t.finished = false ∧ t.waitsMu = false := by
  cases t with
  | idle => simp [Th.holdsX, Th.holdsS] at h
  | fp ret => simp [Th.holdsX, Th.holdsS] at h
  | ev pc => simp [Th.holdsX, Th.holdsS] at h
  | rd pc tmp => cases pc <;> simp_all [Th.holdsX, Th.holdsS, rHoldsMu, Th.finished, Th.waitsMu]
  | wr pc o => cases pc <;> simp_all [Th.holdsX, Th.holdsS, wHoldsMu, Th.finished, Th.waitsMu]

/-- **no deadlock, any number of threads.**  In every state that satisfies the invariant (every reachable state) in which some
thread is inside a call, some thread can move: both locks are always taken in the order `_mutex`, `_cacheMutex`. -/
theorem raceN_no_deadlock (sh : Shape) (h1 : sh.refillUnderStoreLock = true) (h2 : sh.writerCacheUnderStoreLock = true)
    (s : St) (hi : Inv sh s) (i : Nat) (hn : i < s.n) (hf : (s.th i).finished = false) :
    ∃ j, j < s.n ∧ Moves sh s j := by
  have viaC : s.noC = false → ∃ j, j < s.n ∧ Moves sh s j := by
    intro hc
    obtain ⟨k, hk, hkc⟩ := exists_of_all_false s.n _ hc
    exact ⟨k, hk, holderC_moves sh s k hkc⟩
  rcases moves_or_waits sh h1 h2 s i hf (hi.ok i hn) with h | h | ⟨_, h⟩
  · exact ⟨i, hn, h⟩
  · exact viaC h
  · have : ∃ j, j < s.n ∧ ((s.th j).holdsX sh = true ∨ (s.th j).holdsS sh = true) := by
      rcases h with h | h
      · obtain ⟨j, hj, hx⟩ := exists_of_all_false s.n _ h; exact ⟨j, hj, Or.inl hx⟩
      · obtain ⟨j, hj, hx⟩ := exists_of_all_false s.n _ h; exact ⟨j, hj, Or.inr hx⟩
    obtain ⟨j, hj, hh⟩ := this
    obtain ⟨hjf, hjw⟩ := holder_mu_inside sh _ hh
    rcases moves_or_waits sh h1 h2 s j hjf (hi.ok j hj) with h | h | ⟨h, _⟩
    · exact ⟨j, hj, h⟩
    · exact viaC h
    · rw [hjw] at h; exact absurd h (by simp)

-- for `decide` in the witnesses of `Props/C12.lean`
instance (s : St) : Decidable s.Coherent := inferInstanceAs (Decidable (_ ∨ _))

instance : (a : Act) → Decidable a.OK
  | .call _ (.write _) => inferInstanceAs (Decidable (_ ∨ _))
  | .call _ .fast | .call _ .get | .call _ .evict | .move _ _ => .isTrue trivial

end Iora.Kv.RaceN
