import IoraModel.Model.AssetsRace
import IoraModel.Lemmas.AssetsPhases
import IoraModel.Common.Pool
/-!
# C20 under N threads: theorems about the small-step model of the cache's double-checked locking (`Model/AssetsRace.lean`)
The `run_*` statements are for ALL schedules (induction over the schedule), ALL snapshots and ALL thread pools (`run_agree`,
`run_find_stable`: pools without `reload`); the `solo_*` lemmas are about one thread run alone.
-/
namespace Iora.Assets.Race
open Iora Iora.Assets Iora.Pool
open Iora.Mutex (OwnerStep)

/-! ## the pool: what one step changes, and what it does not (the inputs of the threads) -/

theorem step_none (sh : Shape) (s : State) (i : Nat) (h : s.threads[i]? = none) : step sh s i = s := by
  simp [step, h]

theorem step_some (sh : Shape) (s : State) (i : Nat) (t : Thread) (h : s.threads[i]? = some t) :
    step sh s i = { g := (stepT sh i t s.g).2, threads := s.threads.set i (stepT sh i t s.g).1 } := by
  simp [step, h]

theorem run_invariant2 (sh : Shape) (G : Shared → Prop) (I : Shared → Thread → Prop)
    (hown : ∀ i t g, G g → I g t → G (stepT sh i t g).2 ∧ I (stepT sh i t g).2 (stepT sh i t g).1)
    (hother : ∀ i t g u, G g → I g t → I g u → I (stepT sh i t g).2 u) :
    ∀ (sched : List Nat) (s : State), G s.g → (∀ t ∈ s.threads, I s.g t) →
      G (run sh s sched).g ∧ ∀ t ∈ (run sh s sched).threads, I (run sh s sched).g t := by
  intro sched
  induction sched with
  | nil => intro s hg ht; exact ⟨hg, ht⟩
  | cons i rest ih =>
    intro s hg ht
    show G (run sh (step sh s i) rest).g ∧ ∀ t ∈ (run sh (step sh s i) rest).threads, I (run sh (step sh s i) rest).g t
    cases h : s.threads[i]? with
    | none => rw [step_none sh s i h]; exact ih s hg ht
    | some t =>
      rw [step_some sh s i t h]
      have hm : t ∈ s.threads := List.mem_of_getElem? h
      obtain ⟨h1, h2⟩ := hown i t s.g hg (ht t hm)
      refine ih _ h1 ?_
      intro t' ht'
      rcases List.mem_or_eq_of_mem_set ht' with h' | h'
      · exact hother i t s.g t' hg (ht t hm) (ht t' h')
      · subst h'; exact h2

theorem run_invariant (sh : Shape) (G : Shared → Prop) (T : Thread → Prop)
    (hstep : ∀ i t g, G g → T t → G (stepT sh i t g).2 ∧ T (stepT sh i t g).1) :
    ∀ (sched : List Nat) (s : State), G s.g → (∀ t ∈ s.threads, T t) →
      G (run sh s sched).g ∧ ∀ t ∈ (run sh s sched).threads, T t :=
  run_invariant2 sh G (fun _ => T) hstep fun _ _ _ _ _ _ hu => hu

theorem stepT_op (sh : Shape) (i : Nat) (t : Thread) (g : Shared) : (stepT sh i t g).1.op = t.op := rfl
theorem stepT_sn (sh : Shape) (i : Nat) (t : Thread) (g : Shared) : (stepT sh i t g).1.sn = t.sn := rfl

theorem step_inputs (sh : Shape) (s : State) (i : Nat) :
    (step sh s i).threads.map (fun t => (t.op, t.sn)) = s.threads.map (fun t => (t.op, t.sn)) := by
  cases h : s.threads[i]? with
  | none => rw [step_none sh s i h]
  | some t =>
    rw [step_some sh s i t h]
    simp only [List.map_set]
    apply set_same
    simp [List.getElem?_map, h, stepT]

theorem run_inputs (sh : Shape) : ∀ (sched : List Nat) (s : State),
    (run sh s sched).threads.map (fun t => (t.op, t.sn)) = s.threads.map (fun t => (t.op, t.sn)) := by
  intro sched
  induction sched with
  | nil => intro s; rfl
  | cons i rest ih => intro s; exact (ih (step sh s i)).trans (step_inputs sh s i)

theorem run_thread_inputs (sh : Shape) (sched : List Nat) (s : State) (j : Nat) (t : Thread)
    (h : (run sh s sched).threads[j]? = some t) : ∃ t0, s.threads[j]? = some t0 ∧ t0.op = t.op ∧ t0.sn = t.sn := by
  have h1 := congrArg (fun l => l[j]?) (run_inputs sh sched s)
  simp only [List.getElem?_map, h, Option.map_some] at h1
  cases h0 : s.threads[j]? with
  | none => simp [h0] at h1
  | some t0 =>
    simp only [h0, Option.map_some, Option.some.injEq, Prod.mk.injEq] at h1
    exact ⟨t0, rfl, h1.1.symm, h1.2.symm⟩

/-! ## the skeleton of the source: `Shape.ok`, flag by flag -/

structure LookupShape.Ok (l : LookupShape) : Prop where
  find1UnderLock : l.find1UnderLock = true
  buildUnderLock : l.buildUnderLock = false
  hasSecondFind : l.hasSecondFind = true
  find2EmplaceSameLock : l.find2EmplaceSameLock = true
  emplace : l.emplace = true

theorem LookupShape.ok_fields {l : LookupShape} (h : l.ok = true) : l.Ok := by
  simp only [LookupShape.ok, Bool.and_eq_true, Bool.not_eq_true'] at h
  exact ⟨h.1.1.1.1, h.1.1.1.2, h.1.1.2, h.1.2, h.2⟩

theorem ok_lookup {sh : Shape} (hok : sh.ok = true) (tmpl : Bool) : (if tmpl then sh.template else sh.static).ok = true := by
  simp only [Shape.ok, Bool.and_eq_true] at hok
  obtain ⟨⟨⟨⟨hS, hT⟩, _⟩, _⟩, _⟩ := hok
  cases tmpl <;> simp [hS, hT]

theorem ok_reload {sh : Shape} (hok : sh.ok = true) :
    sh.reloadUnderLock = true ∧ sh.reloadClearsStatic = true ∧ sh.reloadClearsTemplate = true := by
  simp only [Shape.ok, Bool.and_eq_true] at hok
  exact ⟨hok.1.1.2, hok.1.2, hok.2⟩

theorem ok_emplace {sh : Shape} (hok : sh.ok = true) : sh.static.emplace = true ∧ sh.template.emplace = true :=
  ⟨(LookupShape.ok_fields (ok_lookup hok false)).emplace, (LookupShape.ok_fields (ok_lookup hok true)).emplace⟩

/-! ## R3: only good values in the caches, in the locals and in the results -/

def Val.isT : Val → Bool
  | .s _ => false
  | .t _ => true

section Good
variable (GoodS : Bytes → CacheEntry → Prop) (GoodT : Bytes → Bytes → Prop)

def GoodV (k : Bytes) : Val → Prop
  | .s e => GoodS k e
  | .t d => GoodT k d

def CacheGood (st : FsState) : Prop :=
  (∀ k e, (k, e) ∈ st.staticCache → GoodS k e) ∧ (∀ k d, (k, d) ∈ st.templateCache → GoodT k d)

def RetGood (k : Bytes) : Ret → Prop
  | .inl (.found b) => ∃ e, GoodS k e ∧ b = blobOf e k
  | .inr (some d) => GoodT k d
  | _ => True

/-- `r` is what `weakly_canonical` returned to this lookup and it passed `isContained` -/
def Validated (root : Bytes) (sn : Snaps) (k r : Bytes) : Prop :=
  weaklyCanonicalAt sn.s sn.c (pathAppend root k) = .ok r ∧ isContained root r = true

theorem stepLookup_start (sh : Shape) (i : Nat) (tmpl : Bool) (k : Bytes) (sn : Snaps) (g : Shared) :
    ∃ pc', stepLookup sh i tmpl k sn .start g = (pc', g) ∧
      (pc' = .done (some (missRet tmpl)) ∨ pc' = .done (some (rejRet tmpl)) ∨
       ∃ r, Validated (if tmpl then g.st.templatesRoot else g.st.staticsRoot) sn k r ∧
         (pc' = .build r ∧ (!tmpl && g.st.perRequest) = true ∨
          (!tmpl && g.st.perRequest) = false ∧
            (pc' = .lock1 r ∧ (if tmpl then sh.template else sh.static).find1UnderLock = true ∨
             pc' = .cs1 r ∧ (if tmpl then sh.template else sh.static).find1UnderLock = false))) := by
  simp only [stepLookup]
  generalize (if tmpl = true then g.st.templatesRoot else g.st.staticsRoot) = root
  generalize (if tmpl = true then sh.template else sh.static) = lk
  cases hw : weaklyCanonicalAt sn.s sn.c (pathAppend root k) with
  | error e => exact ⟨_, rfl, .inl rfl⟩
  | ok r =>
    cases hc : isContained root r with
    | false => simp [hc]
    | true =>
      cases hr : isRegularFile sn.r r with
      | false => simp [hc, hr]
      | true => cases (!tmpl && g.st.perRequest) <;> cases lk.find1UnderLock <;> simp [hc, hr, Validated, hw]

def BuildGood (tmpl : Bool) (root : Bytes) (k : Bytes) (sn : Snaps) : Prop :=
  ∀ r v, Validated root sn k r → buildVal tmpl sn r = some v → GoodV GoodS GoodT k v

/-- What a lookup knows at each program point: before the build its path is validated; from the build to the insertion its local is
good and of its own map — at `lockE`/`csE` too, which a skeleton that inserts in a lock scope of its own reaches. -/
def LkGood (tmpl : Bool) (root : Bytes) (k : Bytes) (sn : Snaps) : Pc → Prop
  | .lock1 r | .cs1 r | .build r => Validated root sn k r
  | .lock2 v | .cs2 v | .lockE v | .csE v => GoodV GoodS GoodT k v ∧ v.isT = tmpl
  | .done (some ret) => RetGood GoodS GoodT k ret
  | _ => True

def Frame (rootS rootT : Bytes) (pr : Bool) (st : FsState) : Prop :=
  st.staticsRoot = rootS ∧ st.templatesRoot = rootT ∧ st.perRequest = pr

def ThreadGood (rootS rootT : Bytes) (t : Thread) : Prop :=
  match t.op with
  | .static k => BuildGood GoodS GoodT false rootS k t.sn ∧ LkGood GoodS GoodT false rootS k t.sn t.pc
  | .template k => BuildGood GoodS GoodT true rootT k t.sn ∧ LkGood GoodS GoodT true rootT k t.sn t.pc
  | _ => ∀ ret, t.pc ≠ .done (some ret)      -- `reload` returns nothing

theorem buildVal_some {tmpl : Bool} {sn : Snaps} {r : Bytes} {v : Val} (h : buildVal tmpl sn r = some v) :
    v.isT = tmpl ∧ match v with
      | .s e => buildEntryAt sn.o sn.g sn.z r = some e
      | .t d => readFile sn.o r = some d := by
  unfold buildVal at h
  cases tmpl with
  | true =>
    cases hr : readFile sn.o r with
    | none => simp [hr] at h
    | some d => simp [hr] at h; subst h; exact ⟨rfl, rfl⟩
  | false =>
    cases hr : buildEntryAt sn.o sn.g sn.z r with
    | none => simp [hr] at h
    | some e => simp [hr] at h; subst h; exact ⟨rfl, rfl⟩

theorem find_some {tmpl : Bool} {st : FsState} {k : Bytes} {v : Val} :
    find tmpl st k = some v ↔ match v with
      | .s e => tmpl = false ∧ st.staticCache.lookup k = some e
      | .t d => tmpl = true ∧ st.templateCache.lookup k = some d := by
  cases tmpl <;> cases v <;> simp [find]

theorem find_good (tmpl : Bool) (st : FsState) (k : Bytes) (v : Val) (hc : CacheGood GoodS GoodT st)
    (h : find tmpl st k = some v) : GoodV GoodS GoodT k v ∧ v.isT = tmpl := by
  cases v with
  | s e => obtain ⟨rfl, hl⟩ := find_some.mp h; exact ⟨hc.1 k e (lookup_mem _ _ _ hl), rfl⟩
  | t d => obtain ⟨rfl, hl⟩ := find_some.mp h; exact ⟨hc.2 k d (lookup_mem _ _ _ hl), rfl⟩

theorem put_mem {α} (emplace : Bool) (k : Bytes) (v : α) (l : List (Bytes × α)) (x : Bytes × α) (h : x ∈ put emplace k v l) :
    x = (k, v) ∨ x ∈ l := by
  unfold put at h
  split at h
  · exact Or.inr h
  · simpa using h

theorem insert_good (sh : Shape) (k : Bytes) (v : Val) (st : FsState) (hc : CacheGood GoodS GoodT st)
    (hv : GoodV GoodS GoodT k v) : CacheGood GoodS GoodT (insert sh k v st) := by
  cases v with
  | s e =>
    refine ⟨?_, hc.2⟩
    intro k' e' hm
    rcases put_mem _ _ _ _ _ hm with h | h
    · injection h with h1 h2; subst h1; subst h2; exact hv
    · exact hc.1 _ _ h
  | t d =>
    refine ⟨hc.1, ?_⟩
    intro k' d' hm
    rcases put_mem _ _ _ _ _ hm with h | h
    · injection h with h1 h2; subst h1; subst h2; exact hv
    · exact hc.2 _ _ h

theorem retOf_good (k : Bytes) (v : Val) (hv : GoodV GoodS GoodT k v) : RetGood GoodS GoodT k (retOf k v) := by
  cases v with
  | s e => exact ⟨e, hv, rfl⟩
  | t d => exact hv

@[simp] theorem release_st (i : Nat) (g : Shared) : (release i g).st = g.st := rfl
@[simp] theorem touch_st (i : Nat) (g : Shared) : (touch i g).st = g.st := rfl
@[simp] theorem touch_owner (i : Nat) (g : Shared) : (touch i g).owner = g.owner := rfl
@[simp] theorem release_unguarded (i : Nat) (g : Shared) : (release i g).unguarded = g.unguarded := rfl

theorem lockStep_st (i : Nat) (g : Shared) (a b : Pc) : (lockStep i g a b).2.st = g.st := by
  unfold lockStep; split <;> rfl

theorem lockStep_pc {P : Pc → Prop} (i : Nat) (g : Shared) {a b : Pc} (ha : P a) (hb : P b) : P (lockStep i g a b).1 := by
  unfold lockStep; split <;> assumption

/-- the three ways the second critical section ends, whatever the flags of the skeleton -/
theorem stepLookup_cs2 (sh : Shape) (i : Nat) (tmpl : Bool) (k : Bytes) (sn : Snaps) (v : Val) (g : Shared) :
    (∃ w, find tmpl g.st k = some w ∧
      stepLookup sh i tmpl k sn (.cs2 v) g = (.done (some (retOf k w)), release i (touch i g))) ∨
    stepLookup sh i tmpl k sn (.cs2 v) g = emplaceDone sh i k v (touch i g) ∨
    stepLookup sh i tmpl k sn (.cs2 v) g = (.lockE v, release i (touch i g)) := by
  simp only [stepLookup, touch_st]
  generalize (if tmpl = true then sh.template else sh.static) = lk
  cases lk.hasSecondFind <;> cases lk.find2EmplaceSameLock <;> cases hf : find tmpl g.st k <;> simp

theorem stepLookup_st (sh : Shape) (i : Nat) (tmpl : Bool) (k : Bytes) (sn : Snaps) (pc : Pc) (g : Shared) :
    (stepLookup sh i tmpl k sn pc g).2.st = g.st ∨
    ∃ v, (pc = .cs2 v ∨ pc = .csE v) ∧ (stepLookup sh i tmpl k sn pc g).2.st = insert sh k v g.st := by
  cases pc with
  | start => obtain ⟨_, h, _⟩ := stepLookup_start sh i tmpl k sn g; exact .inl (by rw [h])
  | build r =>
    refine Or.inl ?_
    simp only [stepLookup]
    split
    · rfl
    · simp only [apply_ite Prod.snd, ite_self]
  | cs1 r =>
    refine Or.inl ?_
    simp only [stepLookup]
    split
    · rfl
    · simp only [apply_ite, release_st, touch_st, ite_self]
  | lock1 r | lock2 v | lockE v => exact Or.inl (lockStep_st _ _ _ _)
  | cs2 v =>
    rcases stepLookup_cs2 sh i tmpl k sn v g with ⟨w, _, h⟩ | h | h <;> rw [h]
    · exact Or.inl rfl
    · exact Or.inr ⟨v, .inl rfl, rfl⟩
    · exact Or.inl rfl
  | csE v => exact Or.inr ⟨v, .inr rfl, rfl⟩
  | lockR | csR | done r => exact Or.inl rfl

theorem stepLookup_good (sh : Shape) (i : Nat) (tmpl : Bool) (k : Bytes) (sn : Snaps) (pc : Pc) (g : Shared)
    (rootS rootT : Bytes) (pr : Bool) (hf : Frame rootS rootT pr g.st)
    (hb : BuildGood GoodS GoodT tmpl (if tmpl then rootT else rootS) k sn) (hc : CacheGood GoodS GoodT g.st)
    (hp : LkGood GoodS GoodT tmpl (if tmpl then rootT else rootS) k sn pc) :
    Frame rootS rootT pr (stepLookup sh i tmpl k sn pc g).2.st ∧
    CacheGood GoodS GoodT (stepLookup sh i tmpl k sn pc g).2.st ∧
    LkGood GoodS GoodT tmpl (if tmpl then rootT else rootS) k sn (stepLookup sh i tmpl k sn pc g).1 := by
  -- the caches: unchanged, or the good local of the second critical section was inserted
  have hst : Frame rootS rootT pr (stepLookup sh i tmpl k sn pc g).2.st ∧
      CacheGood GoodS GoodT (stepLookup sh i tmpl k sn pc g).2.st := by
    rcases stepLookup_st sh i tmpl k sn pc g with h | ⟨v, hv, h⟩ <;> rw [h]
    · exact ⟨hf, hc⟩
    · have hgv : GoodV GoodS GoodT k v := by rcases hv with rfl | rfl <;> exact hp.1
      exact ⟨by cases v <;> exact hf, insert_good GoodS GoodT sh k v _ hc hgv⟩
  refine ⟨hst.1, hst.2, ?_⟩
  generalize hR : (if tmpl = true then rootT else rootS) = root at hb hp ⊢
  have hroot : (if tmpl then g.st.templatesRoot else g.st.staticsRoot) = root := by rw [hf.1, hf.2.1]; exact hR
  have hmiss : RetGood GoodS GoodT k (missRet tmpl) := by cases tmpl <;> simp [missRet, RetGood]
  cases pc with
  | start =>
    obtain ⟨pc', heq, rfl | rfl | ⟨r, hv, ⟨rfl, _⟩ | ⟨_, ⟨rfl, _⟩ | ⟨rfl, _⟩⟩⟩⟩ := stepLookup_start sh i tmpl k sn g <;> rw [heq]
    · exact hmiss
    · cases tmpl <;> simp [rejRet, RetGood, LkGood]
    all_goals exact hroot ▸ hv
  | lock1 v | lock2 v | lockE v => exact lockStep_pc i g hp hp
  | cs1 r =>
    simp only [stepLookup, touch_st]
    split
    · rename_i v hv
      exact retOf_good GoodS GoodT k v (find_good GoodS GoodT tmpl _ k v hc hv).1
    · exact hp
  | build r =>
    simp only [stepLookup]
    generalize (if tmpl = true then sh.template else sh.static) = lk
    split
    · exact hmiss
    · rename_i v hv
      have hgv := hb r v hp hv
      split
      · exact retOf_good GoodS GoodT k v hgv
      · split <;> exact ⟨hgv, (buildVal_some hv).1⟩
  | cs2 v =>
    rcases stepLookup_cs2 sh i tmpl k sn v g with ⟨w, hw, h⟩ | h | h <;> rw [h]
    · exact retOf_good GoodS GoodT k w (find_good GoodS GoodT tmpl _ k w hc hw).1
    · exact retOf_good GoodS GoodT k v hp.1
    · exact hp
  | csE v => exact retOf_good GoodS GoodT k v hp.1
  | lockR | csR | done r => exact hp

theorem stepReload_good (sh : Shape) (i : Nat) (pc : Pc) (g : Shared) (rootS rootT : Bytes) (pr : Bool)
    (hf : Frame rootS rootT pr g.st) (hc : CacheGood GoodS GoodT g.st) :
    Frame rootS rootT pr (stepReload sh i pc g).2.st ∧ CacheGood GoodS GoodT (stepReload sh i pc g).2.st := by
  unfold stepReload
  cases pc with
  | start => simp only; split <;> exact ⟨hf, hc⟩
  | lockR => simp only; rw [lockStep_st]; exact ⟨hf, hc⟩
  | csR =>
    simp only [release_st, touch_st]
    refine ⟨hf, ?_, ?_⟩
    · intro k e h
      simp only at h
      split at h
      · cases h
      · exact hc.1 k e h
    · intro k e h
      simp only at h
      split at h
      · cases h
      · exact hc.2 k e h
  | _ => exact ⟨hf, hc⟩

theorem stepT_good (sh : Shape) (i : Nat) (t : Thread) (g : Shared) (rootS rootT : Bytes) (pr : Bool)
    (hg : Frame rootS rootT pr g.st ∧ CacheGood GoodS GoodT g.st) (ht : ThreadGood GoodS GoodT rootS rootT t) :
    (Frame rootS rootT pr (stepT sh i t g).2.st ∧ CacheGood GoodS GoodT (stepT sh i t g).2.st) ∧
    ThreadGood GoodS GoodT rootS rootT (stepT sh i t g).1 := by
  obtain ⟨hf, hc⟩ := hg
  unfold stepT ThreadGood
  cases hop : t.op with
  | static k =>
    simp only [ThreadGood, hop] at ht
    obtain ⟨h1, h2, h3⟩ := stepLookup_good GoodS GoodT sh i false k t.sn t.pc g rootS rootT pr hf ht.1 hc ht.2
    exact ⟨⟨h1, h2⟩, ht.1, h3⟩
  | template k =>
    simp only [ThreadGood, hop] at ht
    obtain ⟨h1, h2, h3⟩ := stepLookup_good GoodS GoodT sh i true k t.sn t.pc g rootS rootT pr hf ht.1 hc ht.2
    exact ⟨⟨h1, h2⟩, ht.1, h3⟩
  | reload =>
    simp only [ThreadGood, hop] at ht
    refine ⟨stepReload_good GoodS GoodT sh i t.pc g rootS rootT pr hf hc, ?_⟩
    intro ret
    simp only
    unfold stepReload
    cases hpc : t.pc with
    | start => simp only; split <;> simp
    | lockR => exact lockStep_pc (P := (· ≠ .done (some ret))) i g nofun nofun
    | csR => simp
    | done r => simp only; rw [← hpc]; exact ht ret
    | _ => simp
  | none =>
    simp only [ThreadGood, hop] at ht
    refine ⟨⟨hf, hc⟩, ?_⟩
    intro ret
    simp only
    cases hpc : t.pc with
    | start => simp
    | done r => simp only; rw [← hpc]; exact ht ret
    | _ => simp

theorem run_good (sh : Shape) (rootS rootT : Bytes) (pr : Bool) (sched : List Nat) (s : State)
    (hf : Frame rootS rootT pr s.g.st) (hc : CacheGood GoodS GoodT s.g.st)
    (ht : ∀ t ∈ s.threads, ThreadGood GoodS GoodT rootS rootT t) :
    (Frame rootS rootT pr (run sh s sched).g.st ∧ CacheGood GoodS GoodT (run sh s sched).g.st) ∧
    ∀ t ∈ (run sh s sched).threads, ThreadGood GoodS GoodT rootS rootT t :=
  run_invariant sh (fun g => Frame rootS rootT pr g.st ∧ CacheGood GoodS GoodT g.st) (ThreadGood GoodS GoodT rootS rootT)
    (fun i t g hg ht => stepT_good GoodS GoodT sh i t g rootS rootT pr hg ht) sched s ⟨hf, hc⟩ ht

end Good

theorem ThreadGood.ret {GoodS : Bytes → CacheEntry → Prop} {GoodT : Bytes → Bytes → Prop} {rootS rootT : Bytes} {t : Thread}
    (h : ThreadGood GoodS GoodT rootS rootT t) {k : Bytes} (hop : t.op = .static k ∨ t.op = .template k) {ret : Ret}
    (hret : t.pc = .done (some ret)) : RetGood GoodS GoodT k ret := by
  unfold ThreadGood at h
  rcases hop with hop | hop <;> rw [hop, hret] at h <;> exact h.2

/-! ### instance: a value is only ever returned for the key it was built for -/

/-- `e` was in the initial cache under `k`, or is what some thread of the pool that looks up THIS `k` builds -/
def BuiltForS (st0 : FsState) (ts : List (RaceOp × Snaps)) (k : Bytes) (e : CacheEntry) : Prop :=
  (k, e) ∈ st0.staticCache ∨ ∃ x ∈ ts, x.1 = .static k ∧ ∃ r, buildEntryAt x.2.o x.2.g x.2.z r = some e

def BuiltForT (st0 : FsState) (ts : List (RaceOp × Snaps)) (k : Bytes) (d : Bytes) : Prop :=
  (k, d) ∈ st0.templateCache ∨ ∃ x ∈ ts, x.1 = .template k ∧ ∃ r, readFile x.2.o r = some d

theorem init_builtFor (st0 : FsState) (ts : List (RaceOp × Snaps)) :
    ∀ t ∈ (State.init st0 ts).threads,
      ThreadGood (BuiltForS st0 ts) (BuiltForT st0 ts) st0.staticsRoot st0.templatesRoot t := by
  intro t ht
  simp only [State.init, List.mem_map] at ht
  obtain ⟨x, hx, rfl⟩ := ht
  unfold ThreadGood
  cases hop : x.1 with
  | static k =>
    refine ⟨?_, trivial⟩
    intro r v _ hb
    obtain ⟨hk, he⟩ := buildVal_some hb
    cases v with
    | t d => cases hk
    | s e => exact Or.inr ⟨x, hx, hop, r, he⟩
  | template k =>
    refine ⟨?_, trivial⟩
    intro r v _ hb
    obtain ⟨hk, he⟩ := buildVal_some hb
    cases v with
    | s e => cases hk
    | t d => exact Or.inr ⟨x, hx, hop, r, he⟩
  | reload | none => intro ret; simp

/-! ## R2: every map access is inside a critical section of `_fs->mutex`; at most one thread is inside one -/

/-- the program points inside a `lock_guard` scope (for the lock skeleton of the source) -/
def holds : Pc → Bool
  | .cs1 _ | .cs2 _ | .csE _ | .csR => true
  | _ => false

def MutexOK (i : Nat) (pc : Pc) (g : Shared) : Prop := (holds pc = true ↔ g.owner = some i)

theorem lockStep_mutex (i : Nat) (g : Shared) (a b : Pc) (ha : holds a = true)
    (h1 : MutexOK i b g) (h2 : g.unguarded = false) :
    (lockStep i g a b).2.unguarded = false ∧ MutexOK i (lockStep i g a b).1 (lockStep i g a b).2 ∧
    OwnerStep i g.owner (lockStep i g a b).2.owner := by
  unfold lockStep
  split
  · rename_i ho; exact ⟨h2, by simp [MutexOK, ha], ho ▸ .acquire i⟩
  · exact ⟨h2, h1, .refl _ _⟩

theorem release_not_held (i : Nat) (g : Shared) (h : g.owner ≠ some i) : (release i g).owner = g.owner := by
  simp [release, h]

theorem touch_held (i : Nat) (g : Shared) (h : g.owner = some i) (h2 : g.unguarded = false) : (touch i g).unguarded = false := by
  simp [touch, h, h2]

theorem stepLookup_mutex (sh : Shape) (i : Nat) (tmpl : Bool) (k : Bytes) (sn : Snaps) (pc : Pc) (g : Shared)
    (hok : (if tmpl then sh.template else sh.static).ok = true) (h1 : MutexOK i pc g) (h2 : g.unguarded = false) :
    (stepLookup sh i tmpl k sn pc g).2.unguarded = false ∧
    MutexOK i (stepLookup sh i tmpl k sn pc g).1 (stepLookup sh i tmpl k sn pc g).2 ∧
    OwnerStep i g.owner (stepLookup sh i tmpl k sn pc g).2.owner := by
  obtain ⟨hfind1, hbuild, hsecond, hsame, -⟩ := LookupShape.ok_fields hok
  -- outside a critical section a step leaves the owner alone
  have hidle : ∀ pc', holds pc = false → holds pc' = false → MutexOK i pc' g := by
    intro pc' ha hb
    unfold MutexOK at *
    rw [hb]; rw [ha] at h1; exact h1
  -- inside one the thread owns the mutex, touches the maps guarded and gives the mutex back
  have hrel : ∀ pc' (g' : Shared), holds pc = true → holds pc' = false → g'.owner = g.owner → g'.unguarded = false →
      (release i g').unguarded = false ∧ MutexOK i pc' (release i g') ∧ OwnerStep i g.owner (release i g').owner := by
    intro pc' g' ha hb ho hu
    have hown : g.owner = some i := h1.mp ha
    have : (release i g').owner = none := by simp [release, ho, hown]
    refine ⟨hu, ?_, by rw [hown, this]; exact .release i⟩
    unfold MutexOK; rw [hb, this]; simp
  cases pc with
  | start =>
    obtain ⟨pc', heq, hpc⟩ := stepLookup_start sh i tmpl k sn g
    rw [heq]
    refine ⟨h2, hidle _ rfl ?_, .refl _ _⟩
    rcases hpc with rfl | rfl | ⟨r, _, ⟨rfl, _⟩ | ⟨_, ⟨rfl, _⟩ | ⟨_, h⟩⟩⟩
    · rfl
    · rfl
    · rfl
    · rfl
    · rw [hfind1] at h; cases h
  | lock1 v | lock2 v | lockE v => exact lockStep_mutex i g _ _ rfl h1 h2
  | cs1 r =>
    have hown : g.owner = some i := h1.mp rfl
    simp only [stepLookup, touch_st, hbuild, Bool.false_eq_true, if_false]
    split <;> exact hrel _ _ rfl rfl rfl (touch_held i g hown h2)
  | build r =>
    have hno : g.owner ≠ some i := fun h => by have := h1.mpr h; simp [holds] at this
    simp only [stepLookup, hbuild, Bool.false_eq_true, if_false]
    split
    · refine ⟨h2, ?_, OwnerStep.giveBack i g.owner⟩
      unfold MutexOK; rw [release_not_held i g hno]; exact hidle _ rfl rfl
    · split <;> exact ⟨h2, hidle _ rfl rfl, .refl _ _⟩
  | cs2 v =>
    have hown : g.owner = some i := h1.mp rfl
    simp only [stepLookup, touch_st, hsecond, hsame, if_true]
    split
    · exact hrel _ _ rfl rfl rfl (touch_held i g hown h2)
    · exact hrel _ { touch i g with st := insert sh k v g.st } rfl rfl rfl (touch_held i g hown h2)
  | csE v =>
    have hown : g.owner = some i := h1.mp rfl
    exact hrel _ { touch i g with st := insert sh k v g.st } rfl rfl rfl (touch_held i g hown h2)
  | lockR | csR | done r => exact ⟨h2, h1, .refl _ _⟩

theorem stepReload_mutex (sh : Shape) (i : Nat) (pc : Pc) (g : Shared) (hok : sh.reloadUnderLock = true)
    (h1 : MutexOK i pc g) (h2 : g.unguarded = false) :
    (stepReload sh i pc g).2.unguarded = false ∧ MutexOK i (stepReload sh i pc g).1 (stepReload sh i pc g).2 ∧
    OwnerStep i g.owner (stepReload sh i pc g).2.owner := by
  unfold stepReload
  cases pc with
  | start =>
    simp only [hok, if_true]
    refine ⟨h2, ?_, .refl _ _⟩
    unfold MutexOK at *; simpa [holds] using h1
  | lockR => exact lockStep_mutex i g _ _ rfl h1 h2
  | csR =>
    have hown : g.owner = some i := h1.mp rfl
    simp only
    refine ⟨touch_held i g hown h2, ?_, OwnerStep.giveBack i g.owner⟩
    unfold MutexOK; simp [holds, release, hown]
  | _ => exact ⟨h2, h1, .refl _ _⟩

theorem stepT_mutex (sh : Shape) (hok : sh.ok = true) (i : Nat) (t : Thread) (g : Shared)
    (h1 : MutexOK i t.pc g) (h2 : g.unguarded = false) :
    (stepT sh i t g).2.unguarded = false ∧ MutexOK i (stepT sh i t g).1.pc (stepT sh i t g).2 ∧
    OwnerStep i g.owner (stepT sh i t g).2.owner := by
  unfold stepT
  cases hop : t.op with
  | static k => exact stepLookup_mutex sh i false k t.sn t.pc g (ok_lookup hok false) h1 h2
  | template k => exact stepLookup_mutex sh i true k t.sn t.pc g (ok_lookup hok true) h1 h2
  | reload => exact stepReload_mutex sh i t.pc g (ok_reload hok).1 h1 h2
  | none =>
    refine ⟨h2, ?_, .refl _ _⟩
    simp only
    unfold MutexOK at *
    cases hpc : t.pc <;> simp_all [holds]

def MInv (s : State) : Prop :=
  s.g.unguarded = false ∧ ∀ j t, s.threads[j]? = some t → MutexOK j t.pc s.g

theorem MInv.exclusive {s : State} (h : MInv s) {j j' : Nat} {t t' : Thread} (hj : s.threads[j]? = some t)
    (hj' : s.threads[j']? = some t') (ht : holds t.pc = true) (ht' : holds t'.pc = true) : j = j' := by
  have h1 := (h.2 j t hj).mp ht
  rw [(h.2 j' t' hj').mp ht'] at h1
  injection h1 with h1
  exact h1.symm

theorem MInv.build_unlocked {s : State} (h : MInv s) {j : Nat} {t : Thread} {r : Bytes} (hj : s.threads[j]? = some t)
    (hpc : t.pc = .build r) : s.g.owner ≠ some j := fun ho => by
  have := (h.2 j t hj).mpr ho
  rw [hpc] at this; cases this

theorem step_minv (sh : Shape) (hok : sh.ok = true) (s : State) (i : Nat) (h : MInv s) : MInv (step sh s i) := by
  cases hi : s.threads[i]? with
  | none => rw [step_none sh s i hi]; exact h
  | some t =>
    rw [step_some sh s i t hi]
    obtain ⟨hu, hall⟩ := h
    obtain ⟨h1, h2, h3⟩ := stepT_mutex sh hok i t s.g (hall i t hi) hu
    exact ⟨h1, forall_set hall h2 fun _ _ hne hold => hold.trans (h3.other hne).symm⟩

/-- an induction of its own: `MutexOK` speaks of the index of the thread, which `run_invariant2` does not carry -/
theorem run_minv (sh : Shape) (hok : sh.ok = true) : ∀ (sched : List Nat) (s : State), MInv s → MInv (run sh s sched) := by
  intro sched
  induction sched with
  | nil => intro s h; exact h
  | cons i rest ih => intro s h; exact ih _ (step_minv sh hok s i h)

theorem init_minv (st : FsState) (ts : List (RaceOp × Snaps)) : MInv (State.init st ts) := by
  refine ⟨rfl, ?_⟩
  intro j t hj
  simp only [State.init, List.getElem?_map] at hj
  cases h : ts[j]? with
  | none => simp [h] at hj
  | some x => simp [h] at hj; subst hj; simp [MutexOK, holds, State.init]

/-! ## R1: one thread alone is the sequential model -/

def soloT (sh : Shape) (i : Nat) : Nat → Thread × Shared → Thread × Shared
  | 0, x => x
  | n + 1, x => soloT sh i n (stepT sh i x.1 x.2)

theorem run_solo (sh : Shape) (i : Nat) : ∀ (n : Nat) (s : State) (t : Thread), s.threads[i]? = some t →
    run sh s (List.replicate n i) =
      { g := (soloT sh i n (t, s.g)).2, threads := s.threads.set i (soloT sh i n (t, s.g)).1 } := by
  intro n
  induction n with
  | zero => intro s t h; simp [run, soloT, set_same h]
  | succ n ih =>
    intro s t h
    show run sh (step sh s i) (List.replicate n i) = _
    rw [step_some sh s i t h]
    rw [ih _ (stepT sh i t s.g).1 (get_set_self h)]
    simp [soloT, List.set_set]

/-- Why `soloLen` steps, here and in `solo_template` / `solo_reload`: 8 moves is the longest path of any skeleton (one that inserts
in a lock scope of its own: start, lock1, cs1, build, lock2, cs2, lockE, csE, done); with `ok` it is 6 moves, and further steps of
a finished thread change nothing. -/
theorem solo_static (sh : Shape) (hok : sh.ok = true) (i : Nat) (sn : Snaps) (st : FsState) (k : Bytes) (u : Bool) :
    soloT sh i soloLen ({ op := .static k, sn := sn, pc := .start }, { st := st, owner := none, unguarded := u }) =
      ({ op := .static k, sn := sn, pc := .done (some (.inl (getStaticFilesystemAt sn st k).1)) },
       { st := (getStaticFilesystemAt sn st k).2, owner := none, unguarded := u }) := by
  obtain ⟨h1, h2, h3, h4, h5⟩ : sh.static.Ok := LookupShape.ok_fields (ok_lookup hok false)
  unfold getStaticFilesystemAt
  simp only [soloLen, soloT, stepT]
  cases hw : weaklyCanonicalAt sn.s sn.c (pathAppend st.staticsRoot k) with
  | error e => simp [stepLookup, hw, missRet]
  | ok r =>
    cases hc : isContained st.staticsRoot r with
    | false => simp [stepLookup, hw, hc, rejRet]
    | true =>
      cases hr : isRegularFile sn.r r with
      | false => simp [stepLookup, hw, hc, hr, missRet]
      | true =>
        cases hp : st.perRequest with
        | true =>
          cases hb : buildEntryAt sn.o sn.g sn.z r with
          | none => simp [stepLookup, hw, hc, hr, hp, hb, buildVal, missRet, release]
          | some e => simp [stepLookup, hw, hc, hr, hp, hb, buildVal, retOf]
        | false =>
          cases hl : st.staticCache.lookup k with
          | some e => simp [stepLookup, hw, hc, hr, hp, hl, h1, lockStep, touch, find, retOf, release]
          | none =>
            cases hb : buildEntryAt sn.o sn.g sn.z r with
            | none => simp [stepLookup, hw, hc, hr, hp, hl, hb, h1, h2, lockStep, touch, find, buildVal, missRet, release]
            | some e =>
              simp [stepLookup, hw, hc, hr, hp, hl, hb, h1, h2, h3, h4, h5, lockStep, touch, find, buildVal, retOf, release,
                emplaceDone, insert, put]

theorem solo_template (sh : Shape) (hok : sh.ok = true) (i : Nat) (sn : Snaps) (st : FsState) (k : Bytes) (u : Bool) :
    soloT sh i soloLen ({ op := .template k, sn := sn, pc := .start }, { st := st, owner := none, unguarded := u }) =
      ({ op := .template k, sn := sn, pc := .done (some (.inr (getTemplateFilesystemAt sn st k).1)) },
       { st := (getTemplateFilesystemAt sn st k).2, owner := none, unguarded := u }) := by
  obtain ⟨h1, h2, h3, h4, h5⟩ : sh.template.Ok := LookupShape.ok_fields (ok_lookup hok true)
  unfold getTemplateFilesystemAt
  simp only [soloLen, soloT, stepT]
  cases hw : weaklyCanonicalAt sn.s sn.c (pathAppend st.templatesRoot k) with
  | error e => simp [stepLookup, hw, missRet]
  | ok r =>
    cases hc : isContained st.templatesRoot r with
    | false => simp [stepLookup, hw, hc, rejRet]
    | true =>
      cases hr : isRegularFile sn.r r with
      | false => simp [stepLookup, hw, hc, hr, missRet]
      | true =>
        cases hl : st.templateCache.lookup k with
        | some e => simp [stepLookup, hw, hc, hr, hl, h1, lockStep, touch, find, retOf, release]
        | none =>
          cases hb : readFile sn.o r with
          | none => simp [stepLookup, hw, hc, hr, hl, hb, h1, h2, lockStep, touch, find, buildVal, missRet, release]
          | some e =>
            simp [stepLookup, hw, hc, hr, hl, hb, h1, h2, h3, h4, h5, lockStep, touch, find, buildVal, retOf, release,
              emplaceDone, insert, put]

theorem solo_reload (sh : Shape) (hok : sh.ok = true) (i : Nat) (sn : Snaps) (st : FsState) (u : Bool) :
    soloT sh i soloLen ({ op := .reload, sn := sn, pc := .start }, { st := st, owner := none, unguarded := u }) =
      ({ op := .reload, sn := sn, pc := .done none },
       { st := { st with staticCache := [], templateCache := [] }, owner := none, unguarded := u }) := by
  obtain ⟨h1, h2, h3⟩ := ok_reload hok
  simp [soloLen, soloT, stepT, stepReload, h1, h2, h3, lockStep, touch, release]

/-! ## R4: the second critical section returns the winner's entry or its own, and `emplace` never overwrites -/

def lookupOp (tmpl : Bool) (k : Bytes) : RaceOp := if tmpl then .template k else .static k

def isMiss (tmpl : Bool) (ret : Ret) : Prop := ret = missRet tmpl ∨ ret = rejRet tmpl

theorem find_insert_absent (sh : Shape) (k : Bytes) (v : Val) (st : FsState) (h : find v.isT st k = none) :
    find v.isT (insert sh k v st) k = some v := by
  cases v with
  | s e =>
    simp only [find, Val.isT, Bool.false_eq_true, if_false, Option.map_eq_none_iff] at h
    simp [find, Val.isT, insert, put, h]
  | t d =>
    simp only [find, Val.isT, if_true, Option.map_eq_none_iff] at h
    simp [find, Val.isT, insert, put, h]

theorem put_lookup_keep {α} (k k' : Bytes) (v w : α) (l : List (Bytes × α)) (h : l.lookup k' = some w) :
    (put true k v l).lookup k' = some w := by
  unfold put
  cases hl : l.lookup k with
  | some x => simp [h]
  | none =>
    simp only [Bool.true_and, Option.isSome_none, Bool.false_eq_true, if_false, List.lookup_cons]
    cases hkk : k' == k with
    | false => exact h
    | true =>
      have : k' = k := by simpa using hkk
      subst this; rw [hl] at h; cases h

/-- `emplace`: a key that is present keeps its value, whatever is inserted under whatever key -/
theorem find_insert_present (sh : Shape) (hs : sh.static.emplace = true) (ht : sh.template.emplace = true)
    (tmpl : Bool) (k k' : Bytes) (v w : Val) (st : FsState) (h : find tmpl st k' = some w) :
    find tmpl (insert sh k v st) k' = some w := by
  rw [find_some] at h ⊢
  cases v <;> cases w <;> simp only [insert] at h ⊢ <;> refine ⟨h.1, ?_⟩
  · rw [hs]; exact put_lookup_keep _ _ _ _ _ h.2
  · exact h.2
  · exact h.2
  · rw [ht]; exact put_lookup_keep _ _ _ _ _ h.2

theorem cs2_winner_or_own (sh : Shape) (i : Nat) (tmpl : Bool) (k : Bytes) (sn : Snaps) (v : Val) (g : Shared)
    (hok : (if tmpl then sh.template else sh.static).ok = true) (hk : v.isT = tmpl) :
    ∃ w, (stepLookup sh i tmpl k sn (.cs2 v) g).1 = .done (some (retOf k w)) ∧
      find tmpl (stepLookup sh i tmpl k sn (.cs2 v) g).2.st k = some w ∧
      ((find tmpl g.st k = some w ∧ (stepLookup sh i tmpl k sn (.cs2 v) g).2.st = g.st) ∨
       (find tmpl g.st k = none ∧ w = v ∧ (stepLookup sh i tmpl k sn (.cs2 v) g).2.st = insert sh k v g.st)) := by
  unfold stepLookup
  generalize (if tmpl = true then sh.template else sh.static) = lk at *
  have hlk := LookupShape.ok_fields hok
  simp only [touch_st, hlk.hasSecondFind, hlk.find2EmplaceSameLock, if_true]
  cases hf : find tmpl g.st k with
  | some w => exact ⟨w, rfl, hf, Or.inl ⟨rfl, rfl⟩⟩
  | none =>
    refine ⟨v, rfl, ?_, Or.inr ⟨rfl, rfl, rfl⟩⟩
    simp only [emplaceDone, release_st]
    subst hk
    exact find_insert_absent sh k v g.st hf

theorem stepT_st (sh : Shape) (i : Nat) (t : Thread) (g : Shared) (hnr : t.op ≠ .reload) :
    (stepT sh i t g).2.st = g.st ∨ ∃ k v, (stepT sh i t g).2.st = insert sh k v g.st := by
  unfold stepT
  cases hop : t.op with
  | static k => exact (stepLookup_st sh i false k t.sn t.pc g).imp id fun ⟨v, _, h⟩ => ⟨k, v, h⟩
  | template k => exact (stepLookup_st sh i true k t.sn t.pc g).imp id fun ⟨v, _, h⟩ => ⟨k, v, h⟩
  | reload => exact absurd hop hnr
  | none => exact .inl rfl

theorem step_cs2_winner_or_own (sh : Shape) (s : State) (j : Nat) (t : Thread) (tmpl : Bool) (k : Bytes) (v : Val)
    (hok : (if tmpl then sh.template else sh.static).ok = true)
    (hj : s.threads[j]? = some t) (hop : t.op = lookupOp tmpl k) (hpc : t.pc = .cs2 v) (hk : v.isT = tmpl) :
    ∃ w, (step sh s j).result j = some (retOf k w) ∧ find tmpl (step sh s j).g.st k = some w ∧
      ((find tmpl s.g.st k = some w ∧ (step sh s j).g.st = s.g.st) ∨
       (find tmpl s.g.st k = none ∧ w = v ∧ (step sh s j).g.st = insert sh k v s.g.st)) := by
  obtain ⟨w, h1, h2, h3⟩ := cs2_winner_or_own sh j tmpl k t.sn v s.g hok hk
  have hst : stepT sh j t s.g =
      ({ t with pc := (stepLookup sh j tmpl k t.sn (.cs2 v) s.g).1 }, (stepLookup sh j tmpl k t.sn (.cs2 v) s.g).2) := by
    unfold stepT
    cases tmpl with
    | true => simp only [lookupOp, if_true] at hop; simp only [hop, hpc]
    | false => simp only [lookupOp, Bool.false_eq_true, if_false] at hop; simp only [hop, hpc]
  rw [step_some sh s j t hj, hst]
  exact ⟨w, by simp only [State.result, get_set_self hj, h1], h2, h3⟩

theorem stepT_find_stable (sh : Shape) (hs : sh.static.emplace = true) (ht : sh.template.emplace = true)
    (i : Nat) (t : Thread) (g : Shared) (tmpl : Bool) (k : Bytes) (w : Val) (h : find tmpl g.st k = some w)
    (hnr : t.op ≠ .reload) : find tmpl (stepT sh i t g).2.st k = some w := by
  rcases stepT_st sh i t g hnr with h' | ⟨k', v, h'⟩ <;> rw [h']
  · exact h
  · exact find_insert_present sh hs ht tmpl k' k v w g.st h

theorem run_find_stable (sh : Shape) (hok : sh.ok = true) (tmpl : Bool) (k : Bytes) (w : Val) (sched : List Nat) (s : State)
    (hnr : ∀ t ∈ s.threads, t.op ≠ .reload) (h : find tmpl s.g.st k = some w) : find tmpl (run sh s sched).g.st k = some w :=
  (run_invariant sh (fun g => find tmpl g.st k = some w) (fun t => t.op ≠ .reload)
    (fun i t g hg htr => ⟨stepT_find_stable sh (ok_emplace hok).1 (ok_emplace hok).2 i t g tmpl k w hg htr, htr⟩) sched s h hnr).1

theorem insert_perRequest (sh : Shape) (k : Bytes) (v : Val) (st : FsState) : (insert sh k v st).perRequest = st.perRequest := by
  cases v <;> rfl

theorem stepT_perRequest (sh : Shape) (i : Nat) (t : Thread) (g : Shared) (hnr : t.op ≠ .reload) :
    (stepT sh i t g).2.st.perRequest = g.st.perRequest := by
  rcases stepT_st sh i t g hnr with h' | ⟨k', v, h'⟩ <;> rw [h']
  exact insert_perRequest ..

/-! ## R4, globally: in a pool without `reload` all threads that look a key up agree on its entry -/

/-- what a lookup of `k` knows about the cache: its built value has the kind of its map, the insertion points `lockE`/`csE` of a
skeleton with the second `find` and the insertion in two lock scopes are never reached, and a value it has returned IS the entry of `k` -/
def AgreePc (tmpl : Bool) (k : Bytes) (st : FsState) : Pc → Prop
  | .lock2 v | .cs2 v => v.isT = tmpl
  | .lockE _ | .csE _ => False
  | .done (some ret) => ret = missRet tmpl ∨ ret = rejRet tmpl ∨ ∃ w, ret = retOf k w ∧ find tmpl st k = some w
  | _ => True

def AgreeT (g : Shared) (t : Thread) : Prop :=
  match t.op with
  | .static k => AgreePc false k g.st t.pc
  | .template k => AgreePc true k g.st t.pc
  | .reload => False          -- pools without `reload`
  | .none => True

theorem stepLookup_agree (sh : Shape) (i : Nat) (tmpl : Bool) (k : Bytes) (sn : Snaps) (pc : Pc) (g : Shared)
    (hok : (if tmpl then sh.template else sh.static).ok = true) (hpr : g.st.perRequest = false)
    (h : AgreePc tmpl k g.st pc) : AgreePc tmpl k (stepLookup sh i tmpl k sn pc g).2.st (stepLookup sh i tmpl k sn pc g).1 := by
  cases pc with
  | cs2 v =>
    obtain ⟨w, h1, h2, _⟩ := cs2_winner_or_own sh i tmpl k sn v g hok h
    rw [h1]
    exact Or.inr (Or.inr ⟨w, rfl, h2⟩)
  | lockE v | csE v => exact absurd h id
  | lockR | csR | done r => exact h
  | start =>
    obtain ⟨pc', heq, rfl | rfl | ⟨r, _, ⟨rfl, _⟩ | ⟨_, ⟨rfl, _⟩ | ⟨rfl, _⟩⟩⟩⟩ := stepLookup_start sh i tmpl k sn g <;> rw [heq]
    · exact Or.inl rfl
    · exact Or.inr (Or.inl rfl)
    all_goals trivial
  | lock1 r =>
    unfold stepLookup
    simp only [lockStep_st]
    exact lockStep_pc i g trivial trivial
  | lock2 v =>
    unfold stepLookup
    simp only [lockStep_st]
    exact lockStep_pc i g h h
  | cs1 r =>
    unfold stepLookup
    simp only [touch_st]
    split
    · rename_i v hv
      exact Or.inr (Or.inr ⟨v, rfl, hv⟩)
    · trivial
  | build r =>
    unfold stepLookup
    generalize (if tmpl = true then sh.template else sh.static) = lk at *
    simp only [hpr, Bool.and_false, Bool.false_eq_true, if_false, (LookupShape.ok_fields hok).buildUnderLock]
    split
    · exact Or.inl rfl
    · rename_i v hv
      exact (buildVal_some hv).1

theorem agreePc_stable (tmpl : Bool) (k : Bytes) (st st' : FsState) (pc : Pc)
    (hst : ∀ w, find tmpl st k = some w → find tmpl st' k = some w) (h : AgreePc tmpl k st pc) : AgreePc tmpl k st' pc := by
  cases pc with
  | done r =>
    cases r with
    | none => trivial
    | some ret =>
      rcases h with h | h | ⟨w, h1, h2⟩
      · exact Or.inl h
      · exact Or.inr (Or.inl h)
      · exact Or.inr (Or.inr ⟨w, h1, hst w h2⟩)
  | _ => exact h

theorem agreeT_not_reload (g : Shared) (t : Thread) (h : AgreeT g t) : t.op ≠ .reload := by
  intro ho; unfold AgreeT at h; rw [ho] at h; exact h

/-- `hpr`: a per-request result is no cache entry.  No `reload` in the pool (`AgreeT`): it clears the entry that earlier results agree with. -/
theorem run_agree (sh : Shape) (hok : sh.ok = true) (sched : List Nat) (s : State) (hpr : s.g.st.perRequest = false)
    (ht : ∀ t ∈ s.threads, AgreeT s.g t) :
    (run sh s sched).g.st.perRequest = false ∧ ∀ t ∈ (run sh s sched).threads, AgreeT (run sh s sched).g t := by
  have hS := ok_lookup hok false
  have hT := ok_lookup hok true
  obtain ⟨hes, het⟩ := ok_emplace hok
  refine run_invariant2 sh (fun g => g.st.perRequest = false) AgreeT ?_ ?_ sched s hpr ht
  · intro i t g hg hi
    have hnr := agreeT_not_reload g t hi
    refine ⟨by rw [stepT_perRequest sh i t g hnr]; exact hg, ?_⟩
    unfold AgreeT at hi ⊢
    unfold stepT
    cases hop : t.op with
    | static k => rw [hop] at hi; exact stepLookup_agree sh i false k t.sn t.pc g hS hg hi
    | template k => rw [hop] at hi; exact stepLookup_agree sh i true k t.sn t.pc g hT hg hi
    | reload => exact absurd hop hnr
    | none => trivial
  · intro i t g u _ hi hu
    have hnr := agreeT_not_reload g t hi
    unfold AgreeT at hu ⊢
    cases hop : u.op with
    | static k =>
      rw [hop] at hu
      exact agreePc_stable false k _ _ u.pc (fun w hw => stepT_find_stable sh hes het i t g false k w hw hnr) hu
    | template k =>
      rw [hop] at hu
      exact agreePc_stable true k _ _ u.pc (fun w hw => stepT_find_stable sh hes het i t g true k w hw hnr) hu
    | reload => rw [hop] at hu; exact hu
    | none => trivial

theorem agreeT_lookup (g : Shared) (t : Thread) (tmpl : Bool) (k : Bytes) (hop : t.op = lookupOp tmpl k) (h : AgreeT g t) :
    AgreePc tmpl k g.st t.pc := by
  unfold AgreeT at h
  cases tmpl with
  | true => simp only [lookupOp, if_true] at hop; rw [hop] at h; exact h
  | false => simp only [lookupOp, Bool.false_eq_true, if_false] at hop; rw [hop] at h; exact h

theorem agree_results (s : State) (hall : ∀ t ∈ s.threads, AgreeT s.g t) (t t' : Thread) (ht : t ∈ s.threads)
    (ht' : t' ∈ s.threads) (tmpl : Bool) (k : Bytes) (hop : t.op = lookupOp tmpl k) (hop' : t'.op = lookupOp tmpl k)
    (ret ret' : Ret) (hr : t.pc = .done (some ret)) (hr' : t'.pc = .done (some ret')) :
    (∃ w, ret = retOf k w ∧ ret' = retOf k w ∧ find tmpl s.g.st k = some w) ∨ isMiss tmpl ret ∨ isMiss tmpl ret' := by
  have h1 := agreeT_lookup s.g t tmpl k hop (hall t ht)
  have h2 := agreeT_lookup s.g t' tmpl k hop' (hall t' ht')
  rw [hr] at h1; rw [hr'] at h2
  rcases h1 with h1 | h1 | ⟨w, hw1, hw2⟩
  · exact Or.inr (Or.inl (Or.inl h1))
  · exact Or.inr (Or.inl (Or.inr h1))
  · rcases h2 with h2 | h2 | ⟨w', hw1', hw2'⟩
    · exact Or.inr (Or.inr (Or.inl h2))
    · exact Or.inr (Or.inr (Or.inr h2))
    · rw [hw2] at hw2'; injection hw2' with hw2'; subst hw2'
      exact Or.inl ⟨w, hw1, hw1', hw2⟩

theorem init_agree (st : FsState) (ts : List (RaceOp × Snaps)) (hnr : ∀ x ∈ ts, x.1 ≠ .reload) :
    ∀ t ∈ (State.init st ts).threads, AgreeT (State.init st ts).g t := by
  intro t ht
  simp only [State.init, List.mem_map] at ht
  obtain ⟨x, hx, rfl⟩ := ht
  have := hnr x hx
  unfold AgreeT
  cases hop : x.1 with
  | static k => trivial
  | template k => trivial
  | reload => exact absurd hop this
  | none => trivial

/-! ## R5: the link to C20 — under every interleaving only bytes that were strictly inside the root are served -/

/-- per thread: the name passed the lexical filter (`getStatic` / `getTemplate` check it before they call the filesystem lookup)
and the environment is `LeafOnly` WHILE this thread's lookup runs (w.r.t. its own snapshots and its own candidate: the `hL` of
`A4_every_point` / `A4_every_point_template`) -/
def ThreadOK (rootS rootT : Bytes) (bnS bnT : List Name) (t : Thread) : Prop :=
  match t.op with
  | .static k => lexicallyRejected k = false ∧ LeafOnly t.sn (pathAppend rootS k) bnS
  | .template k => lexicallyRejected k = false ∧ LeafOnly t.sn (pathAppend rootT k) bnT
  | _ => True

/-- a result consists of bytes that were strictly inside the root at an open of some lookup -/
def RetInside (seen : List Fs) (bnS bnT : List Name) : Ret → Prop
  | .inl (.found b) => BlobGood (EverInside seen bnS) b
  | .inr (some d) => EverInside seen bnT d
  | _ => True

theorem RetGood.inside {seen : List Fs} {bnS bnT : List Name} {k : Bytes} {ret : Ret}
    (h : RetGood (fun _ e => EntryGood (EverInside seen bnS) e) (fun _ d => EverInside seen bnT d) k ret) :
    RetInside seen bnS bnT ret := by
  cases ret with
  | inl r =>
    cases r with
    | found b => obtain ⟨e, he, hb⟩ := h; subst hb; exact he
    | notFound | rejected => trivial
  | inr o =>
    cases o with
    | none => trivial
    | some d => exact h

/-- the file systems that are current at an open of some thread of the pool -/
def seenOf (ts : List Thread) : List Fs := ts.flatMap (fun t => [t.sn.o, t.sn.z])

theorem buildGood_static (seen : List Fs) (bnS bnT : List Name) (rootS : Bytes) (hroot : RootOK rootS bnS) (k : Bytes)
    (sn : Snaps) (hn : lexicallyRejected k = false) (hL : LeafOnly sn (pathAppend rootS k) bnS)
    (ho : sn.o ∈ seen) (hz : sn.z ∈ seen) :
    BuildGood (fun _ e => EntryGood (EverInside seen bnS) e) (fun _ d => EverInside seen bnT d) false rootS k sn := by
  intro r v hv hb
  obtain ⟨hk, he⟩ := buildVal_some hb
  cases v with
  | t d => cases hk
  | s e =>
    obtain ⟨hd, hgz⟩ := buildEntryAt_some he
    obtain ⟨h1, h2⟩ := resolve_phases_inside sn rootS bnS hroot k r hn hv.1 hv.2 hL _ hd
    exact ⟨⟨sn.o, ho, h1⟩, fun g hg => ⟨sn.z, hz, h2 g (hgz g hg)⟩⟩

theorem buildGood_template (seen : List Fs) (bnS bnT : List Name) (rootT : Bytes) (hroot : RootOK rootT bnT) (k : Bytes)
    (sn : Snaps) (hn : lexicallyRejected k = false) (hL : LeafOnly sn (pathAppend rootT k) bnT)
    (ho : sn.o ∈ seen) :
    BuildGood (fun _ e => EntryGood (EverInside seen bnS) e) (fun _ d => EverInside seen bnT d) true rootT k sn := by
  intro r v hv hb
  obtain ⟨hk, he⟩ := buildVal_some hb
  cases v with
  | s e => cases hk
  | t d => exact ⟨sn.o, ho, (resolve_phases_inside sn rootT bnT hroot k r hn hv.1 hv.2 hL d he).1⟩

theorem run_inside (sh : Shape) (bnS bnT : List Name) (s : State) (seen : List Fs)
    (hrS : RootOK s.g.st.staticsRoot bnS) (hrT : RootOK s.g.st.templatesRoot bnT)
    (hcS : ∀ k e, (k, e) ∈ s.g.st.staticCache → EntryGood (EverInside seen bnS) e)
    (hcT : ∀ k d, (k, d) ∈ s.g.st.templateCache → EverInside seen bnT d)
    (hstart : ∀ t ∈ s.threads, t.pc = .start)
    (hseen : ∀ t ∈ s.threads, t.sn.o ∈ seen ∧ t.sn.z ∈ seen)
    (hok : ∀ t ∈ s.threads, ThreadOK s.g.st.staticsRoot s.g.st.templatesRoot bnS bnT t)
    (sched : List Nat) :
    (∀ (j : Nat) (t : Thread), (run sh s sched).threads[j]? = some t → ∀ ret, t.pc = .done (some ret) → RetInside seen bnS bnT ret) ∧
    (∀ k e, (k, e) ∈ (run sh s sched).g.st.staticCache → EntryGood (EverInside seen bnS) e) ∧
    (∀ k d, (k, d) ∈ (run sh s sched).g.st.templateCache → EverInside seen bnT d) ∧
    Frame s.g.st.staticsRoot s.g.st.templatesRoot s.g.st.perRequest (run sh s sched).g.st := by
  have htg : ∀ t ∈ s.threads, ThreadGood (fun _ e => EntryGood (EverInside seen bnS) e) (fun _ d => EverInside seen bnT d)
      s.g.st.staticsRoot s.g.st.templatesRoot t := by
    intro t ht
    have h1 := hok t ht
    have h2 := hstart t ht
    have h3 := hseen t ht
    unfold ThreadGood
    unfold ThreadOK at h1
    cases hop : t.op with
    | static k =>
      rw [hop] at h1
      exact ⟨buildGood_static seen bnS bnT _ hrS k t.sn h1.1 h1.2 h3.1 h3.2, by rw [h2]; trivial⟩
    | template k =>
      rw [hop] at h1
      exact ⟨buildGood_template seen bnS bnT _ hrT k t.sn h1.1 h1.2 h3.1, by rw [h2]; trivial⟩
    | reload | none => intro ret; rw [h2]; simp
  have hg := run_good (fun _ e => EntryGood (EverInside seen bnS) e) (fun _ d => EverInside seen bnT d) sh
    s.g.st.staticsRoot s.g.st.templatesRoot s.g.st.perRequest sched s ⟨rfl, rfl, rfl⟩ ⟨hcS, hcT⟩ htg
  refine ⟨?_, hg.1.2.1, hg.1.2.2, hg.1.1⟩
  intro j t hj ret hret
  have h := hg.2 t (List.mem_of_getElem? hj)
  cases hop : t.op with
  | static k => exact (h.ret (.inl hop) hret).inside
  | template k => exact (h.ret (.inr hop) hret).inside
  | reload | none => unfold ThreadGood at h; rw [hop] at h; exact absurd hret (h ret)

/-! ## R7: the gated schedule is a schedule -/

theorem run_append (sh : Shape) (s : State) (a b : List Nat) : run sh s (a ++ b) = run sh (run sh s a) b := by
  simp [run, List.foldl_append]

theorem advanceToBuild_is_run (sh : Shape) (i : Nat) : ∀ (n : Nat) (s : State),
    ∃ m, m ≤ n ∧ advanceToBuild sh i n s = run sh s (List.replicate m i) := by
  intro n
  induction n with
  | zero => intro s; exact ⟨0, Nat.le_refl _, rfl⟩
  | succ n ih =>
    intro s
    unfold advanceToBuild
    split
    · exact ⟨0, Nat.zero_le _, rfl⟩
    · obtain ⟨m, hm, h⟩ := ih (step sh s i)
      exact ⟨m + 1, Nat.succ_le_succ hm, by rw [h]; rfl⟩

end Iora.Assets.Race
