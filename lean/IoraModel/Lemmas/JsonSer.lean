import IoraModel.Lemmas.JsonSpec
/-! Lemmas for J3/J2 (C13): the serializer's output is the rendering of a syntax tree that denotes the value. The toy libc at the
end (`leadDigits`, `toyOps`) is what `LibcOk_satisfiable` / `LocaleLibc_satisfiable` of Props/C13 are stated with. -/
namespace Iora.Json.Spec
open Iora Iora.Json

/-- the string item `_escapeString` emits for one byte -/
def escItem (b : UInt8) : StrItem :=
  if b = 0x22 then .esc .quote else if b = 0x5C then .esc .backslash else if b = 0x08 then .esc .b else if b = 0x0C then .esc .f
  else if b = 0x0A then .esc .n else if b = 0x0D then .esc .r else if b = 0x09 then .esc .t
  else if h : b.toNat < 32 then
    .u ⟨0, false⟩ ⟨0, false⟩ ⟨⟨b.toNat / 16, by omega⟩, false⟩ ⟨⟨b.toNat % 16, by omega⟩, false⟩
  else .raw b

/-- what is needed of `escItem b`, as a Boolean so that the bytes below `]` can be checked by evaluation: it renders as `_escapeString`
    writes the byte and denotes it; a raw item is the byte itself, `≥ 0x20`, not `"` or `\`; a `\u` item is no high surrogate -/
def escCheck (b : UInt8) : Bool :=
  ((escItem b).render == escapeByte b) && (denoteItems [escItem b] == [b]) &&
  (match escItem b with
   | .raw c => c == b && decide (32 ≤ b.toNat) && b != 0x22 && b != 0x5C
   | .esc _ => true
   | .u a1 a2 a3 a4 => !isHigh (codeUnit a1 a2 a3 a4))

theorem ne_of_toNat_lt {b c : UInt8} (h : c.toNat < b.toNat) : b ≠ c := fun e => by rw [e] at h; exact Nat.lt_irrefl _ h

/-- every byte the `switch` of `_escapeString` has an arm for, and every control byte, is below `]` (0x5D); from there on the byte
    is written as it is -/
theorem escapeByte_of_ge {b : UInt8} (h : 93 ≤ b.toNat) : escapeByte b = [b] := by
  have hne : ∀ k, k < 93 → (b.toNat == k) = false := fun k hk => by rw [beq_eq_false_iff_ne]; omega
  have hl : Gen.Json.serEscapes.lookup b.toNat = none := by
    simp only [Gen.Json.serEscapes, List.lookup, hne _ (by decide : 34 < 93), hne _ (by decide : 92 < 93), hne _ (by decide : 8 < 93),
      hne _ (by decide : 12 < 93), hne _ (by decide : 10 < 93), hne _ (by decide : 13 < 93), hne _ (by decide : 9 < 93)]
  unfold escapeByte
  rw [hl]
  exact if_neg (by show ¬ b.toNat < 32; omega)

theorem escItem_of_ge {b : UInt8} (h : 93 ≤ b.toNat) : escItem b = .raw b := by
  have hne : ∀ c : UInt8, c.toNat < 93 → b ≠ c := fun c hc => ne_of_toNat_lt (Nat.lt_of_lt_of_le hc h)
  unfold escItem
  rw [if_neg (hne _ (by decide)), if_neg (hne _ (by decide)), if_neg (hne _ (by decide)), if_neg (hne _ (by decide)),
    if_neg (hne _ (by decide)), if_neg (hne _ (by decide)), if_neg (hne _ (by decide)), dif_neg (by omega)]

theorem escCheck_sweep : ∀ n, n < 93 → escCheck (b8 n) = true := by decide +kernel

theorem escCheck_table (b : UInt8) : escCheck b = true := by
  by_cases h : b.toNat < 93
  · have := escCheck_sweep b.toNat h
    rwa [b8_of_toNat] at this
  · have h : 93 ≤ b.toNat := Nat.le_of_not_lt h
    simp only [escCheck, escItem_of_ge h, escapeByte_of_ge h, StrItem.render, denoteItems, beq_self_eq_true, Bool.and_true, Bool.true_and,
      Bool.and_eq_true, decide_eq_true_eq, bne_iff_ne, ne_eq]
    exact ⟨⟨by omega, ne_of_toNat_lt (Nat.lt_of_lt_of_le (by decide) h)⟩, ne_of_toNat_lt (Nat.lt_of_lt_of_le (by decide) h)⟩

theorem escItem_raw {b c : UInt8} (h : escItem b = .raw c) : c = b ∧ 32 ≤ b.toNat ∧ b ≠ 0x22 ∧ b ≠ 0x5C := by
  have ht := escCheck_table b
  simp only [escCheck, h, Bool.and_eq_true, beq_iff_eq, decide_eq_true_eq, bne_iff_ne, ne_eq] at ht
  exact ⟨ht.2.1.1.1, ht.2.1.1.2, ht.2.1.2, ht.2.2⟩

theorem escItem_spec (b : UInt8) :
    (escItem b).render = escapeByte b ∧ (escItem b).ok ∧
    (∀ a1 a2 a3 a4, escItem b = .u a1 a2 a3 a4 → isHigh (codeUnit a1 a2 a3 a4) = false) ∧
    denoteItems [escItem b] = [b] := by
  have h := escCheck_table b
  simp only [escCheck, Bool.and_eq_true, beq_iff_eq] at h
  obtain ⟨⟨h1, h2⟩, h3⟩ := h
  refine ⟨h1, ?_, ?_, h2⟩
  · cases he : escItem b with
    | raw c => obtain ⟨rfl, -, h⟩ := escItem_raw he; exact h
    | esc e => trivial
    | u a1 a2 a3 a4 => trivial
  · intro a1 a2 a3 a4 he
    rw [he] at h3
    simpa using h3

theorem denoteItems_escItem_cons (b : UInt8) (tl : List StrItem) : denoteItems (escItem b :: tl) = b :: denoteItems tl := by
  obtain ⟨-, -, hu, hd⟩ := escItem_spec b
  cases he : escItem b with
  | raw c | esc e => rw [he] at hd; simp only [denoteItems, List.cons.injEq, and_true] at hd; simp [denoteItems, hd]
  | u a1 a2 a3 a4 =>
    have hh := hu a1 a2 a3 a4 he
    rw [he] at hd
    rw [denoteItems_u_lone _ _ _ _ _ fun _ _ _ _ _ _ => by rw [hh]; rfl] at hd ⊢
    simp only [denoteItems, List.append_nil] at hd
    rw [hd]; rfl

theorem escItems_spec (s : Bytes) :
    renderItems (s.map escItem) = s.flatMap escapeByte ∧ (∀ i ∈ s.map escItem, i.ok) ∧ denoteItems (s.map escItem) = s := by
  induction s with
  | nil => simp [renderItems, denoteItems]
  | cons b s ih =>
    obtain ⟨h1, h2, -, -⟩ := escItem_spec b
    refine ⟨?_, ?_, ?_⟩
    · simp only [List.map_cons, renderItems_cons, h1, ih.1, List.flatMap_cons]
    · intro i hi
      simp only [List.map_cons, List.mem_cons] at hi
      rcases hi with rfl | hi
      · exact h2
      · exact ih.2.1 i hi
    · simp only [List.map_cons, denoteItems_escItem_cons, ih.2.2]

theorem renderString_escItems (s : Bytes) : renderString (s.map escItem) = escapeString s := by
  simp [renderString, escapeString, (escItems_spec s).1]

theorem utf8Encode_ascii (c : Char) (h : c.val.toNat < 128) : String.utf8EncodeChar c = [UInt8.ofNat c.val.toNat] := by
  unfold String.utf8EncodeChar
  simp only
  rw [if_pos (by omega)]

/-- a lead or continuation byte: some low bits of the code point under a marker `k ≥ 0x80` -/
theorem ofNat_marker_ge (x m k : Nat) (hk : 128 ≤ k) (hm : m + k ≤ 256) (h0 : 0 < m) : 128 ≤ (UInt8.ofNat (x % m + k)).toNat := by
  have := Nat.mod_lt x h0
  rw [UInt8.toNat_ofNat', Nat.mod_eq_of_lt (by omega)]
  omega

theorem utf8Encode_high (c : Char) (h : 128 ≤ c.val.toNat) : ∀ b ∈ String.utf8EncodeChar c, 128 ≤ b.toNat := by
  unfold String.utf8EncodeChar
  simp only
  intro b hb
  split at hb
  · omega
  · split at hb
    · simp only [List.mem_cons, List.not_mem_nil, or_false] at hb
      rcases hb with rfl | rfl <;> exact ofNat_marker_ge _ _ _ (by decide) (by decide) (by decide)
    · split at hb
      · simp only [List.mem_cons, List.not_mem_nil, or_false] at hb
        rcases hb with rfl | rfl | rfl <;> exact ofNat_marker_ge _ _ _ (by decide) (by decide) (by decide)
      · simp only [List.mem_cons, List.not_mem_nil, or_false] at hb
        rcases hb with rfl | rfl | rfl | rfl <;> exact ofNat_marker_ge _ _ _ (by decide) (by decide) (by decide)

theorem map_escItem_high (bs : Bytes) (h : ∀ b ∈ bs, 128 ≤ b.toNat) : bs.map escItem = bs.map StrItem.raw := by
  induction bs with
  | nil => rfl
  | cons b bs ih =>
    simp only [List.map_cons, escItem_of_ge (Nat.le_trans (by decide) (h b (by simp))), ih (fun b' hb' => h b' (by simp [hb']))]

theorem strictItems_escItems (cs : List Char) : StrictItems ((cs.flatMap String.utf8EncodeChar).map escItem) := by
  induction cs with
  | nil => exact .nil
  | cons c cs ih =>
    simp only [List.flatMap_cons, List.map_append]
    by_cases h : c.val.toNat < 128
    · rw [utf8Encode_ascii c h]
      simp only [List.map_cons, List.map_nil, List.singleton_append]
      have hb : (UInt8.ofNat c.val.toNat).toNat = c.val.toNat := b8_toNat_small (by omega)
      cases he : escItem (UInt8.ofNat c.val.toNat) with
      | esc e => exact .esc e ih
      | u a1 a2 a3 a4 => exact .u a1 a2 a3 a4 ih
      | raw b =>
        obtain ⟨rfl, h1, h2, h3⟩ := escItem_raw he
        have := StrictItems.char c (tl := (cs.flatMap String.utf8EncodeChar).map escItem) (by omega)
          (by intro e; apply h2; rw [← UInt8.toNat_inj, hb, e]; rfl) (by intro e; apply h3; rw [← UInt8.toNat_inj, hb, e]; rfl) ih
        rw [utf8Encode_ascii c h] at this
        simpa using this
    · have hh : 128 ≤ c.val.toNat := by omega
      rw [map_escItem_high _ (utf8Encode_high c hh)]
      exact .char c (by omega) (by omega) (by omega) ih

theorem strictItems_of_valid (s : Bytes) (h : ValidUtf8 s) : StrictItems (s.map escItem) := by
  obtain ⟨cs, rfl⟩ := h
  exact strictItems_escItems cs

theorem digits_no_marker (ds : Bytes) (h : ∀ d ∈ ds, isDigit d = true) : hasMarker ds = false := by
  unfold hasMarker
  rw [List.any_eq_false]
  intro d hd
  have := (isDigit_iff d).mp (h d hd)
  simp only [Gen.Json.fmtMarkers, List.contains_cons, List.contains_nil, Bool.or_false, Bool.or_eq_true, beq_iff_eq, not_or]
  omega

theorem hasMarker_append (a b : Bytes) : hasMarker (a ++ b) = (hasMarker a || hasMarker b) := by
  simp [hasMarker, List.any_append]

/-- the `find_first_of(".eE")` test of `_formatDouble` decides exactly "the token has a fraction or an exponent" -/
theorem hasMarker_render (n : SNum) : hasMarker n.render = n.isFloat := by
  have hsign : hasMarker (if n.neg then [0x2D] else []) = false := by cases n.neg <;> decide
  have hint : hasMarker (natToDec n.int) = false := digits_no_marker _ (natToDec_digits n.int)
  have hfrac : hasMarker n.renderFrac = n.frac.isSome := by
    unfold SNum.renderFrac
    cases hf : n.frac with
    | none => rfl
    | some ds => simp [hasMarker, Gen.Json.fmtMarkers]
  have hexp : hasMarker n.renderExp = n.exp.isSome := by
    unfold SNum.renderExp
    cases he : n.exp with
    | none => rfl
    | some x =>
      obtain ⟨u, sg, ds⟩ := x
      cases u <;> simp [hasMarker, Gen.Json.fmtMarkers]
  simp only [SNum.render, hasMarker_append, hsign, hint, hfrac, hexp, Bool.false_or, SNum.isFloat]

theorem fmtSearch_spec {ops : FloatOps} (hl : LibcOk ops) (d : UInt64) (hd : isFiniteBits d = true) :
    ∀ (k p : Nat), Gen.Json.fmtPrecLo ≤ p → p + k = Gen.Json.fmtPrecHi →
      (∃ q, Gen.Json.fmtPrecLo ≤ q ∧ q ≤ Gen.Json.fmtPrecHi ∧ fmtSearch ops d k p = ops.printfG q d) ∧
      ops.strtod (fmtSearch ops d k p) = d := by
  intro k
  induction k with
  | zero =>
    intro p hp hk
    simp only [Nat.add_zero] at hk
    subst hk
    exact ⟨⟨_, hp, Nat.le_refl _, rfl⟩, hl.exactHi d hd⟩
  | succ k ih =>
    intro p hp hk
    simp only [fmtSearch]
    split
    · rename_i he
      refine ⟨⟨p, hp, by omega, rfl⟩, ?_⟩
      -- `==` on doubles holds between equal bit patterns and between `+0` and `-0`: `zeroSign` says a zero is read back with its sign
      simp only [dblEq, Bool.and_eq_true, Bool.or_eq_true, beq_iff_eq] at he
      exact he.2.elim id fun h' => hl.zeroSign p d hp (by omega) h'.2 h'.1
    · exact ih (p + 1) (by omega) (by omega)

theorem render_dotZero (n : SNum) (hok : n.ok) (hf : n.isFloat = false) :
    ∃ n' : SNum, n'.ok ∧ n'.isFloat = true ∧ n'.render = n.render ++ Gen.Json.fmtSuffix.map b8 := by
  have hfe := SNum.not_isFloat hf
  refine ⟨{ n with frac := some [0x30] }, ⟨?_, hok.2⟩, rfl, ?_⟩
  · intro ds h
    simp only [Option.some.injEq] at h
    subst h
    exact ⟨by simp, by simp [isDigit]⟩
  · simp [SNum.render, SNum.renderFrac, SNum.renderExp, hfe.1, hfe.2.1, Gen.Json.fmtSuffix, b8]

theorem formatDouble_roundtrips {ops : FloatOps} (hl : LibcOk ops) (d : UInt64) (hd : isFiniteBits d = true) :
    ∃ n : SNum, n.ok ∧ n.isFloat = true ∧ n.render = formatDouble ops d ∧ ops.strtod (formatDouble ops d) = d := by
  obtain ⟨⟨q, hq1, hq2, hs⟩, hrt⟩ := fmtSearch_spec hl d hd (Gen.Json.fmtPrecHi - Gen.Json.fmtPrecLo) Gen.Json.fmtPrecLo
    (Nat.le_refl _) (by decide)
  obtain ⟨n, hok, hr⟩ := hl.shape q d hq1 hq2 hd
  simp only [formatDouble, hd, Bool.not_true, Bool.false_eq_true, ↓reduceIte]
  rw [hs, ← hr] at hrt ⊢
  rw [hasMarker_render n]
  cases hf : n.isFloat with
  | true => exact ⟨n, hok, hf, by simp, by simpa using hrt⟩
  | false =>
    simp only [Bool.false_eq_true, ↓reduceIte]
    obtain ⟨n', hok', hf', hr'⟩ := render_dotZero n hok hf
    exact ⟨n', hok', hf', hr', by rw [hl.dotZero n hok hf]; exact hrt⟩

/-- the line feed after `[`, `{`, `,` and before the closing bracket when `pretty` -/
def nlW (o : Opts) : Ws := if o.pretty then [.lf] else []
/-- the indentation at depth `n` when `pretty` -/
def indWo (o : Opts) (wi : Ws) (n : Nat) : Ws := if o.pretty then (List.replicate n wi).flatten else []
/-- the blank after `:` when `pretty` -/
def spW (o : Opts) : Ws := if o.pretty then [.sp] else []

theorem indWo_render (o : Opts) (wi : Ws) (h : wi.render = o.indent) (n : Nat) : (indWo o wi n).render = ind o n := by
  unfold indWo ind; split
  · induction n with
    | zero => simp [indentN, Ws.render]
    | succ n ih =>
      simp only [indentN, List.replicate_succ, List.flatten_cons] at ih ⊢
      rw [ws_render_append, ih, h]
  · rfl

theorem nlW_render (o : Opts) : (nlW o).render = nl o := by
  unfold nlW nl; split <;> rfl

theorem spW_render (o : Opts) : (spW o).render = (if o.pretty then [0x20] else []) := by
  unfold spW; split <;> rfl

theorem SElems.render_cons_ne (w1 : Ws) (v : SVal) (w2 : Ws) (tl : SElems) (h : tl ≠ .nil) :
    (SElems.cons w1 v w2 tl).render = w1.render ++ v.render ++ w2.render ++ 0x2C :: tl.render := by
  cases tl with
  | nil => exact absurd rfl h
  | cons _ _ _ _ => rfl

theorem SMembers.render_cons_ne (w1 : Ws) (k : List StrItem) (w2 w3 : Ws) (v : SVal) (w4 : Ws) (tl : SMembers) (h : tl ≠ .nil) :
    (SMembers.cons w1 k w2 w3 v w4 tl).render
      = w1.render ++ renderString k ++ w2.render ++ [0x3A] ++ w3.render ++ v.render ++ w4.render ++ 0x2C :: tl.render := by
  cases tl with
  | nil => exact absurd rfl h
  | cons _ _ _ _ _ _ _ => rfl

theorem not_mem_keys_of_nodup {acc : List (Bytes × Json)} {k : Bytes} {ks : List Bytes} (h : (acc.map Prod.fst ++ k :: ks).Nodup) :
    k ∉ acc.map Prod.fst :=
  fun hmem => (List.nodup_append.mp h).2.2 k hmem k (List.mem_cons_self ..) rfl

section
variable (ops : FloatOps)

/-- what J3 says of a value `v` written as `text`, and J2 needs: `t` is a syntax tree for it, inside every limit `v` is inside -/
structure SerTree (v : Json) (text : Bytes) (t : SVal) : Prop where
  render : t.render = text
  ok : t.ok
  denote : t.denote ops = v
  fits : ∀ lim d, v.within lim 0 d → t.fits lim d
  strict : v.utf8 → t.strict

/-- the same for the elements of an array and what stands between the brackets -/
structure SerElemsTree (xs : List Json) (text : Bytes) (es : SElems) : Prop where
  render : es.render = text
  ok : es.ok
  denote : es.denote ops = xs
  length : es.length = xs.length
  fits : ∀ lim d, Json.withinList lim 0 d xs → es.fits lim d
  strict : Json.utf8List xs → es.strict

/-- the same for the members of an object; `SMembers.denote` threads the members decoded so far through `insertOrAssign`, so `denote` is
    stated for every accumulator `acc` whose keys are new -/
structure SerMembersTree (ms : List (Bytes × Json)) (text : Bytes) (tms : SMembers) : Prop where
  render : tms.render = text
  ok : tms.ok
  denote : ∀ acc, (acc.map Prod.fst ++ ms.map Prod.fst).Nodup → tms.denote ops acc = acc ++ ms
  length : tms.length = ms.length
  fits : ∀ lim d, Json.withinMembers lim 0 d ms → tms.fits lim d
  strict : Json.utf8Members ms → tms.strict

variable (o : Opts) (wi : Ws)

/-- J3 for one value, at every indentation depth -/
def SerStmt (v : Json) : Prop :=
  ∀ depth, v.Good → ∃ t : SVal, SerTree ops v (serialize ops o depth v) t

/-- The serializer writes line feed and indentation AFTER an element, the grammar has white space only AROUND elements: every element's
    tree takes `nl` and its indentation as leading white space, the tree of the last element takes the closing `nl`, `ind o depth` as
    trailing white space -/
def SerListStmt (xs : List Json) : Prop :=
  ∀ depth, Json.GoodList xs →
    ∃ es : SElems, SerElemsTree ops xs (if xs.isEmpty then [] else nl o ++ serElems ops o depth xs ++ ind o depth) es

def SerMemStmt (ms : List (Bytes × Json)) : Prop :=
  ∀ depth, Json.GoodMembers ms →
    ∃ tms : SMembers,
      SerMembersTree ops ms (if ms.isEmpty then [] else nl o ++ joinMembers o depth (serMembers ops o depth ms) ++ ind o depth) tms

theorem ser_null : SerStmt ops o .null := fun _ _ =>
  ⟨.null, by simp [SVal.render, serialize], trivial, rfl, fun _ _ h => h, fun _ => trivial⟩

theorem ser_bool (b : Bool) : SerStmt ops o (.bool b) := by
  intro _ _
  cases b with
  | true => exact ⟨.true, by simp [SVal.render, serialize], trivial, rfl, fun _ _ h => h, fun _ => trivial⟩
  | false => exact ⟨.false, by simp [SVal.render, serialize], trivial, rfl, fun _ _ h => h, fun _ => trivial⟩

theorem ser_int (i : Int) : SerStmt ops o (.int i) := by
  intro _ hg
  simp only [Json.Good] at hg
  refine ⟨.num ⟨decide (i < 0), i.natAbs, none, none⟩, ?_, ?_, ?_, fun _ _ h => h, fun _ => trivial⟩
  · simp only [SVal.render, SNum.render, SNum.renderFrac, SNum.renderExp, List.append_nil, serialize, intToDec]
    by_cases h : i < 0 <;> simp [h]
  · simp [SVal.ok, SNum.ok]
  · simp only [SVal.denote, SNum.denote, SNum.isFloat, Option.isSome_none, Bool.or_self, Bool.false_eq_true, ↓reduceIte]
    have e : (if decide (i < 0) = true then -((i.natAbs : Nat) : Int) else (i.natAbs : Int)) = i := by
      by_cases h : i < 0 <;> simp [h] <;> omega
    rw [e, if_pos hg]

theorem ser_dbl (hl : LibcOk ops) (d : UInt64) : SerStmt ops o (.dbl d) := by
  intro _ hg
  simp only [Json.Good] at hg
  obtain ⟨n, hok, hf, hr, hs⟩ := formatDouble_roundtrips hl d hg
  refine ⟨.num n, by simp [SVal.render, serialize, hr], hok, ?_, fun _ _ h => h, fun _ => trivial⟩
  simp [SVal.denote, SNum.denote, hf, hr, hs]

theorem ser_str (s : Bytes) : SerStmt ops o (.str s) := by
  intro _ _
  obtain ⟨-, h2, h3⟩ := escItems_spec s
  refine ⟨.str (s.map escItem), by simp [SVal.render, serialize, renderString_escItems], h2, by simp [SVal.denote, h3], ?_, ?_⟩
  · intro lim d h
    simpa [Json.within, SVal.fits, h3] using h
  · intro hu
    simp only [Json.utf8] at hu
    simp only [SVal.strict]
    exact strictItems_of_valid s hu

theorem ser_list_nil : SerListStmt ops o [] := fun _ _ => ⟨.nil, rfl, trivial, rfl, rfl, fun _ _ _ => trivial, fun _ => trivial⟩

theorem ser_mem_nil : SerMemStmt ops o [] := fun _ _ =>
  ⟨.nil, rfl, trivial, fun acc _ => (List.append_nil acc).symm, rfl, fun _ _ _ => trivial, fun _ => trivial⟩

theorem ser_arr (xs : List Json) (hxs : SerListStmt ops o xs) : SerStmt ops o (.arr xs) := by
  intro depth hg
  obtain ⟨es, hes⟩ := hxs depth hg
  refine ⟨.arr [] es, ?_, hes.ok, by simp [SVal.denote, hes.denote],
    fun lim d h => ⟨h.1, by rw [hes.length]; exact h.2.1, hes.fits lim (d + 1) h.2.2⟩, hes.strict⟩
  cases xs <;> simp [SVal.render, hes.render, serialize, ws_render_nil, List.append_assoc]

theorem ser_obj (hns : o.sortKeys = false) (ms : List (Bytes × Json)) (hms : SerMemStmt ops o ms) : SerStmt ops o (.obj ms) := by
  intro depth hg
  obtain ⟨tms, htms⟩ := hms depth hg.2
  refine ⟨.obj [] tms, ?_, htms.ok, by simp [SVal.denote, htms.denote [] (by simpa using hg.1)],
    fun lim d h => ⟨h.1, by rw [htms.length]; exact h.2.1, htms.fits lim (d + 1) h.2.2⟩, htms.strict⟩
  cases ms <;> simp [SVal.render, htms.render, serialize, hns, ws_render_nil, List.append_assoc]

variable (hind : wi.render = o.indent)
include hind

theorem ser_list_cons (x : Json) (xs : List Json) (hx : SerStmt ops o x) (hxs : SerListStmt ops o xs) :
    SerListStmt ops o (x :: xs) := by
  intro depth hg
  obtain ⟨t, ht⟩ := hx (depth + 1) hg.1
  obtain ⟨tl, htl⟩ := hxs depth hg.2
  refine ⟨.cons (nlW o ++ indWo o wi (depth + 1)) t (if xs.isEmpty then nlW o ++ indWo o wi depth else []) tl,
    { render := ?_
      ok := ⟨ht.ok, htl.ok⟩
      denote := by simp [SElems.denote, ht.denote, htl.denote]
      length := by simp [SElems.length, htl.length]
      fits := fun lim d h => ⟨ht.fits lim d h.1, htl.fits lim d h.2⟩
      strict := fun hu => ⟨ht.strict hu.1, htl.strict hu.2⟩ }⟩
  have hl := htl.length
  cases xs with
  | nil =>
    cases tl with
    | nil => simp [SElems.render, ws_render_append, indWo_render o wi hind, nlW_render, ht.render, serElems, List.append_assoc]
    | cons _ _ _ _ => cases hl
  | cons y ys =>
    have hne : tl ≠ .nil := fun e => by subst e; cases hl
    rw [SElems.render_cons_ne _ _ _ _ hne, htl.render]
    simp [ws_render_append, indWo_render o wi hind, nlW_render, ht.render, serElems, List.append_assoc, ws_render_nil]

theorem ser_mem_cons (k : Bytes) (v : Json) (ms : List (Bytes × Json)) (hv : SerStmt ops o v) (hms : SerMemStmt ops o ms) :
    SerMemStmt ops o ((k, v) :: ms) := by
  intro depth hg
  obtain ⟨t, ht⟩ := hv (depth + 1) hg.1
  obtain ⟨tl, htl⟩ := hms depth hg.2
  obtain ⟨-, hk2, hk3⟩ := escItems_spec k
  refine ⟨.cons (nlW o ++ indWo o wi (depth + 1)) (k.map escItem) [] (spW o) t (if ms.isEmpty then nlW o ++ indWo o wi depth else []) tl,
    { render := ?_
      ok := ⟨hk2, ht.ok, htl.ok⟩
      denote := ?_
      length := by simp [SMembers.length, htl.length]
      fits := fun lim d h => ⟨by simpa [hk3] using h.1, ht.fits lim d h.2.1, htl.fits lim d h.2.2⟩
      strict := fun hu => ⟨strictItems_of_valid k hu.1, ht.strict hu.2.1, htl.strict hu.2.2⟩ }⟩
  · have hl := htl.length
    cases ms with
    | nil =>
      cases tl with
      | nil =>
        simp [SMembers.render, ws_render_append, indWo_render o wi hind, nlW_render, spW_render, ht.render, serMembers, joinMembers,
          renderString_escItems, List.append_assoc, ws_render_nil]
      | cons _ _ _ _ _ _ _ => cases hl
    | cons m ms' =>
      have hne : tl ≠ .nil := fun e => by subst e; cases hl
      obtain ⟨k', v'⟩ := m
      rw [SMembers.render_cons_ne _ _ _ _ _ _ _ hne, htl.render]
      simp [ws_render_append, indWo_render o wi hind, nlW_render, spW_render, ht.render, serMembers, joinMembers,
        renderString_escItems, List.append_assoc, ws_render_nil]
  · intro acc hnd
    have hnd' : ((acc ++ [(k, v)]).map Prod.fst ++ ms.map Prod.fst).Nodup := by simpa [List.append_assoc] using hnd
    simp only [SMembers.denote, hk3, ht.denote, insertOrAssign_not_mem k v acc (not_mem_keys_of_nodup hnd), htl.denote _ hnd']
    simp

theorem serialize_tree (hl : LibcOk ops) (hns : o.sortKeys = false) (v : Json) : SerStmt ops o v :=
  Json.rec (motive_1 := SerStmt ops o) (motive_2 := SerListStmt ops o) (motive_3 := SerMemStmt ops o)
    (motive_4 := fun kv => SerStmt ops o kv.2)
    (ser_null ops o) (ser_bool ops o) (ser_int ops o) (ser_dbl ops o hl) (ser_str ops o)
    (fun xs ih => ser_arr ops o xs ih) (fun ms ih => ser_obj ops o hns ms ih)
    (ser_list_nil ops o) (fun x xs ihx ihxs => ser_list_cons ops o wi hind x xs ihx ihxs)
    (ser_mem_nil ops o) (fun kv ms ihkv ihms => by obtain ⟨k, v⟩ := kv; exact ser_mem_cons ops o wi hind k v ms ihkv ihms)
    (fun _ _ ih => ih) v

end

theorem parse_serialize (ops : FloatOps) (hl : LibcOk ops) (lim : Limits) (o : Opts) (wi : Ws) (hind : wi.render = o.indent)
    (hns : o.sortKeys = false) (v : Json) (hg : v.Good) (hw : v.within lim 0 0) :
    parse ops lim (serialize ops o 0 v) = .ok v := by
  obtain ⟨t, ht⟩ := serialize_tree ops o wi hind hl hns v 0 hg
  have := parse_render ops lim ⟨[], t, []⟩ ht.ok (ht.fits lim 0 hw)
  simpa [SText.render, SText.denote, ws_render_nil, ht.render, ht.denote] using this

def leadDigits : Bytes → Bytes
  | [] => []
  | b :: r => if isDigit b then b :: leadDigits r else []

theorem leadDigits_eq (x : Bytes) : leadDigits x = x.takeWhile isDigit := by
  induction x with
  | nil => rfl
  | cons b r ih => simp only [leadDigits, List.takeWhile_cons, ih]

theorem leadDigits_append (ds x : Bytes) (hd : ∀ d ∈ ds, isDigit d = true) (hx : HeadNot isDigit x) : leadDigits (ds ++ x) = ds :=
  leadDigits_eq _ ▸ takeWhile_append_stop hd hx

/-- what the toy `strtod` below sees of a number token: its integer part, unless a sign stands in front -/
theorem leadDigits_token (neg : Bool) (k : Nat) (x : Bytes) (hx : HeadNot isDigit x) :
    leadDigits ((if neg then [0x2D] else []) ++ natToDec k ++ x) = if neg then [] else natToDec k := by
  cases neg with
  | true => rfl
  | false => exact leadDigits_append _ _ (natToDec_digits k) hx

/-- a toy libc: a double is printed as the decimal numeral of its bit pattern followed by `e0`, and read back from the leading digits -/
def toyOps : FloatOps :=
  { strtod := fun tok => UInt64.ofNat (decVal (leadDigits tok)),
    printfG := fun _ d => natToDec d.toNat ++ [0x65, 0x30] }

theorem toy_read (d : UInt64) (p : Nat) : toyOps.strtod (toyOps.printfG p d) = d := by
  simp only [toyOps]
  rw [leadDigits_append _ _ (natToDec_digits _) (.cons _ rfl), decVal_natToDec]
  simp

theorem libcOk_toy : LibcOk toyOps where
  shape := by
    intro p d _ _ _
    refine ⟨⟨false, d.toNat, none, some (false, none, [0x30])⟩, ?_, ?_⟩
    · refine ⟨by simp, ?_⟩
      intro u sg ds h
      simp only [Option.some.injEq, Prod.mk.injEq] at h
      obtain ⟨-, -, rfl⟩ := h
      exact ⟨by simp, by simp [isDigit]⟩
    · simp [SNum.render, SNum.renderFrac, SNum.renderExp, toyOps]
  exactHi := fun d _ => toy_read d _
  zeroSign := fun p d _ _ _ _ => toy_read d p
  dotZero := by
    intro n hok hf
    rw [(SNum.not_isFloat hf).2.2]
    simp only [toyOps, Gen.Json.fmtSuffix, List.map_cons, List.map_nil]
    rw [leadDigits_token _ _ _ (.cons _ rfl), ← List.append_nil (_ ++ natToDec n.int), leadDigits_token _ _ _ .nil]

end Iora.Json.Spec
