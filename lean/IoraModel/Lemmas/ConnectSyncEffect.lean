import IoraModel.Lemmas.ConnectSyncInv
/-! The contract of a step and the one lemma every step goes through.  Every event has an `Origin`; every caller's program counter
moves by a `Hop`; the engine's table, the FIFO and the pending records move as `EngMoves`, `FifoMoves`, `PendMoves` allow.  From these,
and `CallerOK` of every record afterwards, `Inv.step` derives that the step is `Sound`: it preserves `Inv` and has its `Effect`.  A branch
of the model supplies the first two through `silent`, `origin_retEvs`, `Moved.same_setC`, `Moved.hop_setC`, `Hop.returns`. -/
namespace Iora.ConnectSync

/-- What caller `c` saw when its connectSync call returns `r` for attempt `o`, result by result.  `ok` and the engine-reported error are
what a handler handed over: the caller is parked on the session, `done` holds the result, its delivery is logged.  Its own Timeout is
returned at `relock`, after its own `engine->close`.  ShuttingDown is returned behind the fence: before any attempt (the entry check), or
in one without having taken a result (the checks after the wait and after the relock).  Refused comes before any attempt, and a
connectSync call never returns Cancelled itself. -/
def RetOrigin (s : State) (c : Nat) (o : Option Nat) : Res → Prop
  | .ok sid => o = some sid ∧ (∃ a, (s.callers c).pc = .parked sid a) ∧ (s.callers c).done = some (.ok sid) ∧
      Ev.delivered sid true ∈ s.log
  | .err .closed => ∃ sid, o = some sid ∧ (∃ a, (s.callers c).pc = .parked sid a) ∧ (s.callers c).done = some (.err .closed) ∧
      Ev.delivered sid false ∈ s.log
  | .err .timeout => ∃ sid, o = some sid ∧ (s.callers c).pc = .relock sid
  | .err .shuttingDown => s.shuttingDown = true ∧ ∀ sid, o = some sid →
      att (s.callers c).pc = some sid ∧ ((s.callers c).done = none ∨ (s.callers c).pc = .relock sid)
  | .err .refused => o = none
  | .err .cancelled => False

theorem RetOrigin.att {s : State} {c sid : Nat} {r : Res} (h : RetOrigin s c (some sid) r) : att (s.callers c).pc = some sid := by
  cases r with
  | ok x => obtain ⟨e, ⟨a, hp⟩, -⟩ := h; cases e; rw [hp]; rfl
  | err e =>
    cases e with
    | closed => obtain ⟨x, e, ⟨a, hp⟩, -⟩ := h; cases e; rw [hp]; rfl
    | timeout => obtain ⟨x, e, hp⟩ := h; cases e; rw [hp]; rfl
    | shuttingDown => exact (h.2 sid rfl).1
    | refused => cases h
    | cancelled => exact h.elim

/-- Where an event comes from: which step appends `e` to the log of `s`, what it saw in `s` and what it leaves in `s'`.  Of the step
`st` this much is read: a `created` comes from `cConnect c` (`U_cr`), a delivery is `ioStep` and a return is not (`P8`, `FIX`), and which
check of the wrapper returns Cancelled (`T6_cancelled_only_at_token_checks`). -/
def Origin (s s' : State) (st : Step) : Ev → Prop
  | .created c sid => st = .cConnect c ∧ sid = s.nextSid ∧ (s.callers c).pc = .haveLock ∧ s.nextSid < s'.nextSid ∧
      Cmd.connect sid ∈ s'.fifo ∧ (s'.callers c).pc = .connected sid
  | .registered c sid => (s.callers c).pc = .connected sid ∧ s'.pend sid ≠ none
  | .engineClose c sid => (s.callers c).pc = .closing sid ∧ Cmd.close sid ∈ s'.fifo ∧ (s'.callers c).pc = .relock sid
  | .hConnect sid => s.io = .connCS sid ∧ s.lock = none ∧ ∀ x, s'.io ≠ .connCS x
  | .hClose sid => s.io = .closeCS sid ∧ s.lock = none ∧ ∀ x, s'.io ≠ .closeCS x
  | .delivered sid true => st = .ioStep ∧ Ev.hConnect sid ∈ s'.log ∧
      ∃ o, s.pend sid = some { owner := o } ∧ (s'.callers o).done = some (.ok sid)
  | .delivered sid false => st = .ioStep ∧ Ev.hClose sid ∈ s'.log ∧ ∃ o, s.pend sid = some { owner := o }
  | .reaped sid => s.io = .closeCS sid ∧ Ev.hClose sid ∈ s'.log
  | .globalConnect sid => s.io = .connGlobal sid
  | .globalClose sid => s.io = .closeGlobal sid
  | .attemptRet c o r => st ≠ .ioStep ∧ att (s'.callers c).pc = none ∧ RetOrigin s c o r
  | .wrapRet c r =>
      (st = .call c true ∧ ((s.callers c).pc = .idle ∨ (s.callers c).pc = .finished) ∧ r = .err .cancelled ∧
        (s.callers c).cancelled = true) ∨
      (st = .wLoop c false ∧ (s.callers c).pc = .wloop ∧ r = .err .cancelled ∧ (s.callers c).cancelled = true) ∨
      (st = .wLoop c true ∧ r = .err .timeout) ∨
      (Ev.attemptRet c (att (s.callers c).pc) r ∈ s'.log ∧ RetOrigin s c (att (s.callers c).pc) r)
  | .fenceSet => s'.shuttingDown = true

/-- The program of one caller as far as its attempt is concerned: how a step may move the program counter of caller `j`, and what it
has logged when it does.  Outside an attempt every move is allowed; an attempt is entered by `engine->connect`, runs through
registration, wait, and — on its timeout exit — `engine->close`, and is left with a return. -/
inductive Hop (s s' : State) (st : Step) (j : Nat) : Pc → Pc → Prop
  | outside {p p' : Pc} (h : att p = none) (h' : att p' = none) : Hop s s' st j p p'
  | connect (hst : st = .cConnect j) (hn : s.nextSid < s'.nextSid) (hl : Ev.created j s.nextSid ∈ s'.log) :
      Hop s s' st j .haveLock (.connected s.nextSid)
  | register {sid : Nat} (hl : Ev.registered j sid ∈ s'.log) : Hop s s' st j (.connected sid) (.registered sid)
  | park {sid : Nat} : Hop s s' st j (.registered sid) (.parked sid false)
  | wake {sid : Nat} {a a' : Bool} : Hop s s' st j (.parked sid a) (.parked sid a')
  | timeout {sid : Nat} {a : Bool} : Hop s s' st j (.parked sid a) (.closing sid)
  | close {sid : Nat} (hl : Ev.engineClose j sid ∈ s'.log) : Hop s s' st j (.closing sid) (.relock sid)
  | ret {p p' : Pc} {sid : Nat} {r : Res} (h : (∃ a, p = .parked sid a) ∨ p = .relock sid) (h' : att p' = none)
      (hl : Ev.attemptRet j (some sid) r ∈ s'.log) : Hop s s' st j p p'

/-- What `Effect` keeps of a hop (`Hop.moves`): caller `j` is moved with respect to attempts not at all, into a new attempt (`cConnect`:
a fresh id, logged as created), or out of its attempt with a return.  `Inv2` and `InvX` need no more. -/
abbrev Moves (s s' : State) (st : Step) (j : Nat) : Prop :=
  att (s'.callers j).pc = att (s.callers j).pc ∨
  (st = .cConnect j ∧ (s.callers j).pc = .haveLock ∧ att (s'.callers j).pc = some s.nextSid ∧ s.nextSid < s'.nextSid ∧
    Ev.created j s.nextSid ∈ s'.log) ∨
  (att (s'.callers j).pc = none ∧ ∃ sid r, att (s.callers j).pc = some sid ∧ Ev.attemptRet j (some sid) r ∈ s'.log)

theorem Hop.moves {s s' : State} {st : Step} {j : Nat} {p p' : Pc} (hop : Hop s s' st j p p') (hp : (s.callers j).pc = p)
    (hp' : (s'.callers j).pc = p') : Moves s s' st j := by
  rw [Moves, hp, hp']
  cases hop with
  | outside h h' => exact .inl (h'.trans h.symm)
  | connect hst hn hl => exact .inr (.inl ⟨hst, rfl, rfl, hn, hl⟩)
  | ret h h' hl => exact .inr (.inr ⟨h', _, _, by rcases h with ⟨_, rfl⟩ | rfl <;> rfl, hl⟩)
  | _ => exact .inl rfl

/-- How a step may move the record of caller `j`: its program counter stays where it is or takes a hop; a cancelled token stays
cancelled; a result the caller was handed stays with it until it leaves the attempt. -/
structure Moved (s s' : State) (st : Step) (j : Nat) (x x' : Caller) : Prop where
  hop : x'.pc = x.pc ∨ Hop s s' st j x.pc x'.pc
  token : x.cancelled = true → x'.cancelled = true := by exact id
  keep : ∀ r, x.done = some r → x'.done = some r ∨ att x'.pc = none := by exact fun _ => .inl

theorem Moved.stays {s s' : State} {st : Step} {j : Nat} {x : Caller} : Moved s s' st j x x := ⟨.inl rfl, id, fun _ => .inl⟩

/-- what is kept of a step for those who read it afterwards and need no more of it: `Inv2`, `InvX` (`Effect.inv2`, `xstep_invX`) and the
theorems that ask which step logged an event (`mem_step_log`) -/
structure Effect (s s' : State) (st : Step) : Prop where
  attempts : ∀ j, Moves s s' st j
  events : ∃ new, s'.log = s.log ++ new ∧ ∀ e ∈ new, Origin s s' st e
  fence : s.shuttingDown = true → s'.shuttingDown = true

theorem Effect.mono {s s' : State} {st : Step} (eff : Effect s s' st) {e : Ev} (he : e ∈ s.log) : e ∈ s'.log := by
  obtain ⟨new, hl, -⟩ := eff.events
  exact hl ▸ List.mem_append_left _ he

theorem Effect.mem {s s' : State} {st : Step} (eff : Effect s s' st) {e : Ev} (he : e ∈ s'.log) : e ∈ s.log ∨ Origin s s' st e := by
  obtain ⟨new, hl, ho⟩ := eff.events
  exact (List.mem_append.1 (hl ▸ he)).imp id (ho e)

/-- What `Inv` says at the place where the I/O thread stands (of `G1`, `G2` the half about that place).  `F_io` has no default: `IoAt` is
given where the thread arrives at a section of a handler, and there its id has to be bounded.  The other fields default to "the thread
does not stand there". -/
structure IoAt (s : State) : Prop where
  F_io : ∀ sid, ioSid s.io = some sid → sid < s.nextSid
  H1 : ∀ sid, s.io = .connCS sid → s.eng sid = .established ∧ Ev.hConnect sid ∉ s.log := by exact fun _ h => nomatch h
  H2 : ∀ sid, s.io = .closeCS sid → s.eng sid = .closed ∧ Ev.hClose sid ∉ s.log := by exact fun _ h => nomatch h
  G1 : ∀ sid, s.io = .connGlobal sid → ∀ c, Ev.created c sid ∉ s.log := by exact fun _ h => nomatch h
  G2 : ∀ sid, s.io = .closeGlobal sid → ∀ c, Ev.created c sid ∈ s.log → Ev.delivered sid true ∈ s.log := by
    exact fun _ h => nomatch h

theorem silent {s s' : State} {st : Step} (h : s'.log = s.log := by rfl) : ∃ new, s'.log = s.log ++ new ∧ ∀ e ∈ new, Origin s s' st e :=
  ⟨[], by rw [h, List.append_nil], fun _ he => nomatch he⟩

section
variable {s s' : State} {st : Step} {c : Nat} {x : Caller}

theorem Moved.same_setC {f : Nat → Caller} (hx : x.pc = (f c).pc) (token : (f c).cancelled = true → x.cancelled = true := by exact id)
    (keep : ∀ r, (f c).done = some r → x.done = some r ∨ att x.pc = none := by exact fun _ => .inl) (j : Nat) :
    Moved s s' st j (f j) (setC f c x j) := by
  by_cases hj : j = c
  · subst hj; rw [setC_same]; exact ⟨.inl hx, token, keep⟩
  · rw [setC_other _ _ hj]; exact .stays

theorem Moved.hop_setC {f : Nat → Caller} {p : Pc} (hpc : (f c).pc = p) (hop : Hop s s' st c p x.pc)
    (token : (f c).cancelled = true → x.cancelled = true := by exact id)
    (keep : ∀ r, (f c).done = some r → x.done = some r ∨ att x.pc = none := by
      first | exact fun _ => .inl | exact fun _ _ => .inr (att_retPc _ _)) (j : Nat) :
    Moved s s' st j (f j) (setC f c x j) := by
  by_cases hj : j = c
  · subst hj; rw [setC_same]; exact ⟨.inr (hpc ▸ hop), token, keep⟩
  · rw [setC_other _ _ hj]; exact .stays

theorem Hop.returns {p : Pc} {sid : Nat} {w : Bool} {r : Res} (hp : (∃ a, p = .parked sid a) ∨ p = .relock sid)
    (hl : s'.log = s.log ++ retEvs c (some sid) w r) : Hop s s' st c p (retPc w r) :=
  .ret hp (att_retPc _ _) (hl ▸ List.mem_append_right _ ((mem_retEvs _ _ _ _ _).2 (.inl rfl)))

theorem origin_retEvs {o : Option Nat} {w : Bool} {r : Res} (hl : s'.log = s.log ++ retEvs c o w r)
    (hatt : att (s.callers c).pc = o) (hst : st ≠ .ioStep) (hr : RetOrigin s c o r)
    (hx : att (s'.callers c).pc = none := by simp) : ∀ e ∈ retEvs c o w r, Origin s s' st e := by
  intro e he
  rcases (mem_retEvs _ _ _ _ _).1 he with rfl | ⟨rfl, -⟩
  · exact ⟨hst, hx, hr⟩
  · refine .inr (.inr (.inr ⟨?_, hatt ▸ hr⟩))
    rw [hl, hatt]
    exact List.mem_append_right _ ((mem_retEvs _ _ _ _ _).2 (.inl rfl))
end

/-- how a step may move the engine's table: a session is never reopened or forgotten, an established one stays or is closed, and
only an id in use is entered -/
structure EngMoves (s s' : State) : Prop where
  closed : ∀ sid, s.eng sid = .closed → s'.eng sid = .closed
  known : ∀ sid, s.eng sid ≠ .none → s'.eng sid ≠ .none
  est : ∀ sid, s.eng sid = .established → s'.eng sid = .established ∨ s'.eng sid = .closed
  fresh : ∀ sid, s'.eng sid ≠ .none → s.eng sid ≠ .none ∨ sid < s'.nextSid

/-- the order in which the engine moves one session (`EngMoves.set`): a Connect is started, completes, and the session is closed; a
Connect that fails at once closes a session the table has not seen -/
def ES.fwd : ES → ES → Bool
  | .none, .connecting | .none, .closed | .connecting, .established | .connecting, .closed | .established, .closed => true
  | _, _ => false

/-- how a step may move the engine's FIFO: what enters it has an id in use; a command leaves it only by being executed (a Close of
`connectSync` leaves its session closed, a Connect leaves its session known to the engine); no Connect comes behind the Close of its
session -/
structure FifoMoves (s s' : State) : Prop where
  fresh : ∀ cmd ∈ s'.fifo, cmd ∈ s.fifo ∨ cmdSid cmd < s'.nextSid
  -- only of a Close that `connectSync` logged: that one follows its Connect, so even ignored it finds its session closed (`doPop_ignored`)
  close : ∀ c sid, Ev.engineClose c sid ∈ s.log → Cmd.close sid ∈ s.fifo → Cmd.close sid ∈ s'.fifo ∨ s'.eng sid = .closed
  connect : ∀ sid, Cmd.connect sid ∈ s.fifo → Cmd.connect sid ∈ s'.fifo ∨ s'.eng sid ≠ .none
  ord : OrdP s.fifo → OrdP s'.fifo

/-- how a step may move the pending records: one that is erased is logged as delivered or reaped; one that is there was there
before, with the same owner, or is logged as registered -/
structure PendMoves (s s' : State) : Prop where
  acc : ∀ sid, s.pend sid ≠ none →
    s'.pend sid ≠ none ∨ Ev.delivered sid true ∈ s'.log ∨ Ev.delivered sid false ∈ s'.log ∨ Ev.reaped sid ∈ s'.log
  owner : ∀ sid p, s'.pend sid = some p → (∃ p₀, s.pend sid = some p₀ ∧ p₀.owner = p.owner) ∨ Ev.registered p.owner sid ∈ s'.log

section
variable {s s' : State}

theorem PendMoves.same (h : s'.pend = s.pend := by rfl) : PendMoves s s' :=
  ⟨fun _ hp => .inl (h ▸ hp), fun _ p hp => .inl ⟨p, h ▸ hp, rfl⟩⟩

theorem PendMoves.write {sid : Nat} {p : Pend} (h : s'.pend = setP s.pend sid (some p))
    (ho : (∃ p₀, s.pend sid = some p₀ ∧ p₀.owner = p.owner) ∨ Ev.registered p.owner sid ∈ s'.log) : PendMoves s s' := by
  refine ⟨fun _ hp => .inl (h ▸ setP_some_ne _ hp), fun sid' q hq => ?_⟩
  rcases setP_sub (h ▸ hq) with x | ⟨rfl, x⟩
  · exact .inl ⟨q, x, rfl⟩
  · cases x; exact ho

theorem PendMoves.erase {sid : Nat} (h : s'.pend = setP s.pend sid none)
    (hl : Ev.delivered sid true ∈ s'.log ∨ Ev.delivered sid false ∈ s'.log ∨ Ev.reaped sid ∈ s'.log) : PendMoves s s' := by
  refine ⟨fun sid' hp => ?_, fun sid' q hq => .inl ⟨q, setP_none_sub _ q (h ▸ hq), rfl⟩⟩
  by_cases hs : sid' = sid
  · exact .inr (hs ▸ hl)
  · exact .inl (by rw [h, setP_other _ _ hs]; exact hp)

theorem EngMoves.same (h : s'.eng = s.eng := by rfl) : EngMoves s s' := by
  refine ⟨fun _ => ?_, fun _ => ?_, fun _ => ?_, fun _ => ?_⟩ <;> rw [h]
  · exact id
  · exact id
  · exact .inl
  · exact .inl

theorem EngMoves.set {sid : Nat} {e : ES} (h : s'.eng = setE s.eng sid e) (hf : (s.eng sid).fwd e = true)
    (hfresh : s.eng sid ≠ .none ∨ sid < s'.nextSid) : EngMoves s s' := by
  have key : ∀ sid', sid' ≠ sid → s'.eng sid' = s.eng sid' := fun sid' hs => by rw [h, setE_other _ _ hs]
  have hsid : s'.eng sid = e := by rw [h, setE_same]
  refine ⟨fun sid' => ?_, fun sid' => ?_, fun sid' => ?_, fun sid' => ?_⟩ <;> by_cases hs : sid' = sid
  all_goals first | (subst hs; rw [hsid]) | rw [key _ hs]
  · intro h'; rw [h'] at hf; revert hf; cases e <;> simp [ES.fwd]
  · exact id
  · intro _ h'; rw [h'] at hf; revert hf; cases s.eng sid' <;> simp [ES.fwd]
  · exact id
  · intro h'; rw [h'] at hf; revert hf; cases e <;> simp [ES.fwd]
  · exact .inl
  · exact fun _ => hfresh
  · exact .inl

theorem FifoMoves.same (h : s'.fifo = s.fifo := by rfl) : FifoMoves s s' :=
  ⟨fun _ hc => .inl (h ▸ hc), fun _ _ _ hc => .inl (h ▸ hc), fun _ hc => .inl (h ▸ hc), fun ho => h ▸ ho⟩

theorem FifoMoves.snoc {x : Cmd} (h : s'.fifo = s.fifo ++ [x]) (hx : cmdSid x < s'.nextSid)
    (ho : ∀ sid, x = .connect sid → Cmd.close sid ∉ s.fifo) : FifoMoves s s' := by
  refine ⟨fun c hc => ?_, fun _ _ _ hc => .inl ?_, fun _ hc => .inl ?_, fun o => ?_⟩
  · rw [h] at hc
    rcases List.mem_append.1 hc with hc | hc
    · exact .inl hc
    · exact .inr (List.mem_singleton.1 hc ▸ hx)
  · rw [h]; exact List.mem_append_left _ hc
  · rw [h]; exact List.mem_append_left _ hc
  · rw [h]; exact OrdP_snoc o ho

theorem FifoMoves.pop {x : Cmd} (h : s.fifo = x :: s'.fifo) (hc : ∀ sid, x = .connect sid → s'.eng sid ≠ .none)
    (hcl : ∀ c sid, x = .close sid → Ev.engineClose c sid ∈ s.log → s'.eng sid = .closed) : FifoMoves s s' := by
  refine ⟨fun c hc => .inl (h ▸ List.mem_cons_of_mem _ hc), fun c sid hm hc' => ?_, fun sid hc' => ?_, fun o => OrdP_tail (h ▸ o)⟩
  · rw [h] at hc'
    rcases List.mem_cons.1 hc' with e | e
    · exact .inr (hcl c sid e.symm hm)
    · exact .inl e
  · rw [h] at hc'
    rcases List.mem_cons.1 hc' with e | e
    · exact .inr (hc sid e.symm)
    · exact .inl e
end

/-- `s'` is any state: `st` only labels the step for the origins that name it, and a silent step is sound under every label
(`eng_closes`, `doFail_sound`). -/
structure Sound (s s' : State) (st : Step) : Prop where
  inv : Inv s'
  effect : Effect s s' st

/-- **A step is sound.**  The step says what it appends and where each event comes from, how it moves each caller's record (`Moved`), and
that every caller's record (`CallerOK`) is in order afterwards.  Then, how it moves the engine's table, the FIFO and the pending records
(default: not at all), and what holds where it leaves the I/O thread (`IoAt`; nothing to show where the thread goes idle, or is not
moved and the table not touched: the default).  The fields whose hypothesis is an event need nothing more: an old event had its
conclusion before (and conclusions are kept: the log grows, the table moves forward, a token is never reset, a result stays with the
caller it was handed to until that caller returns), a new one has its origin.  The hops give the fields about the order of a caller's
own program: `F_att`, `A_cr`, `U_att` and the second half of `R1` (`Hop.moves`: an attempt is entered only by `engine->connect`, with a
fresh id, and left only with a return), `REG` (`connected` is left only by registering), `E1` and `E6` (`relock` is entered only by
`engine->close` and left only with a return). -/
theorem Inv.step {s s' : State} {st : Step} (h : Inv s) (events : ∃ new, s'.log = s.log ++ new ∧ ∀ e ∈ new, Origin s s' st e)
    (moved : ∀ j, Moved s s' st j (s.callers j) (s'.callers j))
    (ok : ∀ c, CallerOK s' c (s'.callers c))
    (hsd : s.shuttingDown = true → s'.shuttingDown = true := by exact id)
    (hn : s.nextSid ≤ s'.nextSid := by exact Nat.le_refl _)
    (eng : EngMoves s s' := by exact .same) (fifo : FifoMoves s s' := by exact .same) (pend : PendMoves s s' := by exact .same)
    (io : (s'.io = s.io ∧ s'.eng = s.eng) ∨ s'.io = .idle ∨ IoAt s' := by exact .inl ⟨rfl, rfl⟩)
    (S1 : (s'.lock = s.lock ∧ s'.shuttingDown = s.shuttingDown) ∨ (s'.lock.isSome = true → s'.shuttingDown = false) := by
      exact .inl ⟨rfl, rfl⟩)
    : Sound s s' st := by
  have attempts : ∀ j, Moves s s' st j := fun j => (moved j).hop.elim (fun e => .inl (by rw [e])) fun hop => hop.moves rfl rfl
  have eff : Effect s s' st := ⟨attempts, events, hsd⟩
  have token := fun j => (moved j).token
  have hs : ∀ e ∈ s.log, e ∈ s'.log := fun _ => eff.mono
  have mem {e : Ev} := eff.mem (e := e)
  have up : ∀ {a : Nat}, a < s.nextSid → a < s'.nextSid := fun ha => Nat.lt_of_lt_of_le ha hn
  -- the id of a `created` event that is new is not yet in use
  have fresh : ∀ {c sid : Nat}, Origin s s' st (.created c sid) → ¬ sid < s.nextSid :=
    fun ⟨_, e, _⟩ hlt => absurd hlt (e ▸ Nat.lt_irrefl _)
  refine ⟨?_, eff⟩
  constructor
  case F_log =>
    intro e he sid hsid
    rcases mem he with a | a
    · exact up (h.F_log e a sid hsid)
    · cases e with
      | created c x => cases hsid; obtain ⟨-, e, -, hlt, -⟩ := a; exact e ▸ hlt
      | registered c x => cases hsid; exact up (h.F_att c sid (by rw [a.1]; rfl))
      | engineClose c x => cases hsid; exact up (h.F_att c sid (by rw [a.1]; rfl))
      | hConnect x => cases hsid; exact up (h.F_connCS sid a.1)
      | hClose x => cases hsid; exact up (h.F_closeCS sid a.1)
      | delivered x b =>
        cases hsid
        cases b
        · obtain ⟨_, _, o, hp⟩ := a; exact up (h.F_pend sid _ hp)
        · obtain ⟨_, _, o, hp, -⟩ := a; exact up (h.F_pend sid _ hp)
      | reaped x => cases hsid; exact up (h.F_closeCS sid a.1)
      | globalConnect x => cases hsid; exact up (h.F_connGlobal sid a)
      | globalClose x => cases hsid; exact up (h.F_closeGlobal sid a)
      | attemptRet c o r =>
        cases o with
        | none => cases hsid
        | some x => cases hsid; exact up (h.F_att c sid a.2.2.att)
      | wrapRet c r => cases hsid
      | fenceSet => cases hsid
  case F_att =>
    intro c sid ha
    rcases attempts c with a | ⟨-, -, a, b, -⟩ | ⟨a, -⟩
    · exact up (h.F_att c sid (a ▸ ha))
    · exact Option.some.inj (a.symm.trans ha) ▸ b
    · exact nomatch a.symm.trans ha
  case F_pend =>
    intro sid p hp
    rcases pend.owner sid p hp with ⟨p₀, hp₀, -⟩ | x
    · exact up (h.F_pend sid p₀ hp₀)
    · rcases mem x with a | a
      · exact up (h.F_registered _ sid a)
      · exact up (h.F_att _ sid (by rw [a.1]; rfl))
  case F_fifo => exact fun c hc => (fifo.fresh c hc).elim (fun f => up (h.F_fifo c f)) id
  case F_eng => exact fun sid h' => (eng.fresh sid h').elim (fun f => up (h.F_eng sid f)) id
  case F_io =>
    rcases io with ⟨e, -⟩ | e | x
    · exact fun sid h' => up (h.F_io sid (e ▸ h'))
    · exact fun sid h' => by rw [e] at h'; cases h'
    · exact x.F_io
  case U_att =>
    intro j j' sid hj hj'
    rcases attempts j with a | ⟨a, -, b, -⟩ | ⟨a, -⟩ <;> rcases attempts j' with a' | ⟨a', -, b', -⟩ | ⟨a', -⟩
    · exact h.U_att j j' sid (a ▸ hj) (a' ▸ hj')
    · exact absurd (h.F_att j sid (a ▸ hj)) (Option.some.inj (b'.symm.trans hj') ▸ Nat.lt_irrefl _)
    · exact nomatch a'.symm.trans hj'
    · exact absurd (h.F_att j' sid (a' ▸ hj')) (Option.some.inj (b.symm.trans hj) ▸ Nat.lt_irrefl _)
    · exact Step.cConnect.inj (a.symm.trans a')
    · exact nomatch a'.symm.trans hj'
    · exact nomatch a.symm.trans hj
    · exact nomatch a.symm.trans hj
    · exact nomatch a.symm.trans hj
  case A_cr =>
    intro c sid ha
    rcases attempts c with a | ⟨-, -, a, -, b⟩ | ⟨a, -⟩
    · exact hs _ (h.A_cr c sid (a ▸ ha))
    · exact Option.some.inj (a.symm.trans ha) ▸ b
    · exact nomatch a.symm.trans ha
  case U_cr =>
    intro c c' sid h1 h2
    rcases mem h1 with a | a <;> rcases mem h2 with b | b
    · exact h.U_cr c c' sid a b
    · exact absurd (h.F_created c sid a) (fresh b)
    · exact absurd (h.F_created c' sid b) (fresh a)
    · exact Step.cConnect.inj (a.1.symm.trans b.1)
  case RC =>
    intro c sid h1
    rcases mem h1 with a | a
    · exact hs _ (h.RC c sid a)
    · exact hs _ (h.A_cr c sid (by rw [a.1]; rfl))
  case E2 =>
    intro c sid h1
    rcases mem h1 with a | a
    · exact hs _ (h.E2 c sid a)
    · exact hs _ (h.A_cr c sid (by rw [a.1]; rfl))
  case K => exact fun c => (ok c).K
  case S1 =>
    rcases S1 with f | x
    · rw [f.1, f.2]; exact h.S1
    · exact x
  case REG =>
    intro c sid h1
    rcases mem h1 with a | ⟨-, -, -, -, -, hconn⟩
    · refine (h.REG c sid a).elim (fun r => .inl (hs _ r)) fun r => ?_
      -- `c` was just before the registration: it still is, or has registered
      rcases (moved c).hop with e | hop
      · exact .inr (e.trans r)
      · rw [r] at hop
        generalize (s'.callers c).pc = p' at hop
        cases hop with
        | outside x _ => cases x
        | register hl => exact .inl hl
        | ret x _ _ => rcases x with ⟨_, x⟩ | x <;> cases x
    · exact .inr hconn
  case ACC =>
    intro c sid h1
    rcases mem h1 with a | a
    · exact (h.ACC c sid a).elim (pend.acc sid) fun x => .inr (x.imp (hs _) (Or.imp (hs _) (hs _)))
    · exact .inl a.2
  case P1 =>
    intro sid p hp
    rcases pend.owner sid p hp with ⟨p₀, hp₀, ho⟩ | x
    · exact ho ▸ hs _ (h.P1 sid p₀ hp₀)
    · exact x
  case P2 => exact fun sid p hp => (ok p.owner).P2 sid p hp rfl
  case P3 => exact fun c => (ok c).P3
  case P4 => exact fun c => (ok c).P4
  case P5 => exact fun c => (ok c).P5
  case P8 =>
    intro c sid ha hd
    rcases mem hd with a | ⟨hst, -, o, hp, hdone⟩
    · -- delivered before, to `c`, in this attempt (the id is not fresh): `c` keeps the result until it returns
      rcases attempts c with e | ⟨-, -, e, -⟩ | ⟨e, -⟩
      · exact ((moved c).keep _ (h.P8 c sid (e ▸ ha) a)).resolve_right (ha ▸ nofun)
      · exact absurd (h.F_delivered sid true a) (Option.some.inj (e.symm.trans ha) ▸ Nat.lt_irrefl _)
      · exact nomatch e.symm.trans ha
    · -- delivered now, to the owner of the record: nobody else is in this attempt
      rcases attempts c with e | ⟨e, -⟩ | ⟨e, -⟩
      · cases h.att_owner hp (e ▸ ha); exact hdone
      · exact nomatch e.symm.trans hst
      · exact nomatch e.symm.trans ha
  case D1 =>
    intro sid
    refine ⟨fun h1 => ?_, fun h1 => ?_, fun h1 => ?_⟩
    · rcases mem h1 with a | a
      · exact hs _ ((h.D1 sid).1 a)
      · exact a.2.1
    · rcases mem h1 with a | a
      · exact hs _ ((h.D1 sid).2.1 a)
      · exact a.2.1
    · rcases mem h1 with a | a
      · exact hs _ ((h.D1 sid).2.2 a)
      · exact a.2
  case E3 =>
    intro sid h1
    rcases mem h1 with a | a
    · exact eng.closed sid (h.E3 sid a)
    · exact eng.closed sid (h.H2 sid a.1).1
  case E5 =>
    intro sid h1
    rcases mem h1 with a | a
    · exact (h.E5 sid a).elim (eng.est sid) fun x => .inr (eng.closed sid x)
    · exact eng.est sid (h.H1 sid a.1).1
  case H1 =>
    rcases io with f | e | x
    · intro sid h1
      have h0 := h.H1 sid (f.1 ▸ h1)
      refine ⟨f.2 ▸ h0.1, fun h2 => ?_⟩
      rcases mem h2 with a | a
      · exact h0.2 a
      · exact a.2.2 sid h1
    · exact fun sid h1 => nomatch e.symm.trans h1
    · exact x.H1
  case H2 =>
    rcases io with f | e | x
    · intro sid h1
      have h0 := h.H2 sid (f.1 ▸ h1)
      refine ⟨f.2 ▸ h0.1, fun h2 => ?_⟩
      rcases mem h2 with a | a
      · exact h0.2 a
      · exact a.2.2 sid h1
    · exact fun sid h1 => nomatch e.symm.trans h1
    · exact x.H2
  case E1 =>
    intro c sid ha hr h1
    rcases mem h1 with a | ⟨-, -, hrel⟩
    · -- logged before: `c` has not moved since, except by a return
      have old : ∀ {p : Pc}, (s.callers c).pc = p → att p = some sid → p ≠ .relock sid → False :=
        fun hp ha' hr' => h.E1 c sid (hp ▸ ha') (hp ▸ hr') a
      rcases (moved c).hop with e | hop
      · exact old e.symm ha hr
      · generalize hp : (s.callers c).pc = p at hop
        generalize (s'.callers c).pc = p' at hop ha hr
        cases hop with
        | outside _ x => exact nomatch x.symm.trans ha
        | connect _ _ _ => exact absurd (h.F_engineClose c sid a) (Option.some.inj ha ▸ Nat.lt_irrefl _)
        | register _ | park | wake | timeout => exact old hp ha nofun
        | close _ => exact hr (Option.some.inj ha ▸ rfl)
        | ret _ x _ => exact nomatch x.symm.trans ha
    · exact hr hrel
  case E6 =>
    intro c sid h1
    rcases (moved c).hop with e | hop
    · exact hs _ (h.E6 c sid (e ▸ h1))
    · rw [h1] at hop
      generalize (s.callers c).pc = p at hop
      cases hop with
      | outside _ x => cases x
      | close hl => exact hl
      | ret _ x _ => cases x
  case R1 =>
    intro c sid r h1
    rcases mem h1 with a | a
    · obtain ⟨hc, hover⟩ := h.R1 c sid r a
      refine ⟨hs _ hc, fun ha => ?_⟩
      rcases attempts c with b | ⟨-, -, b, -⟩ | ⟨b, -⟩
      · exact hover (b ▸ ha)
      · exact absurd (h.F_aret c sid r a) (Option.some.inj (b.symm.trans ha) ▸ Nat.lt_irrefl _)
      · exact nomatch b.symm.trans ha
    · exact ⟨hs _ (h.A_cr c sid a.2.2.att), fun ha => nomatch a.2.1.symm.trans ha⟩
  case T1 =>
    intro c sid' sid h1
    rcases mem h1 with a | ⟨-, -, e, ⟨a', hp⟩, -, hdl⟩
    · obtain ⟨rfl, d, n⟩ := h.T1 c sid' sid a
      refine ⟨rfl, hs _ d, fun c' h2 => ?_⟩
      rcases mem h2 with b | b
      · exact n c' b
      · -- `c'` is about to close the session, so it created it: but the attempt of the creator is over
        have hb : att (s.callers c').pc = some sid' := by rw [b.1]; rfl
        obtain ⟨hc, hover⟩ := h.R1 c sid' _ a
        cases h.U_cr c' c sid' (h.A_cr c' sid' hb) hc
        exact hover hb
    · cases e
      have ha : att (s.callers c).pc = some sid' := by rw [hp]; rfl
      refine ⟨rfl, hs _ hdl, fun c' h2 => ?_⟩
      -- whoever closes the session created it, and its creator `c` is parked
      rcases mem h2 with b | b
      · cases h.U_cr c' c sid' (h.E2 c' sid' b) (h.A_cr c sid' ha)
        exact h.E1 c sid' ha (by rw [hp]; simp) b
      · cases h.U_att c' c sid' (by rw [b.1]; rfl) ha
        exact nomatch hp.symm.trans b.1
  case FIX =>
    intro c sid r h1 h2
    rcases mem h1 with a | ⟨hst, -, hr⟩
    · rcases mem h2 with b | ⟨-, -, o, hp, -⟩
      · exact h.FIX c sid r a b
      · -- delivered now, to the owner of the record, who is waiting: but the attempt of the creator is over
        have hw := att_of_waiting (h.P2 sid _ hp rfl).1
        obtain ⟨hc, hover⟩ := h.R1 c sid r a
        cases h.U_cr o c sid (h.A_cr o sid hw) hc
        exact absurd hw hover
    · rcases mem h2 with b | b
      · -- the delivery left `ok sid` with `c`, parked: no other result is returned from there
        have hd := h.P8 c sid hr.att b
        obtain ⟨⟨a', hp⟩, -⟩ := h.done_att hr.att hd
        cases r with
        | ok x => cases hr.1; rfl
        | err e =>
          cases e with
          | closed => obtain ⟨x, -, -, hd', -⟩ := hr; exact nomatch hd.symm.trans hd'
          | timeout => obtain ⟨x, e, hp'⟩ := hr; cases e; exact nomatch hp.symm.trans hp'
          | shuttingDown => exact (hr.2 sid rfl).2.elim (nomatch hd.symm.trans ·) (nomatch hp.symm.trans ·)
          | refused => cases hr
          | cancelled => exact hr.elim
      · exact absurd b.1 hst
  case T3a =>
    intro c sid h1
    rcases mem h1 with a | ⟨-, -, x, e, hp⟩
    · exact hs _ (h.T3a c sid a)
    · cases e; exact hs _ (h.E6 c sid hp)
  case T6a =>
    intro c sid h1
    rcases mem h1 with a | ⟨-, -, hr, -⟩ | ⟨-, -, hr, -⟩ | ⟨-, hr⟩ | ⟨hm, e, -⟩
    · exact hs _ (h.T6a c sid a)
    · cases hr
    · cases hr
    · cases hr
    · -- handed on from the attempt that returned it
      exact e ▸ hm
  case T6b =>
    intro c h1
    rcases mem h1 with a | ⟨-, -, -, x⟩ | ⟨-, -, -, x⟩ | ⟨-, x⟩ | ⟨-, hr⟩
    · exact token c (h.T6b c a)
    · exact token c x
    · exact token c x
    · cases x
    · exact hr.elim
  case G1 =>
    intro sid h1 c h2
    have key : s.io = .connGlobal sid ∨ Ev.globalConnect sid ∈ s.log → False := fun hold => by
      rcases mem h2 with b | b
      · exact h.G1 sid hold c b
      · exact fresh b (hold.elim (h.F_connGlobal sid) (h.F_gConnect sid))
    rcases h1 with h1 | h1
    · rcases io with ⟨e, -⟩ | e | x
      · exact key (.inl (e ▸ h1))
      · exact nomatch e.symm.trans h1
      · exact x.G1 sid h1 c h2
    · exact key (mem h1).symm
  case G2 =>
    intro sid h1 c h2
    have key : s.io = .closeGlobal sid ∨ Ev.globalClose sid ∈ s.log → Ev.delivered sid true ∈ s'.log := fun hold => by
      rcases mem h2 with b | b
      · exact hs _ (h.G2 sid hold c b)
      · exact absurd (hold.elim (h.F_closeGlobal sid) (h.F_gClose sid)) (fresh b)
    rcases h1 with h1 | h1
    · rcases io with ⟨e, -⟩ | e | x
      · exact key (.inl (e ▸ h1))
      · exact nomatch e.symm.trans h1
      · exact x.G2 sid h1 c h2
    · exact key (mem h1).symm
  case T4 =>
    intro c sid h1 h2
    rcases mem h2 with b | b
    · rcases mem h1 with a | a
      · exact hs _ (h.T4 c sid a b)
      · -- the handler section runs with the mutex free, so `c` is not between `engine->connect` and the registration
        exact hs _ ((h.REG c sid b).resolve_right (h.free_not_connected a.2.1 c sid))
    · rcases mem h1 with a | a
      · exact absurd (h.F_hConnect sid a) (fresh b)
      · exact absurd (h.F_connCS sid a.1) (fresh b)
  case Q1 =>
    intro c sid h1
    rcases mem h1 with a | ⟨-, hq, -⟩
    · exact (h.Q1 c sid a).elim (fifo.close c sid a) fun x => .inr (eng.closed sid x)
    · exact .inl hq
  case Q3 =>
    intro c sid h1
    rcases mem h1 with a | ⟨-, -, -, -, hq, -⟩
    · exact (h.Q3 c sid a).elim (fifo.connect sid) fun x => .inr (eng.known sid x)
    · exact .inl hq
  case ORD => exact fifo.ord h.ORD
  case W => exact fun c => (ok c).W

theorem Sound.refl {s : State} (h : Inv s) (st : Step) : Sound s s st :=
  h.step silent (fun _ => .stays) h.caller

end Iora.ConnectSync
