import IoraModel.Model.Dns
import IoraModel.Common.Window
/-! Helper lemmas for C19: the reads of the model, also on a window `m.drop o = x ++ r` (`Common/Window.lean`), what holds of a parser for arbitrary bytes (`Post`),
and one iteration of the name loop (`Step`) with the potential that every iteration uses up. -/
namespace Iora.Dns
open Iora

theorem rd_ok_iff {m : Bytes} {i : Nat} {b : UInt8} : rd m i = .ok b ↔ m[i]? = some b := by
  unfold rd
  cases m[i]? <;> simp

theorem rd_ok {m : Bytes} {i : Nat} (h : i < m.length) : rd m i = .ok m[i] :=
  rd_ok_iff.mpr (List.getElem?_eq_getElem h)

theorem rd16_ok_iff {m : Bytes} {i w : Nat} :
    rd16 m i = .ok w ↔ ∃ b b2 : UInt8, m[i]? = some b ∧ m[i + 1]? = some b2 ∧ w = b.toNat * 256 + b2.toNat := by
  unfold rd16 rd
  cases m[i]? <;> cases m[i + 1]? <;> simp [bind, Except.bind, pure, Except.pure, eq_comm]

theorem rd16_ok {m : Bytes} {i : Nat} (h : i + 1 < m.length) :
    rd16 m i = .ok (m[i].toNat * 256 + m[i + 1].toNat) :=
  rd16_ok_iff.mpr ⟨_, _, List.getElem?_eq_getElem (by omega), List.getElem?_eq_getElem h, rfl⟩

theorem rd16_lt {m : Bytes} {i w : Nat} (h : rd16 m i = .ok w) : w < 65536 := by
  obtain ⟨a, b, _, _, rfl⟩ := rd16_ok_iff.mp h
  have := a.toNat_lt
  have := b.toNat_lt
  omega

theorem copy_ok {m : Bytes} {o n : Nat} (h : o + n ≤ m.length) : copy m o n = .ok (slice m o n) :=
  if_pos h

theorem slice_length {m : Bytes} {o n : Nat} (h : o + n ≤ m.length) : (slice m o n).length = n := by
  simp only [slice, List.length_take, List.length_drop]; omega

theorem checkBounds_of_le {off n t : Nat} (h : off + n ≤ t) : checkBounds off n t = .ok () :=
  if_neg (Nat.not_lt.mpr h)

theorem slice_at {m x r : Bytes} {o : Nat} (h : m.drop o = x ++ r) : slice m o x.length = x := by
  rw [slice, h, List.take_left]

theorem rd_at {m r : Bytes} {o : Nat} {x : UInt8} (h : m.drop o = x :: r) : rd m o = .ok x :=
  rd_ok_iff.mpr (getElem?_at (x := [x]) h (Nat.zero_lt_one))

theorem rd16_at {m r : Bytes} {o v : Nat} (h : m.drop o = be16 v ++ r) (hv : v < 65536) : rd16 m o = .ok v :=
  rd16_ok_iff.mpr ⟨b8 (v / 256), b8 v, getElem?_at h Nat.zero_lt_two, getElem?_at h Nat.one_lt_two, by
    simp only [b8_toNat]; omega⟩

/-- a 16-bit field is not empty, so the offset of its window lies inside `m` -/
theorem length_at_be16 {m r : Bytes} {o v : Nat} (h : m.drop o = be16 v ++ r) : m.length = o + 2 + r.length := by
  have := length_at h (Nat.le_of_lt (lt_length_at h (by simp [be16])))
  rwa [be16_length] at this

theorem rd32_at {m r : Bytes} {o v : Nat} (h : m.drop o = be32 v ++ r) (hv : v < 4294967296) : rd32 m o = .ok v := by
  have g {i : Nat} (hi : i < 4) : m[o + i]? = (be32 v)[i]? := getElem?_at h hi
  have r1 : rd16 m o = .ok ((b8 (v / 2 ^ 24)).toNat * 256 + (b8 (v / 2 ^ 16)).toNat) :=
    rd16_ok_iff.mpr ⟨_, _, g (i := 0) (by decide), g (i := 1) (by decide), rfl⟩
  have r2 : rd16 m (o + 2) = .ok ((b8 (v / 2 ^ 8)).toNat * 256 + (b8 v).toNat) :=
    rd16_ok_iff.mpr ⟨_, _, g (i := 2) (by decide), g (i := 3) (by decide), rfl⟩
  rw [rd32, r1, r2]
  -- the value is `beNat (be32 v)` with the products regrouped
  refine (congrArg Except.ok ?_).trans (congrArg Except.ok (beNat_be32 v hv))
  simp only [beNat, be32, List.foldl, Nat.add_mul, Nat.mul_assoc, Nat.zero_mul, Nat.zero_add, Nat.reduceMul, Nat.add_assoc]

theorem copy_at {m x r : Bytes} {o : Nat} (h : m.drop o = x ++ r) (ho : o ≤ m.length) : copy m o x.length = .ok x := by
  rw [copy_ok (by have := length_at h ho; omega), slice_at h]

/-- the outcome is neither of the two "cannot happen" outcomes (a read outside the buffer, fuel exhausted), and an accepted
value satisfies `Q`.  What holds of a parser for arbitrary bytes is a term that follows its `do` block, built from the combinators
below: a read is inside the buffer because of the guard in front of it, and `bind` hands what is known of the first part to the rest.
(What a parser answers on a given layout is a separate statement over a window, the `*_exact` lemmas.) -/
def Post {α : Type} (Q : α → Prop) (x : R α) : Prop := x ≠ .error .oob ∧ x ≠ .error .fuel ∧ ∀ a, x = .ok a → Q a

abbrev Safe {α : Type} (x : R α) : Prop := Post (fun _ => True) x

theorem Post.no_oob {α : Type} {Q : α → Prop} {x : R α} (h : Post Q x) : x ≠ .error .oob := h.1
theorem Post.no_fuel {α : Type} {Q : α → Prop} {x : R α} (h : Post Q x) : x ≠ .error .fuel := h.2.1
theorem Post.of_ok {α : Type} {Q : α → Prop} {x : R α} (h : Post Q x) {a : α} (e : x = .ok a) : Q a := h.2.2 a e

theorem Post.ok {α : Type} {Q : α → Prop} {a : α} (h : Q a) : Post Q (Except.ok a : R α) :=
  ⟨nofun, nofun, fun _ e => Except.ok.inj e ▸ h⟩

/-- an exception of the C++ code -/
theorem Post.err {α : Type} {Q : α → Prop} (e : Err) (h : e ≠ .oob ∧ e ≠ .fuel := by decide) : Post Q (Except.error e : R α) :=
  ⟨fun he => h.1 (Except.error.inj he), fun he => h.2 (Except.error.inj he), nofun⟩

theorem Post.err_cast {α β : Type} {P : α → Prop} {Q : β → Prop} {e : Err} (h : Post P (Except.error e : R α)) :
    Post Q (Except.error e : R β) :=
  Post.err e ⟨fun he => h.no_oob (by rw [he]), fun he => h.no_fuel (by rw [he])⟩

theorem Post.mono {α : Type} {P Q : α → Prop} {x : R α} (h : Post P x) (hq : ∀ a, P a → Q a) : Post Q x :=
  ⟨h.no_oob, h.no_fuel, fun _ e => hq _ (h.of_ok e)⟩

theorem Post.bind {α β : Type} {P : α → Prop} {Q : β → Prop} {x : R α} {f : α → R β} (hx : Post P x)
    (hf : ∀ a, P a → Post Q (f a)) : Post Q (x >>= f) := by
  cases x with
  | error e => exact hx.err_cast
  | ok a => exact hf a (hx.of_ok rfl)

theorem Post.ite {α : Type} {Q : α → Prop} {c : Prop} [Decidable c] {x y : R α} (hx : c → Post Q x) (hy : ¬ c → Post Q y) :
    Post Q (if c then x else y) := by
  split
  · exact hx ‹_›
  · exact hy ‹_›

theorem Post.map {α β : Type} {x : R α} (g : α → β) (hx : Safe x) : Safe (x.map g) := by
  cases x with
  | error e => exact hx.err_cast
  | ok a => exact Post.ok trivial

theorem Post.rd {α : Type} {Q : α → Prop} {m : Bytes} {i : Nat} {f : UInt8 → R α} (h : i < m.length) (hf : ∀ b, Post Q (f b)) :
    Post Q (rd m i >>= f) := by
  rw [rd_ok h]; exact hf _

/-- the form of `Post.rd16` in which the rest may use what was read: `parseHeader_post` keeps the id -/
theorem Post.rd16_eq {α : Type} {Q : α → Prop} {m : Bytes} {i : Nat} {f : Nat → R α} (h : i + 1 < m.length)
    (hf : ∀ v, Dns.rd16 m i = .ok v → Post Q (f v)) : Post Q (Dns.rd16 m i >>= f) := by
  rw [rd16_ok h]; exact hf _ (rd16_ok h)

theorem Post.rd16 {α : Type} {Q : α → Prop} {m : Bytes} {i : Nat} {f : Nat → R α} (h : i + 1 < m.length) (hf : ∀ v, Post Q (f v)) :
    Post Q (Dns.rd16 m i >>= f) :=
  Post.rd16_eq h fun v _ => hf v

theorem Post.rd32 {α : Type} {Q : α → Prop} {m : Bytes} {i : Nat} {f : Nat → R α} (h : i + 3 < m.length) (hf : ∀ v, Post Q (f v)) :
    Post Q (Dns.rd32 m i >>= f) := by
  unfold Dns.rd32
  rw [rd16_ok (by omega : i + 1 < m.length), rd16_ok (by omega : i + 2 + 1 < m.length)]
  exact hf _

theorem Post.copy {α : Type} {Q : α → Prop} {m : Bytes} {o n : Nat} {f : Bytes → R α} (h : o + n ≤ m.length)
    (hf : ∀ x, Post Q (f x)) : Post Q (Dns.copy m o n >>= f) := by
  rw [copy_ok h]; exact hf _

theorem Post.checkBounds {α : Type} {Q : α → Prop} {o n t : Nat} {f : Unit → R α} (hf : o + n ≤ t → Post Q (f ())) :
    Post Q (Dns.checkBounds o n t >>= f) := by
  unfold Dns.checkBounds
  split
  · exact Post.err _
  · exact hf (by omega)

theorem isPtr_iff (b : UInt8) : isPtr b = true ↔ 192 ≤ b.toNat := decide_eq_true_iff

theorem ptr_value (b b2 : UInt8) :
    (b.toNat * 256 + b2.toNat) % (Gen.Dns.pointerMask + 1) = (b.toNat % 64) * 256 + b2.toNat := by
  have := b.toNat_lt
  have := b2.toNat_lt
  simp only [Gen.Dns.pointerMask]
  omega

/-- the loop state after following a compression pointer to `p` -/
def NSt.jump (s : NSt) (p : Nat) : NSt :=
  { s with off := p, visited := p :: s.visited, jumped := true, orig := if s.jumped then s.orig else s.off + 2, jumps := s.jumps + 1 }

/-- the loop state after appending the label of `n` octets that stands at `s.off` in `m` -/
def NSt.push (s : NSt) (m : Bytes) (n : Nat) : NSt :=
  { s with off := s.off + (n + 1), total := s.total + (n + 1), name := appendLabel s.name (slice m (s.off + 1) n) }

theorem NSt.jump_jumps (s : NSt) (p : Nat) : (s.jump p).jumps = s.jumps + 1 := rfl
theorem NSt.push_total (s : NSt) (m : Bytes) (n : Nat) : (s.push m n).total = s.total + (n + 1) := rfl

/-- an iteration of the loop of `decodeGo` that goes round again: a compression pointer is followed (to a target inside the
message, not visited before, within the bound on pointers per name) or a label is appended (1..63 octets, inside the message,
within the 255-octet limit that counts the root label) -/
inductive Step (m : Bytes) (s : NSt) : NSt → Prop
  | ptr {b b2 : UInt8} : m[s.off]? = some b → 192 ≤ b.toNat → m[s.off + 1]? = some b2 →
      (b.toNat % 64) * 256 + b2.toNat < m.length → ¬ (b.toNat % 64) * 256 + b2.toNat ∈ s.visited →
      s.jumps < Gen.Dns.maxJumps → Step m s (s.jump ((b.toNat % 64) * 256 + b2.toNat))
  | label {b : UInt8} : m[s.off]? = some b → 1 ≤ b.toNat → b.toNat ≤ 63 → s.off + 1 + b.toNat ≤ m.length →
      s.total + (b.toNat + 1) + 1 ≤ 255 → Step m s (s.push m b.toNat)

theorem decodeGo_step {m : Bytes} {s s' : NSt} (h : Step m s s') (f : Nat) : decodeGo m (f + 1) s = decodeGo m f s' := by
  cases h with
  | @ptr b b2 hb h192 hb2 hp hv hj =>
    have hlt := (List.getElem?_eq_some_iff.mp hb2).1
    simp only [decodeGo, show s.off < m.length by omega, rd_ok_iff.mpr hb, (isPtr_iff b).mpr h192,
      show ¬ s.off + 2 > m.length by omega, rd16_ok_iff.mpr ⟨b, b2, hb, hb2, rfl⟩, ptr_value b b2,
      show ¬ (b.toNat % 64) * 256 + b2.toNat ≥ m.length by omega, List.contains_iff_mem, hv, Gen.Dns.hasJumpCap, Bool.true_and,
      decide_eq_true_eq, show ¬ s.jumps + 1 > Gen.Dns.maxJumps by omega, ↓reduceIte, NSt.jump]
  | @label b hb h1 h63 hlen ht =>
    have hnp : ¬ isPtr b = true := fun hp => by have := (isPtr_iff b).mp hp; omega
    simp only [decodeGo, show s.off < m.length by omega, rd_ok_iff.mpr hb, hnp, show ¬ b.toNat = 0 by omega, Gen.Dns.maxLabel,
      show ¬ b.toNat > 63 by omega, show ¬ s.off + 1 + b.toNat > m.length by omega, copy_ok hlen, Gen.Dns.maxName,
      show rootOctet = 1 from rfl, show ¬ s.total + (b.toNat + 1) + 1 > 255 by omega, Bool.false_eq_true, ↓reduceIte, NSt.push]

theorem decodeGo_root {m : Bytes} {s : NSt} (h : m[s.off]? = some 0) (f : Nat) :
    decodeGo m (f + 1) s = .ok (s.name, if s.jumped then s.orig else s.off + 1) := by
  rw [decodeGo, if_pos (List.getElem?_eq_some_iff.mp h).1, rd_ok_iff.mpr h]
  rfl

/-- potential of a loop state: compression pointers still allowed + labels still possible (a label adds at least 2 to the
running length) + 1 -/
def pot (s : NSt) : Nat :=
  (Gen.Dns.maxJumps - s.jumps) + (Gen.Dns.maxName - 1 - s.total) / 2 + 1

theorem pot_jump_lt {s : NSt} (p : Nat) (h : s.jumps < Gen.Dns.maxJumps) : pot (s.jump p) < pot s := by
  simp only [pot, NSt.jump]
  omega

theorem pot_push_lt {s : NSt} (m : Bytes) {n : Nat} (h1 : 1 ≤ n) (h : s.total + (n + 1) + 1 ≤ 255) : pot (s.push m n) < pot s := by
  simp only [pot, NSt.push, Gen.Dns.maxName]
  omega

theorem Step.pot_lt {m : Bytes} {s s' : NSt} (h : Step m s s') : pot s' < pot s := by
  cases h with
  | ptr _ _ _ _ _ hj => exact pot_jump_lt _ hj
  | label _ h1 _ _ ht => exact pot_push_lt m h1 ht

/-- fuel that covers the potential is not used up -/
theorem succ_of_pot_le {s : NSt} {f : Nat} (h : pot s ≤ f) : ∃ g, f = g + 1 :=
  ⟨f - 1, by unfold pot at h; omega⟩

theorem pot_init (m : Bytes) (off : Nat) (visited : List Nat) :
    pot { off := off, orig := off, visited := visited } ≤ nameFuel m := by
  simp only [pot, nameFuel, Gen.Dns.hasJumpCap, ↓reduceIte, Gen.Dns.maxName, Gen.Dns.maxJumps]
  omega

end Iora.Dns
