import IoraModel.Model.UdpWake
import IoraModel.Lemmas.UdpArm
/-! Lemmas about the wake-up layer (`Model/UdpWake.lean`): a loop that drains leaves nothing queued, and then the wake-up layer IS the
engine model run on "every receive loop returns exactly what arrived". -/
namespace Iora.Udp

theorem takeLoop_drains {α : Type} (isZero : α → Bool) : ∀ (q : List α), takeLoop isZero false none q = (q, [])
  | [] => rfl
  | d :: ds => by
    simp only [takeLoop, Option.map_none, Bool.false_and, Bool.false_eq_true, if_false, takeLoop_drains isZero ds]
    simp

theorem takeLoop_partition {α : Type} (isZero : α → Bool) (z : Bool) : ∀ (q : List α) (b : Option Nat),
    (takeLoop isZero z b q).1 ++ (takeLoop isZero z b q).2 = q
  | [], _ => rfl
  | d :: ds, b => by
    simp only [takeLoop]
    split
    · rfl
    · split
      · rfl
      · simp [takeLoop_partition isZero z ds]

/-- a loop with a budget of at least one takes at least one datagram: level-triggered re-reporting makes progress -/
theorem takeLoop_progress {α : Type} (isZero : α → Bool) (z : Bool) (b : Option Nat) (hb : b ≠ some 0) (d : α) (ds : List α) :
    (takeLoop isZero z b (d :: ds)).2.length < (d :: ds).length := by
  simp only [takeLoop, hb, if_false]
  split
  · simp
  · have h := takeLoop_partition isZero z ds (b.map Nat.pred)
    have : ((takeLoop isZero z (b.map Nat.pred) ds).1 ++ (takeLoop isZero z (b.map Nat.pred) ds).2).length = ds.length := by rw [h]
    simp only [List.length_append] at this
    simp only [List.length_cons]
    omega

def QEmpty (ws : WState) : Prop := (∀ lid, ws.lq lid = []) ∧ (∀ sid, ws.cq sid = [])

theorem qempty_init : QEmpty {} := ⟨fun _ => rfl, fun _ => rfl⟩

theorem setQ_nil_of_empty {α : Type} (m : Nat → List α) (k : Nat) (h : ∀ x, m x = []) : ∀ x, setQ m k [] x = [] := by
  intro x; unfold setQ; split
  · rfl
  · exact h x

theorem reports_fresh (et fresh : Bool) : reports et fresh fresh = fresh := by cases et <;> cases fresh <;> rfl

theorem wstep_refines (w : WCfg) (hl : w.lloop.drains) (hc : w.cloop.drains) (tok : Nat) (ws : WState) (i : WIn)
    (ha : ArmInv ws.st) (hq : QEmpty ws) :
    (wstep w tok ws i).1.st = (step w.cfg tok ws.st i.toIn).1 ∧ (wstep w tok ws i).2 = (step w.cfg tok ws.st i.toIn).2 ∧
      QEmpty (wstep w tok ws i).1 := by
  -- With the queue empty before, `reports` is `fresh` under either triggering (`reports_fresh`): an arrival is reported and the draining
  -- loop takes all of it; without one nothing is reported, and `recvMany … []` does nothing either.
  cases i with
  | io i => exact ⟨rfl, rfl, hq⟩
  | arriveL lid dgs =>
    simp only [wstep, WIn.toIn]
    cases hls : ws.st.listeners lid with
    | none => simp only [step, hls]; exact ⟨trivial, trivial, hq⟩
    | some l =>
      have harm : l.armIn = true := (ha.lst lid l hls).1
      simp only [hq.1 lid, List.nil_append, reports_fresh, harm, Bool.true_and, hl.1, hl.2, takeLoop_drains]
      cases dgs with
      | nil =>
        simp only [step, hls, harm, recvMany, ite_self]
        exact ⟨trivial, trivial, setQ_nil_of_empty _ _ hq.1, hq.2⟩
      | cons d ds => exact ⟨rfl, rfl, setQ_nil_of_empty _ _ hq.1, hq.2⟩
  | arriveC sid dgs =>
    simp only [wstep, WIn.toIn]
    cases hss : ws.st.sessions sid with
    | none => simp only [step, hss]; exact ⟨trivial, trivial, hq⟩
    | some s =>
      cases hr : s.role with
      | serverPeer => simp only [step, hss, hr]; exact ⟨trivial, trivial, hq⟩
      | client =>
        have harm : s.armIn = true := (ha.cli sid s hss hr).1
        simp only [hr, hq.2 sid, List.nil_append, reports_fresh, harm, Bool.true_and, hc.1, hc.2, takeLoop_drains]
        cases dgs with
        | nil =>
          simp only [step, hss, hr, harm, clientRecvMany, ite_self]
          exact ⟨trivial, trivial, hq.1, setQ_nil_of_empty _ _ hq.2⟩
        | cons d ds => exact ⟨rfl, rfl, hq.1, setQ_nil_of_empty _ _ hq.2⟩

theorem wrunFrom_refines (w : WCfg) (hf : ArmFacts w.cfg) (hl : w.lloop.drains) (hc : w.cloop.drains) :
    ∀ (h : List WIn) (n : Nat) (ws : WState), ArmInv ws.st → QEmpty ws →
      (wrunFrom w n ws h).1.st = (runFrom w.cfg n ws.st (h.map WIn.toIn)).1 ∧
      (wrunFrom w n ws h).2 = (runFrom w.cfg n ws.st (h.map WIn.toIn)).2 ∧ QEmpty (wrunFrom w n ws h).1
  | [], _, _, _, hq => ⟨rfl, rfl, hq⟩
  | i :: is, n, ws, ha, hq => by
    obtain ⟨h1, h2, h3⟩ := wstep_refines w hl hc n ws i ha hq
    have ha' : ArmInv (wstep w n ws i).1.st := h1 ▸ (step_ops_loud w.cfg n ws.st _).arm hf ha
    obtain ⟨g1, g2, g3⟩ := wrunFrom_refines w hf hl hc is (n + 1) (wstep w n ws i).1 ha' h3
    simp only [wrunFrom, runFrom, List.map_cons]
    rw [h1] at g1 g2
    exact ⟨g1, by rw [h2, g2], g3⟩

end Iora.Udp
