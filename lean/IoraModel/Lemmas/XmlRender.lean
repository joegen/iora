import IoraModel.Lemmas.Xml
import IoraModel.Lemmas.XmlEntities
/-! Rendered documents (X7): their vocabulary; what each reader returns on input of a given shape, as an equation
`reader c = .ok v (c.over w r)` — the value, and the cursor behind exactly the window `w` it consumed (`…_eval`; the `_sat` lemmas of
`Lemmas/Xml.lean` bound what a reader does on arbitrary bytes); one call of `next()` on a tag, on a text run and at the end of the
document; and element trees (`FElem`) with the tags they are written as and the events they stand for. -/
namespace Iora.Xml
open Iora

def AllSpace (w : Bytes) : Prop := ∀ x ∈ w, isSpace x = true

/-- a name the tokenizer can read: a name-start byte followed by name bytes -/
def ValidName (n : Bytes) : Prop := ∃ h t, n = h :: t ∧ isNameStart h = true ∧ ∀ x ∈ t, isNameChar x = true

/-- `r` is empty or starts with a byte that fails `p`.  This is `HeadNot` of `Common/Span.lean`, whose lemmas the proofs use as they stand. -/
def StartsNon (p : UInt8 → Bool) (r : Bytes) : Prop := ∀ x r', r = x :: r' → p x = false

/-- one attribute as written: white space, name, white space, `=`, white space, a quote, the raw value, the same quote -/
structure FAttr where
  pre : Bytes
  name : Bytes
  ws1 : Bytes
  ws2 : Bytes
  quote : UInt8
  value : Bytes

def FAttr.render (a : FAttr) : Bytes :=
  a.pre ++ (a.name ++ (a.ws1 ++ 0x3D :: (a.ws2 ++ a.quote :: (a.value ++ [a.quote]))))

/-- every formatting choice the supported subset allows -/
structure FAttr.WF (o : Options) (a : FAttr) : Prop where
  pre : AllSpace a.pre
  /-- not a choice for the first attribute: without white space `readName` would read the element name on into this name;
  for the later ones a restriction of the subset (`b='1'c='2'` is tokenized the same) -/
  preNe : a.pre ≠ []
  name : ValidName a.name
  nameLen : a.name.length ≤ o.maxName
  ws1 : AllSpace a.ws1
  ws2 : AllSpace a.ws2
  quote : a.quote = 0x22 ∨ a.quote = 0x27
  value : a.quote ∉ a.value
  valueLen : a.value.length ≤ o.maxText

def renderAttrs : List FAttr → Bytes
  | [] => []
  | a :: r => a.render ++ renderAttrs r

theorem renderAttrs_length : ∀ as : List FAttr, as.length ≤ (renderAttrs as).length := by
  intro as
  induction as with
  | nil => simp
  | cons a r ih => simp [renderAttrs, FAttr.render]; omega

def attrsView (as : List FAttr) : List (Bytes × Bytes) := as.map fun a => (a.name, a.value)

/-- what an attribute slice pair denotes -/
def Attr.view (bs : Bytes) (a : Attr) : Bytes × Bytes := (a.name.bytes bs, a.value.bytes bs)

/-- one tag as written -/
inductive Item where
  | start (name : Bytes) (attrs : List FAttr) (ws : Bytes)     -- `<name attrs ws>`
  | empty (name : Bytes) (attrs : List FAttr) (ws : Bytes)     -- `<name attrs ws/>`
  | close (name : Bytes) (ws : Bytes)                          -- `</name ws>`

def Item.render : Item → Bytes
  | .start n as ws => 0x3C :: (n ++ (renderAttrs as ++ (ws ++ 0x3E :: [])))
  | .empty n as ws => 0x3C :: (n ++ (renderAttrs as ++ (ws ++ 0x2F :: 0x3E :: [])))
  | .close n ws => 0x3C :: 0x2F :: (n ++ (ws ++ 0x3E :: []))

/-- a tag with the white space written before it -/
structure Piece where
  lead : Bytes
  item : Item

def Item.WF (o : Options) : Item → Prop
  | .start n as ws => ValidName n ∧ n.length ≤ o.maxName ∧ (∀ a ∈ as, a.WF o) ∧ as.length ≤ o.maxAttrs ∧ AllSpace ws
  | .empty n as ws => ValidName n ∧ n.length ≤ o.maxName ∧ (∀ a ∈ as, a.WF o) ∧ as.length ≤ o.maxAttrs ∧ AllSpace ws
  | .close n ws => ValidName n ∧ n.length ≤ o.maxName ∧ AllSpace ws

def Piece.WF (o : Options) (p : Piece) : Prop := AllSpace p.lead ∧ p.item.WF o

def renderPieces : List Piece → Bytes
  | [] => []
  | p :: r => p.lead ++ (p.item.render ++ renderPieces r)

/-- what a tag token says: `CView` without the text -/
structure View where
  kind : Kind
  name : Bytes
  attrs : List (Bytes × Bytes)
  depth : Nat
  deriving DecidableEq, Repr

def Token.view (bs : Bytes) (t : Token) : View :=
  ⟨t.kind, t.name.bytes bs, t.attrs.map (Attr.view bs), t.depth⟩

/-- what a token says, with every slice replaced by the bytes it denotes (`name` / `text` for the kinds that set them) -/
structure CView where
  kind : Kind
  name : Bytes
  text : Bytes
  attrs : List (Bytes × Bytes)
  depth : Nat
  deriving DecidableEq, Repr

def Token.cview (bs : Bytes) (t : Token) : CView :=
  ⟨t.kind, if t.kind.hasName then t.name.bytes bs else [], if t.kind.hasText then t.text.bytes bs else [],
   t.attrs.map (Attr.view bs), t.depth⟩

/-- the events a sequence of tags stands for (independent of the parser): `none` when a close tag does not match the innermost
open element or the nesting exceeds `maxDepth`; otherwise the events and the names left open -/
def specRun (o : Options) : List Bytes → List Piece → Option (List View × List Bytes)
  | st, [] => some ([], st)
  | st, p :: r =>
    match p.item with
    | .start n as _ =>
      if st.length + 1 ≤ o.maxDepth then
        match specRun o (n :: st) r with
        | some (vs, fin) => some (⟨.startElement, n, as.map (fun a => (a.name, a.value)), st.length + 1⟩ :: vs, fin)
        | none => none
      else none
    | .empty n as _ =>
      if st.length + 1 ≤ o.maxDepth then
        match specRun o st r with
        | some (vs, fin) => some (⟨.emptyElement, n, as.map (fun a => (a.name, a.value)), st.length + 1⟩ :: vs, fin)
        | none => none
      else none
    | .close n _ =>
      match st with
      | top :: below =>
        if top = n then
          match specRun o below r with
          | some (vs, fin) => some (⟨.endElement, n, [], st.length⟩ :: vs, fin)
          | none => none
        else none
      | [] => none

/-- the state before a call of `next()` that the exact evaluations maintain: `Inv` (`Lemmas/Xml.lean`) without its two limits, which they
do not need -/
structure SkInv (bs : Bytes) (o : Options) (s : St) : Prop where
  cur : s.cur.At bs
  depth : s.depth = s.stack.length

/-- one call of `next()` that returns a token saying `v`, leaves `rest'` to be read and the open-element stack `stack'` -/
def StepTo (bs : Bytes) (o : Options) (s : St) (rest' : Bytes) (v : CView) (stack' : List Bytes) : Prop :=
  ∃ t s', nextC o s = .tok t s' ∧ s'.cur.rest = rest' ∧ SkInv bs o s' ∧ s'.produced = s.produced + 1 ∧ s'.stack = stack' ∧
    t.cview bs = v

theorem spanLen_append (p : UInt8 → Bool) (w r : Bytes) (hw : ∀ x ∈ w, p x = true) (hr : StartsNon p r) :
    spanLen p (w ++ r) = w.length := by
  rw [spanLen_eq, takeWhile_append_stop hw hr]

theorem skipSpaces_eval {c : Cur} {w r : Bytes} (hrest : c.rest = w ++ r) (hw : AllSpace w) (hr : StartsNon isSpace r) :
    skipSpacesC c = .ok () (c.over w r) := by
  rw [skipSpacesC, hrest, spanLen_append isSpace w r hw hr, advR_over hrest]

theorem skipWs_eval_lt {c : Cur} {w r : Bytes} (hrest : c.rest = w ++ 0x3C :: r) (hw : AllSpace w) :
    skipWhitespaceOutsideTextC c = .ok () (c.over w (0x3C :: r)) := by
  have hsp : spanLen isSpace (w ++ 0x3C :: r) = w.length := spanLen_append isSpace w _ hw (HeadNot.cons _ (by decide))
  simp only [skipWhitespaceOutsideTextC, hrest, hsp, List.getElem?_append_right (Nat.le_refl _), Nat.sub_self,
    List.getElem?_cons_zero, ne_eq, not_true_eq_false, ↓reduceIte]
  exact advR_over hrest

theorem skipWs_eval_eof {c : Cur} {w : Bytes} (hrest : c.rest = w) (hw : AllSpace w) :
    skipWhitespaceOutsideTextC c = .ok () (c.over w []) := by
  have hsp : spanLen isSpace w = w.length := by
    simpa using spanLen_append isSpace w [] hw (by intro x r' h; cases h)
  simp only [skipWhitespaceOutsideTextC, hrest, hsp, List.getElem?_eq_none (Nat.le_refl _)]
  exact advR_over (by rw [hrest, List.append_nil])

theorem skipWs_eval_text {c : Cur} {w r : Bytes} {x : UInt8} (hrest : c.rest = w ++ x :: r) (hw : AllSpace w)
    (hx : isSpace x = false) (hlt : x ≠ 0x3C) : skipWhitespaceOutsideTextC c = .ok () c := by
  unfold skipWhitespaceOutsideTextC
  have hsp : spanLen isSpace (w ++ x :: r) = w.length :=
    spanLen_append isSpace w _ hw (HeadNot.cons _ hx)
  simp only [hrest, hsp]
  have hget : (w ++ x :: r)[w.length]? = some x := by simp
  rw [hget]
  simp [hlt]

/-- what the evaluations need to know of single bytes, in one sweep over the 256 of them: a name-start byte is neither white space nor
markup, white space is neither a name byte nor `<`, and a byte that reads as the `D` of `DOCTYPE` opens neither `--` nor `[CDATA[` -/
theorem byte_classes : ∀ z : UInt8,
    (isNameStart z = true → isSpace z = false ∧ z ≠ 0x2F ∧ z ≠ 0x3E ∧ z ≠ 0x3F ∧ z ≠ 0x21 ∧ z ≠ 0x3C) ∧
    (isSpace z = true → isNameChar z = false ∧ z ≠ 0x3C) ∧
    (lowerAscii z = lowerAscii 0x44 → z ≠ 0x2D ∧ z ≠ 0x5B) := forall_u8 (by decide +kernel)

theorem nameStart_not_special (z : UInt8) (h : isNameStart z = true) : z ≠ 0x2F ∧ z ≠ 0x3E ∧ z ≠ 0x3F ∧ z ≠ 0x21 ∧ z ≠ 0x3C :=
  ((byte_classes z).1 h).2

theorem nameStart_not_space (z : UInt8) (h : isNameStart z = true) : isSpace z = false := ((byte_classes z).1 h).1

theorem space_not_nameChar (z : UInt8) (h : isSpace z = true) : isNameChar z = false := ((byte_classes z).2.1 h).1

theorem space_not_lt (z : UInt8) (h : isSpace z = true) : z ≠ 0x3C := ((byte_classes z).2.1 h).2

theorem doctypeD_not_opener (z : UInt8) (h : lowerAscii z = lowerAscii 0x44) : z ≠ 0x2D ∧ z ≠ 0x5B := (byte_classes z).2.2 h

theorem budget_ok {o : Options} {s : St} (hbud : o.maxTokens = 0 ∨ s.produced < o.maxTokens) :
    ¬ ((o.maxTokens ≠ 0 && decide (s.produced ≥ o.maxTokens)) = true) := by
  rcases hbud with h | h
  · simp [h]
  · simp; intro _; omega

/-- `next()` on white space followed by `<`: what is left is the dispatch on the byte `n` behind the `<`, with the first cursor
standing on the `<` and the second on `n` -/
theorem nextC_lt {o : Options} {s : St} {lead r : Bytes} {n : UInt8} (hlead : AllSpace lead)
    (hrest : s.cur.rest = lead ++ 0x3C :: n :: r) (hbud : o.maxTokens = 0 ∨ s.produced < o.maxTokens) :
    nextC o s = markupC o s (s.cur.over lead (0x3C :: n :: r)) ((s.cur.over lead (0x3C :: n :: r)).over [0x3C] (n :: r)) n := by
  rw [nextC_eq, if_neg (budget_ok hbud), skipWs_eval_lt hrest hlead, Res.toStep]
  simp only [Cur.over_rest, ↓reduceIte]
  rw [advR_one rfl, Res.toStep]
  simp only [Cur.over_rest]

theorem markupC_pi (o : Options) (s : St) (c c1 : Cur) :
    markupC o s c c1 0x3F = (advR 1 c1).toStep fun _ c2 => readPIC o s c c2 := rfl
theorem markupC_bang (o : Options) (s : St) (c c1 : Cur) :
    markupC o s c c1 0x21 = (advR 1 c1).toStep fun _ c2 => bangC s c c2 := rfl
theorem markupC_end (o : Options) (s : St) (c c1 : Cur) :
    markupC o s c c1 0x2F = (advR 1 c1).toStep fun _ c2 => readEndTagC o s c c2 := rfl
theorem markupC_start (o : Options) (s : St) (c c1 : Cur) {n : UInt8} (h : isNameStart n = true) :
    markupC o s c c1 n = readStartOrEmptyTagC o s c c1 := by
  obtain ⟨hslash, _, hquest, hbang, _⟩ := nameStart_not_special n h
  unfold markupC
  rw [if_neg hquest, if_neg hbang, if_neg hslash]

theorem readName_eval {o : Options} {c : Cur} {n r : Bytes} (hrest : c.rest = n ++ r) (hn : ValidName n)
    (hr : StartsNon isNameChar r) (hlen : n.length ≤ o.maxName) :
    readNameC o c = .ok (some ⟨c.pos, n.length⟩) (c.over n r) := by
  obtain ⟨h, t, rfl, hh, ht⟩ := hn
  have hadv := advR_over hrest
  rw [List.length_cons, Nat.add_comm] at hadv
  unfold readNameC
  rw [hrest, List.cons_append]
  simp only [hh, Bool.not_true, Bool.false_eq_true, ↓reduceIte, spanLen_append isNameChar t r ht hr]
  rw [hadv]
  have : ¬ (1 + t.length > o.maxName) := by rw [List.length_cons] at hlen; omega
  simp only [Res.bind, Cur.over_pos, List.length_cons, Nat.add_sub_cancel_left, Nat.add_comm t.length 1, this, ↓reduceIte]

theorem readQuotedValue_eval {o : Options} {c : Cur} {q : UInt8} {v r : Bytes} (hrest : c.rest = q :: (v ++ q :: r))
    (hq : q = 0x22 ∨ q = 0x27) (hv : q ∉ v) (hlen : v.length ≤ o.maxText) :
    readQuotedValueC o c = .ok ⟨c.pos + 1, v.length⟩ (c.over (q :: (v ++ [q])) r) := by
  have hq' : ¬ ((q ≠ 0x22 && q ≠ 0x27) = true) := by rcases hq with h | h <;> subst h <;> decide
  have hsp : spanLen (fun x => x ≠ q) (v ++ q :: r) = v.length :=
    spanLen_append _ v _ (fun x hx => by simp; intro h; subst h; exact hv hx) (HeadNot.cons _ (by simp))
  unfold readQuotedValueC
  rw [hrest]
  simp only [hq', Bool.false_eq_true, ↓reduceIte]
  rw [advR_one hrest, Res.bind]
  simp only [Cur.over_rest, hsp]
  rw [advR_over rfl, Res.bind]
  simp only [Cur.eof, Cur.over_rest, List.isEmpty_cons, Bool.false_eq_true, ↓reduceIte]
  rw [advR_one rfl, Res.bind]
  simp only [Cur.over_pos, List.length_cons, List.length_nil, Nat.add_sub_cancel_left, Nat.not_lt.2 hlen, ↓reduceIte]
  simp only [Cur.over_over, List.cons_append, List.nil_append]

theorem AllSpace.headNot {w : Bytes} (hw : AllSpace w) : HeadNot isNameChar w :=
  fun x _ e => space_not_nameChar x (hw x (e ▸ List.mem_cons_self ..))

theorem startsNon_space_or {w r : Bytes} {x : UInt8} (hw : AllSpace w) (hx : isNameChar x = false) :
    StartsNon isNameChar (w ++ x :: r) :=
  hw.headNot.append fun _ => HeadNot.cons _ hx

theorem readAttributes_round {o : Options} {bs : Bytes} {a : FAttr} (hwa : a.WF o) {c : Cur} {tail : Bytes} (hat : c.At bs)
    (hrest : c.rest = a.render ++ tail) (fuel : Nat) {acc : List Attr} (hacc : acc.length < o.maxAttrs) :
    ∃ A : Attr, A.view bs = (a.name, a.value) ∧
      readAttributesC o (fuel + 1) acc c = readAttributesC o fuel (acc ++ [A]) (c.over a.render tail) := by
  obtain ⟨pre, name, ws1, ws2, q, v⟩ := a
  obtain ⟨x, tl, hname, hx, htl⟩ := hwa.name
  simp only at hname
  subst hname
  have hx' := nameStart_not_special x hx
  have hxx : (x = 0x2F || x = 0x3E) = false := by simp [hx'.1, hx'.2.1]
  have hq : q = 0x22 ∨ q = 0x27 := hwa.quote
  have hrest' : c.rest = pre ++ ((x :: tl) ++ (ws1 ++ 0x3D :: (ws2 ++ q :: (v ++ q :: tail)))) := by
    rw [hrest]; simp [FAttr.render]
  -- the cursors before the name and before the opening quote
  have hat1 := hat.over hrest'
  have hat5 := (((hat1.over rfl).over rfl).over1 rfl).over (w := ws2) rfl
  refine ⟨⟨⟨c.pos + pre.length, (x :: tl).length⟩,
    ⟨c.pos + pre.length + (x :: tl).length + ws1.length + 1 + ws2.length + 1, v.length⟩⟩,
    congr (congrArg Prod.mk (hat1.slice_eq (n := x :: tl) rfl)) ((hat5.over1 rfl).slice_eq rfl), ?_⟩
  · rw [readAttributesC, skipSpaces_eval hrest' hwa.pre (HeadNot.cons _ (nameStart_not_space x hx)), Res.bind]
    simp only [Cur.over_rest, List.cons_append, hxx, Bool.false_eq_true, ↓reduceIte]
    rw [readName_eval (n := x :: tl) rfl ⟨x, tl, rfl, hx, htl⟩ (startsNon_space_or hwa.ws1 (by decide)) hwa.nameLen, Res.bind]
    simp only
    rw [skipSpaces_eval rfl hwa.ws1 (HeadNot.cons _ (by decide)), Res.bind]
    simp only [Cur.over_rest, ne_eq, not_true_eq_false, ↓reduceIte]
    rw [advR_one rfl, Res.bind,
      skipSpaces_eval rfl hwa.ws2 (HeadNot.cons _ (by rcases hq with rfl | rfl <;> decide)), Res.bind,
      readQuotedValue_eval rfl hq hwa.value hwa.valueLen, Res.bind]
    simp only [List.length_append, List.length_cons, List.length_nil, Nat.not_lt.2 (Nat.succ_le_of_lt hacc), ↓reduceIte]
    congr 1
    simp only [Cur.over_over, FAttr.render, List.append_assoc, List.cons_append, List.nil_append]

theorem readAttributes_eval (o : Options) (bs : Bytes) : ∀ (attrs : List FAttr) (fuel : Nat) (acc : List Attr) (c : Cur)
    (ws r : Bytes) (t : UInt8), c.At bs → (∀ a ∈ attrs, a.WF o) → AllSpace ws → (t = 0x2F ∨ t = 0x3E) →
    c.rest = renderAttrs attrs ++ (ws ++ t :: r) → attrs.length < fuel → acc.length + attrs.length ≤ o.maxAttrs →
    ∃ as, readAttributesC o fuel acc c = .ok as (c.over (renderAttrs attrs ++ ws) (t :: r)) ∧
      as.map (Attr.view bs) = acc.map (Attr.view bs) ++ attrsView attrs := by
  intro attrs
  induction attrs with
  | nil =>
    intro fuel acc c ws r t hat _ hws ht hrest hfuel _
    cases fuel with
    | zero => omega
    | succ fuel =>
      simp only [renderAttrs, List.nil_append] at hrest ⊢
      have hterm : (t = 0x2F || t = 0x3E) = true := by rcases ht with h | h <;> subst h <;> decide
      refine ⟨acc, ?_, by simp [attrsView]⟩
      rw [readAttributesC, skipSpaces_eval hrest hws (HeadNot.cons _ (by rcases ht with h | h <;> subst h <;> decide)),
        Res.bind]
      simp only [Cur.over_rest, hterm, ↓reduceIte]
  | cons a attrs ih =>
    intro fuel acc c ws r t hat hwf hws ht hrest hfuel hmax
    cases fuel with
    | zero => omega
    | succ fuel =>
      have hrest' : c.rest = a.render ++ (renderAttrs attrs ++ (ws ++ t :: r)) := by rw [hrest, renderAttrs, List.append_assoc]
      obtain ⟨A, hA, hround⟩ := readAttributes_round (hwf a (by simp)) hat hrest' fuel (acc := acc) (by simp at hmax; omega)
      obtain ⟨as, h1, h2⟩ := ih fuel (acc ++ [A]) _ ws r t (hat.over hrest') (fun b hb => hwf b (by simp [hb])) hws ht rfl
        (by simp at hfuel; omega) (by simp at hmax ⊢; omega)
      exact ⟨as, by rw [hround, h1, Cur.over_over, renderAttrs, List.append_assoc], by rw [h2]; simp [hA, attrsView]⟩

/-- a start tag (`sc = false`) and an empty-element tag (`sc = true`) in one statement: they differ in the `/` before the `>` and in the stack
they leave, and in nothing the evaluation up to there looks at -/
theorem step_open (bs : Bytes) (o : Options) (s : St) (lead n ws rest : Bytes) (as : List FAttr) (sc : Bool)
    (hi : SkInv bs o s) (hlead : AllSpace lead) (hwf : (Item.WF o (if sc then .empty n as ws else .start n as ws)))
    (hrest : s.cur.rest = lead ++ ((if sc then Item.empty n as ws else Item.start n as ws).render ++ rest))
    (hbud : o.maxTokens = 0 ∨ s.produced < o.maxTokens) (hdepth : s.stack.length + 1 ≤ o.maxDepth) :
    StepTo bs o s rest ⟨if sc then .emptyElement else .startElement, n, [], attrsView as, s.stack.length + 1⟩
      (if sc then s.stack else n :: s.stack) := by
  obtain ⟨⟨x, tl, rfl, hx, htl⟩, hnl, has, hasl, hws⟩ :
      ValidName n ∧ n.length ≤ o.maxName ∧ (∀ a ∈ as, a.WF o) ∧ as.length ≤ o.maxAttrs ∧ AllSpace ws := by
    cases sc <;> exact hwf
  -- the tag ends with `term` (`/` or `>`) and `after`
  obtain ⟨term, after, hterm, hafter, hrest'⟩ : ∃ (term : UInt8) (after : Bytes), term = (if sc then 0x2F else 0x3E) ∧
      after = (if sc then 0x3E :: rest else rest) ∧
      s.cur.rest = lead ++ 0x3C :: x :: (tl ++ (renderAttrs as ++ (ws ++ term :: after))) := by
    cases sc <;> exact ⟨_, _, rfl, rfl, by rw [hrest]; simp [Item.render]⟩
  have hterm' : term = 0x2F ∨ term = 0x3E := by cases sc <;> simp [hterm]
  have hnc : StartsNon isNameChar (renderAttrs as ++ (ws ++ term :: after)) := by
    cases as with
    | nil => exact startsNon_space_or hws (by rcases hterm' with h | h <;> rw [h] <;> decide)
    | cons a as' =>
      -- the white space before the first attribute is required to be there
      have hwa := has a (by simp)
      simp only [renderAttrs, FAttr.render, List.append_assoc]
      exact hwa.pre.headNot.append fun e => (hwa.preNe e).elim
  -- `tail`: what follows the name; the cursors on the name, behind it, and behind the attributes
  obtain ⟨tail, htail⟩ : ∃ tail, tail = renderAttrs as ++ (ws ++ term :: after) := ⟨_, rfl⟩
  rw [← htail] at hrest' hnc
  have hat1 := (hi.cur.over hrest').over1 rfl
  have hat2 := hat1.over (w := x :: tl) rfl
  have hat3 := hat2.over (w := renderAttrs as ++ ws) (r := term :: after) (by rw [Cur.over_rest, htail, List.append_assoc])
  obtain ⟨atts, h31, h34⟩ := readAttributes_eval o bs as (tail.length + 1) [] _ ws after term
    hat2 has hws hterm' htail (by have := renderAttrs_length as; rw [htail, List.length_append]; omega) (by simpa using hasl)
  have hd : ¬ (s.depth + 1 > o.maxDepth) := by rw [hi.depth]; omega
  rw [StepTo, nextC_lt hlead hrest' hbud, markupC_start _ _ _ _ hx, readStartOrEmptyTagC,
    readName_eval (n := x :: tl) rfl ⟨x, tl, rfl, hx, htl⟩ hnc hnl, Res.toStep]
  simp only [Cur.over_rest]
  rw [h31, Res.toStep]
  simp only [Cur.over_rest]
  have hnm := hat1.slice_eq (n := x :: tl) rfl
  cases sc
  · obtain rfl : term = 0x3E := hterm
    obtain rfl : after = rest := hafter
    simp only [(by decide : ¬ (0x3E : UInt8) = 0x2F), ↓reduceIte, Bool.false_eq_true]
    rw [Res.toStep]
    simp only [Cur.over_rest, ne_eq, not_true_eq_false, ↓reduceIte]
    rw [advR_one rfl, Res.toStep]
    simp only [hd, ↓reduceIte]
    refine ⟨_, _, rfl, rfl, ⟨hat3.over1 rfl, by simp only [List.length_cons]; rw [hi.depth]⟩, rfl, by simp, ?_⟩
    simp [Token.cview, Kind.hasName, Kind.hasText, h34, hi.depth]
    exact hnm
  · obtain rfl : term = 0x2F := hterm
    obtain rfl : after = 0x3E :: rest := hafter
    simp only [↓reduceIte]
    rw [advR_one rfl, Res.toStep]
    simp only [Cur.over_rest, ne_eq, not_true_eq_false, ↓reduceIte]
    rw [advR_one rfl, Res.toStep]
    simp only [hd, ↓reduceIte]
    refine ⟨_, _, rfl, rfl, ⟨(hat3.over1 rfl).over1 rfl, hi.depth⟩, rfl, rfl, ?_⟩
    simp [Token.cview, Kind.hasName, Kind.hasText, h34, hi.depth]
    exact hnm

theorem step_close (bs : Bytes) (o : Options) (s : St) (lead n ws rest : Bytes) (below : List Bytes)
    (hi : SkInv bs o s) (hlead : AllSpace lead) (hwf : Item.WF o (.close n ws))
    (hrest : s.cur.rest = lead ++ ((Item.close n ws).render ++ rest))
    (hbud : o.maxTokens = 0 ∨ s.produced < o.maxTokens) (hstack : s.stack = n :: below) :
    StepTo bs o s rest ⟨.endElement, n, [], [], s.stack.length⟩ below := by
  obtain ⟨hn, hnl, hws⟩ := hwf
  have hrest' : s.cur.rest = lead ++ (0x3C :: 0x2F :: (n ++ (ws ++ 0x3E :: rest))) := by
    rw [hrest]; simp [Item.render]
  -- the cursor on the name
  have hat := ((hi.cur.over hrest').over1 rfl).over1 rfl
  have hd := hi.depth
  rw [hstack, List.length_cons] at hd
  rw [StepTo, nextC_lt hlead hrest' hbud, markupC_end, advR_one rfl, Res.toStep, readEndTagC,
    readName_eval rfl hn (startsNon_space_or hws (by decide)) hnl, Res.toStep]
  simp only
  rw [skipSpaces_eval rfl hws (HeadNot.cons _ (by decide)), Res.toStep]
  simp only [Cur.over_rest, ne_eq, not_true_eq_false, ↓reduceIte]
  rw [advR_one rfl, Res.toStep]
  simp only [hstack, List.take_left, not_true_eq_false, ↓reduceIte]
  refine ⟨_, _, rfl, rfl, ⟨((hat.over rfl).over rfl).over1 rfl, by simp only; omega⟩, rfl, rfl, ?_⟩
  simp only [Token.cview, Kind.hasName, Kind.hasText, ↓reduceIte, Bool.false_eq_true, List.map_nil, List.length_cons,
    hat.slice_eq rfl, hd, Nat.add_sub_cancel]

theorem nextC_end {o : Options} {s : St} {trail : Bytes} (htrail : AllSpace trail) (hrest : s.cur.rest = trail)
    (hbud : o.maxTokens = 0 ∨ s.produced < o.maxTokens) : nextC o s = emitEof s (s.cur.over trail []) := by
  rw [nextC_eq, if_neg (budget_ok hbud), skipWs_eval_eof hrest htrail, Res.toStep]
  rfl

theorem nextC_text {o : Options} {s : St} {w r : Bytes} {x : UInt8} (hw : AllSpace w) (hx : isSpace x = false) (hlt : x ≠ 0x3C)
    (hrest : s.cur.rest = w ++ x :: r) (hbud : o.maxTokens = 0 ∨ s.produced < o.maxTokens)
    (hlen : spanLen notLt s.cur.rest ≤ o.maxText) :
    nextC o s = emit s (s.cur.over (s.cur.rest.take (spanLen notLt s.cur.rest)) (s.cur.rest.drop (spanLen notLt s.cur.rest)))
      { kind := .text, text := ⟨s.cur.pos, spanLen notLt s.cur.rest⟩, depth := s.depth,
        offset := s.cur.pos, line := s.cur.line, column := s.cur.col } := by
  rw [nextC_eq, if_neg (budget_ok hbud), skipWs_eval_text hrest hw hx hlt]
  cases hwr : s.cur.rest with
  | nil => rw [hrest] at hwr; cases w <;> cases hwr
  | cons ch r0 =>
    have hch : ch ≠ 0x3C := by
      rw [hrest] at hwr
      cases w with
      | nil => cases hwr; exact hlt
      | cons z w' => cases hwr; exact space_not_lt _ (hw _ (List.mem_cons_self ..))
    have hk : spanLen notLt (ch :: r0) = 1 + spanLen notLt r0 := by
      rw [spanLen, if_pos (by simp [notLt, hch]), Nat.add_comm]
    have hle : 1 + spanLen notLt r0 ≤ (ch :: r0).length := by
      rw [List.length_cons, Nat.add_comm]; exact Nat.succ_le_succ (spanLen_le _ r0)
    rw [hwr, hk] at hlen
    simp only [Res.toStep, hch, ↓reduceIte, readTextC, Nat.not_lt.2 hlen, advR_take (hwr ▸ hle), hwr, hk, Cur.over_pos,
      Nat.add_sub_cancel_left, List.length_take_of_le hle]

/-- an element tree together with every formatting choice made when writing it.  `CElem` (`Lemmas/XmlContent.lean`) is the same with content
nodes; what follows here (`spec_elem`, `spec_list`, `pieces_wf`) is repeated there for it (`cspec_elem`, `cspec_list`, `cpieces_wf`). -/
inductive FElem where
  | node (lead name : Bytes) (attrs : List FAttr) (ws : Bytes) (children : List FElem) (leadEnd wsEnd : Bytes)
  | leaf (lead name : Bytes) (attrs : List FAttr) (ws : Bytes)

mutual
  /-- the tags of an element in document order: `<name …>` children `</name>`, or `<name …/>` -/
  def FElem.pieces : FElem → List Piece
    | .node lead n as ws ch le we => ⟨lead, .start n as ws⟩ :: (piecesList ch ++ [⟨le, .close n we⟩])
    | .leaf lead n as ws => [⟨lead, .empty n as ws⟩]
  def piecesList : List FElem → List Piece
    | [] => []
    | e :: r => e.pieces ++ piecesList r
end

mutual
  /-- the events an element at depth `d` stands for -/
  def FElem.events (d : Nat) : FElem → List View
    | .node _ n as _ ch _ _ => ⟨.startElement, n, attrsView as, d⟩ :: (eventsList (d + 1) ch ++ [⟨.endElement, n, [], d⟩])
    | .leaf _ n as _ => [⟨.emptyElement, n, attrsView as, d⟩]
  def eventsList (d : Nat) : List FElem → List View
    | [] => []
    | e :: r => e.events d ++ eventsList d r
end

mutual
  def FElem.height : FElem → Nat
    | .node _ _ _ _ ch _ _ => 1 + heightList ch
    | .leaf _ _ _ _ => 1
  def heightList : List FElem → Nat
    | [] => 0
    | e :: r => max e.height (heightList r)
end

/-- prepend events to a `specRun` result -/
def pre (vs : List View) (r : Option (List View × List Bytes)) : Option (List View × List Bytes) :=
  match r with
  | some (ws, fin) => some (vs ++ ws, fin)
  | none => none

theorem pre_pre (a b : List View) (r) : pre a (pre b r) = pre (a ++ b) r := by
  cases r with
  | none => rfl
  | some p => obtain ⟨ws, fin⟩ := p; simp [pre]

theorem pre_nil (r) : pre [] r = r := by
  cases r with
  | none => rfl
  | some p => obtain ⟨ws, fin⟩ := p; simp [pre]

mutual
  theorem spec_elem (o : Options) : ∀ (e : FElem) (st : List Bytes) (rest : List Piece), st.length + e.height ≤ o.maxDepth →
      specRun o st (e.pieces ++ rest) = pre (e.events (st.length + 1)) (specRun o st rest)
    | .node lead n as ws ch le we, st, rest, h => by
      simp only [FElem.height] at h
      simp only [FElem.pieces, List.cons_append, List.append_assoc, specRun]
      have hd : st.length + 1 ≤ o.maxDepth := by omega
      simp only [hd, ↓reduceIte]
      rw [spec_list o ch (n :: st) _ (by simp; omega)]
      simp only [List.nil_append, specRun, ↓reduceIte, List.length_cons]
      cases hr : specRun o st rest with
      | none => simp [pre]
      | some p => obtain ⟨ws', fin⟩ := p; simp [pre, FElem.events, attrsView]
    | .leaf lead n as ws, st, rest, h => by
      simp only [FElem.height] at h
      simp only [FElem.pieces, List.cons_append, List.nil_append, specRun]
      have hd : st.length + 1 ≤ o.maxDepth := by omega
      simp only [hd, ↓reduceIte]
      cases hr : specRun o st rest with
      | none => simp [pre]
      | some p => obtain ⟨ws', fin⟩ := p; simp [pre, FElem.events, attrsView]
  theorem spec_list (o : Options) : ∀ (es : List FElem) (st : List Bytes) (rest : List Piece), st.length + heightList es ≤ o.maxDepth →
      specRun o st (piecesList es ++ rest) = pre (eventsList (st.length + 1) es) (specRun o st rest)
    | [], st, rest, _ => by simp [piecesList, eventsList, pre_nil]
    | e :: r, st, rest, h => by
      simp only [heightList] at h
      simp only [piecesList, List.append_assoc, eventsList]
      rw [spec_elem o e st _ (by omega), spec_list o r st rest (by omega), pre_pre]
end

mutual
  /-- every formatting choice of every tag of the tree is within the supported subset and the limits -/
  def FElem.WF (o : Options) : FElem → Prop
    | .node lead n as ws ch le we =>
      AllSpace lead ∧ ValidName n ∧ n.length ≤ o.maxName ∧ (∀ a ∈ as, a.WF o) ∧ as.length ≤ o.maxAttrs ∧ AllSpace ws ∧
      WFList o ch ∧ AllSpace le ∧ AllSpace we
    | .leaf lead n as ws =>
      AllSpace lead ∧ ValidName n ∧ n.length ≤ o.maxName ∧ (∀ a ∈ as, a.WF o) ∧ as.length ≤ o.maxAttrs ∧ AllSpace ws
  def WFList (o : Options) : List FElem → Prop
    | [] => True
    | e :: r => e.WF o ∧ WFList o r
end

mutual
  theorem pieces_wf (o : Options) : ∀ (e : FElem), e.WF o → ∀ p ∈ e.pieces, p.WF o
    | .node lead n as ws ch le we, h, p, hp => by
      simp only [FElem.WF] at h
      obtain ⟨h1, h2, h3, h4, h5, h6, h7, h8, h9⟩ := h
      simp only [FElem.pieces, List.mem_cons, List.mem_append, List.mem_nil_iff, or_false] at hp
      rcases hp with rfl | hp | rfl
      · exact ⟨h1, h2, h3, h4, h5, h6⟩
      · exact piecesList_wf o ch h7 p hp
      · exact ⟨h8, h2, h3, h9⟩
    | .leaf lead n as ws, h, p, hp => by
      simp only [FElem.WF] at h
      obtain ⟨h1, h2, h3, h4, h5, h6⟩ := h
      simp only [FElem.pieces, List.mem_cons, List.mem_nil_iff, or_false] at hp
      subst hp
      exact ⟨h1, h2, h3, h4, h5, h6⟩
  theorem piecesList_wf (o : Options) : ∀ (es : List FElem), WFList o es → ∀ p ∈ piecesList es, p.WF o
    | [], _, p, hp => by simp [piecesList] at hp
    | e :: r, h, p, hp => by
      simp only [WFList] at h
      simp only [piecesList, List.mem_append] at hp
      rcases hp with hp | hp
      · exact pieces_wf o e h.1 p hp
      · exact piecesList_wf o r h.2 p hp
end

theorem spec_forest (o : Options) (es : List FElem) (hh : heightList es ≤ o.maxDepth) :
    specRun o [] (piecesList es) = some (eventsList 1 es, []) := by
  have := spec_list o es [] [] (by simpa using hh)
  simpa [specRun, pre] using this

def renderForest (es : List FElem) (trail : Bytes) : Bytes := renderPieces (piecesList es) ++ trail

end Iora.Xml
