import IoraModel.Model.TcpSession
import IoraModel.Common.Pool
/-! Invariant of the command queue protocol (`Enq` in `Model/TcpSession.lean`) as the code has it: `push_back` and the swap of
`process()` under `_cmdMutex`, the whole swapped batch dispatched. A thread inside `enqueue` owns the mutex, so while one thread moves
all others are idle, and of an idle thread only the commands it has sent matter: a step has to re-establish the record of the
thread that moves and leave the commands of the others alone (`EInv.sender`). -/
namespace Iora.Tcp.Enq
open Iora

@[simp] theorem setThr_owner (q : Q) (t : Tid) (th : Thr) : (setThr q t th).owner = q.owner := rfl
@[simp] theorem setThr_cmds (q : Q) (t : Tid) (th : Thr) : (setThr q t th).cmds = q.cmds := rfl
@[simp] theorem setThr_taken (q : Q) (t : Tid) (th : Thr) : (setThr q t th).taken = q.taken := rfl

theorem seqOf_append (t : Tid) (a b : List Cmd) : seqOf t (a ++ b) = seqOf t a ++ seqOf t b := by
  simp [seqOf, List.filter_append]

theorem seqOf_single_self (t : Tid) (n : Nat) : seqOf t [(t, n)] = [n] := by simp [seqOf]
theorem seqOf_single_ne (t t' : Tid) (n : Nat) (h : t' ≠ t) : seqOf t [(t', n)] = [] := by
  simp [seqOf, h]

/-- `fifo` is T5. `pos`: the end position a sender read is still the end when it stores, so the store is an append (`storeAt_end`
in `step_inv`); this is where the mutex matters for `cmds`. -/
structure ThrOK (q : Q) (t : Tid) (th : Thr) : Prop where
  own : th.pc ≠ .idle → q.owner = some t
  pos : ∀ p, th.pc = .readEnd p → p = q.cmds.length
  fifo : seqOf t (q.taken ++ q.cmds) = List.range (th.next + (if th.pc = .stored then 1 else 0))

/-- `dom` (every command belongs to a thread of the table) is the second half of T5 -/
structure EInv (q : Q) : Prop where
  thr : ∀ (t : Tid) (th : Thr), q.thr[t]? = some th → ThrOK q t th
  dom : ∀ c ∈ q.taken ++ q.cmds, c.1 < q.thr.length

theorem ThrOK.of_idle {q q' : Q} {t : Tid} {th : Thr} (h : ThrOK q t th) (hpc : th.pc = .idle)
    (hs : seqOf t (q'.taken ++ q'.cmds) = seqOf t (q.taken ++ q.cmds)) : ThrOK q' t th :=
  ⟨fun hne => absurd hpc hne, fun _ hp => (nomatch hpc.symm.trans hp), hs.trans h.fifo⟩

theorem EInv.idle {q : Q} (hi : EInv q) {t : Tid} {th : Thr} (h : q.thr[t]? = some th) (hne : q.owner ≠ some t) :
    th.pc = .idle :=
  Decidable.byContradiction fun hp => hne ((hi.thr t th h).own hp)

theorem init_inv (n : Nat) : EInv (init n) := by
  refine ⟨fun t th h => ?_, fun c hc => nomatch hc⟩
  simp only [init, List.getElem?_replicate] at h
  split at h
  · cases h; exact ⟨fun hp => absurd rfl hp, fun _ hp => (nomatch hp), rfl⟩
  · cases h

theorem storeAt_end (l : List Cmd) (c : Cmd) : storeAt l l.length c = l ++ [c] := by
  simp [storeAt]

theorem EInv.sender {q q1 : Q} {t : Tid} {th' : Thr} (hi : EInv q)
    (hown : q.owner = none ∨ q.owner = some t) (hthr : q1.thr = q.thr) (hnew : ThrOK q1 t th')
    (hseq : ∀ t', t' ≠ t → seqOf t' (q1.taken ++ q1.cmds) = seqOf t' (q.taken ++ q.cmds))
    (hdom : ∀ c ∈ q1.taken ++ q1.cmds, c.1 < q.thr.length) : EInv (setThr q1 t th') := by
  -- `hnew` taken apart and put together again: `ThrOK` reads `owner`, `cmds` and `taken`, which `setThr` leaves alone
  refine ⟨Pool.forall_set (I := fun j y => q.thr[j]? = some y) (fun _ _ h => hthr ▸ h) ⟨hnew.own, hnew.pos, hnew.fifo⟩ ?_,
    fun c hc => ?_⟩
  · intro t' x e hx
    have hne : q.owner ≠ some t' := by
      rcases hown with o | o <;> rw [o]
      · exact nofun
      · exact fun k => e (Option.some.inj k).symm
    exact (hi.thr t' x hx).of_idle (hi.idle hx hne) (hseq t' e)
  · show c.1 < (q1.thr.set t th').length
    rw [List.length_set, hthr]
    exact hdom c hc

/-- the steps that change at most the owner beside the thread's record: lock, read the end position, unlock -/
theorem EInv.sender_owner {q : Q} {t : Tid} {th' : Thr} {o : Option Tid} (hi : EInv q)
    (hown : q.owner = none ∨ q.owner = some t) (hnew : ThrOK { q with owner := o } t th') :
    EInv (setThr { q with owner := o } t th') :=
  hi.sender hown rfl hnew (fun _ _ => rfl) hi.dom

theorem step_inv (q : Q) (a : Actor) (hi : EInv q) : EInv (step true true true q a) := by
  cases a with
  | io =>
    unfold step
    simp only [if_true]
    split
    next hown =>
      have hnone : q.owner = none := Option.isNone_iff_eq_none.mp hown
      exact ⟨fun t th h => (hi.thr t th h).of_idle (hi.idle h (hnone ▸ nofun)) (by rw [List.append_nil]),
        fun c hc => hi.dom c (by rw [List.append_nil] at hc; exact hc)⟩
    next => exact hi
  | sender t =>
    unfold step
    simp only []
    cases hth : q.thr[t]? with
    | none => exact hi
    | some th =>
      have ht := hi.thr t th hth
      simp only []
      cases hpc : th.pc with
      | idle =>
        simp only [if_true]
        split
        next hown =>
          exact hi.sender_owner (.inl (Option.isNone_iff_eq_none.mp hown))
            ⟨fun _ => rfl, fun _ hp => (nomatch hp), by simpa [hpc] using ht.fifo⟩
        next => exact hi
      | locked =>
        have hown := ht.own (by rw [hpc]; exact nofun)
        exact hi.sender_owner (o := q.owner) (.inr hown)
          ⟨fun _ => hown, fun _ hp => by cases hp; rfl, by simpa [hpc] using ht.fifo⟩
      | readEnd p =>
        have hown := ht.own (by rw [hpc]; exact nofun)
        cases ht.pos p hpc
        show EInv (setThr { q with cmds := storeAt q.cmds q.cmds.length (t, th.next) } t { th with pc := .stored })
        rw [storeAt_end]
        refine hi.sender (.inr hown) rfl ⟨fun _ => hown, fun _ hp => (nomatch hp), ?_⟩ (fun t' e => ?_) (fun c hc => ?_)
        · show seqOf t (q.taken ++ (q.cmds ++ [(t, th.next)])) = _
          rw [← List.append_assoc, seqOf_append, ht.fifo, seqOf_single_self]
          simp [hpc, List.range_succ]
        · show seqOf t' (q.taken ++ (q.cmds ++ [(t, th.next)])) = _
          rw [← List.append_assoc, seqOf_append, seqOf_single_ne t' t _ (Ne.symm e), List.append_nil]
        · have hc' : c ∈ (q.taken ++ q.cmds) ++ [(t, th.next)] := List.append_assoc .. ▸ hc
          rcases List.mem_append.mp hc' with hc' | hc'
          · exact hi.dom c hc'
          · rw [List.mem_singleton.mp hc']; exact (List.getElem?_eq_some_iff.mp hth).1
      | stored =>
        have hown := ht.own (by rw [hpc]; exact nofun)
        simp only [if_true]
        exact hi.sender_owner (.inr hown)
          ⟨fun hp => absurd rfl hp, fun _ hp => (nomatch hp), by simpa [hpc] using ht.fifo⟩

/-- the three source facts the protocol rests on are hypotheses: at the regenerated `Gen.TcpSession` flags each is discharged by `rfl` -/
theorem run_inv {a b c : Bool} (ha : a = true) (hb : b = true) (hc : c = true) (as : List Actor) (q : Q) (h : EInv q) :
    EInv (run a b c q as) := by
  subst ha hb hc
  induction as generalizing q with
  | nil => exact h
  | cons x xs ih => exact ih _ (step_inv q x h)

theorem step_thr_length (l sl wb : Bool) (q : Q) (a : Actor) : (step l sl wb q a).thr.length = q.thr.length := by
  fun_cases step l sl wb q a <;> first | rfl | exact List.length_set ..

theorem run_thr_length (l sl wb : Bool) : ∀ (as : List Actor) (q : Q), (run l sl wb q as).thr.length = q.thr.length
  | [], _ => rfl
  | a :: as, q => by rw [run, run_thr_length l sl wb as, step_thr_length]

end Iora.Tcp.Enq
