import IoraModel.Model.KvJfsStore
import IoraModel.Lemmas.JsonFileStore
import IoraModel.Lemmas.JsonSer
/-! `JsonFileStore` as a store: the constructor re-parses what `saveToFile` wrote (`ctor_reads_own`: a document of fewer than 2^64
bytes is within limits that are all 2^64 - 1), so a clean store's file and document agree along every history (`Coherent`); the
application's `flush()` and the flusher thread under the lock (`Race.Inv`). -/
namespace Iora.Jfs
open Iora Iora.Kv

def limAll (N : Nat) : Json.Limits := { depthMax := N, arrayItemsMax := N, membersMax := N, stringLengthMax := N }

theorem length_le_weightList : ∀ xs : List Json.Json, xs.length ≤ weightList xs
  | [] => by simp [weightList]
  | x :: xs => by
    have := length_le_weightList xs
    have h1 : 1 ≤ weight x := by cases x <;> simp [weight] <;> omega
    simp only [List.length_cons, weightList]; omega

theorem length_le_weightMembers : ∀ ms : List (Bytes × Json.Json), ms.length ≤ weightMembers ms
  | [] => by simp [weightMembers]
  | (k, v) :: ms => by
    have := length_le_weightMembers ms
    simp only [List.length_cons, weightMembers]; omega

mutual
/-- a document that fits below `N` bytes is within limits that are all `N` -/
theorem within_of_weight (N : Nat) : ∀ (v : Json.Json) (d : Nat), d + weight v ≤ N + 1 → v.within (limAll N) 0 d
  | .null, d, h | .bool _, d, h | .int _, d, h | .dbl _, d, h | .str _, d, h => by
    simp only [weight] at h; simp only [Json.Json.within, limAll]; omega
  | .arr xs, d, h => by
    simp only [weight] at h
    have hl := length_le_weightList xs
    simp only [Json.Json.within]
    exact ⟨by simp only [limAll]; omega, by simp only [limAll]; omega, withinList_of_weight N xs (d + 1) (by omega)⟩
  | .obj ms, d, h => by
    simp only [weight] at h
    have hl := length_le_weightMembers ms
    simp only [Json.Json.within]
    exact ⟨by simp only [limAll]; omega, by simp only [limAll]; omega, withinMembers_of_weight N ms (d + 1) (by omega)⟩
theorem withinList_of_weight (N : Nat) : ∀ (xs : List Json.Json) (d : Nat), d + weightList xs ≤ N + 1 → Json.Json.withinList (limAll N) 0 d xs
  | [], _, _ => by simp [Json.Json.withinList]
  | x :: xs, d, h => by
    simp only [weightList] at h
    simp only [Json.Json.withinList]
    exact ⟨within_of_weight N x d (by omega), withinList_of_weight N xs d (by omega)⟩
theorem withinMembers_of_weight (N : Nat) : ∀ (ms : List (Bytes × Json.Json)) (d : Nat), d + weightMembers ms ≤ N + 1 →
    Json.Json.withinMembers (limAll N) 0 d ms
  | [], _, _ => by simp [Json.Json.withinMembers]
  | (k, v) :: ms, d, h => by
    simp only [weightMembers] at h
    simp only [Json.Json.withinMembers]
    exact ⟨by simp only [limAll]; omega, within_of_weight N v d (by omega), withinMembers_of_weight N ms d (by omega)⟩
end

/-- the constructor's limits are "no limit" (fails to build when `ownFileLimits()` sets anything smaller, e.g. the defaults) -/
theorem ctorLimits_eq : ctorLimits = limAll (2 ^ 64 - 1) := by rfl

/-- a document "made of finite numbers" that fits into a 64-bit address space -/
def DocOK (v : Json.Json) : Prop := v.Good ∧ weight v < 2 ^ 64

/-- `saveToFile` pretty-prints (`dump(n)` with `n ≥ 0`: the indentation is `n` spaces — JSON white space — whatever `n` is) -/
theorem dumpIndent_nonneg : 0 ≤ Gen.Kv.jsonSaveDumpIndent := by decide

theorem text_eq (ops : Json.FloatOps) (v : Json.Json) :
    text ops v = Json.serialize ops (Json.dumpOpts Gen.Kv.jsonSaveDumpIndent 0x20 false) 0 v := rfl

theorem dumpOpts_indent (n : Int) (h : 0 ≤ n) :
    Json.Spec.Ws.render (List.replicate n.toNat Json.Spec.WsChar.sp) = (Json.dumpOpts n 0x20 false).indent ∧
    (Json.dumpOpts n 0x20 false).sortKeys = false := by
  have h' : n ≥ 0 := h
  simp [Json.dumpOpts, h', Json.Spec.Ws.render, Json.Spec.WsChar.byte]

theorem ctor_reads_own (ops : Json.FloatOps) (hl : Json.Spec.LibcOk ops) (v : Json.Json) (h : DocOK v) :
    Json.parseOrThrow ops ctorLimits (text ops v) = .ok v := by
  have hw : v.within ctorLimits 0 0 := by
    rw [ctorLimits_eq]
    exact within_of_weight _ v 0 (by have := h.2; omega)
  have hi := dumpOpts_indent Gen.Kv.jsonSaveDumpIndent dumpIndent_nonneg
  have hp : Json.parse ops ctorLimits (text ops v) = .ok v := by
    rw [text_eq]
    exact Json.Spec.parse_serialize ops hl ctorLimits (Json.dumpOpts Gen.Kv.jsonSaveDumpIndent 0x20 false)
      (List.replicate Gen.Kv.jsonSaveDumpIndent.toNat Json.Spec.WsChar.sp) hi.1 hi.2 v h.1 hw
  simp [Json.parseOrThrow, hp]

theorem openStore_of_loaded (ops : Json.FloatOps) (hl : Json.Spec.LibcOk ops) (v : Json.Json) (h : DocOK v) (fs : Fs)
    (hf : loaded fs = some (text ops v)) : openStore ops fs = ⟨v, false⟩ := by
  simp [openStore, hf, ctor_reads_own ops hl v h]

theorem openStore_congr (ops : Json.FloatOps) (fs fs' : Fs) (h : loaded fs' = loaded fs) : openStore ops fs' = openStore ops fs := by
  simp [openStore, h]

/-- the file and the in-memory document agree whenever the store is clean -/
def Coherent (ops : Json.FloatOps) (s : Store) (fs : Fs) : Prop := s.dirty = false → openStore ops fs = ⟨s.doc, false⟩

/-- every document the store holds along the history is `DocOK` -/
def HistOK (ops : Json.FloatOps) : Store → Fs → List Op → Prop
  | s, _, [] => DocOK s.doc
  | s, fs, o :: os => DocOK s.doc ∧ HistOK ops (s.step ops fs o).1 (s.step ops fs o).2 os

theorem Coherent.open (ops : Json.FloatOps) (fs : Fs) : Coherent ops (openStore ops fs) fs := by
  intro _
  unfold openStore
  split
  · rfl
  · split <;> rfl

theorem Coherent.step (ops : Json.FloatOps) (hl : Json.Spec.LibcOk ops) (s : Store) (fs : Fs) (h : Coherent ops s fs) (hd : DocOK s.doc)
    (o : Op) : Coherent ops (s.step ops fs o).1 (s.step ops fs o).2 := by
  cases o with
  | set k v => intro hc; simp [Store.step] at hc
  | remove k =>
    simp only [Store.step, Store.remove]
    split
    · split
      · intro hc; simp at hc
      · exact h
    · exact h
  | flush =>
    simp only [Store.step]
    split
    · intro _
      refine openStore_of_loaded ops hl s.doc hd _ ?_
      rw [saveToFile_eq]; exact saveOps_snap fs _
    · exact h

theorem Coherent.run (ops : Json.FloatOps) (hl : Json.Spec.LibcOk ops) : ∀ (os : List Op) (s : Store) (fs : Fs), Coherent ops s fs →
    HistOK ops s fs os → Coherent ops (runOps ops s fs os).1 (runOps ops s fs os).2 ∧ DocOK (runOps ops s fs os).1.doc
  | [], s, fs, h, hk => ⟨h, hk⟩
  | o :: os, s, fs, h, hk => by
    simp only [runOps]
    exact Coherent.run ops hl os _ _ (h.step ops hl s fs hk.1 o) hk.2

/-- clean close + new instance gives the document back, dirty or not -/
theorem reopen_doc (ops : Json.FloatOps) (hl : Json.Spec.LibcOk ops) (s : Store) (fs : Fs) (h : Coherent ops s fs) (hd : DocOK s.doc) :
    (reopen ops s fs).1 = ⟨s.doc, false⟩ := by
  have := h.step ops hl s fs hd .flush
  simp only [reopen]
  by_cases hdirty : s.dirty = true
  · have h2 : (s.step ops fs .flush) = (⟨s.doc, false⟩, applyAll fs (saveToFile (text ops s.doc))) := by simp [Store.step, hdirty]
    rw [h2] at this ⊢
    exact this rfl
  · have h2 : (s.step ops fs .flush) = (s, fs) := by simp [Store.step, hdirty]
    rw [h2]
    exact h (by simpa using hdirty)

end Iora.Jfs

namespace Iora.Jfs.Race

/-- invariant of the locked shape: at most one role is inside a flush, its snapshot is the current document, and the file is
never older than the last completed `flush()` -/
structure Inv (s : St) : Prop where
  ackedLe : s.acked ≤ s.file
  fileLe : s.file ≤ s.mem
  clean : s.fg = .idle → s.bg = .idle → s.dirty = false → s.file = s.mem
  fgSave : ∀ g, s.fg = .save g → g = s.mem ∧ s.bg = .idle
  fgRen : ∀ g, s.fg = .ren g → g = s.mem ∧ s.bg = .idle ∧ s.tmp = some g
  bgSave : ∀ g, s.bg = .save g → g = s.mem ∧ s.fg = .idle
  bgRen : ∀ g, s.bg = .ren g → g = s.mem ∧ s.fg = .idle ∧ s.tmp = some g

/-- with nobody inside a flush only the first three clauses say anything -/
theorem Inv.of_idle {s : St} (hf : s.fg = .idle) (hb : s.bg = .idle) (h1 : s.acked ≤ s.file) (h2 : s.file ≤ s.mem)
    (h3 : s.dirty = false → s.file = s.mem) : Inv s :=
  ⟨h1, h2, fun _ _ => h3, (fun _ hg => nomatch hf.symm.trans hg), (fun _ hg => nomatch hf.symm.trans hg),
    (fun _ hg => nomatch hb.symm.trans hg), (fun _ hg => nomatch hb.symm.trans hg)⟩

/-- role `f` is put inside a flush of the current document while the other role is idle -/
theorem Inv.enter {s : St} (f : Bool) {p : Pc} (ho : s.pc (!f) = .idle) (h1 : s.acked ≤ s.file) (h2 : s.file ≤ s.mem)
    (hp : p = .save s.mem ∨ p = .ren s.mem ∧ s.tmp = some s.mem) : Inv (s.setPc f p) := by
  have hs : ∀ g, p = .save g → g = s.mem := by rintro g rfl; rcases hp with h | ⟨h, -⟩ <;> cases h; rfl
  have hr : ∀ g, p = .ren g → g = s.mem ∧ s.tmp = some g := by
    rintro g rfl; rcases hp with h | ⟨h, ht⟩ <;> cases h; exact ⟨rfl, ht⟩
  have hi : p ≠ .idle := by rintro rfl; rcases hp with h | ⟨h, -⟩ <;> cases h
  cases f
  · exact ⟨h1, h2, fun _ hb => (hi hb).elim, (fun _ hg => nomatch ho.symm.trans hg), (fun _ hg => nomatch ho.symm.trans hg),
      fun g hg => ⟨hs g hg, ho⟩, fun g hg => ⟨(hr g hg).1, ho, (hr g hg).2⟩⟩
  · exact ⟨h1, h2, fun hf => (hi hf).elim, fun g hg => ⟨hs g hg, ho⟩, fun g hg => ⟨(hr g hg).1, ho, (hr g hg).2⟩,
      (fun _ hg => nomatch ho.symm.trans hg), (fun _ hg => nomatch ho.symm.trans hg)⟩

/-- a role inside a flush holds the current document and the other role is idle -/
theorem Inv.busy {s : St} (h : Inv s) (f : Bool) {g : Nat} :
    (s.pc f = .save g → g = s.mem ∧ s.pc (!f) = .idle) ∧ (s.pc f = .ren g → g = s.mem ∧ s.pc (!f) = .idle ∧ s.tmp = some g) := by
  cases f
  · exact ⟨h.bgSave g, h.bgRen g⟩
  · exact ⟨h.fgSave g, h.fgRen g⟩

theorem lockFree_true {s : St} (h : s.lockFree true = true) : s.fg = .idle ∧ s.bg = .idle := by
  simpa [St.lockFree] using h

theorem Inv.init : Inv {} := .of_idle rfl rfl (Nat.le_refl _) (Nat.le_refl _) fun _ => rfl

theorem Inv.step_set {s : St} (h : Inv s) : Inv (step true s .set) := by
  simp only [step]
  split
  next hl => exact .of_idle (lockFree_true hl).1 (lockFree_true hl).2 h.ackedLe (Nat.le_succ_of_le h.fileLe) (fun hd => nomatch hd)
  next => exact h

theorem Inv.step_start {s : St} (h : Inv s) (f : Bool) : Inv (step true s (.start f)) := by
  simp only [step]
  split
  next hg =>
    obtain ⟨hf, hb⟩ := lockFree_true (Bool.and_eq_true_iff.1 hg).2
    have ho : s.pc (!f) = .idle := by cases f <;> assumption
    split
    next => exact .enter f ho h.ackedLe h.fileLe (.inl rfl)
    next hd =>
      -- a `flush()` that finds the store clean: the file already holds the current document
      have he : s.file = s.mem := h.clean hf hb (Bool.eq_false_iff.2 hd)
      split
      next => exact .of_idle hf hb (Nat.max_le.2 ⟨h.ackedLe, Nat.le_of_eq he.symm⟩) h.fileLe fun _ => he
      next => exact h
  next => exact h

theorem Inv.step_write {s : St} (h : Inv s) (f : Bool) : Inv (step true s (.write f)) := by
  simp only [step]
  split
  next g hp =>
    obtain ⟨rfl, ho⟩ := (h.busy f).1 hp
    exact .enter (s := { s with tmp := some s.mem }) f ho h.ackedLe h.fileLe (.inr ⟨rfl, rfl⟩)
  next => exact h

theorem Inv.step_rename {s : St} (h : Inv s) (f : Bool) : Inv (step true s (.rename f)) := by
  simp only [step]
  split
  next g hp =>
    -- the rename publishes the current document and leaves nobody inside a flush
    obtain ⟨rfl, ho, ht⟩ := (h.busy f).2 hp
    have ha : max s.acked s.mem ≤ s.mem := Nat.max_le.2 ⟨Nat.le_trans h.ackedLe h.fileLe, Nat.le_refl _⟩
    rw [ht]
    cases f
    · exact .of_idle ho rfl (Nat.le_trans h.ackedLe h.fileLe) (Nat.le_refl _) fun _ => rfl
    · exact .of_idle rfl ho ha (Nat.le_refl _) fun _ => rfl
  next => exact h

theorem Inv.step {s : St} (h : Inv s) (e : Ev) : Inv (step true s e) := by
  cases e with
  | set => exact h.step_set
  | start f => exact h.step_start f
  | write f => exact h.step_write f
  | rename f => exact h.step_rename f

theorem Inv.run {s : St} (h : Inv s) (evs : List Ev) : Inv (run true s evs) :=
  List.foldlRecOn evs (Race.step true) h fun _ h e _ => h.step e

/-- the schedule of seed C11-d: the flusher takes its dump (generation 1) and leaves the lock; the application sets generation 2
and completes `flush()`; then the flusher's `<file>.tmp` + rename land -/
def witness : List Ev := [.set, .start false, .set, .start true, .write true, .rename true, .write false, .rename false]

end Iora.Jfs.Race
