import IoraModel.Lemmas.AssetsPath
/-!
Lemmas about the kernel path walk of the C20 file-system model.  `walkStep` is analysed once (`walkStep_head`); the walk is the
iteration of `walkStep` as a relation (`Walks`: state and answer, no fuel); the facts about it are invariants of the iteration
(`Walks.inv`) or compare two walks step by step.
-/
namespace Iora.Assets
open Iora

theorem get_parent {fs : Fs} {n : Name} {up : Loc} {e : Entry} (h : fs.get (n :: up) = some e) :
    fs.get up = some .dir := by
  simp only [Fs.get] at h
  split at h
  · assumption
  · cases h

theorem get_append_dir {fs : Fs} (xs l : Loc) (h : fs.get (xs ++ l) = some .dir) : fs.get l = some .dir := by
  induction xs with
  | nil => simpa using h
  | cons x xs ih => exact ih (get_parent h)

theorem get_tail {fs : Fs} {cur : Loc} {e : Entry} (h : fs.get cur = some e) : fs.get cur.tail = some .dir := by
  cases cur with
  | nil => rfl
  | cons _ _ => exact get_parent h

/-- What the walk does with the name `c` in the directory `cur` is decided by `c` and `fs.get (c :: cur)` alone.  Each case
gives `walkStep` for every budget, every list of names that follow and all flags at once, so that two walks which look the same
name up in the same directory (with other budgets, flags, or more names to follow) are compared by rewriting both. -/
inductive Head (fs : Fs) (cur : Loc) (c : Name) : Prop
  | dot (hc : c = dot) (eq : ∀ b rest fol tr, walkStep fs b cur (c :: rest) fol tr = .next b cur rest tr)
  | dotdot (hc : c = dotdot) (eq : ∀ b rest fol tr, walkStep fs b cur (c :: rest) fol tr = .next b cur.tail rest tr)
  | long (hc : c.length > NAME_MAX)
      (eq : ∀ b rest fol tr, walkStep fs b cur (c :: rest) fol tr = .done (.error .ENAMETOOLONG))
  | missing (hg : fs.get (c :: cur) = none)
      (eq : ∀ b rest fol tr, walkStep fs b cur (c :: rest) fol tr = .done (.error .ENOENT))
  | file (d : Bytes) (hc : c ≠ dot ∧ c ≠ dotdot) (hg : fs.get (c :: cur) = some (.file d))
      (eq : ∀ b rest fol tr, walkStep fs b cur (c :: rest) fol tr =
        if rest.isEmpty && !tr then .done (.ok (c :: cur, .file d)) else .done (.error .ENOTDIR))
  | dir (hc : c ≠ dot ∧ c ≠ dotdot) (hg : fs.get (c :: cur) = some .dir)
      (eq : ∀ b rest fol tr, walkStep fs b cur (c :: rest) fol tr = .next b (c :: cur) rest tr)
  | link (t0 : Bytes) (hc : c ≠ dot ∧ c ≠ dotdot) (hg : fs.get (c :: cur) = some (.link t0))
      (eq : ∀ b rest fol tr, walkStep fs b cur (c :: rest) fol tr =
        if rest.isEmpty && !tr && !fol then .done (.ok (c :: cur, .link t0))
        else if b = 0 then .done (.error .ELOOP)
        else if (cstr t0).isEmpty then .done (.error .ENOENT)
        else .next (b - 1) (if isAbs (cstr t0) then [] else cur) (comps (cstr t0) ++ rest)
          (tr || (rest.isEmpty && trailSlash (cstr t0))))

theorem walkStep_head (fs : Fs) (cur : Loc) (c : Name) : Head fs cur c := by
  by_cases hd : c = dot
  · exact .dot hd fun _ _ _ _ => by rw [walkStep, if_pos hd]
  by_cases hdd : c = dotdot
  · exact .dotdot hdd fun _ _ _ _ => by rw [walkStep, if_neg hd, if_pos hdd]
  by_cases hl : c.length > NAME_MAX
  · exact .long hl fun _ _ _ _ => by rw [walkStep, if_neg hd, if_neg hdd, if_pos hl]
  cases hg : fs.get (c :: cur) with
  | none => exact .missing hg fun _ _ _ _ => by rw [walkStep, if_neg hd, if_neg hdd, if_neg hl, hg]
  | some e =>
    cases e with
    | file d => exact .file d ⟨hd, hdd⟩ hg fun _ _ _ _ => by rw [walkStep, if_neg hd, if_neg hdd, if_neg hl, hg]
    | dir => exact .dir ⟨hd, hdd⟩ hg fun _ _ _ _ => by rw [walkStep, if_neg hd, if_neg hdd, if_neg hl, hg]
    | link t0 => exact .link t0 ⟨hd, hdd⟩ hg fun _ _ _ _ => by rw [walkStep, if_neg hd, if_neg hdd, if_neg hl, hg]

theorem walkStep_nil (fs : Fs) (b : Nat) (cur : Loc) (fol tr : Bool) :
    walkStep fs b cur [] fol tr = .done (.ok (cur, .dir)) := rfl

def Step.sat (P : Except Errno (Loc × Entry) → Prop) (I : Nat → Loc → List Name → Bool → Prop) : Step → Prop
  | .done r => P r
  | .next b cur todo tr => I b cur todo tr

@[simp] theorem Step.sat_done {P I} (r) : (Step.done r).sat P I = P r := rfl
@[simp] theorem Step.sat_next {P I} (b cur todo tr) : (Step.next b cur todo tr).sat P I = I b cur todo tr := rfl

@[simp] theorem Step.sat_ite {P I} (p : Prop) [Decidable p] (s t : Step) :
    (if p then s else t).sat P I ↔ (p → s.sat P I) ∧ (¬p → t.sat P I) := by
  split <;> simp [*]

def NoFile (r : Except Errno (Loc × Entry)) : Prop := ∀ l d, r ≠ .ok (l, .file d)

@[simp] theorem noFile_error (e : Errno) : NoFile (.error e) := fun _ _ h => by cases h

@[simp] theorem noFile_ok (l : Loc) (e : Entry) : NoFile (.ok (l, e)) ↔ ∀ d, e ≠ .file d :=
  ⟨fun h d he => h l d (by rw [he]), fun h _ d he => by cases he; exact h d rfl⟩

/-- `r` is the answer the iteration of `walkStep` from this state ends with.  `walk` is that iteration with a bound on the number
of rounds, there to make the recursion structural; `Lemmas/AssetsFuel.lean` shows that the bound `kwalk` gives is never reached,
so the answer of a system call is an answer in this sense (`walks_walkFuel`). -/
inductive Walks (fs : Fs) (fol : Bool) : Nat → Loc → List Name → Bool → Except Errno (Loc × Entry) → Prop
  | done {b cur todo tr r} : walkStep fs b cur todo fol tr = .done r → Walks fs fol b cur todo tr r
  | next {b cur todo tr b' cur' todo' tr' r} : walkStep fs b cur todo fol tr = .next b' cur' todo' tr' →
      Walks fs fol b' cur' todo' tr' r → Walks fs fol b cur todo tr r

theorem walks_iff {fs : Fs} {fol : Bool} {b cur todo tr r} :
    Walks fs fol b cur todo tr r ↔
      (walkStep fs b cur todo fol tr).sat (· = r) fun b' cur' todo' tr' => Walks fs fol b' cur' todo' tr' r := by
  constructor
  · intro h
    cases h with
    | done hs => rw [hs]; rfl
    | next hs h' => rw [hs]; exact h'
  · intro h
    cases hs : walkStep fs b cur todo fol tr with
    | done r' => rw [hs] at h; exact .done (hs.trans (congrArg _ h))
    | next b' cur' todo' tr' => rw [hs] at h; exact .next hs h

theorem walks_nil {fs : Fs} {fol : Bool} {b cur tr r} (h : Walks fs fol b cur [] tr r) : r = .ok (cur, .dir) :=
  (walks_iff.mp h).symm

theorem walk_dot_no_error {fs : Fs} {b : Nat} {L : Loc} {e : Errno} (h : Walks fs true b L [dot] false (.error e)) : False := by
  rw [walks_iff] at h
  simp only [walkStep, ↓reduceIte, Step.sat_next] at h
  cases walks_nil h

theorem Walks.step_sat {fs : Fs} {fol : Bool} {b cur todo tr r} {I : Nat → Loc → List Name → Bool → Prop}
    {P : Except Errno (Loc × Entry) → Prop} (h : Walks fs fol b cur todo tr r) (hs : (walkStep fs b cur todo fol tr).sat P I)
    (hI : ∀ b' cur' todo' tr', I b' cur' todo' tr' → Walks fs fol b' cur' todo' tr' r → P r) : P r := by
  cases h with
  | done hd => rw [hd] at hs; exact hs
  | next hn h' => rw [hn] at hs; exact hI _ _ _ _ hs h'

-- `ext` then `det`: two calls of `walk` whose fuel differs, on file systems that answer every `get` alike, give one answer (`kwalk_ext`)
theorem Walks.det {fs : Fs} {fol : Bool} {b cur todo tr r r'} (h : Walks fs fol b cur todo tr r)
    (h' : Walks fs fol b cur todo tr r') : r = r' := by
  induction h with
  | done hs => rw [walks_iff, hs] at h'; exact h'
  | next hs _ ih => rw [walks_iff, hs] at h'; exact ih h'

theorem Walks.inv {fs : Fs} {fol : Bool} {I : Nat → Loc → List Name → Bool → Prop} {P : Except Errno (Loc × Entry) → Prop}
    (hstep : ∀ b cur todo tr, I b cur todo tr → (walkStep fs b cur todo fol tr).sat P I)
    {b cur todo tr r} (h : Walks fs fol b cur todo tr r) (hI : I b cur todo tr) : P r := by
  induction h with
  | done hs => have := hstep _ _ _ _ hI; rwa [hs] at this
  | next hs _ ih => have := hstep _ _ _ _ hI; rw [hs] at this; exact ih this

theorem Walks.trail_nofile {fs : Fs} {fol : Bool} {b cur todo r} (h : Walks fs fol b cur todo true r) : NoFile r := by
  refine Walks.inv (I := fun _ _ _ tr => tr = true) (P := NoFile) ?_ h rfl
  intro b cur todo tr htr
  subst htr
  cases todo with
  | nil => simp [walkStep_nil]
  | cons c rest =>
    cases walkStep_head fs cur c with
    | dot _ eq | dotdot _ eq | long _ eq | missing _ eq | dir _ _ eq | file _ _ _ eq | link _ _ _ eq => simp [eq]

theorem Walks.ext {fsA fsB : Fs} (hg : ∀ l, fsA.get l = fsB.get l) {fol b cur todo tr r}
    (h : Walks fsA fol b cur todo tr r) : Walks fsB fol b cur todo tr r := by
  have hs : ∀ b cur todo tr, walkStep fsA b cur todo fol tr = walkStep fsB b cur todo fol tr := by
    intro b cur todo tr
    unfold walkStep
    cases todo with
    | nil => rfl
    | cons c rest => simp only [hg]
  induction h with
  | done h => exact .done (hs .. ▸ h)
  | next h _ ih => exact .next (hs .. ▸ h) ih

/-! ### prefix extraction: a walk of `A ++ R` passes through the directory the walk of `A` ends at -/

theorem step_prefix (fs : Fs) (b : Nat) (cur : Loc) (c : Name) (A' R : List Name) (fol tr tr0 : Bool) (hR : R ≠ []) :
    (walkStep fs b cur (c :: A') true tr0).sat (fun r => ∀ L, r ≠ .ok (L, .dir))
      (fun b' cur' todo' _ => walkStep fs b cur (c :: (A' ++ R)) fol tr = .next b' cur' (todo' ++ R) tr ∧ b' ≤ b) := by
  have hne : (A' ++ R).isEmpty = false := by simpa using fun _ => hR
  cases walkStep_head fs cur c with
  | dot _ eq | dotdot _ eq | long _ eq | missing _ eq | dir _ _ eq | file _ _ _ eq => simp [eq]
  | link _ _ _ eq => simp [eq, hne]; exact fun h1 h2 => by rw [if_neg h1, if_neg h2]

theorem Walks.prefix {fs : Fs} {b cur A tr0 L} (h : Walks fs true b cur A tr0 (.ok (L, .dir))) {R : List Name} {fol tr r}
    (hR : R ≠ []) (h' : Walks fs fol b cur (A ++ R) tr r) : ∃ b', b' ≤ b ∧ Walks fs fol b' L R tr r := by
  generalize hr : (Except.ok (L, Entry.dir) : Except Errno (Loc × Entry)) = r0 at h
  induction h with
  | @done b cur A tr0 r0 hs =>
    cases A with
    | nil => cases hr.trans (Step.done.inj hs).symm; exact ⟨b, Nat.le_refl _, h'⟩
    | cons c A' =>
      have := step_prefix fs b cur c A' R fol tr tr0 hR
      rw [hs] at this
      exact absurd hr.symm (this L)
  | @next b cur A tr0 b1 cur1 todo1 tr1 r0 hs _ ih =>
    cases A with
    | nil => cases hs
    | cons c A' =>
      have := step_prefix fs b cur c A' R fol tr tr0 hR
      rw [hs] at this
      rw [List.cons_append, walks_iff, this.1] at h'
      obtain ⟨b', hb', hw⟩ := ih h' hr
      exact ⟨b', Nat.le_trans hb' this.2, hw⟩

/-- The walk of `c :: A'` as a complete path (a final link is followed) against the walk of `c :: A' ++ B` with at least the
budget and any flags: where the first step fails with "not found" the second ends the walk without a file; where the first goes
on, the second ends without a file (a final link that is not followed) or goes on to the same directory.  `hinv`: when no name
is added, a trailing slash the first walk has seen the second has seen too; without it "not a directory" at a final file, which
the first walk answers because of the slash, would be a file for the second. -/
theorem step_extend (fs : Fs) (b1 b2 : Nat) (cur : Loc) (c : Name) (A' B : List Name) (fol2 tr1 tr2 : Bool)
    (hb : b1 ≤ b2) (hinv : B = [] → tr1 = true → tr2 = true) :
    (walkStep fs b1 cur (c :: A') true tr1).sat
      (fun r => ∀ e, r = .error e → e = .ENOENT ∨ e = .ENOTDIR →
        (walkStep fs b2 cur (c :: (A' ++ B)) fol2 tr2).sat NoFile fun _ _ _ _ => False)
      (fun b1' cur' todo' tr1' => (walkStep fs b2 cur (c :: (A' ++ B)) fol2 tr2).sat NoFile
        fun b2' cur2 todo2 tr2' => cur2 = cur' ∧ todo2 = todo' ++ B ∧ b1' ≤ b2' ∧ (B = [] → tr1' = true → tr2' = true)) := by
  cases walkStep_head fs cur c with
  | dot _ eq | dotdot _ eq | dir _ _ eq => simp only [eq, Step.sat_next, true_and]; exact ⟨hb, hinv⟩
  | long _ eq | missing _ eq => simp [eq]
  | file _ _ _ eq =>
    simp [eq]
    exact fun h1 h2 h3 => hinv h3 (h1 h2)
  | link _ _ _ eq =>
    -- both follow the link (the first has the smaller budget), or the second returns it unfollowed; the target's trailing slash
    -- counts only when no name follows the link, which for the second walk needs `B = []`
    simp [eq]
    exact fun _ => ⟨fun h _ _ => h, fun _ _ _ _ => ⟨by omega, fun hB h => h.imp (hinv hB) fun h => ⟨⟨h.1, hB⟩, h.2⟩⟩⟩

theorem Walks.fail_extend {fs : Fs} {b1 cur A tr1 e} (h : Walks fs true b1 cur A tr1 (.error e))
    (he : e = .ENOENT ∨ e = .ENOTDIR) {b2 : Nat} {B : List Name} {fol2 tr2 r} (hb : b1 ≤ b2)
    (hinv : B = [] → tr1 = true → tr2 = true) (h' : Walks fs fol2 b2 cur (A ++ B) tr2 r) : NoFile r := by
  generalize hr : (Except.error e : Except Errno (Loc × Entry)) = r1 at h
  induction h generalizing b2 tr2 with
  | @done b1 cur A tr1 r1 hs =>
    cases A with
    | nil => cases hr.trans (Step.done.inj hs).symm
    | cons c A' =>
      have := step_extend fs b1 b2 cur c A' B fol2 tr1 tr2 hb hinv
      rw [hs] at this
      exact h'.step_sat (this e hr.symm he) fun _ _ _ _ hF _ => hF.elim
  | @next b1 cur A tr1 b1' cur' todo' tr1' r1 hs _ ih =>
    cases A with
    | nil => cases hs
    | cons c A' =>
      have := step_extend fs b1 b2 cur c A' B fol2 tr1 tr2 hb hinv
      rw [hs] at this
      exact h'.step_sat this fun _ _ _ _ ⟨h1, h2, hb', hinv'⟩ hw => ih hb' hinv' (h1 ▸ h2 ▸ hw) hr

/-- the link arm says only what the callers use: a final link that is not followed is what the walk returns -/
theorem Walks.plain {fs : Fs} {fol : Bool} {b cur} {n : Name} {rest tr} {r : Loc × Entry} (hn : Plain n)
    (h : Walks fs fol b cur (n :: rest) tr (.ok r)) :
    match fs.get (n :: cur) with
    | none => False
    | some (.file d) => rest = [] ∧ tr = false ∧ r = (n :: cur, .file d)
    | some .dir => Walks fs fol b (n :: cur) rest tr (.ok r)
    | some (.link t) => rest = [] → tr = false → fol = false → r = (n :: cur, .link t) := by
  rw [walks_iff] at h
  cases walkStep_head fs cur n with
  | dot hc _ => exact absurd hc hn.ne_dot
  | dotdot hc _ => exact absurd hc hn.ne_dotdot
  | long _ eq | missing _ eq => rw [eq] at h; cases h
  | file d _ hg eq =>
    rw [hg]
    rw [eq] at h
    by_cases hl : (rest.isEmpty && !tr) = true
    · rw [if_pos hl] at h
      cases h
      simpa using hl
    · rw [if_neg hl] at h
      cases h
  | dir _ hg eq => rw [hg]; rw [eq] at h; exact h
  | link t _ hg eq =>
    rw [hg]
    intro h1 h2 h3
    subst h1 h2 h3
    rw [eq] at h
    cases h
    rfl

theorem Walks.through_dirs {fs : Fs} {fol : Bool} : ∀ (names : List Name) {cur : Loc} {b : Nat} {R : List Name} {tr : Bool}
    {r : Loc × Entry}, (∀ n ∈ names, Plain n) → fs.get (names.reverse ++ cur) = some .dir →
    Walks fs fol b cur (names ++ R) tr (.ok r) → Walks fs fol b (names.reverse ++ cur) R tr (.ok r) := by
  intro names
  induction names with
  | nil => intro cur b R tr r _ _ h; exact h
  | cons n ns ih =>
    intro cur b R tr r hp hg h
    have hg' : fs.get (ns.reverse ++ (n :: cur)) = some .dir := by simpa using hg
    have h := Walks.plain (hp n (List.mem_cons_self ..)) h
    rw [get_append_dir _ _ hg'] at h
    simpa using ih (fun x hx => hp x (List.mem_cons_of_mem _ hx)) hg' h

/-- `hnl`: the walk has not followed a final link, because it does not follow one (`open` with O_NOFOLLOW) or because there is
none (the name came out of `realpath`). -/
theorem Walks.leaf {fs : Fs} {init : List Name} {last : Name} {cur : Loc} {b : Nat} {l : Loc} {d : Bytes} {fol tr : Bool}
    (hp : ∀ n ∈ init, Plain n) (hl : Plain last) (hg : fs.get (init.reverse ++ cur) = some .dir)
    (hnl : fol = false ∧ tr = false ∨ ∀ t, fs.get (last :: (init.reverse ++ cur)) ≠ some (.link t))
    (h : Walks fs fol b cur (init ++ [last]) tr (.ok (l, .file d))) :
    l = last :: (init.reverse ++ cur) ∧ fs.get l = some (.file d) := by
  have h := (Walks.through_dirs init hp hg h).plain hl
  cases hget : fs.get (last :: (init.reverse ++ cur)) with
  | none => rw [hget] at h; exact h.elim
  | some e =>
    rw [hget] at h
    cases e with
    | file d' => cases h.2.2; exact ⟨rfl, hget⟩
    | dir => cases walks_nil h
    | link t =>
      rcases hnl with ⟨rfl, rfl⟩ | hnl
      · cases h rfl rfl rfl
      · exact absurd hget (hnl t)

/-- a walk that has to pass THROUGH a regular file fails -/
theorem Walks.over_file {fs : Fs} {init : List Name} {last : Name} {X : List Name} {b : Nat} {fol tr : Bool} {d : Bytes}
    {r : Loc × Entry} (hp : ∀ n ∈ init, Plain n) (hl : Plain last) (hg : fs.get (last :: init.reverse) = some (.file d))
    (h : Walks fs fol b [] (init ++ last :: X) tr (.ok r)) : X = [] ∧ tr = false := by
  have h := (Walks.through_dirs init hp (by simpa using get_parent hg) h).plain hl
  rw [List.append_nil, hg] at h
  exact ⟨h.1, h.2.1⟩

/-! ### every location reached consists of ordinary NUL-free names -/

theorem cstr_no_nul (p : Bytes) : (0 : UInt8) ∉ cstr p :=
  fun h => by simpa using List.all_eq_true.mp List.all_takeWhile 0 h

theorem cstr_of_no_nul (p : Bytes) (h : (0 : UInt8) ∉ p) : cstr p = p := by
  induction p with
  | nil => rfl
  | cons c cs ih =>
    have hc : c ≠ 0 := fun e => h (by simp [e])
    simp_all [cstr]

-- what the walk still has to look up are names without NUL (`TodoOK`); where it stands consists of ordinary ones (`LocOK`)
def NameOK (n : Name) : Prop := IsName n ∧ (0 : UInt8) ∉ n
def LocOK (l : Loc) : Prop := ∀ n ∈ l, Plain n ∧ (0 : UInt8) ∉ n
def TodoOK (t : List Name) : Prop := ∀ n ∈ t, NameOK n

theorem locOK_nil : LocOK [] := fun _ h => nomatch h
theorem LocOK.plain {L : Loc} (h : LocOK L) : ∀ n ∈ L, Plain n := fun n hn => (h n hn).1
theorem LocOK.reverse {L : Loc} (h : LocOK L) : LocOK L.reverse := fun n hn => h n (List.mem_reverse.mp hn)
theorem LocOK.head {n : Name} {L : Loc} (h : LocOK (n :: L)) : Plain n := (h n (List.mem_cons_self ..)).1
theorem LocOK.tail {L : Loc} (h : LocOK L) : LocOK L.tail := fun n hn => h n (List.mem_of_mem_tail hn)
theorem todoOK_nil : TodoOK [] := fun _ h => nomatch h
theorem todoOK_append {a b : List Name} : TodoOK (a ++ b) ↔ TodoOK a ∧ TodoOK b := List.forall_mem_append
theorem todoOK_cons {c : Name} {l : List Name} : TodoOK (c :: l) ↔ NameOK c ∧ TodoOK l := List.forall_mem_cons
theorem TodoOK.names {N : List Name} (h : TodoOK N) : ∀ n ∈ N, IsName n := fun n hn => (h n hn).1
theorem LocOK.todo {L : Loc} (h : LocOK L) : TodoOK L.reverse := fun n hn => ⟨(h.reverse n hn).1.1, (h.reverse n hn).2⟩

theorem comps_todoOK (p : Bytes) (h : (0 : UInt8) ∉ p) : TodoOK (comps p) :=
  fun _ hn => ⟨(mem_comps hn).1, fun h0 => h ((mem_comps hn).2 0 h0)⟩

theorem Walks.locOK {fs : Fs} {fol : Bool} {b cur todo tr} {l : Loc} {e : Entry} (hc : LocOK cur) (ht : TodoOK todo)
    (h : Walks fs fol b cur todo tr (.ok (l, e))) : LocOK l := by
  refine Walks.inv (I := fun _ cur todo _ => LocOK cur ∧ TodoOK todo) (P := fun r => ∀ l e, r = .ok (l, e) → LocOK l)
    ?_ h ⟨hc, ht⟩ l e rfl
  intro b cur todo tr ⟨hc, ht⟩
  cases todo with
  | nil => intro l e h; cases h; exact hc
  | cons c rest =>
    have hrest : TodoOK rest := fun n hn => ht n (List.mem_cons_of_mem _ hn)
    have hcc : c ≠ dot ∧ c ≠ dotdot → LocOK (c :: cur) := fun hp n hn => by
      rcases List.mem_cons.mp hn with rfl | hn
      · exact ⟨⟨(ht n (List.mem_cons_self ..)).1, hp⟩, (ht n (List.mem_cons_self ..)).2⟩
      · exact hc n hn
    cases walkStep_head fs cur c with
    | dot _ eq => rw [eq]; exact ⟨hc, hrest⟩
    | dotdot _ eq => rw [eq]; exact ⟨hc.tail, hrest⟩
    | long _ eq | missing _ eq => rw [eq]; exact fun _ _ h => nomatch h
    | dir hp _ eq => rw [eq]; exact ⟨hcc hp, hrest⟩
    | file _ hp _ eq =>
      rw [eq]
      split <;> intro l e h <;> cases h
      exact hcc hp
    | link t0 hp _ eq =>
      simp [eq]
      refine ⟨fun _ _ _ => hcc hp, fun _ _ _ => ⟨?_, ?_⟩⟩
      · split
        · exact locOK_nil
        · exact hc
      · exact fun n hn => (List.mem_append.mp hn).elim (comps_todoOK _ (cstr_no_nul t0) n) (hrest n)

theorem Walks.get {fs : Fs} {fol : Bool} {b cur todo tr} {l : Loc} {e : Entry}
    (hc : fs.get cur = some .dir) (h : Walks fs fol b cur todo tr (.ok (l, e))) :
    fs.get l = some e ∧ (fol = true → ∀ t, e ≠ .link t) := by
  refine Walks.inv (I := fun _ cur _ _ => fs.get cur = some .dir)
    (P := fun r => ∀ l e, r = .ok (l, e) → fs.get l = some e ∧ (fol = true → ∀ t, e ≠ .link t)) ?_ h hc l e rfl
  intro b cur todo tr hc
  cases todo with
  | nil => intro l e h; cases h; exact ⟨hc, fun _ _ h => nomatch h⟩
  | cons c rest =>
    cases walkStep_head fs cur c with
    | dot _ eq => rw [eq]; exact hc
    | dotdot _ eq => rw [eq]; exact get_tail hc
    | long _ eq | missing _ eq => rw [eq]; exact fun _ _ h => nomatch h
    | dir _ hg eq => rw [eq]; exact hg
    | file _ _ hg eq =>
      rw [eq]
      split <;> intro l e h <;> cases h
      exact ⟨hg, fun _ _ h => nomatch h⟩
    | link t0 _ hg eq =>
      simp [eq]
      refine ⟨fun _ _ hf => ⟨hg, hf⟩, fun _ _ _ => ?_⟩
      split
      · rfl
      · exact hc

end Iora.Assets
