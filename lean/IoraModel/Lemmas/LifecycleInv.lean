import IoraModel.Lemmas.LifecycleCore
/-! # `Inv` is preserved by every primitive operation (C02)

`Inv.step` is the one place where the clauses of `Inv` are re-established: a step is described by `Inv.Step` - the table
changes at one id at most, the trace gains one event at most - and each primitive only says how it fits that description. -/
namespace Iora.Lifecycle

/-- guarded or not, the erase only removes, and does not leave the closing session under its own key -/
theorem eraseIdx_spec (gd : Bool) (idx : Key → Option Sid) (pk : Option Key) (sid : Sid) (k : Key) (x : Sid)
    (h : eraseIdx gd idx pk sid k = some x) : idx k = some x ∧ ¬(pk = some k ∧ x = sid) := by
  unfold eraseIdx at h
  cases pk with
  | none => simp at h; exact ⟨h, by simp⟩
  | some k0 =>
    simp only at h
    by_cases hg : gd = true
    · simp only [hg, if_true] at h
      by_cases hi : idx k0 = some sid
      · simp only [hi, if_true] at h
        by_cases ek : k = k0
        · subst ek; simp [upd] at h
        · simp [upd, ek] at h; exact ⟨h, by intro ⟨e, _⟩; cases e; exact ek rfl⟩
      · simp only [hi, if_false] at h
        refine ⟨h, ?_⟩
        intro ⟨e, ex⟩; cases e; subst ex; exact hi h
    · simp only [hg] at h
      by_cases ek : k = k0
      · subst ek; simp [upd] at h
      · simp [upd, ek] at h; exact ⟨h, by intro ⟨e, _⟩; cases e; exact ek rfl⟩

/-- the shapes in which the pending ids change: not at all, the head `sid` leaves (its request is carried out or fails), or the
fresh id is appended (connect() was accepted) -/
def PendStep (g g' : G) (sid : Sid) : Prop :=
  pend g' = pend g ∨ pend g = sid :: pend g' ∨ (pend g' = pend g ++ [g.nextId] ∧ g.nextId < g'.nextId)

/-- what one step may do to the components `Inv` reads: the table changes at `sid` at most, the trace gains the event `o` at most,
ids are only allocated; the remaining fields say how the entry of `sid`, the pending ids, gauge, flags and peer index fit the new
trace.  One exception to "at `sid` at most": entries with the closed flag may go anywhere (`_sessions.clear()` at the end of the
drain).  Such an id has its close in the trace, which accounts for it where `Inv` asks for an entry or a close, and it is neither
counted by the gauge nor named by the peer index.  The defaults discharge what a step with a concrete `o` and unchanged components
leaves trivial. -/
structure Inv.Step (g g' : G) (sid : Sid) (o : Option Out) : Prop where
  table : ∀ x, x ≠ sid → g'.table x = g.table x ∨ (g'.table x = none ∧ ∀ s, g.table x = some s → s.closed = true)
  tr : g'.tr = g.tr ++ o.toList := by first | rfl | exact (List.append_nil _).symm
  nextId : g.nextId ≤ g'.nextId := by first | exact Nat.le_refl _ | exact Nat.le_succ _
  /-- a callback is for `sid` ... -/
  ev_sid : ∀ e x, o = some e → evSid e = some x → x = sid := by intro e x he hx; cases he <;> cases hx <;> rfl
  /-- ... which is then not pending afterwards, was not closed before, and is an allocated id -/
  ev_ok : (o.bind evSid).isSome → sid ∉ pend g' ∧ sid ∉ closesOf g.tr ∧ sid < g'.nextId := by intro h; cases h
  alloc : ∀ e a, o = some e → allocSid e = some a → a = g.nextId ∧ g.nextId < g'.nextId := by intro e a he ha; cases he <;> cases ha
  ret_pend : ∀ r, o = some (.ret r true) → r ∈ pend g' := by intro r he; cases he
  pends : PendStep g g' sid := by exact .inl rfl
  pend_sid : sid ∈ pend g' → g'.table sid = none
  /-- the new entry of `sid` against the new trace -/
  sid_entry : ∀ s, g'.table sid = some s → sid < g'.nextId ∧ (s.closed = true ↔ sid ∈ closesOf g'.tr) ∧
    (s.announced = true ↔ sid ∈ annOf g'.tr) ∧ (s.connAnnounced = true ↔ Out.announce sid .connect ∈ g'.tr)
  sid_dom : sid ∈ annOf g'.tr → (∃ s, g'.table sid = some s) ∨ sid ∈ closesOf g'.tr
  /-- if `sid` was accounted for (pending or in the table) it still is, or it is closed -/
  sid_keep : (sid ∈ pend g ∨ ∃ s, g.table sid = some s) →
    sid ∈ pend g' ∨ (∃ s, g'.table sid = some s) ∨ sid ∈ closesOf g'.tr
  /-- the gauge moves with the entry of `sid` -/
  gauge : g'.current + ((live g sid).toNat : Int) = g.current + ((live g' sid).toNat : Int)
  once : g'.dupAnn = false → g.dupAnn = false ∧ ∀ e, o = some e → okOnce g.tr e := by
    intro hx; exact ⟨hx, fun e he => by cases he <;> trivial⟩
  data : g'.envBad = false → g.envBad = false ∧ ∀ e, o = some e → okData g.tr e := by
    intro hx; exact ⟨hx, fun e he => by cases he <;> trivial⟩
  idx : ∀ k x, g'.index k = some x → ∃ s, g'.table x = some s ∧ s.closed = false ∧ s.announced = true ∧ s.pkey = some k

theorem Inv.step {g g' : G} {sid : Sid} {o : Option Out} (h : Inv g) (st : Inv.Step g g' sid o) : Inv g' := by
  -- a projection of the new trace: what was there, then the id of the new event
  have app : ∀ (f : Out → Option Sid), g'.tr.filterMap f = g.tr.filterMap f ++ (o.bind f).toList := by
    intro f; rw [st.tr, List.filterMap_append]; cases o with
    | none => rfl
    | some e => cases hf : f e <;> simp [hf]
  have proj : ∀ (f : Out → Option Sid) x, x ∈ g'.tr.filterMap f ↔ x ∈ g.tr.filterMap f ∨ ∃ e, o = some e ∧ f e = some x := by
    intro f x
    rw [app, List.mem_append]
    cases o <;> simp
  have ev : ∀ e x, o = some e → evSid e = some x → x = sid ∧ sid ∉ pend g' ∧ sid ∉ closesOf g.tr ∧ sid < g'.nextId :=
    fun e x he hx => ⟨st.ev_sid e x he hx, st.ev_ok (by rw [he, Option.bind_some, hx]; rfl)⟩
  -- ... and for an id other than `sid` the callback projections are as before
  have other : ∀ (f : Out → Option Sid), (∀ e x, f e = some x → evSid e = some x) → ∀ x, x ≠ sid →
      (x ∈ g'.tr.filterMap f ↔ x ∈ g.tr.filterMap f) := by
    intro f hf x hx
    rw [proj]
    exact ⟨fun hm => hm.resolve_right fun ⟨e, he, hfe⟩ => hx (ev e x he (hf e x hfe)).1, .inl⟩
  have hclose : ∀ e x, closeSid e = some x → evSid e = some x := by intro e x h; cases e <;> first | exact h | cases h
  have hann : ∀ e x, annSid e = some x → evSid e = some x := by intro e x h; cases e <;> first | exact h | cases h
  have lt' : ∀ {x}, x < g.nextId → x < g'.nextId := fun hx => Nat.lt_of_lt_of_le hx st.nextId
  -- an entry other than that of `sid` was there before; one that was there is still, unless it was closed
  have old : ∀ {x s}, x ≠ sid → g'.table x = some s → g.table x = some s := fun e hx =>
    (st.table _ e).elim (· ▸ hx) fun hn => nomatch hn.1.symm.trans hx
  have keep : ∀ {x s}, x ≠ sid → g.table x = some s → g'.table x = some s ∨ x ∈ closesOf g'.tr := fun {x} _ e hs =>
    (st.table _ e).imp (·.trans hs) fun hn => (proj closeSid x).2 (.inl ((h.tbl_cl _ _ hs).1 (hn.2 _ hs)))
  have pend_sub : ∀ x, x ∈ pend g' → x ∈ pend g ∨ (x = g.nextId ∧ g.nextId < g'.nextId) := by
    intro x hx
    rcases st.pends with e | e | ⟨e, hl⟩
    · exact .inl (e ▸ hx)
    · exact .inl (e ▸ List.mem_cons_of_mem _ hx)
    · rw [e] at hx; exact (List.mem_append.1 hx).imp_right fun hm => ⟨List.mem_singleton.1 hm, hl⟩
  constructor
  case tbl_lt =>
    intro x s hx
    by_cases e : x = sid
    · exact e ▸ (st.sid_entry s (e ▸ hx)).1
    · exact lt' (h.tbl_lt x s (old e hx))
  case pend_nd =>
    rcases st.pends with e | e | ⟨e, _⟩
    · exact e ▸ h.pend_nd
    · exact (List.nodup_cons.1 (e ▸ h.pend_nd)).2
    · rw [e, List.nodup_append]
      exact ⟨h.pend_nd, by simp, fun a ha b hb => by cases List.mem_singleton.1 hb; exact fun e' => Nat.lt_irrefl _ (h.pend_lt _ (e' ▸ ha))⟩
  case pend_lt =>
    intro x hx
    rcases pend_sub x hx with hp | ⟨rfl, hlt⟩
    · exact lt' (h.pend_lt x hp)
    · exact hlt
  case pend_tbl =>
    intro x hx
    by_cases e : x = sid
    · exact e ▸ st.pend_sid (e ▸ hx)
    · have gone : g.table x = none → g'.table x = none := fun hn => (st.table x e).elim (·.trans hn) (·.1)
      rcases pend_sub x hx with hp | ⟨rfl, _⟩
      · exact gone (h.pend_tbl x hp)
      · exact gone h.fresh_tbl
  case pend_cl =>
    intro x hx hc
    rcases (proj closeSid x).1 hc with hc | ⟨e, he, hf⟩
    · rcases pend_sub x hx with hp | ⟨rfl, _⟩
      · exact h.pend_cl x hp hc
      · exact Nat.lt_irrefl _ (h.cl_lt _ hc)
    · obtain ⟨rfl, hn, _⟩ := ev e x he (hclose e x hf); exact hn hx
  case pend_ann =>
    intro x hx hc
    rcases (proj annSid x).1 hc with hc | ⟨e, he, hf⟩
    · rcases pend_sub x hx with hp | ⟨rfl, _⟩
      · exact h.pend_ann x hp hc
      · exact Nat.lt_irrefl _ (h.ann_lt _ hc)
    · obtain ⟨rfl, hn, _⟩ := ev e x he (hann e x hf); exact hn hx
  case cl_nd =>
    show (g'.tr.filterMap closeSid).Nodup
    rw [app, List.nodup_append]
    refine ⟨h.cl_nd, by cases o.bind closeSid <;> simp, fun a ha b hb => ?_⟩
    cases o with
    | none => cases hb
    | some e =>
      cases hf : closeSid e with
      | none => simp [hf] at hb
      | some c =>
        simp [hf] at hb; subst hb
        obtain ⟨rfl, _, hn, _⟩ := ev e b rfl (hclose e b hf)
        exact fun e' => hn (e' ▸ ha)
  case cl_lt =>
    intro x hc
    rcases (proj closeSid x).1 hc with hc | ⟨e, he, hf⟩
    · exact lt' (h.cl_lt x hc)
    · obtain ⟨rfl, _, _, hl⟩ := ev e x he (hclose e x hf); exact hl
  case tbl_cl =>
    intro x s hx
    by_cases e : x = sid
    · subst e; exact (st.sid_entry s hx).2.1
    · exact (h.tbl_cl x s (old e hx)).trans (other closeSid hclose x e).symm
  case tbl_ann =>
    intro x s hx
    by_cases e : x = sid
    · subst e; exact (st.sid_entry s hx).2.2.1
    · exact (h.tbl_ann x s (old e hx)).trans (other annSid hann x e).symm
  case ann_dom =>
    intro x hx
    by_cases e : x = sid
    · subst e; exact st.sid_dom hx
    · rcases h.ann_dom x ((other annSid hann x e).1 hx) with ⟨s, hs⟩ | hc
      · exact (keep e hs).imp_left (⟨s, ·⟩)
      · exact .inr ((proj closeSid x).2 (.inl hc))
  case ret_dom =>
    intro x hx
    rcases (proj retSid x).1 hx with hx | ⟨e, he, hf⟩
    · by_cases e : x = sid
      · subst e
        rcases h.ret_dom x hx with hp | hs | hc
        · exact st.sid_keep (.inl hp)
        · exact st.sid_keep (.inr hs)
        · exact .inr (.inr ((proj closeSid x).2 (.inl hc)))
      · rcases h.ret_dom x hx with hp | ⟨s, hs⟩ | hc
        · rcases st.pends with e' | e' | ⟨e', _⟩
          · exact .inl (e' ▸ hp)
          · rw [e'] at hp; exact .inl ((List.mem_cons.1 hp).resolve_left e)
          · exact .inl (e' ▸ List.mem_append_left _ hp)
        · exact .inr ((keep e hs).imp_left (⟨s, ·⟩))
        · exact .inr (.inr ((proj closeSid x).2 (.inl hc)))
    · refine .inl (st.ret_pend x ?_)
      cases e with
      | ret r ok => cases ok <;> simp [retSid] at hf; exact hf ▸ he
      | _ => simp [retSid] at hf
  case gauge =>
    have := liveCount_step (g := g) (g' := g') (sid := sid) (fun x e => by
      rcases st.table x e with ht | ⟨hn, hc⟩
      · simp [live, ht]
      · cases hs : g.table x with
        | none => simp [live, hn, hs]
        | some s => simp [live, hn, hs, hc s hs]) st.nextId h.tbl_lt fun s hs => (st.sid_entry s hs).1
    have := st.gauge; have := h.gauge; omega
  case alloc_lt =>
    intro x hx
    rcases (proj allocSid x).1 hx with hx | ⟨e, he, hf⟩
    · exact lt' (h.alloc_lt x hx)
    · obtain ⟨rfl, hl⟩ := st.alloc e x he hf; exact hl
  case alloc_sorted =>
    show (g'.tr.filterMap allocSid).Pairwise (· < ·)
    rw [app, List.pairwise_append]
    refine ⟨h.alloc_sorted, by cases o.bind allocSid <;> simp, fun a ha b hb => ?_⟩
    cases o with
    | none => cases hb
    | some e =>
      cases hf : allocSid e with
      | none => simp [hf] at hb
      | some c =>
        simp [hf] at hb; subst hb
        exact (st.alloc e b rfl hf).1 ▸ h.alloc_lt a ha
  case ord =>
    refine h.ord.step o st.tr ?_ st.once st.data ?_
    · intro e he y hy; obtain ⟨rfl, _, hn, _⟩ := ev e y he hy; exact hn
    · intro x s hx
      by_cases e : x = sid
      · subst e; exact (st.sid_entry s hx).2.2.2
      · refine (h.ord.cann x s (old e hx)).trans ?_
        rw [st.tr, List.mem_append]
        refine ⟨.inl, fun hm => hm.resolve_right fun hm => ?_⟩
        cases o with
        | none => cases hm
        | some ev' => cases List.mem_singleton.1 hm; exact e (st.ev_sid _ x rfl rfl)
  case idx_live =>
    exact st.idx

/-- a step that leaves the table alone - entries with the closed flag apart - and fires no callback: `o` is nothing or connect()
returning.  At most one id is allocated, the pending ids stay or gain the fresh one, and the peer index may change as long as it
points at live announced sessions.  For `Inv.step` the step is one at the fresh id, which has no entry before or after. -/
theorem Inv.step_table {g g' : G} (h : Inv g) (o : Option Out) (ho : o.bind evSid = none)
    (ht : ∀ x, g'.table x = g.table x ∨ (g'.table x = none ∧ ∀ s, g.table x = some s → s.closed = true))
    (htr : g'.tr = g.tr ++ o.toList) (hn : g'.nextId = g.nextId ∨ g'.nextId = g.nextId + 1)
    (hp : pend g' = pend g ∨ (pend g' = pend g ++ [g.nextId] ∧ g.nextId < g'.nextId))
    (hc : g'.current = g.current) (hd : g'.dupAnn = g.dupAnn) (he : g'.envBad = g.envBad)
    (hi : ∀ k x, g'.index k = some x → ∃ s, g.table x = some s ∧ s.closed = false ∧ s.announced = true ∧ s.pkey = some k)
    (halloc : ∀ e a, o = some e → allocSid e = some a → a = g.nextId ∧ g.nextId < g'.nextId := by intro e a he; cases he)
    (hret : ∀ r, o = some (.ret r true) → r ∈ pend g' := by intro r he; cases he) : Inv g' := by
  have hf : g'.table g.nextId = none := (ht _).elim (·.trans h.fresh_tbl) (·.1)
  have hnp : g.nextId ∉ pend g := fun hm => Nat.lt_irrefl _ (h.pend_lt _ hm)
  have noev : ∀ e, o = some e → evSid e = none := fun e he => by rw [he] at ho; exact ho
  refine h.step (sid := g.nextId) (o := o)
    { table := fun x _ => ht x, tr := htr, nextId := hn.elim (·.symm ▸ Nat.le_refl _) (·.symm ▸ Nat.le_succ _)
      ev_sid := fun e x he hx => nomatch (noev e he).symm.trans hx
      ev_ok := fun hs => by rw [ho] at hs; cases hs
      alloc := halloc, ret_pend := hret, pends := hp.imp_right .inr
      pend_sid := fun _ => hf, sid_entry := fun s hs => nomatch hf.symm.trans hs
      sid_dom := fun hm => ?_
      sid_keep := fun hk => absurd hk (not_or.2 ⟨hnp, fun ⟨s, hs⟩ => nomatch h.fresh_tbl.symm.trans hs⟩)
      gauge := ?_
      once := fun hx => ⟨hd ▸ hx, fun e he => by have := noev e he; cases e <;> first | trivial | cases this⟩
      data := fun hx => ⟨he ▸ hx, fun e he => by have := noev e he; cases e <;> first | trivial | cases this⟩
      idx := fun k x hx => ?_ }
  · have : g.nextId ∈ annOf g.tr := by
      rw [htr, annOf, List.filterMap_append, List.mem_append] at hm
      refine hm.resolve_right fun hm => ?_
      cases o with
      | none => cases hm
      | some e => have := noev e rfl; cases e <;> first | (cases this; done) | simp [annSid] at hm
    exact absurd (h.ann_lt _ this) (Nat.lt_irrefl _)
  · simp [live, hf, h.fresh_tbl, hc]
  · obtain ⟨s, hs, hr⟩ := hi k x hx
    exact ⟨s, (ht x).elim (·.trans hs) (fun hn => nomatch hr.1.symm.trans (hn.2 s hs)), hr⟩

theorem Inv.frame {g g' : G} (h : Inv g) (ht : g'.table = g.table) (hn : g'.nextId = g.nextId) (hp : pend g' = pend g)
    (htr : g'.tr = g.tr) (hc : g'.current = g.current) (he : g'.envBad = g.envBad) (hi : g'.index = g.index)
    (hd : g'.dupAnn = g.dupAnn := by rfl) : Inv g' :=
  h.step_table none rfl (fun x => .inl (congrFun ht x)) (htr.trans (List.append_nil _).symm) (.inl hn) (.inl hp) hc hd he
    (fun k x hx => h.idx_live k x (hi ▸ hx))

theorem inv_stale {g : G} (h : Inv g) : Inv { g with stale := true } := h.frame rfl rfl rfl rfl rfl rfl rfl
theorem inv_running {g : G} (b : Bool) (h : Inv g) : Inv { g with running := b } := h.frame rfl rfl rfl rfl rfl rfl rfl

theorem Inv.idx_ne {g : G} (h : Inv g) {sid : Sid} (hn : g.table sid = none) {k : Key} {x : Sid} (hx : g.index k = some x) : x ≠ sid :=
  fun e => let ⟨_, hs, _⟩ := h.idx_live k x hx; nomatch (e ▸ hn).symm.trans hs

theorem Inv.idx_other {g g' : G} (h : Inv g) {sid : Sid} (ht : ∀ x, x ≠ sid → g'.table x = g.table x) {k : Key} {x : Sid}
    (hx : g.index k = some x) (hne : x ≠ sid) :
    ∃ s, g'.table x = some s ∧ s.closed = false ∧ s.announced = true ∧ s.pkey = some k :=
  let ⟨s, hs, hr⟩ := h.idx_live k x hx
  ⟨s, (ht x hne).trans hs, hr⟩

/-- a live table entry `sid` is closed: removed from the table (closeNow) or kept with the closed flag (shutdown drain) -/
theorem Inv.close_step {g g' : G} (h : Inv g) (sid : Sid) (s : Sess) (site : Site)
    (hs : g.table sid = some s) (hcf : s.closed = false)
    (ht : ∀ x, x ≠ sid → g'.table x = g.table x)
    (hts : g'.table sid = none ∨ g'.table sid = some { s with closed := true })
    (hn : g'.nextId = g.nextId) (hp : pend g' = pend g) (htr : g'.tr = g.tr ++ [.close sid site])
    (hc : g'.current = g.current - 1) (he : g'.envBad = g.envBad)
    (hi : ∀ k x, g'.index k = some x → g.index k = some x ∧ ¬(s.pkey = some k ∧ x = sid))
    (hd : g'.dupAnn = g.dupAnn := by rfl) : Inv g' := by
  have hcl : sid ∉ closesOf g.tr := fun hm => by have := (h.tbl_cl sid s hs).2 hm; simp [hcf] at this
  have hlt : sid < g'.nextId := hn ▸ h.tbl_lt sid s hs
  have hnp : sid ∉ pend g' := fun hm => by have := h.pend_tbl sid (hp ▸ hm); simp [hs] at this
  have hin : sid ∈ closesOf g'.tr := htr ▸ mem_closesOf_snoc
  have han : annOf g'.tr = annOf g.tr := by simp [htr, annSid]
  -- the entry that stays (the drain) is `s` with the closed flag
  have hkeep : ∀ s', g'.table sid = some s' → s' = { s with closed := true } := fun s' hs' =>
    hts.elim (fun e => nomatch e.symm.trans hs') (fun e => Option.some.inj (hs'.symm.trans e))
  exact h.step (sid := sid) (o := some (.close sid site))
    { table := fun x hx => .inl (ht x hx), tr := htr, nextId := hn ▸ Nat.le_refl _, ev_ok := fun _ => ⟨hnp, hcl, hlt⟩
      pends := .inl hp, pend_sid := fun hm => absurd hm hnp
      sid_entry := fun s' hs' => by
        rw [hkeep s' hs', han]
        refine ⟨hlt, ⟨fun _ => hin, fun _ => rfl⟩, h.tbl_ann sid s hs, (h.ord.cann sid s hs).trans ?_⟩
        rw [htr, List.mem_append]
        exact ⟨.inl, fun hm => hm.resolve_right fun hm => nomatch List.mem_singleton.1 hm⟩
      sid_dom := fun _ => .inr hin, sid_keep := fun _ => .inr (.inr hin)
      gauge := by rcases hts with hts | hts <;> simp [live, hs, hcf, hts, hc]
      once := fun hx => ⟨hd ▸ hx, fun e he => by cases he; trivial⟩
      data := fun hx => ⟨he ▸ hx, fun e he => by cases he; trivial⟩
      idx := fun k x hx => by
        obtain ⟨hx0, hne⟩ := hi k x hx
        refine h.idx_other ht hx0 fun e => ?_
        obtain ⟨s', hs', _, _, h3⟩ := h.idx_live k x hx0
        cases e; cases hs.symm.trans hs'; exact hne ⟨h3, rfl⟩ }

theorem inv_closeNow (sid : Sid) (site : Site) {g : G} (h : Inv g) : Inv (closeNow sid site g) := by
  rcases closeNow_cases sid site g with ⟨_, e⟩ | ⟨s, hs, hcf, e⟩ <;> rw [e]
  · exact h
  · exact h.close_step sid s site hs hcf (fun x hx => upd_other _ _ _ _ hx) (Or.inl (upd_same _ _ _)) rfl rfl rfl rfl rfl
      (fun k x hx => eraseIdx_spec _ _ _ _ _ _ hx)

/-- the request in flight is the head of the pending ids: it occurs nowhere behind, and has no entry yet -/
theorem Inv.cur_head {g : G} (h : Inv g) {sid : Sid} (hcur : g.cur = some sid) :
    pend g = sid :: (connSids g.batch ++ connSids g.queue) ∧ sid ∈ pend g ∧ sid ∉ connSids g.batch ++ connSids g.queue ∧
    g.table sid = none := by
  have hp : pend g = sid :: (connSids g.batch ++ connSids g.queue) := by simp [pend, hcur]
  have hm : sid ∈ pend g := hp ▸ List.mem_cons_self ..
  exact ⟨hp, hm, (List.nodup_cons.1 (hp ▸ h.pend_nd)).1, h.pend_tbl sid hm⟩

/-- a pending connect request (head of `pend`) fails: its close is delivered, nothing was inserted -/
theorem inv_failConnect (site : Site) {g : G} (h : Inv g) : Inv (failConnect site g) := by
  rcases failConnect_cases site g with ⟨_, e⟩ | ⟨sid, hcur, e⟩ <;> rw [e]
  · exact inv_stale h
  · obtain ⟨hp, hm, hnp, hn⟩ := h.cur_head hcur
    exact h.step (sid := sid) (o := some (.close sid site))
      { table := fun _ _ => .inl rfl, ev_ok := fun _ => ⟨hnp, h.pend_cl sid hm, h.pend_lt sid hm⟩
        pends := .inr (.inl hp), pend_sid := fun hm => absurd hm hnp, sid_entry := fun s hs => nomatch hn.symm.trans hs
        sid_dom := fun _ => .inr mem_closesOf_snoc, sid_keep := fun _ => .inr (.inr mem_closesOf_snoc)
        gauge := rfl
        idx := fun k x hx => h.idx_other (fun _ _ => rfl) hx (h.idx_ne hn hx) }

/-- the pending connect request at the head of `pend` succeeds: a client session enters the table, not yet announced -/
theorem inv_insertCur (t : Bool) (k : Option Key) (o : Lid) {g : G} (h : Inv g) : Inv (insertCur t k o g) := by
  rcases insertCur_cases t k o g with ⟨_, e⟩ | ⟨sid, hcur, e⟩ <;> rw [e]
  · exact inv_stale h
  · obtain ⟨hp, hm, hnp, hn⟩ := h.cur_head hcur
    exact h.step (sid := sid) (o := none)
      { table := fun x hx => .inl (upd_other _ _ _ _ hx)
        pends := .inr (.inl hp), pend_sid := fun hm => absurd hm hnp
        sid_entry := fun s hs => by
          cases (upd_same _ _ _).symm.trans hs
          exact ⟨h.pend_lt sid hm, ⟨(nomatch ·), fun hc => absurd hc (h.pend_cl sid hm)⟩,
            ⟨fun ha => by simp [Sess.announced] at ha, fun ha => absurd ha (h.pend_ann sid hm)⟩,
            ⟨(nomatch ·), fun ha => absurd (mem_annOf_of_mem ha) (h.pend_ann sid hm)⟩⟩
        sid_dom := fun _ => .inl ⟨_, upd_same _ _ _⟩, sid_keep := fun _ => .inr (.inl ⟨_, upd_same _ _ _⟩)
        gauge := by simp [live, hn, upd]
        idx := fun k' x hx => h.idx_other (fun x hx => upd_other _ _ _ _ hx) hx (h.idx_ne hn hx) }

theorem inv_acceptFresh (t : Tls) (k : Option Key) (o : Lid) {g : G} (h : Inv g) : Inv (acceptFresh t k o g).1 := by
  have hnp : g.nextId ∉ pend g := fun hm => Nat.lt_irrefl _ (h.pend_lt _ hm)
  have hncl : g.nextId ∉ closesOf g.tr := fun hm => Nat.lt_irrefl _ (h.cl_lt _ hm)
  have hnan : g.nextId ∉ annOf g.tr := fun hm => Nat.lt_irrefl _ (h.ann_lt _ hm)
  have hin : g.nextId ∈ annOf (g.tr ++ [.announce g.nextId .accept]) := by simp [annSid]
  have hcl' : closesOf (g.tr ++ [.announce g.nextId .accept]) = closesOf g.tr := by simp [closeSid]
  dsimp only [acceptFresh]
  refine h.step (sid := g.nextId) (o := some (.announce g.nextId .accept))
    { table := fun x hx => .inl (upd_other _ _ _ _ hx)
      ev_ok := fun _ => ⟨hnp, hncl, Nat.lt_succ_self _⟩
      alloc := fun e a he ha => by cases he; cases ha; exact ⟨rfl, Nat.lt_succ_self _⟩
      pend_sid := fun hm => absurd hm hnp
      once := fun hx => ⟨hx, fun e he => by cases he; exact fun hm => hnan (mem_annOf_of_mem hm)⟩
      sid_entry := fun s hs => by
        cases (upd_same _ _ _).symm.trans hs
        refine ⟨Nat.lt_succ_self _, ⟨(nomatch ·), fun hc => absurd (hcl' ▸ hc) hncl⟩, ⟨fun _ => hin, fun _ => by simp [Sess.announced]⟩, ⟨(nomatch ·), fun hm => ?_⟩⟩
        rcases List.mem_append.1 hm with hm | hm
        · exact absurd (mem_annOf_of_mem hm) hnan
        · exact nomatch List.mem_singleton.1 hm
      sid_dom := fun _ => .inl ⟨_, upd_same _ _ _⟩, sid_keep := fun _ => .inr (.inl ⟨_, upd_same _ _ _⟩)
      gauge := by simp [live, emit, upd, h.fresh_tbl]
      idx := fun k' x hx => ?_ }
  have old : g.index k' = some x → ∃ s, upd g.table g.nextId (some { tls := t, pkey := k, owner := o }) x = some s ∧
      s.closed = false ∧ s.announced = true ∧ s.pkey = some k' :=
    fun hx => h.idx_other (g' := { g with table := upd g.table g.nextId (some { tls := t, pkey := k, owner := o }) })
      (fun x hx => upd_other _ _ _ _ hx) hx (h.idx_ne h.fresh_tbl hx)
  cases k with
  | none => exact old hx
  | some k0 =>
    by_cases ek : k' = k0
    · subst ek; cases (upd_same _ _ _).symm.trans hx
      exact ⟨_, upd_same _ _ _, rfl, by simp [Sess.announced], rfl⟩
    · exact old ((upd_other _ _ _ _ ek).symm.trans hx)

theorem inv_burnId {g : G} (h : Inv g) : Inv (burnId g) :=
  h.step_table none rfl (fun _ => .inl rfl) (List.append_nil _).symm (.inr rfl) (.inl rfl) rfl rfl rfl (fun k x hx => h.idx_live k x hx)

/-- the live entry `s` of `sid` is replaced by `s'` with the same closed flag and peer key, announced if `s` was; the trace gains
`o`.  `hent` relates the new entry to the new trace, `honce` / `hdata` the flags to the event. -/
theorem Inv.update_step {g g' : G} (h : Inv g) {sid : Sid} {s s' : Sess} {o : Option Out}
    (hs : g.table sid = some s) (hcf : s.closed = false)
    (ht : ∀ x, x ≠ sid → g'.table x = g.table x) (hts : g'.table sid = some s')
    (hcl : s'.closed = false) (hpk : s'.pkey = s.pkey) (ha : s'.announced = true ∨ s'.announced = s.announced)
    (hn : g'.nextId = g.nextId) (hp : pend g' = pend g) (hc : g'.current = g.current) (hi : g'.index = g.index)
    (htr : g'.tr = g.tr ++ o.toList)
    (hent : sid ∉ closesOf g'.tr → (s'.announced = true ↔ sid ∈ annOf g'.tr) ∧
      (s'.connAnnounced = true ↔ Out.announce sid .connect ∈ g'.tr))
    (honce : g'.dupAnn = false → g.dupAnn = false ∧ ∀ e, o = some e → okOnce g.tr e)
    (hdata : g'.envBad = false → g.envBad = false ∧ ∀ e, o = some e → okData g.tr e)
    (hev : ∀ e x, o = some e → evSid e = some x → x = sid := by intro e x he hx; cases he <;> cases hx <;> rfl)
    (halloc : ∀ e, o = some e → allocSid e = none ∧ closeSid e = none := by intro e he; cases he <;> exact ⟨rfl, rfl⟩) : Inv g' := by
  have hncl : sid ∉ closesOf g.tr := fun hm => by have := (h.tbl_cl sid s hs).2 hm; simp [hcf] at this
  have hnp : sid ∉ pend g' := fun hm => by have := h.pend_tbl sid (hp ▸ hm); simp [hs] at this
  have hlt : sid < g'.nextId := hn ▸ h.tbl_lt sid s hs
  have hncl' : sid ∉ closesOf g'.tr := by
    rw [htr, closesOf, List.filterMap_append, List.mem_append]
    refine not_or.2 ⟨hncl, fun hm => ?_⟩
    cases o with
    | none => cases hm
    | some e => simp [(halloc e rfl).2] at hm
  exact h.step (sid := sid) (o := o)
    { table := fun x hx => .inl (ht x hx), tr := htr, nextId := hn ▸ Nat.le_refl _, ev_sid := hev, ev_ok := fun _ => ⟨hnp, hncl, hlt⟩
      alloc := fun e a he ha => nomatch (halloc e he).1.symm.trans ha
      ret_pend := fun r he => nomatch (halloc _ he).1
      pends := .inl hp, pend_sid := fun hm => absurd hm hnp
      sid_entry := fun s'' hs'' => by
        cases hts.symm.trans hs''
        exact ⟨hlt, ⟨(fun hc' => nomatch hcl.symm.trans hc'), fun hm => absurd hm hncl'⟩, hent hncl'⟩
      sid_dom := fun _ => .inl ⟨s', hts⟩, sid_keep := fun _ => .inr (.inl ⟨s', hts⟩)
      gauge := by simp [live, hts, hs, hcl, hcf, hc]
      once := honce, data := hdata
      idx := fun k x hx => by
        by_cases e : x = sid
        · subst e
          obtain ⟨s0, hs0, _, h2, h3⟩ := h.idx_live k x (hi ▸ hx)
          cases hs.symm.trans hs0
          exact ⟨s', hts, hcl, ha.elim id (·.trans h2), hpk.trans h3⟩
        · exact h.idx_other ht (hi ▸ hx) e }

theorem inv_announceConnect (sid : Sid) (c : Bool) {g : G} (h : Inv g) : Inv (announceConnect sid g c) := by
  rcases announceConnect_cases sid c g with e | ⟨s, hs, hcf, e⟩ <;> rw [e]
  · exact inv_stale h
  · refine h.update_step (o := some (.announce sid .connect)) hs hcf (fun x hx => upd_other _ _ _ _ hx) (upd_same _ _ _) hcf rfl
      (.inl (by simp [Sess.announced])) rfl rfl rfl rfl rfl (fun _ => ⟨by simp [Sess.announced, emit, annSid], by simp [emit]⟩) ?_
      (fun hx => ⟨hx, fun e he => by cases he; trivial⟩)
    intro hx
    obtain ⟨h1, h2⟩ := Bool.or_eq_false_iff.1 hx
    exact ⟨h1, fun e he => by cases he; exact fun hm => by have := (h.ord.cann sid s hs).2 hm; rw [h2] at this; cases this⟩

theorem inv_dataCb (sid : Sid) {g : G} (h : Inv g) : Inv (dataCb sid g) := by
  rcases dataCb_cases sid g with e | ⟨s, hs, hcf, e⟩ <;> rw [e]
  · exact inv_stale h
  · refine h.update_step (o := some (.data sid)) hs hcf (fun _ _ => rfl) hs hcf rfl (.inr rfl) rfl rfl rfl rfl rfl
      (fun _ => ⟨by simpa [emit, annSid] using h.tbl_ann sid s hs, (h.ord.cann sid s hs).trans (by simp [emit])⟩)
      (fun hx => ⟨hx, fun e he => by cases he; trivial⟩) ?_
    intro hx
    obtain ⟨h1, h2⟩ := Bool.or_eq_false_iff.1 hx
    exact ⟨h1, fun e he => by cases he; exact (h.tbl_ann sid s hs).1 (by simpa using h2)⟩

theorem inv_setWq (sid : Sid) (n : Nat) {g : G} (h : Inv g) : Inv (setWq sid n g) := by
  rcases setWq_cases sid n g with e | ⟨s, hs, hcf, e⟩ <;> rw [e]
  · exact inv_stale h
  · exact h.update_step (o := none) hs hcf (fun x hx => upd_other _ _ _ _ hx) (upd_same _ _ _) hcf rfl (.inr rfl) rfl rfl rfl rfl
      (List.append_nil _).symm (fun _ => ⟨h.tbl_ann sid s hs, h.ord.cann sid s hs⟩)
      (fun hx => ⟨hx, fun _ he => nomatch he⟩) (fun hx => ⟨hx, fun _ he => nomatch he⟩)

theorem inv_viaIndex (sid : Sid) (k : Key) {g : G} (h : Inv g) : Inv (viaIndex sid k g) := by
  rcases viaIndex_cases sid k g with e | e | ⟨s, hs, hcf, ha, hk, e⟩ <;> rw [e]
  · exact inv_stale h
  · exact h
  · refine h.step_table none rfl (fun _ => .inl rfl) (List.append_nil _).symm (.inl rfl) (.inl rfl) rfl rfl rfl fun k' x hx => ?_
    by_cases ek : k' = k
    · subst ek; cases (upd_same _ _ _).symm.trans hx; exact ⟨s, hs, hcf, ha, hk⟩
    · exact h.idx_live k' x ((upd_other _ _ _ _ ek).symm.trans hx)

theorem inv_popCmd {g : G} (h : Inv g) (hcur : g.cur = none) : Inv (popCmd g).2 := by
  rcases popCmd_cases g with ⟨_, e⟩ | ⟨c, rest, hb, e⟩ <;> rw [e]
  · exact h
  · exact h.frame rfl rfl (by cases c <;> simp [pend, hcur, hb, connSid]) rfl rfl rfl rfl

instance : Closed0 Inv where
  closeNow := fun sid site _ h => inv_closeNow sid site h
  failConnect := fun site _ h => inv_failConnect site h
  insertCur := fun t k o _ h => inv_insertCur t k o h
  acceptFresh := fun t k o _ h => inv_acceptFresh t k o h
  burnId := fun _ h => inv_burnId h
  announceConnect := fun sid c _ h => inv_announceConnect sid c h
  dataCb := fun sid _ h => inv_dataCb sid h
  setWq := fun sid n _ h => inv_setWq sid n h
  viaIndex := fun sid k _ h => inv_viaIndex sid k h
  stale := fun _ h => inv_stale h
  bp := fun _ _ h => h.frame rfl rfl rfl rfl rfl rfl rfl
  listeners := fun _ _ h => h.frame rfl rfl rfl rfl rfl rfl rfl
  running := fun b _ h => inv_running b h

end Iora.Lifecycle
