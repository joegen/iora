import IoraModel.Model.SyncRecv
/-! What holds of EVERY run of the C03 core model, disciplined or not: `Eff`, the contract between the events of a step and what the step
does to a session, proved once per operation and once per step; the theorems about single steps read it off, and so do the facts about
whole runs (`out` is the bytes of the events; `ovfSeen` means a `BufferOverflow` answer was given; without a GC pass a closed session keeps
its tombstone until it has answered `PeerClosed`). `step_frame` is the same for the global fields of the close handler, which `Eff`, being per
session, does not see. -/
namespace Iora.SyncRecv
open Iora

@[simp] theorem upd_same (f : Nat → Sess) (i : Nat) (x : Sess) : upd f i x i = x := by simp [upd]
theorem upd_other (f : Nat → Sess) {i j : Nat} (x : Sess) (h : j ≠ i) : upd f i x j = f j := by simp [upd, h]

theorem upd_cases {P : Sess → Prop} {f : Nat → Sess} {i j : Nat} {x : Sess} (hi : j = i → P x) (ho : j ≠ i → P (f j)) :
    P (upd f i x j) := by
  unfold upd; split
  · next e => exact hi e
  · next e => exact ho e

theorem run_nil (cfg : Cfg) (s : State) : run cfg s [] = (s, []) := rfl
theorem run_cons (cfg : Cfg) (s : State) (st : Step) (rest : List Step) :
    run cfg s (st :: rest) = ((run cfg (step cfg s st).1 rest).1, (step cfg s st).2 ++ (run cfg (step cfg s st).1 rest).2) := rfl

theorem run_append (cfg : Cfg) : ∀ (a b : List Step) (s : State),
    run cfg s (a ++ b) = ((run cfg (run cfg s a).1 b).1, (run cfg s a).2 ++ (run cfg (run cfg s a).1 b).2) := by
  intro a
  induction a with
  | nil => intro b s; rfl
  | cons st rest ih => intro b s; simp only [List.cons_append, run_cons, ih, List.append_assoc]

/-- the chunk the I/O thread is about to hand to the data callback for session `j` -/
def pendO (s : State) (j : Nat) : Option Bytes :=
  match s.ioPend with
  | some (i, d) => if i = j then some d else none
  | none => none

/-- the session's buffer, an absent one read as the empty buffer a receive would create: the clauses of `Eff`, `TombS` and the invariant
speak of its fields, so that a step that writes one flag leaves every clause about the others literally unchanged -/
def bufOf (x : Sess) : Buf := x.buf.getD {}

theorem bufOf_some {x : Sess} {b : Buf} (h : x.buf = some b) : bufOf x = b := by rw [bufOf, h]; rfl

theorem bufData_eq (x : Sess) : bufData x = (bufOf x).data := by rw [bufData, bufOf]; cases x.buf <;> rfl

theorem closed_bufOf {x : Sess} (h : (bufOf x).closed = true) : ∃ b, x.buf = some b ∧ b.closed = true := by
  rcases x with ⟨_, _ | b⟩
  · cases h
  · exact ⟨b, rfl, h⟩

/-- the tombstone a late receive finds (T7): a closed session that has not answered `PeerClosed` still has its closed buffer -/
def TombS (x : Sess) : Prop := x.dead = true → x.eof = false → (bufOf x).closed = true

/-- What any step does to session `sid`, whatever the state, told by the step's events `evs`. `x`, `x'`: the session before and after;
`po`: the chunk pending for its data callback BEFORE the step; `g`: a GC pass has run by the END of the step (`gcRan`).
* `out` grows by the bytes of the events (T1); `ovfSeen` is raised only together with a `BufferOverflow` answer; while the buffer exists its
  `overflow` flag is not cleared (T5); a closed session that has not answered `PeerClosed` (`eof`) keeps its closed buffer unless a GC pass
  has run (T7).
* `PeerClosed` is answered on a closed, drained, not overflowed buffer, by a receive that entered with no flusher at work (`flushing`; a flush
  that has only been decided, `begin`, holds no bytes) or was parked — from which `peerClosed_drained` gets that no flusher holds bytes
  (nobody is parked during a flush, `InvC.X`); the answer drops the buffer with the mode entry and the parking (T2). A `Timeout` answer
  changes nothing but the parking (W1).
* the data callback is handed the pending chunk or what a flusher holds (T8). -/
structure Eff (g : Bool) (po : Option Bytes) (sid : Nat) (x x' : Sess) (evs : List Ev) : Prop where
  out : x'.out = x.out ++ evBytes sid evs
  ovf : x'.ovfSeen = true → x.ovfSeen = true ∨ Ev.recvRet sid .overflow ∈ evs
  sticky : (bufOf x).overflow = true → x'.buf.isSome = true → (bufOf x').overflow = true
  tomb : g = false → TombS x → TombS x'
  eof : Ev.recvRet sid .peerClosed ∈ evs →
    (flushing x = false ∨ x.parked.isSome = true) ∧ (bufOf x).data = [] ∧ (bufOf x).overflow = false ∧ (bufOf x).closed = true ∧
      x' = { x with buf := none, mode := none, parked := none, eof := true }
  timeout : Ev.recvRet sid .timeout ∈ evs → x' = { x with parked := none }
  cb : ∀ d, Ev.cbData sid d ∈ evs → po = some d ∨ x.flush = some (.holding d)

-- The lemmas about the operations of a session hold for every `g` and `po`: no operation reclaims a buffer (the GC is `closeSess`'s) and
-- none hands over the pending chunk (`ioDeliver` does); only those two branches of `step_eff` look at them.
variable {g : Bool} {po : Option Bytes}

/-- the event is one of session `sid` that a clause of `Eff` reads: a delivery, or an answer other than `Cancelled` and `ShuttingDown`
(those two carry no bytes and say nothing of the buffer) -/
def Ev.of (sid : Nat) : Ev → Prop
  | .recvRet _ .cancelled | .recvRet _ .shuttingDown => False
  | .recvRet j _ | .cbData j _ => j = sid
  | _ => False

theorem evBytes_silent {sid : Nat} : ∀ {evs : List Ev}, (∀ e ∈ evs, ¬e.of sid) → evBytes sid evs = []
  | [], _ => rfl
  | e :: r, h => by
    have ih := evBytes_silent fun e he => h e (.tail _ he)
    cases e with
    | recvRet j q =>
      cases q with
      | ok bs =>
        have hj : ¬j = sid := h _ (.head _)
        rw [evBytes, if_neg hj, ih]; rfl
      | _ => exact ih
    | cbData j d =>
      have hj : ¬j = sid := h _ (.head _)
      rw [evBytes, if_neg hj, ih]; rfl
    | modeRet j o => exact ih
    | closeCb j => exact ih

theorem evBytes_append (sid : Nat) (a b : List Ev) : evBytes sid (a ++ b) = evBytes sid a ++ evBytes sid b := by
  induction a with
  | nil => rfl
  | cons e r ih =>
    cases e with
    | recvRet j q => cases q <;> simp [evBytes, ih]
    | cbData j d => simp [evBytes, ih]
    | modeRet j o => simp [evBytes, ih]
    | closeCb j => simp [evBytes, ih]

theorem mem_evRecv {sid sid' : Nat} {r : Option RecvRes} {q : RecvRes} :
    Ev.recvRet sid q ∈ evRecv sid' r ↔ sid = sid' ∧ r = some q := by
  cases r <;> simp [evRecv, eq_comm]

theorem not_of_evRecv {j sid : Nat} {r : Option RecvRes} (h : j ≠ sid ∨ r = some .cancelled ∨ r = some .shuttingDown) :
    ∀ e ∈ evRecv sid r, ¬e.of j := by
  rcases r with _ | r
  · nofun
  · intro _ k
    cases List.mem_singleton.mp k
    rcases h with h | h | h
    · cases r <;> first | exact id | exact Ne.symm h
    · cases h; exact id
    · cases h; exact id

theorem not_of_evMode {j sid : Nat} {r : Option Bool} : ∀ e ∈ evMode sid r, ¬e.of j := by
  rcases r with _ | r
  · nofun
  · exact fun _ k => by cases List.mem_singleton.mp k; exact id

theorem not_of_evFlush {j sid : Nat} {r : FlushOut} (h : j ≠ sid ∨ ∀ d, r ≠ .cb d) : ∀ e ∈ evFlush sid r, ¬e.of j := by
  cases r
  · nofun
  · exact fun _ k => by cases List.mem_singleton.mp k; exact h.elim Ne.symm fun h => absurd rfl (h _)
  · exact fun _ k => by cases List.mem_singleton.mp k; exact id

/-- the common leaf: none of the step's events is one a clause reads (`Ev.of`), `out` and `ovfSeen` are left alone; what is left to show is
`sticky` and `tomb` (`fun k _ => k` and `id` where the leaf leaves `bufOf x`, `dead` and `eof` as they are) -/
theorem Eff.plain {sid : Nat} {x x' : Sess} {evs : List Ev} (h : ∀ e ∈ evs, ¬e.of sid) (out : x'.out = x.out)
    (ovf : x'.ovfSeen = x.ovfSeen) (sticky : (bufOf x).overflow = true → x'.buf.isSome = true → (bufOf x').overflow = true)
    (tomb : TombS x → TombS x') : Eff g po sid x x' evs where
  out := by rw [evBytes_silent h, List.append_nil, out]
  ovf k := .inl (ovf ▸ k)
  sticky := sticky
  tomb _ := tomb
  eof k := absurd rfl (h _ k)
  timeout k := absurd rfl (h _ k)
  cb _ k := absurd rfl (h _ k)

theorem Eff.silent {sid : Nat} {x : Sess} {evs : List Ev} (h : ∀ e ∈ evs, ¬e.of sid) : Eff g po sid x x evs :=
  .plain h rfl rfl (fun k _ => k) id

theorem wake_eff (sid : Nat) (x : Sess) (r : Bool) : Eff g po sid x (wake x r) [] := by
  rcases x with ⟨_, _, _ | p⟩ <;> exact .plain nofun rfl rfl (fun k _ => k) id

/-- the drain of a receive (`hx`: of one that entered with no flusher at work, or was parked). Stated on `{ x with buf := some (bufOf x) }`:
that is literally the session the entry section drains (it has just put the buffer in place), and for a session that has its buffer it is
the session itself -/
theorem drain_eff (sid : Nat) (x : Sess) (len : Nat) (hx : flushing x = false ∨ x.parked.isSome = true) :
    Eff g po sid x (drain { x with buf := some (bufOf x) } (bufOf x) len).1
      (evRecv sid (some (drain { x with buf := some (bufOf x) } (bufOf x) len).2)) := by
  unfold drain
  split
  · exact { out := by simp [evRecv, evBytes], ovf := .inl, sticky := fun k _ => k, tomb := fun _ k => k, eof := nofun, timeout := nofun,
            cb := nofun }
  · next hd =>
    split
    · exact { out := (List.append_nil _).symm, ovf := fun _ => .inr (.head _), sticky := fun k _ => k, tomb := fun _ k => k, eof := nofun,
              timeout := nofun, cb := nofun }
    · next ho =>
      split
      · next hc =>
        exact { out := (List.append_nil _).symm, ovf := .inl, sticky := (fun _ k => nomatch k), tomb := (fun _ _ _ k => nomatch k),
                eof := fun _ => ⟨hx, Decidable.not_not.mp hd, Bool.eq_false_iff.mpr ho, hc, rfl⟩, timeout := nofun, cb := nofun }
      · exact .plain (not_of_evRecv (.inr (.inr rfl))) rfl rfl (fun k _ => k) id

theorem recvEnterS_eff (sid : Nat) (sh : Bool) (x : Sess) (len : Nat) :
    Eff g po sid x (recvEnterS sh x len).1 (evRecv sid (recvEnterS sh x len).2) := by
  unfold recvEnterS
  split
  · exact .silent (not_of_evRecv (.inr (.inr rfl)))
  · rcases x with ⟨_, _ | b⟩ <;>
    · simp only []
      split
      · exact .plain (not_of_evRecv (.inr (.inl rfl))) rfl rfl (fun k _ => k) id
      · next hc =>
        split
        · exact drain_eff sid _ len (.inl (Bool.or_eq_false_iff.mp (Bool.eq_false_iff.mpr hc)).2)
        · exact .plain nofun rfl rfl (fun k _ => k) id

theorem recvWakeS_eff (sid : Nat) (sh : Bool) (x : Sess) (t : Bool) :
    Eff g po sid x (recvWakeS sh x t).1 (evRecv sid (recvWakeS sh x t).2) := by
  unfold recvWakeS
  split
  · next hp hb =>
    cases x; cases hb; cases hp
    split
    · exact drain_eff sid _ _ (.inr rfl)
    · split
      · exact { out := (List.append_nil _).symm, ovf := .inl, sticky := fun k _ => k, tomb := fun _ k => k, eof := nofun,
                timeout := fun _ => rfl, cb := nofun }
      · exact .plain nofun rfl rfl (fun k _ => k) id
  · exact .silent nofun

/-- the handler emits nothing and writes neither `out` nor `ovfSeen`; its one write to `overflow` sets it -/
theorem ioDataS_eff (sid : Nat) (cfg : Cfg) (sh : Bool) (x : Sess) (chunk : Bytes) : Eff g po sid x (ioDataS cfg sh x chunk).1 [] := by
  rcases x with ⟨_, _ | b, _ | p⟩ <;> simp only [ioDataS] <;> repeat' split
  all_goals exact .plain nofun rfl rfl (by simp [bufOf, wake]) id

theorem ioCloseS_eff (sid : Nat) (cfg : Cfg) (x : Sess) : Eff g po sid x (ioCloseS cfg x) [] := by
  rcases x with ⟨_, _ | b, _ | p⟩ <;> exact .plain nofun rfl rfl (fun k _ => k) fun _ _ _ => rfl

theorem setModeS_eff (sid : Nat) (cfg : Cfg) (x : Sess) (m : Mode) :
    Eff g po sid x (setModeS cfg x m).1 (evMode sid (setModeS cfg x m).2) := by
  unfold setModeS
  split
  · exact .silent not_of_evMode
  · split
    · exact .silent not_of_evMode
    · split
      · exact .plain not_of_evMode rfl rfl (fun k _ => k) id
      · rcases x with ⟨_, _ | b⟩ <;> cases m <;> exact .plain not_of_evMode rfl rfl (fun k _ => k) id

/-- the one leaf that emits `cbData` is the flusher handing over what it holds -/
theorem flushStepS_eff (sid : Nat) (sh : Bool) (x : Sess) :
    Eff g po sid x (flushStepS sh x).1 (evFlush sid (flushStepS sh x).2) := by
  unfold flushStepS
  split
  · exact .silent (not_of_evFlush (.inr nofun))
  · rcases x with ⟨_, _ | b⟩ <;> simp only [] <;> repeat' split
    all_goals exact .plain (not_of_evFlush (.inr nofun)) rfl rfl (fun k _ => k) id
  · rcases x with ⟨_, _ | b⟩ <;> simp only [] <;> repeat' split
    all_goals exact .plain (not_of_evFlush (.inr nofun)) rfl rfl (fun k _ => k) id
  · next d hf =>
    cases x; cases hf
    exact { out := by simp [evFlush, evBytes], ovf := .inl, sticky := fun k _ => k, tomb := fun _ k => k, eof := nofun, timeout := nofun,
            cb := fun _ k => by cases List.mem_singleton.mp k; exact .inr rfl }
  · exact .plain (not_of_evFlush (.inr nofun)) rfl rfl (fun k _ => k) id

theorem Eff.upd {s : State} {j : Nat} {x' : Sess} {evs : List Ev} (hj : Eff g (pendO s j) j (s.sess j) x' evs)
    (ho : ∀ i, i ≠ j → ∀ e ∈ evs, ¬e.of i) (sid : Nat) : Eff g (pendO s sid) sid (s.sess sid) (upd s.sess j x' sid) evs :=
  upd_cases (P := fun y => Eff g (pendO s sid) sid (s.sess sid) y evs) (fun e => e ▸ hj) fun e => .silent (ho sid e)

theorem step_eff (cfg : Cfg) (s : State) (st : Step) (sid : Nat) :
    Eff (step cfg s st).1.gcRan (pendO s sid) sid (s.sess sid) ((step cfg s st).1.sess sid) (step cfg s st).2 := by
  cases st with
  | ioData j chunk =>
    simp only [step]
    split
    · exact .silent nofun
    · exact .upd (ioDataS_eff ..) (fun _ _ => nofun) sid
  | ioDeliver =>
    simp only [step]
    split
    · next j d hp =>
      have hj : Eff s.gcRan (pendO s j) j (s.sess j) { s.sess j with out := (s.sess j).out ++ d } [.cbData j d] :=
        { out := by simp [evBytes], ovf := .inl, sticky := fun k _ => k, tomb := fun _ k => k, eof := nofun, timeout := nofun,
          cb := fun _ k => by cases List.mem_singleton.mp k; exact .inl (by simp [pendO, hp]) }
      exact .upd hj (fun _ e _ k => by cases List.mem_singleton.mp k; exact Ne.symm e) sid
    · exact .silent nofun
  | ioClose j =>
    simp only [step]
    split
    · exact .silent nofun
    · -- `closeSess` unfolds definitionally: its sessions are an `if` on `sid = j`, its flag is the `gc` of `hgc` below
      show Eff _ _ sid _ (if sid = j then _ else _) []
      split
      · next e => subst e; exact ioCloseS_eff ..
      · split
        · -- the one place a buffer is dropped silently: a GC pass, which `gcRan` records
          next hgc =>
          exact { out := (List.append_nil _).symm, ovf := .inl, sticky := (fun _ k => nomatch k), eof := nofun, timeout := nofun, cb := nofun,
                  tomb := fun hg => nomatch (Bool.and_eq_true_iff.mp hgc).1.symm.trans (Bool.or_eq_false_iff.mp hg).2 }
        · exact .silent nofun
  | ioCloseCb j =>
    simp only [step]
    split
    · exact .silent fun _ k => by cases List.mem_singleton.mp k; exact id
    · exact .silent nofun
  | recvEnter j len => exact .upd (recvEnterS_eff ..) (fun _ e => not_of_evRecv (.inl e)) sid
  | recvWake j t => exact .upd (recvWakeS_eff ..) (fun _ e => not_of_evRecv (.inl e)) sid
  | setMode j m => exact .upd (setModeS_eff ..) (fun _ _ => not_of_evMode) sid
  | flushStep j => exact .upd (flushStepS_eff ..) (fun _ e => not_of_evFlush (.inl e)) sid
  | fence n => exact wake_eff ..

/-- `Eff` is per session; this is the frame for what belongs to the close handler: its two steps apart, no step writes `gcRan`, `closePend` or
`closeGrace`, and none invokes a close callback -/
theorem step_frame (cfg : Cfg) (s : State) (st : Step) :
    (∃ j, st = .ioClose j) ∨ (∃ j, st = .ioCloseCb j) ∨
      ((step cfg s st).1.gcRan = s.gcRan ∧ (step cfg s st).1.closePend = s.closePend ∧ (step cfg s st).1.closeGrace = s.closeGrace ∧
        ∀ j, Ev.closeCb j ∉ (step cfg s st).2) := by
  cases st with
  | ioClose j => exact .inl ⟨j, rfl⟩
  | ioCloseCb j => exact .inr (.inl ⟨j, rfl⟩)
  | ioData j c => simp only [step]; split <;> exact .inr (.inr ⟨rfl, rfl, rfl, nofun⟩)
  | ioDeliver => simp only [step]; split <;> exact .inr (.inr ⟨rfl, rfl, rfl, by simp⟩)
  | recvEnter j len =>
    refine .inr (.inr ⟨rfl, rfl, rfl, fun _ => ?_⟩)
    simp only [step]; cases (recvEnterS s.shuttingDown (s.sess j) len).2 <;> nofun
  | recvWake j t =>
    refine .inr (.inr ⟨rfl, rfl, rfl, fun _ => ?_⟩)
    simp only [step]; cases (recvWakeS s.shuttingDown (s.sess j) t).2 <;> nofun
  | setMode j m =>
    refine .inr (.inr ⟨rfl, rfl, rfl, fun _ => ?_⟩)
    simp only [step]; cases (setModeS cfg (s.sess j) m).2 <;> nofun
  | flushStep j =>
    refine .inr (.inr ⟨rfl, rfl, rfl, fun _ => ?_⟩)
    simp only [step]; cases (flushStepS s.shuttingDown (s.sess j)).2 <;> nofun
  | fence n => exact .inr (.inr ⟨rfl, rfl, rfl, nofun⟩)

theorem run_out_is_events (cfg : Cfg) (sid : Nat) : ∀ (steps : List Step) (s : State),
    ((run cfg s steps).1.sess sid).out = (s.sess sid).out ++ evBytes sid (run cfg s steps).2 := by
  intro steps
  induction steps with
  | nil => intro s; simp [run_nil, evBytes]
  | cons st rest ih =>
    intro s
    rw [run_cons]
    simp only [ih, (step_eff cfg s st sid).out, evBytes_append, List.append_assoc]

theorem run_ovfSeen (cfg : Cfg) (sid : Nat) : ∀ (steps : List Step) (s : State),
    ((run cfg s steps).1.sess sid).ovfSeen = true → (s.sess sid).ovfSeen = true ∨ Ev.recvRet sid .overflow ∈ (run cfg s steps).2 := by
  intro steps
  induction steps with
  | nil => intro s h; exact Or.inl (by simpa [run_nil] using h)
  | cons st rest ih =>
    intro s h
    rw [run_cons] at h ⊢
    rcases ih _ h with h1 | h1
    · rcases (step_eff cfg s st sid).ovf h1 with h2 | h2
      · exact Or.inl h2
      · exact Or.inr (List.mem_append_left _ h2)
    · exact Or.inr (List.mem_append_right _ h1)

/-! ## tombstones (T7) -/

def Tomb (s : State) : Prop := s.gcRan = false → ∀ j, TombS (s.sess j)

theorem Tomb_init : Tomb init := fun _ _ k => nomatch k

theorem step_gcRan {cfg : Cfg} {s : State} {st : Step} (h : (step cfg s st).1.gcRan = false) : s.gcRan = false := by
  rcases step_frame cfg s st with ⟨j, rfl⟩ | ⟨j, rfl⟩ | e
  · simp only [step] at h
    split at h
    · exact h
    · exact (Bool.or_eq_false_iff.mp h).1
  · simp only [step] at h; split at h <;> exact h
  · exact e.1 ▸ h

/-- `Eff.tomb` speaks of `gcRan` after the step, `Tomb s` of `gcRan` before it: `gcRan` is never cleared (`step_gcRan`) -/
theorem step_tomb {cfg : Cfg} {s : State} (h : Tomb s) (st : Step) : Tomb (step cfg s st).1 :=
  fun hg j => (step_eff cfg s st j).tomb hg (h (step_gcRan hg) j)

theorem run_tomb {cfg : Cfg} : ∀ (steps : List Step) (s : State), Tomb s → Tomb (run cfg s steps).1 := by
  intro steps
  induction steps with
  | nil => intro s h; simpa [run_nil] using h
  | cons st rest ih => intro s h; rw [run_cons]; exact ih _ (step_tomb h st)

end Iora.SyncRecv
