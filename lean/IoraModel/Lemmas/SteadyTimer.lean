import IoraModel.Model.SteadyTimer
import IoraModel.Lemmas.TimerService
/-! Lemmas for `Model/SteadyTimer.lean`: after `cancel() = true` the user's handler of that arm never starts.

Every step of the layer moves the service part by first-layer steps (`svc_inv`) and extends the arm table (`Ext`: keys are kept, new
keys are fresh ids, the state `Canceled` is absorbing, new tokens are keys); the invariants are read off from these two facts. -/
namespace Iora.Steady
open Iora.Tsvc

theorem cancel_s (l : Lay) (i : Nat) (b : Bool) :
    (cancelWith b l i).1.s = (match getTok l i with | some tok => (Tsvc.cancel l.s tok).1 | none => l.s) := by
  cases hq : getTok l i <;> simp [cancelWith, hq]

theorem svc_inv {L : Limits} (P : Svc → Prop) (hP : ∀ s op, P s → P (Tsvc.step L s op).1) (l : Lay) (op : Op) (h : P l.s) :
    P (step L l op).1.s := by
  have hc : ∀ b i, P (cancelWith b l i).1.s := by
    intro b i
    rw [cancel_s]
    split
    · rename_i tok _; exact hP l.s (.cancel tok) h
    · exact h
  cases op with
  | svc sop =>
    simp only [step]
    cases startedId (Tsvc.step L l.s sop).2 <;> exact hP l.s sop h
  | sat i now tp =>
    simp only [step, asyncWait, armAfter]
    split <;> exact hP _ (.schedAt now tp) (hc _ i)
  | scancel i => exact hc _ i

theorem armState_cons_ne (arms : List (Nat × Sh)) (k tok : Nat) (v : Sh) (h : k ≠ tok) :
    armState ((k, v) :: arms) tok = armState arms tok := by
  have : (k == tok) = false := by simpa using h
  simp [armState, List.find?, this]

theorem armState_setArm (arms : List (Nat × Sh)) (k tok : Nat) (v : Sh) :
    armState (setArm arms k v) tok = (armState arms tok).map (fun x => if tok = k then v else x) := by
  have hf : ((fun a : Nat × Sh => a.1 == tok) ∘ fun a => if a.1 == k then (a.1, v) else a) = fun a => a.1 == tok := by
    funext a; simp only [Function.comp]; split <;> rfl
  unfold armState setArm
  rw [List.find?_map, hf]
  cases hfind : arms.find? (fun a => a.1 == tok) with
  | none => rfl
  | some a =>
    have ha : a.1 = tok := by simpa using List.find?_some hfind
    simp only [Option.map_some, ha]
    by_cases h : tok = k <;> simp [h]

theorem armState_of_key (arms : List (Nat × Sh)) (tok : Nat) (h : tok ∈ arms.map (·.1)) : ∃ x, armState arms tok = some x := by
  obtain ⟨a, ha, hk⟩ := List.mem_map.mp h
  have : (arms.find? (fun a => a.1 == tok)).isSome := List.find?_isSome.mpr ⟨a, ha, by simpa using hk⟩
  obtain ⟨b, hb⟩ := Option.isSome_iff_exists.mp this
  exact ⟨b.2, by simp [armState, hb]⟩

theorem keys_setArm (arms : List (Nat × Sh)) (k : Nat) (v : Sh) : (setArm arms k v).map (·.1) = arms.map (·.1) := by
  unfold setArm
  rw [List.map_map]
  apply List.map_congr_left
  intro a _
  simp only [Function.comp]
  split <;> rfl

theorem setArm_gone {arms : List (Nat × Sh)} {k t : Nat} (v : Sh) (hk : armState arms k = some .armed)
    (ht : armState arms t = some .cancelled) : armState (setArm arms k v) t = some .cancelled := by
  rw [armState_setArm, ht, Option.map_some, if_neg]
  intro he
  rw [he, hk] at ht; cases ht

/-- `l'` extends `l`: ids only grow, arm keys are kept and new keys are new ids, a `Canceled` arm stays `Canceled`, and every token
that is not an old one is an arm key -/
structure Ext (l l' : Lay) : Prop where
  nid : l.s.nextId ≤ l'.s.nextId
  mono : ∀ k ∈ l.arms.map (·.1), k ∈ l'.arms.map (·.1)
  keys : ∀ k ∈ l'.arms.map (·.1), k ∈ l.arms.map (·.1) ∨ (l.s.nextId < k ∧ k ≤ l'.s.nextId)
  /-- for ids handed out already: the key of a new arm is a new id, so it hides no old arm -/
  gone : ∀ tok, tok ≤ l.s.nextId → armState l.arms tok = some .cancelled → armState l'.arms tok = some .cancelled
  toks : ∀ j tok, getTok l' j = some tok → getTok l j = some tok ∨ tok ∈ l'.arms.map (·.1)

theorem Ext.trans {a b c : Lay} (h1 : Ext a b) (h2 : Ext b c) : Ext a c := by
  refine ⟨Nat.le_trans h1.nid h2.nid, fun k hk => h2.mono k (h1.mono k hk), ?_,
    fun tok hle hg => h2.gone tok (Nat.le_trans hle h1.nid) (h1.gone tok hle hg), ?_⟩
  · intro k hk
    rcases h2.keys k hk with h | ⟨h, h'⟩
    · rcases h1.keys k h with h | ⟨h, h'⟩
      · exact Or.inl h
      · exact Or.inr ⟨h, Nat.le_trans h' h2.nid⟩
    · exact Or.inr ⟨Nat.lt_of_le_of_lt h1.nid h, h'⟩
  · intro j tok hj
    rcases h2.toks j tok hj with h | h
    · rcases h1.toks j tok h with h | h
      · exact Or.inl h
      · exact Or.inr (h2.mono tok h)
    · exact Or.inr h

/-- the state a step leaves: the tokens are the old ones but for slot `i`, whose new token (if any) is an arm key -/
theorem Ext.ofSlot {l : Lay} {s' : Svc} {A : List (Nat × Sh)} {i : Nat} {t : Option Nat} (nid : l.s.nextId ≤ s'.nextId)
    (mono : ∀ k ∈ l.arms.map (·.1), k ∈ A.map (·.1))
    (keys : ∀ k ∈ A.map (·.1), k ∈ l.arms.map (·.1) ∨ (l.s.nextId < k ∧ k ≤ s'.nextId))
    (gone : ∀ tok, tok ≤ l.s.nextId → armState l.arms tok = some .cancelled → armState A tok = some .cancelled)
    (ht : ∀ tok, t = some tok → tok ∈ A.map (·.1)) : Ext l { s := s', arms := A, tokens := setTok l.tokens i t } := by
  refine ⟨nid, mono, keys, gone, ?_⟩
  intro j tok hj
  unfold getTok setTok at hj
  simp only at hj
  split at hj
  · exact Or.inr (ht tok hj)
  · exact Or.inl hj

theorem Ext.ofSvc {l : Lay} {s' : Svc} (nid : l.s.nextId ≤ s'.nextId) : Ext l { l with s := s' } :=
  ⟨nid, fun _ h => h, fun _ h => Or.inl h, fun _ _ h => h, fun _ _ h => Or.inl h⟩

theorem wrapperStart_arms (arms : List (Nat × Sh)) (tok : Nat) :
    (wrapperStart arms tok).1 = arms ∨ armState arms tok = some .armed ∧ (wrapperStart arms tok).1 = setArm arms tok .started := by
  unfold wrapperStart
  split
  · rename_i h; exact Or.inr ⟨h, rfl⟩
  · exact Or.inl rfl
  · exact Or.inl rfl

theorem ext_cancel (l : Lay) (i : Nat) (b : Bool) : Ext l (cancelWith b l i).1 := by
  cases hq : getTok l i with
  | none =>
    simp only [cancelWith, hq]
    exact Ext.ofSvc (Nat.le_refl _)
  | some tok =>
    simp only [cancelWith, hq]
    have hn : (Tsvc.cancel l.s tok).1.nextId = l.s.nextId := by
      simp only [Tsvc.cancel, Tsvc.cancelWith]
      split <;> rfl
    split
    · rename_i ha
      refine Ext.ofSlot (Nat.le_of_eq hn.symm) ?_ ?_ (fun t _ ht => setArm_gone _ (by simpa using ha) ht) nofun <;>
        rw [keys_setArm] <;> intro k hk
      · exact hk
      · exact Or.inl hk
    · exact Ext.ofSlot (Nat.le_of_eq hn.symm) (fun _ h => h) (fun _ h => Or.inl h) (fun _ _ h => h) nofun

theorem ext_armAfter (L : Limits) (l : Lay) (i : Nat) (now tp : Int) : Ext l (armAfter L l i now tp).1 := by
  have hm := (step_eff L l.s (.schedAt now tp)).nextId_le
  unfold armAfter
  split
  · exact Ext.ofSlot hm (fun _ h => h) (fun _ h => Or.inl h) (fun _ _ h => h) nofun
  · rename_i h0
    obtain ⟨h1, h2⟩ := scheduleAt_id L l.s now tp h0
    refine Ext.ofSlot hm (fun k hk => List.mem_cons_of_mem _ hk) ?_ ?_ (fun tok ht => Option.some.inj ht ▸ List.mem_cons_self)
    · intro k hk
      rcases List.mem_cons.mp hk with hk | hk
      · exact Or.inr (by rw [hk, h2, h1]; exact ⟨Nat.lt_succ_self _, Nat.le_refl _⟩)
      · exact Or.inl hk
    · intro tok hle hg
      rw [armState_cons_ne _ _ _ _ (by rw [h1]; exact Nat.ne_of_gt (Nat.lt_succ_of_le hle))]
      exact hg

theorem step_ext (L : Limits) (l : Lay) (op : Op) : Ext l (step L l op).1 := by
  cases op with
  | svc sop =>
    have hm := (step_eff L l.s sop).nextId_le
    simp only [step]
    cases startedId (Tsvc.step L l.s sop).2 with
    | none => exact Ext.ofSvc hm
    | some id =>
      simp only
      rcases wrapperStart_arms l.arms id with h | ⟨ha, h⟩ <;> rw [h]
      · exact Ext.ofSvc hm
      · exact ⟨hm, fun k hk => by rw [keys_setArm]; exact hk, fun k hk => by rw [keys_setArm] at hk; exact Or.inl hk,
          fun t _ ht => setArm_gone _ ha ht, fun _ _ h => Or.inl h⟩
  | sat i now tp => exact (ext_cancel l i _).trans (ext_armAfter L _ i now tp)
  | scancel i => exact ext_cancel l i _

/-- what holds of every reachable layer (ST1 and ST2 read it): the service part satisfies the first layer's invariant with some history -/
structure Reach (l : Lay) : Prop where
  inv : ∃ h, Inv l.s h
  /-- keys of the arm table are bounded by `_nextId`: a new id is fresh -/
  kb : ∀ k ∈ l.arms.map (·.1), k ≤ l.s.nextId
  /-- every token is the key of an arm -/
  tk : ∀ i tok, getTok l i = some tok → tok ∈ l.arms.map (·.1)

theorem reach_step (L : Limits) (l : Lay) (op : Op) (r : Reach l) : Reach (step L l op).1 := by
  have e := step_ext L l op
  refine ⟨svc_inv (fun s => ∃ h, Inv s h) (fun s sop ⟨h, i⟩ => ⟨_, (step_eff L s sop).inv i⟩) l op r.inv, ?_, ?_⟩
  · intro k hk
    rcases e.keys k hk with h | h
    · exact Nat.le_trans (r.kb k h) e.nid
    · exact h.2
  · intro j tok hj
    rcases e.toks j tok hj with h | h
    · exact e.mono tok (r.tk j tok h)
    · exact h

theorem reach_runFrom (L : Limits) : ∀ (ops : List Op) (l : Lay), Reach l → Reach (runFrom L l ops)
  | [], _, r => r
  | op :: ops, l, r => reach_runFrom L ops _ (reach_step L l op r)

theorem reach_run (L : Limits) (ops : List Op) : Reach (run L ops) := reach_runFrom L ops _ ⟨⟨[], Inv.init⟩, nofun, nofun⟩

theorem userStartedOf_svc (op : Op) (o : Tsvc.Out) : userStartedOf (op, Out.svc o) = [] := rfl
theorem userStartedOf_id (op : Op) (n : Nat) : userStartedOf (op, Out.id n) = [] := rfl
theorem userStartedOf_bool (op : Op) (b : Bool) : userStartedOf (op, Out.bool b) = [] := rfl

theorem user_start {L : Limits} {l : Lay} {op : Op} {tok : Nat} (h : tok ∈ userStartedOf (op, (step L l op).2)) :
    armState l.arms tok ≠ some .cancelled ∧
      ∃ sop hd, op = .svc sop ∧ hd ∈ startedOf (sop, (Tsvc.step L l.s sop).2) ∧ hd.id = tok := by
  cases op with
  | svc sop =>
    simp only [step] at h
    cases ho : (Tsvc.step L l.s sop).2 with
    | start o =>
      cases o with
      | started hd =>
        simp only [ho, startedId] at h
        cases hb : (wrapperStart l.arms hd.id).2
        · rw [hb] at h; cases h
        · rw [hb] at h
          cases List.mem_singleton.mp h
          refine ⟨fun hc => ?_, sop, hd, rfl, by rw [ho]; exact List.mem_singleton.mpr rfl, rfl⟩
          simp only [wrapperStart, hc] at hb
          cases hb
      | _ => simp only [ho, startedId] at h; cases h
    | _ => simp only [ho, startedId] at h; cases h
  | sat i now tp => cases h
  | scancel i => cases h

/-- the arm can never start: its shared state is `Canceled` (absorbing), or the service-level cancel succeeded -/
def Never (tok : Nat) (l : Lay) : Prop :=
  tok ≤ l.s.nextId ∧ (armState l.arms tok = some .cancelled ∨ Dead tok l.s)

theorem never_step (L : Limits) (tok : Nat) (l : Lay) (op : Op) (n : Never tok l) :
    Never tok (step L l op).1 ∧ tok ∉ userStartedOf (op, (step L l op).2) := by
  obtain ⟨hle, hn⟩ := n
  have e := step_ext L l op
  refine ⟨⟨Nat.le_trans hle e.nid, ?_⟩, fun hu => ?_⟩
  · rcases hn with hg | hd
    · exact Or.inl (e.gone tok hle hg)
    · exact Or.inr (svc_inv (fun s => Dead tok s ∧ tok ≤ s.nextId) (fun s sop h => (step_eff L s sop).dead h.1 h.2) l op ⟨hd, hle⟩).1
  · obtain ⟨hnc, sop, hd, rfl, hst, hid⟩ := user_start hu
    rcases hn with hg | hdead
    · exact hnc hg
    · exact hdead.shut hd ((step_eff L l.s sop).starts hd hst).1 ((step_eff L l.s sop).starts hd hst).2 hid

theorem cancel_never {l : Lay} (r : Reach l) {i tok : Nat} (ht : getTok l i = some tok) (h : (cancelWith true l i).2 = true) :
    Never tok (cancelWith true l i).1 := by
  refine ⟨Nat.le_trans (r.kb tok (r.tk i tok ht)) (ext_cancel _ i _).nid, ?_⟩
  by_cases hsup : armState l.arms tok = some .armed
  · -- the CAS `Armed → Canceled` succeeds
    left
    simp only [cancelWith, ht, hsup, beq_self_eq_true, if_true]
    rw [armState_setArm, hsup, Option.map_some, if_pos rfl]
  · -- then the answer `true` is the service's
    right
    have hok : (Tsvc.cancel l.s tok).2 = true := by
      simp only [cancelWith, ht, if_true, Bool.or_eq_true, beq_iff_eq] at h
      exact h.resolve_right hsup
    obtain ⟨h, i⟩ := r.inv
    rw [cancel_s, ht]
    exact (cancel_true_dead _ _ tok i.wf i.hi hok).1

theorem cancel_false_not_armed {l : Lay} (r : Reach l) {i : Nat} (h : (cancelWith true l i).2 = false) :
    getTok l i = none ∨
    ∃ tok, getTok l i = some tok ∧ (Tsvc.cancel l.s tok).2 = false ∧
      (armState l.arms tok = some .started ∨ armState l.arms tok = some .cancelled) := by
  cases ht : getTok l i with
  | none => exact Or.inl rfl
  | some tok =>
    right
    simp only [cancelWith, ht, if_true, Bool.or_eq_false_iff, beq_eq_false_iff_ne, ne_eq] at h
    obtain ⟨x, hx⟩ := armState_of_key _ tok (r.tk i tok ht)
    refine ⟨tok, rfl, h.1, ?_⟩
    rw [hx] at h ⊢
    cases x with
    | armed => exact absurd rfl h.2
    | started => exact Or.inl rfl
    | cancelled => exact Or.inr rfl

theorem never_trace (L : Limits) (tok : Nat) : ∀ (ops : List Op) (l : Lay), Never tok l → tok ∉ userStarted (trace L l ops)
  | [], _, _ => by simp [trace, userStarted]
  | op :: ops, l, n => by
    simp only [trace, userStarted, List.flatMap_cons, List.mem_append, not_or]
    exact ⟨(never_step L tok l op n).2, never_trace L tok ops _ (never_step L tok l op n).1⟩

end Iora.Steady
