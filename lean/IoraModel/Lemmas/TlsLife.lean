import IoraModel.Model.TlsLife
import IoraModel.Lemmas.TlsPlan
/-! C07, what happens over time (`Props/C07.lean` T7, T8, T10, T11): the call histories of `HttpServer` (`hsStep`) and `HttpClient`
(`hStep`), and the session machine, send side (`sessStep`) and receive side (`recvStep`) — a TLS session emits nothing but its close
until the handshake is done, and never anything raw.  The plan of `HttpServer` (`httpServerPlan_some`) stands here because its
precondition `enableTlsInvalid` belongs to the call history. -/
namespace Iora.Tls
open Iora.Gen.TlsCalls

/-! ### `HttpServer`: `enableTls` / `start` / `stop` -/

/-- the generated `httpServerMap` and the two `enableTls` preconditions, evaluated -/
theorem httpServerPlan_some (h : HttpSrvTls) (tf : TFiles) :
    httpServerPlan (some h) tf =
      if enableTlsInvalid h then .refuse .enableTls
      else listenPlan { server := { enabled := true, defaultMode := .server, verifyPeer := h.requireClientCert, caFileSet := h.caFileSet,
                                    certFileSet := h.certFileSet, keyFileSet := h.keyFileSet } } tf .server := by
  cases h1 : enableTlsRequiresCertAndKey && !(h.certFileSet && h.keyFileSet) <;>
    cases h2 : enableTlsRequiresCaForClientCert && h.requireClientCert && !h.caFileSet <;>
    simp only [httpServerPlan, enableTlsInvalid, h1, h2] <;> rfl

theorem hsStep_enableTls (s : HSState) (c : HttpSrvTls) :
    hsStep s (.enableTls c) = (s, true) ∨
      s.running = none ∧ enableTlsInvalid c = false ∧ hsStep s (.enableTls c) = ({ s with stored := some c }, false) := by
  cases hr : s.running <;> cases hv : enableTlsInvalid c <;> simp [hsStep, enableTlsRejectsWhenStarted, hr, hv]

/-- the settings a started server runs with are the settings `enableTls` accepted last -/
def HSState.Coherent (s : HSState) : Prop := s.running = none ∨ s.running = some s.stored

theorem hsStep_coherent (s : HSState) (o : HSOp) (h : s.Coherent) : (hsStep s o).1.Coherent := by
  cases o with
  | start => exact .inr rfl
  | stop => exact .inl rfl
  | enableTls c =>
    rcases hsStep_enableTls s c with he | ⟨hr, _, he⟩ <;> rw [he]
    · exact h
    · exact .inl hr

theorem hsRun_coherent (s : HSState) (ops : List HSOp) (h : s.Coherent) : (hsRun s ops).Coherent := by
  induction ops generalizing s with
  | nil => exact h
  | cons o os ih => exact ih _ (hsStep_coherent s o h)

/-- only an accepted `enableTls` writes `_tlsConfig`; what it writes satisfies its preconditions -/
def HSState.Valid (s : HSState) : Prop := ∀ c, s.stored = some c → enableTlsInvalid c = false

theorem hsStep_valid (s : HSState) (o : HSOp) (h : s.Valid) : (hsStep s o).1.Valid := by
  cases o with
  | start => exact h
  | stop => exact h
  | enableTls c =>
    rcases hsStep_enableTls s c with he | ⟨_, hv, he⟩ <;> rw [he]
    · exact h
    · intro c' hc'
      cases hc'
      exact hv

theorem hsRun_valid (s : HSState) (ops : List HSOp) (h : s.Valid) : (hsRun s ops).Valid := by
  induction ops generalizing s with
  | nil => exact h
  | cons o os ih => exact ih _ (hsStep_valid s o h)

theorem hsStep_keeps (s : HSState) (o : HSOp) (c : HttpSrvTls) (h : s.stored = some c) : (hsStep s o).1.stored.isSome = true := by
  cases o with
  | start => simp [hsStep, h]
  | stop => simp [hsStep, h, stopKeepsTlsConfig]
  | enableTls c' => rcases hsStep_enableTls s c' with he | ⟨_, _, he⟩ <;> simp [he, h]

/-! ### `HttpClient`: `setTlsConfig` / `ensureInitialized` -/

/-- what a call can do to the state: nothing (it threw, there was nothing to do, or — `initFailureReleasesTransport` — a failed start
released the transport again); `setTlsConfig` stores new settings only while none are applied; a successful `ensureInitialized` applies the
stored settings unless some are applied already -/
theorem hStep_cases (s : HState) (o : HOp) :
    (hStep s o).1 = s ∨ (∃ c, s.applied = none ∧ (hStep s o).1 = { s with stored := c }) ∨
      (hStep s o).1 = { s with applied := some (s.applied.getD s.stored) } := by
  cases o with
  | touch => cases hd : s.dead <;> simp [hStep, hd]
  | touchFail => exact .inl (by cases ha : s.applied <;> cases hd : s.dead <;> simp [hStep, initFailureReleasesTransport, ha, hd])
  | setTls c =>
    by_cases hc : s.stored = c
    · subst hc; exact .inl (by simp only [hStep]; split <;> rfl)
    · cases ha : s.applied <;> cases hd : s.dead <;> simp [hStep, setTlsConfigRejectsChangeAfterInit, ha, hd, hc]

theorem hStep_alive (s : HState) (o : HOp) (h : s.dead = false) : (hStep s o).1.dead = false := by
  rcases hStep_cases s o with he | ⟨c, _, he⟩ | he <;> rw [he] <;> exact h

theorem hRun_alive (s : HState) (ops : List HOp) (h : s.dead = false) : (hRun s ops).dead = false := by
  induction ops generalizing s with
  | nil => exact h
  | cons o os ih => exact ih _ (hStep_alive s o h)

/-- the settings in force are the settings last accepted by `setTlsConfig` -/
def HState.Coherent (s : HState) : Prop := s.applied = none ∨ s.applied = some s.stored

theorem hStep_coherent (s : HState) (o : HOp) (h : s.Coherent) : (hStep s o).1.Coherent := by
  rcases hStep_cases s o with he | ⟨c, hc, he⟩ | he <;> rw [he]
  · exact h
  · exact .inl hc
  · rcases h with h | h <;> exact .inr (by simp [h])

theorem hRun_coherent (s : HState) (ops : List HOp) (h : s.Coherent) : (hRun s ops).Coherent := by
  induction ops generalizing s with
  | nil => exact h
  | cons o os ih => exact ih _ (hStep_coherent s o h)

/-! ### the session machine

`Sess.IsTls` and `SEv.isHsOk` are the predicates T7/T8 of `Props/C07.lean` are stated with. -/

/-- a TLS session: requested with TLS, mode set, state `handshake` or `open` -/
def Sess.IsTls (s : Sess) : Prop := s.req ≠ .none ∧ s.tlsMode ≠ .none ∧ s.tlsState ≠ .none

/-- the event "`SSL_do_handshake` returned 1" -/
def SEv.isHsOk : SEv → Bool
  | .epoll _ (some true) => true
  | _ => false

/-! `sessStep` in each of the three phases of a TLS session, with the guard facts of `Gen` put in: closed, in its
handshake (the gate of `onSession` and the queue of `doSend`), open (every write goes through `SSL_write`). -/

theorem sessStep_closed (s : Sess) (ev : SEv) (h : s.closed = true) : sessStep s ev = (s, []) := by
  simp [sessStep, h]

theorem sessStep_inHs (s : Sess) (ev : SEv) (hc : s.closed = false) (hh : s.inHs = true) :
    sessStep s ev =
      match ev with
      | .immediate => if s.connectPending && s.req == .none then announce s else (s, [])
      | .epoll _ none => (s, [])
      | .epoll _ (some false) => ({ s with closed := true, wq := [] }, [.onClose])
      | .epoll out (some true) =>
        let o : Sess := { s with tlsState := .open, connectPending := false, announced := true }
        let w := if out then writePending o else (o, [])
        (w.1, .onConnect :: w.2)
      | .appSend bs => ({ s with wq := s.wq ++ [bs] }, []) := by
  cases ev with
  | immediate => simp [sessStep, hc, immediateAnnounceRequiresReqNone]
  | appSend bs => simp [sessStep, hc, hh, sendQueuedDuringHandshake, sendGuardPrecedesIo]
  | epoll out rc =>
    rcases rc with _ | _ | _ <;>
      simp [sessStep, driveHs, leakOnIncomplete, hc, hh, handshakeDrivenFirst, handshakeReturnsWhenIncomplete,
        wantIoKeepsHandshake, failureCloses, openOnlyOnRc1, connectCbOnlyOnRc1]

theorem sessStep_open (s : Sess) (ev : SEv) (hc : s.closed = false) (hh : s.inHs = false) (ho : s.openTls = true) (hr : s.req ≠ .none) :
    sessStep s ev =
      match ev with
      | .immediate => (s, [])
      | .epoll out _ => if out then writePending s else (s, [])
      | .appSend bs => (s, [.sslWrite bs]) := by
  have hm : (s.tlsMode == .none) = false := by
    simp only [Sess.openTls, Bool.and_eq_true, bne_iff_ne] at ho
    simpa using ho.1
  cases ev with
  | immediate => simp [sessStep, hc, hr, immediateAnnounceRequiresReqNone]
  | appSend bs => simp [sessStep, hc, hh, ho, doSendSslWhenOpenTls]
  | epoll out rc => cases out <;> simp [sessStep, hc, hh, hm, plainAnnounceRequiresModeNone]

theorem Sess.IsTls.phase {s : Sess} (h : s.IsTls) : s.inHs = true ∨ s.tlsState = .open ∧ s.inHs = false := by
  obtain ⟨_, _, hs⟩ := h
  cases hst : s.tlsState <;> simp_all [Sess.inHs]

theorem Sess.IsTls.openTls {s : Sess} (h : s.IsTls) (ho : s.tlsState = .open) : s.openTls = true := by
  simp [Sess.openTls, ho, h.2.1]

/-- the session after `SSL_do_handshake` returned 1 -/
theorem Sess.IsTls.opened {s : Sess} (h : s.IsTls) :
    Sess.IsTls { s with tlsState := .open, connectPending := false, announced := true } :=
  ⟨h.1, h.2.1, by simp⟩

/-! `recvStep` likewise (closed, in its handshake, past it or never in one): the only read of a session in its handshake is the one
`driveHandshake` makes after it has set `Open`. -/

theorem recvStep_closed (s : Sess) (wire : List UInt8) (rc : Option Bool) (h : s.closed = true) :
    recvStep s wire rc = (s, []) := by
  simp [recvStep, h]

theorem readAvail_nil (s : Sess) : readAvail s [] = [] := rfl

theorem readAvail_isEmpty (s : Sess) (wire : List UInt8) : (readAvail s wire).isEmpty = wire.isEmpty := by
  cases wire with
  | nil => rfl
  | cons b bs =>
    simp only [readAvail, List.isEmpty_cons, Bool.false_eq_true, if_false]
    split <;> rfl

theorem recvStep_inHs (s : Sess) (wire : List UInt8) (rc : Option Bool) (hc : s.closed = false) (hh : s.inHs = true) :
    recvStep s wire rc =
      match rc with
      | none => (s, [])
      | some false => ({ s with closed := true, wq := [] }, [.out .onClose])
      | some true =>
        let o : Sess := { s with tlsState := .open, connectPending := false, announced := true }
        (o, .out .onConnect :: readAvail o wire) := by
  rcases rc with _ | _ | _
  · simp [recvStep, driveHs, leakOnIncomplete, hc, hh, handshakeDrivenFirst, handshakeReturnsWhenIncomplete,
      wantIoKeepsHandshake, openOnlyOnRc1, connectCbOnlyOnRc1, readAvailAfterHandshakeGate, driveHsReadsOnlyAfterOpen]
  · simp [recvStep, driveHs, hc, hh, handshakeDrivenFirst, handshakeReturnsWhenIncomplete,
      failureCloses, readAvailAfterHandshakeGate, driveHsReadsOnlyAfterOpen]
  · -- `driveHandshake`'s own read takes whatever is on the wire, so the read that follows it in `onSession` finds nothing
    cases wire <;>
    simp [recvStep, driveHs, readAvail_nil, readAvail_isEmpty, hc, hh, handshakeDrivenFirst, handshakeReturnsWhenIncomplete,
      readAvailAfterHandshakeGate, driveHsReadsOnlyAfterOpen]

theorem recvStep_notInHs (s : Sess) (wire : List UInt8) (rc : Option Bool) (hc : s.closed = false) (hh : s.inHs = false) :
    recvStep s wire rc = (s, readAvail s wire) := by
  simp [recvStep, hc, hh, readAvailAfterHandshakeGate]

theorem REv.isHsOk_out (e : SEv) : (REv.out e).isHsOk = e.isHsOk := by
  rcases e with _ | ⟨_, _ | _ | _⟩ | _ <;> rfl

theorem rRun_out (s : Sess) (evs : List SEv) : rRun s (evs.map .out) = (sessRun s evs).map .out := by
  induction evs generalizing s with
  | nil => rfl
  | cons e es ih => simp [rRun, sessRun, rStep, ih]

/-! ### what a TLS session emits

The predicate on outputs and the invariant carry a Boolean `d`, an upper bound of "`SSL_do_handshake` has returned 1", so that one theorem
about runs (`rRun_ok`) gives both halves of T7: nothing raw, ever (`d := true`); nothing but the close before the handshake is done
(`d := false`). -/

/-- what a TLS session may emit, `done` saying whether `SSL_do_handshake` has returned 1: before that nothing but the close; the
announcement and data only afterwards, and data only through `SSL_write` / `SSL_read` -/
def SOut.ok (done : Bool) : SOut → Prop
  | .onClose => True
  | .onConnect | .sslWrite _ => done = true
  | .rawWire _ => False

def ROut.ok (done : Bool) : ROut → Prop
  | .out o => o.ok done
  | .deliverTls _ => done = true
  | .deliverRaw _ => False

theorem ROut.ok_false {o : ROut} (ho : o.ok false) : o = .out .onClose := by
  rcases o with (_ | _ | _ | _) | _ | _ <;> first | rfl | cases ho

theorem writePending_open (s : Sess) (ho : s.openTls = true) :
    writePending s = if s.wq.isEmpty then (s, []) else ({ s with wq := [] }, s.wq.map .sslWrite) := by
  simp [writePending, ho, writePendingSslWhenOpenTls]

theorem readAvail_open (s : Sess) (wire : List UInt8) (ho : s.openTls = true) :
    readAvail s wire = if wire.isEmpty then [] else [.deliverTls wire] := by
  simp [readAvail, ho, readAvailSslWhenOpenTls]

structure Sess.TlsAt (s : Sess) (d : Bool) : Prop where
  tls : s.IsTls
  done : s.tlsState = .open → d = true

/-- the tail of `onSession` on the send side, for an open TLS session -/
theorem flush_ok (x : Sess) (h : x.IsTls) (ho : x.tlsState = .open) (out : Bool) :
    (if out then writePending x else (x, [])).1.TlsAt true ∧ ∀ o ∈ (if out then writePending x else (x, [])).2, o.ok true := by
  have hx : x.TlsAt true := ⟨h, fun _ => rfl⟩
  cases out
  · exact ⟨hx, by simp⟩
  · rw [if_pos rfl, writePending_open x (h.openTls ho)]
    split
    · exact ⟨hx, by simp⟩
    · exact ⟨⟨h, fun _ => rfl⟩, by simp [SOut.ok]⟩

theorem readAvail_ok (x : Sess) (h : x.IsTls) (ho : x.tlsState = .open) (wire : List UInt8) : ∀ o ∈ readAvail x wire, o.ok true := by
  rw [readAvail_open x wire (h.openTls ho)]
  split <;> simp [ROut.ok]

theorem sessStep_ok (s : Sess) (ev : SEv) (d : Bool) (h : s.TlsAt d) (hev : ev.isHsOk = true → d = true) :
    (sessStep s ev).1.TlsAt d ∧ ∀ o ∈ (sessStep s ev).2, o.ok d := by
  cases hc : s.closed
  · rcases h.tls.phase with hh | ⟨hst, hh⟩
    · rw [sessStep_inHs s ev hc hh]
      cases ev with
      | immediate =>
        rw [beq_eq_false_iff_ne.mpr h.tls.1, Bool.and_false, if_neg Bool.false_ne_true]
        exact ⟨h, by simp⟩
      -- where only the queue or `closed` changes, `TlsAt` is rebuilt from its fields: it reads neither
      | appSend bs => exact ⟨⟨h.tls, h.done⟩, by simp⟩
      | epoll out rc =>
        rcases rc with _ | _ | _
        · exact ⟨h, by simp⟩
        · exact ⟨⟨h.tls, h.done⟩, by simp [SOut.ok]⟩
        · cases hev rfl
          obtain ⟨h1, h3⟩ := flush_ok _ h.tls.opened rfl out
          exact ⟨h1, by simpa [SOut.ok] using h3⟩
    · cases h.done hst
      rw [sessStep_open s ev hc hh (h.tls.openTls hst) h.tls.1]
      cases ev with
      | immediate => exact ⟨h, by simp⟩
      | appSend bs => exact ⟨h, by simp [SOut.ok]⟩
      | epoll out rc => exact flush_ok s h.tls hst out
  · rw [sessStep_closed s ev hc]
    exact ⟨h, by simp⟩

theorem recvStep_ok (s : Sess) (wire : List UInt8) (rc : Option Bool) (d : Bool) (h : s.TlsAt d) (hev : rc = some true → d = true) :
    (recvStep s wire rc).1.TlsAt d ∧ ∀ o ∈ (recvStep s wire rc).2, o.ok d := by
  cases hc : s.closed
  · rcases h.tls.phase with hh | ⟨hst, hh⟩
    · rw [recvStep_inHs s wire rc hc hh]
      rcases rc with _ | _ | _
      · exact ⟨h, by simp⟩
      · exact ⟨⟨h.tls, h.done⟩, by simp [ROut.ok, SOut.ok]⟩
      · cases hev rfl
        exact ⟨⟨h.tls.opened, fun _ => rfl⟩, by simpa [ROut.ok, SOut.ok] using readAvail_ok _ h.tls.opened rfl wire⟩
    · cases h.done hst
      rw [recvStep_notInHs s wire rc hc hh]
      exact ⟨h, readAvail_ok s h.tls hst wire⟩
  · rw [recvStep_closed s wire rc hc]
    exact ⟨h, by simp⟩

theorem rStep_ok (s : Sess) (ev : REv) (d : Bool) (h : s.TlsAt d) (hev : ev.isHsOk = true → d = true) :
    (rStep s ev).1.TlsAt d ∧ ∀ o ∈ (rStep s ev).2, o.ok d := by
  cases ev with
  | inp wire rc => exact recvStep_ok s wire rc d h (fun hr => hev (by rw [hr]; rfl))
  | out e =>
    have := sessStep_ok s e d h (by rwa [REv.isHsOk_out] at hev)
    exact ⟨this.1, by simpa [rStep, ROut.ok] using this.2⟩

theorem rRun_ok (s : Sess) (evs : List REv) (d : Bool) (h : s.TlsAt d) (hev : ∀ e ∈ evs, e.isHsOk = true → d = true) :
    ∀ o ∈ rRun s evs, o.ok d := by
  induction evs generalizing s with
  | nil => simp [rRun]
  | cons e es ih =>
    obtain ⟨h1, h2⟩ := rStep_ok s e d h (hev e (List.mem_cons_self ..))
    intro o ho
    rcases List.mem_append.mp ho with ho | ho
    · exact h2 o ho
    · exact ih _ h1 (fun e' he' => hev e' (List.mem_cons_of_mem _ he')) o ho

/-- a TLS session never delivers or writes a raw byte, and while the handshake has not completed all it emits is the close:
`rRun_ok` read at `d := true` and at `d := false` -/
theorem rRun_tls_only (s : Sess) (evs : List REv) (h : s.IsTls) :
    (∀ bs, ROut.deliverRaw bs ∉ rRun s evs ∧ ROut.out (.rawWire bs) ∉ rRun s evs) ∧
    (s.tlsState = .handshake → (∀ e ∈ evs, e.isHsOk = false) → ∀ o ∈ rRun s evs, o = .out .onClose) := by
  have ht := rRun_ok s evs true ⟨h, fun _ => rfl⟩ (fun _ _ _ => rfl)
  refine ⟨fun bs => ⟨ht _, ht _⟩, fun hs hev o ho => ROut.ok_false ?_⟩
  exact rRun_ok s evs false ⟨h, fun ho => by rw [hs] at ho; cases ho⟩ (fun e he hk => by rw [hev e he] at hk; cases hk) o ho

/-- the send-side machine is the receive-side one on send-side events (`rRun_out`) -/
theorem sessRun_tls_only (s : Sess) (evs : List SEv) (h : s.IsTls) :
    (∀ bs, SOut.rawWire bs ∉ sessRun s evs) ∧
    (s.tlsState = .handshake → (∀ e ∈ evs, e.isHsOk = false) → ∀ o ∈ sessRun s evs, o = .onClose) := by
  have hT := rRun_tls_only s (evs.map .out) h
  rw [rRun_out] at hT
  refine ⟨fun bs hb => (hT.1 bs).2 (List.mem_map_of_mem hb), fun hs hev o ho => ?_⟩
  exact ROut.out.inj (hT.2 hs (by simpa [REv.isHsOk_out] using hev) (.out o) (List.mem_map_of_mem ho))

theorem sessStep_tls (s : Sess) (ev : SEv) (h : s.IsTls) :
    (sessStep s ev).1.IsTls ∧ ∀ bs, SOut.rawWire bs ∉ (sessStep s ev).2 :=
  have := sessStep_ok s ev true ⟨h, fun _ => rfl⟩ (fun _ => rfl)
  ⟨this.1.tls, fun _ hm => this.2 _ hm⟩

theorem readAvail_tls (s : Sess) (wire : List UInt8) (h : s.IsTls) (ho : s.tlsState = .open) :
    ∀ bs, ROut.deliverRaw bs ∉ readAvail s wire :=
  fun _ hm => readAvail_ok s h ho wire _ hm

/-! ### plan and machine joined (T8): the session an engine creates for a request with TLS is a TLS session in its handshake -/

theorem Plan.decided_session {refused on ob : Bool} {req role : Mode} {w : RefuseAt} {c : Ctx} {h sn : Option String} {s : Sess}
    (hreq : req ≠ .none) (hc : c.role ≠ .none) (hs : (Plan.decided refused req role on w (.tls c h sn)).session ob req = some s) :
    s.IsTls ∧ s.tlsState = .handshake := by
  unfold Plan.decided at hs
  rw [if_neg hreq] at hs
  split at hs
  · cases hs
  · split at hs <;> cases hs
    exact ⟨⟨hreq, hc, by simp⟩, rfl⟩

theorem connectPlan_session {tc : TCfg} {tf : TFiles} {req : Mode} {t : Target} {s : Sess} (hreq : req ≠ .none)
    (hs : (connectPlan tc tf req t).session true req = some s) : s.IsTls ∧ s.tlsState = .handshake :=
  Plan.decided_session hreq (by simp [clientCtxOf]) (connectPlan_eq .. ▸ hs)

theorem listenPlan_session {tc : TCfg} {tf : TFiles} {req : Mode} {s : Sess} (hreq : req ≠ .none)
    (hs : (listenPlan tc tf req).session false req = some s) : s.IsTls ∧ s.tlsState = .handshake :=
  Plan.decided_session hreq (by simp [serverCtxOf]) (listenPlan_eq .. ▸ hs)

end Iora.Tls
