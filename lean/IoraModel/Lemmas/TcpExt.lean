import IoraModel.Lemmas.TcpSession
/-! The facts about the session that every single action respects: each is one induction over `Acts cfg (WAct cfg)`, and stands
with the notions it is stated in. Two things here are about no action: the arithmetic of the drain loop (T3) and what the
receive-side environment answers (`Rd`, T4). -/
namespace Iora.Tcp

variable {cfg : Cfg} {s : St} {l : List Bytes} {r : R}

/-- a call on the plain socket: a write (`::send`) or a read (`::recv`) -/
def Out.isClearWrite : Out → Bool
  | .write false _ => true
  | .read false _ => true
  | _ => false

def NoClear (outs : List Out) : Prop := outs.all (fun o => !o.isClearWrite) = true

theorem noClear_append {a b : List Out} (ha : NoClear a) (hb : NoClear b) : NoClear (a ++ b) := by
  unfold NoClear at *; simp [List.all_append, ha, hb]

theorem noClear_inert {o : Out} (ho : o.inert = true) : NoClear [o] := by
  cases o <;> first | rfl | cases ho

theorem writeLoop_noClear (q : List Bytes) (as : List WAns) : NoClear (writeLoop true q as).outs := by
  fun_induction writeLoop true q as with
  | case3 d _ _ _ _ _ _ _ ih => exact noClear_append (a := [.write true d]) rfl ih
  | _ => rfl

theorem tls_open_of_ne (t : Tls) (h : t ≠ .none) (h' : t ≠ .handshake) : t = .open := by
  cases t <;> simp_all

theorem Acts.noClear (h : Acts cfg (WAct cfg) s l r) :
    s.tls ≠ .none → NoClear r.2 ∧ r.1.tls ≠ .none := by
  induction h with
  | seq _ _ ih1 ih2 => exact fun ht => ⟨noClear_append (ih1 ht).1 (ih2 (ih1 ht).2).1, (ih2 (ih1 ht).2).2⟩
  | emit _ _ _ ho => exact fun ht => ⟨noClear_inert ho, ht⟩
  | hsDone => exact fun _ => ⟨rfl, fun e => nomatch e⟩
  | readCall s _ hh => exact fun ht => ⟨by rw [tls_open_of_ne _ ht hh]; rfl, ht⟩
  | @wr s _ _ h =>
    cases h with
    | direct _ hh => exact fun ht => ⟨by rw [tls_open_of_ne _ ht hh]; rfl, ht⟩
    | drain _ hh ws => exact fun ht => ⟨by rw [tls_open_of_ne _ ht hh]; exact writeLoop_noClear s.wq ws, ht⟩
    | _ => exact fun ht => ⟨rfl, ht⟩
  | _ => exact fun ht => ⟨rfl, ht⟩

theorem Acts.handshake (h : Acts cfg (WAct cfg) s l r) : r.1.tls = .handshake → s.tls = .handshake ∧ r.1.wireRev = s.wireRev := by
  induction h with
  | seq _ _ ih1 ih2 => exact fun e => ⟨(ih1 (ih2 e).1).1, (ih2 e).2.trans (ih1 (ih2 e).1).2⟩
  | hsDone => exact fun e => nomatch e
  | wr h =>
    cases h with
    | direct _ hh | drain _ hh => exact fun e => absurd e hh
    | _ => exact fun e => ⟨e, rfl⟩
  | _ => exact fun e => ⟨e, rfl⟩

def HasClose (outs : List Out) : Prop := ∃ w, Out.close w ∈ outs

/-- T6: the session does not become closed silently -/
def Loud (s : St) (r : R) : Prop := r.1.closed = s.closed ∨ HasClose r.2

theorem loud_refl (s : St) (o : List Out) : Loud s (s, o) := Or.inl rfl

theorem hasClose_append_left {a b : List Out} (h : HasClose a) : HasClose (a ++ b) := by
  obtain ⟨w, hw⟩ := h; exact ⟨w, List.mem_append_left _ hw⟩
theorem hasClose_append_right {a b : List Out} (h : HasClose b) : HasClose (a ++ b) := by
  obtain ⟨w, hw⟩ := h; exact ⟨w, List.mem_append_right _ hw⟩
theorem hasClose_cons {o : Out} {b : List Out} (h : HasClose b) : HasClose (o :: b) := by
  obtain ⟨w, hw⟩ := h; exact ⟨w, List.mem_cons_of_mem _ hw⟩

theorem loud_seq {s : St} {r1 r2 : R} (h1 : Loud s r1) (h2 : Loud r1.1 r2) : Loud s (r2.1, r1.2 ++ r2.2) := by
  rcases h2 with h2 | h2
  · rcases h1 with h1 | h1
    · exact Or.inl (h2.trans h1)
    · exact Or.inr (hasClose_append_left h1)
  · exact Or.inr (hasClose_append_right h2)

theorem Acts.loud (h : Acts cfg (WAct cfg) s l r) : Loud s r := by
  induction h with
  | seq _ _ ih1 ih2 => exact loud_seq ih1 ih2
  | close _ _ w => exact .inr ⟨w, List.mem_singleton.mpr rfl⟩
  | wr h => cases h <;> exact .inl rfl
  | _ => exact .inl rfl

/-- T6: a closed session is silent, stays closed, and its wire is frozen -/
theorem Acts.closed (h : Acts cfg (WAct cfg) s l r) :
    s.closed = true → r.2 = [] ∧ r.1.closed = true ∧ r.1.wireRev = s.wireRev := by
  induction h with
  | nil => exact fun hc => ⟨rfl, hc, rfl⟩
  | seq _ _ ih1 ih2 =>
    intro hc
    obtain ⟨a1, b1, c1⟩ := ih1 hc
    obtain ⟨a2, b2, c2⟩ := ih2 b1
    exact ⟨by rw [a1, a2]; rfl, b2, c2.trans c1⟩
  | close _ h' | interest _ h' | flags _ h' | emit _ h' | hsDone _ h' | readCall _ h' | got _ h' =>
    exact fun hc => nomatch h'.symm.trans hc
  | wr h =>
    cases h with
    | accept => exact fun hc => ⟨rfl, hc, rfl⟩
    | push h' | dropOldest h' | direct h' | drain h' => exact fun hc => nomatch h'.symm.trans hc

theorem NonEmptyBufs.push {q : List Bytes} {p : Bytes} (h : NonEmptyBufs q) (hp : p ≠ []) : NonEmptyBufs (q ++ [p]) := by
  intro d hd
  rcases List.mem_append.mp hd with hd | hd
  · exact h d hd
  · rw [List.mem_singleton.mp hd]; exact hp
theorem NonEmptyBufs.tail {q : List Bytes} (h : NonEmptyBufs q) : NonEmptyBufs q.tail :=
  fun d hd => h d (List.mem_of_mem_tail hd)

theorem writeLoop_nonEmpty (ssl : Bool) (q : List Bytes) (as : List WAns) :
    NonEmptyBufs q → NonEmptyBufs (writeLoop ssl q as).wq := by
  fun_induction writeLoop ssl q as with
  | case2 d rest _ _ n _ hn =>
    intro h x hx
    rcases List.mem_cons.mp hx with hx | hx
    · exact hx ▸ mt List.drop_eq_nil_iff.mp (Nat.not_le.mpr hn)
    · exact h x (List.mem_cons_of_mem _ hx)
  | case3 _ _ _ _ _ _ _ _ ih => exact fun h => ih fun x hx => h x (List.mem_cons_of_mem _ hx)
  | _ => exact id

theorem Acts.nonEmpty (h : Acts cfg (WAct cfg) s l r) :
    NonEmptyBufs s.wq → NonEmptyBufs r.1.wq := by
  induction h with
  | seq _ _ ih1 ih2 => exact fun hn => ih2 (ih1 hn)
  | close => exact fun _ => .nil
  | @wr s _ _ h =>
    cases h with
    | push _ _ hp => exact fun hn => hn.push hp
    | dropOldest => exact .tail
    | direct _ _ _ _ _ _ hq' => exact fun _ => hq'
    | drain _ _ ws => exact writeLoop_nonEmpty _ s.wq ws
    | accept => exact id
  | _ => exact id

theorem Acts.accepted (h : Acts cfg (WAct cfg) s l r) :
    r.1.accepted = s.accepted ++ l := by
  induction h with
  | seq _ _ ih1 ih2 => rw [ih2, ih1, List.append_assoc]
  | wr h =>
    cases h with
    | accept => simp [St.accepted]
    | _ => exact (List.append_nil _).symm
  | _ => exact (List.append_nil _).symm

theorem writeLoop_le (ssl : Bool) (q : List Bytes) (as : List WAns) :
    (writeLoop ssl q as).wq.flatten.length ≤ q.flatten.length := by
  have h := congrArg List.length (writeLoop_conserves ssl q as)
  simp only [List.length_append] at h
  omega

theorem classifyW_wrote (ssl : Bool) {n : Nat} (hn : 0 < n) : classifyW ssl (.wrote n) = .progress n := by
  have : (n == 0) = false := by simp; omega
  simp [classifyW, this]

theorem writeLoop_progress (ssl : Bool) (d : Bytes) (rest : List Bytes) (n : Nat) (as : List WAns)
    (hn : 0 < n) (hd : d ≠ []) :
    (writeLoop ssl (d :: rest) (.wrote n :: as)).wq.flatten.length < (d :: rest).flatten.length := by
  have hdl : 0 < d.length := List.length_pos_iff.mpr hd
  unfold writeLoop
  simp only [List.headD_cons, classifyW_wrote ssl hn, List.tail_cons]
  by_cases hlt : n < d.length
  · rw [if_pos hlt]
    simp only [List.flatten_cons, List.length_append, List.length_drop]; omega
  · rw [if_neg hlt]
    have := writeLoop_le ssl rest as
    simp only [List.flatten_cons, List.length_append]
    omega

theorem writeLoop_fair (ssl : Bool) (q : List Bytes) (n : Nat) (as : List WAns) (hne : NonEmptyBufs q) :
    (writeLoop ssl q (.wrote (n + 1) :: as)).wq.flatten.length ≤ q.flatten.length - 1 := by
  cases q with
  | nil => exact Nat.zero_le _
  | cons d rest =>
    exact Nat.le_sub_one_of_lt (writeLoop_progress ssl d rest (n + 1) as (Nat.succ_pos n) (hne d (List.mem_cons_self ..)))

theorem writeLoop_drains (ssl : Bool) : ∀ (q : List Bytes), NonEmptyBufs q →
    (writeLoop ssl q (q.map fun d => .wrote d.length)).wq = [] ∧
    (writeLoop ssl q (q.map fun d => .wrote d.length)).stop = .drained ∧
    (writeLoop ssl q (q.map fun d => .wrote d.length)).sentRev.reverse.flatten = q.flatten
  | [], _ => ⟨rfl, rfl, rfl⟩
  | d :: rest, h => by
    have hd : d ≠ [] := h d (List.mem_cons_self ..)
    have ih := writeLoop_drains ssl rest (fun x hx => h x (List.mem_cons_of_mem _ hx))
    unfold writeLoop
    simp only [List.map_cons, List.headD_cons, classifyW_wrote ssl (List.length_pos_iff.mpr hd), List.tail_cons, Nat.lt_irrefl,
      if_false]
    refine ⟨ih.1, ih.2.1, ?_⟩
    rw [flat_rev_append, optRun_flat, ih.2.2, List.flatten_cons]

/-- the chunks of the leading data answers: what a `readAvail` call that goes on reading delivers -/
def dataPrefix (ssl : Bool) : List RAns → List Bytes
  | [] => []
  | a :: rest => match classifyR ssl a with
    | .got bs => bs :: dataPrefix ssl rest
    | _ => []

/-- the answers from the first non-data answer on: the one that ends the loop, then those it leaves unconsumed -/
def afterData (ssl : Bool) : List RAns → List RAns
  | [] => []
  | a :: rest => match classifyR ssl a with
    | .got _ => afterData ssl rest
    | _ => a :: rest

/-- an answer after which `readAvail` closes the session -/
def endsSession (ssl : Bool) (a : RAns) : Bool :=
  match classifyR ssl a with
  | .eof => true
  | .fail => true
  | _ => false

/-- the payloads of the data callbacks in an output list -/
def deliveries : List Out → List Bytes
  | [] => []
  | .deliver bs :: os => bs :: deliveries os
  | _ :: os => deliveries os

/-- the `::recv` / `SSL_read` calls in an output list -/
def readCalls : List Out → Nat
  | [] => 0
  | .read _ _ :: os => readCalls os + 1
  | _ :: os => readCalls os

theorem deliveries_ui (cfg : Cfg) (s : St) : deliveries (updateInterest cfg s).2 = [] := by
  rcases ui_outs cfg s with h | ⟨_, h⟩ <;> rw [h] <;> rfl
theorem deliveries_cn (s : St) (w : Why) : deliveries (closeNow s w).2 = [] := by
  rcases cn_outs s w with h | h <;> rw [h] <;> rfl
theorem readCalls_ui (cfg : Cfg) (s : St) : readCalls (updateInterest cfg s).2 = 0 := by
  rcases ui_outs cfg s with h | ⟨_, h⟩ <;> rw [h] <;> rfl
theorem readCalls_cn (s : St) (w : Why) : readCalls (closeNow s w).2 = 0 := by
  rcases cn_outs s w with h | h <;> rw [h] <;> rfl

/-- T4 for a step or run from `s` to `s'` with outputs `outs`: what `recv` / `SSL_read` returned and what the data callback got both
grow by exactly the `deliver` outputs -/
def RdInv (s s' : St) (outs : List Out) : Prop :=
  s'.deliveredRev = (deliveries outs).reverse ++ s.deliveredRev ∧ s'.receivedRev = (deliveries outs).reverse ++ s.receivedRev

theorem deliveries_append (a b : List Out) : deliveries (a ++ b) = deliveries a ++ deliveries b := by
  induction a with
  | nil => rfl
  | cons o a ih => cases o <;> simp [deliveries, ih]

theorem rdInv_trans {s s1 s2 : St} {o1 o2 : List Out} (h1 : RdInv s s1 o1) (h2 : RdInv s1 s2 o2) : RdInv s s2 (o1 ++ o2) := by
  unfold RdInv at *
  rw [deliveries_append, List.reverse_append, h2.1, h2.2, h1.1, h1.2]
  simp

theorem rdInv_silent {s s' : St} {o : List Out} (hd : s'.deliveredRev = s.deliveredRev) (hr : s'.receivedRev = s.receivedRev)
    (ho : deliveries o = []) : RdInv s s' o := by
  unfold RdInv; rw [ho, hd, hr]; exact ⟨rfl, rfl⟩

theorem ui_rd (cfg : Cfg) (s : St) : RdInv s (updateInterest cfg s).1 (updateInterest cfg s).2 :=
  rdInv_silent (ui_deliveredRev cfg s) (ui_receivedRev cfg s) (deliveries_ui cfg s)

theorem deliveries_inert {o : Out} (ho : o.inert = true) : deliveries [o] = [] := by
  cases o <;> first | rfl | cases ho

theorem writeLoop_deliveries (ssl : Bool) (q : List Bytes) (as : List WAns) : deliveries (writeLoop ssl q as).outs = [] := by
  fun_induction writeLoop ssl q as with
  | case3 _ _ _ _ _ _ _ _ ih => exact ih
  | _ => rfl

theorem Acts.rd (h : Acts cfg (WAct cfg) s l r) : RdInv s r.1 r.2 := by
  induction h with
  | seq _ _ ih1 ih2 => exact rdInv_trans ih1 ih2
  | emit _ _ _ ho => exact rdInv_silent rfl rfl (deliveries_inert ho)
  | got => exact ⟨rfl, rfl⟩
  | @wr s _ _ h =>
    cases h with
    | drain _ _ ws => exact rdInv_silent rfl rfl (writeLoop_deliveries _ s.wq ws)
    | _ => exact rdInv_silent rfl rfl rfl
  | _ => exact rdInv_silent rfl rfl rfl

namespace Rd

theorem chunksF_flatten (cap : Nat) (hc : 0 < cap) (f : Nat) (b : Bytes) : b.length ≤ f → (chunksF cap f b).flatten = b := by
  fun_induction chunksF cap f b with
  | case1 b => exact fun h => (List.length_eq_zero_iff.mp (Nat.le_zero.mp h)).symm
  | case2 f b he => exact fun _ => (List.isEmpty_iff.mp he).symm
  | case3 f b he ih =>
    intro h
    have hpos : 0 < b.length := List.length_pos_iff.mpr fun e => he (e ▸ rfl)
    rw [List.flatten_cons, ih (by rw [List.length_drop]; omega), List.take_append_drop]

theorem chunksF_ne (cap : Nat) (hc : 0 < cap) (f : Nat) (b : Bytes) : ∀ c ∈ chunksF cap f b, c ≠ [] := by
  fun_induction chunksF cap f b with
  | case1 | case2 => exact fun _ h => nomatch h
  | case3 f b he ih =>
    intro c h
    rcases List.mem_cons.mp h with h1 | h1
    · exact h1 ▸ mt List.take_eq_nil_iff.mp fun e => e.elim (Nat.ne_of_gt hc) fun e => he (e ▸ rfl)
    · exact ih c h1

theorem chunks_flatten (cap : Nat) (hc : 0 < cap) (b : Bytes) : (chunks cap b).flatten = b :=
  chunksF_flatten cap hc _ b (Nat.le_refl _)

theorem chunks_ne (cap : Nat) (hc : 0 < cap) (b : Bytes) : ∀ c ∈ chunks cap b, c ≠ [] := chunksF_ne cap hc _ b

theorem dataPrefix_datas (ssl : Bool) (blk : RAns) (hb : ∀ bs, classifyR ssl blk ≠ .got bs) :
    ∀ (cs : List Bytes), (∀ c ∈ cs, c ≠ []) →
      dataPrefix ssl (cs.map RAns.data ++ [blk]) = cs ∧ afterData ssl (cs.map RAns.data ++ [blk]) = [blk]
  | [], _ => by
    simp only [List.map_nil, List.nil_append, dataPrefix, afterData]
    cases h : classifyR ssl blk with
    | got bs => exact absurd h (hb bs)
    | _ => simp
  | c :: cs, hne => by
    have hc : c ≠ [] := hne c (by simp)
    have hcl : classifyR ssl (.data c) = .got c := by
      cases c with
      | nil => exact absurd rfl hc
      | cons _ _ => simp [classifyR]
    have ih := dataPrefix_datas ssl blk hb cs (fun x hx => hne x (by simp [hx]))
    simp only [List.map_cons, List.cons_append, dataPrefix, afterData, hcl]
    exact ⟨by rw [ih.1], ih.2⟩

theorem answers_spec (ssl : Bool) (cap : Nat) (hc : 0 < cap) (e : Env) :
    (dataPrefix ssl (e.answers ssl cap)).flatten = e.content ∧
    afterData ssl (e.answers ssl cap) = [if ssl then .wantR else .again] := by
  have hne : ∀ c ∈ chunks cap e.buf ++ (e.kern.map (chunks cap)).flatten, c ≠ [] := by
    intro c hcm
    rcases List.mem_append.mp hcm with h | h
    · exact chunks_ne cap hc _ c h
    · obtain ⟨l, hl, hcl⟩ := List.mem_flatten.mp h
      obtain ⟨r, _, hr⟩ := List.mem_map.mp hl
      rw [← hr] at hcl
      exact chunks_ne cap hc _ c hcl
  have hb : ∀ bs, classifyR ssl (if ssl then RAns.wantR else RAns.again) ≠ .got bs := by
    intro bs; cases ssl <;> simp [classifyR]
  have h := dataPrefix_datas ssl _ hb _ hne
  unfold Env.answers
  rw [h.1, h.2]
  refine ⟨?_, rfl⟩
  rw [List.flatten_append, chunks_flatten cap hc]
  unfold Env.content
  congr 1
  induction e.kern with
  | nil => rfl
  | cons r rs ih => simp [List.flatten_append, chunks_flatten cap hc, ih]

end Rd

/-- the buffer of the first `::send` / `SSL_write` in an output list -/
def firstWrite : List Out → Option Bytes
  | [] => none
  | .write _ b :: _ => some b
  | _ :: os => firstWrite os

theorem firstWrite_append (a b : List Out) :
    firstWrite (a ++ b) = (firstWrite a).or (firstWrite b) := by
  induction a with
  | nil => cases h : firstWrite b <;> simp [firstWrite, h]
  | cons o a ih => cases o <;> simp [firstWrite, ih]

theorem firstWrite_inert {o : Out} (ho : o.inert = true) : firstWrite [o] = none := by
  cases o <;> first | rfl | cases ho

/-- the retry obligation of `SSL_write` (a refused write is repeated with the same buffer: OpenSSL's moving-buffer rule) for one
result: from an open session whose queue front is `b`, the first write (if any) passes `b`; with no write, the session is closed
afterwards or `b` is still the front -/
def FrontOK (b : Bytes) (s : St) (r : R) : Prop :=
  s.closed = false → s.wq.head? = some b →
    firstWrite r.2 = some b ∨ (firstWrite r.2 = none ∧ (r.1.closed = true ∨ (r.1.closed = false ∧ r.1.wq.head? = some b)))

theorem front_quiet {b : Bytes} {s : St} {r : R} (hw : firstWrite r.2 = none) (hc : r.1.closed = s.closed) (hq : r.1.wq = s.wq) :
    FrontOK b s r :=
  fun hc' hq' => .inr ⟨hw, .inr ⟨hc.trans hc', hq ▸ hq'⟩⟩

theorem writeLoop_first (ssl : Bool) {b : Bytes} {q : List Bytes} (as : List WAns) (h : q.head? = some b) :
    firstWrite (writeLoop ssl q as).outs = some b := by
  fun_cases writeLoop ssl q as
  case case1 => cases h
  all_goals exact h

/-- close-on-backpressure policy: every action honours the queue front; what follows a close is silent (`Acts.closed`) -/
theorem Acts.front (hcob : cfg.closeOnBackpressure = true) (b : Bytes) (h : Acts cfg (WAct cfg) s l r) : FrontOK b s r := by
  induction h with
  | seq _ h2 ih1 ih2 =>
    intro hc hq
    rcases ih1 hc hq with h | ⟨h, hcl | ⟨hcl, hq1⟩⟩
    · left; rw [firstWrite_append, h, Option.some_or]
    · obtain ⟨e, c, _⟩ := h2.closed hcl
      right; exact ⟨by rw [e, List.append_nil]; exact h, .inl c⟩
    · rcases ih2 hcl hq1 with h' | ⟨h', k⟩
      · left; rw [firstWrite_append, h, Option.none_or]; exact h'
      · right; exact ⟨by rw [firstWrite_append, h, Option.none_or]; exact h', k⟩
  | close => exact fun _ _ => .inr ⟨rfl, .inl rfl⟩
  | emit _ _ _ ho => exact front_quiet (firstWrite_inert ho) rfl rfl
  | wr h =>
    cases h with
    | push hc => exact fun _ hq => .inr ⟨rfl, .inr ⟨hc, by rw [List.head?_append, hq, Option.some_or]⟩⟩
    | dropOldest _ h' => exact nomatch hcob.symm.trans h'
    | direct _ _ hq => exact fun _ hf => nomatch (hq ▸ hf : ([] : List Bytes).head? = some b)
    | drain _ _ ws => exact fun _ hq => .inl (writeLoop_first _ ws hq)
    | accept => exact front_quiet rfl rfl rfl
  | _ => exact front_quiet rfl rfl rfl

end Iora.Tcp
