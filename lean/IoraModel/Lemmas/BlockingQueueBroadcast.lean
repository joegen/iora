import IoraModel.Lemmas.BlockingQueue
/-!
The blocking queue as an INSTANCE of the generic broadcast-discipline theorem (`Lemmas/MonitorBroadcast.lean`): one mutex,
predicate "`_closed`" for both condition variables, announced by the two `notify_all` of `close()`.  The instance gives, in
every reachable state: mutual exclusion, status and program counter fit together, a thread about to wait has seen an open
queue, and a sleeper on a closed queue has a closer behind it.  The wake-ups by `notify_one` are a counting argument on top
of this (`Lemmas/BlockingQueueCredit.lean`; see the header of `MonitorBroadcast.lean` for why that part is not generic).
-/
namespace Iora.BQ
open Iora.Monitor

/-- the queue's two condition variables, `_condNotEmpty` and `_condNotFull`.  `CvId` is `Nat`: what is proved for the queue's own
condition variables is stated for a `Side`, so that no statement needs "`cv` is one of the two". -/
inductive Side
  | ne
  | nf

def Side.cv : Side → CvId
  | .ne => NE
  | .nf => NF

/-- the thread is inside `close()` and has not yet executed `notify_all` on `cv` -/
def closerFor (cv : CvId) (ts : TState Loc) : Bool :=
  match ts.status with
  | .ready => ts.loc.pc == .closeUnlock || ts.loc.pc == .closeNotifyNE || (cv == NF && ts.loc.pc == .closeNotifyNF)
  | _ => false

theorem closer_idle (cv : CvId) (l : Loc) (h : (l.pc = .enter ∧ l.todo ≠ []) ∨ l.pc = .finished) :
    closerFor cv { status := .ready, loc := l } = false := by
  rcases h with ⟨h, _⟩ | h <;> simp [closerFor, h]

/-- the thread owes the `notify_all(cv)` of `close()`.  `CvId` is `Nat`, and for a number other than `NE`, `NF` `closerFor`
answers as for `NE`: a debt that no `notify_all` of the program pays.  Hence the guard, here and in `predClosed`. -/
def owesClose (cv : CvId) (l : Loc) : Bool := (cv == NE || cv == NF) && closerFor cv { status := .ready, loc := l }

def predClosed (cv : CvId) (d : Data) : Bool := (cv == NE || cv == NF) && d.closed

/-- what the broadcast discipline asks of a critical section: the thread holds `_mutex` afterwards, waits only on an open
queue, and whoever closes the queue is on the way to the two `notify_all` -/
theorem Crit.holds {l l' : Loc} {d d' : Data} (h : Crit l d l' d') :
    wfL l' ∧ isHoldingPc l'.pc = true ∧ (l'.pc = .sleepNE ∨ l'.pc = .sleepNF → d'.closed = false) ∧
    (d'.closed = true → d.closed = true ∨ l'.pc = .closeUnlock) := by
  cases h with
  | ret r => exact ⟨⟨nofun, nofun, nofun⟩, rfl, nofun, Or.inl⟩
  | waitNE rest ht hp => exact ⟨⟨nofun, fun _ => ⟨rest, ht⟩, nofun⟩, rfl, fun _ => (predNE_false hp).2, Or.inl⟩
  | waitNF v rest ht hp => exact ⟨⟨nofun, nofun, fun _ => ⟨v, rest, ht⟩⟩, rfl, fun _ => (predNF_false hp).2, Or.inl⟩
  | put c rest v ht hv hopen hroom => exact ⟨⟨nofun, nofun, nofun⟩, rfl, (nomatch ·), fun hc => Or.inl (hopen ▸ hc)⟩
  | take c rest x xs ht hv hq => exact ⟨⟨nofun, nofun, nofun⟩, rfl, (nomatch ·), Or.inl⟩
  | close => exact ⟨⟨nofun, nofun, nofun⟩, rfl, (nomatch ·), fun _ => Or.inr rfl⟩

theorem holdsAfterOp_acq (l : Loc) (h : l.pc = .enter ∨ l.pc = .sleepNE ∨ l.pc = .sleepNF) :
    holdsAfterOp (prog true) (fun l => isHoldingPc l.pc) l = true := by
  rcases h with h | h | h <;> simp [holdsAfterOp, prog, op, h]

theorem holdsAfterOp_other (l : Loc) (h : nonAcquiring (op l) = true ∨ l.pc = .finished) :
    holdsAfterOp (prog true) (fun l => isHoldingPc l.pc) l = false := by
  obtain ⟨me, todo, pc, rets⟩ := l
  cases pc <;> first | rfl | (rcases h with h | h <;> cases h)

/-- what the broadcast laws ask of one step from `(l, d)` to `(l', d')` -/
structure StepLaws (l : Loc) (d : Data) (l' : Loc) (d' : Data) : Prop where
  wf : wfL l'
  holds : isHoldingPc l'.pc = holdsAfterOp (prog true) (fun l => isHoldingPc l.pc) l
  frame : holdsAfterOp (prog true) (fun l => isHoldingPc l.pc) l = false → d' = d
  wait_open : ∀ cv m' timed, op l' = .wait cv m' timed → d'.closed = false
  closer : d'.closed = true → d.closed = true ∨ l'.pc = .closeUnlock

theorem after_laws (l : Loc) (d : Data) (late : Bool) (hw : wfL l) :
    StepLaws l d (after true l d late).1 (after true l d late).2 := by
  rcases pc_class l with h | h | h
  · obtain ⟨hd, hP⟩ := after_passive l d late h
    obtain ⟨h1, h2, h3⟩ := passive_wfL hP
    exact { wf := h1, holds := (by rw [holdsAfterOp_other l (Or.inl h)]; exact h2), frame := fun _ => hd,
            wait_open := fun cv m' timed hop => absurd hop (h3 cv m' timed), closer := fun hc => Or.inl (hd ▸ hc) }
  · obtain ⟨h1, h2, h3, h4⟩ := (after_crit l d late hw h).holds
    exact { wf := h1, holds := (by rw [holdsAfterOp_acq l h]; exact h2),
            frame := (fun hf => by rw [holdsAfterOp_acq l h] at hf; cases hf),
            wait_open := fun cv m' timed hop => h3 ((op_wait hop).2.elim (fun h => Or.inl h.2) fun h => Or.inr h.2),
            closer := h4 }
  · rw [after_finished h]
    exact { wf := hw, holds := (by rw [holdsAfterOp_other l (Or.inr h), h]; rfl), frame := fun _ => rfl,
            wait_open := (fun cv m' timed hop => by simp [op, h] at hop), closer := Or.inl }

def closeBroadcast : Broadcast (prog true) M where
  pred := predClosed
  holds := fun l => isHoldingPc l.pc
  owes := owesClose
  wfL := wfL
  wf_after := fun l d late hw => (after_laws l d late hw).wf
  lock_m := by intro l m' _ hop; obtain ⟨hp, hm⟩ := op_lock hop; exact ⟨hm, by simp [hp, isHoldingPc]⟩
  unlock_m := by
    intro l m' _ hop; exact op_unlock hop
  wait_m := by
    intro l cv m' timed _ hop
    obtain ⟨hm, hp⟩ := op_wait hop
    refine ⟨hm, ?_⟩
    rcases hp with ⟨_, hp⟩ | ⟨_, hp⟩ <;> simp [hp, isHoldingPc]
  done_free := by
    intro l _ hop; rw [op_done hop]; rfl
  holds_after := fun l d late hw => (after_laws l d late hw).holds
  frame := fun l d late hw => (after_laws l d late hw).frame
  wait_pred := by
    intro l d late cv m' timed hw hop
    have := (after_laws l d late hw).wait_open cv m' timed hop
    simp [predClosed, prog, this]
  owe_new := by
    intro l d late cv hw hp hp'
    simp only [predClosed, Bool.and_eq_true] at hp'
    obtain ⟨hcv, hcl⟩ := hp'
    rcases (after_laws l d late hw).closer hcl with h0 | h1
    · simp [predClosed, hcv, h0] at hp
    · show owesClose cv _ = true
      simp [owesClose, hcv, closerFor, prog, h1]
  owe_keep := by
    -- the debt runs `closeUnlock → closeNotifyNE → closeNotifyNF`; that of `NE` ends at `closeNotifyNE`, whose operation is
    -- `notify_all(NE)`, that of `NF` at `closeNotifyNF`; no other pc owes anything
    intro l d late cv _ ho hna
    obtain ⟨me, todo, pc, rets⟩ := l
    simp only [owesClose, Bool.and_eq_true] at ho ⊢
    refine ⟨ho.1, ?_⟩
    have hcv : cv = NE ∨ cv = NF := by simpa using ho.1
    have ho := ho.2
    rcases hcv with rfl | rfl <;> cases pc <;> first | (cases ho; done) | rfl | exact absurd rfl hna
  owe_active := by
    intro l cv _ ho
    obtain ⟨me, todo, pc, rets⟩ := l
    simp only [owesClose, Bool.and_eq_true] at ho
    have hcv : cv = NE ∨ cv = NF := by simpa using ho.1
    have ho := ho.2
    rcases hcv with rfl | rfl <;> cases pc <;> first | (cases ho; done) | exact ⟨nofun, nofun⟩

theorem closeBroadcast_init (cap : Nat) (ps : List (List Call)) : closeBroadcast.Inv (init cap ps) := by
  apply Broadcast.inv_init
  · intro t _
    exact ⟨rfl, ⟨by simp [init], by simp [init], by simp [init]⟩, by simp [closeBroadcast, init, isHoldingPc]⟩
  · intro t cv m' timed _; simp [prog, op, init]
  · rfl

theorem close_broadcast_run (cap : Nat) (ps : List (List Call)) (sched : List Choice) :
    closeBroadcast.Inv (run (prog true) (init cap ps) sched) :=
  closeBroadcast.inv_run _ (closeBroadcast_init cap ps) sched

/-- the generic no-lost-wake-up theorem read for the queue: when nobody can run, nobody sleeps on a closed queue -/
theorem deadlocked_open {s : State Data Loc} (h : closeBroadcast.Inv s) (hd : Deadlocked (prog true) s) {t : Tid} (c : Side)
    (ht : t < s.n) (hsl : isAsleepOn c.cv (s.thr t) = true) : s.data.closed = false := by
  have := closeBroadcast.deadlocked_sleepers s h hd t c.cv ht hsl
  cases c <;> simpa [closeBroadcast, predClosed, Side.cv] using this

end Iora.BQ
