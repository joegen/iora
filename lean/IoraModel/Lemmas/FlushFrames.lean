import IoraModel.Model.FlushFrames
/-! Invariants of the flush-frame model (C05): the filtering walk of `releaseOwnFlushes`, as regenerated from the source.
`uaf = false` and `orphOK` apart, `Inv` speaks of one transport at a time and sees the stack only through `cnt`, `has` and `orph`
(`Inv_iff`): every operation on the stack is described by what it does to these three, and a step is checked for the transport it
concerns (the others: `TInv.frame`). -/
namespace Iora.FlushFrames

/-- the walk regenerated from the source is the filter (a change of the source that makes it a take-while breaks the build here) -/
theorem walk_filters : walkFilters = true := by decide +kernel

/-- live guards of transport `d` on the stack -/
def cnt (d : Nat) (l : List Frame) : Nat := l.countP fun f => decide (f.impl = d) && f.guard
/-- some frame of transport `d` is on the stack -/
def has (d : Nat) (l : List Frame) : Bool := l.any fun f => decide (f.impl = d)
/-- an orphaned frame is the OUTERMOST frame of its transport -/
def orphOK : List Frame → Prop
  | [] => True
  | f :: rest => (f.orphaned = true → ∀ g ∈ rest, g.impl ≠ f.impl) ∧ orphOK rest
/-- some frame of transport `d` on the stack is orphaned -/
def orph (d : Nat) (l : List Frame) : Bool := l.any fun f => decide (f.impl = d) && f.orphaned

theorem has_iff {d : Nat} {l : List Frame} : has d l = true ↔ ∃ f ∈ l, f.impl = d := by
  simp [has]

theorem orph_iff {d : Nat} {l : List Frame} : orph d l = true ↔ ∃ f ∈ l, f.impl = d ∧ f.orphaned = true := by
  simp [orph]

theorem cnt_cons (d : Nat) (f : Frame) (l : List Frame) :
    cnt d (f :: l) = cnt d l + (decide (f.impl = d) && f.guard).toNat := by
  simp only [cnt, List.countP_cons]
  cases (decide (f.impl = d) && f.guard) <;> rfl

theorem has_cons (d : Nat) (f : Frame) (l : List Frame) : has d (f :: l) = (decide (f.impl = d) || has d l) := rfl

theorem orph_cons (d : Nat) (f : Frame) (l : List Frame) :
    orph d (f :: l) = (decide (f.impl = d) && f.orphaned || orph d l) := rfl

theorem orphOK_cons {f : Frame} {l : List Frame} :
    orphOK (f :: l) ↔ (f.orphaned = true → has f.impl l = false) ∧ orphOK l := by
  simp [orphOK, has]

theorem obs_of_not_has {d : Nat} {l : List Frame} (h : has d l = false) : cnt d l = 0 ∧ orph d l = false := by
  simp only [has, List.any_eq_false, decide_eq_true_eq] at h
  exact ⟨List.countP_eq_zero.mpr fun f hf => by simp [h f hf], List.any_eq_false.mpr fun f hf => by simp [h f hf]⟩

theorem mask_any (d : Nat) (l : List Frame) : (mask true d l).any id = has d l := by
  induction l with
  | nil => rfl
  | cons f rest ih =>
    by_cases h : f.impl = d
    · simp [mask, has, h]
    · simp [mask, has, h]
      simpa [has] using ih

theorem live_eq_cnt (d : Nat) (l : List Frame) : liveMatched (mask true d l) l = cnt d l := by
  induction l with
  | nil => rfl
  | cons f rest ih =>
    by_cases h : f.impl = d
    · cases hg : f.guard <;> simp [mask, liveMatched, cnt, h, hg] <;> (simp [cnt] at ih; omega)
    · simp [mask, liveMatched, cnt, h]
      simpa [cnt] using ih

/-- what the filter walk does to one frame -/
def rst (d : Nat) (f : Frame) : Frame := if f.impl = d then { f with guard := false } else f

theorem reset_eq_map (d : Nat) (l : List Frame) : resetGuards (mask true d l) l = l.map (rst d) := by
  induction l with
  | nil => rfl
  | cons f rest ih =>
    by_cases h : f.impl = d
    · simp [mask, resetGuards, rst, h, ih]
    · simp [mask, resetGuards, rst, h, ih]

theorem map_rst_obs (d e : Nat) (l : List Frame) :
    cnt e (l.map (rst d)) = (if e = d then 0 else cnt e l) ∧ has e (l.map (rst d)) = has e l ∧
    orph e (l.map (rst d)) = orph e l := by
  induction l with
  | nil => simp [cnt, has, orph]
  | cons f rest ih =>
    rw [List.map_cons, cnt_cons, has_cons, orph_cons, cnt_cons, has_cons, orph_cons, ih.1, ih.2.1, ih.2.2]
    by_cases hf : f.impl = d <;> by_cases he : e = d <;> simp [rst, hf, he]
    exact fun h => absurd h.symm he

theorem orphOK_map_rst (d : Nat) : ∀ l : List Frame, orphOK l → orphOK (l.map (rst d))
  | [], _ => trivial
  | f :: rest, h => by
    have hf : (rst d f).impl = f.impl ∧ (rst d f).orphaned = f.orphaned := by unfold rst; split <;> exact ⟨rfl, rfl⟩
    rw [List.map_cons, orphOK_cons, hf.1, hf.2, (map_rst_obs d _ rest).2.1]
    exact ⟨(orphOK_cons.mp h).1, orphOK_map_rst d rest h.2⟩

theorem orphanLast_obs {d : Nat} : ∀ l : List Frame, orphOK l →
    orphOK (orphanLast (mask true d l) l) ∧ (orphanLast (mask true d l) l).length = l.length ∧
    ∀ e, cnt e (orphanLast (mask true d l) l) = cnt e l ∧ has e (orphanLast (mask true d l) l) = has e l ∧
      orph e (orphanLast (mask true d l) l) = (orph e l || (decide (e = d) && has d l)) := by
  intro l
  induction l with
  | nil => intro _; simp [mask, orphanLast, orphOK, has, cnt, orph]
  | cons f rest ih =>
    intro h
    obtain ⟨hf0, hrest⟩ := orphOK_cons.mp h
    obtain ⟨i1, i2, i3⟩ := ih hrest
    by_cases hown : f.impl = d ∧ has d rest = false
    · -- this is the outermost frame of `d`: it becomes the owner
      obtain ⟨hf, hr⟩ := hown
      have e : orphanLast (mask true d (f :: rest)) (f :: rest) = { f with orphaned := true } :: rest := by
        simp [mask, orphanLast, hf, mask_any, hr]
      rw [e]
      refine ⟨orphOK_cons.mpr ⟨fun _ => hf ▸ hr, hrest⟩, rfl, fun e' => ?_⟩
      simp only [cnt_cons, has_cons, orph_cons, hf, hr]
      by_cases he : e' = d
      · subst he; simp
      · simp [he, show ¬ d = e' from fun h => he h.symm]
    · -- the head frame is left alone: it is of another transport, or a deeper frame of `d` exists
      have e : orphanLast (mask true d (f :: rest)) (f :: rest) = f :: orphanLast (mask true d rest) rest := by
        by_cases hf : f.impl = d
        · simp [mask, orphanLast, hf, mask_any, show has d rest = true by simpa [hf] using hown]
        · simp [mask, orphanLast, hf]
      rw [e]
      refine ⟨orphOK_cons.mpr ⟨fun ho => by rw [(i3 _).2.1]; exact hf0 ho, i1⟩, by simp [i2], fun e' => ?_⟩
      have hd : (decide (f.impl = d) || has d rest) = has d rest := by
        cases hh : has d rest
        · simpa [hh] using hown
        · simp
      simp only [cnt_cons, has_cons, orph_cons, i3, hd, Bool.or_assoc, and_self]

/-- `A` to `F` are clauses of `T2_nested_flushes`, as they stand but for `D`, which it reads through `C` (its last is read off `G`:
`released_deleted`); `H` to `J` carry them through the steps -/
structure Inv (s : State) : Prop where
  A : s.uaf = false
  B : ∀ f ∈ s.stack, s.alive f.impl = true
  C : ∀ d, s.flushes d = cnt d s.stack
  D : ∀ d, s.released d = true → cnt d s.stack = 0
  E : orphOK s.stack
  F : ∀ d, s.alive d = false → s.released d = true
  -- a released transport not yet deleted is in its destructor, or an orphaned frame owns it
  G : ∀ d, s.released d = true → s.alive d = true →
        (∃ o, s.dtor = some (d, o)) ∨ (∃ f ∈ s.stack, f.impl = d ∧ f.orphaned = true)
  -- the destructor the thread is in is that of a released, live transport, on the flusher branch iff a frame of it is on the stack
  H : ∀ d o, s.dtor = some (d, o) → s.released d = true ∧ s.alive d = true ∧ o = has d s.stack
  -- a frame is orphaned by the destructor of its transport only
  I : ∀ f ∈ s.stack, f.orphaned = true → s.released f.impl = true
  -- the fence is raised by the release, so under the contract no flush begins behind it (`doPush_inv`)
  J : ∀ d, s.fence d = true → s.released d = true

/-- what `Inv` says of transport `d`, of which the stack shows `n` live guards, a frame (`h`), an orphaned frame (`o`) -/
structure TInv (s : State) (d n : Nat) (h o : Bool) : Prop where
  B : h = true → s.alive d = true
  C : s.flushes d = n
  D : s.released d = true → n = 0
  F : s.alive d = false → s.released d = true
  G : s.released d = true → s.alive d = true → (∃ x, s.dtor = some (d, x)) ∨ o = true
  H : ∀ x, s.dtor = some (d, x) → s.released d = true ∧ s.alive d = true ∧ x = h
  I : o = true → s.released d = true
  J : s.fence d = true → s.released d = true

/-- `Inv`, transport by transport -/
theorem Inv_iff {s : State} :
    Inv s ↔ s.uaf = false ∧ orphOK s.stack ∧ ∀ d, TInv s d (cnt d s.stack) (has d s.stack) (orph d s.stack) := by
  constructor
  · intro h
    exact ⟨h.A, h.E, fun d => ⟨fun hh => by obtain ⟨f, hf, rfl⟩ := has_iff.mp hh; exact h.B f hf, h.C d, h.D d, h.F d,
      fun h1 h2 => (h.G d h1 h2).imp_right orph_iff.mpr, h.H d,
      fun ho => by obtain ⟨f, hf, rfl, hf'⟩ := orph_iff.mp ho; exact h.I f hf hf', h.J d⟩⟩
  · intro ⟨A, E, T⟩
    exact ⟨A, fun f hf => (T f.impl).B (has_iff.mpr ⟨f, hf, rfl⟩), fun d => (T d).C, fun d => (T d).D, E, fun d => (T d).F,
      fun d h1 h2 => ((T d).G h1 h2).imp_right orph_iff.mp, fun d => (T d).H,
      fun f hf ho => (T f.impl).I (orph_iff.mpr ⟨f, hf, rfl, ho⟩), fun d => (T d).J⟩

theorem TInv.frame {s s' : State} {e n : Nat} {h o : Bool} (t : TInv s e n h o)
    (eq : (s'.alive e, s'.flushes e, s'.released e, s'.fence e) = (s.alive e, s.flushes e, s.released e, s.fence e))
    (hd : ∀ x, s'.dtor = some (e, x) ↔ s.dtor = some (e, x)) : TInv s' e n h o := by
  simp only [Prod.mk.injEq] at eq
  obtain ⟨e1, e2, e3, e4⟩ := eq
  exact ⟨e1 ▸ t.B, e2 ▸ t.C, e3 ▸ t.D, e1 ▸ e3 ▸ t.F, by simpa only [e1, e3, hd] using t.G, by simpa only [e1, e3, hd] using t.H,
    e3 ▸ t.I, e3 ▸ e4 ▸ t.J⟩

theorem Inv_mk (others : Nat → Nat) : Inv (mk others) := by
  constructor <;> simp [mk, cnt, orphOK]

theorem touch_alive {s : State} {d : Nat} (h : s.alive d = true) : touch s d = s := by simp [touch, h]

theorem TInv.alive {s : State} {d n : Nat} {h o : Bool} (t : TInv s d n h o) (hr : s.released d = false) : s.alive d = true := by
  cases ha : s.alive d with
  | true => rfl
  | false => rw [t.F ha] at hr; cases hr

@[simp] theorem upd_same {α : Type} (g : Nat → α) (d : Nat) (v : α) : upd g d v d = v := by simp [upd]
theorem upd_ne {α : Type} (g : Nat → α) {d e : Nat} (v : α) (h : e ≠ d) : upd g d v e = g e := by simp [upd, h]

theorem doPush_inv {s : State} (h : Inv s) (d : Nat) (hok : ok s (.push d) = true) : Inv (doPush s d) := by
  obtain ⟨A, E, T⟩ := Inv_iff.mp h
  have hr : s.released d = false := by simpa [ok] using hok
  have hal := (T d).alive hr
  have hfe : s.fence d = false := Bool.eq_false_iff.mpr fun hf => by rw [(T d).J hf] at hr; cases hr
  unfold doPush
  split
  · exact h
  · rename_i hdt
    simp only [touch_alive hal, hfe, Bool.false_eq_true, if_false]
    refine Inv_iff.mpr ⟨A, orphOK_cons.mpr ⟨nofun, E⟩, fun e => ?_⟩
    dsimp only
    rw [cnt_cons, has_cons, orph_cons]
    by_cases he : e = d
    · subst he
      have t := T e
      simp only [decide_true, Bool.true_and, Bool.true_or, Bool.false_or, Bool.toNat_true]
      have hnr : ¬ s.released e = true := by rw [hr]; nofun
      exact { t with B := fun _ => hal, C := by dsimp only; rw [upd_same, t.C], D := fun hre => absurd hre hnr,
                     G := fun hre => absurd hre hnr, H := fun x hx => absurd (hdt ▸ hx) nofun }
    · have hde : decide (d = e) = false := decide_eq_false fun h' => he h'.symm
      simp only [hde, Bool.false_and, Bool.false_or, Bool.toNat_false, Nat.add_zero]
      exact (T e).frame (by simp only [upd_ne _ _ he]) fun _ => Iff.rfl

theorem doRelease_inv {s : State} (h : Inv s) (d : Nat) (hok : ok s (.release d) = true) : Inv (doRelease true s d) := by
  obtain ⟨A, E, T⟩ := Inv_iff.mp h
  have hr : s.released d = false := by simpa [ok] using hok
  have hal := (T d).alive hr
  unfold doRelease
  split
  · exact h
  · rename_i hdt
    simp only [touch_alive hal, reset_eq_map, live_eq_cnt, mask_any]
    refine Inv_iff.mpr ⟨A, orphOK_map_rst d _ E, fun e => ?_⟩
    dsimp only
    obtain ⟨o1, o2, o3⟩ := map_rst_obs d e s.stack
    rw [o1, o2, o3]
    by_cases he : e = d
    · subst he
      have t := T e
      rw [if_pos rfl]
      exact { B := t.B, C := by dsimp only; rw [upd_same, t.C, Nat.sub_self], D := fun _ => rfl,
              F := fun ha => absurd ha (by rw [hal]; nofun), G := fun _ _ => .inl ⟨_, rfl⟩,
              H := fun x hx => ⟨upd_same _ _ _, hal, (Prod.mk.inj (Option.some.inj hx)).2.symm⟩,
              I := fun _ => upd_same _ _ _, J := fun _ => upd_same _ _ _ }
    · rw [if_neg he]
      exact (T e).frame (by simp only [upd_ne _ _ he]) fun x => by
        simp only [hdt, Option.some.injEq, Prod.mk.injEq, reduceCtorEq, iff_false, not_and]
        exact fun h' => absurd h'.symm he

theorem doDtorWake_inv {s : State} (h : Inv s) : Inv (doDtorWake true s) := by
  obtain ⟨A, E, T⟩ := Inv_iff.mp h
  unfold doDtorWake
  split
  · exact h
  · rename_i d own hdt
    obtain ⟨hrel, hal, hown⟩ := (T d).H own hdt
    -- the destructor that returns is the one of `d`
    have other : ∀ e, e ≠ d → ∀ x, (none : Option (Nat × Bool)) = some (e, x) ↔ s.dtor = some (e, x) := fun e he x => by
      simp only [hdt, Option.some.injEq, Prod.mk.injEq, reduceCtorEq, false_iff, not_and]
      exact fun h' => absurd h'.symm he
    split
    · split
      · -- flusher branch: `Impl` is left to the outermost own frame
        rename_i _ ho
        obtain ⟨o1, _, o3⟩ := orphanLast_obs (d := d) s.stack E
        refine Inv_iff.mpr ⟨A, o1, fun e => ?_⟩
        dsimp only
        rw [(o3 e).1, (o3 e).2.1, (o3 e).2.2]
        by_cases he : e = d
        · subst he
          have t := T e
          exact { t with G := fun _ _ => .inr (by simp [← hown, ho]), H := nofun, I := fun _ => hrel }
        · simp only [he, decide_false, Bool.false_and, Bool.or_false]
          exact (T e).frame rfl (other e he)
      · -- ordinary branch: `~Impl` now; no frame of `d` is on the stack
        rename_i _ ho
        refine Inv_iff.mpr ⟨A, E, fun e => ?_⟩
        dsimp only
        by_cases he : e = d
        · subst he
          have t := T e
          exact { t with B := fun hh => absurd (hown ▸ hh) ho, F := fun _ => hrel,
                         G := fun _ ha => absurd ha (by dsimp only; rw [upd_same]; nofun), H := nofun }
        · exact (T e).frame (by simp only [upd_ne _ _ he]) (other e he)
    · exact h

theorem doPop_inv {s : State} (h : Inv s) : Inv (doPop s) := by
  obtain ⟨A, E, T⟩ := Inv_iff.mp h
  unfold doPop
  split
  · rename_i f rest hdt hst
    rw [hst] at E T
    obtain ⟨hf0, hrest⟩ := orphOK_cons.mp E
    have hal := (T f.impl).B (by simp [has_cons])
    simp only [touch_alive hal]
    -- of another transport the stack shows the same without `f`
    have other : ∀ {s' : State} e, e ≠ f.impl → s'.dtor = s.dtor →
        (s'.alive e, s'.flushes e, s'.released e, s'.fence e) = (s.alive e, s.flushes e, s.released e, s.fence e) →
        TInv s' e (cnt e rest) (has e rest) (orph e rest) := fun e he hd eq => by
      have t := T e
      rw [cnt_cons, has_cons, orph_cons, decide_eq_false fun h' => he h'.symm] at t
      exact t.frame eq fun _ => by rw [hd]
    have t := T f.impl
    rw [cnt_cons, has_cons, orph_cons, decide_eq_true rfl] at t
    have nodt : ∀ {P : Prop} x, s.dtor = some (f.impl, x) → P := fun x hx => by rw [hdt] at hx; cases hx
    split
    · -- the orphaned frame deletes `Impl`: it is the outermost frame of its transport
      rename_i ho
      obtain ⟨c0, o0⟩ := obs_of_not_has (hf0 ho)
      refine Inv_iff.mpr ⟨A, hrest, fun e => ?_⟩
      dsimp only
      by_cases he : e = f.impl
      · subst he
        rw [c0, hf0 ho, o0]
        refine { B := nofun, C := ?_, D := fun _ => rfl, F := fun _ => t.I (by simp [ho]),
                 G := fun _ ha => absurd ha (by dsimp only; rw [upd_same]; nofun), H := fun x hx => nodt x hx, I := nofun, J := t.J }
        have := t.C
        dsimp only; rw [upd_same, this, c0]; cases f.guard <;> rfl
      · exact other e he rfl (by simp only [upd_ne _ _ he])
    · rename_i ho
      refine Inv_iff.mpr ⟨A, hrest, fun e => ?_⟩
      dsimp only
      by_cases he : e = f.impl
      · subst he
        simp only [Bool.true_and, Bool.true_or, eq_false_of_ne_true ho, Bool.false_or] at t
        refine { t with B := fun _ => hal, C := ?_, D := fun hre => ?_, H := fun x hx => nodt x hx,
                        G := fun h1 h2 => .inr ((t.G h1 h2).resolve_left fun ⟨x, hx⟩ => nodt x hx) }
        · have := t.C
          dsimp only; rw [upd_same, this]; cases f.guard <;> simp
        · have := t.D hre; omega
      · exact other e he rfl (by simp only [upd_ne _ _ he])
  · exact h

theorem step_inv {s : State} (h : Inv s) (st : Step) (hok : ok s st = true) : Inv (step s st) := by
  unfold step
  rw [walk_filters]
  cases st with
  | push d => exact doPush_inv h d hok
  | release d => exact doRelease_inv h d hok
  | dtorWake => exact doDtorWake_inv h
  | otherLeave d => exact { h with }
  | pop => exact doPop_inv h

theorem run_inv : ∀ (steps : List Step) (s : State), Inv s → Disciplined s steps → Inv (run s steps) := by
  intro steps
  induction steps with
  | nil => intro s h _; exact h
  | cons st rest ih => intro s h hd; exact ih _ (step_inv h st hd.1) hd.2

theorem run_append (a b : List Step) : ∀ s : State, run s (a ++ b) = run (run s a) b := by
  induction a with
  | nil => intro s; rfl
  | cons x rest ih => intro s; exact ih (step s x)

theorem disc_append (a b : List Step) : ∀ s : State, Disciplined s a → Disciplined (run s a) b → Disciplined s (a ++ b) := by
  induction a with
  | nil => intro s _ h; exact h
  | cons x rest ih => intro s h1 h2; exact ⟨h1.1, ih (step s x) h1.2 h2⟩

theorem step_pop {s : State} {f : Frame} {rest : List Frame} (hd : s.dtor = none) (hs : s.stack = f :: rest) :
    (step s .pop).stack = rest ∧ (step s .pop).dtor = none := by
  simp only [step, stepW, doPop, hd, hs]
  split <;> simp [touch] <;> (split <;> simp [hd])

/-- every callback returns: the stack unwinds completely -/
theorem pops : ∀ (n : Nat) (s : State), s.dtor = none → s.stack.length = n →
    (run s (List.replicate n .pop)).stack = [] ∧ (run s (List.replicate n .pop)).dtor = none ∧
    Disciplined s (List.replicate n .pop)
  | 0, _, hd, hl => ⟨List.eq_nil_of_length_eq_zero hl, hd, trivial⟩
  | n + 1, s, hd, hl => by
    cases hs : s.stack with
    | nil => rw [hs] at hl; cases hl
    | cons f rest =>
      have hp := step_pop hd hs
      obtain ⟨r1, r2, r3⟩ := pops n (step s .pop) hp.2 (by rw [hp.1]; rw [hs] at hl; exact Nat.succ.inj hl)
      exact ⟨r1, r2, rfl, r3⟩

/-- the callers of other threads leave transport `d` -/
theorem leaves (d : Nat) (o : Bool) : ∀ (n : Nat) (s : State), Inv s → s.dtor = some (d, o) → s.others d = n →
    (run s (List.replicate n (.otherLeave d))).others d = 0 ∧ (run s (List.replicate n (.otherLeave d))).dtor = some (d, o) ∧
    (run s (List.replicate n (.otherLeave d))).stack = s.stack ∧
    Inv (run s (List.replicate n (.otherLeave d))) ∧ Disciplined s (List.replicate n (.otherLeave d)) := by
  intro n
  induction n with
  | zero => intro s h hd ho; exact ⟨ho, hd, rfl, h, trivial⟩
  | succ n ih =>
    intro s h hd ho
    have hi := step_inv h (.otherLeave d) rfl
    have e1 : (step s (.otherLeave d)).others d = n := by simp [step, stepW, ho]
    have e2 : (step s (.otherLeave d)).dtor = some (d, o) := by simp [step, stepW, hd]
    have e3 : (step s (.otherLeave d)).stack = s.stack := by simp [step, stepW]
    obtain ⟨r1, r2, r3, r4, r5⟩ := ih (step s (.otherLeave d)) hi e2 e1
    exact ⟨r1, r2, r3.trans e3, r4, ⟨rfl, r5⟩⟩

/-- the destructor's predicate check succeeds once the other callers are out: all frames of the transport on this thread were released -/
theorem wake_done {s : State} (h : Inv s) {d : Nat} {o : Bool} (hd : s.dtor = some (d, o)) (ho : s.others d = 0) :
    (step s .dtorWake).dtor = none ∧ (step s .dtorWake).stack.length = s.stack.length := by
  have hrel := (h.H d o hd).1
  have hz : s.flushes d = 0 := by rw [h.C d]; exact h.D d hrel
  have hlen := (orphanLast_obs (d := d) s.stack h.E).2.1
  simp only [step, walk_filters, stepW, doDtorWake, hd, hz, ho]
  cases o <;> simp [hlen]

/-- **no dead end** for nested flushes over several transports: from every state the invariant holds in, a schedule respecting
the contract, at most (callers of other threads inside the transport being destroyed) + 1 + (depth of the stack) steps long,
ends with the destructor returned and every flush unwound -/
theorem completes {s : State} (h : Inv s) :
    ∃ steps : List Step, Disciplined s steps ∧
      steps.length ≤ (match s.dtor with | some (d, _) => s.others d + 1 | none => 0) + s.stack.length ∧
      (run s steps).dtor = none ∧ (run s steps).stack = [] ∧ Inv (run s steps) := by
  cases hd : s.dtor with
  | none =>
    obtain ⟨r1, r2, r3⟩ := pops s.stack.length s hd rfl
    exact ⟨List.replicate s.stack.length .pop, r3, by simp, r2, r1, run_inv _ s h r3⟩
  | some p =>
    obtain ⟨d, o⟩ := p
    obtain ⟨l1, l2, l3, l4, l5⟩ := leaves d o (s.others d) s h hd rfl
    have hw := wake_done l4 l2 l1
    obtain ⟨r1, r2, r3⟩ := pops s.stack.length (step _ .dtorWake) hw.1 (hw.2.trans (congrArg List.length l3))
    have hdisc := disc_append _ (.dtorWake :: List.replicate s.stack.length .pop) s l5 ⟨rfl, r3⟩
    refine ⟨_, hdisc, ?_, ?_, ?_, run_inv _ s h hdisc⟩
    · simp; omega
    · rw [run_append]; exact r2
    · rw [run_append]; exact r1

theorem released_deleted {s : State} (h : Inv s) (hd : s.dtor = none) (hs : s.stack = []) (d : Nat)
    (hr : s.released d = true) : s.alive d = false := by
  cases ha : s.alive d with
  | false => rfl
  | true =>
    rcases h.G d hr ha with ⟨o, h1⟩ | ⟨f, hf, _⟩
    · rw [hd] at h1; cases h1
    · rw [hs] at hf; cases hf

/-- a destructor waiting for flushes of its transport that are still counted never returns, whatever the thread or other threads do
next and whichever walk is used: the thread is blocked in it, so none of those flushes can unwind -/
theorem dtor_blocked (filt : Bool) {d : Nat} {o : Bool} : ∀ (steps : List Step) {s : State}, s.dtor = some (d, o) → s.flushes d ≠ 0 →
    (runW filt s steps).dtor = some (d, o)
  | [], _, h, _ => h
  | st :: rest, s, h1, h2 => by
    have e : (stepW filt s st).dtor = some (d, o) ∧ (stepW filt s st).flushes d = s.flushes d := by
      cases st <;> simp [stepW, doPush, doRelease, doDtorWake, doPop, h1, h2]
    exact dtor_blocked filt rest e.1 (e.2 ▸ h2)

/-- transport 0 (D) flushes, its callback flushes transport 1 (U), U's callback drops the last reference of D -/
def relay : List Step := [.push 0, .push 1, .release 0]

end Iora.FlushFrames
