import IoraModel.Model.KvRace
/-!
# `get()` on a cache miss ∥ one writer: the invariant of every schedule, and where a thread can be blocked
-/
namespace Iora.Kv.Race
open Iora Iora.Kv

/-- the reader has copied `_kv[k]` and still has its shared hold -/
def rKnows : RPc → Bool
  | .loaded | .hasC | .wrote | .relC => true
  | _ => false

/-- the writer has assigned `_kv[k]` -/
def wStored : WPc → Bool
  | .wroteKv | .hasC | .wroteC | .relC | .done => true
  | _ => false

/-- the inductive invariant; `inv_stepR`, `inv_stepW` keep it when both flags of `sh` are set (the lock scopes of the working tree) -/
structure Inv (sh : Shape) (o : WOp) (s : St) : Prop where
  /-- `_mutex`: never a shared and an exclusive holder at once -/
  muEx : ¬ (rHoldsMu sh s.r = true ∧ wHoldsMu sh s.w = true)
  /-- `_cacheMutex`: never two exclusive holders -/
  cEx : ¬ (rHoldsC s.r = true ∧ wHoldsC s.w = true)
  /-- `released` is entered only when the flag of `sh` for that thread is off: part of the invariant so that the steps need no
  case for it -/
  nr : s.r ≠ .released
  nw : s.w ≠ .released
  /-- the reader's locals are what `_kv` holds, as long as it keeps its shared hold -/
  tmpOk : rKnows s.r = true → s.tmp = s.kv
  /-- once the writer has stored, `_kv` holds what it stored -/
  wk : wStored s.w = true → s.kv = o.kv
  /-- the cache entry is coherent, except between the writer's two assignments (it then holds `_mutex` exclusively) -/
  coh : (s.w = .wroteKv ∨ s.w = .hasC) ∨ s.Coherent

theorem inv_init (sh : Shape) (o : WOp) (kv cache : Option Ent) (h0 : cache = none ∨ cache = kv) :
    Inv sh o (St.init kv cache) where
  muEx := by simp [St.init, rHoldsMu]
  cEx := by simp [St.init, rHoldsC]
  nr := by simp [St.init]
  nw := by simp [St.init]
  tmpOk := by simp [St.init, rKnows]
  wk := by simp [St.init, wStored]
  coh := Or.inr h0

theorem rKnows_holdsMu (sh : Shape) (h1 : sh.refillUnderStoreLock = true) (pc : RPc) (h : rKnows pc = true) :
    rHoldsMu sh pc = true := by
  cases pc <;> simp [rKnows, rHoldsMu, h1] at h ⊢

theorem inv_stepR (sh : Shape) (h1 : sh.refillUnderStoreLock = true)
    (fresh : Ent → Bool) (o : WOp) (s : St) (hi : Inv sh o s) : Inv sh o (stepR sh fresh s) := by
  have ⟨muEx, cEx, nr, _, tmpOk, wk, coh⟩ := hi
  unfold stepR
  cases hr : s.r with
  | start =>
    simp only
    cases hw : wHoldsMu sh s.w with
    | true => simp only [if_true]; exact hi
    | false =>
      simp only [Bool.false_eq_true, if_false]
      exact { hi with muEx := by simp [hw], cEx := by simp [rHoldsC], nr := by simp, tmpOk := by simp [rKnows] }
  | hasS =>
    simp only
    cases hk : s.kv with
    | none =>
      exact { hi with
        muEx := by simp [rHoldsMu], cEx := by simp [rHoldsC], nr := by simp, tmpOk := by simp [rKnows]
        wk := by simpa [hk] using wk, coh := by simpa [St.Coherent, hk] using coh }
    | some e =>
      simp only
      cases fresh e with
      | false =>
        simp only [Bool.false_eq_true, if_false]
        exact { hi with
          muEx := by simp [rHoldsMu], cEx := by simp [rHoldsC], nr := by simp, tmpOk := by simp [rKnows]
          wk := by simpa [hk] using wk, coh := by simpa [St.Coherent, hk] using coh }
      | true =>
        simp only [if_true]
        exact { hi with
          muEx := by simpa [rHoldsMu, hr] using muEx, cEx := by simp [rHoldsC], nr := by simp, tmpOk := by simp [rKnows]
          wk := by simpa [hk] using wk, coh := by simpa [St.Coherent, hk] using coh }
  | loaded =>
    simp only [h1, if_true]
    cases hw : wHoldsC s.w with
    | true => simp only [if_true]; exact hi
    | false =>
      simp only [Bool.false_eq_true, if_false]
      exact { hi with
        muEx := by simpa [rHoldsMu, hr, h1] using muEx, cEx := by simp [hw], nr := by simp
        tmpOk := fun _ => tmpOk (by rw [hr]; rfl) }
  | released => exact absurd hr nr
  | hasC =>
    simp only
    have ht := tmpOk (by rw [hr]; rfl)
    exact { hi with
      muEx := by simpa [rHoldsMu, hr, h1] using muEx, cEx := by simpa [rHoldsC, hr] using cEx, nr := by simp
      tmpOk := fun _ => ht, coh := .inr (.inr ht) }
  | wrote =>
    simp only
    exact { hi with
      muEx := by simpa [rHoldsMu, hr, h1] using muEx, cEx := by simp [rHoldsC], nr := by simp
      tmpOk := fun _ => tmpOk (by rw [hr]; rfl) }
  | relC =>
    simp only
    exact { hi with muEx := by simp [rHoldsMu], cEx := by simp [rHoldsC], nr := by simp, tmpOk := by simp [rKnows] }
  | done => exact hi

theorem inv_stepW (sh : Shape) (h1 : sh.refillUnderStoreLock = true) (h2 : sh.writerCacheUnderStoreLock = true)
    (o : WOp) (ho : o.OK) (s : St) (hi : Inv sh o s) : Inv sh o (stepW sh o s) := by
  have ⟨muEx, cEx, _, _, _, wk, coh⟩ := hi
  -- the reader is outside its shared hold whenever the writer holds `_mutex`
  have rOut : wHoldsMu sh s.w = true → ¬ rKnows s.r = true := fun hw hr => muEx ⟨rKnows_holdsMu sh h1 _ hr, hw⟩
  -- outside the window `wroteKv`/`hasC` the entry is coherent
  have coh' : s.w ≠ .wroteKv → s.w ≠ .hasC → s.Coherent := fun a b => coh.resolve_left (by simp [a, b])
  unfold stepW
  cases hw : s.w with
  | start =>
    simp only
    cases hr : rHoldsMu sh s.r with
    | true => simp only [if_true]; exact hi
    | false =>
      simp only [Bool.false_eq_true, if_false]
      exact { hi with
        muEx := by simp [hr], cEx := by simp [wHoldsC], nw := by simp, wk := by simp [wStored]
        coh := .inr (coh' (by simp [hw]) (by simp [hw])) }
  | hasX =>
    simp only
    have hout := rOut (by simp [wHoldsMu, hw])
    exact { hi with
      muEx := by simpa [wHoldsMu, hw] using muEx, cEx := by simp [wHoldsC], nw := by simp
      tmpOk := fun h => absurd h hout, wk := by simp [wStored], coh := .inl (.inl rfl) }
  | wroteKv =>
    simp only [h2, if_true]
    cases hr : rHoldsC s.r with
    | true => simp only [if_true]; exact hi
    | false =>
      simp only [Bool.false_eq_true, if_false]
      exact { hi with
        muEx := by simpa [wHoldsMu, hw, h2] using muEx, cEx := by simp [hr], nw := by simp
        wk := fun _ => wk (by rw [hw]; rfl), coh := .inl (.inr rfl) }
  | released => exact absurd hw hi.nw
  | hasC =>
    simp only
    have hk := wk (by rw [hw]; rfl)
    exact { hi with
      muEx := by simpa [wHoldsMu, hw, h2] using muEx, cEx := by simpa [wHoldsC, hw] using cEx, nw := by simp
      wk := fun _ => hk
      coh := .inr (show o.cache = none ∨ o.cache = s.kv from hk ▸ ho) }
  | wroteC =>
    simp only
    exact { hi with
      muEx := by simpa [wHoldsMu, hw, h2] using muEx, cEx := by simp [wHoldsC], nw := by simp
      wk := fun _ => wk (by rw [hw]; rfl), coh := .inr (coh' (by simp [hw]) (by simp [hw])) }
  | relC =>
    simp only
    exact { hi with
      muEx := by simp [wHoldsMu], cEx := by simp [wHoldsC], nw := by simp
      wk := fun _ => wk (by rw [hw]; rfl), coh := .inr (coh' (by simp [hw]) (by simp [hw])) }
  | done => exact hi

theorem inv_run (sh : Shape) (h1 : sh.refillUnderStoreLock = true) (h2 : sh.writerCacheUnderStoreLock = true)
    (fresh : Ent → Bool) (o : WOp) (ho : o.OK) (sched : List Bool) (s : St) (hi : Inv sh o s) : Inv sh o (run sh fresh o s sched) :=
  List.foldlRecOn sched _ hi fun s hi t _ => by
    cases t
    · exact inv_stepW sh h1 h2 o ho s hi
    · exact inv_stepR sh h1 fresh o s hi

/-- the reader moves unless it has returned or waits for a lock the writer holds (the last disjunct does not ask where the reader
stands: it is wider than the wait for `_cacheMutex`) -/
theorem stepR_moves (sh : Shape) (fresh : Ent → Bool) (s : St) :
    (stepR sh fresh s).r ≠ s.r ∨ s.r = .done ∨ (s.r = .start ∧ wHoldsMu sh s.w = true) ∨
      (rHoldsC s.r = false ∧ wHoldsC s.w = true) := by
  unfold stepR
  cases hr : s.r <;> simp only [rHoldsC, reduceCtorEq, false_and, or_false, false_or, true_and, ne_eq, not_false_eq_true]
  all_goals repeat' split
  all_goals simp [*]

theorem stepW_moves (sh : Shape) (o : WOp) (s : St) :
    (stepW sh o s).w ≠ s.w ∨ s.w = .done ∨ (s.w = .start ∧ rHoldsMu sh s.r = true) ∨
      (wHoldsC s.w = false ∧ rHoldsC s.r = true) := by
  unfold stepW
  cases hw : s.w <;> simp only [wHoldsC, reduceCtorEq, false_and, or_false, false_or, true_and, ne_eq, not_false_eq_true]
  all_goals repeat' split
  all_goals simp [*]

/-- **no deadlock**: in every state (whatever the lock scopes) in which a call has not returned yet, at least one thread can
move: a thread that waits for a lock stands where it holds nothing the holder of that lock could be waiting for -/
theorem race_no_deadlock (sh : Shape) (fresh : Ent → Bool) (o : WOp) (s : St) (hnd : ¬ (s.r = .done ∧ s.w = .done)) :
    (stepR sh fresh s).r ≠ s.r ∨ (stepW sh o s).w ≠ s.w := by
  rcases stepR_moves sh fresh s with h | hr | ⟨hr, hw⟩ | ⟨hr, hw⟩
  · exact .inl h
  all_goals
    rcases stepW_moves sh o s with h | hw' | ⟨hw', hr'⟩ | ⟨hw', hr'⟩
    · exact .inr h
    all_goals simp_all [rHoldsMu, rHoldsC, wHoldsMu, wHoldsC]

-- for `decide` in the witnesses of `Props/C12.lean`
instance (o : WOp) : Decidable o.OK := inferInstanceAs (Decidable (_ ∨ _))

instance (s : St) : Decidable s.Coherent := inferInstanceAs (Decidable (_ ∨ _))

end Iora.Kv.Race
