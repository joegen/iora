import IoraModel.Lemmas.SyncRecv
import IoraModel.Model.SyncRecvW
/-! The `receiveSyncCancellable` layer (`Model/SyncRecvW.lean`): a wrapper run is the core run over its `.base` steps (`wrun_core`), which
wrapper step answers what (`wrapRet_emitted`), and the callers are handed exactly the bytes of the core events (`wrunUser_eq`); all three from
two case principles of `wstep`, `wstep_base_cases` for a core step and `wstep_own_cases` for the wrapper's own. -/
namespace Iora.SyncRecv
open Iora

theorem coreEvs_append (a b : List WEv) : coreEvs (a ++ b) = coreEvs a ++ coreEvs b := by
  induction a with
  | nil => rfl
  | cons e r ih => cases e <;> simp [coreEvs, ih]

theorem coreEvs_map_base (l : List Ev) : coreEvs (l.map WEv.base) = l := by
  induction l with
  | nil => rfl
  | cons e r ih => simp [coreEvs, ih]

/-- the sub-call result the wrapper reads off the events of a `recvEnter`/`recvWake` step -/
theorem res_evRecv (sid : Nat) (X : Option RecvRes) :
    (match recvOf (evRecv sid X) with | some (_, x) => some x | none => none) = X := by
  cases X <;> simp [evRecv, recvOf]

theorem afterSub_core (ws : WState) (sid : Nat) (c : WCall) (X : Option RecvRes) : (afterSub ws sid c X).1.core = ws.core := by
  cases X with
  | none => rfl
  | some r => cases r <;> rfl

theorem coreEvs_afterSub (ws : WState) (sid : Nat) (c : WCall) (X : Option RecvRes) : coreEvs (afterSub ws sid c X).2 = [] := by
  cases X with
  | none => rfl
  | some r => cases r <;> rfl

theorem base_not_mem_afterSub (ws : WState) (sid : Nat) (c : WCall) (X : Option RecvRes) (e : Ev) :
    WEv.base e ∉ (afterSub ws sid c X).2 := by
  cases X with
  | none => simp [afterSub]
  | some r => cases r <;> simp [afterSub]

theorem mem_afterSub {ws : WState} {sid sid' : Nat} {c : WCall} {X : Option RecvRes} {r : RecvRes}
    (h : WEv.wrapRet sid r ∈ (afterSub ws sid' c X).2) : sid = sid' ∧ X = some r ∧ r ≠ .timeout := by
  cases X with
  | none => simp [afterSub] at h
  | some q => cases q <;> simp [afterSub] at h <;> (obtain ⟨h1, h2⟩ := h; subst h1 h2; simp)

theorem afterSub_returns (ws : WState) (sid : Nat) (c : WCall) {r : RecvRes} (hr : r ≠ .timeout) :
    WEv.wrapRet sid r ∈ (afterSub ws sid c (some r)).2 ∧ (afterSub ws sid c (some r)).1.w sid = none := by
  cases r <;> simp_all [afterSub, setW]

/-- a `.base` step either only performs the core step, or (`subActive`: a critical section of the running wrapper's sub-call)
additionally feeds the section's answer `X` to `afterSub` -/
theorem wstep_base_cases (cfg : Cfg) (ws : WState) (st : Step) :
    (subActive ws (.base st) = false ∧
      wstep cfg ws (.base st) = ({ ws with core := (step cfg ws.core st).1 }, (step cfg ws.core st).2.map WEv.base)) ∨
    (subActive ws (.base st) = true ∧
      ∃ sid c X, (step cfg ws.core st).2 = evRecv sid X ∧
      wstep cfg ws (.base st) =
        ((afterSub { ws with core := (step cfg ws.core st).1 } sid c X).1,
         (step cfg ws.core st).2.map WEv.base ++ (afterSub { ws with core := (step cfg ws.core st).1 } sid c X).2)) := by
  cases st with
  | recvEnter sid len =>
    cases hw : ws.w sid with
    | none => left; simp [wstep, recvStepOf, hw, subActive]
    | some c =>
      by_cases ha : c.phase = .entering
      · refine .inr ⟨by simp [subActive, hw, ha], sid, c, _, rfl, ?_⟩
        simp only [wstep, recvStepOf, hw, ha, step]
        generalize (recvEnterS ws.core.shuttingDown (ws.core.sess sid) len).2 = X
        cases X <;> simp [evRecv, recvOf]
      · left; simp [wstep, recvStepOf, hw, ha, subActive]
  | recvWake sid t =>
    cases hw : ws.w sid with
    | none => left; simp [wstep, recvStepOf, hw, subActive]
    | some c =>
      by_cases ha : c.phase = .inCall
      · refine .inr ⟨by simp [subActive, hw, ha], sid, c, _, rfl, ?_⟩
        simp only [wstep, recvStepOf, hw, ha, step]
        generalize (recvWakeS ws.core.shuttingDown (ws.core.sess sid) t).2 = X
        cases X <;> simp [evRecv, recvOf]
      · left; simp [wstep, recvStepOf, hw, ha, subActive]
  | _ => exact .inl ⟨rfl, rfl⟩

/-- W1: what a section of the running wrapper's sub-call answers, `Timeout` apart, the wrapper returns in the same step, and its call is over -/
theorem subcall_returned {cfg : Cfg} {ws : WState} {st : Step} {sid : Nat} {r : RecvRes} (ha : subActive ws (.base st) = true)
    (hev : Ev.recvRet sid r ∈ (step cfg ws.core st).2) (hr : r ≠ .timeout) :
    WEv.wrapRet sid r ∈ (wstep cfg ws (.base st)).2 ∧ (wstep cfg ws (.base st)).1.w sid = none := by
  rcases wstep_base_cases cfg ws st with ⟨hn, _⟩ | ⟨_, sid', c', X, hX, h⟩
  · exact nomatch hn.symm.trans ha
  · rw [hX] at hev
    obtain ⟨rfl, rfl⟩ := mem_evRecv.mp hev
    rw [h]
    exact ⟨List.mem_append_right _ (afterSub_returns _ _ _ hr).1, (afterSub_returns _ _ _ hr).2⟩

/-- the wrapper's own steps — every step but a `.base` one — leave the core alone and emit nothing, or the one answer the wrapper gives on
its own account: `Cancelled` for a cancelled token, `Timeout` at a loop head past the deadline -/
theorem wstep_own_cases (cfg : Cfg) (ws : WState) (st : WStep) :
    (∃ b, st = .base b) ∨
      ((wstep cfg ws st).1.core = ws.core ∧ coreSteps [st] = [] ∧ subActive ws st = false ∧
        ((wstep cfg ws st).2 = [] ∨ (∃ j, (wstep cfg ws st).2 = [.wrapRet j .cancelled] ∧ ws.tok j = true) ∨
          ∃ j, (wstep cfg ws st).2 = [.wrapRet j .timeout] ∧ st = .wLoop j true)) := by
  cases st with
  | base b => exact .inl ⟨b, rfl⟩
  | cancel j => exact .inr ⟨rfl, rfl, rfl, .inl rfl⟩
  | reset j => exact .inr ⟨rfl, rfl, rfl, .inl rfl⟩
  | wCall j len =>
    refine .inr ?_
    simp only [wstep]
    cases ws.w j with
    | some c => exact ⟨rfl, rfl, rfl, .inl rfl⟩
    | none =>
      cases ht : ws.tok j with
      | false => exact ⟨rfl, rfl, rfl, .inl rfl⟩
      | true => exact ⟨rfl, rfl, rfl, .inr (.inl ⟨j, rfl, ht⟩)⟩
  | wLoop j e =>
    refine .inr ?_
    simp only [wstep]
    cases ws.w j with
    | none => exact ⟨rfl, rfl, rfl, .inl rfl⟩
    | some c =>
      simp only []
      split
      · exact ⟨rfl, rfl, rfl, .inl rfl⟩
      · split
        · next he => exact ⟨rfl, rfl, rfl, .inr (.inr ⟨j, rfl, by rw [he]⟩)⟩
        · split
          · next ht => exact ⟨rfl, rfl, rfl, .inr (.inl ⟨j, rfl, ht⟩)⟩
          · exact ⟨rfl, rfl, rfl, .inl rfl⟩

theorem wrapRet_emitted {cfg : Cfg} {ws : WState} {st : WStep} {sid : Nat} {r : RecvRes}
    (hev : WEv.wrapRet sid r ∈ (wstep cfg ws st).2) :
    (r ≠ .timeout ∧ WEv.base (.recvRet sid r) ∈ (wstep cfg ws st).2) ∨ (r = .cancelled ∧ ws.tok sid = true) ∨
      (r = .timeout ∧ st = .wLoop sid true) := by
  rcases wstep_own_cases cfg ws st with ⟨st, rfl⟩ | ⟨_, _, _, h | ⟨j, h, ht⟩ | ⟨j, h, hs⟩⟩
  · rcases wstep_base_cases cfg ws st with ⟨_, h⟩ | ⟨_, sid', c, X, hX, h⟩
    · rw [h] at hev; simp at hev
    · rw [h] at hev ⊢
      rcases List.mem_append.mp hev with h1 | h1
      · simp at h1
      · obtain ⟨rfl, rfl, hr⟩ := mem_afterSub h1
        exact .inl ⟨hr, List.mem_append_left _ (by rw [hX]; simp [evRecv])⟩
  · rw [h] at hev; cases hev
  · rw [h] at hev; cases List.mem_singleton.mp hev; exact .inr (.inl ⟨rfl, ht⟩)
  · rw [h] at hev; cases List.mem_singleton.mp hev; exact .inr (.inr ⟨rfl, hs⟩)

/-! ## a wrapper run is a core run -/

theorem okW_base {ws : WState} {st : Step} (h : okW ws (.base st) = true) : ok ws.core st = true := by
  cases st <;> simp_all [okW]

theorem wstep_core (cfg : Cfg) (ws : WState) (st : WStep) :
    (wstep cfg ws st).1.core = (run cfg ws.core (coreSteps [st])).1 ∧
      coreEvs (wstep cfg ws st).2 = (run cfg ws.core (coreSteps [st])).2 ∧
      (okW ws st = true → Disciplined cfg ws.core (coreSteps [st])) := by
  rcases wstep_own_cases cfg ws st with ⟨st, rfl⟩ | ⟨h1, h2, _, h⟩
  · have hok : okW ws (.base st) = true → Disciplined cfg ws.core [st] := fun h => ⟨okW_base h, trivial⟩
    simp only [coreSteps, run_cons, run_nil, List.append_nil]
    rcases wstep_base_cases cfg ws st with ⟨_, h⟩ | ⟨_, sid, c, X, _, h⟩
    · rw [h]; exact ⟨rfl, coreEvs_map_base _, hok⟩
    · rw [h]; exact ⟨afterSub_core _ _ _ _, by rw [coreEvs_append, coreEvs_map_base, coreEvs_afterSub, List.append_nil], hok⟩
  · rw [h2, h1]
    refine ⟨rfl, ?_, fun _ => trivial⟩
    rcases h with h | ⟨j, h, _⟩ | ⟨j, h, _⟩ <;> rw [h] <;> rfl

theorem coreSteps_cons (st : WStep) (rest : List WStep) : coreSteps (st :: rest) = coreSteps [st] ++ coreSteps rest := by
  cases st <;> simp [coreSteps]

theorem wrun_nil (cfg : Cfg) (ws : WState) : wrun cfg ws [] = (ws, []) := rfl
theorem wrun_cons (cfg : Cfg) (ws : WState) (st : WStep) (rest : List WStep) :
    wrun cfg ws (st :: rest) =
      ((wrun cfg (wstep cfg ws st).1 rest).1, (wstep cfg ws st).2 ++ (wrun cfg (wstep cfg ws st).1 rest).2) := rfl

theorem wrun_core (cfg : Cfg) : ∀ (wsteps : List WStep) (ws : WState),
    (wrun cfg ws wsteps).1.core = (run cfg ws.core (coreSteps wsteps)).1 ∧
      coreEvs (wrun cfg ws wsteps).2 = (run cfg ws.core (coreSteps wsteps)).2 ∧
      (DisciplinedW cfg ws wsteps → Disciplined cfg ws.core (coreSteps wsteps)) := by
  intro wsteps
  induction wsteps with
  | nil => intro ws; exact ⟨rfl, rfl, fun _ => trivial⟩
  | cons st rest ih =>
    intro ws
    obtain ⟨h1, h2, h3⟩ := wstep_core cfg ws st
    obtain ⟨i1, i2, i3⟩ := ih (wstep cfg ws st).1
    rw [wrun_cons, coreSteps_cons]
    refine ⟨?_, ?_, ?_⟩
    · rw [run_append, ← h1]; exact i1
    · rw [run_append, coreEvs_append, h2, i2, h1]
    · intro hd
      rw [disciplined_append]
      refine ⟨h3 hd.1, ?_⟩
      rw [← h1]; exact i3 hd.2

/-! ## the stream the callers see -/

theorem userBytes_append (sid : Nat) (h : Bool) (a b : List WEv) : userBytes sid h (a ++ b) = userBytes sid h a ++ userBytes sid h b := by
  induction a with
  | nil => rfl
  | cons e r ih =>
    cases e with
    | base e =>
      cases e with
      | recvRet j q => cases q <;> simp [userBytes, ih]
      | cbData j d => simp [userBytes, ih]
      | modeRet j o => simp [userBytes, ih]
      | closeCb j => simp [userBytes, ih]
    | wrapRet j q => cases q <;> simp [userBytes, ih]

/-- with nothing hidden the application sees exactly the core events' bytes -/
theorem userBytes_map_base (sid : Nat) (l : List Ev) : userBytes sid false (l.map WEv.base) = evBytes sid l := by
  induction l with
  | nil => rfl
  | cons e r ih =>
    cases e with
    | recvRet j q => cases q <;> simp [userBytes, evBytes, ih]
    | cbData j d => simp [userBytes, evBytes, ih]
    | modeRet j o => simp [userBytes, evBytes, ih]
    | closeCb j => simp [userBytes, evBytes, ih]

/-- a sub-call section: the hidden `recvRet` and the wrapper's `wrapRet` carry the same bytes -/
theorem userBytes_sub (sid sid' : Nat) (ws : WState) (c : WCall) (X : Option RecvRes) :
    userBytes sid true ((evRecv sid' X).map WEv.base ++ (afterSub ws sid' c X).2) = evBytes sid (evRecv sid' X) := by
  cases X with
  | none => simp [evRecv, afterSub, userBytes, evBytes]
  | some r => cases r <;> simp [evRecv, afterSub, userBytes, evBytes]

/-- one wrapper step hands the application exactly the bytes its core events carry (ANY state, ANY step: a sub-call's `ok bytes` is
returned by the wrapper in the same step, whatever the token says; nothing else of a sub-call is visible) -/
theorem wstep_user (cfg : Cfg) (ws : WState) (st : WStep) (sid : Nat) :
    userBytes sid (subActive ws st) (wstep cfg ws st).2 = evBytes sid (coreEvs (wstep cfg ws st).2) := by
  rcases wstep_own_cases cfg ws st with ⟨st, rfl⟩ | ⟨_, _, h3, h⟩
  · rcases wstep_base_cases cfg ws st with ⟨ha, h⟩ | ⟨ha, j, c, X, hX, h⟩
    · rw [h, ha, userBytes_map_base, coreEvs_map_base]
    · rw [h, ha, hX, userBytes_sub, coreEvs_append, coreEvs_map_base, coreEvs_afterSub, List.append_nil]
  · rw [h3]
    rcases h with h | ⟨j, h, _⟩ | ⟨j, h, _⟩ <;> rw [h] <;> rfl

theorem wrunUser_eq (cfg : Cfg) (sid : Nat) : ∀ (wsteps : List WStep) (ws : WState),
    wrunUser sid cfg ws wsteps = evBytes sid (coreEvs (wrun cfg ws wsteps).2) := by
  intro wsteps
  induction wsteps with
  | nil => intro ws; simp [wrunUser, wrun_nil, coreEvs, evBytes]
  | cons st rest ih =>
    intro ws
    rw [wrun_cons, coreEvs_append, evBytes_append]
    simp only [wrunUser]
    rw [wstep_user, ih]

end Iora.SyncRecv
