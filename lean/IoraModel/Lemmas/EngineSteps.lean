import IoraModel.Lemmas.EngineLifecycle
/-!
# What a step of either engine is (C02)

The shutdown drain, `SInv` (`Inv`, no request in flight between steps, what `stopped` means), and the shape a step has besides a
handler run and the drain: an `Api` step (an API call or timer action of another thread, the loop moving commands, or nothing at all).
`Kind` lists them; `shared_kind`, `Tcp.step_kind` and `Udp.step_kind` say of which kind each input's step is.
-/
namespace Iora.Lifecycle

/-- connect() / connectViaListener(): allocate the id, then enqueue the command built from it.  `apiConnect tls named` and
`apiVia lid k` are this function for their command, by `rfl`. -/
def apiAlloc (mk : Sid → Cmd) (g : G) : G :=
  let sid := g.nextId
  let g := { g with nextId := g.nextId + 1 }
  if g.cmdsClosed then emit (.ret sid false) g
  else emit (.ret sid true) { g with queue := g.queue ++ [mk sid] }

theorem drainClose_cases (sid : Sid) (g : G) :
    ((∀ s, g.table sid = some s → s.closed = true) ∧ drainClose sid g = g) ∨ ∃ s, g.table sid = some s ∧ s.closed = false ∧
      drainClose sid g = emit (.close sid .drainSession)
        { g with table := upd g.table sid (some { s with closed := true }),
                 index := eraseIdx g.cfg.peerEraseGuardedDrain g.index s.pkey sid,
                 closedCnt := g.closedCnt + 1, current := g.current - 1 } := by
  unfold drainClose
  cases hs : g.table sid with
  | none => exact Or.inl ⟨(fun _ h => nomatch h), rfl⟩
  | some s =>
    cases hc : s.closed with
    | true => exact Or.inl ⟨fun _ h => Option.some.inj h ▸ hc, if_pos hc⟩
    | false => exact Or.inr ⟨s, rfl, hc, if_neg (by simp [hc])⟩

theorem TableAll.drainClose {Q : Sess → Prop} {g : G} (sid : Sid) (h : TableAll Q g) (hq : ∀ s, Q s → Q { s with closed := true }) : TableAll Q (drainClose sid g) := by
  rcases drainClose_cases sid g with ⟨_, e⟩ | ⟨s, hs, _, e⟩ <;> rw [e]
  · exact h
  · exact h.upd sid _ (fun s' hs' => Option.some.inj hs' ▸ hq s (h sid s hs)) rfl

theorem inv_drainClose (sid : Sid) {g : G} (h : Inv g) : Inv (drainClose sid g) := by
  rcases drainClose_cases sid g with ⟨_, e⟩ | ⟨s, hs, hcf, e⟩ <;> rw [e]
  · exact h
  · exact h.close_step sid s .drainSession hs hcf (fun x hx => upd_other _ _ _ _ hx) (Or.inr (upd_same _ _ _)) rfl rfl rfl rfl rfl
      (fun k x hx => eraseIdx_spec _ _ _ _ _ _ hx)

theorem inv_drainAll (l : List Sid) {g : G} (h : Inv g) : Inv (drainAll l g) := by
  induction l generalizing g with
  | nil => exact h
  | cons sid r ih => exact ih (inv_drainClose sid h)

/-- the session loop leaves every id it has walked over closed (or absent), and opens no closed entry again; the same argument as
`FdTags.drainLoop_closed` on the fd-tag model -/
theorem drainAll_closed (l : List Sid) (g : G) (x : Sid) (hx : x ∈ l ∨ ∀ s, g.table x = some s → s.closed = true) (s : Sess)
    (hs : (drainAll l g).table x = some s) : s.closed = true := by
  induction l generalizing g with
  | nil => exact hx.elim nofun (· s hs)
  | cons sid r ih =>
    refine ih (drainClose sid g) ?_ hs
    by_cases hr : x ∈ r
    · exact .inl hr
    · refine .inr ?_
      have hx : x = sid ∨ ∀ s, g.table x = some s → s.closed = true := hx.imp_left fun h => (List.mem_cons.1 h).resolve_right hr
      rcases drainClose_cases sid g with ⟨h0, e⟩ | ⟨s0, _, _, e⟩ <;> rw [e]
      · exact hx.elim (· ▸ h0) id
      · intro s' hs'
        by_cases ex : x = sid
        · subst ex; cases (upd_same _ _ _).symm.trans hs'; rfl
        · exact hx.resolve_left ex s' ((upd_other _ _ _ _ ex).symm.trans hs')

theorem drainClose_quiet {E : Prop} (sid : Sid) (g : G) : Quiet E g (drainClose sid g) ∧ (drainClose sid g).nextId = g.nextId := by
  rcases drainClose_cases sid g with ⟨_, e⟩ | ⟨_, _, _, e⟩ <;> rw [e]
  · exact ⟨{}, rfl⟩
  · exact ⟨{ frame := { tr := ⟨_, rfl⟩ } }, rfl⟩

theorem drainAll_quiet {E : Prop} (l : List Sid) (g : G) : Quiet E g (drainAll l g) ∧ (drainAll l g).nextId = g.nextId := by
  induction l generalizing g with
  | nil => exact ⟨{}, rfl⟩
  | cons sid r ih => exact ⟨(drainClose_quiet sid g).1.trans (ih _).1, (ih _).2.trans (drainClose_quiet (E := E) sid g).2⟩

/-- the residual loop of the drain in closed form: every Connect / Via left in the batch gets its close, in order; nothing else
changes.  That it keeps `Inv` goes by the same induction, and is proved with it. -/
theorem residualLoop_eq (n : Nat) (g : G) (hn : g.batch.length ≤ n) (hc : g.cur = none) :
    residualLoop n g = { g with batch := [], tr := g.tr ++ (connSids g.batch).map (.close · .drainResidual) } ∧
    (Inv g → Inv (residualLoop n g)) := by
  induction n generalizing g with
  | zero =>
    have hb : g.batch = [] := List.length_eq_zero_iff.1 (Nat.le_zero.1 hn)
    refine ⟨?_, id⟩
    cases g; cases hb; simp [residualLoop, connSids]
  | succ n ih =>
    unfold residualLoop
    rcases popCmd_cases g with ⟨hb, e⟩ | ⟨c, rest, hb, e⟩ <;> rw [e]
    · refine ⟨?_, id⟩
      cases g; cases hb; simp [connSids]
    · have hl : rest.length ≤ n := by rw [hb] at hn; exact Nat.le_of_succ_le_succ hn
      have hi : Inv g → Inv { g with batch := rest, cur := (connSid c).or g.cur } := fun h => by
        have := inv_popCmd h hc; rwa [e] at this
      cases c
      case connect sid t nm =>
        have := ih (failConnect .drainResidual { g with batch := rest, cur := (connSid (.connect sid t nm)).or g.cur }) hl (failConnect_cur ..)
        refine ⟨this.1.trans ?_, fun h => this.2 (inv_failConnect _ (hi h))⟩
        cases g; cases hb; cases hc; simp [failConnect, emit, connSid, connSids]
      case via sid l k =>
        have := ih (failConnect .drainResidual { g with batch := rest, cur := (connSid (.via sid l k)).or g.cur }) hl (failConnect_cur ..)
        refine ⟨this.1.trans ?_, fun h => this.2 (inv_failConnect _ (hi h))⟩
        cases g; cases hb; cases hc; simp [failConnect, emit, connSid, connSids]
      all_goals
        have := ih { g with batch := rest, cur := g.cur } hl hc
        refine ⟨this.1.trans ?_, fun h => this.2 (hi h)⟩
        cases g; cases hb; simp [connSids]; rfl

/-- the state right after `_sessions.clear()` / closing the queue, before the residual loop; `batch := g1.queue` is
`residual.swap(_cmds)`, and the residual loop runs over it -/
def drainMid (g : G) : G :=
  let g1 := drainAll (List.range g.nextId) g
  { g1 with table := fun _ => none, listeners := fun _ => none, index := fun _ => none,
            cmdsClosed := true, batch := g1.queue, queue := [], phase := .stopped }

theorem drainFinish_eq (g : G) : drainFinish g = residualLoop (drainMid g).batch.length (drainMid g) := rfl

/-- `_sessions.clear()` etc. comes after every entry has been closed: for `Inv` a step that leaves the table alone -/
theorem inv_drainMid {g : G} (h : Inv g) (hb : g.batch = []) : Inv (drainMid g) := by
  have h1 := inv_drainAll (List.range g.nextId) h
  have hf := drainAll_quiet (E := True) (List.range g.nextId) g
  refine h1.step_table none rfl (fun x => .inr ⟨rfl, fun s hs => ?_⟩) (List.append_nil _).symm (.inl rfl) (.inl ?_) rfl rfl rfl nofun
  · have hlt : x < g.nextId := hf.2 ▸ h1.tbl_lt x s hs
    exact drainAll_closed _ g x (.inl (List.mem_range.2 hlt)) s hs
  · simp [drainMid, pend, hf.1.frame.batch, hb]

/-- the drain has run: the engine is stopped with nothing left - no command, no request, no session - and on the way the trace
has only grown and the three flags have stayed -/
structure Drained (g g' : G) : Prop where
  phase : g'.phase = .stopped
  cmdsClosed : g'.cmdsClosed = true
  batch : g'.batch = []
  queue : g'.queue = []
  cur : g'.cur = none
  table : ∀ sid, g'.table sid = none
  stale : g'.stale = g.stale
  dupAnn : g'.dupAnn = g.dupAnn
  envBad : g'.envBad = g.envBad
  tr : TrExt g.tr g'
  inv : Inv g → g.batch = [] → Inv g'

theorem drainFinish_drained (g : G) (hc : g.cur = none) : Drained g (drainFinish g) := by
  have hf := (drainAll_quiet (E := True) (List.range g.nextId) g).1
  obtain ⟨e, he⟩ := hf.frame.tr
  obtain ⟨hrun, hinv⟩ := residualLoop_eq _ (drainMid g) (Nat.le_refl _) (hf.cur_none hc)
  rw [drainFinish_eq, hrun]
  exact ⟨rfl, rfl, rfl, rfl, hf.cur_none hc, fun _ => rfl, hf.stale, hf.dupAnn, hf.envBad trivial,
    ⟨e ++ _, by show (drainAll _ g).tr ++ _ = _; rw [he, List.append_assoc]⟩, fun h hb => hrun ▸ hinv (inv_drainMid h hb)⟩

/-- the command queue is closed exactly in phase `stopped`, and then nothing is left: no command, no session -/
structure Stop (g : G) : Prop where
  closed_stopped : g.cmdsClosed = true → g.phase = .stopped
  stopped : g.phase = .stopped → g.cmdsClosed = true ∧ g.batch = [] ∧ g.queue = [] ∧ ∀ sid, g.table sid = none

/-- the invariant between steps: `Inv`, no connect request in flight, and `Stop` -/
structure SInv (g : G) : Prop where
  inv : Inv g
  cur : g.cur = none
  stop : Stop g

theorem Stop.queue_open {g : G} (h : Stop g) (hne : g.phase ≠ .stopped) : g.cmdsClosed = false := by
  cases e : g.cmdsClosed with
  | false => rfl
  | true => exact absurd (h.closed_stopped e) hne

theorem Stop.of_not_stopped {g g' : G} (h : Stop g) (hne : g.phase ≠ .stopped) (hp : g'.phase = g.phase) (hc : g'.cmdsClosed = g.cmdsClosed) :
    Stop g' :=
  ⟨fun hcl => (nomatch (hc.trans (h.queue_open hne)).symm.trans hcl), fun hs => absurd (hp ▸ hs) hne⟩

theorem Stop.congr {g g' : G} (h : Stop g) (hp : g'.phase = g.phase) (hc : g'.cmdsClosed = g.cmdsClosed)
    (hb : g'.batch = g.batch) (hq : g.cmdsClosed = true → g'.queue = g.queue) (ht : g'.table = g.table) : Stop g' := by
  constructor
  · intro hcl; rw [hc] at hcl; rw [hp]; exact h.closed_stopped hcl
  · intro hs; rw [hp] at hs
    obtain ⟨h1, h2, h3, h4⟩ := h.stopped hs
    exact ⟨by rw [hc]; exact h1, by rw [hb]; exact h2, by rw [hq h1]; exact h3, by rw [ht]; exact h4⟩

/-- a step that runs no handler: an API call or timer action of another thread, or the I/O loop moving commands between its
lists.  The session table, `stale` and the two order flags are untouched, the session loop of the drain is not left, and the work
list `batch ++ queue` only grows at its tail - by connects of fresh ids at most. -/
structure Api (g g' : G) : Prop where
  table : g'.table = g.table := by rfl
  stale : g'.stale = g.stale := by rfl
  dupAnn : g'.dupAnn = g.dupAnn := by rfl
  envBad : g'.envBad = g.envBad := by rfl
  drainSess : g.phase = .drainSess → g'.phase = .drainSess := by exact id
  sinv : SInv g → SInv g'
  work : ∃ tail, g'.batch ++ g'.queue = g.batch ++ g.queue ++ tail ∧ ∀ x, x ∈ connSids tail → g.nextId ≤ x := by
    exact ⟨[], (List.append_nil _).symm, nofun⟩
  tr : TrExt g.tr g' := by exact ⟨[], (List.append_nil _).symm⟩

theorem Api.alloc (mk : Sid → Cmd) (hmk : ∀ sid, connSid (mk sid) = some sid) (g : G) : Api g (apiAlloc mk g) := by
  unfold apiAlloc; dsimp only
  split
  · exact {
      sinv := fun h => ⟨h.inv.step_table (some (.ret g.nextId false)) rfl (fun _ => .inl rfl) rfl (.inr rfl) (.inl (by simp [emit, pend])) rfl rfl rfl
          (fun k x hx => h.inv.idx_live k x hx) (fun e a he ha => by cases he; cases ha; exact ⟨rfl, Nat.lt_succ_self _⟩),
        h.cur, h.stop.congr rfl rfl rfl (fun _ => rfl) rfl⟩
      tr := ⟨[_], rfl⟩ }
  · rename_i hc
    exact {
      sinv := fun h => ⟨h.inv.step_table (some (.ret g.nextId true)) rfl (fun _ => .inl rfl) rfl (.inr rfl)
          (.inr ⟨by simp [emit, pend, hmk], Nat.lt_succ_self _⟩) rfl rfl rfl (fun k x hx => h.inv.idx_live k x hx)
          (fun e a he ha => by cases he; cases ha; exact ⟨rfl, Nat.lt_succ_self _⟩) (fun r he => by cases he; simp [emit, pend, hmk]),
        h.cur, h.stop.of_not_stopped (fun hs => hc (by simpa using (h.stop.stopped hs).1)) rfl rfl⟩
      work := ⟨[mk g.nextId], (List.append_assoc ..).symm, fun x hx => by simp [connSids, hmk] at hx; exact Nat.le_of_eq hx.symm⟩
      tr := ⟨[_], rfl⟩ }

/-- enqueueing a command that carries no fresh id (Close / Send / AddListener / Shutdown; the timer closes) -/
theorem Api.plain (c : Cmd) (hc : connSid c = none) (g : G) : Api g (apiPlain c g) := by
  unfold apiPlain enqueue
  split
  · exact { sinv := id }
  · rename_i hq
    exact {
      sinv := fun h => ⟨h.inv.frame rfl rfl (by simp [pend, hc]) rfl rfl rfl rfl, h.cur,
        h.stop.of_not_stopped (fun hs => hq (h.stop.stopped hs).1) rfl rfl⟩
      work := ⟨[c], (List.append_assoc ..).symm, fun x hx => by simp [connSids, hc] at hx⟩ }

/-- stop(): the `_running` CAS, then the Shutdown command -/
theorem Api.stop (g : G) : Api g (apiStop g) := by
  unfold apiStop
  split
  · have a := Api.plain .shutdown rfl { g with running := false }
    exact { a with sinv := fun h => a.sinv ⟨inv_running _ h.inv, h.cur, h.stop.congr rfl rfl rfl (fun _ => rfl) rfl⟩ }
  · exact { sinv := id }

theorem Api.start (g : G) : Api g (apiStart g) := by
  unfold apiStart
  split
  · rename_i hg
    exact { drainSess := fun hp => by rw [hg.1] at hp; cases hp
            sinv := fun h => ⟨h.inv.frame rfl rfl rfl rfl rfl rfl rfl, h.cur, ⟨nofun, nofun⟩⟩ }
  · exact { sinv := id }

/-- process() takes the queue as its batch: `q.swap(_cmds)`, in the loop or at the start of the drain -/
theorem Api.swap (g : G) (p : Phase) (hb : g.batch = []) (hp : g.phase = .loop) (hp' : p = g.phase ∨ p = .drainProc) :
    Api g { g with phase := p, batch := g.queue, queue := [] } where
  drainSess := fun h => by rw [hp] at h; cases h
  sinv := fun h =>
    have hne : g.phase ≠ .stopped := fun e => nomatch hp.symm.trans e
    ⟨h.inv.frame rfl rfl (by simp [pend, hb]) rfl rfl rfl rfl, h.cur,
      ⟨fun hc => (nomatch (h.stop.queue_open hne).symm.trans hc), fun hs => hp'.elim (fun e => absurd (e.symm.trans hs) hne) (fun e => nomatch e.symm.trans hs)⟩⟩
  work := ⟨[], by simp [hb], nofun⟩

/-- what one step of either engine is: an `Api` step (nothing at all is one: `Kind.idle`), a handler run on the state as it is
(`run`), one iteration of the command loop of process() (`cmd`: the command is taken off the batch, its handler runs, no request is
left in flight, and the handler of the application's `close sid` is `closeCmd`), one iteration of the drain's session loop, or the
rest of the drain -/
inductive Kind (tcp : Bool) (E : Prop) (g : G) : G → Prop
  | api {g'} (a : Api g g') : Kind tcp E g g'
  | run {g'} (hp : g.phase = .loop) (w : Walk tcp E g g') : Kind tcp E g g'
  | cmd {g'} (hp : g.phase = .loop ∨ g.phase = .drainProc) (hc : g.cur = none) (w : Walk tcp E (popCmd g).2 g') (hc' : g'.cur = none)
      (hclose : ∀ sid rest, g.batch = .close sid .app :: rest → g' = closeCmd sid .app { g with batch := rest }) : Kind tcp E g g'
  | drainClose (sid : Sid) (hp : g.phase = .drainProc ∨ g.phase = .drainSess) :
      Kind tcp E g (drainClose sid { g with phase := .drainSess })
  | drainFinish (hb : g.batch = []) (hc : g.cur = none) : Kind tcp E g (drainFinish g)

variable {tcp : Bool} {E : Prop} {g g' : G}

theorem Kind.idle : Kind tcp E g g := .api { sinv := id }

theorem shared_kind (i : In) (he : stepShared g i = some g') : Kind tcp E g g' := by
  cases i <;> cases he
  case apiConnect tls named => exact .api (.alloc (fun sid => .connect sid tls named) (fun _ => rfl) g)
  case apiStop => exact .api (.stop g)
  case apiStart => exact .api (.start g)
  case ioSwap =>
    split
    · rename_i hp
      unfold ioSwap; split
      · rename_i hb; exact .api (Api.swap g g.phase hb hp (.inl rfl))
      · exact .idle
    · exact .idle
  case ioGc picks =>
    split
    · rename_i hp; exact .run hp (runGc_walk picks g)
    · exact .idle
  case ioDrainBegin =>
    split
    · rename_i hg; exact .api (Api.swap g .drainProc hg.2.2.1 hg.1 (.inr rfl))
    · exact .idle
  case ioDrainClose sid =>
    split
    · rename_i hg; exact .drainClose sid hg.1
    · exact .idle
  case ioDrainFinish =>
    split
    · rename_i hg; exact .drainFinish hg.2.1 hg.2.2
    · exact .idle
  all_goals exact .api (.plain _ rfl g)

theorem Tcp.step_kind (g : G) (i : In) (hn : g.phase = .loop ∨ g.phase = .drainProc → NoFlag g) (hj : JInv g) :
    Kind true (Tcp.envOk g i = true) g (Tcp.step g i) := by
  unfold Tcp.step
  split
  · rename_i g' he; exact shared_kind i he
  · split
    · exact .api (.plain _ rfl g)
    · split
      · rename_i hg
        have w := Tcp.dispatch_walk (E := Tcp.envOk g (.ioCmd ‹_›) = true) ‹_› g hg.2 (hn hg.1)
        exact .cmd hg.1 hg.2 w.1 w.2 fun sid rest hb => by unfold Tcp.dispatch popCmd; rw [hb]
      · exact .idle
    · split
      · rename_i hp; exact .run hp (Tcp.onListener_walk ..)
      · exact .idle
    · split
      · rename_i hp
        -- `Tcp.envOk g (.ioSession ..)` is `envOkSession ..`: here the environment contract reaches the handler
        exact .run hp (Tcp.onSession_walk _ _ _ _ _ g (hn (.inl hp)) hj id)
      · exact .idle
    · exact .idle

theorem Udp.step_kind (g : G) (i : In) (hi : Inv g) (hn : g.phase = .loop ∨ g.phase = .drainProc → NoFlag g) (ha : AllAnn g) :
    Kind false True g (Udp.step g i) := by
  unfold Udp.step
  split
  · rename_i g' he; exact shared_kind i he
  · split
    · rename_i lid k _; exact .api (.alloc (fun sid => .via sid lid k) (fun _ => rfl) g)
    · split
      · rename_i hg
        have w := Udp.dispatch_walk (E := True) ‹_› g hg.2 (hn hg.1)
        exact .cmd hg.1 hg.2 w.1 w.2 fun sid rest hb => by unfold Udp.dispatch popCmd; rw [hb]
      · exact .idle
    · split
      · rename_i hp; exact .run hp (Udp.listener_walk _ _ _ _ g hi ha)
      · exact .idle
    · split
      · rename_i hp; exact .run hp (Udp.onClient_walk _ _ _ _ g (hn (.inl hp)) ha)
      · exact .idle
    · exact .idle

/-- the state of an engine before anything happened (any configuration) -/
def init (cfg : Cfg) : G := { cfg := cfg }

theorem sinv_init (cfg : Cfg) : SInv (init cfg) := by
  refine ⟨?_, rfl, ⟨by simp [init], by simp [init]⟩⟩
  constructor <;> (try simp [init, pend, liveCount, live, closesOf, annOf, retOf, allocsOf])
  exact ⟨trivial, fun _ => trivial, fun _ => trivial, by intro sid s hs; simp at hs⟩

theorem run_append (stepf : G → In → G) (g : G) (is₁ is₂ : List In) : run stepf g (is₁ ++ is₂) = run stepf (run stepf g is₁) is₂ :=
  List.foldl_append

theorem run_inv {I : G → Prop} (stepf : G → In → G) (hs : ∀ g i, I g → I (stepf g i)) (g : G) (h : I g) (is : List In) :
    I (run stepf g is) := by
  unfold run
  induction is generalizing g with
  | nil => exact h
  | cons i r ih => exact ih _ (hs g i h)

end Iora.Lifecycle
