import IoraModel.Lemmas.TpBase
/-!
# C09 — what a step does

A step is described once, as `Step`: a conjunction of views (the lock word, queue / worker map / flags, flags and log, the per-task counters,
the submission ids, a controller's move), each an equation between tuples or a small inductive chosen so that it holds by `rfl`, or by one
constructor, at every concrete transition of the model.  `Step` is proved once for each of the three step functions, for a wake-up and for a
re-acquisition; a step of the pool that is not a stutter is a `PoolStep` (`step_elim`), and the invariants (TpInv, TpPool) are kept along a
`PoolStep` without looking at the step functions again.  The one-step properties are views of `Step` (P4: `res`, P5a: `StepEff.exit_empty`).
-/
namespace Iora.ThreadPool

/-- the owner of `_mutex` after a step of thread `t` whose state says it holds the mutex before (`h`) / after (`h'`) -/
def ownerAfter (o : Option Tid) (t : Tid) : Bool → Bool → Option Tid
  | false, true => some t
  | true, false => none
  | _, _ => o

/-- Lock discipline of one step: the owner changes exactly as the thread's state says, and a thread comes to hold the mutex only
through a pending operation that acquires it (`l`, see `acqM`).  One equation, so that it holds by `rfl` for every concrete transition; read
it through `LockStep.cases`. -/
def LockStep (sh sh' : Shared) (t : Tid) (l h h' : Bool) : Prop :=
  (sh'.owner, (!h && h') && !l) = (ownerAfter sh.owner t h h', false)

theorem LockStep.cases {sh sh' : Shared} {t : Tid} {l h h' : Bool} (x : LockStep sh sh' t l h h') :
    (sh'.owner = sh.owner ∧ h' = h) ∨ (l = true ∧ sh'.owner = some t ∧ h' = true) ∨ (h = true ∧ sh'.owner = none ∧ h' = false) := by
  cases h <;> cases h' <;> cases l <;> simp_all [LockStep, ownerAfter]

/-- the states in which a created thread starts (`Step.fresh`) -/
def isFresh : Thread → Bool
  | .worker .start => true
  | .sub (.start _) => true
  | .main .startAux _ => true
  | _ => false

def freshPost : Post → Bool
  | .spawn nt => isFresh nt
  | _ => true

/-- Three facts of a step of an enqueue call that hold by `rfl` at (nearly) every leaf, as one equation, so that `callStep_cases` is gone
through once for them: `fview` unchanged, the thread created is fresh, owner and lock bit as `LockStep` says. -/
theorem callStep_frame (cfg : Cfg) (sh : Shared) (n : Nat) (t : Tid) (c : CallSt) :
    (fview (callStep cfg sh n t c).1, freshPost (callStep cfg sh n t c).2.2, (callStep cfg sh n t c).1.owner,
      (!holdsCall c && holdsOut (callStep cfg sh n t c).2.1) && !c.locks) =
    (fview sh, true, ownerAfter sh.owner t (holdsCall c) (holdsOut (callStep cfg sh n t c).2.1), false) :=
  callStep_cases (P := fun c x => (fview x.1, freshPost x.2.2, x.1.owner, (!holdsCall c && holdsOut x.2.1) && !c.locks) =
      (fview sh, true, ownerAfter sh.owner t (holdsCall c) (holdsOut x.2.1), false)) cfg sh n t
    rfl (fun _ _ _ => rfl) (fun _ rest _ => by rw [nextCall_holds]; rfl) (fun _ _ _ => rfl) (fun _ _ _ _ => rfl)
    (fun _ _ e _ _ he => by rcases he with ⟨rfl, _⟩ | ⟨rfl, _⟩ <;> rfl) (fun _ _ => rfl) (fun _ _ => rfl)
    (fun rest _ => by rw [nextCall_holds]; rfl) (fun rest _ => by rw [nextCall_holds]; rfl) c

theorem callStep_owner (cfg : Cfg) (sh : Shared) (n : Nat) (t : Tid) (c : CallSt) :
    LockStep sh (callStep cfg sh n t c).1 t c.locks (holdsCall c) (holdsOut (callStep cfg sh n t c).2.1) := by
  have h := callStep_frame cfg sh n t c
  exact congrArg (fun x => (x.2.2.1, x.2.2.2)) h

theorem callStep_fresh (cfg : Cfg) (sh : Shared) (n : Nat) (t : Tid) (c : CallSt) : freshPost (callStep cfg sh n t c).2.2 = true :=
  congrArg (·.2.1) (callStep_frame cfg sh n t c)

theorem callStep_fview (cfg : Cfg) (sh : Shared) (n t : Nat) (c : CallSt) : fview (callStep cfg sh n t c).1 = fview sh :=
  congrArg (·.1) (callStep_frame cfg sh n t c)

@[simp] theorem afterWait_holds (cfg : Cfg) (sh : Shared) (t : Tid) (res : Bool) :
    holdsW (afterWait cfg sh t res).2 = true :=
  afterWait_cases (P := fun x => holdsW x.2 = true) cfg sh t res rfl (fun _ _ => rfl) (fun _ => rfl) (fun _ _ _ => rfl)

@[simp] theorem reacq_holds (cfg : Cfg) (sh : Shared) (t : Tid) (late : Bool) :
    holdsW (reacq cfg sh t late).2 = true := by
  unfold reacq; (repeat' split) <;> first | rfl | exact afterWait_holds ..

theorem callStep_spawn (cfg : Cfg) (sh : Shared) (n : Nat) (t : Tid) (c : CallSt) (nt : Thread)
    (h : (callStep cfg sh n t c).2.2 = .spawn nt) : nt = newWorker ∧ ∃ rest cid, c = .inCall rest cid .create := by
  revert h
  refine callStep_cases (P := fun c x => x.2.2 = .spawn nt → nt = newWorker ∧ ∃ rest cid, c = .inCall rest cid .create) cfg sh n t
    ?_ ?_ ?_ ?_ ?_ ?_ (fun rest cid h => ⟨(Post.spawn.inj h).symm, rest, cid, rfl⟩) ?_ ?_ ?_ c <;> intros <;> contradiction

structure SameQ (sh sh' : Shared) : Prop where
  tasks : sh'.tasks = sh.tasks
  threads : sh'.threads = sh.threads
  shutdown : sh'.shutdown = sh.shutdown
  quiesced : sh'.quiesced = sh.quiesced

theorem SameQ.rfl' (sh : Shared) : SameQ sh sh := ⟨rfl, rfl, rfl, rfl⟩

theorem SameQ.trans {a b c : Shared} (h1 : SameQ a b) (h2 : SameQ b c) : SameQ a c :=
  ⟨h2.tasks.trans h1.tasks, h2.threads.trans h1.threads, h2.shutdown.trans h1.shutdown, h2.quiesced.trans h1.quiesced⟩

theorem SameQ.of_qview {sh sh' : Shared} (h : qview sh' = qview sh) : SameQ sh sh' :=
  ⟨congrArg (·.1) h, congrArg (·.2.1) h, congrArg (·.2.2.1) h, congrArg (·.2.2.2) h⟩

/-- the pending operation acquires `_mutex`: a `lock`, or the re-acquisition that ends a wait -/
def acqM (th : Thread) : Bool := (wokenBy th).isSome || locksM th

/-- What one step of a runnable thread does to the queue, the worker map `_threads` and the flags `_shutdown` / "quiesced", and between which
classes of states (`atCreate`, `tailW`, `goneW`, `targetOf`) the thread moves: what `WInv`, `SizeInv` and `QOk` read of a step. -/
inductive StepEff (cfg : Cfg) (sh : Shared) (n t : Nat) (th : Thread) (alt : Nat) (sh' : Shared) (th' : Thread) (post : Post) : Prop
  | quiet (hq : SameQ sh sh') (hpost : ∀ nt, post = .spawn nt → isWorker nt = false)
      (hat : atCreate th = false) (hat' : atCreate th' = false)
      (htail : tailW th' = tailW th) (hgone : goneW th' = goneW th) (htgt : targetOf th' = targetOf th)
      (hcur : cur th = none → cur th' = none)
  /-- `_tasks.emplace(f)`; the caller goes on to create a worker iff there is room (`hat'`).  `hacq`: the push is in the step that acquires
  `_mutex`, so the mutex was free and no registered worker is between its exit decision and its erase (`PoolStep.winv`).  `hcall`: the
  constructor does not submit, and a worker submits only from the body of a task it has in hand (`SizeInv.quietCtor`). -/
  | push (cid : Nat) (hs : sh.shutdown = false) (htasks : sh'.tasks = sh.tasks ++ [cid]) (hthreads : sh'.threads = sh.threads)
      (hshut : sh'.shutdown = sh.shutdown) (hquiesced : sh'.quiesced = sh.quiesced) (hpost : post = .none)
      (hat : atCreate th = false) (hat' : (atCreate th' = true ∧ sh.threads.length < cfg.effMax) ∨ (atCreate th' = false ∧ cfg.effMax ≤ sh.threads.length))
      (htail : tailW th' = tailW th) (hgone : goneW th' = goneW th)
      (htgt : targetOf th' = targetOf th) (hacq : acqM th = true)
      (hcall : inCtor th = false ∧ (isWorker th = true → cur th ≠ none))
  /-- `std::thread t(...)` + `_threads.emplace` (inside the critical section), by a caller that has pushed or by the constructor -/
  | create (hat : atCreate th = true ∨ ∃ r, th = .main .cC r) (hat' : atCreate th' = false) (htasks : sh'.tasks = sh.tasks)
      (hthreads : sh'.threads = sh.threads ++ [n]) (hshut : sh'.shutdown = sh.shutdown) (hquiesced : sh'.quiesced = sh.quiesced)
      (hpost : post = .spawn newWorker) (htail : tailW th' = tailW th)
      (hgone : goneW th' = goneW th) (htgt : targetOf th' = targetOf th)
  /-- the worker decides to exit (idle time-out above the minimum, or `_shutdown && _tasks.empty()`); the queue is empty in the same
  critical section.  On the time-out a worker that finds itself in `_threads` goes on to `detach` and erases its entry (`selfErase`). -/
  | exit (hq : SameQ sh sh') (hpost : post = .none) (hth : isWorker th = true ∧ tailW th = false ∧ atCreate th = false) (hempty : sh.tasks = [])
      (hth' : (th' = .worker .detach ∧ t ∈ sh.threads ∧ sh.shutdown = false) ∨
        (th' = .worker .unlockExit ∧ (t ∉ sh.threads ∨ sh.shutdown = true)))
  /-- the worker takes the front task -/
  | pop (id : Nat) (htasks : sh.tasks = id :: sh'.tasks) (hthreads : sh'.threads = sh.threads) (hshut : sh'.shutdown = sh.shutdown)
      (hquiesced : sh'.quiesced = sh.quiesced) (hpost : post = .none) (hth : isWorker th = true ∧ tailW th = false ∧ atCreate th = false)
      (hth' : th' = .worker (.unlockTask id))
  /-- idle exit: `_threads.erase(it)` -/
  | selfErase (hth : th = .worker .detach) (hth' : th' = .worker .unlockExit) (htasks : sh'.tasks = sh.tasks)
      (hthreads : sh'.threads = sh.threads.erase t) (hshut : sh'.shutdown = sh.shutdown) (hquiesced : sh'.quiesced = sh.quiesced)
      (hpost : post = .none)
  /-- join loop: take one entry out of `_threads` -/
  | pick (r : MRegs) (hth : th = .main .jL r) (hth' : th' = .main (.jU alt) r) (hmem : alt ∈ sh.threads) (htasks : sh'.tasks = sh.tasks)
      (hthreads : sh'.threads = sh.threads.erase alt) (hshut : sh'.shutdown = sh.shutdown) (hquiesced : sh'.quiesced = sh.quiesced)
      (hpost : post = .none)
  /-- join loop: `_threads` is empty -/
  | quiesce (r : MRegs) (hth : th = .main .jL r) (hth' : th' = .main .jUnone r) (hempty : sh.threads = []) (htasks : sh'.tasks = sh.tasks)
      (hthreads : sh'.threads = sh.threads) (hshut : sh'.shutdown = sh.shutdown) (hquiesced : sh'.quiesced = true) (hpost : post = .none)
  /-- join loop: `join()` (or, in DETACHED mode, `detach()`) has returned -/
  | joined (w : Tid) (r : MRegs) (hth : th = .main (.jJoin w) r ∨ th = .main (.jDetach w) r) (hth' : th' = .main .jL r)
      (hq : SameQ sh sh') (hpost : post = .none)
  /-- `_shutdown = true` under the mutex -/
  | setShut (r r' : MRegs) (hth : th = .main .sFlagL r) (hth' : th' = .main .sFlagU r') (hs : sh.shutdown = false) (htasks : sh'.tasks = sh.tasks)
      (hthreads : sh'.threads = sh.threads) (hshut : sh'.shutdown = true) (hquiesced : sh'.quiesced = sh.quiesced) (hpost : post = .none)
  /-- inside `reset()` / `start()` (only with `Cfg.allowRestart`): nothing is said of `sh'`, and every user excludes the case: by `NoRs`, or
  (`exit_empty`) because the acting thread is a worker -/
  | restart (hth : restartTh th = true)

/-- P5a: a step takes a worker from its loop into its exit path only with the queue empty -/
theorem StepEff.exit_empty {cfg : Cfg} {sh sh' : Shared} {n t alt : Nat} {th th' : Thread} {post : Post}
    (h : StepEff cfg sh n t th alt sh' th' post) (hw : isWorker th = true) (h0 : tailW th = false) (h1 : tailW th' = true) :
    sh.tasks = [] ∧ sh'.tasks = [] := by
  match h with
  | .quiet (htail := e) .. | .push (htail := e) .. | .create (htail := e) .. => rw [e, h0] at h1; cases h1
  | .exit (hq := hq) (hempty := he) .. => exact ⟨he, hq.tasks.trans he⟩
  | .pop (hth' := e) .. => rw [e] at h1; cases h1
  | .selfErase (hth := e) .. => rw [e] at h0; cases h0
  | .pick (hth := e) .. | .quiesce (hth := e) .. | .setShut (hth := e) .. => rw [e] at hw; cases hw
  | .joined (hth := e) .. => rcases e with e | e <;> rw [e] at hw <;> cases hw
  | .restart e => cases th <;> first | (cases hw; done) | cases e

theorem post_none_sub (nt : Thread) (h : Post.none = Post.spawn nt) : ∃ sc, nt = .sub (.start sc) := by cases h

theorem post_wakeOne_sub (nt : Thread) (h : Post.wakeOne = Post.spawn nt) : ∃ sc, nt = .sub (.start sc) := by cases h

theorem post_wakeAll_sub (nt : Thread) (h : Post.wakeAll = Post.spawn nt) : ∃ sc, nt = .sub (.start sc) := by cases h

def CallSt.atCreate : CallSt → Bool
  | .inCall _ _ .create => true
  | _ => false

def CallOut.atCreate : CallOut → Bool
  | .more c => c.atCreate
  | .done => false

theorem atCreate_body (id : Nat) (c : CallSt) : atCreate (.worker (.body id c)) = c.atCreate := by
  cases c with
  | yield_ sc => rfl
  | inCall rest cid e => cases e <;> rfl

theorem atCreate_run (c : CallSt) : atCreate (.sub (.run c)) = c.atCreate := by
  cases c with
  | yield_ sc => rfl
  | inCall rest cid e => cases e <;> rfl

theorem atCreate_inCall (c : CallSt) (r : MRegs) : atCreate (.main (.inCall c) r) = c.atCreate := by
  cases c with
  | yield_ sc => rfl
  | inCall rest cid e => cases e <;> rfl

theorem nextCall_atCreate (rest : List Act) : (nextCall rest).atCreate = false := by
  unfold nextCall; split <;> rfl

def spawnsWorker : Post → Bool
  | .spawn nt => isWorker nt
  | _ => false

/-- a step that leaves the queue etc. alone, creates no worker, and in which the acting thread neither is nor becomes a creator
(one equation: `rfl` for a concrete transition; components: `qview`, no worker spawned, `atCreate` before / after,
then `tailW`, `goneW`, `targetOf` unchanged, and "nothing in hand stays nothing in hand") -/
theorem quiet_of_eq {cfg : Cfg} {sh sh' : Shared} {n t alt : Nat} {th th' : Thread} {post : Post}
    (h : (qview sh', spawnsWorker post, atCreate th, atCreate th', tailW th', goneW th', targetOf th',
        (cur th').isSome && (cur th).isNone) = (qview sh, false, false, false, tailW th, goneW th, targetOf th, false)) :
    StepEff cfg sh n t th alt sh' th' post :=
  .quiet (.of_qview (congrArg (·.1) h))
    (fun nt e => by have hw := congrArg (·.2.1) h; rw [e] at hw; exact hw)
    (congrArg (·.2.2.1) h) (congrArg (·.2.2.2.1) h) (congrArg (·.2.2.2.2.1) h) (congrArg (·.2.2.2.2.2.1) h)
    (congrArg (·.2.2.2.2.2.2.1) h)
    (fun e => by have hb := congrArg (·.2.2.2.2.2.2.2) h; rw [e] at hb; cases hc : cur th' <;> simp_all)

/-- One step of an enqueue call made by thread `th`, which becomes `th'`; `sh'` is the result of `callStep` up to `SameQ` (a task body
that ends with the call goes through `bodyEnd`).  What the callers differ in is given as hypotheses. -/
theorem call_eff (cfg : Cfg) (sh : Shared) (n t alt : Nat) (th : Thread) (c : CallSt)
    (hat : atCreate th = c.atCreate) (hlk : acqM th = c.locks) (th' : Thread) (sh' : Shared)
    (hq : SameQ (callStep cfg sh n t c).1 sh') (hat' : atCreate th' = (callStep cfg sh n t c).2.1.atCreate)
    (htail : tailW th' = tailW th) (hgone : goneW th' = goneW th)
    (htgt : targetOf th' = targetOf th) (hcur : cur th = none → cur th' = none)
    (hcall : inCtor th = false ∧ (isWorker th = true → cur th ≠ none)) :
    StepEff cfg sh n t th alt sh' th' (callStep cfg sh n t c).2.2 := by
  revert hat hlk hq hat'
  have same : ∀ {c : CallSt} {x : Shared × CallOut × Post}, SameQ sh x.1 → spawnsWorker x.2.2 = false → c.atCreate = false →
      x.2.1.atCreate = false → atCreate th = c.atCreate → acqM th = c.locks → SameQ x.1 sh' → atCreate th' = x.2.1.atCreate →
      StepEff cfg sh n t th alt sh' th' x.2.2 := fun h0 hp hc ho hat _ hq hat' =>
    .quiet (h0.trans hq) (fun nt e => by rw [e] at hp; exact hp) (hat.trans hc) (hat'.trans ho) htail hgone htgt hcur
  exact callStep_cases (P := fun c x => atCreate th = c.atCreate → acqM th = c.locks → SameQ x.1 sh' → atCreate th' = x.2.1.atCreate →
      StepEff cfg sh n t th alt sh' th' x.2.2) cfg sh n t
    (same (.of_qview rfl) rfl rfl rfl) (fun _ _ _ => same (.of_qview rfl) rfl rfl rfl)
    (fun _ rest _ => same (.of_qview rfl) rfl rfl (nextCall_atCreate rest))
    (fun _ _ _ => same (.of_qview rfl) rfl rfl rfl) (fun _ _ _ _ => same (.of_qview rfl) rfl rfl rfl)
    (fun rest cid e hs _ he hat hlk hq hat' => .push cid hs (hq.tasks.trans rfl) (hq.threads.trans rfl) (hq.shutdown.trans rfl)
      (hq.quiesced.trans rfl) rfl hat
      (he.imp (fun ⟨e, h⟩ => ⟨by rw [hat', e]; rfl, h⟩) (fun ⟨e, h⟩ => ⟨by rw [hat', e]; rfl, h⟩)) htail hgone htgt hlk hcall)
    (fun _ _ hat _ hq hat' => .create (.inl hat) hat' (hq.tasks.trans rfl) (hq.threads.trans rfl) (hq.shutdown.trans rfl)
      (hq.quiesced.trans rfl) rfl htail hgone htgt)
    (fun _ _ => same (.of_qview rfl) rfl rfl rfl) (fun rest _ => same (.of_qview rfl) rfl rfl (nextCall_atCreate rest))
    (fun rest _ => same (.of_qview rfl) rfl rfl (nextCall_atCreate rest)) c

theorem calm_atCreate (pc : MPc) (r : MRegs) (h : calmPc pc = true) : atCreate (.main pc r) = false ∧ targetOf (.main pc r) = none := by
  cases pc <;> simp [calmPc] at h <;> simp [atCreate, targetOf]
  next c => cases c with
    | yield_ sc => simp
    | inCall rest cid e => cases e <;> simp at h <;> simp

/-- a controller step that leaves the queue etc. alone, creates no worker and goes from a calm pc to a calm pc (one equation:
`rfl` for a concrete transition) -/
theorem quiet_main (cfg : Cfg) (sh sh' : Shared) (n t alt : Nat) (pc pc' : MPc) (r r' : MRegs) (post : Post)
    (h : (qview sh', spawnsWorker post, calmPc pc, calmPc pc') = (qview sh, false, true, true)) :
    StepEff cfg sh n t (.main pc r) alt sh' (.main pc' r') post := by
  have hc := calm_atCreate pc r (congrArg (·.2.2.1) h)
  have hc' := calm_atCreate pc' r' (congrArg (·.2.2.2) h)
  exact .quiet (.of_qview (congrArg (·.1) h)) (fun nt e => by have hw := congrArg (·.2.1) h; rw [e] at hw; exact hw) hc.1 hc'.1 rfl rfl
    (by rw [hc.2, hc'.2]) (fun _ => rfl)

structure FlagsSame (sh sh' : Shared) : Prop where
  shutdown : sh'.shutdown = sh.shutdown
  quiesced : sh'.quiesced = sh.quiesced
  complete : sh'.complete = sh.complete
  mlog : sh'.mlog = sh.mlog
  epoch : sh'.epoch = sh.epoch

theorem FlagsSame.trans {a b c : Shared} (h1 : FlagsSame a b) (h2 : FlagsSame b c) : FlagsSame a c :=
  ⟨h2.shutdown.trans h1.shutdown, h2.quiesced.trans h1.quiesced, h2.complete.trans h1.complete, h2.mlog.trans h1.mlog, h2.epoch.trans h1.epoch⟩

theorem FlagsSame.of_fview {sh sh' : Shared} (h : fview sh' = fview sh) : FlagsSame sh sh' :=
  ⟨congrArg (·.1) h, congrArg (·.2.1) h, congrArg (·.2.2.1) h, congrArg (·.2.2.2.1) h, congrArg (·.2.2.2.2.1) h⟩

theorem startCnt_of_fview {sh sh' : Shared} (h : fview sh' = fview sh) : sh'.startCnt = sh.startCnt := congrArg (·.2.2.2.2.2) h

theorem callStep_flags (cfg : Cfg) (sh : Shared) (n t : Nat) (c : CallSt) : FlagsSame sh (callStep cfg sh n t c).1 :=
  .of_fview (callStep_fview cfg sh n t c)

def optCount (o : Option Nat) (id : Nat) : Nat := if o = some id then 1 else 0

@[simp] theorem optCount_none (id : Nat) : optCount none id = 0 := by simp [optCount]

theorem setF_same {α : Type} (f : Nat → α) (k : Nat) (x : α) : setF f k x k = x := by simp [setF]
theorem setF_other {α : Type} (f : Nat → α) (k i : Nat) (x : α) (h : i ≠ k) : setF f k x i = f i := by simp [setF, h]

theorem setF_ne {α : Type} (f : Nat → α) (k i : Nat) (x : α) (h : setF f k x i ≠ f i) : i = k ∧ setF f k x i = x := by
  unfold setF at h ⊢
  by_cases e : i = k
  · simp [e]
  · simp [e] at h

theorem bump_same (f : Nat → Nat) (k : Nat) : bump f k k = f k + 1 := by simp [bump]
theorem bump_other (f : Nat → Nat) (k i : Nat) (h : i ≠ k) : bump f k i = f i := by simp [bump, h]

theorem bump_apply (f : Nat → Nat) (k i : Nat) : bump f k i = f i + optCount (some k) i := by
  unfold bump optCount; by_cases h : i = k
  · subst h; simp
  · have : ¬ (some k = some i) := by intro e; exact h (Option.some.inj e).symm
    simp [h, this]

/-- The ledger of one step, per task id: `queued + in hand + done − accepted` and `started − running − done` do not change (each equation
written without subtraction).  `c0 c1` = task in the acting thread's hand before/after, `r0 r1` = task whose body it runs before/after. -/
structure Balance (sh sh' : Shared) (c0 c1 r0 r1 : Option Nat) : Prop where
  queue : ∀ id, sh'.tasks.count id + optCount c1 id + sh'.doneCnt id + sh.accCnt id = sh.tasks.count id + optCount c0 id + sh.doneCnt id + sh'.accCnt id
  start : ∀ id, sh'.startCnt id + optCount r0 id + sh.doneCnt id = sh.startCnt id + optCount r1 id + sh'.doneCnt id

theorem count_single (c id : Nat) : [c].count id = optCount (some c) id := by
  unfold optCount
  by_cases h : c = id
  · subst h; simp
  · have : ¬ (some c = some id) := by intro e; exact h (Option.some.inj e)
    simp [this, h]

theorem count_append_single (l : List Nat) (c id : Nat) : (l ++ [c]).count id = l.count id + optCount (some c) id := by
  rw [List.count_append, count_single]

theorem count_cons_single (l : List Nat) (c id : Nat) : (c :: l).count id = l.count id + optCount (some c) id := by
  rw [← List.singleton_append, List.count_append, count_single, Nat.add_comm]

theorem balance_same {sh sh' : Shared} {c r : Option Nat} (h1 : sh'.tasks = sh.tasks) (h2 : sh'.accCnt = sh.accCnt)
    (h3 : sh'.startCnt = sh.startCnt) (h4 : sh'.doneCnt = sh.doneCnt) : Balance sh sh' c c r r := by
  constructor <;> intro i <;> simp [h1, h2, h3, h4]

theorem callStep_ledger (cfg : Cfg) (sh : Shared) (n : Nat) (t : Tid) (c : CallSt) (o r : Option Nat) :
    Balance sh (callStep cfg sh n t c).1 o o r r :=
  callStep_cases (P := fun _ x => Balance sh x.1 o o r r) cfg sh n t (balance_same rfl rfl rfl rfl) (fun _ _ _ => balance_same rfl rfl rfl rfl)
    (fun _ _ _ => balance_same rfl rfl rfl rfl) (fun _ _ _ => balance_same rfl rfl rfl rfl) (fun _ _ _ _ => balance_same rfl rfl rfl rfl)
    (fun _ _ _ _ _ _ => by constructor <;> intro i <;> simp only [count_append_single, bump_apply] <;> omega)
    (fun _ _ => balance_same rfl rfl rfl rfl) (fun _ _ => balance_same rfl rfl rfl rfl) (fun _ _ => balance_same rfl rfl rfl rfl)
    (fun _ _ => balance_same rfl rfl rfl rfl) c

theorem balance_trans {sh sh1 sh2 : Shared} {c0 c1 c2 r0 r1 r2 : Option Nat}
    (a : Balance sh sh1 c0 c1 r0 r1) (b : Balance sh1 sh2 c1 c2 r1 r2) : Balance sh sh2 c0 c2 r0 r2 := by
  constructor <;> intro i
  · have := a.queue i; have := b.queue i; omega
  · have := a.start i; have := b.start i; omega

/-- the id whose outcome the call is about to decide (the call is at its `lock` operation) -/
def lockCidC : CallSt → Option Nat
  | .inCall _ cid .lock => some cid
  | _ => none

def lockOut : CallOut → Option Nat
  | .more c => lockCidC c
  | .done => none

def lockCid : Thread → Option Nat
  | .worker (.body _ c) => lockCidC c
  | .sub (.run c) => lockCidC c
  | .main (.inCall c) _ => lockCidC c
  | _ => none

@[simp] theorem lockCid_wake (x : Thread) (b : Bool) : lockCid (wake x b) = lockCid x := wake_obs _ (fun _ => rfl) x b

/-- the three threads a step can create -/
theorem fresh_cases {nt : Thread} (h : isFresh nt = true) : nt = .worker .start ∨ (∃ sc, nt = .sub (.start sc)) ∨ ∃ r, nt = .main .startAux r := by
  cases nt with
  | main pc r => cases pc <;> first | (cases h; done) | exact .inr (.inr ⟨_, rfl⟩)
  | sub x => cases x <;> first | (cases h; done) | exact .inr (.inl ⟨_, rfl⟩)
  | worker w => cases w <;> first | (cases h; done) | exact .inl rfl

theorem holdsM_fresh (nt : Thread) (h : isFresh nt = true) : holdsM nt = false := by
  rcases fresh_cases h with rfl | ⟨sc, rfl⟩ | ⟨r, rfl⟩ <;> rfl

theorem lockCid_fresh (nt : Thread) (h : isFresh nt = true) : lockCid nt = none := by
  rcases fresh_cases h with rfl | ⟨sc, rfl⟩ | ⟨r, rfl⟩ <;> rfl

theorem restartTh_fresh (nt : Thread) (h : isFresh nt = true) : restartTh nt = false := by
  rcases fresh_cases h with rfl | ⟨sc, rfl⟩ | ⟨r, rfl⟩ <;> rfl

theorem cur_fresh (nt : Thread) (h : isFresh nt = true) : cur nt = none ∧ running nt = none := by
  rcases fresh_cases h with rfl | ⟨sc, rfl⟩ | ⟨r, rfl⟩ <;> exact ⟨rfl, rfl⟩

theorem class_fresh (nt : Thread) (h : isFresh nt = true) : targetOf nt = none ∧ atCreate nt = false := by
  rcases fresh_cases h with rfl | ⟨sc, rfl⟩ | ⟨r, rfl⟩ <;> exact ⟨rfl, rfl⟩

structure IdsSame (sh sh' : Shared) : Prop where
  nextId : sh'.nextId = sh.nextId
  result : sh'.result = sh.result
  accCnt : sh'.accCnt = sh.accCnt

theorem IdsSame.of_ids {sh sh' : Shared} (h : ids sh' = ids sh) : IdsSame sh sh' :=
  ⟨congrArg (·.1) h, congrArg (·.2.1) h, congrArg (·.2.2) h⟩

/-- what a step does to the ids; `pre` / `post`: the id the stepping thread is about to decide, before / after -/
inductive IdEff (sh sh' : Shared) (pre post : Option Nat) : Prop
  | same (h : IdsSame sh sh') (hp : post = pre ∨ post = none)
  | alloc (h1 : sh'.nextId = sh.nextId + 1) (h2 : sh'.accCnt = sh.accCnt) (hpre : pre = none)
      (h3 : (post = some sh.nextId ∧ sh'.result = sh.result) ∨ (post = none ∧ sh'.result = setF sh.result sh.nextId .refDraining))
  | decide (cid : Nat) (hpre : pre = some cid) (hpost : post = none) (h1 : sh'.nextId = sh.nextId)
      (h3 : (∃ r, r ≠ Res.accepted ∧ sh'.result = setF sh.result cid r ∧ sh'.accCnt = sh.accCnt) ∨
            (sh'.result = setF sh.result cid .accepted ∧ sh'.accCnt = bump sh.accCnt cid))

theorem IdEff.then_same {sh sh' sh'' : Shared} {pre post : Option Nat} (h : IdEff sh sh' pre post) (h2 : IdsSame sh' sh'') :
    IdEff sh sh'' pre post := by
  cases h with
  | same h hp => exact .same ⟨by rw [h2.nextId, h.nextId], by rw [h2.result, h.result], by rw [h2.accCnt, h.accCnt]⟩ hp
  | alloc h1 ha hpre h3 =>
    refine .alloc (by rw [h2.nextId, h1]) (by rw [h2.accCnt, ha]) hpre ?_
    rw [h2.result]; exact h3
  | decide cid hpre hpost h1 h3 =>
    refine .decide cid hpre hpost (by rw [h2.nextId, h1]) ?_
    rw [h2.result, h2.accCnt]; exact h3

theorem nextCall_lockOut (rest : List Act) : lockOut (nextCall rest) = none := by
  unfold nextCall; split <;> rfl

theorem callStep_idEff (cfg : Cfg) (sh : Shared) (n t : Nat) (c : CallSt) :
    IdEff sh (callStep cfg sh n t c).1 (lockCidC c) (lockOut (callStep cfg sh n t c).2.1) :=
  callStep_cases (P := fun c x => IdEff sh x.1 (lockCidC c) (lockOut x.2.1)) cfg sh n t
    (.same ⟨rfl, rfl, rfl⟩ (.inl rfl))
    (fun _ _ _ => .alloc rfl rfl rfl (.inl ⟨rfl, rfl⟩))
    (fun _ rest _ => .alloc rfl rfl rfl (.inr ⟨nextCall_lockOut rest, rfl⟩))
    (fun _ cid _ => .decide cid rfl rfl rfl (.inl ⟨.refShutdown, nofun, rfl, rfl⟩))
    (fun _ cid _ _ => .decide cid rfl rfl rfl (.inl ⟨.refFull, nofun, rfl, rfl⟩))
    (fun _ cid e _ _ he => by rcases he with ⟨rfl, _⟩ | ⟨rfl, _⟩ <;> exact .decide cid rfl rfl rfl (.inr ⟨rfl, rfl⟩))
    (fun _ _ => .same ⟨rfl, rfl, rfl⟩ (.inl rfl)) (fun _ _ => .same ⟨rfl, rfl, rfl⟩ (.inl rfl))
    (fun rest _ => .same ⟨rfl, rfl, rfl⟩ (.inr (nextCall_lockOut rest)))
    (fun rest _ => .same ⟨rfl, rfl, rfl⟩ (.inr (nextCall_lockOut rest))) c

theorem lockCid_main (pc : MPc) (r : MRegs) : lockCid (.main pc r) = none ↔ lockCall pc = false := by
  cases pc with
  | inCall c => cases c with
    | yield_ sc => exact ⟨fun _ => rfl, fun _ => rfl⟩
    | inCall rest cid e => cases e <;> first | exact ⟨fun _ => rfl, fun _ => rfl⟩ | exact ⟨fun h => (nomatch h), fun h => (nomatch h)⟩
  | _ => exact ⟨fun _ => rfl, fun _ => rfl⟩

theorem idEff_more {sh sh' : Shared} {pre : Option Nat} {o : CallOut} (h : IdEff sh sh' pre (lockOut o)) (e : o = .done) :
    IdEff sh sh' pre none := by rw [e] at h; exact h

/-- why a submission got outcome `r` in a step from `sh` -/
def Reason (cfg : Cfg) (sh : Shared) : Res → Prop
  | .refDraining => sh.accepting = false
  | .refShutdown => sh.shutdown = true
  | .refFull => sh.shutdown = false ∧ cfg.maxQueue ≤ sh.tasks.length
  | .accepted => sh.shutdown = false ∧ sh.tasks.length < cfg.maxQueue
  | .pending => False

theorem callStep_result (cfg : Cfg) (sh : Shared) (n t : Nat) (c : CallSt) (id : Nat)
    (h : (callStep cfg sh n t c).1.result id ≠ sh.result id) :
    Reason cfg sh ((callStep cfg sh n t c).1.result id) := by
  -- every leaf either leaves `result` alone or sets it at one id to the value its guard justifies
  have set : ∀ (k : Nat) (x : Res), Reason cfg sh x → setF sh.result k x id ≠ sh.result id → Reason cfg sh (setF sh.result k x id) :=
    fun k x hx h => by rw [(setF_ne _ _ _ _ h).2]; exact hx
  revert h
  exact callStep_cases (P := fun _ x => x.1.result id ≠ sh.result id → Reason cfg sh (x.1.result id)) cfg sh n t
    (fun h => absurd rfl h) (fun _ _ _ h => absurd rfl h) (fun _ _ hacc => set _ _ hacc) (fun _ _ hs => set _ _ hs)
    (fun _ _ hs hf => set _ _ ⟨hs, hf⟩) (fun _ _ _ hs hf _ => set _ _ ⟨hs, hf⟩) (fun _ _ h => absurd rfl h)
    (fun _ _ h => absurd rfl h) (fun _ _ h => absurd rfl h) (fun _ _ h => absurd rfl h) c

/-- the enqueue call a thread is executing -/
def callOf : Thread → Option CallSt
  | .worker (.body _ c) => some c
  | .sub (.run c) => some c
  | .main (.inCall c) _ => some c
  | _ => none

/-- the codes of `mlog` that mean: `stop()` returned ok (4), `shutdown()` returned (7), the destructor returned (8, 9) -/
def isReturnCode (c : Nat) : Prop := c = 4 ∨ c = 7 ∨ c = 8 ∨ c = 9

/-- the shutdown number a caller on the "already shut down" path of `shutdown()` waits for -/
def pollEp : MPc → Option Nat
  | .sFlagUA e => some e
  | .sDoneZ e => some e
  | _ => none

/-- `isReturnCode` as a Boolean, for the concrete codes a step logs -/
def isRet (c : Nat) : Bool := c == 4 || c == 7 || c == 8 || c == 9

theorem isRet_of_returnCode {c : Nat} (h : isReturnCode c) : isRet c = true := by
  rcases h with rfl | rfl | rfl | rfl <;> rfl

/-- why a controller at `pc` may log that `stop()` / `shutdown()` / the destructor has returned: its own join loop has completed, or it is on the
"already shut down" path and the shutdown it read the number of is completed (or the current one: the destructor's test, `dtorEarly`) -/
def mayReturn (sh : Shared) (pc : MPc) : Prop :=
  qPc pc = true ∨ ∃ e, pollEp pc = some e ∧ (e ≤ sh.complete ∨ sh.epoch ≤ sh.complete)

/-- `(x' && !x) = false`, the shape in which `CMove.move` and `Step.cls` say "the step does not enter class `x`": `rfl` at a concrete transition -/
theorem imp_of_and_not {a b : Bool} (h : (a && !b) = false) : a = true → b = true := by
  cases a <;> cases b <;> simp_all

/-- What one step of a controller does to the flags and the log — one constructor for each way they change — and between which classes of pcs
it moves; no invariant assumed.  The classes: constructor (`ctorPc`), owner of the shutdown (`ownsPc` = `seqPc` before / `qPc` after the end of
its join loop), poller of another's shutdown (`pollEp`), plain (the rest). -/
inductive CMove (sh sh' : Shared) (pc pc' : MPc) : Prop
  /-- flags and log untouched; the step stays in its class or leaves it for a plain pc, or it finds `_shutdown` set and becomes a poller by
  reading the number of that shutdown -/
  | move (hf : FlagsSame sh sh')
      (hb : (ownsPc pc' && !ownsPc pc, qPc pc' && !qPc pc, ctorPc pc' && !ctorPc pc) = (false, false, false))
      (hp : ∀ e, pollEp pc' = some e → pollEp pc = some e ∨ (e = sh.epoch ∧ sh.shutdown = true))
  /-- an operation ends or is refused: the codes `cs` are logged, the pc is plain afterwards; a return code needs a reason.  The owner of a
  completed shutdown (`qPc`) also stores its number in `complete`; the value is not recorded, since `GOk.cq` only asks that a non-zero one
  means quiesced -/
  | log (cs : List Nat) (hm : sh'.mlog = cs ++ sh.mlog) (hf : (sh'.shutdown, sh'.quiesced, sh'.epoch) = (sh.shutdown, sh.quiesced, sh.epoch))
      (hc : sh'.complete = sh.complete ∨ qPc pc = true)
      (hpc : (ownsPc pc', qPc pc', ctorPc pc', pollEp pc') = (false, false, false, none))
      (hret : cs.any isRet = true → mayReturn sh pc)
  /-- `_shutdown = true; myEpoch = ++_shutdownEpoch` under the mutex: the thread becomes the owner -/
  | setShut (hpc : pc = .sFlagL ∧ pc' = .sFlagU) (hs : sh.shutdown = false)
      (h : (sh'.shutdown, sh'.quiesced, sh'.complete, sh'.mlog, sh'.epoch) = (true, sh.quiesced, sh.complete, sh.mlog, sh.epoch + 1))
  /-- the join loop finds `_threads` empty -/
  | quiesce (hpc : pc = .jL ∧ pc' = .jUnone)
      (h : (sh'.shutdown, sh'.quiesced, sh'.complete, sh'.mlog, sh'.epoch) = (sh.shutdown, true, sh.complete, sh.mlog, sh.epoch))

/-- `sh1` is `sh` up to what a `CMove` does not read (the step released or acquired the mutex first) -/
theorem CMove.near {sh sh1 sh' : Shared} {pc pc' : MPc} (hf : fview sh1 = fview sh) (m : CMove sh1 sh' pc pc') : CMove sh sh' pc pc' := by
  simp only [fview, Prod.mk.injEq] at hf
  obtain ⟨h1, h2, h3, h4, h5, _⟩ := hf
  have fs : FlagsSame sh1 sh' → FlagsSame sh sh' := fun f => ⟨f.1.trans h1, f.2.trans h2, f.3.trans h3, f.4.trans h4, f.5.trans h5⟩
  cases m with
  | move hf hb hp => exact .move (fs hf) hb fun e he => (hp e he).imp id fun ⟨a, b⟩ => ⟨a.trans h5, h1 ▸ b⟩
  | log cs hm hf hc hpc hret =>
    exact .log cs (by rw [← h4]; exact hm) (by rw [← h1, ← h2, ← h5]; exact hf) (by rw [← h3]; exact hc) hpc
      (fun e => by unfold mayReturn; rw [← h3, ← h5]; exact hret e)
  | setShut hpc hs h => exact .setShut hpc (by rw [← h1]; exact hs) (by rw [← h2, ← h3, ← h4, ← h5]; exact h)
  | quiesce hpc h => exact .quiesce hpc (by rw [← h1, ← h3, ← h4, ← h5]; exact h)

/-- `sh` with the fields that only record where the controller's calls stand (`life`, `accepting`, `drainCalled`, `mlog`) taken from the result `x`
of one of the functions that end an operation of the controller -/
def withCtl (sh : Shared) (x : Shared × MPc × MRegs) : Shared :=
  { sh with life := x.1.life, accepting := x.1.accepting, drainCalled := x.1.drainCalled, mlog := x.1.mlog }

/-- What the functions that end an operation of a controller (`pollHead … dtorEarly`, `stepMYield`) have in common; `x` is the result of one of
them, computed from `sh` by a controller at `pc`.  It writes only `life/accepting/drainCalled/mlog` (`out`: every other field of `x.1` is the field
of `sh` by `rfl`), leaves the controller at an idle pc — `restart` is the one operation that does not —, and is a `CMove`. -/
structure Ends (cfg : Cfg) (sh : Shared) (pc : MPc) (x : Shared × MPc × MRegs) : Prop where
  out : x.1 = withCtl sh x
  idle : idlePc x.2.1 = true ∨ (x.2.1 = .rsL ∧ cfg.allowRestart = true)
  move : restartPc x.2.1 = false → CMove sh x.1 pc x.2.1

section ends
variable {cfg : Cfg} {sh : Shared} {pc : MPc} (r : MRegs)


theorem Ends.of_log {x : Shared × MPc × MRegs} (out : x.1 = withCtl sh x) (idle : idlePc x.2.1 = true) (cs : List Nat)
    (hm : x.1.mlog = cs ++ sh.mlog) (hpc : (ownsPc x.2.1, qPc x.2.1, ctorPc x.2.1, pollEp x.2.1) = (false, false, false, none))
    (hret : cs.any isRet = true → mayReturn sh pc := by exact fun e => nomatch e) : Ends cfg sh pc x :=
  ⟨out, .inl idle, fun _ => .log cs hm (by rw [out]; rfl) (.inl (by rw [out]; rfl)) hpc hret⟩

theorem ends_shutdownReturn (hr : mayReturn sh pc) : Ends cfg sh pc (shutdownReturn sh r) := by
  unfold shutdownReturn
  split
  · exact .of_log rfl rfl [4, 7] rfl rfl (fun _ => hr)
  · exact .of_log rfl rfl [7] rfl rfl (fun _ => hr)

theorem ends_dtorReturn (hr : mayReturn sh pc) : Ends cfg sh pc (dtorReturn sh r) :=
  .of_log rfl rfl [if sh.threads = [] then 8 else 9] rfl rfl (fun _ => hr)

theorem ends_dtorEarly (e : Nat) (he : pollEp pc = some e) : Ends cfg sh pc (dtorEarly sh r) := by
  unfold dtorEarly
  split
  · next hc => exact ends_dtorReturn r (.inr ⟨e, he, .inr hc⟩)
  · exact .of_log rfl rfl [13] rfl rfl

theorem ends_drainReturn (b : Bool) : Ends cfg sh pc (drainReturn sh r b) := by
  unfold drainReturn
  split
  · split
    · exact .of_log rfl rfl [] rfl rfl
    · exact .of_log rfl rfl [5] rfl rfl
  · cases b
    · exact .of_log rfl rfl [2] rfl rfl
    · exact .of_log rfl rfl [1] rfl rfl

/-- the polling loops other than `drain()`'s belong to the owner of the shutdown -/
theorem ends_pollExit (k : Poll) (d : Bool) (hk : k = .drain ∨ ownsPc pc = true) : Ends cfg sh pc (pollExit sh r k d) := by
  have own : ∀ {pc' : MPc}, k ≠ .drain → (idlePc pc', qPc pc', ctorPc pc', pollEp pc') = (true, false, false, none) → Ends cfg sh pc (sh, pc', r) := fun hne e => by
    simp only [Prod.mk.injEq] at e
    exact ⟨rfl, .inl e.1, fun _ => .move ⟨rfl, rfl, rfl, rfl, rfl⟩ (by rw [e.2.1, e.2.2.1, hk.resolve_left hne, Bool.not_true, Bool.and_false]; rfl)
      (fun _ he => by rw [e.2.2.2] at he; cases he)⟩
  unfold pollExit
  cases k with
  | drain =>
    dsimp only []
    split
    · exact ends_drainReturn r true
    · exact .of_log rfl rfl [] rfl rfl
  | shut => exact own (fun e => nomatch e) rfl
  | race => exact own (fun e => nomatch e) rfl
  | dtor => dsimp only []; split <;> exact own (fun e => nomatch e) rfl

theorem ends_pollHead (k : Poll) (hk : k = .drain ∨ ownsPc pc = true) : Ends cfg sh pc (pollHead sh r k) := by
  unfold pollHead
  split
  · rcases hk with rfl | hs
    · exact .of_log rfl rfl [] rfl rfl
    · exact ⟨rfl, .inl rfl, fun _ => .move ⟨rfl, rfl, rfl, rfl, rfl⟩ (by rw [hs]; cases k <;> rfl) (fun _ e => nomatch e)⟩
  · exact ends_pollExit r k false hk

end ends

theorem ends_stepMYield (cfg : Cfg) (sh : Shared) (r : MRegs) : Ends cfg sh .mYield (stepMYield cfg sh r) := by
  unfold stepMYield drainEnter
  (repeat' split) <;> first
    | exact .of_log rfl rfl [] rfl rfl
    | exact .of_log rfl rfl [3] rfl rfl
    | exact .of_log rfl rfl [6] rfl rfl
    | exact .of_log rfl rfl [11] rfl rfl
    | exact ⟨rfl, .inr ⟨rfl, by simp_all⟩, fun h => nomatch h⟩

/-- constructor spawns still to come: `_threads.size()` plus these stays within `_maxSize` (`SizeInv.size`).  The register `ctor` is
counted down at `cU`, after the create at `cC` has put the worker into `_threads`: at `cU` one spawn fewer is to come than it says. -/
def ctorRem : Thread → Nat
  | .main .start r => r.ctor
  | .main .cL r => r.ctor
  | .main .cC r => r.ctor
  | .main .cU r => r.ctor - 1
  | _ => 0

/-- inside an iteration of the constructor's loop (`i < workerCount`) the counter is not yet 0 -/
def ctorOk : Thread → Prop
  | .main .cL r => 1 ≤ r.ctor
  | .main .cC r => 1 ≤ r.ctor
  | .main .cU r => 1 ≤ r.ctor
  | _ => True

/-- `1` at the constructor's create step: the spawn counted in `ctorRem` is consumed there -/
def isCC : MPc → Nat
  | .cC => 1
  | _ => 0

theorem ctorPc_false_rem (pc : MPc) (r : MRegs) (h : ctorPc pc = false) : ctorRem (.main pc r) = 0 ∧ ctorOk (.main pc r) := by
  cases pc <;> simp [ctorPc] at h <;> simp [ctorRem, ctorOk]

theorem inCtor_false_rem (th : Thread) (h : inCtor th = false) : ctorRem th = 0 := by
  cases th with
  | main pc r => exact (ctorPc_false_rem pc r h).1
  | sub x => rfl
  | worker x => rfl

def isCCth : Thread → Nat
  | .main pc _ => isCC pc
  | _ => 0

/-- a step between states outside the constructor owes nothing to its bookkeeping -/
theorem ctor_of_not {th th' : Thread} (h : inCtor th = false) (h' : inCtor th' = false) :
    ctorOk th' ∧ ctorRem th' + isCCth th ≤ ctorRem th := by
  have hcc : isCCth th = 0 := by
    cases th with
    | main pc r => cases pc <;> first | rfl | cases h
    | _ => rfl
  have hok : ctorOk th' := by
    cases th' with
    | main pc r => exact (ctorPc_false_rem pc r h').2
    | _ => trivial
  exact ⟨hok, by rw [inCtor_false_rem th' h', hcc]; exact Nat.zero_le _⟩

/-- What one step of thread `t` (state `th`, afterwards `th'`) does, view by view.  `cls`: `reset()`/`start()` is entered only by an allowed
`restart`, the constructor never, the join loop's `detach()` only in DETACHED mode.  `move`, `ctor`: a controller's flags and log (for a
step outside `reset()`/`start()`), and the constructor's bookkeeping: the spawns still to come go down by one at its create step, and it
creates workers only.  `flags` is read by `PoolStep.cinv` (a step of a worker or submitter), `start` by `quiet_step`, `res` by `trans_result`,
`fresh` through `Step.spawn_fresh` and the `*_fresh` lemmas, `awake` by `threadsStep_of_post` where a `PoolStep` is made. -/
structure Step (cfg : Cfg) (sh : Shared) (n t : Nat) (th : Thread) (alt : Nat) (sh' : Shared) (th' : Thread) (post : Post) : Prop where
  lock : LockStep sh sh' t (acqM th) (holdsM th) (holdsM th')
  eff : StepEff cfg sh n t th alt sh' th' post
  idEff : IdEff sh sh' (lockCid th) (lockCid th')
  bal : restartTh th = false → Balance sh sh' (cur th) (cur th') (running th) (running th')
  flags : isMain th = false → FlagsSame sh sh' ∧ ∀ nt, post = .spawn nt → nt = newWorker
  start : sh'.startCnt = sh.startCnt ∨ cur th ≠ none
  res : ids sh' = ids sh ∨ callOf th ≠ none ∧ ∀ id, sh'.result id ≠ sh.result id → Reason cfg sh (sh'.result id)
  fresh : freshPost post = true
  awake : isAsleep th' = false ∨ wakes post = false
  kind : isMain th' = isMain th ∧ isWorker th' = isWorker th
  cls : (restartTh th' && !(restartTh th || cfg.allowRestart), inCtor th' && !inCtor th, detachTh th' && !cfg.detached) = (false, false, false)
  move : ∀ pc r pc' r', th = .main pc r → th' = .main pc' r' → restartPc pc = false → restartPc pc' = false → CMove sh sh' pc pc'
  ctor : (ctorOk th → ctorOk th' ∧ ctorRem th' + isCCth th ≤ ctorRem th) ∧ (inCtor th = true → ∀ nt, post = .spawn nt → nt = newWorker)

theorem Step.spawn_fresh {cfg : Cfg} {sh sh' : Shared} {n t alt : Nat} {th th' : Thread} {post : Post}
    (h : Step cfg sh n t th alt sh' th' post) (nt : Thread) (e : post = .spawn nt) : isFresh nt = true := by
  have := h.fresh; rw [e] at this; exact this

section
variable {cfg : Cfg} {sh sh' : Shared} {n t alt : Nat} {th th' : Thread} {post : Post} (h : Step cfg sh n t th alt sh' th' post)
include h

theorem Step.not_restart (hr : cfg.allowRestart = false) (e : restartTh th = false) : restartTh th' = false := by
  have := congrArg (·.1) h.cls
  rw [e, hr] at this; simpa using this

theorem Step.inCtor_of (e : inCtor th' = true) : inCtor th = true := imp_of_and_not (congrArg (·.2.1) h.cls) e

theorem Step.not_detach (hd : cfg.detached = false) : detachTh th' = false := by
  have := congrArg (·.2.2) h.cls
  rw [hd] at this; simpa using this

/-- `flags` and `ctor` say it under one guard each: a worker, a submitter and the constructor create workers only -/
theorem Step.spawn_worker (hg : isMain th = false ∨ inCtor th = true) (nt : Thread) (e : post = .spawn nt) : nt = newWorker :=
  hg.elim (fun hm => (h.flags hm).2 nt e) (fun hc => h.ctor.2 hc nt e)

end

/-- a step of a worker that touches neither ids nor flags nor log but moves a task through the ledger (`bal`: a pop, the start or the end of a
body), the other views given one by one -/
theorem Step.worker {cfg : Cfg} {sh sh' : Shared} {n t alt : Nat} {w w' : WSt}
    (lock : LockStep sh sh' t (acqM (.worker w)) (holdsW w) (holdsW w')) (eff : StepEff cfg sh n t (.worker w) alt sh' (.worker w') .none)
    (bal : Balance sh sh' (cur (.worker w)) (cur (.worker w')) (running (.worker w)) (running (.worker w')))
    (hf : FlagsSame sh sh') (h : (ids sh', lockCid (.worker w')) = (ids sh, none)) (start : sh'.startCnt = sh.startCnt ∨ cur (.worker w) ≠ none) :
    Step cfg sh n t (.worker w) alt sh' (.worker w') .none := by
  simp only [Prod.mk.injEq] at h
  exact ⟨lock, eff, .same (.of_ids h.1) (.inr h.2), fun _ => bal, fun _ => ⟨hf, fun _ e => nomatch e⟩, start, .inl h.1, rfl, .inr rfl, ⟨rfl, rfl⟩, rfl,
    (fun _ _ _ _ e => nomatch e), ⟨fun _ => ⟨trivial, Nat.le_refl _⟩, fun e => nomatch e⟩⟩

/-- a step of a worker or submitter whose effect on queue, worker map and flags is `heff` and which otherwise only moves the lock word (the
ledger stands: `subs`, `cur`, `running` unchanged): one equation, `rfl` at a concrete transition -/
theorem Step.of_eff {cfg : Cfg} {sh sh' : Shared} {n t alt : Nat} {th th' : Thread} (heff : StepEff cfg sh n t th alt sh' th' .none)
    (h : (subs sh', fview sh', sh'.owner, (!holdsM th && holdsM th') && !acqM th, cur th', running th', lockCid th', isMain th, isMain th',
          isWorker th') =
         (subs sh, fview sh, ownerAfter sh.owner t (holdsM th) (holdsM th'), false, cur th, running th, none, false, false, isWorker th)) :
    Step cfg sh n t th alt sh' th' .none := by
  simp only [subs, Prod.mk.injEq] at h
  obtain ⟨⟨h1, h2, h3, h4, h5, h6⟩, hf, ho, hb, hcu, hru, hlc, hm0, hm, hk⟩ := h
  have hcl : ∀ x : Thread, isMain x = false → (restartTh x, inCtor x, detachTh x) = (false, false, false) := fun x hx => by
    cases x <;> first | rfl | cases hx
  have hc := hcl th' hm
  have hc0 := hcl th hm0
  simp only [Prod.mk.injEq] at hc hc0
  refine ⟨by rw [LockStep, ho, hb], heff, .same ⟨h2, h3, h4⟩ (.inr hlc), fun _ => ?_, fun _ => ⟨.of_fview hf, fun _ e => nomatch e⟩,
    .inl (startCnt_of_fview hf), .inl (by rw [ids, h2, h3, h4]; rfl), rfl, .inr rfl, ⟨hm.trans hm0.symm, hk⟩, by rw [hc.1, hc.2.1, hc.2.2]; rfl,
    (fun _ _ _ _ e => by rw [e] at hm0; cases hm0), ⟨fun _ => ctor_of_not hc0.2.1 hc.2.1, fun e => by rw [hc0.2.1] at e; cases e⟩⟩
  rw [hcu, hru]
  exact balance_same h1 h4 h5 h6

/-- the same for a step that leaves queue, worker map and flags alone too -/
theorem Step.calm {cfg : Cfg} {sh sh' : Shared} {n t alt : Nat} {th th' : Thread}
    (h : (qview sh', spawnsWorker .none, atCreate th, atCreate th', tailW th', goneW th', targetOf th',
        (cur th').isSome && (cur th).isNone) = (qview sh, false, false, false, tailW th, goneW th, targetOf th, false))
    (h2 : (subs sh', fview sh', sh'.owner, (!holdsM th && holdsM th') && !acqM th, cur th', running th', lockCid th', isMain th, isMain th',
          isWorker th') =
         (subs sh, fview sh, ownerAfter sh.owner t (holdsM th) (holdsM th'), false, cur th, running th, none, false, false, isWorker th)) :
    Step cfg sh n t th alt sh' th' .none :=
  .of_eff (quiet_of_eq h) h2

/-- A step of a controller outside an enqueue call whose effect on queue, worker map and flags is `heff` and on flags and log `hmove`, which
leaves the submissions' bookkeeping alone and does not end at the `lock` of a call: one equation, `rfl` at a concrete transition.  `hctor` is
asked for at the constructor's pcs only. -/
theorem Step.main {cfg : Cfg} {sh sh' : Shared} {n t alt : Nat} {pc pc' : MPc} {r r' : MRegs} {post : Post}
    (heff : StepEff cfg sh n t (.main pc r) alt sh' (.main pc' r') post)
    (h : (subs sh', lockCall pc', freshPost post, sh'.owner, (!holdsP pc && holdsP pc') && !locksP pc,
          restartPc pc' && !(restartPc pc || cfg.allowRestart), ctorPc pc' && !ctorPc pc, isDetach pc' && !cfg.detached) =
         (subs sh, false, true, ownerAfter sh.owner t (holdsP pc) (holdsP pc'), false, false, false, false))
    (hmove : restartPc pc = false → restartPc pc' = false → CMove sh sh' pc pc')
    (hctor : ctorPc pc = true → (ctorOk (.main pc r) → ctorOk (.main pc' r') ∧ ctorRem (.main pc' r') + isCC pc ≤ ctorRem (.main pc r)) ∧
      ∀ nt, post = .spawn nt → nt = newWorker := by exact fun e => nomatch e) :
    Step cfg sh n t (.main pc r) alt sh' (.main pc' r') post := by
  simp only [subs, Prod.mk.injEq] at h
  obtain ⟨⟨h1, h2, h3, h4, h5, h6⟩, hlc, hfr, ho, hb, c1, c2, c3⟩ := h
  have hl : LockStep sh sh' t (locksP pc) (holdsP pc) (holdsP pc') := by rw [LockStep, ho, hb]
  have hc : (restartPc pc' && !(restartPc pc || cfg.allowRestart), ctorPc pc' && !ctorPc pc, isDetach pc' && !cfg.detached) = (false, false, false) := by
    rw [c1, c2, c3]
  refine ⟨hl, heff, .same ⟨h2, h3, h4⟩ (.inr ((lockCid_main _ _).mpr hlc)), fun _ => balance_same h1 h4 h5 h6, (fun e => nomatch e),
    .inl h5, .inl (by rw [ids, h2, h3, h4]; rfl), hfr, .inl rfl, ⟨rfl, rfl⟩, hc, fun _ _ _ _ e e' => by cases e; cases e'; exact hmove, ?_⟩
  cases hcp : ctorPc pc with
  | true => exact ⟨(hctor hcp).1, fun _ => (hctor hcp).2⟩
  | false =>
    exact ⟨fun _ => ctor_of_not (th := .main pc r) (th' := .main pc' r') hcp
      (Bool.eq_false_iff.mpr fun e => by rw [show ctorPc pc = true from imp_of_and_not c2 e] at hcp; cases hcp),
      fun e => by have : ctorPc pc = true := e; rw [hcp] at this; cases this⟩

/-- The same for a step that leaves queue, worker map, flags and log alone too, goes from a calm pc to a calm pc that is not a poller's, and
does not enter a class of pcs (`hcls`; `CMove.move`). -/
theorem Step.ctl {cfg : Cfg} {sh sh' : Shared} {n t alt : Nat} {pc pc' : MPc} {r r' : MRegs} {post : Post}
    (h : ((fview sh', pollEp pc'), (qview sh', spawnsWorker post, calmPc pc, calmPc pc'), subs sh', lockCall pc', freshPost post, sh'.owner,
          (!holdsP pc && holdsP pc') && !locksP pc, restartPc pc' && !(restartPc pc || cfg.allowRestart), ctorPc pc' && !ctorPc pc,
          isDetach pc' && !cfg.detached) =
         ((fview sh, none), (qview sh, false, true, true), subs sh, false, true, ownerAfter sh.owner t (holdsP pc) (holdsP pc'), false, false, false, false))
    (hcls : (ownsPc pc' && !ownsPc pc, qPc pc' && !qPc pc) = (false, false) := by rfl)
    (hctor : ctorPc pc = true → (ctorOk (.main pc r) → ctorOk (.main pc' r') ∧ ctorRem (.main pc' r') + isCC pc ≤ ctorRem (.main pc r)) ∧
      ∀ nt, post = .spawn nt → nt = newWorker := by exact fun e => nomatch e) :
    Step cfg sh n t (.main pc r) alt sh' (.main pc' r') post := by
  have h1 := congrArg (·.1) h
  have h2 := congrArg (·.2.1) h
  have h3 : (ctorPc pc' && !ctorPc pc) = false := congrArg (·.2.2.2.2.2.2.2.2.1) h
  simp only [Prod.mk.injEq] at h1 hcls
  exact .main (quiet_main cfg sh sh' n t alt pc pc' r r' post h2) (congrArg (·.2.2) h)
    (fun _ _ => .move (.of_fview h1.1) (by rw [hcls.1, hcls.2, h3]) (fun e he => by rw [h1.2] at he; cases he)) hctor

/-- A step of a controller that ends in one of the functions that end an operation: `x` is that function's result, computed from `sh1` (`sh`
after releasing the mutex, if the step does).  What these functions have in common (`Ends.out`, `Ends.idle`) gives every view but `hmove`. -/
theorem Step.ends {cfg : Cfg} {sh : Shared} {n t alt : Nat} {pc : MPc} {r : MRegs} {post : Post} (x : Shared × MPc × MRegs) (sh1 : Shared)
    (hsh : x.1 = withCtl sh1 x) (hidle : idlePc x.2.1 = true ∨ (x.2.1 = .rsL ∧ cfg.allowRestart = true))
    (hmove : restartPc x.2.1 = false → CMove sh x.1 pc x.2.1)
    (h : (qview sh1, subs sh1, sh1.owner, calmPc pc, ctorPc pc, spawnsWorker post, freshPost post) =
         (qview sh, subs sh, ownerAfter sh.owner t (holdsP pc) false, true, false, false, true)) :
    Step cfg sh n t (.main pc r) alt x.1 (.main x.2.1 x.2.2) post := by
  simp only [Prod.mk.injEq] at h
  obtain ⟨hq, hs, ho, hcalm, hnc, hsw, hfp⟩ := h
  have hq' : qview x.1 = qview sh := by rw [hsh]; exact hq
  have hs' : subs x.1 = subs sh := by rw [hsh]; exact hs
  have ho' : x.1.owner = ownerAfter sh.owner t (holdsP pc) false := by rw [hsh]; exact ho
  have hcl : calmPc x.2.1 = true ∧ lockCall x.2.1 = false ∧ holdsP x.2.1 = false ∧ (restartPc x.2.1 && !(restartPc pc || cfg.allowRestart)) = false ∧
      ctorPc x.2.1 = false ∧ isDetach x.2.1 = false := by
    rcases hidle with h | ⟨h, ha⟩
    · obtain ⟨i1, i2, i3, i4, i5, i6⟩ := idlePc_spec h
      exact ⟨i1, i2, i3, by rw [i4]; rfl, i5, i6⟩
    · rw [h, ha]; exact ⟨rfl, rfl, rfl, by rw [Bool.or_true]; rfl, rfl, rfl⟩
  obtain ⟨k1, k2, k3, k4, k5, k6⟩ := hcl
  exact .main (quiet_main cfg sh x.1 n t alt pc x.2.1 r x.2.2 post (by rw [hq', hsw, hcalm, k1]))
    (by rw [hs', ho', hfp, k2, k3, k4, k5, k6, Bool.and_false]; rfl) (fun _ => hmove) (fun e => by rw [hnc] at e; cases e)

/-- `Step.ends` for a function given as `Ends`, computed from `sh1`: `sh` itself or `sh` with the mutex released -/
theorem Ends.step {cfg : Cfg} {sh sh1 : Shared} {n t alt : Nat} {pc : MPc} {r : MRegs} {post : Post} {x : Shared × MPc × MRegs}
    (he : Ends cfg sh1 pc x)
    (h : (fview sh1, qview sh1, subs sh1, sh1.owner, calmPc pc, ctorPc pc, spawnsWorker post, freshPost post) =
         (fview sh, qview sh, subs sh, ownerAfter sh.owner t (holdsP pc) false, true, false, false, true)) :
    Step cfg sh n t (.main pc r) alt x.1 (.main x.2.1 x.2.2) post :=
  .ends x sh1 he.out he.idle (fun hr => .near (congrArg (·.1) h) (he.move hr)) (congrArg (·.2) h)

/-- the code after `wait_for`, entered by a `lock` or by a re-acquisition: the worker stays, decides to exit (only with an EMPTY
queue — P5), or pops the front task.  `hres`: on the time-out path `afterWait` does not look at the queue; `wait_for` returning false IS its
predicate `_shutdown || !_tasks.empty()` being false, and that is what makes the idle exit see an empty queue.  `wt`: no view reads `waiting`. -/
theorem afterWait_step (cfg : Cfg) (sh : Shared) (n t alt : Nat) (w0 : WSt) (wt : Nat) (res : Bool)
    (hw : w0 = .lock ∨ ∃ to, w0 = .woken to) (hres : res = false → waitPred sh = false) :
    Step cfg sh n t (.worker w0) alt (afterWait cfg { sh with owner := some t, waiting := wt } t res).1
      (.worker (afterWait cfg { sh with owner := some t, waiting := wt } t res).2) .none := by
  have idle : res = false → sh.tasks = [] ∧ sh.shutdown = false := fun hr => (waitPred_false (hres hr)).symm
  rcases hw with rfl | ⟨to, rfl⟩ <;>
  exact afterWait_cases (P := fun x => Step cfg sh n t _ alt x.1 (.worker x.2) .none) cfg _ t res
    (.calm rfl rfl)
    (fun hr hm => .of_eff (.exit ⟨rfl, rfl, rfl, rfl⟩ rfl ⟨rfl, rfl, rfl⟩ (idle hr).1 (.inl ⟨rfl, hm, (idle hr).2⟩)) rfl)
    (fun h => .of_eff (.exit ⟨rfl, rfl, rfl, rfl⟩ rfl ⟨rfl, rfl, rfl⟩ (h.elim (fun h => (idle h.1).1) (·.2)) (.inr ⟨rfl, h.imp (·.2) (·.1)⟩)) rfl)
    (fun id rest heq => .worker rfl (.pop id heq rfl rfl rfl rfl ⟨rfl, rfl, rfl⟩ rfl)
      (by
        have heq : sh.tasks = id :: rest := heq
        constructor <;> intro i <;> simp only [cur, running, heq, count_cons_single, optCount_none] <;> omega) ⟨rfl, rfl, rfl, rfl, rfl⟩ rfl (.inl rfl))

@[simp] theorem bodyEnd_owner (cfg : Cfg) (sh : Shared) (id : Nat) : (bodyEnd cfg sh id).1.owner = sh.owner := by
  unfold bodyEnd; split <;> rfl

@[simp] theorem bodyEnd_holds (cfg : Cfg) (sh : Shared) (id : Nat) : holdsW (bodyEnd cfg sh id).2 = false := by
  unfold bodyEnd; split <;> rfl

theorem bodyEnd_sameQ (cfg : Cfg) (sh : Shared) (id : Nat) : SameQ sh (bodyEnd cfg sh id).1 := by
  unfold bodyEnd; split <;> exact ⟨rfl, rfl, rfl, rfl⟩

theorem bodyEnd_class (cfg : Cfg) (sh : Shared) (id : Nat) :
    atCreate (.worker (bodyEnd cfg sh id).2) = false ∧ tailW (.worker (bodyEnd cfg sh id).2) = false ∧
    goneW (.worker (bodyEnd cfg sh id).2) = false ∧ isAsleep (.worker (bodyEnd cfg sh id).2) = false := by
  unfold bodyEnd; split <;> simp [atCreate, tailW, goneW, isAsleep]

theorem bodyEnd_ids (cfg : Cfg) (sh : Shared) (id : Nat) :
    (ids (bodyEnd cfg sh id).1, lockCid (.worker (bodyEnd cfg sh id).2)) = (ids sh, none) := by
  unfold bodyEnd; split <;> rfl

theorem bodyEnd_step (cfg : Cfg) (sh : Shared) (n t alt : Nat) (id : Nat) (sc : List Act) :
    Step cfg sh n t (.worker (.bYield id sc)) alt (bodyEnd cfg sh id).1 (.worker (bodyEnd cfg sh id).2) .none := by
  unfold bodyEnd
  split <;> exact .worker rfl (quiet_of_eq rfl)
    (by constructor <;> intro i <;> simp only [bump_apply, optCount_none, cur, running] <;> omega) ⟨rfl, rfl, rfl, rfl, rfl⟩ rfl (.inl rfl)

/-- One step of an enqueue call made by thread `th`, which becomes `th'`; what the three kinds of caller differ in is given as hypotheses
(`o`: the task in the caller's hand; `hpl`: a controller's call ends at a plain pc). -/
theorem call_step (cfg : Cfg) (sh : Shared) (n t alt : Nat) (th th' : Thread) (c : CallSt) (o : Option Nat)
    (hat : atCreate th = c.atCreate) (hat' : atCreate th' = (callStep cfg sh n t c).2.1.atCreate)
    (hth : (acqM th, holdsM th, lockCid th, cur th, running th, inCtor th, callOf th) = (c.locks, holdsCall c, lockCidC c, o, o, false, some c))
    (hth' : (holdsM th', lockCid th', cur th', running th', isWorker th', tailW th', goneW th', targetOf th', restartTh th', inCtor th', detachTh th',
        isMain th', isAsleep th') =
      (holdsOut (callStep cfg sh n t c).2.1, lockOut (callStep cfg sh n t c).2.1, o, o, isWorker th, tailW th, goneW th, targetOf th, false, false, false,
        isMain th, false))
    (hw : isWorker th = true → o ≠ none)
    (hpl : ∀ pc r, th' = .main pc r → (ownsPc pc, qPc pc, pollEp pc) = (false, false, none)) :
    Step cfg sh n t th alt (callStep cfg sh n t c).1 th' (callStep cfg sh n t c).2.2 := by
  simp only [Prod.mk.injEq] at hth hth'
  obtain ⟨eacq, eholds, elc, ecur, erun, ector, ecall⟩ := hth
  obtain ⟨eholds', elc', ecur', erun', ewk', etail', egone', etgt', ers', ector', edet', emain', eawake'⟩ := hth'
  refine ⟨?_, call_eff cfg sh n t alt th c hat eacq th' _ (SameQ.rfl' _) hat' etail' egone' etgt' (fun e => by rw [ecur', ← ecur]; exact e)
      ⟨ector, fun e => by rw [ecur]; exact hw e⟩, ?_, fun _ => ?_, fun _ => ⟨callStep_flags cfg sh n t c, fun nt e => (callStep_spawn cfg sh n t c nt e).1⟩,
    .inl (startCnt_of_fview (callStep_fview cfg sh n t c)), .inr ⟨by rw [ecall]; exact nofun, callStep_result cfg sh n t c⟩, callStep_fresh cfg sh n t c,
    .inl eawake', ⟨emain', ewk'⟩, by rw [ers', ector', edet']; rfl, fun pc r pc' r' e e' _ _ => ?_, ⟨fun _ => ctor_of_not ector ector', fun e => by rw [ector] at e; cases e⟩⟩
  · rw [eacq, eholds, eholds']; exact callStep_owner cfg sh n t c
  · rw [elc, elc']; exact callStep_idEff cfg sh n t c
  · rw [ecur, erun, ecur', erun']; exact callStep_ledger cfg sh n t c o o
  · have hp := hpl pc' r' e'
    simp only [Prod.mk.injEq] at hp
    rw [e'] at ector'
    exact .move (callStep_flags cfg sh n t c) (by rw [hp.1, hp.2.1, show ctorPc pc' = false from ector']; rfl) (fun _ he => by rw [hp.2.2] at he; cases he)

theorem transW_step (cfg : Cfg) (sh : Shared) (n t : Nat) (w : WSt) (alt : Nat) :
    Step cfg sh n t (.worker w) alt (transW cfg sh n t w).1 (.worker (transW cfg sh n t w).2.1) (transW cfg sh n t w).2.2 := by
  cases w with
  | body id c =>
    dsimp only [transW]
    cases hx : (callStep cfg sh n t c).2.1 with
    | more c' =>
      dsimp only []
      exact call_step cfg sh n t alt _ _ c (some id) (atCreate_body id c) (by rw [hx]; exact atCreate_body id c') rfl (by rw [hx]; rfl)
        (fun _ e => nomatch e) (fun _ _ e => nomatch e)
    | done =>
      -- the call returns and the body ends in the same step: the call's step to `bYield id []` (a body with nothing left, `h1`) followed
      -- by `bodyEnd` (`h2`).  `bal`, `flags`, `idEff` are the two steps' composed; `lock`, `fresh`, `res` are the call's, since `bodyEnd`
      -- touches neither owner nor ids; `cls`, `awake` and the classes in `eff` are those of the state `bodyEnd` ends in
      have h1 := call_step cfg sh n t alt (.worker (.body id c)) (.worker (.bYield id [])) c (some id) (atCreate_body id c) (by rw [hx]; rfl) rfl
        (by rw [hx]; rfl) (fun _ e => nomatch e) (fun _ _ e => nomatch e)
      have h2 := bodyEnd_step cfg (callStep cfg sh n t c).1 n t alt id []
      have hb := bodyEnd_class cfg (callStep cfg sh n t c).1 id
      have hi := bodyEnd_ids cfg (callStep cfg sh n t c).1 id
      have ho := h1.lock
      dsimp only []
      refine ⟨?_, call_eff cfg sh n t alt _ c (atCreate_body id c) rfl _ _ (bodyEnd_sameQ cfg _ id) (by rw [hx]; exact hb.1) hb.2.1
        hb.2.2.1 rfl (fun e => nomatch e) ⟨rfl, fun _ e => nomatch e⟩, ?_, fun _ => balance_trans (h1.bal rfl) (h2.bal rfl),
        fun _ => ⟨(h1.flags rfl).1.trans (h2.flags rfl).1, (h1.flags rfl).2⟩, .inr (fun e => nomatch e),
        .inr ⟨nofun, by rw [show (bodyEnd cfg (callStep cfg sh n t c).1 id).1.result = _ from congrArg (·.1.2.1) hi]; exact callStep_result cfg sh n t c⟩, h1.fresh, .inl hb.2.2.2, ⟨rfl, rfl⟩, h2.cls,
        (fun _ _ _ _ e => nomatch e), ⟨fun _ => ⟨trivial, Nat.le_refl _⟩, fun e => nomatch e⟩⟩
      · unfold LockStep at ho ⊢
        rw [show holdsM (.worker (bodyEnd cfg (callStep cfg sh n t c).1 id).2) = false from bodyEnd_holds .., bodyEnd_owner]; exact ho
      · rw [show lockCid (.worker (bodyEnd cfg (callStep cfg sh n t c).1 id).2) = none from congrArg (·.2) hi]
        exact h1.idEff.then_same (.of_ids (congrArg (·.1) hi))
  | lock =>
    dsimp only [transW]; split
    · exact afterWait_step cfg sh n t alt .lock sh.waiting true (.inl rfl) (fun e => nomatch e)
    · exact .calm rfl rfl
  | detach => exact .of_eff (.selfErase rfl rfl rfl rfl rfl rfl rfl) rfl
  | unlockTask id =>
    dsimp only [transW, beginTask]; split
    · exact .calm rfl rfl
    · exact .worker rfl (quiet_of_eq rfl)
        (by constructor <;> intro i <;> simp only [cur, running, bump_apply, optCount_none] <;> omega) ⟨rfl, rfl, rfl, rfl, rfl⟩ rfl (.inr (fun e => nomatch e))
  | popped id =>
    exact .worker rfl (quiet_of_eq rfl)
      (by constructor <;> intro i <;> simp only [transW, beginTask, cur, running, bump_apply, optCount_none] <;> omega) ⟨rfl, rfl, rfl, rfl, rfl⟩ rfl
      (.inr (fun e => nomatch e))
  | bYield id sc =>
    dsimp only [transW]; split
    · exact bodyEnd_step cfg sh n t alt id sc
    · exact .calm rfl rfl
  -- `start`, `waitReady`, `asleep`, `woken`, `unlockCont`, `unlockExit`, `cfgLock`, `cfgUnlock`, `done`
  | _ => dsimp only [transW, taskDone] <;> (try split) <;> exact .calm rfl rfl

theorem transS_step (cfg : Cfg) (sh : Shared) (n t : Nat) (x : SSt) (alt : Nat) :
    Step cfg sh n t (.sub x) alt (transS cfg sh n t x).1 (.sub (transS cfg sh n t x).2.1) (transS cfg sh n t x).2.2 := by
  cases x with
  | run c =>
    dsimp only [transS]
    cases hx : (callStep cfg sh n t c).2.1 with
    | more c' =>
      dsimp only []
      exact call_step cfg sh n t alt _ _ c none (atCreate_run c) (by rw [hx]; exact atCreate_run c') rfl (by rw [hx]; rfl) (fun e => nomatch e)
        (fun _ _ e => nomatch e)
    | done =>
      dsimp only []
      exact call_step cfg sh n t alt _ _ c none (atCreate_run c) (by rw [hx]; rfl) rfl (by rw [hx]; rfl) (fun e => nomatch e)
        (fun _ _ e => nomatch e)
  | start sc => dsimp only [transS]; split <;> exact .calm rfl rfl
  | done => exact .calm rfl rfl

/-- One step of a controller.  A leaf that ends in one of the functions that end an operation is `Step.ends`, its `CMove` that function's
(`Ends.step`; at `jUnone` the step also stores `complete`, so the `CMove` is given in place); every leaf of the last group is `Step.ctl` by `rfl`. -/
theorem transM_step (cfg : Cfg) (sh : Shared) (n t : Nat) (pc : MPc) (r : MRegs) (alt : Nat) :
    Step cfg sh n t (.main pc r) alt (transM cfg sh n t pc r alt).1
      (.main (transM cfg sh n t pc r alt).2.1.1 (transM cfg sh n t pc r alt).2.1.2) (transM cfg sh n t pc r alt).2.2 := by
  have own : ∀ (o : Option Tid), FlagsSame sh { sh with owner := o } := fun _ => ⟨rfl, rfl, rfl, rfl, rfl⟩
  cases pc with
  | inCall c =>
    dsimp only [transM]
    cases hx : (callStep cfg sh n t c).2.1 with
    | more c' =>
      dsimp only []
      exact call_step cfg sh n t alt _ _ c none (atCreate_inCall c r) (by rw [hx]; exact atCreate_inCall c' r) rfl (by rw [hx]; rfl) (fun e => nomatch e)
        (fun _ _ e => by cases e; rfl)
    | done =>
      dsimp only []
      exact call_step cfg sh n t alt _ _ c none (atCreate_inCall c r) (by rw [hx]; rfl) rfl (by rw [hx]; rfl) (fun e => nomatch e)
        (fun _ _ e => by cases e; rfl)
  | start =>
    dsimp only [transM]
    split <;> exact .ctl rfl (hctor := fun _ => ⟨fun h => by constructor <;> simp [ctorOk, ctorRem, isCC] at h ⊢ <;> omega, fun _ e => nomatch e⟩)
  | cL => exact .ctl rfl (hctor := fun _ => ⟨fun h => ⟨h, Nat.le_refl _⟩, fun _ e => nomatch e⟩)
  | cC =>
    dsimp only [transM]
    exact .main (.create (.inr ⟨r, rfl⟩) rfl rfl rfl rfl rfl rfl rfl rfl rfl) rfl
      (fun _ _ => .move ⟨rfl, rfl, rfl, rfl, rfl⟩ rfl (fun _ e => nomatch e))
      (fun _ => ⟨fun h => by constructor <;> simp [ctorOk, ctorRem, isCC] at h ⊢ <;> omega, fun _ e => (Post.spawn.inj e).symm⟩)
  | cU =>
    dsimp only [transM]
    split <;> exact .ctl rfl (hctor := fun _ => ⟨fun h => by constructor <;> simp [ctorOk, ctorRem, isCC] at h ⊢ <;> omega, fun _ e => nomatch e⟩)
  | sFlagL =>
    dsimp only [transM]
    split
    · next hs => exact .main (quiet_main cfg _ _ n t alt _ _ _ _ _ rfl) rfl (fun _ _ => .move (own _) rfl fun _ e => .inr ⟨(Option.some.inj e).symm, hs⟩)
    · next hs =>
      have hs : sh.shutdown = false := by simpa using hs
      exact .main (.setShut r _ rfl rfl hs rfl rfl rfl rfl rfl) rfl (fun _ _ => .setShut ⟨rfl, rfl⟩ hs rfl)
  | jL =>
    dsimp only [transM]
    split
    · next he => exact .main (.quiesce r rfl rfl he rfl rfl rfl rfl rfl) rfl (fun _ _ => .quiesce ⟨rfl, rfl⟩ rfl)
    · split
      · next hm => exact .main (.pick r rfl rfl hm rfl rfl rfl rfl rfl) rfl (fun _ _ => .move ⟨rfl, rfl, rfl, rfl, rfl⟩ rfl (fun _ e => nomatch e))
      · exact .ctl rfl
  | jJoin w =>
    exact .main (.joined w r (.inl rfl) rfl ⟨rfl, rfl, rfl, rfl⟩ rfl) rfl (fun _ _ => .move ⟨rfl, rfl, rfl, rfl, rfl⟩ rfl (fun _ e => nomatch e))
  | jDetach w =>
    exact .main (.joined w r (.inr rfl) rfl ⟨rfl, rfl, rfl, rfl⟩ rfl) rfl (fun _ _ => .move ⟨rfl, rfl, rfl, rfl, rfl⟩ rfl (fun _ e => nomatch e))
  | jU w =>
    dsimp only [transM]; split
    · next hd =>
      refine .main (quiet_of_eq rfl) ?_ (fun _ _ => .move (own none) rfl (fun _ e => nomatch e))
      rw [(Bool.and_eq_true _ _ ▸ hd : r.inDtor = true ∧ cfg.detached = true).2]; rfl
    · exact .main (quiet_of_eq rfl) rfl (fun _ _ => .move (own none) rfl (fun _ e => nomatch e))
  | jUnone =>
    dsimp only [transM]
    split
    · exact .ctl rfl
    · -- `_shutdownCompleteEpoch.store(myEpoch)`, then `shutdown()` returns
      have he := ends_shutdownReturn (cfg := cfg) (sh := { sh with owner := none, complete := r.ep }) (pc := .jUnone) r (.inl rfl)
      refine .ends _ _ he.out he.idle (fun _ => ?_) rfl
      unfold shutdownReturn
      split
      · exact .log [4, 7] rfl rfl (.inr rfl) rfl (fun _ => .inl rfl)
      · exact .log [7] rfl rfl (.inr rfl) rfl (fun _ => .inl rfl)
  | mYield =>
    exact (ends_stepMYield cfg sh r).step rfl
  | dInfU => exact (ends_pollHead _ .drain (.inl rfl)).step rfl
  | pollL k => exact .ctl rfl (by cases k <;> rfl)
  | pollU k =>
    dsimp only [transM]
    split
    · exact (ends_pollExit r k true (by cases k <;> first | exact .inl rfl | exact .inr rfl)).step rfl
    · exact .ctl rfl (by cases k <;> rfl)
  | pollZ k =>
    exact (ends_pollHead _ k (by cases k <;> first | exact .inl rfl | exact .inr rfl)).step rfl
  | finL k => exact .ctl rfl (by cases k <;> rfl)
  | finU k =>
    cases k <;> dsimp only [transM]
    · exact (ends_drainReturn r false).step rfl
    all_goals exact .ctl rfl
  | sFlagUA ep =>
    dsimp only [transM]
    split
    · exact (ends_dtorEarly r ep rfl).step rfl
    · split
      · next hc =>
        exact (ends_shutdownReturn (sh := { sh with owner := none }) r (.inr ⟨ep, rfl, .inl hc⟩)).step rfl
      · exact .main (quiet_main cfg _ _ n t alt _ _ _ _ _ rfl) rfl (fun _ _ => .move (own _) rfl (fun _ e => .inl e))
  | sDoneZ ep =>
    dsimp only [transM]
    split
    · next hc =>
      exact (ends_shutdownReturn r (.inr ⟨ep, rfl, .inl hc⟩)).step rfl
    · exact .main (quiet_main cfg _ _ n t alt _ _ _ _ _ rfl) rfl (fun _ _ => .move ⟨rfl, rfl, rfl, rfl, rfl⟩ rfl (fun _ e => .inl e))
  | sBcast =>
    dsimp only [transM]
    split
    · exact .ctl rfl
    · exact (ends_pollHead _ .shut (.inr rfl)).step rfl
  | sChkU =>
    dsimp only [transM]
    split
    · exact (ends_pollHead _ .race (.inr rfl)).step rfl
    · exact .ctl rfl
  | p2Z =>
    dsimp only [transM]
    split
    · exact .ctl rfl
    · split
      · exact .ctl rfl
      · exact (ends_pollHead _ .dtor (.inr rfl)).step rfl
  | p2Grace => exact (ends_pollHead _ .dtor (.inr rfl)).step rfl
  | p5U => exact (ends_dtorReturn r (.inl rfl)).step rfl
  | rsL =>
    exact ⟨rfl, .restart rfl, .same ⟨rfl, rfl, rfl⟩ (.inr rfl), (fun e => nomatch e), (fun e => nomatch e), .inl rfl, .inl rfl, rfl, .inl rfl, ⟨rfl, rfl⟩, rfl,
      (fun _ _ _ _ e _ h => by cases e; cases h), ⟨fun _ => ⟨trivial, Nat.le_refl _⟩, fun e => nomatch e⟩⟩
  | rsU | stL | stU | kL | kC | kU =>
    dsimp only [transM] <;> (try split) <;> exact .main (.restart rfl) rfl (fun h => nomatch h)
  -- the rest neither touches a flag nor ends an operation: `startAux`, `mSpawn`, `mSpawnCtl`, `mJoin`, `done`, `dInfL`, `sFlagU`, `sGrace`,
  -- `sChkL`, `p4CfgL`, `p4CfgU`, `p5L`
  | _ => dsimp only [transM] <;> (repeat' split) <;> exact .ctl rfl

theorem trans_step (cfg : Cfg) (sh : Shared) (n t : Nat) (th : Thread) (alt : Nat) :
    Step cfg sh n t th alt (trans cfg sh n t th alt).1 (trans cfg sh n t th alt).2.1 (trans cfg sh n t th alt).2.2 := by
  cases th with
  | main pc r => exact transM_step cfg sh n t pc r alt
  | sub x => exact transS_step cfg sh n t x alt
  | worker w => exact transW_step cfg sh n t w alt

theorem wake_step (cfg : Cfg) (sh : Shared) (n t alt : Nat) (b : Bool) :
    Step cfg sh n t (.worker .asleep) alt sh (wake (.worker .asleep) b) .none := .calm rfl rfl

theorem reacq_step (cfg : Cfg) (sh : Shared) (n t : Nat) (to late : Bool) :
    Step cfg sh n t (.worker (.woken to)) 0 (reacq cfg sh t late).1 (.worker (reacq cfg sh t late).2) .none := by
  unfold reacq
  split
  · exact afterWait_step cfg sh n t 0 _ _ _ (.inr ⟨to, rfl⟩) (fun h => by simpa [waitPred] using h)
  · split
    · exact afterWait_step cfg sh n t 0 _ _ true (.inr ⟨to, rfl⟩) (fun e => nomatch e)
    · exact .calm rfl rfl

theorem enabled_join (s : St) (w : Tid) (r : MRegs) (h : enabled s (.main (.jJoin w) r) = true) :
    ∃ tj, s.thr[w]? = some tj ∧ isFinished tj = true := by
  simp only [enabled] at h
  cases hx : s.thr[w]? with
  | none => rw [hx] at h; simp at h
  | some tj => rw [hx] at h; exact ⟨tj, rfl, h⟩

/-- Thread `t` of `s`, in state `th`, takes a step that is not a stutter (its pending operation, a wake-up, a re-acquisition): it becomes `th'`,
the shared state `sh'`, the thread list `l`.  The thread has not finished, acquires the mutex only if it is free, and a pending `join` finds its
thread finished.  `count` is the counting form of `thr`. -/
structure PoolStep (cfg : Cfg) (s : St) (t : Tid) (th : Thread) (alt : Nat) (sh' : Shared) (th' : Thread) (post : Post) (l : List Thread) : Prop
    extends Step cfg s.sh s.thr.length t th alt sh' th' post where
  get : s.thr[t]? = some th
  unfinished : isFinished th = false
  free : acqM th = true → s.sh.owner = none
  join : ∀ w r, th = .main (.jJoin w) r → ∃ tj, s.thr[w]? = some tj ∧ isFinished tj = true
  thr : ThreadsStep s.thr l t th' post
  count : ∀ p : Thread → Bool, (∀ x b, p (wake x b) = p x) → l.countP p = (s.thr.set t th').countP p + postAdd p post

/-- Every step is a stutter or a `PoolStep`: what the invariants' step lemmas start from. -/
theorem step_elim (cfg : Cfg) (s : St) (c : Choice) (P : St → Prop) (hstut : P s)
    (h : ∀ t th alt sh' th' post l, PoolStep cfg s t th alt sh' th' post l → P { sh := sh', thr := l }) : P (step cfg s c) := by
  apply step_cases cfg s c P hstut
  · intro t th b hget ha
    obtain rfl := asleep_eq ha
    exact h t _ 0 s.sh _ .none _ ⟨wake_step cfg s.sh _ t 0 b, hget, rfl, (fun e => nomatch e), (fun w r e => nomatch e),
      threadsStep_of_post hget (alt := 0) rfl (.inr rfl), fun _ _ => rfl⟩
  · intro t th to late hget hw ho
    obtain rfl := woken_eq hw
    exact h t _ 0 _ _ .none _ ⟨reacq_step cfg s.sh _ t to late, hget, rfl, (fun _ => ho), (fun w r e => nomatch e),
      threadsStep_of_post hget (alt := 0) rfl (.inr rfl), fun _ _ => rfl⟩
  · intro t th alt l hget hw _ hf he hp
    exact h t th alt _ _ _ l ⟨trans_step cfg s.sh s.thr.length t th alt, hget, hf,
      fun e => enabled_locks s th he (by rw [acqM, hw] at e; exact e), fun w r e => enabled_join s w r (by rw [← e]; exact he),
      threadsStep_of_post hget hp (trans_step cfg s.sh s.thr.length t th alt).awake, fun p hw => applyPost_countP p hw _ l _ alt hp⟩

end Iora.ThreadPool
