import IoraModel.Model.HttpClientFraming
import IoraModel.Lemmas.HttpCommon
/-
Stability and resumption of the client framing model, level by level from the line search up to `frameResponse`: an answer other than
"need more" stays when bytes follow, and after "need more" the state carried between reads is a function of the accumulated bytes
(`After`).  Hence the receive loop over any segmentation answers as one framing call on the whole buffer does (`runLoop_segments`).
Two facts about what the client accepts stand at the end: the reuse decision as a whole (F3e) and the meaning of a `Content-Length` list (F4a).
-/
namespace Iora.Http
open Iora

theorem sizeLine_append (buf x : Bytes) (cap pos : Nat) (r : SizeLine)
    (h : sizeLine buf cap pos = r) (hr : r ≠ .noLF) : sizeLine (buf ++ x) cap pos = r := by
  unfold sizeLine at h ⊢
  cases hf : findAux [10] (buf.drop pos) 0 with
  | none => rw [hf] at h; exact absurd h.symm hr
  | some off =>
    obtain ⟨hf', hle⟩ := findAux_drop_append [10] buf x pos off hf
    simp only [List.length_cons, List.length_nil] at hle
    have hget : (buf ++ x)[pos + off - 1]? = buf[pos + off - 1]? := List.getElem?_append_left (by omega)
    rw [hf] at h
    rw [hf']
    simp only [hget, take_drop_append buf x pos _ (show pos + (pos + off - 1 - pos) ≤ buf.length by omega)]
    exact h

theorem trailerLoop_append (buf x : Bytes) (tp : Nat) (r : StepRes)
    (h : trailerLoop buf tp = r) (hr : r ≠ .needMore) : trailerLoop (buf ++ x) tp = r := by
  -- one turn of the loop sees the same line end and the same byte before it
  have turn : ∀ tp off, findAux [10] (buf.drop tp) 0 = some off →
      tp < (buf ++ x).length ∧ findAux [10] ((buf ++ x).drop tp) 0 = some off ∧
        (buf ++ x)[tp + off - 1]? = buf[tp + off - 1]? := by
    intro tp off hf
    obtain ⟨hf', hle⟩ := findAux_drop_append [10] buf x tp off hf
    simp only [List.length_cons, List.length_nil] at hle
    exact ⟨by simp; omega, hf', List.getElem?_append_left (by omega)⟩
  induction tp using trailerLoop.induct buf with
  | case1 tp hlt hf => rw [trailerLoop] at h; simp [hlt, hf] at h; exact absurd h.symm hr
  | case2 tp hlt off hf hm =>
    obtain ⟨hlt', hf', hget⟩ := turn tp off hf
    rw [trailerLoop] at h ⊢
    simp only [hlt, hlt', ↓reduceDIte, hf, hf', hget, if_pos hm] at h ⊢
    exact h
  | case3 tp hlt off hf hm he =>
    obtain ⟨hlt', hf', hget⟩ := turn tp off hf
    rw [trailerLoop] at h ⊢
    simp only [hlt, hlt', ↓reduceDIte, hf, hf', hget, if_neg hm, if_pos he] at h ⊢
    exact h
  | case4 tp hlt off hf hm he ih =>
    obtain ⟨hlt', hf', hget⟩ := turn tp off hf
    rw [trailerLoop] at h ⊢
    simp only [hlt, hlt', ↓reduceDIte, hf, hf', hget, if_neg hm, if_neg he] at h ⊢
    exact ih h
  | case5 tp hlt => rw [trailerLoop] at h; simp [hlt] at h; exact absurd h.symm hr

theorem chunkStep_append (buf x : Bytes) (cap : Nat) (st : ChunkState) (r : StepRes)
    (h : chunkStep buf cap st = r) (hr : r ≠ .needMore) : chunkStep (buf ++ x) cap st = r := by
  unfold chunkStep at h ⊢
  cases hs : sizeLine buf cap st.pos with
  | noLF => rw [hs] at h; exact absurd h.symm hr
  | bad => rw [sizeLine_append buf x cap st.pos _ hs (by simp)]; rw [hs] at h; exact h
  | ok n ds =>
    rw [sizeLine_append buf x cap st.pos _ hs (by simp)]
    rw [hs] at h
    simp only at h ⊢
    by_cases hn : n = 0
    · simp only [hn, ↓reduceIte] at h ⊢
      exact trailerLoop_append buf x ds r h hr
    · simp only [hn, ↓reduceIte] at h ⊢
      by_cases hb : buf.length < ds ∨ buf.length - ds < n ∨ buf.length - ds - n < 2
      · simp only [hb, ↓reduceIte] at h; exact absurd h.symm hr
      · have hg1 : (buf ++ x)[ds + n]? = buf[ds + n]? := List.getElem?_append_left (by omega)
        have hg2 : (buf ++ x)[ds + n + 1]? = buf[ds + n + 1]? := List.getElem?_append_left (by omega)
        rw [if_neg hb] at h
        rw [if_neg (by simp only [List.length_append]; omega), hg1, hg2, take_drop_append buf x ds n (by omega)]
        exact h

theorem advanceChunked_oob (buf : Bytes) (cap : Nat) (st : ChunkState) (h : ¬ st.pos < buf.length) :
    advanceChunked buf cap st = (.needMore, st) := by
  rw [advanceChunked, dif_neg h]

theorem advanceChunked_step (buf : Bytes) (cap : Nat) (st : ChunkState) (h : st.pos < buf.length) :
    advanceChunked buf cap st =
      match chunkStep buf cap st with
      | .needMore => (.needMore, st)
      | .malformed => (.malformed, st)
      | .complete me => (.complete, { st with messageEnd := me })
      | .next st' => advanceChunked buf cap st' := by
  rw [advanceChunked, dif_pos h]
  split <;> simp_all

/-- the chunk decoder when bytes follow: from where it stopped for want of bytes it goes on as a decoder started over would; any other
answer stays -/
theorem advanceChunked_app (buf x : Bytes) (cap : Nat) (st : ChunkState) :
    match advanceChunked buf cap st with
    | (.needMore, st') => advanceChunked (buf ++ x) cap st' = advanceChunked (buf ++ x) cap st
    | r => advanceChunked (buf ++ x) cap st = r := by
  induction st using advanceChunked.induct buf cap with
  | case1 s hlt hs => rw [advanceChunked_step buf cap s hlt, hs]
  | case2 s hlt hs =>
    rw [advanceChunked_step buf cap s hlt, hs]
    rw [advanceChunked_step _ cap s (by simp; omega), chunkStep_append buf x cap s _ hs (by simp)]
  | case3 s hlt me hs =>
    rw [advanceChunked_step buf cap s hlt, hs]
    rw [advanceChunked_step _ cap s (by simp; omega), chunkStep_append buf x cap s _ hs (by simp)]
  | case4 s hlt s2 hs ih =>
    rw [advanceChunked_step buf cap s hlt, hs,
      advanceChunked_step (buf ++ x) cap s (by simp; omega), chunkStep_append buf x cap s _ hs (by simp)]
    exact ih
  | case5 s hlt => rw [advanceChunked_oob buf cap s hlt]

theorem FR_done (method : Bytes) (cap : Nat) (st : St) (h : st.headersDone = true) :
    frameResponse method cap st = bodyPhase cap st := by
  rw [frameResponse, if_pos h]

theorem FR_empty (method : Bytes) (cap : Nat) (st : St) (h : st.headersDone = false) (hl : st.data.length = 0) :
    frameResponse method cap st = ({ st with headerScanPos := 0 }, .needMore) := by
  rw [frameResponse]; simp [h, hl]

theorem FR_none (method : Bytes) (cap : Nat) (st : St) (h : st.headersDone = false) (hl : st.data.length ≠ 0)
    (hf : find crlf2 st.data st.headerScanPos = none) :
    frameResponse method cap st =
      ({ st with headerScanPos := if st.data.length ≥ 3 then st.data.length - 3 else 0 }, .needMore) := by
  rw [frameResponse]; simp [h, hl, hf]

theorem FR_parseErr (method : Bytes) (cap : Nat) (st : St) (he : Nat) (k : Kind) (h : st.headersDone = false)
    (hl : st.data.length ≠ 0) (hf : find crlf2 st.data st.headerScanPos = some he)
    (hp : parseHeaderBlock (st.data.take he) = .error k) :
    frameResponse method cap st = (st, .malformed k) := by
  rw [frameResponse]; simp [h, hl, hf, hp]

theorem FR_interim (method : Bytes) (cap : Nat) (st : St) (he : Nat) (resp : Resp) (h : st.headersDone = false)
    (hl : st.data.length ≠ 0) (hf : find crlf2 st.data st.headerScanPos = some he)
    (hp : parseHeaderBlock (st.data.take he) = .ok resp) (hi : isInterim resp.status = true) :
    frameResponse method cap st =
      frameResponse method cap { st with data := st.data.drop (he + 4), headerScanPos := 0, resp := resp } := by
  rw [frameResponse]; simp [h, hl, hf, hp, hi]

theorem FR_dfErr (method : Bytes) (cap : Nat) (st : St) (he : Nat) (resp : Resp) (k : Kind) (h : st.headersDone = false)
    (hl : st.data.length ≠ 0) (hf : find crlf2 st.data st.headerScanPos = some he)
    (hp : parseHeaderBlock (st.data.take he) = .ok resp) (hi : isInterim resp.status = false)
    (hd : determineFraming method resp cap = .error k) :
    frameResponse method cap st = ({ st with resp := resp }, .malformed k) := by
  rw [frameResponse]; simp [h, hl, hf, hp, hi, hd]

theorem FR_final (method : Bytes) (cap : Nat) (st : St) (he : Nat) (resp : Resp) (fr : Framing) (h : st.headersDone = false)
    (hl : st.data.length ≠ 0) (hf : find crlf2 st.data st.headerScanPos = some he)
    (hp : parseHeaderBlock (st.data.take he) = .ok resp) (hi : isInterim resp.status = false)
    (hd : determineFraming method resp cap = .ok fr) :
    frameResponse method cap st =
      bodyPhase cap { st with headersDone := true, bodyStart := he + 4, resp := resp, framing := fr,
                              chunk := { pos := he + 4, decoded := [], messageEnd := 0 } } := by
  rw [frameResponse]; simp [h, hl, hf, hp, hi, hd]

theorem bodyPhase_noBody (cap : Nat) (st : St) (h : st.framing.mode = .noBody) :
    bodyPhase cap st =
      ({ st with resp := { st.resp with body := [] },
                 forceEvict := st.forceEvict || decide (st.data.length > st.bodyStart) }, .complete) := by
  unfold bodyPhase; simp only [h]

theorem bodyPhase_cl (cap : Nat) (st : St) (h : st.framing.mode = .contentLength) :
    bodyPhase cap st =
      if st.data.length - st.bodyStart < st.framing.contentLength then (st, .needMore)
      else
        ({ st with resp := { st.resp with body := (st.data.drop st.bodyStart).take st.framing.contentLength },
                   forceEvict := st.forceEvict || decide (st.data.length > st.bodyStart + st.framing.contentLength) },
         .complete) := by
  unfold bodyPhase; simp only [h]

theorem bodyPhase_chunked (cap : Nat) (st : St) (h : st.framing.mode = .chunked) (fs : FrameStatus) (cs : ChunkState)
    (ha : advanceChunked st.data cap st.chunk = (fs, cs)) :
    bodyPhase cap st =
      match fs with
      | .needMore => ({ st with chunk := cs }, .needMore)
      | .malformed => ({ st with chunk := cs }, .malformed .chunk)
      | .complete =>
        ({ st with chunk := cs, resp := { st.resp with body := cs.decoded },
                   forceEvict := st.forceEvict || decide (st.data.length > cs.messageEnd) }, .complete) := by
  unfold bodyPhase; simp only [h, ha]; cases fs <;> rfl

theorem bodyPhase_close (cap : Nat) (st : St) (h : st.framing.mode = .closeDelimited) :
    bodyPhase cap st = (st, .needMore) := by
  unfold bodyPhase; simp only [h]

/-- `headerScanPos` is dead once the headers are done -/
def normSt (st : St) : St := if st.headersDone then { st with headerScanPos := 0 } else st

inductive Obs where
  | more (st : St)
  | done (r : Resp) (evict : Bool)
  | bad (k : Kind)
  deriving DecidableEq, Repr

/-- what the receive loop can see of a framing answer -/
def obs : St × Out → Obs
  | (st, .needMore) => .more (normSt st)
  | (st, .complete) => .done st.resp st.forceEvict
  | (_, .malformed k) => .bad k

theorem bodyPhase_keeps (cap : Nat) (st : St) :
    (bodyPhase cap st).1.headersDone = st.headersDone ∧ (bodyPhase cap st).1.data = st.data := by
  unfold bodyPhase
  split
  · exact ⟨rfl, rfl⟩
  · split <;> exact ⟨rfl, rfl⟩
  · split <;> exact ⟨rfl, rfl⟩
  · exact ⟨rfl, rfl⟩

theorem bodyPhase_scan (cap : Nat) (s : St) (p : Nat) (h : s.headersDone = true) :
    obs (bodyPhase cap { s with headerScanPos := p }) = obs (bodyPhase cap s) := by
  unfold bodyPhase
  cases hm : s.framing.mode with
  | noBody => simp [obs]
  | contentLength =>
    simp only
    split <;> simp [obs, normSt, h]
  | chunked =>
    simp only
    cases hadv : advanceChunked s.data cap s.chunk with
    | mk fs cs => cases fs <;> simp [obs, normSt, h]
  | closeDelimited => simp [obs, normSt, h]

/-- `frameResponse` depends on `headerScanPos` only through the result of the terminator search -/
theorem FR_congr (method : Bytes) (cap : Nat) (st : St) (p q : Nat) (h : st.headersDone = false)
    (hf : find crlf2 st.data p = find crlf2 st.data q) :
    obs (frameResponse method cap { st with headerScanPos := p }) = obs (frameResponse method cap { st with headerScanPos := q }) := by
  by_cases hl : st.data.length = 0
  · rw [FR_empty method cap { st with headerScanPos := p } h hl, FR_empty method cap { st with headerScanPos := q } h hl]
  · cases hfq : find crlf2 st.data q with
    | none =>
      rw [FR_none method cap { st with headerScanPos := p } h hl (by rw [← hfq]; exact hf),
          FR_none method cap { st with headerScanPos := q } h hl hfq]
    | some he =>
      have hfp : find crlf2 st.data p = some he := by rw [hf, hfq]
      cases hp : parseHeaderBlock (st.data.take he) with
      | error k =>
        rw [FR_parseErr method cap { st with headerScanPos := p } he k h hl hfp hp,
            FR_parseErr method cap { st with headerScanPos := q } he k h hl hfq hp]
        rfl
      | ok resp =>
        by_cases hi : isInterim resp.status = true
        · rw [FR_interim method cap { st with headerScanPos := p } he resp h hl hfp hp hi,
              FR_interim method cap { st with headerScanPos := q } he resp h hl hfq hp hi]
        · have hi' : isInterim resp.status = false := by simpa using hi
          cases hd : determineFraming method resp cap with
          | error k =>
            rw [FR_dfErr method cap { st with headerScanPos := p } he resp k h hl hfp hp hi' hd,
                FR_dfErr method cap { st with headerScanPos := q } he resp k h hl hfq hp hi' hd]
            rfl
          | ok fr =>
            rw [FR_final method cap { st with headerScanPos := p } he resp fr h hl hfp hp hi' hd,
                FR_final method cap { st with headerScanPos := q } he resp fr h hl hfq hp hi' hd]
            let s1 : St := { st with headersDone := true, bodyStart := he + 4, resp := resp, framing := fr,
                                     chunk := { pos := he + 4, decoded := [], messageEnd := 0 } }
            have e1 := bodyPhase_scan cap s1 p rfl
            have e2 := bodyPhase_scan cap s1 q rfl
            exact e1.trans e2.symm

/-- what `responseData.append(x)` does to the state -/
def St.app (st : St) (x : Bytes) : St := { st with data := st.data ++ x }

/-- `r` is the answer of a framing call, `w` the answer once bytes `x` have been appended.  After "need more" the carried state goes
on (`run` on it with `x` appended) to `w` up to `eq`; a complete or malformed answer stays, only the surplus flag can turn on.
`eq` is equality for the body phase and equality of what the loop sees (`obs`) for `frameResponse`, whose scan cursor differs. -/
def After (run : St → St × Out) (eq : St × Out → St × Out → Prop) (x : Bytes) : (r w : St × Out) → Prop
  | (st', .needMore), w => eq (run (st'.app x)) w
  | (st', .complete), w => ∃ st'', w = (st'', .complete) ∧ st''.resp = st'.resp ∧
      (st'.forceEvict = true → st''.forceEvict = true)
  | (_, .malformed k), w => ∃ st'', w = (st'', .malformed k)

theorem evict_mono (a : Bool) (l n k : Nat) : (a || decide (l > k)) = true → (a || decide (l + n > k)) = true := by
  simp only [Bool.or_eq_true, decide_eq_true_eq]
  exact fun h => h.imp id (fun h => by omega)

theorem bodyPhase_app (cap : Nat) (st : St) (x : Bytes) :
    After (bodyPhase cap) (· = ·) x (bodyPhase cap st) (bodyPhase cap (st.app x)) := by
  cases hm : st.framing.mode with
  | noBody =>
    rw [bodyPhase_noBody cap st hm]
    refine ⟨_, bodyPhase_noBody cap (st.app x) hm, rfl, ?_⟩
    simp only [St.app, List.length_append]
    exact evict_mono _ _ _ _
  | contentLength =>
    rw [bodyPhase_cl cap st hm]
    split
    · rfl
    · rename_i hlen
      have hlen' : ¬ ((st.app x).data.length - (st.app x).bodyStart < (st.app x).framing.contentLength) := by
        simp only [St.app, List.length_append]; omega
      refine ⟨_, by rw [bodyPhase_cl cap (st.app x) hm, if_neg hlen'], ?_, ?_⟩
      · simp only [St.app, Resp.mk.injEq, true_and]
        by_cases hb : st.bodyStart ≤ st.data.length
        · rw [List.drop_append_of_le_length hb, List.take_append_of_le_length (by simp [List.length_drop]; omega)]
        · have hz : st.framing.contentLength = 0 := by omega
          simp [hz]
      · simp only [St.app, List.length_append]
        exact evict_mono _ _ _ _
  | chunked =>
    have ha := advanceChunked_app st.data x cap st.chunk
    cases hadv : advanceChunked st.data cap st.chunk with
    | mk fs cs =>
      rw [hadv] at ha
      rw [bodyPhase_chunked cap st hm fs cs hadv]
      cases fs with
      | needMore =>
        show bodyPhase cap _ = bodyPhase cap _
        cases hx : advanceChunked (st.data ++ x) cap st.chunk with
        | mk fs' cs' =>
          rw [bodyPhase_chunked cap (St.app { st with chunk := cs } x) hm fs' cs' (ha.trans hx),
            bodyPhase_chunked cap (st.app x) hm fs' cs' hx]
          cases fs' <;> rfl
      | complete =>
        refine ⟨_, bodyPhase_chunked cap (st.app x) hm _ _ ha, rfl, ?_⟩
        simp only [St.app, List.length_append]
        exact evict_mono _ _ _ _
      | malformed => exact ⟨_, bodyPhase_chunked cap (st.app x) hm _ _ ha⟩
  | closeDelimited => rw [bodyPhase_close cap st hm]; rfl

theorem St.scan0 (st : St) (hs : st.headerScanPos = 0) : { st with headerScanPos := 0 } = st := by
  cases st; simp only at hs; subst hs; rfl

theorem header_found_app (st : St) (x : Bytes) (he : Nat) (hf : find crlf2 st.data st.headerScanPos = some he) :
    find crlf2 (st.app x).data (st.app x).headerScanPos = some he ∧
    (st.app x).data.take he = st.data.take he ∧
    (st.app x).data.drop (he + 4) = st.data.drop (he + 4) ++ x ∧ (st.app x).data.length ≠ 0 := by
  have hb := find_bounds crlf2 st.data _ _ hf
  simp only [crlf2, List.length_cons, List.length_nil] at hb
  refine ⟨find_append_some _ _ _ _ _ hf, ?_, ?_, ?_⟩
  · simp only [St.app]; rw [List.take_append_of_le_length (by omega)]
  · simp only [St.app]; rw [List.drop_append_of_le_length (by omega)]
  · simp only [St.app, List.length_append]; omega

theorem After.ofBody {method : Bytes} {cap : Nat} {x : Bytes} {r w : St × Out} (h : After (bodyPhase cap) (· = ·) x r w)
    (hd : r.1.headersDone = true) : After (frameResponse method cap) (obs · = obs ·) x r w := by
  obtain ⟨st', o⟩ := r
  cases o with
  | needMore =>
    show obs _ = obs _
    rw [FR_done method cap (st'.app x) hd, show bodyPhase cap (st'.app x) = w from h]
  | complete => exact h
  | malformed k => exact h

theorem FR_app (method : Bytes) (cap : Nat) (st : St) (hd : st.headersDone = false) (hs : st.headerScanPos = 0) (x : Bytes) :
    After (frameResponse method cap) (obs · = obs ·) x (frameResponse method cap st) (frameResponse method cap (st.app x)) := by
  induction st using frameResponse.induct method cap with
  | case1 s hd' => rw [hd] at hd'; cases hd'
  | case2 s _ hl =>
    rw [FR_empty method cap s hd hl, St.scan0 s hs]
    exact rfl
  | case3 s _ hl hf =>
    rw [FR_none method cap s hd hl hf]
    -- the cursor `len - 3` carried after "need more" finds what a scan from 0 finds
    have hfind : find crlf2 (s.app x).data (if s.data.length ≥ 3 then s.data.length - 3 else 0) = find crlf2 (s.app x).data 0 := by
      by_cases h3 : s.data.length ≥ 3
      · simp only [h3, ↓reduceIte, St.app]
        rw [hs] at hf
        exact (find_resume crlf2 s.data x 0 (s.data.length - 3) (by simp [crlf2]) (by omega) (by simp [crlf2]; omega) hf).symm
      · simp only [h3, ↓reduceIte]
    have := FR_congr method cap (s.app x) (if s.data.length ≥ 3 then s.data.length - 3 else 0) 0 hd hfind
    exact this.trans (congrArg (fun t => obs (frameResponse method cap t)) (St.scan0 (s.app x) hs))
  | case4 s _ hl he hf k hp =>
    obtain ⟨hf', ht, _, hl'⟩ := header_found_app s x he hf
    rw [FR_parseErr method cap s he k hd hl hf hp]
    exact ⟨_, FR_parseErr method cap (s.app x) he k hd hl' hf' (by rw [ht]; exact hp)⟩
  | case5 s _ hl he hf resp hp hi ih =>
    obtain ⟨hf', ht, hdr, hl'⟩ := header_found_app s x he hf
    rw [FR_interim method cap s he resp hd hl hf hp hi, FR_interim method cap (s.app x) he resp hd hl' hf' (by rw [ht]; exact hp) hi,
      hdr]
    exact ih hd rfl
  | case6 s _ hl he hf resp hp hi k hdf =>
    have hi' : isInterim resp.status = false := by simpa using hi
    obtain ⟨hf', ht, _, hl'⟩ := header_found_app s x he hf
    rw [FR_dfErr method cap s he resp k hd hl hf hp hi' hdf]
    exact ⟨_, FR_dfErr method cap (s.app x) he resp k hd hl' hf' (by rw [ht]; exact hp) hi' hdf⟩
  | case7 s _ hl he hf resp hp hi fr hdf =>
    have hi' : isInterim resp.status = false := by simpa using hi
    obtain ⟨hf', ht, _, hl'⟩ := header_found_app s x he hf
    rw [FR_final method cap s he resp fr hd hl hf hp hi' hdf,
      FR_final method cap (s.app x) he resp fr hd hl' hf' (by rw [ht]; exact hp) hi' hdf]
    exact (bodyPhase_app cap _ x).ofBody (by rw [(bodyPhase_keeps cap _).1])

theorem normSt_data (st : St) : (normSt st).data = st.data := by
  unfold normSt; split <;> rfl

theorem normSt_idem (st : St) : normSt (normSt st) = normSt st := by
  unfold normSt
  by_cases h : st.headersDone = true <;> simp [h]

/-- the loop cannot tell a carried state from its normal form -/
theorem FR_normSt (method : Bytes) (cap : Nat) (st : St) (x : Bytes) :
    obs (frameResponse method cap (st.app x)) = obs (frameResponse method cap ((normSt st).app x)) := by
  unfold normSt
  split
  · rename_i hd
    rw [FR_done method cap (st.app x) hd, FR_done method cap (St.app { st with headerScanPos := 0 } x) hd]
    exact (bodyPhase_scan cap (st.app x) 0 hd).symm
  · rfl

theorem FR_data_le (method : Bytes) (cap : Nat) (st st' : St) (o : Out) (h : frameResponse method cap st = (st', o)) :
    st'.data.length ≤ st.data.length := by
  induction st using frameResponse.induct method cap generalizing st' with
  | case1 s hd =>
    rw [FR_done method cap s hd] at h
    have := (bodyPhase_keeps cap s).2
    rw [h] at this; rw [this]; exact Nat.le_refl _
  | case2 s hd hl => rw [FR_empty method cap s (by simpa using hd) hl] at h; cases h; exact Nat.le_refl _
  | case3 s hd hl hf => rw [FR_none method cap s (by simpa using hd) hl hf] at h; cases h; exact Nat.le_refl _
  | case4 s hd hl he hf k hp => rw [FR_parseErr method cap s he k (by simpa using hd) hl hf hp] at h; cases h; exact Nat.le_refl _
  | case5 s hd hl he hf resp hp hi ih =>
    rw [FR_interim method cap s he resp (by simpa using hd) hl hf hp hi] at h
    have := ih st' h
    simp only [List.length_drop] at this
    omega
  | case6 s hd hl he hf resp hp hi k hdf =>
    rw [FR_dfErr method cap s he resp k (by simpa using hd) hl hf hp (by simpa using hi) hdf] at h; cases h; exact Nat.le_refl _
  | case7 s hd hl he hf resp hp hi fr hdf =>
    rw [FR_final method cap s he resp fr (by simpa using hd) hl hf hp (by simpa using hi) hdf] at h
    have := (bodyPhase_keeps cap { s with headersDone := true, bodyStart := he + 4, resp := resp, framing := fr,
                                          chunk := { pos := he + 4, decoded := [], messageEnd := 0 } }).2
    rw [h] at this; rw [this]; exact Nat.le_refl _

theorem recvStep_empty (method : Bytes) (cap : Nat) (st : St) : recvStep method cap st (.data []) = (st, .more) := rfl

theorem recvStep_over (method : Bytes) (cap : Nat) (st : St) (seg : Bytes) (hne : seg ≠ []) (hcap : (st.data ++ seg).length > cap) :
    recvStep method cap st (.data seg) = (st.app seg, .framingError .cap) := by
  cases seg with
  | nil => exact absurd rfl hne
  | cons a t => simp only [recvStep, List.isEmpty_cons, Bool.false_eq_true, ↓reduceIte, hcap, St.app]

/-- a non-empty read within the cap is one framing call on the grown buffer -/
theorem recvStep_data (method : Bytes) (cap : Nat) (st : St) (seg : Bytes) (hne : seg ≠ []) (hcap : ¬ (st.data ++ seg).length > cap) :
    recvStep method cap st (.data seg) =
      match frameResponse method cap (st.app seg) with
      | (st2, .needMore) => (st2, .more)
      | (st2, .complete) => (st2, .response st2.resp st2.forceEvict)
      | (st2, .malformed k) => (st2, .framingError k) := by
  cases seg with
  | nil => exact absurd rfl hne
  | cons a t => simp only [recvStep, List.isEmpty_cons, Bool.false_eq_true, ↓reduceIte, hcap, St.app]; rfl

/-- how a loop result relates to the framing of the whole buffer: equal, except that the surplus flag of a response
may still be off (the surplus had not arrived when the message completed) -/
def Rel (res : St × LoopOut) (o : Obs) : Prop :=
  match res.2, o with
  | .more, .more s => normSt res.1 = s
  | .response r e, .done r' e' => r = r' ∧ (e = true → e' = true)
  | .framingError k, .bad k' => k = k'
  | _, _ => False

def dataReads (ss : List Bytes) : List Recv := ss.map .data

/-- `D` is what has been delivered so far, `st0` the state with which framing `D` in ONE buffer answers
"need more", and the loop's own state `st` agrees with it up to `normSt`.  `FR_app` is applied to the fresh state `{ data := D }`, not
to `st`, because it starts from `headerScanPos = 0`. -/
theorem runLoop_segments (method : Bytes) (cap : Nat) : ∀ (ss : List Bytes) (D : Bytes) (st st0 : St),
    (D ++ ss.flatten).length ≤ cap →
    frameResponse method cap { data := D } = (st0, .needMore) → normSt st = normSt st0 →
    Rel (runLoop method cap st (dataReads ss)) (obs (frameResponse method cap { data := D ++ ss.flatten })) := by
  intro ss
  induction ss with
  | nil =>
    intro D st st0 _ h0 hn
    simp only [dataReads, List.map_nil, runLoop, List.flatten_nil, List.append_nil, h0, obs, Rel]
    rw [hn]
  | cons s ss ih =>
    intro D st st0 hcap h0 hn
    simp only [dataReads, List.map_cons, runLoop]
    by_cases hse : s = []
    · subst hse
      simp only [recvStep_empty, List.flatten_cons, List.nil_append]
      exact ih D st st0 (by simpa using hcap) h0 hn
    · have hdl : st.data.length ≤ D.length := by
        have h1 := FR_data_le method cap _ _ _ h0
        have h2 : st.data = st0.data := by rw [← normSt_data st, ← normSt_data st0, hn]
        rw [h2]; exact h1
      have hcap1 : ¬ ((st.data ++ s).length > cap) := by
        simp only [List.length_append, List.flatten_cons] at hcap ⊢
        omega
      rw [recvStep_data method cap st s hse hcap1]
      have hobs : obs (frameResponse method cap (st.app s)) = obs (frameResponse method cap { data := D ++ s }) := by
        rw [FR_normSt method cap st, hn, ← FR_normSt method cap st0]
        have := FR_app method cap { data := D } rfl rfl s
        rwa [h0] at this
      have hassoc : D ++ (s :: ss).flatten = (D ++ s) ++ ss.flatten := by simp
      rw [hassoc]
      have hst := FR_app method cap { data := D ++ s } rfl rfl ss.flatten
      rw [show ({ data := D ++ s } : St).app ss.flatten = { data := D ++ s ++ ss.flatten } from rfl] at hst
      cases hfr : frameResponse method cap (st.app s) with
      | mk st2 o2 =>
        cases hw : frameResponse method cap { data := D ++ s } with
        | mk stw ow =>
          rw [hfr, hw] at hobs
          rw [hw] at hst
          -- equal observations are of the same kind
          cases ow with
          | needMore =>
            cases o2 <;> simp only [obs, reduceCtorEq, Obs.more.injEq] at hobs
            exact ih (D ++ s) st2 stw (by simpa [List.append_assoc] using hcap) hw hobs
          | complete =>
            cases o2 <;> simp only [obs, reduceCtorEq, Obs.done.injEq] at hobs
            obtain ⟨st'', hst, hr, he⟩ := hst
            simp only [hst, obs, Rel]
            exact ⟨by rw [hr, hobs.1], by intro h; exact he (by rw [← hobs.2]; exact h)⟩
          | malformed k' =>
            cases o2 <;> simp only [obs, reduceCtorEq, Obs.bad.injEq] at hobs
            obtain ⟨st'', hst⟩ := hst
            simp only [hst, obs, Rel]
            exact hobs

/-- outcomes agree up to the surplus flag of a response -/
def SameOutcome : LoopOut → LoopOut → Prop
  | .response r _, .response r' _ => r = r'
  | .response _ _, _ => False
  | _, .response _ _ => False
  | a, b => a = b

theorem SameOutcome_trans_symm {a b c : LoopOut} (h1 : SameOutcome a c) (h2 : SameOutcome b c) : SameOutcome a b := by
  cases a <;> cases b <;> cases c <;> simp_all [SameOutcome]

theorem SameOutcome.response_flag {a : LoopOut} {r : Resp} {e : Bool} (e' : Bool) (h : SameOutcome a (.response r e)) :
    SameOutcome a (.response r e') := by
  cases a <;> simp_all [SameOutcome]

theorem runLoop_stop (method : Bytes) (cap : Nat) (st : St) (r : Recv) (rs : List Recv) (h : (recvStep method cap st r).2 ≠ .more) :
    runLoop method cap st (r :: rs) = recvStep method cap st r := by
  rw [runLoop]
  split
  · rename_i heq; rw [heq] at h; exact absurd rfl h
  · rfl

theorem runLoop_append (method : Bytes) (cap : Nat) : ∀ (rs rs' : List Recv) (st : St),
    runLoop method cap st (rs ++ rs') =
      (match runLoop method cap st rs with
       | (st', .more) => runLoop method cap st' rs'
       | res => res) := by
  intro rs
  induction rs with
  | nil => intro rs' st; simp [runLoop]
  | cons r rs ih =>
    intro rs' st
    simp only [List.cons_append, runLoop]
    cases hr : recvStep method cap st r with
    | mk st1 o1 =>
      cases o1 with
      | more => simp only; exact ih rs' st1
      | response r e => simp
      | framingError k => simp
      | failed f => simp

/-- what the loop returns when the peer closes after the observed framing result: the PeerClosed arm of `recvStep` -/
def closeOut : Obs → LoopOut
  | .more s =>
    if s.headersDone ∧ s.framing.mode = .closeDelimited then .response { s.resp with body := s.data.drop s.bodyStart } true
    else .failed .closedEarly
  | .done r e => .response r e
  | .bad k => .framingError k

/-- the `match` is the right-hand side of `runLoop_append` -/
theorem Rel_close (method : Bytes) (cap : Nat) (res : St × LoopOut) (o : Obs) (h : Rel res o) :
    SameOutcome (match res with
                 | (st', .more) => runLoop method cap st' [.peerClosed]
                 | r => r).2 (closeOut o) := by
  obtain ⟨st, lo⟩ := res
  cases o with
  | more s =>
    cases lo <;> simp only [Rel] at h
    subst h
    simp only [runLoop, recvStep, closeOut]
    by_cases hd : st.headersDone = true
    · by_cases hm : st.framing.mode = .closeDelimited <;> simp [normSt, hd, hm, SameOutcome]
    · simp [normSt, hd, SameOutcome]
  | done r' e' =>
    cases lo <;> simp only [Rel] at h
    simp [closeOut, SameOutcome, h.1]
  | bad k' =>
    cases lo <;> simp only [Rel] at h
    simp [closeOut, SameOutcome, h]

/-- the reuse decision of `executeRequest` as a whole: the connection is kept only after a response without surplus, not asking for
close, with a self-delimiting body, nothing left unread in the transport, and reuse allowed -/
theorem executeReceive_kept {method : Bytes} {a b : Nat} {reuse : Bool} {script : List Recv} {o : LoopOut}
    (h : executeReceive method a b reuse script = (o, false)) :
    ∃ st r, runScript method (effectiveCap a b) {} script = (st, .response r false, false) ∧ o = .response r false ∧
      reuse = true ∧ responseRequestsClose r = false ∧ st.framing.mode ≠ .closeDelimited := by
  unfold executeReceive at h
  simp only at h
  cases hr : runScript method (effectiveCap a b) {} script with
  | mk st rest =>
    obtain ⟨lo, residual⟩ := rest
    rw [hr] at h
    cases lo with
    | response r ev =>
      simp only [Prod.mk.injEq, Bool.not_eq_false', Bool.and_eq_true, Bool.not_eq_true', decide_eq_false_iff_not] at h
      obtain ⟨rfl, ⟨⟨⟨⟨h1, h2⟩, h3⟩, h4⟩, h5⟩⟩ := h
      subst h3 h5
      exact ⟨st, r, rfl, rfl, h1, h2, h4⟩
    | more => simp at h
    | framingError k => simp at h
    | failed f => simp at h

theorem parseCLElems_sound : ∀ (es : List Bytes) (hv : Option Nat) (n : Nat), parseCLElems es hv = .ok n →
    (∀ e ∈ es, parseFullUInt 10 (trim e) = some n) ∧ (∀ r, hv = some r → r = n) := by
  intro es
  induction es with
  | nil =>
    intro hv n h
    cases hv with
    | none => simp [parseCLElems] at h
    | some r =>
      simp only [parseCLElems, Except.ok.injEq] at h
      exact ⟨(by intro e he; cases he), (by intro r' hr; cases hr; exact h)⟩
  | cons e es ih =>
    intro hv n h
    simp only [parseCLElems] at h
    cases hp : parseFullUInt 10 (trim e) with
    | none => rw [hp] at h; cases h
    | some v =>
      rw [hp] at h
      cases hv with
      | none =>
        simp only at h
        obtain ⟨h1, h2⟩ := ih _ _ h
        have hvn : v = n := h2 v rfl
        refine ⟨?_, (by intro r hr; cases hr)⟩
        intro x hx
        rcases List.mem_cons.mp hx with rfl | hx
        · rw [hp, hvn]
        · exact h1 x hx
      | some r =>
        simp only at h
        split at h
        · cases h
        · rename_i hne
          have hvr : v = r := Decidable.not_not.mp hne
          obtain ⟨h1, h2⟩ := ih _ _ h
          have hvn : v = n := h2 v rfl
          refine ⟨?_, (by intro r' hr; cases hr; rw [← hvr, hvn])⟩
          intro x hx
          rcases List.mem_cons.mp hx with rfl | hx
          · rw [hp, hvn]
          · exact h1 x hx

end Iora.Http
