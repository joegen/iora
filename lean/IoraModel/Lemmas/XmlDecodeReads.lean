import IoraModel.Lemmas.XmlEntities
/-! The read-by-read versions of `decodeEntities` / `appendCharRef` (indexed partial reads under the C++ guards) equal the
data-directed ones: no read is out of range, no loop budget is exhausted. -/
namespace Iora.Xml
open Iora

theorem hexLoopI_eq (ent : Bytes) : ∀ (fuel j : Nat) (code : UInt32), ent.length - j < fuel →
    hexLoopI ent fuel j code = .ok (hexAcc (ent.drop j) code) := by
  intro fuel
  induction fuel with
  | zero => intro j code h; omega
  | succ f ih =>
    intro j code h
    unfold hexLoopI
    by_cases hj : j < ent.length
    · simp only [hj, ↓reduceIte, List.getElem?_eq_getElem hj, List.drop_eq_getElem_cons hj, hexAcc]
      cases hexDigitVal ent[j] with
      | none => rfl
      | some v => exact ih (j + 1) _ (by omega)
    · simp only [hj, ↓reduceIte]
      rw [List.drop_eq_nil_of_le (by omega)]
      rfl

theorem decLoopI_eq (ent : Bytes) : ∀ (fuel j : Nat) (code : UInt32), ent.length - j < fuel →
    decLoopI ent fuel j code = .ok (decAcc (ent.drop j) code) := by
  intro fuel
  induction fuel with
  | zero => intro j code h; omega
  | succ f ih =>
    intro j code h
    unfold decLoopI
    by_cases hj : j < ent.length
    · simp only [hj, ↓reduceIte, List.getElem?_eq_getElem hj, List.drop_eq_getElem_cons hj, decAcc]
      split
      · rfl
      · exact ih (j + 1) _ (by omega)
    · simp only [hj, ↓reduceIte]
      rw [List.drop_eq_nil_of_le (by omega)]
      rfl

/-- `entBody[1]` is in range because of the size test; the loops stop at the size -/
theorem appendCharRefI_eq (ent : Bytes) : appendCharRefI ent = .ok (appendCharRef ent) := by
  unfold appendCharRefI appendCharRef charRefCode
  match ent with
  | [] => simp
  | [_] => simp
  | a :: x :: r =>
    have h2 : ¬ ((a :: x :: r).length < 2) := by simp
    simp only [h2, ↓reduceIte, List.getElem?_cons_succ, List.getElem?_cons_zero]
    by_cases hx : (x = 0x78 || x = 0x58) = true
    · simp only [hx, ↓reduceIte]
      rw [hexLoopI_eq (a :: x :: r) _ 2 0 (by simp; omega)]
      simp only [List.drop_succ_cons, List.drop_zero]
      cases hexAcc r 0 <;> rfl
    · simp only [hx, Bool.false_eq_true, ↓reduceIte]
      rw [decLoopI_eq (a :: x :: r) _ 1 0 (by simp)]
      simp only [List.drop_succ_cons, List.drop_zero]
      cases decAcc (x :: r) 0 <;> rfl

/-- lift a `DecRes` of the data-directed loop: its `fuel` is the explicit loop's `fuel` -/
def DecRes.lift : DecRes → RdRes DecRes
  | .fuel => .fuel
  | r => .ok r

theorem decodeLoopI_eq (inp : Bytes) : ∀ (fuel i : Nat) (out : Bytes),
    decodeLoopI inp fuel i out = (decodeLoop fuel (inp.drop i) i out).lift := by
  intro fuel
  induction fuel with
  | zero => intro i out; rfl
  | succ f ih =>
    intro i out
    unfold decodeLoopI
    by_cases hi : i < inp.length
    · simp only [hi, ↓reduceIte, List.getElem?_eq_getElem hi, List.drop_eq_getElem_cons hi, decodeLoop]
      by_cases hch : inp[i] ≠ 0x26
      · simp only [hch, ne_eq, not_false_eq_true, ↓reduceIte]
        exact ih (i + 1) _
      · simp only [hch, ↓reduceIte]
        cases hf : findByte 0x3B (inp.drop (i + 1)) with
        | none => rfl
        | some k =>
          simp only
          have hdrop : (inp.drop (i + 1)).drop (k + 1) = inp.drop (i + k + 2) := by
            rw [List.drop_drop]; congr 1; omega
          cases hp : predefined ((inp.drop (i + 1)).take k) with
          | some b => simp only [hdrop]; exact ih _ _
          | none =>
            simp only
            cases hent : (inp.drop (i + 1)).take k with
            | nil => rfl
            | cons h t =>
              simp only [List.isEmpty_cons, Bool.not_false, ↓reduceIte, List.getElem?_cons_zero]
              by_cases hh : h = 0x23
              · subst hh
                simp only [↓reduceIte, appendCharRefI_eq]
                cases appendCharRef (0x23 :: t) with
                | none => rfl
                | some u => simp only [hdrop]; exact ih _ _
              · simp only [hh, ↓reduceIte]
                split
                · rename_i heq; simp only [List.cons.injEq] at heq; exact (hh heq.1).elim
                · rfl
    · simp only [hi, ↓reduceIte]
      rw [List.drop_eq_nil_of_le (by omega)]
      rfl

/-- **no out-of-range read in `decodeEntities` / `appendCharRef`**: the read-by-read decoder equals the data-directed one -/
theorem decodeEntitiesI_eq (inp : Bytes) : decodeEntitiesI inp = .ok (decodeEntities inp) := by
  unfold decodeEntitiesI decodeEntities
  rw [decodeLoopI_eq inp (inp.length + 1) 0 []]
  simp only [List.drop_zero]
  cases h : decodeLoop (inp.length + 1) inp 0 [] with
  | ok out => rfl
  | err e off => rfl
  | fuel => exact (decodeEntities_ne_fuel inp h).elim

end Iora.Xml
