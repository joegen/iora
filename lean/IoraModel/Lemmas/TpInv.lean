import IoraModel.Lemmas.TpStep
/-!
# C09 — the invariants that are not about the worker map

`MutexOk`, `NoRs`, `Conserved` (P1), `IdInv`, `CInv`, each with the lemma `PoolStep.…` that a step keeps it.  Each of these lemmas reads
essentially one view of `Step`: `MutexOk` reads `lock`, `NoRs` `cls`, `Conserved` `bal`, `IdInv` `idEff`, and `CInv` `flags` (a thread that is not
a controller) or `move` (a controller; the invariant meets the `CMove` in `cstep_of_move`).
-/
namespace Iora.ThreadPool

/-- a thread whose state says it is inside a critical section of `_mutex` is the owner the lock word names -/
def MutexOk (s : St) : Prop := AllT (fun sh t th => holdsM th = true → sh.owner = some t) s

theorem mutexOk_init (cfg : Cfg) : MutexOk (init cfg) := fun t th h => by
  obtain ⟨rfl, rfl⟩ := init_get h
  exact fun hh => nomatch hh

theorem PoolStep.mutexOk {cfg s t th alt sh' th' post l} (ps : PoolStep cfg s t th alt sh' th' post l) (h : MutexOk s) : MutexOk { sh := sh', thr := l } := by
  have ho := ps.lock.cases
  -- another thread that holds the mutex: the acting thread neither acquires nor releases it
  have key : ∀ j x, j ≠ t → s.thr[j]? = some x → holdsM x = true → sh'.owner = some j := by
    intro j y hne hy hh
    have hx' := h j y hy hh
    rcases ho with ⟨h1, _⟩ | ⟨hl, _, _⟩ | ⟨hh2, _, _⟩
    · rw [h1]; exact hx'
    · rw [ps.free hl] at hx'; cases hx'
    · rw [h t th ps.get hh2] at hx'
      exact absurd (Option.some.inj hx').symm hne
  refine allT_of_step ps.thr (fun hh => ?_) (fun j y hne hy => ⟨key j y hne hy, fun _ => by rw [holdsM_wake]; exact key j y hne hy⟩)
    (fun nt e hh => by rw [holdsM_fresh nt (ps.spawn_fresh nt e)] at hh; cases hh)
  rcases ho with ⟨h1, h2⟩ | ⟨_, h1, _⟩ | ⟨_, _, h2⟩
  · rw [h1]; exact h t th ps.get (by rw [← h2]; exact hh)
  · exact h1
  · rw [h2] at hh; cases hh

theorem mutexOk_run (cfg : Cfg) (sched : List Choice) : MutexOk (run cfg sched) :=
  inv_run cfg MutexOk (mutexOk_init cfg) (fun s c h => step_elim cfg s c MutexOk h fun _ _ _ _ _ _ _ ps => ps.mutexOk h) sched

/-- no controller is inside `reset()` / `start()`: so in every reachable state if `Cfg.allowRestart = false` -/
def NoRs (s : St) : Prop := AllT (fun _ _ th => restartTh th = false) s

theorem noRs_init (cfg : Cfg) : NoRs (init cfg) := fun t th h => by
  obtain ⟨rfl, rfl⟩ := init_get h
  rfl

theorem PoolStep.noRs {cfg s t th alt sh' th' post l} (ps : PoolStep cfg s t th alt sh' th' post l) (hr : cfg.allowRestart = false) (h : NoRs s) :
    NoRs { sh := sh', thr := l } := by
  exact allT_of_step ps.thr (ps.not_restart hr (h t th ps.get)) (fun j y _ hy => ⟨h j y hy, fun _ => by rw [restartTh_wake]; exact h j y hy⟩)
    (fun nt e => restartTh_fresh nt (ps.spawn_fresh nt e))

theorem noRs_run (cfg : Cfg) (hr : cfg.allowRestart = false) (sched : List Choice) : NoRs (run cfg sched) :=
  inv_run cfg NoRs (noRs_init cfg) (fun s c h => step_elim cfg s c NoRs h fun _ _ _ _ _ _ _ ps => ps.noRs hr h) sched

/-- number of threads having task `id` in hand -/
def handCnt (l : List Thread) (id : Nat) : Nat := l.countP (fun th => decide (cur th = some id))
/-- number of threads running the body of task `id` -/
def runCnt (l : List Thread) (id : Nat) : Nat := l.countP (fun th => decide (running th = some id))

/-- P1 (conservation): `accepted = queued ⊎ in hand ⊎ done`, `started = running ⊎ done` -/
def Conserved (s : St) : Prop :=
  (∀ id, s.sh.tasks.count id + handCnt s.thr id + s.sh.doneCnt id = s.sh.accCnt id) ∧
  (∀ id, s.sh.startCnt id = runCnt s.thr id + s.sh.doneCnt id)

/-- a task whose body runs is in its worker's hand, so no body starts more often than its task was accepted -/
theorem Conserved.start_le {s : St} (h : Conserved s) (id : Nat) : s.sh.startCnt id ≤ s.sh.accCnt id := by
  have h1 := h.1 id
  have h2 := h.2 id
  have : runCnt s.thr id ≤ handCnt s.thr id := by
    apply List.countP_mono_left
    intro th _ hr
    simp only [decide_eq_true_eq] at hr ⊢
    cases th with
    | worker w => cases w <;> first | (cases hr; done) | exact hr
    | _ => cases hr
  omega

theorem conserved_init (cfg : Cfg) : Conserved (init cfg) := by
  constructor <;> intro id <;> simp [init, handCnt, runCnt, cur, running]

/-- The acting thread's local balance (`Step.bal`) lifts to the global conservation laws: the counts over the thread list are those of the old
list updated at the acting thread (`PoolStep.count`; a created thread has nothing in hand). -/
theorem PoolStep.conserved {cfg s t th alt sh' th' post l} (ps : PoolStep cfg s t th alt sh' th' post l) (hn : NoRs s) (h : Conserved s) :
    Conserved { sh := sh', thr := l } := by
  have cnt : ∀ (o : Thread → Option Nat), (∀ x b, o (wake x b) = o x) → (∀ nt, isFresh nt = true → o nt = none) → ∀ id,
      l.countP (fun x => decide (o x = some id)) + optCount (o th) id =
        s.thr.countP (fun x => decide (o x = some id)) + optCount (o th') id := by
    intro o hw hf id
    have e := Pool.countP_set (fun x => decide (o x = some id)) th' ps.get
    have hadd : postAdd (fun x => decide (o x = some id)) post = 0 := by
      cases hpost : post with
      | spawn nt => simp [postAdd, hf nt (ps.spawn_fresh nt hpost)]
      | _ => rfl
    rw [ps.count _ (fun x b => by rw [hw]), hadd]
    simp only [optCount, decide_eq_true_eq] at e ⊢
    omega
  have hb := ps.bal (hn t th ps.get)
  constructor <;> intro id
  · have := cnt cur cur_wake (fun nt hf => (cur_fresh nt hf).1) id
    have := hb.queue id
    have := h.1 id
    simp only [handCnt] at *
    omega
  · have := cnt running running_wake (fun nt hf => (cur_fresh nt hf).2) id
    have := hb.start id
    have := h.2 id
    simp only [runCnt] at *
    omega

/-- P1 asks no more of the configuration than "not restarted" (`reset()` empties the queue, and `Step.bal` is not given inside it); the shutdown mode
does not matter -/
theorem conserved_run (cfg : Cfg) (hr : cfg.allowRestart = false) (sched : List Choice) : Conserved (run cfg sched) :=
  (inv_run cfg (fun s => NoRs s ∧ Conserved s) ⟨noRs_init cfg, conserved_init cfg⟩
    (fun s c h => step_elim cfg s c (fun s => NoRs s ∧ Conserved s) h fun _ _ _ _ _ _ _ ps =>
      ⟨ps.noRs hr h.1, ps.conserved h.1 h.2⟩) sched).2

/-- Every enqueue call allocates a fresh id (`nextId`); its outcome is decided in that step (draining) or by the one later step of the call
that acquires `_mutex`: so no id is accepted twice, and "accepted" and the count of pushes agree (with or without restart, in every
shutdown mode). -/
structure IdInv (s : St) : Prop where
  /-- ids not yet allocated are untouched -/
  fresh : ∀ id, s.sh.nextId ≤ id → s.sh.accCnt id = 0 ∧ s.sh.result id = .pending
  /-- accepted ids have been pushed once, all others never -/
  acc : ∀ id, (s.sh.result id = .accepted → s.sh.accCnt id = 1) ∧ (s.sh.result id ≠ .accepted → s.sh.accCnt id = 0)
  /-- a call at its `lock` operation has an allocated, undecided id ... -/
  pend : ∀ (j cid : Nat), s.thr[j]?.bind lockCid = some cid → cid < s.sh.nextId ∧ s.sh.result cid = .pending
  /-- ... which no other call shares -/
  uniq : ∀ (j j' cid : Nat), s.thr[j]?.bind lockCid = some cid → s.thr[j']?.bind lockCid = some cid → j = j'

theorem idInv_init (cfg : Cfg) : IdInv (init cfg) := by
  have h1 : ∀ j : Nat, (init cfg).thr[j]?.bind lockCid = none := fun j => by
    cases j with
    | zero => rfl
    | succ k => simp [init]
  refine ⟨fun id _ => ⟨rfl, rfl⟩, fun id => ⟨fun h => by simp [init] at h, fun _ => rfl⟩, fun j cid h => ?_, fun j j' cid h => ?_⟩ <;>
    (rw [h1] at h; cases h)

/-- `IdInv` is kept by a step: it does to the ids what `IdEff` says (nothing, allocate the next id, decide the acting call's id), and the
pending ids of the threads are the old ones, updated at the acting thread (`hob`). -/
theorem PoolStep.idInv {cfg s t th alt sh' th' post l} (ps : PoolStep cfg s t th alt sh' th' post l) (hI : IdInv s) : IdInv { sh := sh', thr := l } := by
  have hob : ∀ j, l[j]?.bind lockCid = if j = t then lockCid th' else s.thr[j]?.bind lockCid :=
    obs_step lockCid_wake ps.thr fun nt e => lockCid_fresh nt (ps.spawn_fresh nt e)
  have heff := ps.idEff
  have hpre : s.thr[t]?.bind lockCid = lockCid th := by rw [ps.get]; rfl
  have back : ∀ {j cid}, l[j]?.bind lockCid = some cid → (j = t ∧ lockCid th' = some cid) ∨ (j ≠ t ∧ s.thr[j]?.bind lockCid = some cid) := by
    intro j cid h; rw [hob] at h
    split at h
    · next e => exact .inl ⟨e, h⟩
    · next e => exact .inr ⟨e, h⟩
  cases heff with
  | same h hp =>
    have old : ∀ {j cid}, l[j]?.bind lockCid = some cid → s.thr[j]?.bind lockCid = some cid := fun hj => by
      rcases back hj with ⟨rfl, e⟩ | ⟨_, e⟩
      · rw [hpre]; rcases hp with hp | hp <;> rw [hp] at e
        · exact e
        · cases e
      · exact e
    exact ⟨fun id hid => by show sh'.accCnt id = 0 ∧ sh'.result id = .pending; rw [h.accCnt, h.result]; exact hI.fresh id (h.nextId ▸ hid),
      fun id => by show (sh'.result id = _ → sh'.accCnt id = 1) ∧ (sh'.result id ≠ _ → sh'.accCnt id = 0); rw [h.accCnt, h.result]; exact hI.acc id,
      fun j cid hj => by show cid < sh'.nextId ∧ sh'.result cid = .pending; rw [h.nextId, h.result]; exact hI.pend j cid (old hj),
      fun j j' cid hj hj' => hI.uniq j j' cid (old hj) (old hj')⟩
  | alloc h1 h2 hpre' h3 =>
    have hf := hI.fresh s.sh.nextId (Nat.le_refl _)
    have hres : ∀ id, id ≠ s.sh.nextId → sh'.result id = s.sh.result id := fun id hne => by
      rcases h3 with ⟨_, e⟩ | ⟨_, e⟩ <;> rw [e]
      exact setF_other _ _ _ _ hne
    have hnew : sh'.result s.sh.nextId ≠ .accepted := by
      rcases h3 with ⟨_, e⟩ | ⟨_, e⟩ <;> rw [e]
      · rw [hf.2]; exact fun x => nomatch x
      · rw [setF_same]; exact fun x => nomatch x
    have cls : ∀ {j cid}, l[j]?.bind lockCid = some cid →
        (j = t ∧ cid = s.sh.nextId ∧ sh'.result = s.sh.result) ∨ (j ≠ t ∧ cid < s.sh.nextId ∧ s.thr[j]?.bind lockCid = some cid) := fun hj => by
      rcases back hj with ⟨e, h⟩ | ⟨e, h⟩
      · rcases h3 with ⟨hp, er⟩ | ⟨hp, _⟩ <;> rw [hp] at h
        · exact .inl ⟨e, (Option.some.inj h).symm, er⟩
        · cases h
      · exact .inr ⟨e, (hI.pend _ _ h).1, h⟩
    refine ⟨fun id hid => ?_, fun id => ?_, fun j cid hj => ?_, fun j j' cid hj hj' => ?_⟩
    · show sh'.accCnt id = 0 ∧ sh'.result id = .pending
      have hid' : s.sh.nextId + 1 ≤ id := h1 ▸ hid
      rw [h2, hres id (by omega)]; exact hI.fresh id (by omega)
    · show (sh'.result id = _ → sh'.accCnt id = 1) ∧ (sh'.result id ≠ _ → sh'.accCnt id = 0)
      rw [h2]
      by_cases e : id = s.sh.nextId
      · rw [e]; exact ⟨fun x => absurd x hnew, fun _ => hf.1⟩
      · rw [hres id e]; exact hI.acc id
    · show cid < sh'.nextId ∧ sh'.result cid = .pending
      rw [h1]
      rcases cls hj with ⟨_, rfl, er⟩ | ⟨_, hlt, h⟩
      · rw [er]; exact ⟨Nat.lt_succ_self _, hf.2⟩
      · rw [hres cid (by omega)]; exact ⟨by omega, (hI.pend j cid h).2⟩
    · rcases cls hj with ⟨e, ec, _⟩ | ⟨_, hlt, h⟩ <;> rcases cls hj' with ⟨e', ec', _⟩ | ⟨_, hlt', h'⟩
      · rw [e, e']
      · omega
      · omega
      · exact hI.uniq j j' cid h h'
  | decide cid0 hpre' hpost h1 h3 =>
    have hp0 := hI.pend t cid0 (hpre.trans hpre')
    have hacc0 : s.sh.accCnt cid0 = 0 := (hI.acc cid0).2 (by rw [hp0.2]; exact fun x => nomatch x)
    have hres : ∀ id, id ≠ cid0 → sh'.result id = s.sh.result id ∧ sh'.accCnt id = s.sh.accCnt id := fun id hne => by
      rcases h3 with ⟨r, _, e, e2⟩ | ⟨e, e2⟩ <;> rw [e, e2, setF_other _ _ _ _ hne]
      · exact ⟨rfl, rfl⟩
      · rw [bump_other _ _ _ hne]; exact ⟨rfl, rfl⟩
    have cls : ∀ {j cid}, l[j]?.bind lockCid = some cid → cid ≠ cid0 ∧ s.thr[j]?.bind lockCid = some cid := fun {j cid} hj => by
      rcases back hj with ⟨_, h⟩ | ⟨e, h⟩
      · rw [hpost] at h; cases h
      · exact ⟨fun ec => e (hI.uniq j t cid0 (ec ▸ h) (hpre.trans hpre')), h⟩
    refine ⟨fun id hid => ?_, fun id => ?_, fun j cid hj => ?_, fun j j' cid hj hj' => hI.uniq j j' cid (cls hj).2 (cls hj').2⟩
    · show sh'.accCnt id = 0 ∧ sh'.result id = .pending
      have hid' : s.sh.nextId ≤ id := h1 ▸ hid
      have hne : id ≠ cid0 := by have := hp0.1; omega
      rw [(hres id hne).1, (hres id hne).2]; exact hI.fresh id hid'
    · show (sh'.result id = _ → sh'.accCnt id = 1) ∧ (sh'.result id ≠ _ → sh'.accCnt id = 0)
      by_cases e : id = cid0
      · rw [e]
        rcases h3 with ⟨r, hr, e, e2⟩ | ⟨e, e2⟩ <;> rw [e, e2, setF_same]
        · exact ⟨fun x => absurd x hr, fun _ => hacc0⟩
        · rw [bump_same, hacc0]; exact ⟨fun _ => rfl, fun x => absurd rfl x⟩
      · rw [(hres id e).1, (hres id e).2]; exact hI.acc id
    · show cid < sh'.nextId ∧ sh'.result cid = .pending
      rw [h1, (hres cid (cls hj).1).1]; exact hI.pend j cid (cls hj).2

theorem idInv_run (cfg : Cfg) (sched : List Choice) : IdInv (run cfg sched) :=
  inv_run cfg IdInv (idInv_init cfg) (fun s c h => step_elim cfg s c IdInv h fun _ _ _ _ _ _ _ ps => ps.idInv h) sched

/-- P4: an outcome changes only inside the enqueue call, for the stated reasons -/
theorem trans_result (cfg : Cfg) (sh : Shared) (n t : Nat) (th : Thread) (alt : Nat) (id : Nat)
    (h : (trans cfg sh n t th alt).1.result id ≠ sh.result id) :
    (∃ c, callOf th = some c) ∧ Reason cfg sh ((trans cfg sh n t th alt).1.result id) := by
  rcases (trans_step cfg sh n t th alt).res with e | ⟨hc, hr⟩
  · exact absurd (congrFun (congrArg (·.2.1) e) id) h
  · exact ⟨Option.ne_none_iff_exists'.mp hc, hr id h⟩

theorem reacq_result (cfg : Cfg) (sh : Shared) (t : Tid) (late : Bool) : (reacq cfg sh t late).1.result = sh.result :=
  (reacq_step cfg sh 0 t false late).res.elim (fun e => congrArg (·.2.1) e) fun h => absurd rfl h.1

theorem trans_isMain (cfg : Cfg) (sh : Shared) (n t : Nat) (th : Thread) (alt : Nat) :
    isMain (trans cfg sh n t th alt).2.1 = isMain th := by
  cases th <;> rfl

theorem trans_isWorker (cfg : Cfg) (sh : Shared) (n t : Nat) (th : Thread) (alt : Nat) :
    isWorker (trans cfg sh n t th alt).2.1 = isWorker th := by
  cases th <;> rfl

theorem trans_noDetach (cfg : Cfg) (hdet : cfg.detached = false) (sh : Shared) (n t : Nat) (th : Thread) (alt : Nat) (w : Tid) (r : MRegs) :
    (trans cfg sh n t th alt).2.1 ≠ .main (.jDetach w) r := by
  intro e
  have := (trans_step cfg sh n t th alt).not_detach hdet
  rw [e] at this; cases this

/-- what the class of a controller's pc says of the flags -/
structure COk (sh : Shared) (pc : MPc) : Prop where
  own : ownsPc pc = true → sh.shutdown = true
  q : qPc pc = true → sh.quiesced = true
  ctor : ctorPc pc = true → sh.shutdown = false ∧ sh.quiesced = false
  /-- the number read under `_mutex` with `_shutdown` set is that of a shutdown that has begun -/
  ep : ∀ e, pollEp pc = some e → 0 < e ∧ sh.shutdown = true

/-- the order in which the flags rise: a return code in the log, or a non-zero `_shutdownCompleteEpoch`, only when quiesced; quiesced only
with `_shutdown` set; `_shutdown` set only with a positive shutdown number -/
structure GOk (sh : Shared) : Prop where
  log : ∀ c, c ∈ sh.mlog → isReturnCode c → sh.quiesced = true
  cq : 0 < sh.complete → sh.quiesced = true
  qs : sh.quiesced = true → sh.shutdown = true
  se : sh.shutdown = true → 0 < sh.epoch

theorem cok_of_flags {sh sh' : Shared} {pc : MPc} (h : COk sh pc) (hf : FlagsSame sh sh') : COk sh' pc :=
  ⟨by rw [hf.shutdown]; exact h.own, by rw [hf.quiesced]; exact h.q, by rw [hf.shutdown, hf.quiesced]; exact h.ctor,
   fun e he => ⟨(h.ep e he).1, by rw [hf.shutdown]; exact (h.ep e he).2⟩⟩

theorem gok_of_flags {sh sh' : Shared} (h : GOk sh) (hf : FlagsSame sh sh') : GOk sh' :=
  ⟨by rw [hf.mlog, hf.quiesced]; exact h.log, by rw [hf.complete, hf.quiesced]; exact h.cq, by rw [hf.quiesced, hf.shutdown]; exact h.qs,
   by rw [hf.shutdown, hf.epoch]; exact h.se⟩

/-- what the controllers' invariant gets from one step of a controller (a `CMove`, see `cstep_of_move`): the stepping controller and the
flags are consistent afterwards, the flags only go up, and the owner class is entered only by setting `_shutdown` -/
structure CStep (sh sh' : Shared) (pc pc' : MPc) : Prop where
  cok : COk sh' pc'
  gok : GOk sh'
  own : ownsPc pc' = true → ownsPc pc = true ∨ sh.shutdown = false
  monoS : sh.shutdown = true → sh'.shutdown = true
  monoQ : sh.quiesced = true → sh'.quiesced = true

theorem cstep_of_move {sh sh' : Shared} {pc pc' : MPc} (h : COk sh pc) (g : GOk sh) (m : CMove sh sh' pc pc') : CStep sh sh' pc pc' := by
  cases m with
  | move hf hb hp =>
    -- flags and log untouched, no class entered: everything transports
    have h1 := imp_of_and_not (congrArg (·.1) hb)
    exact ⟨⟨by rw [hf.shutdown]; exact fun e => h.own (h1 e), by rw [hf.quiesced]; exact fun e => h.q (imp_of_and_not (congrArg (·.2.1) hb) e),
        by rw [hf.shutdown, hf.quiesced]; exact fun e => h.ctor (imp_of_and_not (congrArg (·.2.2) hb) e),
        fun e he => (hp e he).elim (fun o => ⟨(h.ep e o).1, by rw [hf.shutdown]; exact (h.ep e o).2⟩)
          fun ⟨ee, hs⟩ => ⟨ee ▸ g.se hs, by rw [hf.shutdown]; exact hs⟩⟩,
      gok_of_flags g hf, fun e => .inl (h1 e), by rw [hf.shutdown]; exact id, by rw [hf.quiesced]; exact id⟩
  | log cs hm hf hc hpc hret =>
    -- a plain pc afterwards: `COk` asks nothing; of `GOk` only the log and `complete` have changed
    simp only [Prod.mk.injEq] at hf hpc
    obtain ⟨e1, e2, e4⟩ := hf
    obtain ⟨h1, h2, h3, h5⟩ := hpc
    -- a completed shutdown has been joined
    have hq : mayReturn sh pc → sh.quiesced = true := fun hr =>
      hr.elim h.q fun ⟨e, he, hle⟩ => g.cq (hle.elim (Nat.lt_of_lt_of_le (h.ep e he).1) (Nat.lt_of_lt_of_le (g.se (h.ep e he).2)))
    have f : ∀ {b : Bool}, b = false → b = true → False := fun hb e => by rw [hb] at e; cases e
    refine ⟨⟨fun e => (f h1 e).elim, fun e => (f h2 e).elim, fun e => (f h3 e).elim, fun e he => by rw [h5] at he; cases he⟩,
      ⟨?_, by rw [e2]; exact fun hpos => hc.elim (fun e => g.cq (e ▸ hpos)) h.q, by rw [e1, e2]; exact g.qs, by rw [e1, e4]; exact g.se⟩,
      fun e => (f h1 e).elim, by rw [e1]; exact id, by rw [e2]; exact id⟩
    rw [e2, hm]
    intro c hc hr
    rcases List.mem_append.mp hc with hc | hc
    · exact hq (hret (List.any_eq_true.mpr ⟨c, hc, isRet_of_returnCode hr⟩))
    · exact g.log c hc hr
  | setShut hpc hs hf =>
    obtain ⟨rfl, rfl⟩ := hpc
    simp only [Prod.mk.injEq] at hf
    obtain ⟨h1, h2, h3, h4, h5⟩ := hf
    exact ⟨⟨fun _ => h1, (fun e => nomatch e), (fun e => nomatch e), fun _ e => nomatch e⟩,
      ⟨by rw [h4, h2]; exact g.log, by rw [h3, h2]; exact g.cq, fun _ => h1, fun _ => by rw [h5]; exact Nat.succ_pos _⟩,
      fun _ => .inr hs, fun _ => h1, by rw [h2]; exact id⟩
  | quiesce hpc hf =>
    obtain ⟨rfl, rfl⟩ := hpc
    simp only [Prod.mk.injEq] at hf
    obtain ⟨h1, h2, h3, h4, h5⟩ := hf
    have hs := h.own rfl
    exact ⟨⟨fun _ => by rw [h1]; exact hs, fun _ => h2, (fun e => nomatch e), fun _ e => nomatch e⟩,
      ⟨fun _ _ _ => h2, fun _ => h2, fun _ => by rw [h1]; exact hs, by rw [h1, h5]; exact g.se⟩, fun _ => .inl rfl,
      by rw [h1]; exact id, fun _ => h2⟩

/-- The controllers: any number of threads calling drain / stop / shutdown, thread 0 owning construction and destruction.  `_shutdown` is
set under the mutex by exactly one thread (the *owner* of the shutdown); only the owner runs a join loop; every other caller of `shutdown()` /
`stop()` waits for `_shutdownCompleteEpoch`; `stop()` (ok), `shutdown()` and the destructor are logged as returned only when a join loop has
completed ("quiesced").  The last five clauses are here because the same case analysis keeps them: `ctorAlone` is read by `PoolStep.size`,
`noDetach` by `PoolStep.winv` (a `joined` step is a real `join()`), `nors` to exclude the steps of a restart; nothing reads `ctorZero` or `main0`. -/
structure CInv (s : St) : Prop where
  cok : ∀ (t : Nat) (pc : MPc) (r : MRegs), s.thr[t]? = some (.main pc r) → COk s.sh pc
  gok : GOk s.sh
  /-- at most one thread owns the shutdown (has set `_shutdown` and not yet returned): only it runs a join loop -/
  oneOwner : ∀ (t t' : Nat) (pc pc' : MPc) (r r' : MRegs), s.thr[t]? = some (.main pc r) → s.thr[t']? = some (.main pc' r') →
      ownsPc pc = true → ownsPc pc' = true → t = t'
  /-- while the constructor runs, every other thread is a worker -/
  ctorAlone : ∀ (t : Nat) (pc : MPc) (r : MRegs), s.thr[t]? = some (.main pc r) → ctorPc pc = true →
      ∀ (t' : Nat) (x : Thread), t' ≠ t → s.thr[t']? = some x → isWorker x = true
  ctorZero : ∀ (t : Nat) (pc : MPc) (r : MRegs), s.thr[t]? = some (.main pc r) → ctorPc pc = true → t = 0
  main0 : ∃ pc r, s.thr[0]? = some (Thread.main pc r)
  noDetach : ∀ (t : Nat) (w : Tid) (r : MRegs), s.thr[t]? ≠ some (Thread.main (.jDetach w) r)
  nors : NoRs s

theorem cinv_init (cfg : Cfg) : CInv (init cfg) := by
  refine ⟨?_, ⟨by simp [init], by simp [init], by simp [init], by simp [init]⟩, ?_, ?_, ?_, ⟨_, _, rfl⟩, ?_, noRs_init cfg⟩
  · intro t pc r h
    have := (init_get h).2; injection this with e1 _; rw [e1]
    exact ⟨by simp [ownsPc, seqPc, qPc], by simp [qPc], fun _ => ⟨rfl, rfl⟩, by simp [pollEp]⟩
  · intro t t' pc pc' r r' h h' _ _; rw [(init_get h).1, (init_get h').1]
  · intro t pc r h _ t' x ne hx; exact absurd ((init_get hx).1.trans (init_get h).1.symm) ne
  · intro t pc r h _; exact (init_get h).1
  · intro t w r h; have := (init_get h).2; cases this

theorem fresh_main_cok (sh : Shared) (pc : MPc) (r : MRegs) (h : isFresh (.main pc r) = true) :
    COk sh pc ∧ ownsPc pc = false ∧ ctorPc pc = false := by
  rcases fresh_cases h with e | ⟨sc, e⟩ | ⟨r', e⟩ <;> cases e
  exact ⟨⟨(fun e => nomatch e), (fun e => nomatch e), (fun e => nomatch e), fun _ e => nomatch e⟩, rfl, rfl⟩

/-- `CInv` is kept by a step.  A thread that is not a controller leaves flags and log alone, so the controllers stay as they are; for a
controller the invariant meets the step in `cstep_of_move`. -/
theorem PoolStep.cinv {cfg s t th alt sh' th' post l} (ps : PoolStep cfg s t th alt sh' th' post l) (hdet : cfg.detached = false) (hr : cfg.allowRestart = false)
    (h : CInv s) : CInv { sh := sh', thr := l } := by
  have hn := ps.noRs hr h.nors
  have hget := ps.get
  have hts := ps.thr
  cases hm : isMain th with
  | false =>
    have hf := (ps.flags hm).1
    have hsp := ps.spawn_worker (.inl hm)
    have hm' : isMain th' = false := ps.kind.1.trans hm
    have old : ∀ (j : Nat) (pc : MPc) (r : MRegs), l[j]? = some (.main pc r) → j ≠ t ∧ s.thr[j]? = some (.main pc r) := by
      intro j pc r hj
      have ne : j ≠ t := fun e => by rw [e, hts.self] at hj; rw [Option.some.inj hj] at hm'; cases hm'
      exact ⟨ne, (hts.main_new ne hj).resolve_right fun ⟨e, _⟩ => nomatch hsp _ e⟩
    refine ⟨fun j pc r hj => cok_of_flags (h.cok j pc r (old j pc r hj).2) hf, gok_of_flags h.gok hf,
      fun j j' pc pc' r r' hj hj' => h.oneOwner j j' pc pc' r r' (old _ _ _ hj).2 (old _ _ _ hj').2, ?_,
      fun j pc r hj => h.ctorZero j pc r (old _ _ _ hj).2, ?_, fun j w0 r hj => h.noDetach j w0 r (old _ _ _ hj).2, hn⟩
    · intro j pc r hj hc j' y ne hy
      have hall := h.ctorAlone j pc r (old _ _ _ hj).2 hc
      rcases hts.new j' y hy with ⟨_, e2⟩ | ⟨ne', y1, hy1, hwf⟩ | ⟨nt, hnt, _, e2⟩
      · rw [e2, ps.kind.2]; exact hall t th (fun e => (old _ _ _ hj).1 e.symm) hget
      · rw [hwf.obs isWorker]; exact hall j' y1 ne hy1
      · rw [e2, hsp nt hnt]; rfl
    · obtain ⟨p0, r0, h0⟩ := h.main0
      have e : (0 : Nat) ≠ t := by intro e; rw [← e, h0] at hget; cases hget; cases hm
      exact ⟨p0, r0, hts.main_old e h0 rfl⟩
  | true =>
    obtain ⟨pc, r, rfl⟩ : ∃ pc r, th = .main pc r := by cases th <;> first | exact ⟨_, _, rfl⟩ | cases hm
    obtain ⟨pc', r', rfl⟩ : ∃ pc r, th' = .main pc r := by
      have := ps.kind.1
      cases th' <;> first | exact ⟨_, _, rfl⟩ | cases this
    have hfresh := ps.spawn_fresh
    have hnr : restartPc pc = false := by have := h.nors t _ hget; simpa [restartTh] using this
    have cs := cstep_of_move (h.cok t pc r hget) h.gok (ps.move pc r pc' r' rfl rfl hnr (hn t _ hts.self))
    have hself : l[t]? = some (.main pc' r') := hts.self
    have other_not_ctor : ∀ (j : Nat) (pcx : MPc) (rx : MRegs), j ≠ t → s.thr[j]? = some (.main pcx rx) → ctorPc pcx = false := by
      intro j pcx rx ne hj
      cases hc : ctorPc pcx with
      | false => rfl
      | true => have := h.ctorAlone j pcx rx hj hc t _ (fun e => ne e.symm) hget; simp [isWorker] at this
    -- A controller of the new list is the acting thread, or another one: an old one, whose `COk` is kept because the flags only go up and it is
    -- outside the constructor, or a created one, which is in no class.
    have cls : ∀ (j : Nat) (pcx : MPc) (rx : MRegs), l[j]? = some (.main pcx rx) → (j = t ∧ pcx = pc') ∨ (j ≠ t ∧ COk sh' pcx ∧
        (ownsPc pcx = true → s.thr[j]? = some (.main pcx rx)) ∧ ctorPc pcx = false) := by
      intro j pcx rx hj
      by_cases ne : j = t
      · rw [ne, hself] at hj; cases hj; exact .inl ⟨ne, rfl⟩
      · refine .inr ⟨ne, ?_⟩
        rcases hts.main_new ne hj with ho | ⟨hf, _⟩
        · have hc := h.cok j pcx rx ho
          have hnc := other_not_ctor j pcx rx ne ho
          exact ⟨⟨fun e => cs.monoS (hc.own e), fun e => cs.monoQ (hc.q e), (by rw [hnc]; intro e; cases e),
            fun e he => ⟨(hc.ep e he).1, cs.monoS (hc.ep e he).2⟩⟩, fun _ => ho, hnc⟩
        · have := fresh_main_cok sh' pcx rx (hfresh _ hf)
          exact ⟨this.1, (by rw [this.2.1]; intro e; cases e), this.2.2⟩
    -- the acting thread owns the shutdown after the step: no other controller does
    have own_t : ∀ (j : Nat) (p2 : MPc) (r2 : MRegs), j ≠ t → l[j]? = some (.main p2 r2) → ownsPc pc' = true → ownsPc p2 = true → False := by
      intro j p2 r2 ne hj o1 o2
      rcases cls j p2 r2 hj with ⟨e, _⟩ | ⟨_, _, ho, _⟩
      · exact ne e
      · rcases cs.own o1 with oo | oo
        · exact ne (h.oneOwner j t p2 pc r2 r (ho o2) hget o2 oo)
        · have := (h.cok j p2 r2 (ho o2)).own o2; rw [oo] at this; cases this
    refine ⟨?_, cs.gok, ?_, ?_, ?_, ?_, ?_, hn⟩
    · intro j pcx rx hj
      rcases cls j pcx rx hj with ⟨_, rfl⟩ | ⟨_, hc, _⟩
      · exact cs.cok
      · exact hc
    · intro j j' p1 p2 r1 r2 hj hj' o1 o2
      rcases cls j p1 r1 hj with ⟨e, rfl⟩ | ⟨ne, _, ho, _⟩ <;> rcases cls j' p2 r2 hj' with ⟨e', rfl⟩ | ⟨ne', _, ho', _⟩
      · rw [e, e']
      · exact (own_t j' p2 r2 ne' hj' o1 o2).elim
      · exact (own_t j p1 r1 ne hj o2 o1).elim
      · exact h.oneOwner j j' p1 p2 r1 r2 (ho o1) (ho' o2) o1 o2
    · intro j pcx rx hj hc j' x ne hx
      rcases cls j pcx rx hj with ⟨e, rfl⟩ | ⟨_, _, _, hnc⟩
      · have hcp : ctorPc pc = true := ps.inCtor_of hc
        rcases hts.new j' x hx with ⟨e1', _⟩ | ⟨ne', x0, hx0, hwf⟩ | ⟨nt, hnt, _, e2⟩
        · exact absurd (e1'.trans e.symm) ne
        · rw [hwf.obs isWorker]; exact h.ctorAlone t pc r hget hcp j' x0 ne' hx0
        · rw [e2, ps.spawn_worker (.inr hcp) nt hnt]; rfl
      · rw [hnc] at hc; cases hc
    · intro j pcx rx hj hc
      rcases cls j pcx rx hj with ⟨e, rfl⟩ | ⟨_, _, _, hnc⟩
      · rw [e]; exact h.ctorZero t pc r hget (ps.inCtor_of hc)
      · rw [hnc] at hc; cases hc
    · obtain ⟨p0, r0, h0⟩ := h.main0
      by_cases e : (0 : Nat) = t
      · exact ⟨_, _, by rw [e]; exact hself⟩
      · exact ⟨p0, r0, hts.main_old e h0 rfl⟩
    · intro j w0 r0 hj
      rcases cls j _ r0 hj with ⟨_, e⟩ | ⟨ne, _⟩
      · have := ps.not_detach hdet
        rw [← e] at this; cases this
      · rcases hts.main_new ne hj with ho | ⟨hf, _⟩
        · exact h.noDetach j w0 r0 ho
        · exact nomatch hfresh _ hf

end Iora.ThreadPool
