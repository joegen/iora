import IoraModel.Lemmas.HttpRespond
/-
C16, the request parser: case principles for `parseRequestLine` (rejected with one of the parser's own statuses, or the verdict of
`parseMethod` on the first token) and `fromWireFormat` (no end of the header section, one of those statuses, the request line's error, or
accepted with the first line's method), the statuses it can ask for, and HEAD on every arm: bytes that start with `HEAD ` and that
`fromWireFormat` accepts have the parsed method HEAD.  At the end, what the test vectors of `Props/C16` read a concrete parse through.
-/
namespace Iora.HttpRespond
open Iora

def parserStatuses : List Nat := [400, 414, 501, 505]

theorem parseMethod_status (tok : Bytes) (s : Nat) (h : parseMethod tok = .error (.request s)) : s ∈ parserStatuses := by
  unfold parseMethod at h
  split at h
  · split at h <;> cases h
  · split at h <;> (cases h; decide)

/-- Case analysis of `parseRequestLine`: the line is rejected with one of the parser's own statuses, or its first token went to
    `parseMethod`, whose error or method is the line's. -/
theorem parseRequestLine_cases (line : Bytes) (Q : Except ParseErr (Method × Bytes × Nat × Nat) → Prop)
    (herr : ∀ s ∈ parserStatuses, Q (.error (.request s)))
    (hmeth : ∀ m e, parseMethod m = .error e → Q (.error e))
    (hok : ∀ m rest meth t a b, splitFirst 32 line = some (m, rest) → parseMethod m = .ok meth → Q (.ok (meth, t, a, b))) :
    Q (parseRequestLine line) := by
  unfold parseRequestLine
  split
  · exact herr _ (by decide)
  · rename_i m rest h1
    split
    · exact herr _ (by decide)
    · refine pred_ite (herr _ (by decide)) (pred_ite (herr _ (by decide)) (pred_ite (herr _ (by decide))
        (pred_ite (herr _ (by decide)) (pred_ite (herr _ (by decide)) ?_))))
      split
      · exact hmeth m _ ‹_›
      · split
        · exact herr _ (by decide)
        · exact pred_ite (herr _ (by decide)) (hok m rest _ _ _ _ h1 ‹_›)

theorem parseRequestLine_status (line : Bytes) (s : Nat) (h : parseRequestLine line = .error (.request s)) :
    s ∈ parserStatuses := by
  revert h
  refine parseRequestLine_cases line (fun x => x = .error (.request s) → s ∈ parserStatuses) ?_ ?_ ?_
  · intro s' hs' h; cases h; exact hs'
  · intro m e he h; cases h; exact parseMethod_status m s he
  · intro m rest meth t a b _ _ h; cases h

theorem parseHeaderLines_status (ls : List Bytes) (h0 : Headers) (n : Nat) (e : ParseErr) :
    parseHeaderLines ls h0 n = .error e → ∃ s ∈ parserStatuses, e = .request s := by
  let Q (x : Except ParseErr (Headers × Nat)) : Prop := x = .error e → ∃ s ∈ parserStatuses, e = .request s
  have herr : ∀ s ∈ parserStatuses, Q (.error (.request s)) := fun s hs h => by cases h; exact ⟨s, hs, rfl⟩
  induction ls generalizing h0 n with
  | nil => intro h; cases h
  | cons l ls ih =>
    unfold parseHeaderLines
    dsimp only
    split
    · exact ih _ _
    · refine pred_ite (Q := Q) (herr _ (by decide)) ?_
      split
      · exact ih _ _
      · exact pred_ite (Q := Q) (herr _ (by decide)) (ih _ _)

/-- Case analysis of `fromWireFormat`: no end of the header section; one of the parser's own statuses; the error of the request
    line; or a request whose method is the one `parseRequestLine` found on the first line (GET when there is no line at all). -/
theorem fromWireFormat_cases (data : Bytes) (Q : Except ParseErr ParsedReq → Prop)
    (hother : Q (.error .other))
    (herr : ∀ s ∈ parserStatuses, Q (.error (.request s)))
    (hline : ∀ line e, parseRequestLine line = .error e → Q (.error e))
    (hok : ∀ p hs body, splitAtSub crlf2 data = some (hs, body) →
      (match getlines 10 hs with
       | [] => p.method = .GET
       | l :: _ => ∃ t a b, parseRequestLine (stripCR l) = .ok (p.method, t, a, b)) → Q (.ok p)) :
    Q (fromWireFormat data) := by
  unfold fromWireFormat
  split
  · exact hother
  · rename_i hs body hsp
    dsimp only
    cases hl : getlines 10 hs with
    | nil =>
      exact pred_ite (herr _ (by decide)) (pred_ite (herr _ (by decide)) (pred_ite (herr _ (by decide))
        (hok _ hs body hsp (by rw [hl]))))
    | cons l ls =>
      dsimp only
      cases hp : parseRequestLine (stripCR l) with
      | error e => exact hline _ e hp
      | ok r =>
        obtain ⟨m, t, maj, mnr⟩ := r
        dsimp only
        cases hh : parseHeaderLines (l :: ls).tail [] 0 with
        | error e =>
          obtain ⟨s, hs, rfl⟩ := parseHeaderLines_status _ _ _ _ hh
          exact herr s hs
        | ok hn =>
          exact pred_ite (herr _ (by decide)) (pred_ite (herr _ (by decide)) (pred_ite (herr _ (by decide))
            (hok _ hs body hsp (by rw [hl]; exact ⟨t, maj, mnr, hp⟩))))

theorem fromWireFormat_status (data : Bytes) (s : Nat) (h : fromWireFormat data = .error (.request s)) :
    s ∈ parserStatuses := by
  revert h
  refine fromWireFormat_cases data (fun x => x = .error (.request s) → s ∈ parserStatuses) ?_ ?_ ?_ ?_
  · intro h; cases h
  · intro s' hs' h; cases h; exact hs'
  · intro line e hp h; cases h; exact parseRequestLine_status _ _ hp
  · intro p hs body _ _ h; cases h

theorem splitOn_ne_nil (sep : UInt8) (s : Bytes) : splitOn sep s ≠ [] := by
  induction s with
  | nil => simp [splitOn]
  | cons c cs ih =>
    unfold splitOn
    split
    · simp
    · split <;> simp

theorem splitOn_prefix (sep : UInt8) (pre x : Bytes) (h : ∀ c ∈ pre, (c == sep) = false) :
    ∃ p ps, splitOn sep (pre ++ x) = (pre ++ p) :: ps := by
  induction pre with
  | nil =>
    cases hs : splitOn sep x with
    | nil => exact absurd hs (splitOn_ne_nil _ _)
    | cons p ps => exact ⟨p, ps, by simpa using hs⟩
  | cons c pre ih =>
    obtain ⟨p, ps, e⟩ := ih (fun d hd => h d (List.mem_cons_of_mem _ hd))
    refine ⟨p, ps, ?_⟩
    have hc := h c List.mem_cons_self
    simp [splitOn, hc, e]

theorem dropLastEmpty_cons (q : Bytes) (ps : List Bytes) (hq : q.isEmpty = false) : ∃ ls, dropLastEmpty (q :: ps) = q :: ls := by
  cases ps with
  | nil => exact ⟨[], by simp [dropLastEmpty, hq]⟩
  | cons r rs => exact ⟨dropLastEmpty (r :: rs), by simp [dropLastEmpty]⟩

theorem splitAtSub_prefix (p0 : UInt8) (pt pre x : Bytes) (h : ∀ c ∈ pre, (p0 == c) = false) :
    splitAtSub (p0 :: pt) (pre ++ x) = (splitAtSub (p0 :: pt) x).map (fun ab => (pre ++ ab.1, ab.2)) := by
  induction pre with
  | nil => cases hs : splitAtSub (p0 :: pt) x <;> simp [hs]
  | cons c pre ih =>
    have hc := h c List.mem_cons_self
    have ih' := ih (fun d hd => h d (List.mem_cons_of_mem _ hd))
    simp only [List.cons_append, splitAtSub, List.isPrefixOf, hc, Bool.false_and, Bool.false_eq_true, if_false, ih']
    cases hs : splitAtSub (p0 :: pt) x <;> simp

theorem splitFirst_append (sep : UInt8) (k t : Bytes) (h : sep ∉ k) : splitFirst sep (k ++ sep :: t) = some (k, t) := by
  induction k with
  | nil => simp [splitFirst]
  | cons c cs ih =>
    have hc : c ≠ sep := fun hd => h (by simp [hd])
    have hcs : sep ∉ cs := fun hm => h (by simp [hm])
    simp [splitFirst, hc, ih hcs]

/-- `ascii "HEAD "` written out: `fromWireFormat_head` evaluates `ascii` once, to pass to it, and nothing below has to -/
def headSp : Bytes := [72, 69, 65, 68, 32]

theorem stripCR_head (p : Bytes) : ∃ p', stripCR (headSp ++ p) = headSp ++ p' := by
  unfold stripCR
  split
  · rename_i hl
    cases p with
    | nil => simp [headSp] at hl
    | cons q qs => exact ⟨(q :: qs).dropLast, by simp [headSp, List.dropLast]⟩
  · exact ⟨p, rfl⟩

theorem splitFirst_head (p : Bytes) : splitFirst 32 (headSp ++ p) = some ([72, 69, 65, 68], p) :=
  splitFirst_append 32 [72, 69, 65, 68] p (by decide)

theorem parseMethod_head : parseMethod [72, 69, 65, 68] = .ok .HEAD := by rfl

theorem parseRequestLine_head (p : Bytes) (m : Method) (t : Bytes) (a b : Nat)
    (h : parseRequestLine (headSp ++ p) = .ok (m, t, a, b)) : m = .HEAD := by
  revert h
  refine parseRequestLine_cases _ (fun r => r = .ok (m, t, a, b) → m = .HEAD) ?_ ?_ ?_
  · intro s _ h; cases h
  · intro m' e _ h; cases h
  · intro m' rest meth t' a' b' hs hm h
    cases h
    rw [splitFirst_head] at hs
    cases hs
    rw [parseMethod_head] at hm
    cases hm
    rfl

/-- FC16f, the two readings of the method agree: a request whose raw bytes start with `HEAD ` (what `isHeadRequest` tests on
    the arms outside the normal path) and that the parser accepts has the parsed method HEAD (what the normal path tests) -/
theorem fromWireFormat_head (data : Bytes) (p : ParsedReq) (hpre : (ascii "HEAD ").isPrefixOf data = true)
    (h : fromWireFormat data = .ok p) : p.method = .HEAD := by
  have ha : ascii "HEAD " = headSp := by rw [ascii_ofList]; rfl
  rw [ha, List.isPrefixOf_iff_prefix] at hpre
  obtain ⟨x, rfl⟩ := hpre
  revert h
  refine fromWireFormat_cases _ (fun r => r = .ok p → p.method = .HEAD) ?_ ?_ ?_ ?_
  · intro h; cases h
  · intro s _ h; cases h
  · intro line e _ h; cases h
  · intro p' hs body hsp hm h
    cases h
    -- the header section, its first line and that line without its CR all start with `HEAD ` again
    have hsplit : splitAtSub crlf2 (headSp ++ x) = (splitAtSub crlf2 x).map (fun ab => (headSp ++ ab.1, ab.2)) :=
      splitAtSub_prefix 13 [10, 13, 10] headSp x (by decide)
    rw [hsplit] at hsp
    cases hx : splitAtSub crlf2 x with
    | none => rw [hx] at hsp; cases hsp
    | some ab =>
      rw [hx] at hsp
      cases hsp
      obtain ⟨q, ps, hso⟩ := splitOn_prefix 10 headSp ab.1 (by decide)
      obtain ⟨ls, hdl⟩ := dropLastEmpty_cons (headSp ++ q) ps (by simp [headSp])
      obtain ⟨q', hcr⟩ := stripCR_head q
      rw [getlines, hso, hdl] at hm
      obtain ⟨t, a, b, hprl⟩ := hm
      rw [hcr] at hprl
      exact parseRequestLine_head q' _ t a b hprl

/-- `fromWireFormat data` throws exactly `e` (a decidable rendering for concrete witnesses) -/
def parseErrIs (data : Bytes) (e : ParseErr) : Bool :=
  match fromWireFormat data with
  | .error e' => e' == e
  | .ok _ => false

theorem parseErrIs_eq {data : Bytes} {e : ParseErr} (h : parseErrIs data e = true) : fromWireFormat data = .error e := by
  unfold parseErrIs at h
  split at h
  · rw [‹fromWireFormat data = _›, eq_of_beq h]
  · cases h

/-- an accepted request about which a test vector only needs a decidable fact `f` (`ParsedReq` has no decidable equality) -/
theorem fromWireFormat_ok_of {data : Bytes} {f : ParsedReq → Bool} (h : (fromWireFormat data).toOption.map f = some true) :
    ∃ p, fromWireFormat data = .ok p ∧ f p = true := by
  cases hp : fromWireFormat data with
  | error e => rw [hp] at h; cases h
  | ok p => rw [hp] at h; exact ⟨p, rfl, Option.some.inj h⟩

end Iora.HttpRespond
