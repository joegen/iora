import IoraModel.Lemmas.AssetsFuel
import IoraModel.Lemmas.AssetsRead
/-!
C20: from the walk lemmas to the lookups — what `status`, `canonical`, `readFile` return on canonical absolute paths,
that an `open` which walked through directories only read the file AT the location its path names (`kwalk_canon_file`,
`readFile_at_loc`), the candidate `<root>/<name>`, and the predicates the containment theorems are stated with (`Inside`,
`EverInside`, `RootOK`, `EntryGood`/`BlobGood`).
-/
namespace Iora.Assets
open Iora

theorem renderLoc_eq (L : Loc) : renderLoc L = renderAbs L.reverse := rfl

theorem renderAbs_no_nul (ns : List Bytes) (h : ∀ n ∈ ns, (0 : UInt8) ∉ n) : (0 : UInt8) ∉ renderAbs ns := by
  cases ns with
  | nil => simp [renderAbs, joinSlash, SLASH]
  | cons a r =>
    rw [renderAbs, slash_joinSlash _ (List.cons_ne_nil a r)]
    simp only [List.mem_flatMap, not_exists, not_and]
    intro n hn hm
    rcases List.mem_cons.mp hm with hm | hm
    · simp [SLASH] at hm
    · exact h n hn hm

theorem renderLoc_no_nul (L : Loc) (h : LocOK L) : (0 : UInt8) ∉ renderLoc L :=
  renderAbs_no_nul _ (fun n hn => (h.reverse n hn).2)

/-- a system call refuses the empty and the overlong path, or answers what the iteration from `/` or the working directory ends with -/
theorem kwalk_cases (fs : Fs) (fol : Bool) (p : Bytes) :
    ((cstr p).isEmpty = true ∧ kwalk fs fol p = .error .ENOENT) ∨ kwalk fs fol p = .error .ENAMETOOLONG ∨
    Walks fs fol SYMLOOP (if isAbs (cstr p) then [] else fs.cwd) (comps (cstr p)) (trailSlash (cstr p)) (kwalk fs fol p) := by
  unfold kwalk
  simp only
  split
  · exact .inl ⟨‹_›, rfl⟩
  split
  · exact .inr (.inl rfl)
  · exact .inr (.inr (walks_walkFuel ..))

theorem kwalk_abs (fs : Fs) (fol : Bool) (p : Bytes) (h0 : (0 : UInt8) ∉ p) (ha : isAbs p = true) :
    kwalk fs fol p = .error .ENAMETOOLONG ∨ Walks fs fol SYMLOOP [] (comps p) (trailSlash p) (kwalk fs fol p) := by
  have := kwalk_cases fs fol p
  rw [cstr_of_no_nul p h0, ha, if_pos rfl] at this
  rcases this with ⟨he, _⟩ | h
  · cases p with
    | nil => simp [isAbs] at ha
    | cons c cs => simp at he
  · exact h

theorem kwalk_locOK (fs : Fs) (fol : Bool) (p : Bytes) (L : Loc) (e : Entry) (hcwd : LocOK fs.cwd)
    (h : kwalk fs fol p = .ok (L, e)) : LocOK L := by
  rcases kwalk_cases fs fol p with ⟨_, h'⟩ | h' | h' <;> rw [h] at h'
  · cases h'
  · cases h'
  · refine h'.locOK ?_ (comps_todoOK _ (cstr_no_nul p))
    split
    · exact locOK_nil
    · exact hcwd

theorem kwalk_abs_ok (fs : Fs) (fol : Bool) (p : Bytes) (h0 : (0 : UInt8) ∉ p) (ha : isAbs p = true) (L : Loc) (e : Entry)
    (h : kwalk fs fol p = .ok (L, e)) :
    fs.get L = some e ∧ LocOK L ∧ (fol = true → ∀ t, e ≠ .link t) ∧
      Walks fs fol SYMLOOP [] (comps p) (trailSlash p) (.ok (L, e)) := by
  rcases kwalk_abs fs fol p h0 ha with h' | h' <;> rw [h] at h'
  · cases h'
  · exact ⟨(h'.get rfl).1, h'.locOK locOK_nil (comps_todoOK p h0), (h'.get rfl).2, h'⟩

theorem kwalk_root (fs : Fs) (fol : Bool) : kwalk fs fol [SLASH] = .ok ([], .dir) := by
  simp [kwalk, cstr, SLASH, PATH_MAX, comps, splitSlash, isAbs, walkFuel, walk_succ, walkStep]

theorem kwalk_ext (fsA fsB : Fs) (h : ∀ l, fsA.get l = fsB.get l) (hcwd : fsA.cwd = fsB.cwd) (fol : Bool) (p : Bytes) :
    kwalk fsA fol p = kwalk fsB fol p := by
  unfold kwalk
  simp only [hcwd]
  split
  · rfl
  split
  · rfl
  · -- the two calls run with different fuel (`walkFuel` reads the file system); both give the answer of the same iteration
    exact ((walks_walkFuel ..).ext h).det (walks_walkFuel ..)

theorem kwalk_canon_file {fs : Fs} {fol : Bool} {L l : Loc} {d : Bytes} (hL : LocOK L) (hpar : fs.get L.tail = some .dir)
    (hnl : fol = false ∨ ∀ t, fs.get L ≠ some (.link t)) (hk : kwalk fs fol (renderLoc L) = .ok (l, .file d)) :
    fs.get L = some (.file d) := by
  cases L with
  | nil => rw [show renderLoc [] = [SLASH] from rfl, kwalk_root] at hk; cases hk
  | cons last up =>
    obtain ⟨_, _, _, hw⟩ := kwalk_abs_ok fs fol _ (renderLoc_no_nul _ hL) (by simp [renderLoc, isAbs]) _ _ hk
    have hnames := hL.todo.names
    rw [renderLoc_eq, comps_renderAbs _ hnames,
      trailSlash_renderAbs _ hnames (by simp), List.reverse_cons] at hw
    have := hw.leaf hL.tail.reverse.plain hL.head (by simpa using hpar) (hnl.imp (⟨·, rfl⟩) fun h t => by simpa using h t)
    rw [this.1] at this
    simpa using this.2

theorem readFile_at_loc (fs : Fs) (L : Loc) (d : Bytes) (hL : LocOK L)
    (hpar : fs.get L.tail = some .dir) (h : readFile fs (renderLoc L) = some d) : fs.get L = some (.file d) :=
  (readFile_some fs _ d h).elim fun _ hk => kwalk_canon_file hL hpar (.inl rfl) hk

/-! ### the candidate path `<prefix>/<name>` -/

theorem name_not_abs (name : Bytes) (h : lexicallyRejected name = false) : isAbs name = false := by
  have := (lexicallyRejected_iff name).mp h
  simp only [isAbs]
  cases name with
  | nil => simp
  | cons c cs =>
    simp at this ⊢
    intro e; exact this.1 (by simp [e, SLASH])

theorem pathAppend_name (pre name : Bytes) (hpre : pre ≠ []) (h : lexicallyRejected name = false) :
    pathAppend pre name = if trailSlash pre then pre ++ name else pre ++ SLASH :: name := by
  unfold pathAppend hasFilename
  have hne : pre.isEmpty = false := by cases pre <;> simp_all
  simp only [name_not_abs name h, hne, Bool.or_self, Bool.false_eq_true, ↓reduceIte, Bool.not_false, Bool.true_and]
  cases trailSlash pre <;> simp

theorem comps_candidate (pre name : Bytes) (hpre : pre ≠ []) (h : lexicallyRejected name = false) :
    comps (pathAppend pre name) = comps pre ++ comps name := by
  rw [pathAppend_name pre name hpre h]
  split
  · rename_i ht
    obtain ⟨q, rfl⟩ := List.getLast?_eq_some_iff.mp (show pre.getLast? = some SLASH by simpa [trailSlash] using ht)
    rw [List.append_assoc, List.singleton_append, comps_append, comps_append_trail]
  · rw [comps_append]

theorem isAbs_append (pre q : Bytes) (h : isAbs pre = true) : isAbs (pre ++ q) = true := by
  cases pre with
  | nil => simp [isAbs] at h
  | cons c cs => simpa [isAbs] using h

/-- an absolute NUL-free path without `..`: the paths the lookups hand to `weakly_canonical` -/
structure AbsOK (p : Bytes) : Prop where
  abs : isAbs p = true
  no_nul : (0 : UInt8) ∉ p
  no_dotdot : dotdot ∉ comps p

theorem AbsOK.ne {p : Bytes} (h : AbsOK p) : p ≠ [] := fun e => by simpa [e, isAbs] using h.abs

theorem AbsOK.candidate {pre name : Bytes} (hp : AbsOK pre) (h : lexicallyRejected name = false) : AbsOK (pathAppend pre name) := by
  have hn := (lexicallyRejected_iff name).mp h
  refine ⟨?_, ?_, ?_⟩
  · rw [pathAppend_name pre name hp.ne h]
    split <;> exact isAbs_append _ _ hp.abs
  · rw [pathAppend_name pre name hp.ne h]
    split
    · simp [hp.no_nul, hn.2.1]
    · simp [hp.no_nul, hn.2.1, SLASH]
  · rw [comps_candidate pre name hp.ne h]
    intro hm
    rcases List.mem_append.mp hm with hm | hm
    · exact hp.no_dotdot hm
    · exact hn.2.2.2 (List.mem_filter.mp hm).1

theorem AbsOK.kwalk_no_link {p : Bytes} (hp : AbsOK p) {fs : Fs} {L : Loc} {e : Entry} (hk : kwalk fs true p = .ok (L, e))
    (t : Bytes) : e ≠ .link t :=
  (kwalk_abs_ok fs true p hp.no_nul hp.abs L e hk).2.2.1 rfl t

/-- a name without components is made of slashes only; one that passed the filter does not start with a slash -/
theorem name_nil_of_no_comps (name : Bytes) (h : lexicallyRejected name = false) (hc : comps name = []) : name = [] := by
  cases name with
  | nil => rfl
  | cons c cs =>
    have h1 := ((lexicallyRejected_iff (c :: cs)).mp h).1
    have hcs : c ≠ SLASH := by intro e; apply h1; simp [e, SLASH]
    simp only [comps, splitSlash, hcs, ↓reduceIte] at hc
    cases hsp : splitSlash cs with
    | nil => exact absurd hsp (splitSlash_ne_nil cs)
    | cons x xs => simp [hsp, consHead] at hc

theorem trail_candidate_of_no_comps (pre name : Bytes) (hpre : pre ≠ []) (h : lexicallyRejected name = false)
    (hc : comps name = []) : trailSlash (pathAppend pre name) = true := by
  cases name_nil_of_no_comps name h hc
  rw [pathAppend_name pre [] hpre h]
  split
  · simpa using ‹trailSlash pre = true›
  · simp [trailSlash]

/-! ### `status`, `canonical`, `weakly_canonical`, `is_regular_file` by the system call they make -/

theorem status_found_iff (fs : Fs) (p : Bytes) (L : Loc) (e : Entry) :
    status fs p = .found L e ↔ kwalk fs true p = .ok (L, e) := by
  unfold status
  cases hk : kwalk fs true p with
  | ok x => obtain ⟨l, e'⟩ := x; simp
  | error er => cases er <;> simp

theorem status_notFound_iff (fs : Fs) (q : Bytes) :
    status fs q = .notFound ↔ (kwalk fs true q = .error .ENOENT ∨ kwalk fs true q = .error .ENOTDIR) := by
  unfold status
  cases hk : kwalk fs true q with
  | ok x => obtain ⟨l, e⟩ := x; simp
  | error er => cases er <;> simp

theorem status_root (fs : Fs) : status fs [SLASH] = .found [] .dir := by
  simp [status, kwalk_root]

theorem canonical_ok (fs : Fs) (q x : Bytes) (h : canonical fs q = .ok x) :
    ∃ L e, kwalk fs true q = .ok (L, e) ∧ x = renderLoc L := by
  unfold canonical at h
  split at h
  · rename_i L e hk; injection h with h; exact ⟨L, e, hk, h.symm⟩
  · cases h

theorem wc_cases (fs : Fs) (p r : Bytes) (h : weaklyCanonical fs p = .ok r) :
    (∃ L e, kwalk fs true p = .ok (L, e) ∧ r = renderLoc L) ∨ status fs p = .notFound := by
  unfold weaklyCanonical at h
  split at h
  · exact .inl (canonical_ok fs p r h)
  · cases h
  · right; assumption

theorem isRegularFile_iff (fs : Fs) (p : Bytes) :
    isRegularFile fs p = true ↔ ∃ L d, kwalk fs true p = .ok (L, .file d) := by
  unfold isRegularFile
  constructor
  · intro h
    split at h
    · rename_i L d hs; exact ⟨L, d, (status_found_iff fs p L _).mp hs⟩
    · cases h
  · rintro ⟨L, d, hk⟩
    rw [(status_found_iff fs p L _).mpr hk]

theorem isRegularFile_canon (fs : Fs) (L : Loc) (e : Entry) (hL : LocOK L) (hg : fs.get L = some e)
    (hnl : ∀ t, e ≠ .link t) (h : isRegularFile fs (renderLoc L) = true) : ∃ d, e = .file d := by
  obtain ⟨l, d, hk⟩ := (isRegularFile_iff fs _).mp h
  have := kwalk_canon_file hL (get_tail hg) (.inr fun t ht => hnl t (by simpa [hg] using ht)) hk
  exact ⟨d, by simpa [hg] using this⟩

/-! ### the `.gz` sibling -/

theorem gz_plain (last : Name) (h : Plain last ∧ (0 : UInt8) ∉ last) :
    Plain (last ++ Gen.Assets.gzSuffix) ∧ (0 : UInt8) ∉ (last ++ Gen.Assets.gzSuffix) := by
  obtain ⟨⟨⟨hne, hsl⟩, _, _⟩, h0⟩ := h
  have hlen : 0 < last.length := List.length_pos_iff.mpr hne
  refine ⟨⟨⟨by simp [hne], ?_⟩, ?_, ?_⟩, ?_⟩
  · intro hm; simp [Gen.Assets.gzSuffix, SLASH] at hm; exact hsl (by simpa [SLASH] using hm)
  · intro e
    have := congrArg List.length e
    simp [Gen.Assets.gzSuffix, dot] at this
  · intro e
    have := congrArg List.length e
    simp [Gen.Assets.gzSuffix, dotdot] at this
  · intro hm; simp [Gen.Assets.gzSuffix] at hm; exact h0 hm

theorem locOK_gz {last : Name} {up : Loc} (hL : LocOK (last :: up)) : LocOK ((last ++ Gen.Assets.gzSuffix) :: up) := fun n hn => by
  rcases List.mem_cons.mp hn with rfl | hn
  · exact gz_plain last (hL last (List.mem_cons_self ..))
  · exact hL n (List.mem_cons_of_mem _ hn)

theorem renderLoc_gz (last : Name) (up : Loc) :
    renderLoc (last :: up) ++ Gen.Assets.gzSuffix = renderLoc ((last ++ Gen.Assets.gzSuffix) :: up) := by
  simp [renderLoc, slash_joinSlash, List.flatMap_append]

theorem readFile_sibling (fs : Fs) (last : Name) (up : Loc) (g : Bytes) (hL : LocOK (last :: up)) (hup : fs.get up = some .dir)
    (h : readFile fs (renderLoc (last :: up) ++ Gen.Assets.gzSuffix) = some g) :
    fs.get ((last ++ Gen.Assets.gzSuffix) :: up) = some (.file g) :=
  readFile_at_loc fs _ g (locOK_gz hL) hup (renderLoc_gz last up ▸ h)

/-! ### roots, and bytes inside them -/

/-- `d` is the content of a regular file that lives strictly below the directory named `bn` -/
def Inside (fs : Fs) (bn : List Name) (d : Bytes) : Prop :=
  ∃ L : Loc, fs.get L = some (.file d) ∧ bn <+: L.reverse ∧ L.reverse ≠ bn

/-- `d` was, at the open of some lookup of this history, the content of a regular file strictly inside the root -/
def EverInside (seen : List Fs) (bn : List Name) (d : Bytes) : Prop := ∃ fs ∈ seen, Inside fs bn d

structure RootOK (root : Bytes) (bn : List Name) : Prop where
  eq : root = renderAbs bn
  plain : ∀ n ∈ bn, Plain n ∧ (0 : UInt8) ∉ n

theorem RootOK.locOK {root bn} (h : RootOK root bn) : LocOK bn := h.plain

theorem RootOK.of_loc {L : Loc} (h : LocOK L) : RootOK (renderLoc L) L.reverse := ⟨rfl, h.reverse⟩

theorem RootOK.single {n : Name} (h : Plain n ∧ (0 : UInt8) ∉ n) : RootOK (SLASH :: n) [n] :=
  ⟨rfl, fun m hm => by cases List.mem_singleton.mp hm; exact h⟩

theorem RootOK.comps {root bn} (h : RootOK root bn) : comps root = bn := by
  rw [h.eq]; exact comps_renderAbs bn (fun n hn => (h.plain n hn).1.1)

theorem RootOK.absOK {root bn} (h : RootOK root bn) : AbsOK root :=
  ⟨by rw [h.eq]; exact isAbs_renderAbs bn, by rw [h.eq]; exact renderAbs_no_nul bn (fun n hn => (h.plain n hn).2),
    by rw [h.comps]; exact fun hm => (h.locOK.plain _ hm).ne_dotdot rfl⟩

/-- The file `realpath` found is not the root itself.  Were it AT the root, the walk of `comps root ++ comps name` would have to
pass over a file, so `name` has no components; having passed the filter it is empty (`name_nil_of_no_comps`), the candidate
ends in a slash (`trail_candidate_of_no_comps`), and a walk with a trailing slash returns no file. -/
theorem strict_of_candidate (fs : Fs) (root : Bytes) (bn : List Name) (hroot : RootOK root bn) (name : Bytes)
    (hn : lexicallyRejected name = false) (last : Name) (up : Loc) (d0 : Bytes)
    (hk : kwalk fs true (pathAppend root name) = .ok (last :: up, .file d0)) : (last :: up).reverse ≠ bn := by
  intro heq
  have hc := hroot.absOK.candidate hn
  obtain ⟨hg, hL, _, hw⟩ := kwalk_abs_ok fs true _ hc.no_nul hc.abs _ _ hk
  rw [comps_candidate root name hroot.absOK.ne hn, hroot.comps, ← heq, List.reverse_cons, List.append_assoc,
    List.singleton_append] at hw
  have := hw.over_file hL.tail.reverse.plain hL.head (by simpa using hg)
  have ht := trail_candidate_of_no_comps root name hroot.absOK.ne hn this.1
  rw [ht] at this
  exact absurd this.2 (by simp)

def EntryGood (P : Bytes → Prop) (e : CacheEntry) : Prop := P e.bytes ∧ ∀ g, e.gz = some g → P g
def BlobGood (P : Bytes → Prop) (b : Blob) : Prop := P b.bytes ∧ ∀ g, b.gz = some g → P g

end Iora.Assets
