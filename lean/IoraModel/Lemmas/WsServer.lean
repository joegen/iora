import IoraModel.Model.WsServer
import IoraModel.Lemmas.WsFrame
/-! The server session: the close discipline (`Tr`) and the buffer bounds (`Bounded`), as facts about runs composed of
atomic steps (`Steps`). -/
namespace Iora.Ws
open Iora

/-- opcode carried by the first byte of bytes handed to the transport -/
def wireOpcode : Bytes → Option Nat
  | [] => none
  | b0 :: _ => some (b0.toNat % 16)

def isDataSend : Ev → Bool
  | .sent w => wireOpcode w = some 0 || wireOpcode w = some 1 || wireOpcode w = some 2
  | _ => false

def isCloseSend : Ev → Bool
  | .sent w => wireOpcode w = some 8
  | _ => false

theorem wireOpcode_serialize (f : Frame) (h : f.opcode < 16) : wireOpcode (serialize f) = some f.opcode := by
  have ht := serialize_eq f
  rw [ht]
  simp only [wireOpcode, b8_toNat]
  exact congrArg some (hdr0 f.opcode f.fin h).1

@[simp] theorem wireOpcode_makeClose (c : Nat) (r : Bytes) : wireOpcode (serialize (makeClose c r)) = some 8 :=
  wireOpcode_serialize _ (by simp [makeClose])

@[simp] theorem wireOpcode_mkFrame (op : Nat) (fin : Bool) (pl : Bytes) (h : op < 16) :
    wireOpcode (serialize (mkFrame op fin pl)) = some op :=
  wireOpcode_serialize _ (by simpa [mkFrame] using h)

/-- the session can no longer emit data frames: close already sent, or session gone -/
def Closed (s : Sess) : Prop := s.closeSent = true ∨ s.alive = false

def NoData (evs : List Ev) : Prop := ∀ e ∈ evs, isDataSend e = false

def NoDataAfterClose : List Ev → Prop
  | [] => True
  | e :: rest => (isCloseSend e = true → NoData rest) ∧ NoDataAfterClose rest

theorem NoData_nil : NoData [] := by intro e h; cases h
theorem NoData_append {a b : List Ev} (ha : NoData a) (hb : NoData b) : NoData (a ++ b) :=
  fun e h => (List.mem_append.mp h).elim (ha e) (hb e)
theorem NoData_cons {e : Ev} {a : List Ev} (he : isDataSend e = false) (ha : NoData a) : NoData (e :: a) :=
  fun e' h => (List.mem_cons.mp h).elim (fun h => h ▸ he) (ha e')

/-- "no data frame after a close frame" is a pairwise property of the event list; how it behaves under `++` is
`List.pairwise_append` -/
theorem ndac_iff_pairwise : ∀ evs : List Ev,
    NoDataAfterClose evs ↔ evs.Pairwise (fun a b => isCloseSend a = true → isDataSend b = false)
  | [] => by simp [NoDataAfterClose]
  | e :: rest => by
    rw [NoDataAfterClose, List.pairwise_cons, ndac_iff_pairwise rest]
    exact and_congr_left' ⟨fun h a ha hc => h hc a ha, fun h hc a ha => h a ha hc⟩

theorem NoDataAfterClose_of_NoData : ∀ evs : List Ev, NoData evs → NoDataAfterClose evs :=
  fun evs h => (ndac_iff_pairwise evs).mpr (List.pairwise_of_forall_mem_list fun _ _ b hb _ => h b hb)

def closedB (s : Sess) : Bool := s.closeSent || !s.alive
theorem closed_iff (s : Sess) : Closed s ↔ closedB s = true := by
  unfold Closed closedB; cases s.closeSent <;> cases s.alive <;> simp

theorem NoData_iff (evs : List Ev) : NoData evs ↔ evs.all (fun e => !isDataSend e) = true := by
  simp [NoData]

@[simp] theorem sendClose_alive (s : Sess) (c : Nat) (r : Bytes) : (sendClose s c r).1.alive = s.alive := rfl
@[simp] theorem sendClose_buffer (s : Sess) (c : Nat) (r : Bytes) : (sendClose s c r).1.buffer = s.buffer := rfl
@[simp] theorem sendClose_fragBuf (s : Sess) (c : Nat) (r : Bytes) : (sendClose s c r).1.fragBuf = s.fragBuf := rfl
@[simp] theorem sendClose_fragOp (s : Sess) (c : Nat) (r : Bytes) : (sendClose s c r).1.fragOp = s.fragOp := rfl
@[simp] theorem appSend_state (s : Sess) (op : Nat) (pl : Bytes) : (appSend s op pl).1 = s := by
  unfold appSend; split <;> rfl
@[simp] theorem sendPing_state (s : Sess) (pl : Bytes) : (sendPing s pl).1 = s := by
  unfold sendPing; split <;> simp

/-- the fields a send can not change -/
structure SameBut (s s' : Sess) : Prop where
  alive : s'.alive = s.alive
  buffer : s'.buffer = s.buffer
  fragBuf : s'.fragBuf = s.fragBuf
  fragOp : s'.fragOp = s.fragOp

theorem SameBut.refl (s : Sess) : SameBut s s := ⟨rfl, rfl, rfl, rfl⟩
theorem SameBut.trans {a b c : Sess} (h1 : SameBut a b) (h2 : SameBut b c) : SameBut a c :=
  ⟨h2.alive.trans h1.alive, h2.buffer.trans h1.buffer, h2.fragBuf.trans h1.fragBuf, h2.fragOp.trans h1.fragOp⟩

theorem sendStep_same (s : Sess) (a : Send) : SameBut s (sendStep s a).1 := by
  cases a <;> constructor <;> simp [sendStep]

theorem runSends_same : ∀ (as : List Send) (s : Sess), SameBut s (runSends s as).1 := by
  intro as
  induction as with
  | nil => intro s; exact SameBut.refl s
  | cons a as ih => intro s; simp only [runSends]; exact (sendStep_same s a).trans (ih _)

theorem fire_same (s : Sess) (e : Ev) (sc : List Send) : SameBut s (fire s e sc).1 := by
  simp only [fire]; exact runSends_same sc s

theorem deliver_same (cb : Cbs) (s : Sess) (op : Nat) (pl : Bytes) : SameBut s (deliver cb s op pl).1 := by
  unfold deliver
  split
  · split
    · exact ⟨rfl, rfl, rfl, rfl⟩
    · exact fire_same ..
  · split
    · exact fire_same ..
    · exact SameBut.refl s

@[simp] theorem failSession_state (cb : Cbs) (s : Sess) (c : Nat) (r : Bytes) :
    (failSession cb s c r).1 = { alive := false } := rfl

/-- a piece of behaviour `s --ev--> s'` that respects the close discipline: once closed no data frame is sent, closed
stays closed, a close-frame send leaves the session closed, and inside `ev` no data frame follows a close frame -/
structure Tr (s : Sess) (ev : List Ev) (s' : Sess) : Prop where
  nodata : closedB s = true → NoData ev
  mono : closedB s = true → closedB s' = true
  close : ev.any isCloseSend = true → closedB s' = true
  ndac : NoDataAfterClose ev

theorem Tr.comp {s s1 s2 : Sess} {e1 e2 : List Ev} (h1 : Tr s e1 s1) (h2 : Tr s1 e2 s2) : Tr s (e1 ++ e2) s2 where
  nodata h := NoData_append (h1.nodata h) (h2.nodata (h1.mono h))
  mono h := h2.mono (h1.mono h)
  close h := by
    simp only [List.any_append, Bool.or_eq_true] at h
    rcases h with h | h
    · exact h2.mono (h1.close h)
    · exact h2.close h
  ndac := (ndac_iff_pairwise _).mpr (List.pairwise_append.mpr ⟨(ndac_iff_pairwise _).mp h1.ndac, (ndac_iff_pairwise _).mp h2.ndac,
    fun e he b hb hce => h2.nodata (h1.close (List.any_eq_true.mpr ⟨e, he, hce⟩)) b hb⟩)

theorem Tr.state {s s' : Sess} (h : closedB s = true → closedB s' = true) : Tr s [] s' where
  nodata _ := NoData_nil
  mono := h
  close h := by simp at h
  ndac := trivial

theorem Tr.refl (s : Sess) : Tr s [] s := Tr.state id

theorem Tr.ev (s : Sess) (e : Ev) (hd : isDataSend e = false) (hc : isCloseSend e = false) : Tr s [e] s where
  nodata _ := NoData_cons hd NoData_nil
  mono := id
  close h := by simp [hc] at h
  ndac := ⟨fun _ => NoData_nil, trivial⟩

theorem notSend_flags {e : Ev} (he : ∀ w, e ≠ .sent w) : isDataSend e = false ∧ isCloseSend e = false := by
  cases e <;> first | exact ⟨rfl, rfl⟩ | exact absurd rfl (he _)

theorem Tr.sendClose (s : Sess) (c : Nat) (r : Bytes) : Tr s (sendClose s c r).2 (sendClose s c r).1 := by
  have h : closedB (Iora.Ws.sendClose s c r).1 = true := by
    unfold closedB Iora.Ws.sendClose
    cases s.alive <;> simp
  exact ⟨fun _ => NoData_cons (by simp [isDataSend]) NoData_nil, fun _ => h, fun _ => h, ⟨fun _ => NoData_nil, trivial⟩⟩

theorem Tr.appSend (s : Sess) (op : Nat) (pl : Bytes) (h16 : op < 16) (h8 : op ≠ 8) :
    Tr s (appSend s op pl).2 (appSend s op pl).1 := by
  rw [appSend_state]
  unfold Iora.Ws.appSend
  split
  · exact Tr.refl s
  · rename_i hc
    refine ⟨?_, id, ?_, ⟨fun _ => NoData_nil, trivial⟩⟩
    · intro h; unfold closedB at h; simp_all
    · intro h
      simp [isCloseSend, wireOpcode_mkFrame op true pl h16, h8] at h

theorem Tr.sendStep (s : Sess) (a : Send) : Tr s (sendStep s a).2 (sendStep s a).1 := by
  cases a with
  | text bs => exact Tr.appSend s 1 bs (by omega) (by omega)
  | binary bs => exact Tr.appSend s 2 bs (by omega) (by omega)
  | ping bs =>
    simp only [Iora.Ws.sendStep, sendPing]
    split
    · exact Tr.refl s
    · exact Tr.appSend s 9 bs (by omega) (by omega)
  | close c r => exact Tr.sendClose s c r

theorem accumulate_keeps (s : Sess) (f : Frame) :
    (accumulate s f).alive = s.alive ∧ (accumulate s f).closeSent = s.closeSent ∧ (accumulate s f).buffer = s.buffer := by
  unfold accumulate; split
  · exact ⟨rfl, rfl, rfl⟩
  · split <;> exact ⟨rfl, rfl, rfl⟩
@[simp] theorem accumulate_alive (s : Sess) (f : Frame) : (accumulate s f).alive = s.alive := (accumulate_keeps s f).1
@[simp] theorem accumulate_closeSent (s : Sess) (f : Frame) : (accumulate s f).closeSent = s.closeSent := (accumulate_keeps s f).2.1
@[simp] theorem accumulate_buffer (s : Sess) (f : Frame) : (accumulate s f).buffer = s.buffer := (accumulate_keeps s f).2.2

/-- Facts about `handleDataFrame` and `handleFrame` are proved arm by arm through this principle and the next: `split` on the
whole handler body is slow to check. -/
theorem handleDataFrame_cases {motive : Sess × List Ev → Prop} (max : Nat) (cb : Cbs) (s : Sess) (f : Frame)
    (dead : s.alive = false → motive (s, []))
    (big : s.alive = true → max < (accumulate s f).fragBuf.length →
      motive (failSession cb { accumulate s f with fragBuf := [], fragOp := 0 } 1009 (str "Message Too Big")))
    (fin : s.alive = true → (accumulate s f).fragBuf.length ≤ max → f.fin = true →
      motive (deliver cb { accumulate s f with fragBuf := [], fragOp := 0 } (accumulate s f).fragOp (accumulate s f).fragBuf))
    (more : s.alive = true → (accumulate s f).fragBuf.length ≤ max → f.fin = false → motive (accumulate s f, [])) :
    motive (handleDataFrame max cb s f) := by
  unfold handleDataFrame
  by_cases ha : s.alive = true
  · rw [if_neg (by rw [ha]; decide)]
    by_cases hb : max < (accumulate s f).fragBuf.length
    · rw [if_pos hb]; exact big ha hb
    · rw [if_neg hb]
      by_cases hf : f.fin = true
      · rw [if_pos hf]; exact fin ha (Nat.le_of_not_lt hb) hf
      · rw [if_neg hf]; exact more ha (Nat.le_of_not_lt hb) (Bool.eq_false_iff.mpr hf)
  · rw [if_pos (by simpa using ha)]; exact dead (Bool.eq_false_iff.mpr ha)

/-- `code`, `reason` stand for `closePayload f.payload` -/
theorem handleFrame_cases {motive : Sess × List Ev → Prop} (max : Nat) (cb : Cbs) (s : Sess) (f : Frame)
    (data : (f.opcode = 1 ∨ f.opcode = 2) ∨ f.opcode = 0 → motive (handleDataFrame max cb s f))
    (ping : f.opcode = 9 → motive (s, [.sent (serialize (mkFrame 10 true f.payload))]))
    (pong : f.opcode = 10 → motive (s, []))
    (close : f.opcode = 8 → ∀ code reason, motive
      (erase (fire (if s.alive && !s.closeSent then { s with closeSent := true } else s) (.onClose code reason) cb.onClose).1,
        (if s.alive && !s.closeSent then [.sent (serialize (makeClose code reason))] else []) ++
        (fire (if s.alive && !s.closeSent then { s with closeSent := true } else s) (.onClose code reason) cb.onClose).2 ++
        [.closeSession]))
    (other : ¬ ((f.opcode = 1 ∨ f.opcode = 2) ∨ f.opcode = 0) → f.opcode ≠ 9 → f.opcode ≠ 10 → f.opcode ≠ 8 →
      motive ((fire (sendClose s 1002 (str "Unsupported opcode")).1 .onError cb.onError).1,
        (sendClose s 1002 (str "Unsupported opcode")).2 ++ (fire (sendClose s 1002 (str "Unsupported opcode")).1 .onError cb.onError).2)) :
    motive (handleFrame max cb s f) := by
  unfold handleFrame
  by_cases hd : (f.opcode = 1 || f.opcode = 2 || f.opcode = 0) = true
  · rw [if_pos hd]; exact data (by simpa using hd)
  rw [if_neg hd]
  by_cases h9 : f.opcode = 9
  · rw [if_pos h9]; exact ping h9
  rw [if_neg h9]
  by_cases h10 : f.opcode = 10
  · rw [if_pos h10]; exact pong h10
  rw [if_neg h10]
  by_cases h8 : f.opcode = 8
  · rw [if_pos h8]; exact close h8 _ _
  rw [if_neg h8]; exact other (by simpa using hd) h9 h10 h8

/-- while the loop runs the read buffer stays empty -/
theorem handleFrame_buffer (max : Nat) (cb : Cbs) (s : Sess) (f : Frame) (h : s.buffer = []) :
    (handleFrame max cb s f).1.buffer = [] := by
  refine handleFrame_cases (motive := fun r => r.1.buffer = []) max cb s f ?_ (fun _ => h) (fun _ => h) (fun _ _ _ => rfl) ?_
  · intro _
    refine handleDataFrame_cases (motive := fun r => r.1.buffer = []) max cb s f (fun _ => h) (fun _ _ => rfl) ?_
      (fun _ _ _ => (accumulate_buffer s f).trans h)
    intro _ _ _
    exact (deliver_same cb _ _ _).buffer.trans ((accumulate_buffer s f).trans h)
  · intro _ _ _ _
    exact (fire_same (sendClose s 1002 (str "Unsupported opcode")).1 .onError cb.onError).buffer.trans h

theorem loop_rest (max : Nat) (cb : Cbs) : ∀ (fuel : Nat) (s : Sess) (d : Bytes), d.length < fuel →
    ∀ r, (loop max cb fuel s d).2.2 = some r → r.length < 14 + max := by
  intro fuel
  induction fuel with
  | zero => intro s d h; omega
  | succ fuel ih =>
    intro s d hf
    unfold loop
    split
    · rename_i he
      intro r hr; cases hr
      rw [List.isEmpty_iff.mp he]; exact nil_short _
    · split
      · rename_i hp
        intro r hr; cases hr
        exact parse_incomplete_short max d hp
      · intro r hr; cases hr
      · intro r hr; cases hr
      · rename_i f n hp
        -- a frame takes at least two bytes, so what is left is shorter than the fuel left
        obtain ⟨h2 : 2 ≤ n, hnl : n ≤ d.length, _⟩ := parse_frame_bounds max d f n hp
        exact ih _ (d.drop n) (by rw [List.length_drop]; omega)

/-- `14 + max`: a buffer that `parse` calls incomplete is shorter (`parse_incomplete_short`), and only such a buffer is kept
between reads (`loop_rest`); `max` for the fragment buffer: `handleDataFrame` fails a session whose message exceeds it. -/
def Bounded (max : Nat) (s : Sess) : Prop := s.buffer.length < 14 + max ∧ s.fragBuf.length ≤ max

theorem bounded_fresh (max : Nat) : Bounded max {} := ⟨nil_short _, Nat.zero_le _⟩

theorem sendStep_bounded (max : Nat) (s : Sess) (a : Send) (h : Bounded max s) : Bounded max (sendStep s a).1 := by
  have hs := sendStep_same s a
  exact ⟨by rw [hs.buffer]; exact h.1, by rw [hs.fragBuf]; exact h.2⟩

/-- `s --ev--> s'` is made of: silent state changes that keep a closed session closed and the bounds; application sends
(`G` = what is known of their arguments); `sendClose` on its own, because the handlers also call it (1002, 1007, 1009, the
echo) with arguments of which `G` is not known; callbacks and `closeSession`; pongs (`Q` = what is known of the payload of
the ping they answer). `max` enters through `Bounded` only. -/
inductive Steps (max : Nat) (G : Send → Prop) (Q : Bytes → Prop) : Sess → List Ev → Sess → Prop where
  | quiet {s s' : Sess} : (closedB s = true → closedB s' = true) → (Bounded max s → Bounded max s') → Steps max G Q s [] s'
  | comp {s s1 s2 : Sess} {e1 e2 : List Ev} : Steps max G Q s e1 s1 → Steps max G Q s1 e2 s2 → Steps max G Q s (e1 ++ e2) s2
  | send (s : Sess) (a : Send) : G a → Steps max G Q s (sendStep s a).2 (sendStep s a).1
  | close (s : Sess) (c : Nat) (r : Bytes) : Steps max G Q s (sendClose s c r).2 (sendClose s c r).1
  | ev (s : Sess) (e : Ev) : (∀ w, e ≠ .sent w) → Steps max G Q s [e] s
  | pong (s : Sess) (pl : Bytes) : Q pl → Steps max G Q s [.sent (serialize (mkFrame 10 true pl))] s

structure Cbs.All (G : Send → Prop) (cb : Cbs) : Prop where
  onText : ∀ a ∈ cb.onText, G a
  onBinary : ∀ a ∈ cb.onBinary, G a
  onClose : ∀ a ∈ cb.onClose, G a
  onError : ∀ a ∈ cb.onError, G a

def AppOp.All (G : Send → Prop) : AppOp → Prop
  | .sendText bs => G (.text bs)
  | .sendBinary bs => G (.binary bs)
  | .sendPing bs => G (.ping bs)
  | _ => True

namespace Steps
variable {max : Nat} {G : Send → Prop} {Q : Bytes → Prop} {cb : Cbs}

theorem refl (s : Sess) : Steps max G Q s [] s := .quiet id id

theorem frag {s s' : Sess} (h1 : s'.alive = s.alive) (h2 : s'.closeSent = s.closeSent) (h3 : s'.buffer = s.buffer)
    (h4 : s'.fragBuf.length ≤ max) : Steps max G Q s [] s' :=
  .quiet (by unfold closedB; rw [h1, h2]; exact id) (fun h => ⟨by rw [h3]; exact h.1, h4⟩)

/-- the `_sessions` entry goes, `closeSession` is called -/
theorem gone (s : Sess) : Steps max G Q s [.closeSession] { alive := false } :=
  (Steps.ev s .closeSession nofun).comp (.quiet (fun _ => rfl)
    (fun _ => ⟨nil_short _, Nat.zero_le _⟩))

theorem runSends : ∀ (as : List Send) (s : Sess), (∀ a ∈ as, G a) → Steps max G Q s (runSends s as).2 (runSends s as).1 := by
  intro as
  induction as with
  | nil => intro s _; exact refl s
  | cons a as ih =>
    intro s h
    exact (Steps.send s a (h a (List.mem_cons_self ..))).comp (ih _ (fun b hb => h b (List.mem_cons_of_mem _ hb)))

theorem fire (s : Sess) (e : Ev) (sc : List Send) (he : ∀ w, e ≠ .sent w) (h : ∀ a ∈ sc, G a) :
    Steps max G Q s (fire s e sc).2 (fire s e sc).1 :=
  (Steps.ev s e he).comp (runSends sc s h)

theorem deliver (hcb : cb.All G) (s : Sess) (op : Nat) (pl : Bytes) :
    Steps max G Q s (deliver cb s op pl).2 (deliver cb s op pl).1 := by
  unfold Iora.Ws.deliver
  split
  · split
    · exact .close ..
    · exact fire _ _ _ nofun hcb.onText
  · split
    · exact fire _ _ _ nofun hcb.onBinary
    · exact refl s

theorem failSession (hcb : cb.All G) (s : Sess) (c : Nat) (r : Bytes) :
    Steps max G Q s (failSession cb s c r).2 (failSession cb s c r).1 :=
  ((Steps.close s c r).comp (fire _ .onError cb.onError nofun hcb.onError)).comp (gone _)

theorem handleDataFrame (hcb : cb.All G) (s : Sess) (f : Frame) :
    Steps max G Q s (handleDataFrame max cb s f).2 (handleDataFrame max cb s f).1 := by
  -- the message leaves the fragment buffer
  have hclr : Steps max G Q s [] { accumulate s f with fragBuf := [], fragOp := 0 } :=
    frag (accumulate_alive s f) (accumulate_closeSent s f) (accumulate_buffer s f) (Nat.zero_le _)
  refine handleDataFrame_cases (motive := fun r => Steps max G Q s r.2 r.1) max cb s f ?_ ?_ ?_ ?_
  · intro _; exact refl s
  · intro _ _; exact hclr.comp (failSession hcb _ 1009 _)
  · intro _ _ _; exact hclr.comp (deliver hcb _ _ _)
  · intro _ hle _; exact frag (accumulate_alive s f) (accumulate_closeSent s f) (accumulate_buffer s f) hle

theorem handleFrame (hcb : cb.All G) (s : Sess) (f : Frame) (hp : f.opcode = 9 → Q f.payload) :
    Steps max G Q s (handleFrame max cb s f).2 (handleFrame max cb s f).1 := by
  refine handleFrame_cases (motive := fun r => Steps max G Q s r.2 r.1) max cb s f ?_ ?_ ?_ ?_ ?_
  · intro _; exact handleDataFrame hcb s f
  · intro h9; exact .pong s _ (hp h9)
  · intro _; exact refl s
  · -- CLOSE: the echo is `sendClose` on a live session (flag and frame in one section), then `_onClose`, then the entry goes
    intro _ code reason
    have hecho : Steps max G Q s (if (s.alive && !s.closeSent) = true then [Ev.sent (serialize (makeClose code reason))] else [])
        (if (s.alive && !s.closeSent) = true then { s with closeSent := true } else s) := by
      split
      · rename_i h
        have ha : s.alive = true := (Bool.and_eq_true_iff.mp h).1
        have := Steps.close (max := max) (G := G) (Q := Q) s code reason
        rwa [show sendClose s code reason = ({ s with closeSent := true }, [.sent (serialize (makeClose code reason))]) by
          unfold sendClose; rw [ha]; rfl] at this
      · exact refl s
    exact (hecho.comp (fire _ (.onClose code reason) cb.onClose nofun hcb.onClose)).comp (gone _)
  · intro _ _ _ _; exact (Steps.close s 1002 _).comp (fire _ .onError cb.onError nofun hcb.onError)

theorem loop (hcb : cb.All G) (hq : PingsSatisfy max Q) :
    ∀ (fuel : Nat) (s : Sess) (d : Bytes),
    Steps max G Q s (loop max cb fuel s d).2.1 (loop max cb fuel s d).1 := by
  intro fuel
  induction fuel with
  | zero => intro s d; exact refl s
  | succ fuel ih =>
    intro s d
    unfold Iora.Ws.loop
    split
    · exact refl s
    · split
      · exact refl s
      · exact failSession hcb s 1002 _
      · exact failSession hcb s 1009 _
      · rename_i f n hp
        exact (handleFrame hcb s f (hq d f n hp)).comp (ih _ _)

theorem onData (hcb : cb.All G) (hq : PingsSatisfy max Q) (s : Sess) (data : Bytes) :
    Steps max G Q s (onData max cb s data).2 (onData max cb s data).1 := by
  unfold Iora.Ws.onData
  split
  · exact refl s
  · have h := loop hcb hq ((s.buffer ++ data).length + 1) { s with buffer := [] } (s.buffer ++ data)
    have hr := loop_rest max cb ((s.buffer ++ data).length + 1) { s with buffer := [] } (s.buffer ++ data) (Nat.lt_succ_self _)
    simp only
    rcases hL : Iora.Ws.loop max cb ((s.buffer ++ data).length + 1) { s with buffer := [] } (s.buffer ++ data) with ⟨s1, ev, r⟩
    rw [hL] at h hr
    have h' : Steps max G Q s ev s1 :=
      (Steps.quiet (s := s) (s' := { s with buffer := [] }) id
        (fun hb => ⟨nil_short _, hb.2⟩)).comp h
    cases r with
    | none => exact h'
    | some rest =>
      simp only
      split
      · have := h'.comp (Steps.quiet (s' := { s1 with buffer := rest }) id (fun hb => ⟨hr rest rfl, hb.2⟩))
        rwa [List.append_nil] at this
      · exact h'

theorem step (hcb : cb.All G) (hq : PingsSatisfy max Q) (s : Sess) (op : AppOp) (h : op.All G) :
    Steps max G Q s (step max cb s op).2 (step max cb s op).1 := by
  cases op with
  | data bs => exact onData hcb hq s bs
  | sendClose c r => exact .close s c r
  | sendText bs => exact .send s _ h
  | sendBinary bs => exact .send s _ h
  | sendPing bs => exact .send s _ h
  | transportClosed =>
    exact .quiet (fun _ => rfl) (fun _ => ⟨nil_short _, Nat.zero_le _⟩)

theorem run (hcb : cb.All G) (hq : PingsSatisfy max Q) : ∀ (ops : List AppOp) (s : Sess), (∀ op ∈ ops, op.All G) →
    Steps max G Q s (run max cb s ops).2 (run max cb s ops).1 := by
  intro ops
  induction ops with
  | nil => intro s _; exact refl s
  | cons op ops ih =>
    intro s h
    exact (step hcb hq s op (h op (List.mem_cons_self ..))).comp (ih _ (fun o ho => h o (List.mem_cons_of_mem _ ho)))

theorem tr {s s' : Sess} {ev : List Ev} (h : Steps max G Q s ev s') : Tr s ev s' := by
  induction h with
  | quiet h1 _ => exact Tr.state h1
  | comp _ _ i1 i2 => exact i1.comp i2
  | send s a _ => exact Tr.sendStep s a
  | close s c r => exact Tr.sendClose s c r
  | ev s e he => exact Tr.ev s e (notSend_flags he).1 (notSend_flags he).2
  | pong s pl _ => exact Tr.ev s _ (by simp [isDataSend, wireOpcode_mkFrame]) (by simp [isCloseSend, wireOpcode_mkFrame])

theorem bounded {s s' : Sess} {ev : List Ev} (h : Steps max G Q s ev s') : Bounded max s → Bounded max s' := by
  induction h with
  | quiet _ h2 => exact h2
  | comp _ _ i1 i2 => exact i2 ∘ i1
  | send s a _ => exact sendStep_bounded max s a
  | close s c r => exact sendStep_bounded max s (.close c r)
  | ev => exact id
  | pong => exact id

end Steps

theorem Cbs.all_true (cb : Cbs) : cb.All (fun _ => True) := ⟨fun _ _ => trivial, fun _ _ => trivial, fun _ _ => trivial, fun _ _ => trivial⟩

theorem Tr.deliver (cb : Cbs) (s : Sess) (op : Nat) (pl : Bytes) : Tr s (deliver cb s op pl).2 (deliver cb s op pl).1 :=
  (Steps.deliver (max := 0) (Q := fun _ => True) cb.all_true s op pl).tr

theorem Tr.handleDataFrame (max : Nat) (cb : Cbs) (s : Sess) (f : Frame) :
    Tr s (handleDataFrame max cb s f).2 (handleDataFrame max cb s f).1 :=
  (Steps.handleDataFrame (Q := fun _ => True) cb.all_true s f).tr

theorem Tr.handleFrame (max : Nat) (cb : Cbs) (s : Sess) (f : Frame) :
    Tr s (handleFrame max cb s f).2 (handleFrame max cb s f).1 :=
  (Steps.handleFrame (Q := fun _ => True) cb.all_true s f (fun _ => trivial)).tr

theorem Tr.onData (max : Nat) (cb : Cbs) (s : Sess) (data : Bytes) :
    Tr s (onData max cb s data).2 (onData max cb s data).1 :=
  (Steps.onData (Q := fun _ => True) cb.all_true (fun _ _ _ _ _ => trivial) s data).tr

theorem run_steps (max : Nat) (cb : Cbs) (ops : List AppOp) (s : Sess) :
    Steps max (fun _ => True) (fun _ => True) s (run max cb s ops).2 (run max cb s ops).1 :=
  Steps.run cb.all_true (fun _ _ _ _ _ => trivial) ops s (fun op _ => by cases op <;> trivial)

theorem upgrade_bounded (max : Nat) (cb : Cbs) (trailing : Bytes) : Bounded max (upgrade max cb trailing).1 := by
  unfold upgrade
  simp only
  split
  · exact bounded_fresh max
  · exact (run_steps max cb [.data trailing] {}).bounded (bounded_fresh max)

theorem run_append (max : Nat) (cb : Cbs) : ∀ (a b : List AppOp) (s : Sess),
    run max cb s (a ++ b) = ((run max cb (run max cb s a).1 b).1, (run max cb s a).2 ++ (run max cb (run max cb s a).1 b).2) := by
  intro a
  induction a with
  | nil => intro b s; simp [run]
  | cons op ops ih => intro b s; simp only [List.cons_append, run, ih, List.append_assoc]

theorem run_snoc_data (max : Nat) (cb : Cbs) (s : Sess) (segs : List Bytes) (d : Bytes) :
    run max cb s ((segs ++ [d]).map AppOp.data) =
      ((onData max cb (run max cb s (segs.map AppOp.data)).1 d).1,
       (run max cb s (segs.map AppOp.data)).2 ++ (onData max cb (run max cb s (segs.map AppOp.data)).1 d).2) := by
  rw [List.map_append, run_append]
  simp [run, step]

theorem step_erased (max : Nat) (cb : Cbs) (op : AppOp) : (step max cb { alive := false } op).1 = { alive := false } := by
  cases op <;> simp [step, sendStep, appSend, sendPing, sendClose, onData, erase] <;> split <;> rfl

theorem run_erased (max : Nat) (cb : Cbs) : ∀ (ops : List AppOp), (run max cb { alive := false } ops).1 = { alive := false } := by
  intro ops
  induction ops with
  | nil => rfl
  | cons op ops ih => simp only [run, step_erased, ih]

end Iora.Ws
