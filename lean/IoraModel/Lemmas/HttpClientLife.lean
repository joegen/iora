import IoraModel.Model.HttpClientLife
import IoraModel.Lemmas.HttpRetry
/-! A request none of whose attempts gets the lease (the URL does not parse, `_closing`, a lease time-out) runs the retry loop as
the bare counter `failLoop`, the same `nextAttempt` applied to the one exception it meets (`performLoop_noLease`). The lease wait, a
loop of wake-ups under one absolute deadline, ends at the deadline or by a wake-up's decision no later than it (`leaseLoop_cases`). -/
namespace Iora.HttpRetry
open Iora

theorem parseUrlPort_spec (u : UrlIn) :
    match parseUrlPort u with
    | .ok p => p < 65536
    | .error e => e = .invalidArg ∨ e = .other := by
  unfold parseUrlPort
  cases u.wellFormed with
  | false => exact .inl urlFail_exn
  | true =>
    cases u.port with
    | none => show (if u.https then _ else _) < 65536; split <;> decide
    | some p =>
      by_cases hp : p > Gen.HttpRetry.portParseMax
      · simp only [Bool.not_true, Bool.false_eq_true, if_false, hp, if_true]
        exact .inr portRange_exn
      · simp only [Bool.not_true, Bool.false_eq_true, if_false, hp]
        exact Nat.mod_lt _ (by decide)

theorem failLoop_succ (m : String) (r : Int) (e : Exn) (fuel a : Nat) :
    failLoop m r e (fuel + 1) a =
      match nextAttempt m r a (.error e) with
      | none => 1
      | some _ => 1 + failLoop m r e fuel (a + 1) := by
  simp only [failLoop, nextAttempt]
  cases dispatch e with
  | retry => cases retryEligible m e <;> cases budgetExhausted a r <;> rfl
  | _ => rfl

theorem failLoop_le (m : String) (r : Int) (e : Exn) :
    ∀ (fuel attempt : Nat), failLoop m r e fuel attempt ≤ (r.toNat - attempt) + 1 := by
  intro fuel
  induction fuel with
  | zero => intro a; simp [failLoop]
  | succ fuel ih =>
    intro a
    rw [failLoop_succ]
    cases h : nextAttempt m r a (.error e) with
    | none => simp
    | some n =>
      have := (nextAttempt_some h).2.1
      have := ih (a + 1)
      simp only
      omega

/-- a run in which no attempt got the lease: every attempt threw the same exception before it -/
structure IdleRun (rq : Request) (fuel attempt : Nat) (c : Client) (r : Run) : Prop where
  attempts : r.log.length = failLoop rq.method rq.retries (if rq.urlOk then .runtime else .invalidArg) fuel attempt
  evs : r.evs = []
  client : r.client = c
  unsent : ∀ lg ∈ r.log, lg.reachedSend = false ∧ lg.receives = 0
  result : r.fuelOut = false → r.result = .error (if rq.urlOk then .runtime else .invalidArg)

theorem performLoop_noLease (cfg : Cfg) (rq : Request) (hn : ∀ i, getsLease rq.urlOk (rq.script i) = false) :
    ∀ (fuel attempt : Nat) (c : Client), IdleRun rq fuel attempt c (performLoop cfg rq fuel attempt c) := by
  refine performLoop_induct cfg rq ?_ ?_ ?_
  · intro _ _; exact ⟨rfl, rfl, rfl, by simp, by simp⟩
  · intro f a c _ _ _ hx h
    rw [exec_noLease cfg c rq.host (hn a)] at hx
    cases hx
    exact ⟨by rw [failLoop_succ, h]; rfl, rfl, rfl, by simp, fun _ => rfl⟩
  · intro f a c _ _ _ r hx h ih
    rw [exec_noLease cfg c rq.host (hn a)] at hx
    cases hx
    refine ⟨?_, ih.evs, ih.client, by simpa using ih.unsent, ih.result⟩
    rw [failLoop_succ, h]
    simp only [List.length_cons, ih.attempts]
    omega

theorem leaseDeadline_eq (start now d : Nat) : leaseDeadline start now d = start + d := by
  simp [leaseDeadline, Gen.HttpRetry.leaseWaitForm]

theorem wakeOutcome_some (w : Wake) (t : Nat) (o : LeaseOut) (h : wakeOutcome w t = some o) :
    o.time = t ∧ (∀ t', o ≠ .timedOut t') ∧ (o.ans = .granted → w.free = true ∧ w.closing = false) := by
  unfold wakeOutcome at h
  by_cases hc : w.closing = true
  · simp only [hc, if_true, Option.some.injEq] at h
    subst h
    refine ⟨rfl, ?_, ?_⟩
    · intro t' hh; cases hh
    · intro hh; cases hh
  · by_cases hf : w.free = true
    · simp only [hc, Bool.false_eq_true, if_false, hf, if_true, Option.some.injEq] at h
      subst h
      refine ⟨rfl, ?_, ?_⟩
      · intro t' hh; cases hh
      · intro _; exact ⟨hf, by simpa using hc⟩
    · simp [hc, hf] at h

theorem leaseLoop_cases (d start : Nat) : ∀ (ws : List Wake) (now : Nat), now ≤ start + d →
    leaseLoop d start now ws = .timedOut (start + d) ∨
    ∃ w ∈ ws, ∃ t ≤ start + d, wakeOutcome w t = some (leaseLoop d start now ws)
  | [], now, hn => by simp [leaseLoop, leaseDeadline_eq, Nat.max_eq_right hn]
  | w :: ws, now, hn => by
    simp only [leaseLoop, leaseDeadline_eq, Nat.max_eq_right hn]
    split
    · rename_i ht
      cases ho : wakeOutcome w (max now w.time) with
      | some o => exact .inr ⟨w, List.mem_cons_self, _, Nat.le_of_lt ht, ho⟩
      | none =>
        refine (leaseLoop_cases d start ws _ (Nat.le_of_lt ht)).imp_right ?_
        exact fun ⟨w', hw', h⟩ => ⟨w', List.mem_cons_of_mem _ hw', h⟩
    · cases ho : wakeOutcome w (start + d) with
      | some o => exact .inr ⟨w, List.mem_cons_self, _, Nat.le_refl _, ho⟩
      | none => exact .inl rfl

theorem acquireLeaseTimed_held (d : Nat) {wakes : List Wake} (h : ∀ w ∈ wakes, w.free = false ∧ w.closing = false) :
    acquireLeaseTimed d false false wakes = .timedOut d := by
  have := (leaseLoop_cases d 0 wakes 0 (Nat.zero_le _)).resolve_right fun ⟨w, hw, t, _, ho⟩ => by
    simp [wakeOutcome, h w hw] at ho
  simpa [acquireLeaseTimed] using this

theorem foreignWakes_held (step : Nat) : ∀ (n i : Nat), ∀ w ∈ foreignWakes step n i, w.free = false ∧ w.closing = false := by
  intro n
  induction n with
  | zero => intro i w h; simp [foreignWakes] at h
  | succ n ih =>
    intro i w h
    simp only [foreignWakes, List.mem_cons] at h
    rcases h with rfl | h
    · exact ⟨rfl, rfl⟩
    · exact ih (i + 1) w h

end Iora.HttpRetry
