import IoraModel.Model.TcpSession
/-!
Lemmas for C01 (`Model/TcpSession.lean`).

Every operation of the session is a sequence of elementary actions (`Acts`, `step_acts`, `run_acts`), and every fact about a
whole history of the session is one induction over such sequences. The write side comes in two grains. `Good` (conservation
`wire ++ pending = accepted`, and the EPOLLOUT re-arm) is broken and restored inside `doSend` and `writePending`, so for it these
two, beside the residual accept of shutdown, are actions taken whole (`WOp`, `Acts.good`, at the end of the file with the
invariant). Everything else is respected by each single action (`WAct`, `Acts.toWAct`); those facts are in `Lemmas/TcpExt.lean`.
-/
namespace Iora.Tcp
open Iora

theorem flat_rev_cons (x : Bytes) (l : List Bytes) : (x :: l).reverse.flatten = l.reverse.flatten ++ x := by
  simp [List.reverse_cons, List.flatten_append]

theorem flat_rev_append (a l : List Bytes) : (a ++ l).reverse.flatten = l.reverse.flatten ++ a.reverse.flatten := by
  simp [List.reverse_append, List.flatten_append]

theorem ite_cases {α : Sort u} {P : α → Prop} {c : Bool} {a b : α} (ha : c = true → P a) (hb : c = false → P b) :
    P (if c then a else b) := by
  cases c
  · exact hb rfl
  · exact ha rfl

section basic
variable (cfg : Cfg) (s : St)

theorem ui_eq : (updateInterest cfg s).1 =
    { s with interestOut := (updateInterest cfg s).1.interestOut, rearmed := (updateInterest cfg s).1.rearmed } :=
  ite_cases (P := fun r : R => r.1 = { s with interestOut := r.1.interestOut, rearmed := r.1.rearmed }) (fun _ => rfl) (fun _ => rfl)

@[simp] theorem ui_wq : (updateInterest cfg s).1.wq = s.wq := by rw [ui_eq]
@[simp] theorem ui_wireRev : (updateInterest cfg s).1.wireRev = s.wireRev := by rw [ui_eq]
@[simp] theorem ui_acceptedRev : (updateInterest cfg s).1.acceptedRev = s.acceptedRev := by rw [ui_eq]
@[simp] theorem ui_closed : (updateInterest cfg s).1.closed = s.closed := by rw [ui_eq]
@[simp] theorem ui_tls : (updateInterest cfg s).1.tls = s.tls := by rw [ui_eq]
@[simp] theorem ui_deliveredRev : (updateInterest cfg s).1.deliveredRev = s.deliveredRev := by rw [ui_eq]
@[simp] theorem ui_receivedRev : (updateInterest cfg s).1.receivedRev = s.receivedRev := by rw [ui_eq]
@[simp] theorem ui_connectPending : (updateInterest cfg s).1.connectPending = s.connectPending := by rw [ui_eq]

theorem ui_outs : (updateInterest cfg s).2 = [] ∨ ∃ b, (updateInterest cfg s).2 = [.interest b cfg.edge] :=
  ite_cases (P := fun r : R => r.2 = [] ∨ ∃ b, r.2 = [.interest b cfg.edge]) (fun _ => .inl rfl) (fun _ => .inr ⟨_, rfl⟩)

theorem cn_eq (w : Why) : (closeNow s w).1 =
    { s with closed := true, wq := (closeNow s w).1.wq, interestOut := (closeNow s w).1.interestOut,
             rearmed := (closeNow s w).1.rearmed } :=
  ite_cases (P := fun r : R => r.1 = { s with closed := true, wq := r.1.wq, interestOut := r.1.interestOut, rearmed := r.1.rearmed })
    (fun h => by cases s; cases h; rfl) (fun _ => rfl)

@[simp] theorem cn_wireRev (w : Why) : (closeNow s w).1.wireRev = s.wireRev := by rw [cn_eq]
@[simp] theorem cn_acceptedRev (w : Why) : (closeNow s w).1.acceptedRev = s.acceptedRev := by rw [cn_eq]
@[simp] theorem cn_tls (w : Why) : (closeNow s w).1.tls = s.tls := by rw [cn_eq]
@[simp] theorem cn_closed (w : Why) : (closeNow s w).1.closed = true := by rw [cn_eq]
@[simp] theorem cn_connectPending (w : Why) : (closeNow s w).1.connectPending = s.connectPending := by rw [cn_eq]
@[simp] theorem cn_deliveredRev (w : Why) : (closeNow s w).1.deliveredRev = s.deliveredRev := by rw [cn_eq]
@[simp] theorem cn_receivedRev (w : Why) : (closeNow s w).1.receivedRev = s.receivedRev := by rw [cn_eq]

theorem cn_outs_open (w : Why) (h : s.closed = false) : (closeNow s w).2 = [.close w] := by
  simp [closeNow, h]

theorem cn_outs (w : Why) : (closeNow s w).2 = [] ∨ (closeNow s w).2 = [.close w] :=
  ite_cases (P := fun r : R => r.2 = [] ∨ r.2 = [.close w]) (fun _ => .inl rfl) (fun _ => .inr rfl)

end basic

theorem noteWrite_flat (s : St) (t : Bytes) :
    (noteWrite s t).wireRev.reverse.flatten = s.wireRev.reverse.flatten ++ t := by
  cases t with
  | nil => simp [noteWrite]
  | cons _ _ => simp [noteWrite]

@[simp] theorem noteWrite_wq (s : St) (t : Bytes) : (noteWrite s t).wq = s.wq := rfl
@[simp] theorem noteWrite_acceptedRev (s : St) (t : Bytes) : (noteWrite s t).acceptedRev = s.acceptedRev := rfl
@[simp] theorem noteWrite_closed (s : St) (t : Bytes) : (noteWrite s t).closed = s.closed := rfl
@[simp] theorem noteWrite_tls (s : St) (t : Bytes) : (noteWrite s t).tls = s.tls := rfl

theorem optRun_flat (t : Bytes) : (if t.isEmpty then [] else [t] : List Bytes).reverse.flatten = t := by
  cases t <;> simp

theorem writeLoop_conserves (ssl : Bool) (q : List Bytes) (as : List WAns) :
    (writeLoop ssl q as).sentRev.reverse.flatten ++ (writeLoop ssl q as).wq.flatten = q.flatten := by
  fun_induction writeLoop ssl q as with
  | case2 => rw [optRun_flat, List.flatten_cons, ← List.append_assoc, List.take_append_drop, List.flatten_cons]
  | case3 _ _ _ _ _ _ _ _ ih => rw [flat_rev_append, optRun_flat, List.append_assoc, ih, List.flatten_cons]
  | _ => rfl

theorem writeLoop_drained (ssl : Bool) : ∀ (q : List Bytes) (as : List WAns),
    (writeLoop ssl q as).stop = .drained ↔ (writeLoop ssl q as).wq = [] := by
  intro q as
  fun_induction writeLoop ssl q as with
  | case3 _ _ _ _ _ _ _ _ ih => exact ih
  | _ => simp

/-- the session after the drain loop of `writePending` has run with result `l` -/
def St.drained (s : St) (l : WL) : St :=
  { s with wq := l.wq, wireRev := l.sentRev ++ s.wireRev, rearmed := if l.outs.isEmpty then s.rearmed else false }

/-- `writePending` is the drain loop and then `closeNow` if a write failed, otherwise `updateInterest` with new `wantWrite` /
`tlsWantWrite` -/
theorem writePending_cases {P : R → Prop} (cfg : Cfg) (s : St) (ws : List WAns) :
    let l := writeLoop (s.tls == .open) s.wq ws
    (l.stop ≠ .failed → ∀ a b,
      P (R.andThen (s.drained l, l.outs) fun x => updateInterest cfg { x with wantWrite := a, tlsWantWrite := b })) →
    (l.stop = .failed → P (R.andThen (s.drained l, l.outs) (closeNow · (ioWhy (s.tls == .open))))) →
    P (writePending cfg s ws) := by
  unfold writePending
  simp only []
  generalize writeLoop (s.tls == .open) s.wq ws = l
  intro hui hcn
  cases h : l.stop with
  | failed => exact hcn h
  | _ => exact hui (h ▸ nofun) _ _

/-- outputs that no fact below looks at: the probes and the connect callback -/
def Out.inert : Out → Bool
  | .soError | .handshake | .connected => true
  | _ => false

/-- the payloads `enqueue` accepted in a history, in order: those of the Send commands (`send` does not enqueue `n == 0`) and,
at `shutdown`, those still in the command queue, which are never dispatched -/
def sentPayloads : List In → List Bytes
  | [] => []
  | .cmdSend p _ :: is => if p.isEmpty then sentPayloads is else p :: sentPayloads is
  | .shutdown residual :: is => residual.filter (!·.isEmpty) ++ sentPayloads is
  | _ :: is => sentPayloads is

/-- every queued buffer is non-empty (true of the engine: `send` does not enqueue `n == 0`, tails are non-empty) -/
def NonEmptyBufs (q : List Bytes) : Prop := ∀ d ∈ q, d ≠ []

theorem NonEmptyBufs.nil : NonEmptyBufs [] := fun _ h => nomatch h

/-- `Acts cfg W s l r`: from `s`, a sequence of elementary actions of the session and of write-side actions `W` leads to the
state and outputs `r`, accepting the payloads `l` on the way. Each action stands under the guards it has in the code (the session
is open; no read is issued during the handshake); `flags` sets the three flags to anything, since no fact depends on their values
(`interest` reads them through `needWrite`). Every operation of the model is such a sequence (`onSession_acts` … `run_acts`, and
`Acts.toWAct`), so a fact that each action respects and that composes holds of all of them. -/
inductive Acts (cfg : Cfg) (W : St → List Bytes → R → Prop) : St → List Bytes → R → Prop
  | nil (s : St) : Acts cfg W s [] (s, [])
  | seq {s : St} {l1 l2 : List Bytes} {r1 r2 : R} :
      Acts cfg W s l1 r1 → Acts cfg W r1.1 l2 r2 → Acts cfg W s (l1 ++ l2) (r2.1, r1.2 ++ r2.2)
  | close (s : St) (hc : s.closed = false) (w : Why) :
      Acts cfg W s [] ({ s with closed := true, wq := [], interestOut := false, rearmed := false }, [.close w])
  | interest (s : St) (hc : s.closed = false) :
      Acts cfg W s [] ({ s with interestOut := needWrite s, rearmed := needWrite s }, [.interest (needWrite s) cfg.edge])
  | flags (s : St) (hc : s.closed = false) (a b c : Bool) :
      Acts cfg W s [] ({ s with wantWrite := a, tlsWantWrite := b, connectPending := c }, [])
  | emit (s : St) (hc : s.closed = false) (o : Out) (ho : o.inert = true) : Acts cfg W s [] (s, [o])
  | hsDone (s : St) (hc : s.closed = false) (hs : s.tls = .handshake) :
      Acts cfg W s [] ({ s with tls := .open, tlsWantWrite := false, connectPending := false }, [])
  | readCall (s : St) (hc : s.closed = false) (hh : s.tls ≠ .handshake) (cap : Nat) :
      Acts cfg W s [] (s, [.read (s.tls == .open) cap])
  | got (s : St) (hc : s.closed = false) (bs : Bytes) :
      Acts cfg W s [] ({ s with receivedRev := bs :: s.receivedRev, deliveredRev := bs :: s.deliveredRev }, [.deliver bs])
  | wr {s : St} {l : List Bytes} {r : R} : W s l r → Acts cfg W s l r

/-- the write side action by action, each under its guards: no write during the handshake; the direct write of `doSend` only on an
empty queue, in whose place it leaves non-empty buffers `q` (in `doSend`: none, or the unsent tail); drop-oldest only under that
policy; queued payloads are non-empty. In `direct` the buffer passed `b`, the bytes taken `t` and `q` are unrelated: what relates
them is conservation, which is not a fact about single actions. -/
inductive WAct (cfg : Cfg) : St → List Bytes → R → Prop
  | accept (s : St) (l : List Bytes) : WAct cfg s l ({ s with acceptedRev := l.reverse ++ s.acceptedRev }, [])
  | push (s : St) (hc : s.closed = false) (p : Bytes) (hp : p ≠ []) : WAct cfg s [] ({ s with wq := s.wq ++ [p] }, [])
  | dropOldest (s : St) (hc : s.closed = false) (hcob : cfg.closeOnBackpressure = false) :
      WAct cfg s [] ({ s with wq := s.wq.tail }, [])
  | direct (s : St) (hc : s.closed = false) (hh : s.tls ≠ .handshake) (hq : s.wq = []) (b t : Bytes) (q : List Bytes)
      (hq' : NonEmptyBufs q) : WAct cfg s [] ({ noteWrite s t with wq := q }, [.write (s.tls == .open) b])
  | drain (s : St) (hc : s.closed = false) (hh : s.tls ≠ .handshake) (ws : List WAns) :
      WAct cfg s [] (s.drained (writeLoop (s.tls == .open) s.wq ws), (writeLoop (s.tls == .open) s.wq ws).outs)

/-- the write side operation by operation; `residual`: what `shutdownDrain` finds in the command queue of the closed session -/
inductive WOp (cfg : Cfg) : St → List Bytes → R → Prop
  | send (s : St) (p : Bytes) (a : WAns) (hp : p ≠ []) : WOp cfg s [p] (doSend cfg s p a)
  | pend (s : St) (ws : List WAns) (hc : s.closed = false) (hh : s.tls ≠ .handshake) : WOp cfg s [] (writePending cfg s ws)
  | residual (s : St) (l : List Bytes) (hc : s.closed = true) :
      WOp cfg s l ({ s with acceptedRev := l.reverse ++ s.acceptedRev }, [])

namespace Acts
variable {cfg : Cfg} {W : St → List Bytes → R → Prop} {s : St} {l : List Bytes} {r : R}

/-- `closeNow` is nothing (closed already) or `close`, and (`ui`) `updateInterest` is nothing (mask unchanged and the MOD skipped)
or `interest`: no induction over `Acts` opens the two functions -/
theorem cn (s : St) (w : Why) : Acts cfg W s [] (closeNow s w) := ite_cases (fun _ => .nil s) (fun h => .close s h w)

theorem ui (s : St) (hc : s.closed = false) : Acts cfg W s [] (updateInterest cfg s) :=
  ite_cases (fun _ => .nil s) (fun _ => .interest s hc)

theorem flagsUi (s : St) (hc : s.closed = false) (a b c : Bool) :
    Acts cfg W s [] (updateInterest cfg { s with wantWrite := a, tlsWantWrite := b, connectPending := c }) :=
  seq (flags s hc a b c) (ui _ hc)

theorem cons (hc : s.closed = false) (o : Out) (ho : o.inert = true) (h : Acts cfg W s l r) : Acts cfg W s l (r.1, o :: r.2) :=
  seq (emit s hc o ho) h

/-- the `SO_ERROR` probe of `onSession` in front, if the event has EPOLLOUT -/
theorem pre (hc : s.closed = false) (b : Bool) (h : Acts cfg W s l r) :
    Acts cfg W s l (r.1, (if b then [Out.soError] else []) ++ r.2) := by
  cases b
  · exact h
  · exact cons hc _ rfl h

end Acts

theorem enqueueTail_acts (cfg : Cfg) (s : St) (p : Bytes) (hc : s.closed = false) (hp : p ≠ []) :
    Acts cfg (WAct cfg) s [] (enqueueTail cfg s p) := by
  have h1 : Acts cfg (WAct cfg) s [] _ := .wr (WAct.push s hc p hp)
  fun_cases enqueueTail cfg s p
  case case1 => exact .seq h1 (.cn _ _)
  case case2 _ _ hf =>
    -- `by exact hc`, here and below: the state `_` is to be read off the goal (a record update of `s`, whose `closed` is `s.closed`);
    -- plain `hc` would fix it as `s` from its own type first
    exact .seq h1 (.seq (.wr (WAct.dropOldest _ (by exact hc) (eq_false_of_ne_true hf))) (.flagsUi _ (by exact hc) true _ _))
  case case3 => exact .seq h1 (.flagsUi _ (by exact hc) true _ _)

theorem doSend_acts (cfg : Cfg) (s : St) (p : Bytes) (a : WAns) (hp : p ≠ []) :
    Acts cfg (WAct cfg) s [p] (doSend cfg s p a) := by
  refine .seq (l2 := []) (.wr (WAct.accept s [p])) ?_
  show Acts cfg (WAct cfg) { s with acceptedRev := p :: s.acceptedRev } [] (doSend cfg s p a)
  -- the direct write, taking `t` and leaving the queue `q`
  have hw : ¬s.closed = true → ¬s.tls = .handshake → s.wq.isEmpty = true → ∀ t q, NonEmptyBufs q →
      Acts cfg (WAct cfg) { s with acceptedRev := p :: s.acceptedRev } []
        ({ noteWrite { s with acceptedRev := p :: s.acceptedRev } t with wq := q }, [.write (s.tls == .open) p]) :=
    fun hc hh hq t q hq' => .wr
      (WAct.direct { s with acceptedRev := p :: s.acceptedRev } (eq_false_of_ne_true hc) hh (List.isEmpty_iff.mp hq) p t q hq')
  have hnil : s.wq.isEmpty = true → NonEmptyBufs s.wq := fun hq => List.isEmpty_iff.mp hq ▸ .nil
  fun_cases doSend cfg s p a
  case case1 => exact .nil _ -- closed
  case case2 _ hc _ => -- handshake in progress
    have hc := eq_false_of_ne_true hc
    exact .seq (.wr (WAct.push _ hc p hp)) (.flagsUi _ (by exact hc) true _ _)
  case case3 _ hc hh hq _ n _ _ hn _ => -- short direct write
    have hd : NonEmptyBufs [p.drop n] := fun d hd =>
      List.mem_singleton.mp hd ▸ mt List.drop_eq_nil_iff.mp (Nat.not_le.mpr hn)
    have hc' := eq_false_of_ne_true hc
    exact .seq (hw hc hh hq _ _ hd) (.flagsUi _ (by exact hc') true _ _)
  case case4 _ hc hh hq _ _ _ _ _ => exact hw hc hh hq _ s.wq (hnil hq) -- whole payload written
  case case5 _ hc hh hq _ _ _ _ => -- direct write refused: queue
    exact .seq (hw hc hh hq [] s.wq (hnil hq)) (enqueueTail_acts cfg _ p (eq_false_of_ne_true hc) hp)
  case case6 _ hc hh hq _ _ _ => exact .seq (hw hc hh hq [] s.wq (hnil hq)) (.cn _ _) -- direct write failed: close
  case case7 _ hc _ _ => exact enqueueTail_acts cfg _ p (eq_false_of_ne_true hc) hp -- queue not empty: queue

theorem writePending_acts (cfg : Cfg) (s : St) (ws : List WAns) (hc : s.closed = false) (hh : s.tls ≠ .handshake) :
    Acts cfg (WAct cfg) s [] (writePending cfg s ws) :=
  writePending_cases (P := Acts cfg (WAct cfg) s []) cfg s ws
    (fun _ _ _ => .seq (.wr (WAct.drain s hc hh ws)) (.flagsUi _ (by exact hc) _ _ _))
    (fun _ => .seq (.wr (WAct.drain s hc hh ws)) (.cn _ _))

theorem Acts.toWAct {cfg : Cfg} {s : St} {l : List Bytes} {r : R} (h : Acts cfg (WOp cfg) s l r) : Acts cfg (WAct cfg) s l r := by
  induction h with
  | nil s => exact .nil s
  | seq _ _ ih1 ih2 => exact .seq ih1 ih2
  | close s hc w => exact .close s hc w
  | interest s hc => exact .interest s hc
  | flags s hc a b c => exact .flags s hc a b c
  | emit s hc o ho => exact .emit s hc o ho
  | hsDone s hc hs => exact .hsDone s hc hs
  | readCall s hc hh cap => exact .readCall s hc hh cap
  | got s hc bs => exact .got s hc bs
  | wr h =>
    cases h with
    | send p a hp => exact doSend_acts cfg _ p a hp
    | pend ws hc hh => exact writePending_acts cfg _ ws hc hh
    | residual => exact .wr (WAct.accept _ _)

section
variable {W : St → List Bytes → R → Prop}

theorem readAvail_acts (cfg : Cfg) (rs : List RAns) (s : St) :
    s.closed = false → s.tls ≠ .handshake → Acts cfg W s [] (readAvail cfg s rs).1 := by
  fun_induction readAvail cfg s rs with
  | case1 => exact fun hc hh => .readCall _ hc hh _
  | case2 _ _ _ _ _ _ _ _ _ _ ih =>
    exact fun hc hh => .seq (.readCall _ hc hh _) (.seq (.got _ hc _) (ih hc hh))
  | case3 => exact fun hc hh => .seq (.readCall _ hc hh _) (.got _ hc _)
  | case4 => exact fun hc hh => .readCall _ hc hh _
  | case5 _ _ _ _ _ tw => exact fun hc hh => .seq (.readCall _ hc hh _) (.flagsUi _ hc _ tw _)
  | case6 | case7 => exact fun hc hh => .seq (.readCall _ hc hh _) (.cn _ _)

theorem readAvail_tls (cfg : Cfg) (rs : List RAns) (s : St) : (readAvail cfg s rs).1.1.tls = s.tls := by
  fun_induction readAvail cfg s rs with
  | case2 _ _ _ _ _ _ _ _ _ _ ih => exact ih
  | case5 => exact ui_tls ..
  | case6 | case7 => exact cn_tls ..
  | _ => rfl

theorem driveHandshake_acts (cfg : Cfg) (s : St) (h : HAns) (rs : List RAns) (hc : s.closed = false) (hs : s.tls = .handshake) :
    Acts cfg W s [] (driveHandshake cfg s h rs).1.1 ∧
    ((driveHandshake cfg s h rs).2 = true → (driveHandshake cfg s h rs).1.1.1.tls ≠ .handshake) := by
  cases h with
  | done =>
    exact ⟨.cons hc _ rfl (.cons hc _ rfl (.seq (.seq (.hsDone s hc hs) (.ui _ (by exact hc)))
        (readAvail_acts cfg rs _ ((ui_closed _ _).trans hc) fun e => nomatch (ui_tls _ _).symm.trans e))),
      fun _ e => nomatch ((readAvail_tls ..).trans (ui_tls ..)).symm.trans e⟩
  | wantR => exact ⟨.cons hc _ rfl (.flagsUi s hc _ false _), fun e => nomatch e⟩
  | wantW => exact ⟨.cons hc _ rfl (.flagsUi s hc _ true _), fun e => nomatch e⟩
  | err => exact ⟨.cons hc _ rfl (.cn _ _), fun e => nomatch e⟩

theorem connectCheck_acts (cfg : Cfg) (s : St) (c : CAns) : Acts cfg W s [] (connectCheck s c) := by
  fun_cases connectCheck s c
  case case1 | case2 => exact .nil s
  case case3 hc _ =>
    have hc := eq_false_of_ne_true hc
    exact .cons hc _ rfl (.cons hc _ rfl (.flags s hc _ _ false))
  case case4 hc _ => exact .emit s (eq_false_of_ne_true hc) _ rfl
  case case5 hc _ _ => exact .cons (eq_false_of_ne_true hc) _ rfl (.cn _ _)

end

theorem onSessionIo_acts (cfg : Cfg) (s : St) (ev : Ev) (rs : List RAns) (ws : List WAns) (hh : s.tls ≠ .handshake) :
    Acts cfg (WOp cfg) s [] (onSessionIo cfg s ev rs ws) := by
  have h1 : ¬s.closed = true → Acts cfg (WOp cfg) s [] (if ev.inn = true then (readAvail cfg s rs).1 else (s, [])) ∧
      (if ev.inn = true then (readAvail cfg s rs).1 else (s, [])).1.tls ≠ .handshake := fun hc => by
    split
    · exact ⟨readAvail_acts cfg rs s (eq_false_of_ne_true hc) hh, (readAvail_tls cfg rs s).symm ▸ hh⟩
    · exact ⟨.nil s, hh⟩
  fun_cases onSessionIo cfg s ev rs ws
  case case1 => exact .nil s
  case case2 => exact .cn _ _
  case case3 hc _ _ _ => exact (h1 hc).1
  case case4 hc _ _ hc1 _ _ =>
    exact .seq (h1 hc).1 (.wr (WOp.pend _ ws (eq_false_of_ne_true hc1) (h1 hc).2))
  case case5 hc _ _ _ _ => exact (h1 hc).1

theorem onSession_acts (cfg : Cfg) (s : St) (ev : Ev) (soOk : Bool) (c : CAns) (h : HAns) (rs : List RAns) (ws : List WAns) :
    Acts cfg (WOp cfg) s [] (onSession cfg s ev soOk c h rs ws) := by
  fun_cases onSession cfg s ev soOk c h rs ws
  case case1 => exact .nil s
  case case2 hc _ _ => exact .cons (eq_false_of_ne_true hc) _ rfl (.cn _ _)
  case case3 hc _ _ hs _ hd2 _ =>
    have hc := eq_false_of_ne_true hc
    obtain ⟨hd, ho⟩ := driveHandshake_acts (W := WOp cfg) cfg s h rs hc hs
    have := Acts.pre hc ev.out (.seq hd (onSessionIo_acts cfg _ ev (driveHandshake cfg s h rs).1.2 ws (ho hd2)))
    rw [← List.append_assoc] at this
    exact this
  case case4 hc _ _ hs _ _ =>
    have hc := eq_false_of_ne_true hc
    exact .pre hc ev.out (driveHandshake_acts cfg s h rs hc hs).1
  case case5 hc _ _ hh _ _ _ =>
    have hc := eq_false_of_ne_true hc
    have hu : Acts cfg (WOp cfg) s [] _ := .flagsUi s hc s.wantWrite s.tlsWantWrite false
    exact .pre hc ev.out (.cons hc _ rfl (.cons hc _ rfl (.seq hu
      (onSessionIo_acts cfg _ ev rs ws fun e => hh ((ui_tls cfg { s with connectPending := false }).symm.trans e)))))
  case case6 hc _ _ hh _ _ =>
    have hc := eq_false_of_ne_true hc
    exact .pre hc ev.out (.cons hc _ rfl (onSessionIo_acts cfg s ev rs ws hh))
  case case7 hc _ _ _ _ _ =>
    have hc := eq_false_of_ne_true hc
    exact .pre hc ev.out (.cons hc _ rfl (.cn _ _))
  case case8 hc _ _ hh _ _ => exact .pre (eq_false_of_ne_true hc) ev.out (onSessionIo_acts cfg s ev rs ws hh)

theorem step_acts (cfg : Cfg) (s : St) (i : In) : Acts cfg (WOp cfg) s (sentPayloads [i]) (step cfg s i) := by
  cases i with
  | cmdSend p a =>
    cases p with
    | nil => exact .nil s
    | cons x xs => exact .wr (WOp.send s (x :: xs) a (List.cons_ne_nil _ _))
  | cmdClose w o => exact ite_cases (fun _ => .nil s) (fun _ => .cn s w)
  | shutdown residual =>
    have h : Acts cfg (WOp cfg) s _ _ :=
      .seq (.cn s .shutdown) (.wr (WOp.residual _ (residual.filter (!·.isEmpty)) (cn_closed s .shutdown)))
    rw [List.append_nil (closeNow s .shutdown).2] at h
    show Acts cfg (WOp cfg) s (residual.filter (!·.isEmpty) ++ []) _
    rw [List.append_nil]
    exact h
  | connectCheck c => exact connectCheck_acts cfg s c
  | event ev soOk c h rs ws => exact onSession_acts cfg s ev soOk c h rs ws

theorem sentPayloads_cons (i : In) (is : List In) : sentPayloads (i :: is) = sentPayloads [i] ++ sentPayloads is := by
  cases i with
  | cmdSend p a => cases p <;> rfl
  | shutdown residual => simp [sentPayloads]
  | _ => rfl

theorem run_acts (cfg : Cfg) : ∀ (is : List In) (s : St), Acts cfg (WOp cfg) s (sentPayloads is) (run cfg s is)
  | [], s => .nil s
  | i :: is, s => sentPayloads_cons i is ▸ .seq (step_acts cfg s i) (run_acts cfg is _)

/-- conservation: what the kernel took, followed by what is still queued, is what was accepted -/
def Conserved (s : St) : Prop := s.wire ++ s.wq.flatten = s.accepted.flatten

/-- T1 as a state predicate -/
def Inv (s : St) : Prop := (s.closed = false → Conserved s) ∧ s.wire <+: s.accepted.flatten

/-- T3 as a state predicate: an open session with queued data has EPOLLOUT registered by an `epoll_ctl` issued after the
last write attempt -/
def Armed (s : St) : Prop := s.closed = false → s.wq ≠ [] → s.interestOut = true ∧ s.rearmed = true

/-- T1's and T3's invariants together; the re-arm half needs the unconditional `epoll_ctl(MOD)` of `updateInterest` -/
def Good (cfg : Cfg) (s : St) : Prop := Inv s ∧ (cfg.modSkipsUnchanged = false → Armed s)

theorem inv_of_conserved {s : St} (h : Conserved s) : Inv s :=
  ⟨fun _ => h, ⟨s.wq.flatten, h⟩⟩

theorem needWrite_queued {s : St} (hq : s.wq ≠ []) : needWrite s = true := by
  cases h : s.wq with
  | nil => exact absurd h hq
  | cons _ _ => simp [needWrite, h]

section
variable (cfg : Cfg) (s : St)

theorem ui_armed (hmod : cfg.modSkipsUnchanged = false) : Armed (updateInterest cfg s).1 := by
  intro _ hq
  have := needWrite_queued (s := s) (by simpa using hq)
  simp [updateInterest, this, hmod]

theorem ui_inv (h : Inv s) : Inv (updateInterest cfg s).1 := by
  unfold Inv Conserved St.wire St.accepted at *
  rw [ui_closed, ui_wq, ui_wireRev, ui_acceptedRev]; exact h
theorem ui_good (h : Inv s) : Good cfg (updateInterest cfg s).1 := ⟨ui_inv cfg s h, ui_armed cfg s⟩

theorem cn_good (w : Why) (h : s.wire <+: s.accepted.flatten) : Good cfg (closeNow s w).1 := by
  refine ⟨⟨fun hc => ?_, ?_⟩, fun _ hc => ?_⟩
  · simp at hc
  · simpa [St.wire, St.accepted] using h
  · simp at hc

end

theorem enqueueTail_good (cfg : Cfg) (s : St) (p : Bytes) (hcob : cfg.closeOnBackpressure = true)
    (h : Conserved { s with wq := s.wq ++ [p] }) : Good cfg (enqueueTail cfg s p).1 := by
  fun_cases enqueueTail cfg s p
  case case1 => exact cn_good cfg _ _ ⟨_, h⟩
  case case2 _ _ hf => exact absurd hcob hf
  case case3 => exact ui_good cfg _ (inv_of_conserved h)

theorem conserved_accept {s s' : St} {p : Bytes} (h : Conserved s) (ha : s'.acceptedRev = p :: s.acceptedRev)
    (hw : s'.wire ++ s'.wq.flatten = s.wire ++ s.wq.flatten ++ p) : Conserved s' := by
  unfold Conserved St.accepted at *
  rw [hw, ha, flat_rev_cons, h]

theorem prefix_accept {s s' : St} {l : List Bytes} (h : s.wire <+: s.accepted.flatten)
    (ha : s'.acceptedRev = l.reverse ++ s.acceptedRev) (hw : s'.wire = s.wire) : s'.wire <+: s'.accepted.flatten := by
  unfold St.accepted at *
  rw [hw, ha, flat_rev_append]
  exact h.trans (List.prefix_append _ _)

theorem doSend_good (cfg : Cfg) (s : St) (p : Bytes) (a : WAns) (hcob : cfg.closeOnBackpressure = true)
    (hi : Inv s) : Good cfg (doSend cfg s p a).1 := by
  obtain ⟨hcons, hpre⟩ := hi
  -- the whole payload queued behind what is there, whatever the bookkeeping of a refused write
  have hpush : ¬s.closed = true → ∀ x : St, x.wire = s.wire → x.wq = s.wq → x.acceptedRev = p :: s.acceptedRev →
      Conserved { x with wq := x.wq ++ [p] } := fun hc x hw hq ha =>
    conserved_accept (hcons (eq_false_of_ne_true hc)) ha (by simp [St.wire] at hw ⊢; simp [hw, hq])
  fun_cases doSend cfg s p a
  case case1 _ hc => -- closed: the command is dropped
    exact ⟨⟨fun h => (nomatch h.symm.trans hc), prefix_accept (l := [p]) hpre (by rfl) (by rfl)⟩,
      fun _ h => nomatch h.symm.trans hc⟩
  case case2 _ hc _ => -- TLS handshake in progress: queue, never write
    exact ui_good cfg _ (inv_of_conserved (hpush hc _ (by rfl) (by rfl) (by rfl)))
  case case3 s' hc _ hq _ n _ s1 _ _ => -- short direct write: the unsent tail goes to the (empty) queue
    have hq : s.wq = [] := List.isEmpty_iff.mp hq
    exact ui_good cfg _ (inv_of_conserved (conserved_accept (hcons (eq_false_of_ne_true hc)) (by rfl)
      (by simp [St.wire, noteWrite_flat, hq, s1, s'])))
  case case4 s' hc _ hq _ n _ s1 hn => -- whole payload written
    have hq : s.wq = [] := List.isEmpty_iff.mp hq
    have hn' : p.take n = p := List.take_of_length_le (by omega)
    exact ⟨inv_of_conserved (conserved_accept (hcons (eq_false_of_ne_true hc)) (by rfl)
      (by simp [St.wire, noteWrite_flat, hq, hn', s1, s'])), fun _ _ hne => absurd hq hne⟩
  case case5 _ hc _ _ _ _ _ _ => -- direct write refused: queue
    exact enqueueTail_good cfg _ p hcob (hpush hc _ (by rfl) (by rfl) (by rfl))
  case case6 => exact cn_good cfg _ _ (prefix_accept (l := [p]) hpre (by rfl) (by rfl)) -- direct write failed: close
  case case7 _ hc _ _ => -- queue not empty: queue
    exact enqueueTail_good cfg _ p hcob (hpush hc _ (by rfl) (by rfl) (by rfl))

theorem writePending_good (cfg : Cfg) (s : St) (ws : List WAns) (hc : s.closed = false) (hi : Inv s) :
    Good cfg (writePending cfg s ws).1 := by
  have key : Conserved (s.drained (writeLoop (s.tls == .open) s.wq ws)) := by
    have h := hi.1 hc
    unfold Conserved St.wire St.accepted at *
    show ((writeLoop (s.tls == .open) s.wq ws).sentRev ++ s.wireRev).reverse.flatten ++
      (writeLoop (s.tls == .open) s.wq ws).wq.flatten = s.acceptedRev.reverse.flatten
    rw [flat_rev_append, List.append_assoc, writeLoop_conserves, h]
  exact writePending_cases (P := fun r => Good cfg r.1) cfg s ws (fun _ _ _ => ui_good cfg _ (inv_of_conserved key))
    (fun _ => cn_good cfg _ _ ⟨_, key⟩)

theorem fresh_good (cfg : Cfg) (s : St) (h : s.Fresh) : Good cfg s := by
  obtain ⟨h1, h2, h3, _, _, _⟩ := h
  refine ⟨inv_of_conserved ?_, fun _ _ hne => absurd h1 hne⟩
  simp [Conserved, St.wire, St.accepted, h1, h2, h3]

variable {cfg : Cfg} {s : St} {l : List Bytes} {r : R}

/-- `doSend` and `writePending` keep T1's invariant (close-on-backpressure policy) and establish T3's outright, as the mask change
and the close do: the re-arm half is never a hypothesis. The residual accept lengthens `accepted` of a closed session, where only
the prefix clause is left to keep. Every other action leaves alone what the two invariants read. -/
theorem Acts.good (hcob : cfg.closeOnBackpressure = true) (h : Acts cfg (WOp cfg) s l r) : Good cfg s → Good cfg r.1 := by
  induction h with
  | seq _ _ ih1 ih2 => exact fun hg => ih2 (ih1 hg)
  | close => exact fun hg => ⟨⟨nofun, hg.1.2⟩, fun _ => nofun⟩
  -- T3 proper: an issued MOD sets both bits to `needWrite`, which a non-empty queue forces (a skipped MOD is `nil`, not `interest`)
  | interest s => exact fun hg => ⟨hg.1, fun _ _ hq => ⟨needWrite_queued hq, needWrite_queued hq⟩⟩
  | wr h =>
    cases h with
    | send p a => exact fun hg => doSend_good cfg _ p a hcob hg.1
    | pend ws hc => exact fun hg => writePending_good cfg _ ws hc hg.1
    | residual _ hc =>
      exact fun hg => ⟨⟨fun h => Bool.noConfusion (h.symm.trans hc), prefix_accept hg.1.2 rfl rfl⟩,
        fun _ h => Bool.noConfusion (h.symm.trans hc)⟩
  | _ => exact id

theorem step_good (hcob : cfg.closeOnBackpressure = true) (i : In) (hg : Good cfg s) : Good cfg (step cfg s i).1 :=
  (step_acts cfg s i).good hcob hg

theorem run_good (hcob : cfg.closeOnBackpressure = true) (is : List In) (hg : Good cfg s) : Good cfg (run cfg s is).1 :=
  (run_acts cfg is s).good hcob hg

end Iora.Tcp
