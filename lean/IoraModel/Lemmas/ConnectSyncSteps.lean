import IoraModel.Lemmas.ConnectSyncEffect
/-! Every step of the C04 model (`Model/ConnectSync.lean`) is `Sound`, function by function in the order of `step`.  Each branch is one
call of `Inv.step`: it says where the events it appends come from (`Origin`) and how it moves the record of its caller (`Moved.hop_setC`,
`Moved.same_setC`), shows `CallerOK` for that record, frames every other caller (`CallerOK.frame`) and names the components it
moves; what it does not name, it leaves alone (the defaults of `Inv.step` and `frame`).  The fence, whose `notify_all` wakes every
parked caller whose record is still pending, goes caller by caller instead (`np_cases`). -/
namespace Iora.ConnectSync

theorem doCall_cancelled {s : State} (h : Inv s) (c : Nat) (hpc : (s.callers c).pc = .idle ∨ (s.callers c).pc = .finished)
    (hcan : (s.callers c).cancelled = true) :
    Sound s { s with
      callers := setC s.callers c { s.callers c with pc := .finished, wrapped := true }
      log := s.log ++ [.wrapRet c (.err .cancelled)] } (.call c true) := by
  obtain ⟨hatt, hh, hd⟩ := h.outside_of_idle hpc
  exact h.step ⟨[_], rfl, List.forall_mem_singleton.2 (.inl ⟨rfl, hpc, rfl, hcan⟩)⟩ (.hop_setC rfl (.outside hatt rfl))
    (CallerOK.setC ((h.caller c).move_outside hatt ⟨rfl, hd⟩ hh.symm) fun j hj =>
      (h.caller j).frame)

theorem doCall_starts {s : State} (h : Inv s) (c : Nat) (w : Bool) (hpc : (s.callers c).pc = .idle ∨ (s.callers c).pc = .finished) :
    Sound s { s with callers := setC s.callers c { s.callers c with pc := .start, wrapped := w, done := none } } (.call c w) := by
  obtain ⟨hatt, hh, hd⟩ := h.outside_of_idle hpc
  exact h.step silent (.hop_setC rfl (.outside hatt rfl) (keep := fun _ _ => .inr rfl))
    (CallerOK.setC ((h.caller c).move_outside hatt ⟨rfl, rfl⟩ hh.symm) fun j _ => (h.caller j).frame)

theorem doCall_sound {s : State} (h : Inv s) (c : Nat) (w : Bool) : Sound s (doCall s c w) (.call c w) := by
  unfold doCall
  dsimp only
  split
  · rename_i hpc
    split
    · rename_i hw; simp at hw; obtain ⟨rfl, hcan⟩ := hw; exact doCall_cancelled h c (Or.inl hpc) hcan
    · exact doCall_starts h c w (Or.inl hpc)
  · rename_i hpc
    split
    · rename_i hw; simp at hw; obtain ⟨rfl, hcan⟩ := hw; exact doCall_cancelled h c (Or.inr hpc) hcan
    · exact doCall_starts h c w (Or.inr hpc)
  · exact .refl h _

theorem doCancel_sound {s : State} (h : Inv s) (c : Nat) : Sound s (doCancel s c) (.cancel c) :=
  -- no field of `CallerOK` reads the token: the six fields of `h.caller c` are those of the new record as they stand
  h.step silent (.same_setC (by rfl) fun _ => rfl) (CallerOK.setC { h.caller c with } fun j _ => (h.caller j).frame)

theorem doEnter_sound {s : State} (h : Inv s) (c : Nat) : Sound s (doEnter s c) (.cEnter c) := by
  unfold doEnter
  split
  · rename_i hpc hl
    have hatt : att (s.callers c).pc = none := by rw [hpc]; rfl
    split
    · -- behind the fence the call returns at once, without the mutex
      rename_i hsd
      unfold ret
      exact h.step ⟨_, rfl, origin_retEvs rfl hatt nofun ⟨hsd, nofun⟩⟩ (.hop_setC hpc (.outside rfl (att_retPc _ _)))
        (CallerOK.setC ((h.caller c).move_outside hatt ⟨att_retPc _ _, rfl⟩ (by rw [hpc, holds_retPc]; rfl)) fun j hj =>
          (h.caller j).frame)
    · rename_i hsd
      exact h.step silent (.hop_setC hpc (.outside rfl rfl))
        (CallerOK.setC (.outside ⟨rfl, h.done_none (by simp [hpc])⟩ ⟨fun _ => rfl, fun _ => rfl⟩
            ((h.caller c).no_live_pend (by rw [hpc]; rfl))) fun j hj =>
          (h.caller j).frame (hlock := by simp [hl, hj.symm]))
        (S1 := .inr fun _ => by simpa using hsd)
  · exact .refl h _

theorem doConnect_sound {s : State} (h : Inv s) (c : Nat) : Sound s (doConnect s c) (.cConnect c) := by
  unfold doConnect
  split
  · rename_i hpc
    exact h.step ⟨[_], rfl, List.forall_mem_singleton.2 ⟨rfl, rfl, hpc, Nat.lt_succ_self _, by simp, by simp⟩⟩
        (.hop_setC hpc (.connect rfl (Nat.lt_succ_self _) (by simp)))
        (CallerOK.setC ((h.caller c).frame.repc (by rw [hpc]; exact ⟨rfl, rfl, rfl⟩) nofun (by rw [hpc]; exact nofun)) fun j hj =>
          (h.caller j).frame)
        (hn := Nat.le_succ _)
        (fifo := .snoc rfl (Nat.lt_succ_self _) fun sid hx hm => by cases hx; exact absurd (h.F_fclose _ hm) (Nat.lt_irrefl _))
  · exact .refl h _

theorem doRefuse_sound {s : State} (h : Inv s) (c : Nat) : Sound s (doRefuse s c) (.cRefuse c) := by
  unfold doRefuse
  split
  · rename_i hpc
    have hatt : att (s.callers c).pc = none := by rw [hpc]; rfl
    unfold ret
    exact h.step ⟨_, rfl, origin_retEvs rfl hatt nofun rfl⟩ (.hop_setC hpc (.outside rfl (att_retPc _ _)))
      (CallerOK.setC (.outside ⟨att_retPc _ _, rfl⟩ (by simp) ((h.caller c).no_live_pend (by rw [hpc]; rfl))) fun j hj =>
        (h.caller j).frame
          (hlock := by simp [(h.K c).1 (by simp [hpc, holds]), hj.symm]))
      (S1 := .inr fun h' => nomatch h')
  · exact .refl h _

theorem doRegister_sound {s : State} (h : Inv s) (c : Nat) : Sound s (doRegister s c) (.cRegister c) := by
  unfold doRegister
  split
  · rename_i sid hpc
    have hatt : att (s.callers c).pc = some sid := by simp [hpc, att]
    refine h.step ⟨[_], rfl, List.forall_mem_singleton.2 ⟨hpc, by simp⟩⟩
        (.hop_setC hpc (.register (by simp)) (keep := fun _ hd => nomatch (h.done_none (c := c) (by simp [hpc])).symm.trans hd))
        (CallerOK.setC ?_ fun j hj => ?_) (pend := .write rfl (.inr (by simp)))
    · have o := h.caller c
      constructor
      case K => have := o.K; rw [hpc] at this; exact this
      -- a live record of `c` other than the new one would have `c` waiting on it already, and `c` is at `connected`
      case P2 => have := o.P2; clear o; grind [setP, waiting]
      case P3 => simp [waiting, setP]
      case P4 => simp
      case P5 => simp [leaving]
      case W => simp
    · exact h.frame_own hatt hj rfl
  · exact .refl h _

theorem doPark_sound {s : State} (h : Inv s) (c : Nat) : Sound s (doPark s c) (.cPark c) := by
  unfold doPark
  split
  · rename_i sid hpc
    have hl : s.lock = some c := (h.K c).1 (by rw [hpc]; rfl)
    -- no lost wake-up at park time: `c` holds the mutex, so the fence is not up (`S1`)
    have hsd : s.shuttingDown = false := h.S1 (by rw [hl]; rfl)
    have hdn : (s.callers c).done = none := h.done_none (by simp [hpc])
    refine h.step silent (.hop_setC hpc .park) (CallerOK.setC ?_ fun j hj => ?_)
      (S1 := .inr fun h' => nomatch h')
    · have o := h.caller c
      constructor
      case K => simp [holds]
      case P2 => have := o.P2; rw [hpc] at this; exact this
      -- `c` waits on the same session as before, and `done` is not touched
      case P3 => have := o.P3; clear o; grind [waiting]
      case P4 => simp [hdn]
      case P5 => simp [leaving]
      case W => simp [hdn, hsd]
    · exact (h.caller j).frame (hlock := by simp [hl, hj.symm])
  · exact .refl h _

theorem afterWait_sound {s : State} (h : Inv s) (c sid : Nat) (a t : Bool) (hpc : (s.callers c).pc = .parked sid a) (hl : s.lock = none) :
    Sound s (afterWait s c sid) (.cWake c t) := by
  have hatt : att (s.callers c).pc = some sid := by rw [hpc]; rfl
  have hwt : waiting (s.callers c).pc = some sid := by rw [hpc]; rfl
  have o := h.caller c
  unfold afterWait ret
  dsimp only
  split
  · rename_i r hd
    have hr : RetOrigin s c (some sid) r := by
      obtain ⟨hp, ⟨rfl, hdl⟩ | ⟨rfl, hdl⟩⟩ := h.done_att hatt hd
      · exact ⟨rfl, hp, hd, hdl⟩
      · exact ⟨sid, rfl, hp, hd, hdl⟩
    refine h.step ⟨_, rfl, origin_retEvs rfl hatt nofun hr⟩
      (.hop_setC hpc (.returns (.inl ⟨_, rfl⟩) rfl))
      (CallerOK.setC (.outside ⟨att_retPc _ _, rfl⟩ (by simp [hl]) fun sid' p hp ho => ?_) fun j hj => (h.caller j).frame)
    exact eq_true_of_ne_false fun hab => nomatch (o.P2 sid' p hp ho hab).2.symm.trans hd
  · rename_i hdn
    have hp := h.P3 c sid hwt hdn
    simp only [hp]
    -- once the record of `sid` is marked, `c` leaves no live record behind
    have marked : ∀ sid' p, setP s.pend sid (some { owner := c, abandoned := true }) sid' = some p → p.owner = c →
        p.abandoned = true := by
      intro sid' p hp' ho
      by_cases hs : sid' = sid
      · subst hs; rw [setP_same] at hp'; cases hp'; rfl
      · rw [setP_other _ _ hs] at hp'
        exact eq_true_of_ne_false fun hab => hs (Option.some.inj ((o.P2 sid' p hp' ho hab).1.symm.trans hwt))
    split
    · rename_i hsd
      exact h.step ⟨_, rfl, origin_retEvs rfl hatt nofun ⟨hsd, fun _ e => Option.some.inj e ▸ ⟨hatt, .inl hdn⟩⟩⟩
        (.hop_setC hpc (.returns (.inl ⟨_, rfl⟩) rfl))
        (CallerOK.setC (.outside ⟨att_retPc _ _, rfl⟩ (by simp [hl]) marked) fun j hj =>
          h.frame_own hatt hj rfl)
        (pend := .write rfl (.inl ⟨_, hp, rfl⟩))
    · refine h.step silent (.hop_setC hpc .timeout) (CallerOK.setC ?_ fun j hj => h.frame_own hatt hj rfl)
        (pend := .write rfl (.inl ⟨_, hp, rfl⟩))
      constructor
      case K => have := o.K; rw [hpc] at this; exact this
      case P2 => exact fun sid' p hp' ho hab => nomatch (marked sid' p hp' ho).symm.trans hab
      case P3 => simp [waiting]
      case P4 => simp [hdn]
      case P5 => simp [leaving, setP]
      case W => simp

theorem doWake_sound {s : State} (h : Inv s) (c : Nat) (t : Bool) : Sound s (doWake s c t) (.cWake c t) := by
  unfold doWake
  split
  · rename_i sid a hpc hl
    split
    · exact afterWait_sound h c sid a t hpc hl
    · -- a spurious wake-up: nothing to wake up for
      rename_i hcond
      simp at hcond
      have o := (h.caller c).reparked (a' := false) hpc fun _ => ⟨by simpa using hcond.1.1, hcond.1.2⟩
      exact h.step silent (.hop_setC hpc .wake) (CallerOK.setC o.frame fun j _ => (h.caller j).frame)
  · exact .refl h _

theorem doClose_sound {s : State} (h : Inv s) (c : Nat) : Sound s (doClose s c) (.cClose c) := by
  unfold doClose
  split
  · rename_i sid hpc
    have hatt : att (s.callers c).pc = some sid := by simp [hpc, att]
    have hsid := h.F_att c sid hatt
    exact h.step ⟨[_], rfl, List.forall_mem_singleton.2 ⟨hpc, by simp⟩⟩ (.hop_setC hpc (.close (by simp)))
        (CallerOK.setC ((h.caller c).frame.repc (by rw [hpc]; exact ⟨rfl, rfl, rfl⟩) nofun (by rw [hpc]; exact nofun)) fun j hj =>
          (h.caller j).frame)
        (fifo := .snoc rfl hsid nofun)
  · exact .refl h _

theorem doRelock_sound {s : State} (h : Inv s) (c : Nat) : Sound s (doRelock s c) (.cRelock c) := by
  unfold doRelock
  split
  · rename_i sid hpc hl
    have hatt : att (s.callers c).pc = some sid := by simp [hpc, att]
    have hr : RetOrigin s c (some sid) (.err (if s.shuttingDown then .shuttingDown else .timeout)) := by
      split
      · exact ⟨‹_›, fun _ e => Option.some.inj e ▸ ⟨hatt, .inr hpc⟩⟩
      · exact ⟨sid, rfl, hpc⟩
    unfold ret
    exact h.step ⟨_, rfl, origin_retEvs rfl hatt nofun hr⟩
      (.hop_setC hpc (.returns (.inr rfl) rfl))
      (CallerOK.setC (.outside ⟨att_retPc _ _, rfl⟩ (by simp [hl]) ((h.caller c).no_live_pend (by rw [hpc]; rfl))) fun j hj =>
        (h.caller j).frame)
  · exact .refl h _

theorem doWLoop_returns {s : State} (h : Inv s) (c : Nat) (d : Bool) (r : Res)
    (hr : (d = true ∧ r = .err .timeout) ∨ (d = false ∧ r = .err .cancelled ∧ (s.callers c).cancelled = true))
    (hpc : (s.callers c).pc = .wloop) :
    Sound s { s with
      callers := setC s.callers c { s.callers c with pc := .finished }
      log := s.log ++ [.wrapRet c r] } (.wLoop c d) := by
  have hd := h.done_none (c := c) (by simp [hpc])
  refine h.step ⟨[_], rfl, List.forall_mem_singleton.2 ?_⟩ (.hop_setC hpc (.outside rfl rfl))
    (CallerOK.setC ((h.caller c).move_outside (by rw [hpc]; rfl) ⟨rfl, hd⟩ (by rw [hpc]; rfl)) fun j hj =>
      (h.caller j).frame)
  rcases hr with ⟨rfl, rfl⟩ | ⟨rfl, rfl, hcan⟩
  · exact .inr (.inr (.inl ⟨rfl, rfl⟩))
  · exact .inr (.inl ⟨rfl, hpc, rfl, hcan⟩)

theorem doWLoop_sound {s : State} (h : Inv s) (c : Nat) (d : Bool) : Sound s (doWLoop s c d) (.wLoop c d) := by
  unfold doWLoop
  dsimp only
  split
  · rename_i hpc
    split
    · rename_i hd; exact doWLoop_returns h c d _ (.inl ⟨hd, rfl⟩) hpc
    · rename_i hd
      split
      · rename_i hcan; exact doWLoop_returns h c d _ (.inr ⟨by simpa using hd, rfl, hcan⟩) hpc
      · exact h.step silent (.hop_setC hpc (.outside rfl rfl) (keep := fun _ _ => .inr rfl))
          (CallerOK.setC ((h.caller c).move_outside (by rw [hpc]; rfl) ⟨rfl, rfl⟩ (by rw [hpc]; rfl)) fun j _ => (h.caller j).frame)
  · exact .refl h _

/-- the engine closes session `sid` — known to it and not closed yet, or the session of the Connect it is executing — and fires
`onClose` for it: on a failing Connect, a Close command, a failure of the connection, the peer closing -/
theorem eng_closes {s : State} (h : Inv s) (st : Step) (sid : Nat) (f' : List Cmd) (hio : s.io = .idle)
    (he : (s.eng sid = .none ∧ sid < s.nextSid) ∨ s.eng sid = .connecting ∨ s.eng sid = .established)
    (fifo : FifoMoves s { s with fifo := f', eng := setE s.eng sid .closed, io := .closeCS sid } := by exact .same) :
    Sound s { s with fifo := f', eng := setE s.eng sid .closed, io := .closeCS sid } st :=
  have hne : s.eng sid ≠ .closed := by rcases he with ⟨he, -⟩ | he | he <;> simp [he]
  have hsid : sid < s.nextSid := he.elim (·.2) fun he => h.F_eng sid (by rcases he with he | he <;> simp [he])
  h.step silent (fun _ => .stays) (fun j => (h.caller j).frame (hio := .inr (by simp [hio])))
    (eng := .set rfl (by rcases he with ⟨he, -⟩ | he | he <;> rw [he] <;> rfl) (.inr hsid)) (fifo := fifo)
    (io := .inr (.inr { F_io := fun _ h' => by cases h'; exact hsid
                        H2 := fun _ h' => by cases h'; exact ⟨setE_same _ _ _, fun hc => hne (h.E3 sid hc)⟩ }))

/-- the engine drops a command without acting on it: a Connect for an id its table knows, a Close for a session that is not open -/
theorem doPop_ignored {s : State} (h : Inv s) (x : Cmd) (rest : List Cmd) (hio : s.io = .idle) (hf : s.fifo = x :: rest)
    (hx : ∀ sid, x = .connect sid → s.eng sid ≠ .none)
    (hy : ∀ sid, x = .close sid → s.eng sid ≠ .connecting ∧ s.eng sid ≠ .established) (b : Bool) :
    Sound s { s with fifo := rest } (.ioPop b) :=
  h.step silent (fun _ => .stays)
      (fun j => (h.caller j).frame (hio := .inr (by simp [hio])))
      (fifo := .pop hf hx fun c sid' hx' hm => by
        -- an ignored Close: its Connect was executed before it (`ORD`), so the session is already closed
        rcases h.Q3 c sid' (h.E2 c sid' hm) with h3 | h3
        · rw [hf] at h3
          rcases List.mem_cons.1 h3 with h4 | h4
          · rw [hx'] at h4; cases h4
          · exact absurd h4 (h.ORD [] rest sid' (by rw [hf, hx']; rfl))
        · have := hy sid' hx'
          cases he : s.eng sid' <;> simp_all)

theorem doPop_sound {s : State} (h : Inv s) (b : Bool) : Sound s (doPop s b) (.ioPop b) := by
  unfold doPop
  split
  · rename_i sid rest hio hf
    have hsid := h.F_fconn sid (by simp [hf])
    split
    · rename_i he
      split
      · exact h.step silent (fun _ => .stays) (fun j => (h.caller j).frame (hio := .inr (by simp [hio])))
          (eng := .set rfl (by rw [he]; rfl) (.inr hsid)) (fifo := .pop hf (fun _ e => by cases e; simp) nofun)
          (io := .inr (.inl hio))
      · exact eng_closes h _ sid rest hio (.inl ⟨he, hsid⟩) (.pop hf (fun _ e => by cases e; simp) nofun)
    · rename_i hne
      exact doPop_ignored h _ rest hio hf (by intro sid' hx; cases hx; intro he; exact hne he) (by intro sid' hx; cases hx) b
  · rename_i sid rest hio hf
    have closes he := eng_closes h (.ioPop b) sid rest hio (.inr he) (.pop hf nofun fun _ _ e _ => by cases e; exact setE_same _ _ _)
    split
    · rename_i he; exact closes (.inl he)
    · rename_i he; exact closes (.inr he)
    · rename_i hne1 hne2
      exact doPop_ignored h _ rest hio hf (by intro sid' hx; cases hx) (by intro sid' hx; cases hx; exact ⟨hne1, hne2⟩) b
  · exact .refl h _

theorem doComplete_sound {s : State} (h : Inv s) (sid : Nat) : Sound s (doComplete s sid) (.ioComplete sid) := by
  unfold doComplete
  split
  · rename_i hio he
    exact h.step silent (fun _ => .stays)
        (fun j => (h.caller j).frame (hio := .inr (by simp [hio])))
        (eng := .set rfl (by rw [he]; rfl) (.inl (by simp [he])))
        (io := .inr (.inr { F_io := fun _ h' => by cases h'; exact h.F_eng sid (by simp [he])
                            H1 := fun _ h' => by
                              cases h'
                              exact ⟨setE_same _ _ _, fun hc => by rcases h.E5 sid hc with h' | h' <;> exact nomatch he.symm.trans h'⟩ }))
  · exact .refl h _

/-- `ioFail` and `timerClose` are both `doFail`: hence any label `st` -/
theorem doFail_sound {s : State} (h : Inv s) (st : Step) (sid : Nat) : Sound s (doFail s sid) st := by
  unfold doFail
  split
  · rename_i hio he; exact eng_closes h st sid s.fifo hio (.inr (.inl he))
  · exact .refl h _

theorem doPeerClose_sound {s : State} (h : Inv s) (sid : Nat) : Sound s (doPeerClose s sid) (.ioPeerClose sid) := by
  unfold doPeerClose
  split
  · rename_i hio he; exact eng_closes h _ sid s.fifo hio (.inr (.inr he))
  · exact .refl h _

/-- With the mutex free, a session a connectSync created is registered (`REG`), so its record, once gone, was delivered or reaped
(`ACC`): what both handlers know when they find no record. -/
theorem Inv.free_gone {s : State} (h : Inv s) (hl : s.lock = none) {c sid : Nat} (hc : Ev.created c sid ∈ s.log)
    (hp : s.pend sid = none) : Ev.delivered sid true ∈ s.log ∨ Ev.delivered sid false ∈ s.log ∨ Ev.reaped sid ∈ s.log :=
  (h.ACC c sid ((h.REG c sid hc).resolve_right (h.free_not_connected hl c sid))).resolve_left (· hp)

theorem connHandler_sound {s : State} (h : Inv s) (sid : Nat) (hio : s.io = .connCS sid) (hl : s.lock = none) :
    Sound s (connHandler s sid) .ioStep := by
  have hsid := h.F_connCS sid hio
  unfold connHandler
  split
  · rename_i p hp
    obtain ⟨o, ab⟩ := p
    split
    · -- an abandoned record is left for `onClose` to reap
      exact h.step ⟨[_], rfl, List.forall_mem_singleton.2 ⟨hio, hl, nofun⟩⟩ (fun _ => .stays)
        (fun j => (h.caller j).frame (hio := .inr (by simp [hio]))) (io := .inr (.inl rfl))
    · -- the owner is parked on the record, and is handed `ok sid`
      rename_i hab; simp at hab; subst hab
      have w := h.P2 sid _ hp rfl
      obtain ⟨a, hpc⟩ := h.free_waiting_parked hl w.1
      exact h.step
        ⟨[_, _], rfl, List.forall_mem_cons.2 ⟨⟨hio, hl, nofun⟩, List.forall_mem_singleton.2 ⟨rfl, by simp, o, hp, by simp⟩⟩⟩
        (.same_setC (by rfl) (keep := fun _ hd => nomatch w.2.symm.trans hd))
        (CallerOK.setC ((h.caller o).handed hpc (by simp) (.inl ⟨rfl, rfl⟩) (.inl rfl)) fun j hj =>
          (h.caller j).frame_erase (.inl fun ha => hj (h.att_owner hp ha)) rfl (by simp [hio]))
        (io := .inr (.inr { F_io := by simp [ioSid]; exact hsid })) (pend := .erase rfl (by simp))
  · rename_i hp
    -- the record of a session a connectSync created cannot be gone yet (`free_gone`): the handler that delivered or reaped it would
    -- have had to run before this one
    have g1 : ∀ c, Ev.created c sid ∉ s.log ++ [Ev.hConnect sid] := fun c hc => by
      obtain ⟨hest, hnot⟩ := h.H1 sid hio
      rcases h.free_gone hl (c := c) (by simpa using hc) hp with x | x | x
      · exact hnot ((h.D1 sid).1 x)
      · exact nomatch hest.symm.trans (h.E3 sid ((h.D1 sid).2.1 x))
      · exact nomatch hest.symm.trans (h.E3 sid ((h.D1 sid).2.2 x))
    exact h.step ⟨[_], rfl, List.forall_mem_singleton.2 ⟨hio, hl, nofun⟩⟩ (fun _ => .stays)
      (fun j => (h.caller j).frame (hio := .inr (by simp [hio])))
      (io := .inr (.inr { F_io := by simp [ioSid]; exact hsid, G1 := fun _ h' => by cases h'; exact g1 }))

theorem closeHandler_sound {s : State} (h : Inv s) (sid : Nat) (hio : s.io = .closeCS sid) (hl : s.lock = none) :
    Sound s (closeHandler s sid) .ioStep := by
  have hsid := h.F_closeCS sid hio
  unfold closeHandler
  split
  · rename_i p hp
    obtain ⟨o, ab⟩ := p
    split
    · rename_i hab; simp at hab; subst hab
      refine h.step ⟨[_, _], rfl, List.forall_mem_cons.2 ⟨⟨hio, hl, nofun⟩, List.forall_mem_singleton.2 ⟨hio, by simp⟩⟩⟩
        (fun _ => .stays) (fun j => ?_)
        (io := .inr (.inr { F_io := by simp [ioSid]; exact hsid })) (pend := .erase rfl (by simp))
      -- nobody waits on an abandoned record (its owner is between its timeout exit and its return, or has returned)
      refine (h.caller j).frame_erase (.inr ⟨fun hw => ?_, by simp⟩) rfl (by simp [hio])
      cases hd : (s.callers j).done with
      | none => exact nomatch (h.P3 j sid hw hd).symm.trans hp
      | some r =>
        obtain ⟨sid', a, hpc, hn, -⟩ := h.P4 j r hd
        rw [hpc] at hw
        cases hw
        exact nomatch hn.symm.trans hp
    · -- as in `connHandler_sound`: the owner is handed the engine's error
      rename_i hab; simp at hab; subst hab
      have w := h.P2 sid _ hp rfl
      obtain ⟨a, hpc⟩ := h.free_waiting_parked hl w.1
      exact h.step
        ⟨[_, _], rfl, List.forall_mem_cons.2 ⟨⟨hio, hl, nofun⟩, List.forall_mem_singleton.2 ⟨rfl, by simp, o, hp⟩⟩⟩
        (.same_setC (by rfl) (keep := fun _ hd => nomatch w.2.symm.trans hd))
        (CallerOK.setC ((h.caller o).handed hpc (by simp) (.inr ⟨rfl, rfl⟩) (.inr rfl)) fun j hj =>
          (h.caller j).frame_erase (.inl fun ha => hj (h.att_owner hp ha)) rfl (by simp [hio]))
        (io := .inr (.inr { F_io := by simp [ioSid]; exact hsid })) (pend := .erase rfl (by simp))
  · rename_i hp
    -- of the ways the record can be gone (`free_gone`) the `onConnect` handler delivering the session is left: this is the first
    -- `onClose` handler of the session
    have g2 : ∀ c, Ev.created c sid ∈ s.log ++ [Ev.hClose sid] → Ev.delivered sid true ∈ s.log ++ [Ev.hClose sid] := fun c hc => by
      have hnot := (h.H2 sid hio).2
      rcases h.free_gone hl (c := c) (by simpa using hc) hp with x | x | x
      · exact List.mem_append_left _ x
      · exact absurd ((h.D1 sid).2.1 x) hnot
      · exact absurd ((h.D1 sid).2.2 x) hnot
    exact h.step ⟨[_], rfl, List.forall_mem_singleton.2 ⟨hio, hl, nofun⟩⟩ (fun _ => .stays)
      (fun j => (h.caller j).frame (hio := .inr (by simp [hio])))
      (io := .inr (.inr { F_io := by simp [ioSid]; exact hsid, G2 := fun _ h' => by cases h'; exact g2 }))

/-- `op->cv.notify_one()` outside the lock, after either handler: `o` is woken if it is asleep on the op of `sid`.  Afterwards the I/O
thread owes nobody a notify: the one caller it owed one (`W`) is `o`, asleep on that op -/
theorem notify_sound {s : State} (h : Inv s) (o sid : Nat) (hio : s.io = .connNotify o sid ∨ s.io = .closeNotify o sid) :
    Sound s { notify s o sid with io := .idle } .ioStep := by
  have owed : ∀ {j sid'}, (s.callers j).pc = .parked sid' false → ((s.callers j).done ≠ none ∨ s.shuttingDown = true) →
      (s.callers o).pc = .parked sid false ∧ j = o := by
    intro j sid' hp hpred
    rcases h.W j sid' hp hpred with h1 | h1 <;> rcases hio with h2 | h2 <;> cases h2.symm.trans h1 <;> exact ⟨hp, rfl⟩
  -- only `W` reads `s.io`: the other fields of `h.caller j` are those for the state with the I/O thread idle as they stand
  have rest (j : Nat) (hj : (s.callers o).pc = .parked sid false → j ≠ o) : CallerOK { s with io := .idle } j (s.callers j) :=
    { h.caller j with W := fun _ hp hpred => absurd (owed hp hpred).2 (hj (owed hp hpred).1) }
  unfold notify
  split
  · rename_i sid' a hpc
    split
    · rename_i he; subst he
      exact h.step silent (.hop_setC hpc .wake)
        (CallerOK.setC { (h.caller o).reparked (a' := true) hpc nofun with W := nofun } fun j hj => (rest j fun _ => hj).frame)
        (io := .inr (.inl rfl))
    · rename_i hne
      exact h.step silent (fun _ => .stays) (fun j => rest j fun hp => by rw [hpc] at hp; cases hp; exact absurd rfl hne)
        (io := .inr (.inl rfl))
  · rename_i hnp
    exact h.step silent (fun _ => .stays) (fun j => rest j fun hp => absurd hp (hnp _ _)) (io := .inr (.inl rfl))

theorem doIoStep_sound {s : State} (h : Inv s) : Sound s (doIoStep s) .ioStep := by
  have global (e : Ev) (ho : ∀ s', Origin s s' .ioStep e) (hio : ∀ j sid, s.io ≠ .connNotify j sid ∧ s.io ≠ .closeNotify j sid) :
      Sound s { s with io := .idle, log := s.log ++ [e] } .ioStep :=
    h.step ⟨[_], rfl, List.forall_mem_singleton.2 (ho _)⟩ (fun _ => .stays) (fun j => (h.caller j).frame (hio := .inr (hio j)))
      (io := .inr (.inl rfl))
  unfold doIoStep
  split
  · rename_i sid hio hl; exact connHandler_sound h sid hio hl
  · rename_i sid hio hl; exact closeHandler_sound h sid hio hl
  · rename_i o sid hio; exact notify_sound h o sid (.inl hio)
  · rename_i o sid hio; exact notify_sound h o sid (.inr hio)
  · rename_i sid hio; exact global (.globalConnect sid) (fun _ => hio) (by simp [hio])
  · rename_i sid hio; exact global (.globalClose sid) (fun _ => hio) (by simp [hio])
  · exact .refl h _

theorem doFence_sound {s : State} (h : Inv s) : Sound s (doFence s) .fence := by
  unfold doFence
  split
  · rename_i hl
    refine h.step ⟨[_], rfl, List.forall_mem_singleton.2 rfl⟩ (fun j => ?_) (fun j => ?_) (hsd := fun _ => rfl)
      (S1 := .inr fun h' => by rw [hl] at h'; cases h')
    · show Moved _ _ _ j _ (notifyPending s j)
      rcases np_cases s j with ⟨e, -⟩ | ⟨sid, a, hpc, e⟩ <;> rw [e]
      · exact .stays
      · exact .mk (.inr (hpc ▸ .wake))
    · show CallerOK _ j (notifyPending s j)
      -- the log grows (`fr`); beside it the step raises the fence, which only `W` reads
      have fr {x : Caller} (o : CallerOK s j x) : CallerOK { s with log := s.log ++ [.fenceSet] } j x :=
        o.frame
      rcases np_cases s j with ⟨e, hown⟩ | ⟨sid, a, hpc, e⟩ <;> rw [e]
      · -- a caller still asleep after the fence's notify has no record of its own, so its completion is on its way
        exact { fr (h.caller j) with
          W := fun sid hp _ => h.W j sid hp (.inl fun hd => hown sid _ hp _ (h.P3 j sid (by rw [hp]; rfl) hd) rfl) }
      · exact { fr ((h.caller j).reparked (a' := true) hpc nofun) with W := nofun }
  · exact .refl h _

theorem step_sound {s : State} (h : Inv s) (st : Step) : Sound s (step s st) st := by
  cases st with
  | call c w => exact doCall_sound h c w
  | cancel c => exact doCancel_sound h c
  | cEnter c => exact doEnter_sound h c
  | cConnect c => exact doConnect_sound h c
  | cRefuse c => exact doRefuse_sound h c
  | cRegister c => exact doRegister_sound h c
  | cPark c => exact doPark_sound h c
  | cWake c t => exact doWake_sound h c t
  | cClose c => exact doClose_sound h c
  | cRelock c => exact doRelock_sound h c
  | wLoop c d => exact doWLoop_sound h c d
  | ioPop b => exact doPop_sound h b
  | ioComplete sid => exact doComplete_sound h sid
  | ioFail sid => exact doFail_sound h _ sid
  | ioPeerClose sid => exact doPeerClose_sound h sid
  | timerClose sid => exact doFail_sound h _ sid
  | ioStep => exact doIoStep_sound h
  | fence => exact doFence_sound h

theorem step_inv {s : State} (h : Inv s) (st : Step) : Inv (step s st) := (step_sound h st).inv

theorem step_effect {s : State} (h : Inv s) (st : Step) : Effect s (step s st) st := (step_sound h st).effect

theorem mem_step_log {s : State} (h : Inv s) {st : Step} {e : Ev} (he : e ∈ (step s st).log) :
    e ∈ s.log ∨ Origin s (step s st) st e :=
  (step_effect h st).mem he

theorem run_inv : ∀ (steps : List Step) (s : State), Inv s → Inv (run s steps) := by
  intro steps
  induction steps with
  | nil => intro s h; exact h
  | cons st rest ih => intro s h; exact ih _ (step_inv h st)

theorem reachable_inv (steps : List Step) : Inv (run init steps) := run_inv steps init Inv_init

end Iora.ConnectSync
