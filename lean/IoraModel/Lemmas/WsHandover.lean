import IoraModel.Model.WsHandover
import IoraModel.Lemmas.WsServer
/-! The hand-over invariant: under EVERY interleaving of the pool thread and the I/O thread whose reads, with `trailing`, fit the
hold buffer (`hfit`), what the WebSocket session has been fed so far is a segmentation of a prefix of `trailing ++ reads`, the rest
of it waits - in order - in the drain loop's hand and the session buffer, and nothing is fed before the 101 response. -/
namespace Iora.Ws

/-- `segs` = the reads the session has been fed so far. `early`: nothing is fed before the 101 response; `bytes`: fed, in the
drain loop's hand, and still queued make up `trailing ++ reads`, in order; `pend`: the hold (`_upgradePending`) lasts exactly until
the pool thread is done; `upg`: the mark is set from the first step on (what `hRead_inv` needs to route a released read);
`drained`: the hold is released only on an empty buffer. -/
structure HInv (max : Nat) (cb : Cbs) (total : Bytes) (segs : List Bytes) (h : Hand) (evs : List Ev) : Prop where
  evs_eq : evs = h.pc.pre ++ (run max cb {} (segs.map AppOp.data)).2
  sess_eq : h.pc ≠ .mark → h.pc ≠ .create → h.sess = (run max cb {} (segs.map AppOp.data)).1
  early : (h.pc = .mark ∨ h.pc = .create ∨ h.pc = .connect ∨ h.pc = .respond) → segs = []
  bytes : segs.flatten ++ h.pc.inflight ++ h.httpBuf = total
  pend : h.pending = true ↔ h.pc ≠ .done
  upg : h.pc ≠ .mark → h.upgraded = true
  drained : h.pc = .done → h.httpBuf = []

theorem HPc.late_not_early {p : HPc} (h : p = .drain ∨ p = .done ∨ ∃ d, p = .feed d) :
    ¬ (p = .mark ∨ p = .create ∨ p = .connect ∨ p = .respond) := by
  rcases h with rfl | rfl | ⟨d, rfl⟩ <;>
    exact fun h => h.elim HPc.noConfusion (fun h => h.elim HPc.noConfusion (fun h => h.elim HPc.noConfusion HPc.noConfusion))

theorem hInit_inv (max : Nat) (cb : Cbs) (trailing : Bytes) : HInv max cb trailing [] (hInit trailing) [] where
  evs_eq := by simp [hInit, HPc.pre, run]
  sess_eq := by intro h; simp [hInit] at h
  early := fun _ => rfl
  bytes := by simp [hInit, HPc.inflight]
  pend := by simp [hInit]
  upg := by intro h; simp [hInit] at h
  drained := by intro h; simp [hInit] at h

/-- A step of the pool thread from a `pc` other than `mark` and `done` to a `pc` other than `done` that leaves `pending` and
`upgraded` alone keeps `pend`, `upg` and `drained`; the four clauses that speak of the bytes are the caller's, the five side
conditions are closed by `HPc.noConfusion` and `rfl`. -/
theorem HInv.move {max : Nat} {cb : Cbs} {total : Bytes} {segs segs' : List Bytes} {h h' : Hand} {evs evs' : List Ev}
    (hi : HInv max cb total segs h evs)
    (evs_eq : evs' = h'.pc.pre ++ (run max cb {} (segs'.map AppOp.data)).2)
    (sess_eq : h'.pc ≠ .create → h'.sess = (run max cb {} (segs'.map AppOp.data)).1)
    (early : (h'.pc = .mark ∨ h'.pc = .create ∨ h'.pc = .connect ∨ h'.pc = .respond) → segs' = [])
    (bytes : segs'.flatten ++ h'.pc.inflight ++ h'.httpBuf = total)
    (hm : h.pc ≠ .mark := by exact HPc.noConfusion) (hd : h.pc ≠ .done := by exact HPc.noConfusion)
    (hd' : h'.pc ≠ .done := by exact HPc.noConfusion)
    (hp : h'.pending = h.pending := by rfl) (hu : h'.upgraded = h.upgraded := by rfl) : HInv max cb total segs' h' evs' where
  evs_eq := evs_eq
  sess_eq _ := sess_eq
  early := early
  bytes := bytes
  pend := ⟨fun _ => hd', fun _ => hp.trans (hi.pend.mpr hd)⟩
  upg _ := hu.trans (hi.upg hm)
  drained h := absurd h hd'

/-- only the `feed d` step extends `segs` (by `d`, through `run_snoc_data`); the other steps move `pc` and leave what has been
fed alone -/
theorem hWorker_inv (max : Nat) (cb : Cbs) (total : Bytes) (segs : List Bytes) (h : Hand) (evs : List Ev)
    (hi : HInv max cb total segs h evs) :
    ∃ segs', HInv max cb total segs' (hWorker max cb h).1 (evs ++ (hWorker max cb h).2) := by
  obtain ⟨pc, pending, upgraded, httpBuf, sess⟩ := h
  have he := hi.evs_eq
  have hb := hi.bytes
  cases pc with
  | mark =>
    cases hi.early (.inl rfl)
    show ∃ segs', HInv max cb total segs' ⟨.create, pending, true, httpBuf, sess⟩ (evs ++ [])
    exact ⟨[], {
      evs_eq := (List.append_nil _).trans he
      sess_eq := fun _ h => absurd rfl h
      early := fun _ => rfl
      bytes := hb
      pend := ⟨fun _ => HPc.noConfusion, fun _ => hi.pend.mpr HPc.noConfusion⟩
      upg := fun _ => rfl
      drained := HPc.noConfusion }⟩
  | create =>
    cases hi.early (.inr (.inl rfl))
    show ∃ segs', HInv max cb total segs' ⟨.connect, pending, upgraded, httpBuf, {}⟩ (evs ++ [])
    exact ⟨[], hi.move (evs_eq := (List.append_nil _).trans he) (sess_eq := fun _ => rfl) (early := fun _ => rfl) (bytes := hb)⟩
  | connect =>
    cases hi.early (.inr (.inr (.inl rfl)))
    cases he
    show ∃ segs', HInv max cb total segs' ⟨.respond, pending, upgraded, httpBuf, sess⟩ [.connected]
    exact ⟨[], hi.move (evs_eq := rfl) (sess_eq := fun _ => hi.sess_eq HPc.noConfusion HPc.noConfusion) (early := fun _ => rfl) (bytes := hb)⟩
  | respond =>
    cases hi.early (.inr (.inr (.inr rfl)))
    cases he
    show ∃ segs', HInv max cb total segs' ⟨.drain, pending, upgraded, httpBuf, sess⟩ [.connected, .upgraded]
    exact ⟨[], hi.move (evs_eq := rfl) (sess_eq := fun _ => hi.sess_eq HPc.noConfusion HPc.noConfusion) (early := fun _ => rfl) (bytes := hb)⟩
  | drain =>
    by_cases hem : httpBuf.isEmpty = true
    · cases List.isEmpty_iff.mp hem
      show ∃ segs', HInv max cb total segs' ⟨.done, false, upgraded, [], sess⟩ (evs ++ [])
      exact ⟨segs, {
        evs_eq := (List.append_nil _).trans he
        sess_eq := fun _ _ => hi.sess_eq HPc.noConfusion HPc.noConfusion
        early := fun h => absurd h (HPc.late_not_early (.inr (.inl rfl)))
        bytes := hb
        pend := ⟨Bool.noConfusion, fun h => absurd rfl h⟩
        upg := fun _ => hi.upg HPc.noConfusion
        drained := fun _ => rfl }⟩
    · have hw : hWorker max cb ⟨.drain, pending, upgraded, httpBuf, sess⟩ = (⟨.feed httpBuf, pending, upgraded, [], sess⟩, []) :=
        if_neg hem
      rw [hw]
      exact ⟨segs, hi.move (evs_eq := (List.append_nil _).trans he) (sess_eq := fun _ => hi.sess_eq HPc.noConfusion HPc.noConfusion)
        (early := fun h => absurd h (HPc.late_not_early (.inr (.inr ⟨_, rfl⟩)))) (bytes := by simpa [HPc.inflight] using hb)⟩
  | feed d =>
    have hs : sess = (run max cb {} (segs.map AppOp.data)).1 := hi.sess_eq HPc.noConfusion HPc.noConfusion
    exact ⟨segs ++ [d], hi.move (evs_eq := by subst he; simp only [hWorker, HPc.pre, run_snoc_data, hs, List.append_assoc])
      (sess_eq := fun _ => by simp only [hWorker, run_snoc_data, hs])
      (early := fun h => absurd h (HPc.late_not_early (.inl rfl)))
      (bytes := by simpa [hWorker, HPc.inflight] using hb)⟩
  | done =>
    exact ⟨segs, { hi with evs_eq := (List.append_nil _).trans he }⟩

theorem hRead_inv (maxBuf max : Nat) (cb : Cbs) (total : Bytes) (segs : List Bytes) (h : Hand) (evs : List Ev) (d : Bytes)
    (hi : HInv max cb total segs h evs) (hfit : (total ++ d).length ≤ maxBuf) :
    ∃ segs', HInv max cb (total ++ d) segs' (hRead maxBuf max cb h d).1 (evs ++ (hRead maxBuf max cb h d).2) := by
  obtain ⟨pc, pending, upgraded, httpBuf, sess⟩ := h
  have he := hi.evs_eq
  have hb := hi.bytes
  cases pending with
  | true =>
    -- held back: queued behind what is already waiting
    have hlen : ¬ (httpBuf.length + d.length > maxBuf) := by
      have : httpBuf.length ≤ total.length := by rw [← hb]; simp only [List.length_append]; omega
      simp only [List.length_append] at hfit
      omega
    have hw : hRead maxBuf max cb ⟨pc, true, upgraded, httpBuf, sess⟩ d = (⟨pc, true, upgraded, httpBuf ++ d, sess⟩, []) :=
      (if_pos rfl).trans (if_neg hlen)
    rw [hw]
    exact ⟨segs, {
      evs_eq := (List.append_nil _).trans he
      sess_eq := hi.sess_eq
      early := hi.early
      bytes := by rw [← hb]; exact (List.append_assoc _ _ _).symm
      pend := hi.pend
      upg := hi.upg
      drained := fun hdone => absurd hdone (hi.pend.mp rfl) }⟩
  | false =>
    -- the hold has been released: the pool thread is done, the buffer drained, reads go straight through
    have hdone : pc = .done := Decidable.byContradiction (fun hc => Bool.noConfusion (hi.pend.mpr hc))
    subst hdone
    cases hi.upg HPc.noConfusion
    cases hi.drained rfl
    have hs : sess = (run max cb {} (segs.map AppOp.data)).1 := hi.sess_eq HPc.noConfusion HPc.noConfusion
    have hw : hRead maxBuf max cb ⟨.done, false, true, [], sess⟩ d =
        (⟨.done, false, true, [], (onData max cb sess d).1⟩, (onData max cb sess d).2) := rfl
    rw [hw]
    exact ⟨segs ++ [d], {
      evs_eq := by subst he; simp only [HPc.pre, run_snoc_data, hs, List.append_assoc]
      sess_eq := fun _ _ => by simp only [run_snoc_data, hs]
      early := fun h => absurd h (HPc.late_not_early (.inr (.inl rfl)))
      bytes := by rw [← hb]; simp [HPc.inflight]
      pend := hi.pend
      upg := fun _ => rfl
      drained := fun _ => rfl }⟩

theorem hRun_inv (maxBuf max : Nat) (cb : Cbs) : ∀ (sched : List HStep) (total : Bytes) (segs : List Bytes) (h : Hand) (evs : List Ev),
    HInv max cb total segs h evs → (total ++ readsOf sched).length ≤ maxBuf →
    ∃ segs', HInv max cb (total ++ readsOf sched) segs' (hRun maxBuf max cb h sched).1 (evs ++ (hRun maxBuf max cb h sched).2) := by
  intro sched
  induction sched with
  | nil => intro total segs h evs hi _; exact ⟨segs, by simpa [hRun, readsOf] using hi⟩
  | cons st rest ih =>
    intro total segs h evs hi hfit
    cases st with
    | worker =>
      obtain ⟨segs1, h1⟩ := hWorker_inv max cb total segs h evs hi
      obtain ⟨segs2, h2⟩ := ih total segs1 _ _ h1 (by simpa [readsOf] using hfit)
      exact ⟨segs2, by simpa [hRun, hStep, readsOf, List.append_assoc] using h2⟩
    | read d =>
      have hfit1 : (total ++ d).length ≤ maxBuf := by
        simp only [readsOf, List.length_append] at hfit ⊢
        omega
      obtain ⟨segs1, h1⟩ := hRead_inv maxBuf max cb total segs h evs d hi hfit1
      obtain ⟨segs2, h2⟩ := ih (total ++ d) segs1 _ _ h1 (by simpa [readsOf, List.append_assoc] using hfit)
      exact ⟨segs2, by simpa [hRun, hStep, readsOf, List.append_assoc] using h2⟩

theorem HInv.finished {max : Nat} {cb : Cbs} {total : Bytes} {segs : List Bytes} {h : Hand} {evs : List Ev}
    (hi : HInv max cb total segs h evs) (hd : h.pc = .done) :
    segs.flatten = total ∧ h.sess = (run max cb {} (segs.map AppOp.data)).1 := by
  have hb := hi.bytes
  rw [hd, hi.drained hd] at hb
  exact ⟨by simpa [HPc.inflight] using hb, hi.sess_eq (by rw [hd]; exact HPc.noConfusion) (by rw [hd]; exact HPc.noConfusion)⟩

theorem upgradeDecision_accept_iff (u c k v : Bytes) :
    upgradeDecision u c k v = .accept ↔
      (lowerB u = tokWebsocket ∧ containsSub (lowerB c) tokUpgrade = true ∧ k ≠ [] ∧ v = tok13) := by
  unfold upgradeDecision
  -- the checks in the order of the source: a later one is looked at only when the earlier ones passed
  by_cases h1 : lowerB u = tokWebsocket
  · by_cases h2 : containsSub (lowerB c) tokUpgrade = true
    · cases k with
      | nil => simp [h1, h2]
      | cons a t => by_cases h4 : v = tok13 <;> simp [h1, h2, h4]
    · simp [h1, h2]
  · simp [h1]

end Iora.Ws
