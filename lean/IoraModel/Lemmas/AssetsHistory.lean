import IoraModel.Lemmas.AssetsRace
/-!
C20: histories.  Lookups, reloads and arbitrary changes of the file system by the environment, in any order; every lookup sees
one snapshot per system call (`Snaps`), constrained only by `LeafOnly` (see `Lemmas/AssetsPhases.lean`).  Each lookup of a history is
one thread of `Lemmas/AssetsRace.lean` running alone from a free mutex (R1), so what R5 says of every schedule holds of it.
-/
namespace Iora.Assets
open Iora

inductive Op where
  /-- `getStatic(name)`; `sn` are the snapshots its system calls see; afterwards the file system is `sn.z` -/
  | static (name : Bytes) (sn : Snaps)
  /-- `getTemplate(name)` -/
  | template (name : Bytes) (sn : Snaps)
  | reload
  /-- the environment replaces the file system by an arbitrary other one (between lookups) -/
  | env (fs' : Fs)

inductive Out where
  | static (r : Res)
  | template (r : Option Bytes)
  | none

/-- current file system, the `Assets` value, and every file system that was current at an open of some lookup so far -/
structure HState where
  fs : Fs
  a : Assets
  seen : List Fs

def hstep (s : HState) : Op → HState × Out
  | .static n sn => let (r, a') := getStaticAt sn s.a n; ({ fs := sn.z, a := a', seen := sn.o :: sn.z :: s.seen }, .static r)
  | .template n sn => let (r, a') := getTemplateAt sn s.a n; ({ fs := sn.z, a := a', seen := sn.o :: sn.z :: s.seen }, .template r)
  | .reload => ({ s with a := reload s.a }, .none)
  | .env fs' => ({ s with fs := fs' }, .none)

/-- outputs of a history, each with the file systems seen up to and including that step -/
def hrun : HState → List Op → List (Out × List Fs)
  | _, [] => []
  | s, op :: ops => ((hstep s op).2, (hstep s op).1.seen) :: hrun (hstep s op).1 ops

/-- the only constraint on a history: every lookup's snapshots, also for a name the filter refuses, are `LeafOnly` (roots `bnS`, `bnT`) -/
def OpOK (bnS bnT : List Name) : Op → Prop
  | .static n sn => LeafOnly sn (pathAppend (renderAbs bnS) n) bnS
  | .template n sn => LeafOnly sn (pathAppend (renderAbs bnT) n) bnT
  | _ => True

def Valid (bnS bnT : List Name) (ops : List Op) : Prop := ∀ op ∈ ops, OpOK bnS bnT op

/-- the invariant of filesystem mode: canonical roots, and only once-inside bytes in the two caches -/
def FsInv (bnS bnT : List Name) (s : HState) : Prop :=
  ∃ st, s.a = .filesystem st ∧ RootOK st.staticsRoot bnS ∧ RootOK st.templatesRoot bnT ∧
    (∀ k e, (k, e) ∈ st.staticCache → EntryGood (EverInside s.seen bnS) e) ∧
    (∀ k d, (k, d) ∈ st.templateCache → EverInside s.seen bnT d)

def OutGood (bnS bnT : List Name) : Out × List Fs → Prop
  | (.static (.found b), seen) => BlobGood (EverInside seen bnS) b
  | (.template (some d), seen) => EverInside seen bnT d
  | _ => True

theorem FsInv.mono {bnS bnT : List Name} {s s' : HState} (h : FsInv bnS bnT s) (ha : s'.a = s.a)
    (hs : ∀ fs ∈ s.seen, fs ∈ s'.seen) : FsInv bnS bnT s' := by
  obtain ⟨st, hst, hrS, hrT, hcS, hcT⟩ := h
  have hm : ∀ {bn d}, EverInside s.seen bn d → EverInside s'.seen bn d := fun ⟨f, hf, hi⟩ => ⟨f, hs f hf, hi⟩
  exact ⟨st, ha.trans hst, hrS, hrT, fun k e h => ⟨hm (hcS k e h).1, fun g hg => hm ((hcS k e h).2 g hg)⟩,
    fun k d h => hm (hcT k d h)⟩

open Iora.Assets.Race

theorem hstep_inv (bnS bnT : List Name) (s : HState) (op : Op) (hinv : FsInv bnS bnT s) (hv : OpOK bnS bnT op) :
    FsInv bnS bnT (hstep s op).1 ∧ OutGood bnS bnT ((hstep s op).2, (hstep s op).1.seen) := by
  -- the skeleton with every flag of `Shape.ok` up (there is no other with `ok`), written out: `ok` is `rfl`, and the histories
  -- rest on no generated fact about the locks
  let sh : Shape := ⟨⟨true, false, true, true, true⟩, ⟨true, false, true, true, true⟩, true, true, true⟩
  cases op with
  | reload =>
    obtain ⟨st, ha, hrS, hrT, _, _⟩ := hinv
    exact ⟨⟨{ st with staticCache := [], templateCache := [] }, by simp [hstep, ha, reload], hrS, hrT, nofun, nofun⟩, trivial⟩
  | env fs' => exact ⟨hinv.mono rfl fun _ h => h, trivial⟩
  | static n sn =>
    -- the lookup is looked at from the state that has already seen its two opens
    obtain ⟨st, ha, hrS, hrT, hcS, hcT⟩ :=
      hinv.mono (s' := { s with seen := sn.o :: sn.z :: s.seen }) rfl fun _ h => by simp [h]
    simp only [OpOK] at hv
    simp only [hstep, getStaticAt, show s.a = .filesystem st from ha]
    by_cases hn : lexicallyRejected n = true
    · simp only [hn, ↓reduceIte]
      exact ⟨⟨st, rfl, hrS, hrT, hcS, hcT⟩, trivial⟩
    · simp only [hn, Bool.false_eq_true, ↓reduceIte]
      have h := run_inside sh bnS bnT ⟨⟨st, none, false⟩, [⟨.static n, sn, .start⟩]⟩ (sn.o :: sn.z :: s.seen) hrS hrT hcS hcT
        (by simp) (by simp) (by simpa [ThreadOK, hrS.eq] using ⟨by simpa using hn, hv⟩) (List.replicate soloLen 0)
      rw [run_solo sh 0 soloLen _ _ rfl, solo_static sh rfl] at h
      obtain ⟨h1, h2, h3, hfr⟩ := h
      refine ⟨⟨_, rfl, hfr.1 ▸ hrS, hfr.2.1 ▸ hrT, h2, h3⟩, ?_⟩
      have h1 := h1 0 _ rfl _ rfl
      cases hr : (getStaticFilesystemAt sn st n).1 with
      | found b => rw [hr] at h1; exact h1
      | _ => trivial
  | template n sn =>
    obtain ⟨st, ha, hrS, hrT, hcS, hcT⟩ :=
      hinv.mono (s' := { s with seen := sn.o :: sn.z :: s.seen }) rfl fun _ h => by simp [h]
    simp only [OpOK] at hv
    simp only [hstep, getTemplateAt, show s.a = .filesystem st from ha]
    by_cases hn : lexicallyRejected n = true
    · simp only [hn, ↓reduceIte]
      exact ⟨⟨st, rfl, hrS, hrT, hcS, hcT⟩, trivial⟩
    · simp only [hn, Bool.false_eq_true, ↓reduceIte]
      have h := run_inside sh bnS bnT ⟨⟨st, none, false⟩, [⟨.template n, sn, .start⟩]⟩ (sn.o :: sn.z :: s.seen) hrS hrT hcS hcT
        (by simp) (by simp) (by simpa [ThreadOK, hrT.eq] using ⟨by simpa using hn, hv⟩) (List.replicate soloLen 0)
      rw [run_solo sh 0 soloLen _ _ rfl, solo_template sh rfl] at h
      obtain ⟨h1, h2, h3, hfr⟩ := h
      refine ⟨⟨_, rfl, hfr.1 ▸ hrS, hfr.2.1 ▸ hrT, h2, h3⟩, ?_⟩
      have h1 := h1 0 _ rfl _ rfl
      cases hr : (getTemplateFilesystemAt sn st n).1 with
      | some d => rw [hr] at h1; exact h1
      | none => trivial

theorem history_good (bnS bnT : List Name) : ∀ (ops : List Op) (s : HState), FsInv bnS bnT s → Valid bnS bnT ops →
    ∀ o ∈ hrun s ops, OutGood bnS bnT o := by
  intro ops
  induction ops with
  | nil => intro s _ _ o ho; simp [hrun] at ho
  | cons op ops ih =>
    intro s hinv hv o ho
    obtain ⟨hinv', hout⟩ := hstep_inv bnS bnT s op hinv (hv op (by simp))
    simp only [hrun, List.mem_cons] at ho
    rcases ho with ho | ho
    · subst ho; exact hout
    · exact ih _ hinv' (fun op' h' => hv op' (by simp [h'])) o ho

end Iora.Assets
