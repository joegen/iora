import IoraModel.Lemmas.TimerCollect
/-!
The steps of `Model/TimerService.lean` (property C08); containers and collect loop are `Lemmas/TimerCollect.lean`, the heap `Lemmas/TimerHeap.lean`.

`step` is read as the relation `Eff` (`step_eff`), and every lemma about what a step keeps is a case analysis of `Eff`.  The statements about every
continuation rest on one observation: a handler starts only as the head of `ready` with its guard open (`Eff.starts`), so from a state
of a kind that is closed under steps and has no such handler (of the id) nothing (of the id) starts any more (`trace_started`).
-/
namespace Iora.Tsvc

/-- invariant of the state alone: the containers (`Core`), the count of handlers collected and not finished, and how the lifecycle
flags of the loop thread (`exiting`, `exited`), of `stop()` (`running`, `spc`) and `life`/`accepting` hang together -/
structure Wf (s : Svc) : Prop where
  core : Core s.nextId s.records s.periodic s.heap
  /-- `_executingCallbacks` = handlers collected and not finished -/
  acct : s.executing = s.ready.length + s.inflight.toList.length
  ex1 : s.exited = true → s.exiting = true ∧ s.ready = [] ∧ s.inflight = none
  ex2 : s.exiting = true → s.running = false
  st1 : s.life = .stopped → s.accepting = false ∧ s.exited = true
  run1 : s.running = false → (s.spc = .halted ∨ s.spc = .done)
  sp1 : s.spc = .done → s.life = .stopped

theorem Wf.init : Wf {} :=
  ⟨Core.init, rfl, by simp, by simp, by simp, by simp, by simp⟩

theorem Wf.idle {s : Svc} (w : Wf s) : s.executing = 0 ↔ s.ready = [] ∧ s.inflight = none := by
  rw [w.acct]
  cases s.inflight <;> cases s.ready <;> simp

theorem markCanceled_marks (id : Nat) : Marks (markCanceled id) := by
  intro r
  unfold markCanceled
  split
  · exact Or.inr rfl
  · exact Or.inl rfl

theorem markCanceled_hit (id : Nat) (rs : List Rec) : ∀ r ∈ rs.map (markCanceled id), r.id = id → r.canceled = true := by
  intro r hr hid
  obtain ⟨r0, _, rfl⟩ := List.mem_map.mp hr
  rw [((markCanceled_marks id).fields r0).1] at hid
  unfold markCanceled
  cases hc : r0.canceled <;> simp [hid, hc]

theorem sweep_marks (now t : Int) : Marks (fun r => if !r.canceled && r.tp > now + t then { r with canceled := true } else r) := by
  intro r
  dsimp only
  split
  · exact Or.inr rfl
  · exact Or.inl rfl

theorem cancel_none {s : Svc} {id : Nat} (hp : findPer s.periodic id = none) :
    ∃ b, cancel s id = ({ s with records := s.records.map (markCanceled id) }, b) ∧
      (b = true ↔ ∃ rc, findRec s.records id = some rc ∧ rc.canceled = false) := by
  simp only [cancel, cancelWith, hp]
  cases findRec s.records id with
  | none => exact ⟨false, rfl, by simp⟩
  | some rc => exact ⟨!rc.canceled, rfl, by simp⟩

/-- `cancel(id)` of a periodic timer: the entry goes, the invocation guard is closed (whether or not a `drain` sweep had marked the
entry before: `Gen.Timer.svcCancelClosesGuardAlways`, read from the source), the answer is `true` -/
theorem cancel_some {s : Svc} {id : Nat} {pt : Per} (hp : findPer s.periodic id = some pt) :
    cancel s id = ({ s with records := s.records.map (markCanceled id), periodic := erasePer s.periodic id, closed := id :: s.closed }, true) := by
  have hg : Gen.Timer.svcCancelClosesGuardAlways = true := rfl
  simp only [cancel, cancelWith, hp, hg, Bool.true_or, if_true]

theorem scheduleAt_id (L : Limits) (s : Svc) (now tp : Int) (h : (scheduleAt L s now tp).2 ≠ 0) :
    (scheduleAt L s now tp).2 = s.nextId + 1 ∧ (scheduleAt L s now tp).1.nextId = s.nextId + 1 := by
  unfold scheduleAt at h ⊢
  by_cases h1 : (!s.accepting) = true
  · simp [h1] at h
  · by_cases h2 : tp - now > L.maxTimeoutNs
    · simp [h2] at h
    · by_cases h3 : s.records.length ≥ L.maxTimers
      · simp [h3] at h
      · simp [h1, h2, h3]

theorem runFrom_ind {L : Limits} (I : Svc → Hist → Prop) (ok : Op → Prop)
    (hstep : ∀ s h op, ok op → I s h → I (step L s op).1 (h ++ [(op, (step L s op).2)])) :
    ∀ (ops : List Op) (s : Svc) (h : Hist), (∀ op ∈ ops, ok op) → I s h → I (runFrom L s h ops).1 (runFrom L s h ops).2
  | [], _, _, _, hI => hI
  | op :: ops, s, h, hok, hI =>
    runFrom_ind I ok hstep ops _ _ (fun o ho => hok o (List.mem_cons_of_mem _ ho)) (hstep s h op (hok op List.mem_cons_self) hI)

def Op.idleOut : Op → Out
  | .schedAt _ _ | .schedPer _ _ => .id 0
  | .collect _ _ => .collected [] []
  | .hstart => .start .none
  | .drainGate | .drainDone | .stopFinish => .bool false
  | _ => .none

/-- the steps that change at most lifecycle fields, with the guard under which they do -/
inductive Ctl (s : Svc) : Op → Svc → Out → Prop
  | idle (op : Op) : Ctl s op s op.idleOut
  | loopExit (hx : s.exiting = true) (hr : s.ready = []) (hi : s.inflight = none) : Ctl s .loopExit { s with exited := true } .none
  | drainGate (hl : s.life = .running) (hd : s.dpc = .idle) :
      Ctl s .drainGate { s with life := .draining, accepting := false, dpc := .gated } (.bool true)
  | sweep0 (now t : Int) (hd : s.dpc = .gated) (ht : ¬ t > 0) : Ctl s (.drainSweep now t) { s with dpc := .waiting } .none
  | drainDone (hd : s.dpc = .waiting) (hp : drainPred s = true) : Ctl s .drainDone { s with dpc := .idle } (.bool true)
  | drainTimeout (hd : s.dpc = .waiting) (hp : drainPred s = false) : Ctl s .drainTimeout { s with dpc := .timedOut } .none
  | restore (hd : s.dpc = .timedOut) (hl : s.life = .draining) :
      Ctl s .drainRestore { s with life := .running, accepting := true, dpc := .idle } .none
  | unwind (hd : s.dpc = .timedOut) (hl : s.life ≠ .draining) : Ctl s .drainRestore { s with dpc := .idle } .none
  | stopFlag (hp : s.spc = .idle) (hl : s.life ≠ .stopped) : Ctl s .stopFlag { s with accepting := false, spc := .flagged } .none
  | stopHalt (hp : s.spc = .flagged) : Ctl s .stopHalt { s with running := false, spc := .halted } .none
  | stopFinish (hp : s.spc = .halted) (hx : s.exited = true) :
      Ctl s .stopFinish { s with accepting := false, life := .stopped, spc := .done } (.bool true)

/-- `step` as a relation: what a step does when its guard holds.  Of the tests of `schedule*` only `accepting` is kept (a step refused
for a limit is `Ctl.idle` like any other) and of those of `collect` the one on `exiting` is dropped, so `Eff` allows more than `step`
does and reads neither the limits nor the `now` of `schedAt` -/
inductive Eff (s : Svc) : Op → Svc → Out → Prop
  | ctl {op s' out} (h : Ctl s op s' out) : Eff s op s' out
  | schedAt (now tp : Int) (ha : s.accepting = true) :
      Eff s (.schedAt now tp)
        { s with nextId := s.nextId + 1, records := s.records ++ [⟨s.nextId + 1, tp, false, false, 0, tp, 0⟩],
                 heap := heapPush s.heap ⟨tp, s.nextId + 1⟩ } (.id (s.nextId + 1))
  | schedPer (now iv : Int) (ha : s.accepting = true) :
      Eff s (.schedPer now iv)
        { s with nextId := s.nextId + 1, periodic := s.periodic ++ [⟨s.nextId + 1, iv, now + iv, false⟩],
                 records := s.records ++ [⟨s.nextId + 1, now + iv, false, true, 1, now, iv⟩],
                 heap := heapPush s.heap ⟨now + iv, s.nextId + 1⟩ } (.id (s.nextId + 1))
  | cancelRec (id : Nat) (b : Bool) (hp : findPer s.periodic id = none)
      (hb : b = true ↔ ∃ rc, findRec s.records id = some rc ∧ rc.canceled = false) :
      Eff s (.cancel id) { s with records := s.records.map (markCanceled id) } (.bool b)
  | cancelPer (id : Nat) (pt : Per) (hp : findPer s.periodic id = some pt) :
      Eff s (.cancel id) { s with records := s.records.map (markCanceled id), periodic := erasePer s.periodic id, closed := id :: s.closed }
        (.bool true)
  | collect (now : Int) (ax : Bool) (hx : s.exited = false) (hr : s.ready = []) (hi : s.inflight = none) (hax : ax = true → s.running = false)
      (c : CL) (hc : c = collectLoop now collectFuel { records := s.records, periodic := s.periodic, heap := s.heap }) :
      Eff s (.collect now ax)
        { s with records := c.records, periodic := c.periodic, heap := c.heap, ready := c.out, executing := s.executing + c.out.length,
                 exiting := ax }
        (.collected c.out c.dropped)
  | skip (e : Hnd) (rest : List Hnd) (hi : s.inflight = none) (hr : s.ready = e :: rest)
      (hg : e.guarded = true ∧ s.closed.contains e.id = true) :
      Eff s .hstart { s with ready := rest, executing := s.executing - 1 } (.start (.skipped e))
  | start (e : Hnd) (rest : List Hnd) (hi : s.inflight = none) (hr : s.ready = e :: rest)
      (hg : ¬ (e.guarded = true ∧ s.closed.contains e.id = true)) :
      Eff s .hstart { s with ready := rest, inflight := some e } (.start (.started e))
  | hend (e : Hnd) (hi : s.inflight = some e) : Eff s .hend { s with inflight := none, executing := s.executing - 1 } .none
  | sweep (now t : Int) (hd : s.dpc = .gated) (ht : t > 0) :
      Eff s (.drainSweep now t)
        { s with records := s.records.map (fun r => if !r.canceled && r.tp > now + t then { r with canceled := true } else r),
                 periodic := s.periodic.map (fun p => { p with canceled := true }), dpc := .waiting } .none

theorem step_eff (L : Limits) (s : Svc) (op : Op) : Eff s op (step L s op).1 (step L s op).2 := by
  cases op with
  | schedAt now tp =>
    simp only [step, scheduleAt]
    split
    · exact .ctl (.idle _)
    · rename_i ha
      split
      · exact .ctl (.idle _)
      · split
        · exact .ctl (.idle _)
        · exact .schedAt now tp (by simpa using ha)
  | schedPer now iv =>
    simp only [step, schedulePeriodic]
    split
    · exact .ctl (.idle _)
    · rename_i ha
      split
      · exact .ctl (.idle _)
      · split
        · exact .ctl (.idle _)
        · split
          · exact .ctl (.idle _)
          · exact .schedPer now iv (by simpa using ha)
  | cancel id =>
    simp only [step]
    cases hp : findPer s.periodic id with
    | none =>
      obtain ⟨b, he, hb⟩ := cancel_none hp
      rw [he]; exact .cancelRec id b hp hb
    | some pt => rw [cancel_some hp]; exact .cancelPer id pt hp
  | collect now ax =>
    simp only [step, collect]
    split
    · exact .ctl (.idle _)
    · rename_i hg
      simp only [Bool.or_eq_true, not_or, Bool.not_eq_true, Bool.not_eq_true', Bool.and_eq_true, not_and] at hg
      obtain ⟨⟨⟨⟨hx, _⟩, hr⟩, hi⟩, hax⟩ := hg
      exact .collect now ax hx (by simpa using hr) (by simpa using hi) hax _ rfl
  | hstart =>
    simp only [step, hstart]
    split
    · exact .ctl (.idle _)
    · rename_i hi
      have hi : s.inflight = none := by simpa using hi
      split
      · exact .ctl (.idle _)
      · rename_i e rest hr
        split
        · rename_i hg
          exact .skip e rest hi hr (by simpa using hg)
        · rename_i hg
          exact .start e rest hi hr (by simpa using hg)
  | hend =>
    simp only [step, hend]
    split
    · exact .ctl (.idle _)
    · rename_i e hi; exact .hend e hi
  | loopExit =>
    simp only [step, loopExit]
    split
    · rename_i hg
      simp only [Bool.and_eq_true, List.isEmpty_iff, Option.isNone_iff_eq_none] at hg
      obtain ⟨⟨hx, hr⟩, hi⟩ := hg
      exact .ctl (.loopExit hx hr hi)
    · exact .ctl (.idle _)
  | drainGate =>
    simp only [step, drainGate]
    split
    · rename_i hg; exact .ctl (.drainGate hg.1 hg.2)
    · exact .ctl (.idle _)
  | drainSweep now t =>
    simp only [step, drainSweep]
    split
    · exact .ctl (.idle _)
    · rename_i hg
      split
      · rename_i ht; exact .sweep now t (by simpa using hg) ht
      · rename_i ht; exact .ctl (.sweep0 now t (by simpa using hg) ht)
  | drainDone =>
    simp only [step, drainDone]
    split
    · rename_i hg; exact .ctl (.drainDone hg.1 hg.2)
    · exact .ctl (.idle _)
  | drainTimeout =>
    simp only [step, drainTimeout]
    split
    · rename_i hg; exact .ctl (.drainTimeout hg.1 (by simpa using hg.2))
    · exact .ctl (.idle _)
  | drainRestore =>
    simp only [step, drainRestore]
    split
    · exact .ctl (.idle _)
    · rename_i hg
      split
      · rename_i hl; exact .ctl (.restore (by simpa using hg) hl)
      · rename_i hl; exact .ctl (.unwind (by simpa using hg) hl)
  | stopFlag =>
    simp only [step, stopFlag]
    split
    · rename_i hg; exact .ctl (.stopFlag hg.1 hg.2)
    · exact .ctl (.idle _)
  | stopHalt =>
    simp only [step, stopHalt]
    split
    · rename_i hg; exact .ctl (.stopHalt hg)
    · exact .ctl (.idle _)
  | stopFinish =>
    simp only [step, stopFinish]
    split
    · rename_i hg; exact .ctl (.stopFinish hg.1 hg.2)
    · exact .ctl (.idle _)

/-- what no `Ctl` step touches: the containers, `_nextId`, the closed guards and the handlers the loop thread holds -/
structure SameData (s s' : Svc) : Prop where
  nextId : s'.nextId = s.nextId
  records : s'.records = s.records
  periodic : s'.periodic = s.periodic
  heap : s'.heap = s.heap
  closed : s'.closed = s.closed
  ready : s'.ready = s.ready
  inflight : s'.inflight = s.inflight

theorem Ctl.data {s s' : Svc} {op : Op} {out : Out} (h : Ctl s op s' out) : SameData s s' := by
  cases h <;> exact ⟨rfl, rfl, rfl, rfl, rfl, rfl, rfl⟩

theorem collected_snoc (h : Hist) (x : Op × Out) : collected (h ++ [x]) = collected h ++ collectedOf x := by simp [collected]
theorem started_snoc (h : Hist) (x : Op × Out) : started (h ++ [x]) = started h ++ startedOf x := by simp [started]
theorem skipped_snoc (h : Hist) (x : Op × Out) : skipped (h ++ [x]) = skipped h ++ skippedOf x := by simp [skipped]
theorem reqOf_snoc (h : Hist) (x : Op × Out) : reqOf (h ++ [x]) = reqUpd (reqOf h) x := by simp [reqOf, List.foldl_append]
theorem issued1_snoc (h : Hist) (x : Op × Out) : issued1 (h ++ [x]) = issued1 h ++ issued1Of x := by simp [issued1]
theorem userCancelled_snoc (h : Hist) (x : Op × Out) : userCancelled (h ++ [x]) = userCancelled h ++ userCancelledOf x := by simp [userCancelled]

/-- a history entry that `collected`, `started`, `skipped`, `issued1` and `reqOf` do not see -/
structure Silent (x : Op × Out) : Prop where
  collected : collectedOf x = []
  started : startedOf x = []
  skipped : skippedOf x = []
  issued1 : issued1Of x = []
  req : ∀ d, reqUpd d x = d

theorem Ctl.silent {s s' : Svc} {op : Op} {out : Out} (h : Ctl s op s' out) : Silent (op, out) := by
  -- `reqUpd d` on the answer `.id 0` of a refused `schedule*`
  have id0 : ∀ d : Nat → Option (Int × Int), ∀ v, (fun i => if 0 ≠ 0 ∧ i = 0 then some v else d i) = d :=
    fun d v => funext fun i => by simp
  cases h with
  | idle op =>
    cases op with
    | schedAt now tp => exact ⟨rfl, rfl, rfl, rfl, fun d => id0 d (tp, 0)⟩
    | schedPer now iv => exact ⟨rfl, rfl, rfl, rfl, fun d => id0 d (now, iv)⟩
    | _ => exact ⟨rfl, rfl, rfl, rfl, fun _ => rfl⟩
  | _ => exact ⟨rfl, rfl, rfl, rfl, fun _ => rfl⟩

theorem Eff.starts {s s' : Svc} {op : Op} {out : Out} (e : Eff s op s' out) :
    ∀ x ∈ startedOf (op, out), x ∈ s.ready ∧ ¬ (x.guarded = true ∧ s.closed.contains x.id = true) := by
  cases e with
  | ctl hc => rw [hc.silent.started]; exact List.forall_mem_nil _
  | start e rest hi hr hg => intro x hx; cases List.mem_singleton.mp hx; exact ⟨hr ▸ List.mem_cons_self, hg⟩
  | _ => exact List.forall_mem_nil _

theorem trace_started {L : Limits} (I : Svc → Prop) (P : Hnd → Prop) (hstep : ∀ s op, I s → I (step L s op).1)
    (hrd : ∀ s, I s → ∀ e ∈ s.ready, ¬ (e.guarded = true ∧ s.closed.contains e.id = true) → P e) :
    ∀ (ops : List Op) (s : Svc), I s → ∀ e ∈ started (trace L s ops), P e
  | [], _, _, _, he => nomatch he
  | op :: ops, s, hI, e, he => by
    simp only [trace, started, List.flatMap_cons, List.mem_append] at he
    rcases he with he | he
    · exact hrd s hI e ((step_eff L s op).starts e he).1 ((step_eff L s op).starts e he).2
    · exact trace_started I P hstep hrd ops _ (hstep s op hI) e he

theorem trace_silent {L : Limits} (I : Svc → Prop) (hstep : ∀ s op, I s → I (step L s op).1) (hrd : ∀ s, I s → s.ready = [])
    (ops : List Op) (s : Svc) (hI : I s) : started (trace L s ops) = [] :=
  List.eq_nil_iff_forall_not_mem.mpr fun e he =>
    trace_started I (fun _ => False) hstep (fun s h e he' _ => by rw [hrd s h] at he'; cases he') ops s hI e he

structure HI (s : Svc) (h : Hist) : Prop where
  q : QInv s.nextId s.records s.periodic (collected h)
  /-- every collected invocation is exactly one of: started, skipped (guard closed), still waiting in `ready` -/
  perm : (started h ++ skipped h ++ s.ready).Perm (collected h)
  infl : ∀ e, s.inflight = some e → e ∈ started h
  req : ∀ r ∈ s.records, reqOf h r.id = some (r.t0, r.iv)

theorem HI.started_nodup {s : Svc} {h : Hist} (i : HI s h) : ((started h).map ekey).Nodup := by
  have h1 := (i.perm.map ekey).nodup_iff.mpr i.q.nodup
  simp only [List.map_append, List.append_assoc] at h1
  exact (List.nodup_append.mp h1).1

theorem HI.init : HI {} [] := ⟨QInv.nil _ _ _, by simp [started, skipped, collected], by simp, by simp⟩

/-- while a `drain()` is past its gate the service is neither Running nor accepting -/
def DrainBusy (s : Svc) : Prop := s.dpc ≠ .idle → s.life ≠ .running ∧ s.accepting = false

structure Inv (s : Svc) (h : Hist) : Prop where
  wf : Wf s
  hi : HI s h
  busy : DrainBusy s
  hok : HeapOk s.heap

theorem Inv.init : Inv {} [] := ⟨Wf.init, HI.init, fun h => absurd rfl h, HeapOk.nil⟩

theorem collect_spec {s : Svc} {h : Hist} (i : Inv s h) (now : Int) :
    CLInv now s.nextId s.records (collected h) (fun id t0 iv => reqOf h id = some (t0, iv))
      (collectLoop now collectFuel { records := s.records, periodic := s.periodic, heap := s.heap }) ∧
    ((collectLoop now collectFuel { records := s.records, periodic := s.periodic, heap := s.heap }).complete = true →
      ∀ x ∈ (collectLoop now collectFuel { records := s.records, periodic := s.periodic, heap := s.heap }).heap, now < x.tp) :=
  collectLoop_inv now s.nextId s.records (collected h) _ collectFuel _
    ⟨i.wf.core, by simpa using i.hi.q, List.forall_mem_nil _, fun r hr => Or.inl hr, i.hi.req, i.hok⟩

/-- a step that collects, starts and skips nothing and leaves `ready` alone (the handler in flight may end; `q`, `req` speak of the new
containers): what `HI` says about the handlers stays -/
theorem HI.still {s s' : Svc} {h : Hist} {x : Op × Out} (i : HI s h) (hc : collectedOf x = []) (hs : startedOf x = [])
    (hk : skippedOf x = []) (hr : s'.ready = s.ready) (hi : ∀ e, s'.inflight = some e → s.inflight = some e)
    (q : QInv s'.nextId s'.records s'.periodic (collected h)) (req : ∀ r ∈ s'.records, reqUpd (reqOf h) x r.id = some (r.t0, r.iv)) :
    HI s' (h ++ [x]) := by
  refine ⟨?_, ?_, ?_, ?_⟩
  · rw [collected_snoc, hc, List.append_nil]; exact q
  · rw [collected_snoc, started_snoc, skipped_snoc, hc, hs, hk, hr]
    simp only [List.append_nil]; exact i.perm
  · intro e he; rw [started_snoc, hs, List.append_nil]; exact i.infl e (hi e he)
  · rw [reqOf_snoc]; exact req

theorem HI.req_fresh {s : Svc} {h : Hist} (w : Wf s) (i : HI s h) (d : Nat → Option (Int × Int)) (r0 : Rec) (hid : r0.id = s.nextId + 1)
    (hd : d = fun j => if s.nextId + 1 ≠ 0 ∧ j = s.nextId + 1 then some (r0.t0, r0.iv) else reqOf h j) :
    ∀ r ∈ s.records ++ [r0], d r.id = some (r.t0, r.iv) := by
  intro r hr
  subst hd
  rcases List.mem_append.mp hr with hr | hr
  · have := (w.core.rle r hr).2
    have hne : ¬ (s.nextId + 1 ≠ 0 ∧ r.id = s.nextId + 1) := by omega
    simp only [hne, if_false]
    exact i.req r hr
  · cases List.mem_singleton.mp hr
    simp [hid]

theorem Eff.inv {s s' : Svc} {op : Op} {out : Out} {h : Hist} (e : Eff s op s' out) (i : Inv s h) :
    Inv s' (h ++ [(op, out)]) := by
  obtain ⟨w, hi, busy, ok⟩ := i
  have req_marked : ∀ {f : Rec → Rec}, Marks f → ∀ r ∈ s.records.map f, reqOf h r.id = some (r.t0, r.iv) :=
    fun hf => hf.forall hi.req hi.req
  -- the head of `ready` moves to `started` or to `skipped`; in counts, so that either move is one `omega`
  have pop : ∀ {e : Hnd} {rest A B : List Hnd}, s.ready = e :: rest → (∀ a, (A ++ B).count a = (started h ++ skipped h).count a + [e].count a) →
      (A ++ B ++ rest).Perm (collected h) := by
    intro e rest A B hr hAB
    have hp := hi.perm
    rw [hr] at hp
    refine List.Perm.trans ?_ hp
    rw [List.perm_iff_count]; intro a
    have := hAB a
    simp only [List.count_append, List.count_cons, List.count_nil] at this ⊢; omega
  cases e with
  | ctl hc =>
    -- only lifecycle fields move and no observation function sees the entry: `HI` and the heap stay, the lifecycle clauses case by case
    have q := hc.silent
    have k := hc.data
    have hi' : HI s' (h ++ [(op, out)]) :=
      hi.still q.collected q.started q.skipped k.ready (fun _ he => k.inflight ▸ he) (by rw [k.nextId, k.records, k.periodic]; exact hi.q)
        (fun r hr => by rw [q.req]; exact hi.req r (k.records ▸ hr))
    cases hc with
    | idle => exact ⟨w, hi', busy, ok⟩
    | loopExit hx hr hi0 =>
      exact ⟨⟨w.core, w.acct, fun _ => ⟨hx, hr, hi0⟩, w.ex2, fun h => ⟨(w.st1 h).1, rfl⟩, w.run1, w.sp1⟩, hi', busy, ok⟩
    | drainGate hl =>
      exact ⟨⟨w.core, w.acct, w.ex1, w.ex2, nofun, w.run1, fun h => by have := w.sp1 h; rw [hl] at this; cases this⟩, hi',
        fun _ => ⟨nofun, rfl⟩, ok⟩
    | restore _ hl =>
      exact ⟨⟨w.core, w.acct, w.ex1, w.ex2, nofun, w.run1, fun h => by have := w.sp1 h; rw [hl] at this; cases this⟩, hi',
        fun h => absurd rfl h, ok⟩
    | sweep0 _ _ hd | drainTimeout hd =>
      exact ⟨⟨w.core, w.acct, w.ex1, w.ex2, w.st1, w.run1, w.sp1⟩, hi', fun _ => busy (by rw [hd]; nofun), ok⟩
    | drainDone | unwind => exact ⟨⟨w.core, w.acct, w.ex1, w.ex2, w.st1, w.run1, w.sp1⟩, hi', fun h => absurd rfl h, ok⟩
    | stopFlag hp hl =>
      exact ⟨⟨w.core, w.acct, w.ex1, w.ex2, fun h => ⟨rfl, (w.st1 h).2⟩,
        fun hr => (by rcases w.run1 hr with h | h <;> rw [hp] at h <;> cases h), nofun⟩, hi', fun h => ⟨(busy h).1, rfl⟩, ok⟩
    | stopHalt hp => exact ⟨⟨w.core, w.acct, w.ex1, fun _ => rfl, w.st1, fun _ => Or.inl rfl, nofun⟩, hi', busy, ok⟩
    | stopFinish hp hx =>
      exact ⟨⟨w.core, w.acct, w.ex1, w.ex2, fun _ => ⟨rfl, hx⟩, fun _ => Or.inr rfl, fun _ => rfl⟩, hi', fun _ => ⟨nofun, rfl⟩, ok⟩
  | schedAt now tp ha =>
    exact ⟨⟨List.append_nil s.periodic ▸ w.core.fresh ⟨_, tp, false, false, 0, tp, 0⟩ [] rfl (by simp) nofun List.nodup_nil nofun,
        w.acct, w.ex1, w.ex2, w.st1, w.run1, w.sp1⟩,
      hi.still rfl rfl rfl rfl (fun _ he => he) (hi.q.fresh _ rfl s.periodic (fun p hp => Or.inl ⟨p, hp, rfl⟩)) (hi.req_fresh w _ _ rfl rfl),
      busy, heapPush_ok _ _ ok⟩
  | schedPer now iv ha =>
    refine ⟨⟨w.core.fresh ⟨_, now + iv, false, true, 1, now, iv⟩ [⟨_, iv, now + iv, false⟩] rfl (by simp)
        (fun p hp => by cases List.mem_singleton.mp hp; exact ⟨rfl, rfl, rfl, rfl⟩) (by simp) (fun _ => ⟨_, List.mem_singleton.mpr rfl, rfl⟩),
        w.acct, w.ex1, w.ex2, w.st1, w.run1, w.sp1⟩,
      hi.still rfl rfl rfl rfl (fun _ he => he) (hi.q.fresh _ rfl _ ?_) (hi.req_fresh w _ _ rfl rfl), busy, heapPush_ok _ _ ok⟩
    intro p hp
    rcases List.mem_append.mp hp with hp | hp
    · exact Or.inl ⟨p, hp, rfl⟩
    · cases List.mem_singleton.mp hp; exact Or.inr rfl
  | cancelRec id b hp hb =>
    exact ⟨⟨w.core.mark (markCanceled_marks id), w.acct, w.ex1, w.ex2, w.st1, w.run1, w.sp1⟩,
      hi.still rfl rfl rfl rfl (fun _ he => he) (hi.q.mapRec (markCanceled_marks id)) (req_marked (markCanceled_marks id)), busy, ok⟩
  | cancelPer id pt hp =>
    exact ⟨⟨(w.core.mark (markCanceled_marks id)).dropPer id (fun r hr hid _ => markCanceled_hit id _ r hr hid),
        w.acct, w.ex1, w.ex2, w.st1, w.run1, w.sp1⟩,
      hi.still rfl rfl rfl rfl (fun _ he => he)
        ((hi.q.mapRec (markCanceled_marks id)).shrink (fun r hr => hr) (fun p hp => ⟨p, (mem_erasePer.mp hp).1, rfl⟩))
        (req_marked (markCanceled_marks id)), busy, ok⟩
  | collect now ax hx hr hi0 hax c hc =>
    subst hc
    have sp := (collect_spec ⟨w, hi, busy, ok⟩ now).1
    refine ⟨⟨sp.core, ?_, fun h => (by rw [hx] at h; cases h), fun h => hax h, w.st1, w.run1, w.sp1⟩, ⟨?_, ?_, ?_, ?_⟩, busy, sp.hok⟩
    · have := w.acct
      rw [hr, hi0] at this
      simp only [hi0, Option.toList_none, List.length_nil, Nat.add_zero]
      rw [this]; simp
    · rw [collected_snoc]; exact sp.q
    · rw [collected_snoc, started_snoc, skipped_snoc]
      have := hi.perm
      rw [hr, List.append_nil] at this
      simp only [startedOf, skippedOf, List.append_nil]
      exact this.append_right _
    · intro e he; rw [hi0] at he; cases he
    · rw [reqOf_snoc]; exact sp.rrec
  | skip e rest hi0 hr hg =>
    have hacc := w.acct
    rw [hr, hi0] at hacc
    simp only [List.length_cons, Option.toList_none, List.length_nil, Nat.add_zero] at hacc
    refine ⟨⟨w.core, by simp only [hi0, Option.toList_none, List.length_nil]; omega, fun hx => (by rw [(w.ex1 hx).2.1] at hr; cases hr),
        w.ex2, w.st1, w.run1, w.sp1⟩,
      ⟨?_, ?_, fun x hx => (by rw [hi0] at hx; cases hx), by rw [reqOf_snoc]; exact hi.req⟩, busy, ok⟩
    · rw [collected_snoc]; simp only [collectedOf, List.append_nil]; exact hi.q
    · rw [collected_snoc, started_snoc, skipped_snoc]
      simp only [collectedOf, startedOf, skippedOf, List.append_nil]
      exact pop hr fun a => by simp only [List.count_append]; omega
  | start e rest hi0 hr hg =>
    have hacc := w.acct
    rw [hr, hi0] at hacc
    simp only [List.length_cons, Option.toList_none, List.length_nil, Nat.add_zero] at hacc
    refine ⟨⟨w.core, by simp only [Option.toList_some, List.length_singleton]; omega, fun hx => (by rw [(w.ex1 hx).2.1] at hr; cases hr),
        w.ex2, w.st1, w.run1, w.sp1⟩,
      ⟨?_, ?_, ?_, by rw [reqOf_snoc]; exact hi.req⟩, busy, ok⟩
    · rw [collected_snoc]; simp only [collectedOf, List.append_nil]; exact hi.q
    · rw [collected_snoc, started_snoc, skipped_snoc]
      simp only [collectedOf, startedOf, skippedOf, List.append_nil]
      exact pop hr fun a => by simp only [List.count_append]; omega
    · intro x hx
      cases hx
      rw [started_snoc]; exact List.mem_append_right _ (List.mem_singleton.mpr rfl)
  | hend e hi0 =>
    have hacc := w.acct
    rw [hi0] at hacc
    simp only [Option.toList_some, List.length_singleton] at hacc
    exact ⟨⟨w.core, by simp only [Option.toList_none, List.length_nil]; omega, fun hx => (by rw [(w.ex1 hx).2.2] at hi0; cases hi0),
        w.ex2, w.st1, w.run1, w.sp1⟩,
      hi.still rfl rfl rfl rfl nofun hi.q hi.req, busy, ok⟩
  | sweep now t hd ht =>
    exact ⟨⟨(w.core.mark (sweep_marks now t)).mapPer _ (fun p => ⟨rfl, rfl, rfl⟩), w.acct, w.ex1, w.ex2, w.st1, w.run1, w.sp1⟩,
      hi.still rfl rfl rfl rfl (fun _ he => he)
        ((hi.q.mapRec (sweep_marks now t)).shrink (fun r hr => hr)
          (fun p hp => by obtain ⟨p0, h0, rfl⟩ := List.mem_map.mp hp; exact ⟨p0, h0, rfl⟩)) (req_marked (sweep_marks now t)),
      fun _ => busy (by rw [hd]; nofun), ok⟩

theorem inv_run (L : Limits) (ops : List Op) : Inv (run L ops).1 (run L ops).2 :=
  runFrom_ind Inv (fun _ => True) (fun s _ op _ i => (step_eff L s op).inv i) ops _ _ (fun _ _ => trivial) Inv.init

theorem runFrom_append (L : Limits) : ∀ (a b : List Op) (s : Svc) (h : Hist),
    runFrom L s h (a ++ b) = runFrom L (runFrom L s h a).1 (runFrom L s h a).2 b
  | [], _, _, _ => rfl
  | op :: a, b, s, h => by
    simp only [List.cons_append, runFrom]
    exact runFrom_append L a b _ _

theorem run_snoc (L : Limits) (sops : List Op) (op : Op) :
    run L (sops ++ [op]) =
      ((step L (run L sops).1 op).1, (run L sops).2 ++ [(op, (step L (run L sops).1 op).2)]) := by
  unfold run
  rw [runFrom_append]
  rfl

theorem Eff.keeps_records {s s' : Svc} {op : Op} {out : Out} (e : Eff s op s' out) (hop : ∀ now ax, op ≠ .collect now ax) :
    ∀ r ∈ s.records, ∃ r' ∈ s'.records, r'.id = r.id ∧ r'.tp = r.tp := by
  intro r hr
  have marked : ∀ {f : Rec → Rec}, Marks f → ∃ r' ∈ s.records.map f, r'.id = r.id ∧ r'.tp = r.tp :=
    fun hf => ⟨_, List.mem_map_of_mem hr, (hf.fields r).1, (hf.fields r).2.1⟩
  cases e with
  | ctl hc => exact ⟨r, hc.data.records ▸ hr, rfl, rfl⟩
  | schedAt | schedPer => exact ⟨r, List.mem_append_left _ hr, rfl, rfl⟩
  | cancelRec id | cancelPer id => exact marked (markCanceled_marks id)
  | collect now ax => exact absurd rfl (hop now ax)
  | skip | start | hend => exact ⟨r, hr, rfl, rfl⟩
  | sweep now t => exact marked (sweep_marks now t)

theorem Eff.nextId_le {s s' : Svc} {op : Op} {out : Out} (e : Eff s op s' out) : s.nextId ≤ s'.nextId := by
  cases e with
  | ctl h => exact Nat.le_of_eq h.data.nextId.symm
  | schedAt | schedPer => exact Nat.le_succ _
  | _ => exact Nat.le_refl _

/-- state of an id for which `cancel` has answered `true`: no live record, no periodic entry, and whatever invocation of it is still
waiting in `ready` goes through a closed guard -/
structure Dead (id : Nat) (s : Svc) : Prop where
  recs : ∀ r ∈ s.records, r.id = id → r.canceled = true
  pers : ∀ p ∈ s.periodic, p.id ≠ id
  rdy : ∀ e ∈ s.ready, e.id = id → e.guarded = true ∧ s.closed.contains id = true

theorem Eff.dead {s s' : Svc} {op : Op} {out : Out} {id : Nat} (e : Eff s op s' out) (d : Dead id s) (hle : id ≤ s.nextId) :
    Dead id s' ∧ id ≤ s'.nextId := by
  -- `hle`: the fresh id of a `schedule*` is not `id`
  refine ⟨?_, Nat.le_trans hle e.nextId_le⟩
  have marked : ∀ {f : Rec → Rec}, Marks f → ∀ r ∈ s.records.map f, r.id = id → r.canceled = true :=
    fun hf => hf.forall d.recs fun _ _ _ => rfl
  cases e with
  | ctl hc =>
    have k := hc.data
    exact ⟨k.records ▸ d.recs, k.periodic ▸ d.pers, by rw [k.ready, k.closed]; exact d.rdy⟩
  | schedAt now tp ha =>
    refine ⟨?_, d.pers, d.rdy⟩
    intro r hr hid
    rcases List.mem_append.mp hr with hr | hr
    · exact d.recs r hr hid
    · cases List.mem_singleton.mp hr; simp only at hid; omega
  | schedPer now iv ha =>
    refine ⟨?_, ?_, d.rdy⟩
    · intro r hr hid
      rcases List.mem_append.mp hr with hr | hr
      · exact d.recs r hr hid
      · cases List.mem_singleton.mp hr; simp only at hid; omega
    · intro p hp
      rcases List.mem_append.mp hp with hp | hp
      · exact d.pers p hp
      · cases List.mem_singleton.mp hp; simp only; omega
  | cancelRec j b hp hb => exact ⟨marked (markCanceled_marks j), d.pers, d.rdy⟩
  | cancelPer j pt hp =>
    refine ⟨marked (markCanceled_marks j), fun p hp => d.pers p (mem_erasePer.mp hp).1, ?_⟩
    intro e he hid
    have := d.rdy e he hid
    exact ⟨this.1, by simp only [List.contains_cons, Bool.or_eq_true]; exact Or.inr this.2⟩
  | collect now ax hx hr hi hax c hc =>
    subst hc
    have sh := collectLoop_shrinks now collectFuel { records := s.records, periodic := s.periodic, heap := s.heap }
    -- a live record of the id would be needed to re-arm it or to hand it over
    have nolive : ∀ rc ∈ s.records, rc.canceled = false → rc.id ≠ id := fun rc hrc hc hid => by
      rw [d.recs rc hrc hid] at hc; cases hc
    refine ⟨?_, ?_, ?_⟩
    · intro r hr hid
      rcases sh.recs r hr with h | ⟨_, rc, hrc, hc, hrid⟩
      · exact d.recs r h hid
      · exact absurd (hrid.trans hid) (nolive rc hrc hc)
    · intro p hp
      obtain ⟨p0, h0, h1⟩ := sh.pers p hp
      exact h1 ▸ d.pers p0 h0
    · intro e he hid
      rcases sh.out e he with h | ⟨rc, hrc, hc, hrid⟩
      · cases h
      · exact absurd (hrid.trans hid) (nolive rc hrc hc)
  | skip e rest hi hr | start e rest hi hr => exact ⟨d.recs, d.pers, fun x hx => d.rdy x (hr ▸ List.mem_cons_of_mem _ hx)⟩
  | hend e hi => exact ⟨d.recs, d.pers, d.rdy⟩
  | sweep now t hd ht =>
    refine ⟨marked (sweep_marks now t), ?_, d.rdy⟩
    intro p hp
    obtain ⟨p0, h0, rfl⟩ := List.mem_map.mp hp
    exact d.pers p0 h0

theorem Dead.shut {id : Nat} {s : Svc} (d : Dead id s) : ∀ e ∈ s.ready, ¬ (e.guarded = true ∧ s.closed.contains e.id = true) → e.id ≠ id :=
  fun e he hg hid => hg (hid ▸ d.rdy e he hid)

theorem cancel_true_dead (s : Svc) (h : Hist) (id : Nat) (w : Wf s) (i : HI s h) (ht : (cancel s id).2 = true) :
    Dead id (cancel s id).1 ∧ id ≤ (cancel s id).1.nextId := by
  have hrecs := markCanceled_hit id s.records
  cases hp : findPer s.periodic id with
  | some pt =>
    rw [cancel_some hp]
    obtain ⟨hpt, hptid⟩ := findPer_some hp
    refine ⟨⟨hrecs, fun p hp' => (mem_erasePer.mp hp').2, fun e he hid => ⟨?_, by simp⟩⟩, hptid ▸ (w.core.ple pt hpt).2⟩
    -- an invocation of `id` waiting in `ready` was collected; with a periodic entry for the id it is a periodic invocation
    have hc : e ∈ collected h := i.perm.subset (List.mem_append_right _ he)
    cases hg : e.guarded
    · exact absurd (hptid.trans hid.symm) (i.q.noper e hc hg pt hpt)
    · rfl
  | none =>
    obtain ⟨b, hb1, hb2⟩ := cancel_none hp
    rw [hb1] at ht ⊢
    obtain ⟨rc, hf, hlive⟩ := hb2.mp ht
    obtain ⟨hrc, hrcid⟩ := findRec_some hf
    refine ⟨⟨hrecs, findPer_none hp, ?_⟩, hrcid ▸ (w.core.rle rc hrc).2⟩
    -- the live record is a one-shot (no periodic entry): nothing collected carries its id
    intro e he hid
    exfalso
    have hc : e ∈ collected h := i.perm.subset (List.mem_append_right _ he)
    have hg := (i.q.later e hc rc hrc (hrcid.trans hid.symm)).2.1
    obtain ⟨p, hp', hpid⟩ := w.core.gp rc hrc hg hlive
    exact findPer_none hp p hp' (hpid.trans hrcid)

theorem cancel_false {s : Svc} {id : Nat} (rnd : (s.records.map (·.id)).Nodup) (h : (cancel s id).2 = false) :
    (∀ r ∈ s.records, r.id = id → r.canceled = true) ∧ ∀ p ∈ s.periodic, p.id ≠ id := by
  cases hp : findPer s.periodic id with
  | some pt => rw [cancel_some hp] at h; cases h
  | none =>
    obtain ⟨b, he, hb⟩ := cancel_none hp
    rw [he] at h
    refine ⟨fun r hr hid => ?_, findPer_none hp⟩
    cases hc : r.canceled
    · exact nomatch (hb.mpr ⟨r, hid ▸ findRec_of_mem rnd hr, hc⟩).symm.trans h
    · rfl

/-- the state `stop()` leaves when it returns: Stopped is published, nothing is accepted, the loop thread is joined with nothing in hand -/
structure Stopped (s : Svc) : Prop where
  life : s.life = .stopped
  acc : s.accepting = false
  ex : s.exited = true
  rd : s.ready = []
  inf : s.inflight = none

theorem stopFinish_true {s : Svc} (h : (stopFinish s).2 = true) :
    s.spc = .halted ∧ s.exited = true ∧ (stopFinish s).1 = { s with accepting := false, life := .stopped, spc := .done } := by
  unfold stopFinish at h ⊢
  split at h
  · rename_i hg; exact ⟨hg.1, hg.2, if_pos hg ▸ rfl⟩
  · cases h

theorem stopFinish_stopped {s : Svc} (w : Wf s) (h : (stopFinish s).2 = true) : Stopped (stopFinish s).1 := by
  obtain ⟨_, hx, he⟩ := stopFinish_true h
  rw [he]
  exact ⟨rfl, rfl, hx, (w.ex1 hx).2.1, (w.ex1 hx).2.2⟩

theorem Eff.stopped {s s' : Svc} {op : Op} {out : Out} (e : Eff s op s' out) (t : Stopped s) : Stopped s' := by
  cases e with
  | ctl hc =>
    cases hc with
    | idle => exact t
    | drainGate hl | restore _ hl => rw [t.life] at hl; cases hl
    | stopFlag _ hl => exact absurd t.life hl
    | stopFinish => exact ⟨rfl, rfl, t.ex, t.rd, t.inf⟩
    | loopExit => exact ⟨t.life, t.acc, rfl, t.rd, t.inf⟩
    | _ => exact ⟨t.life, t.acc, t.ex, t.rd, t.inf⟩
  | schedAt _ _ ha | schedPer _ _ ha => rw [t.acc] at ha; cases ha
  | cancelRec | cancelPer | sweep => exact ⟨t.life, t.acc, t.ex, t.rd, t.inf⟩
  | collect now ax hx => rw [t.ex] at hx; cases hx
  | skip e rest hi hr | start e rest hi hr => rw [t.rd] at hr; cases hr
  | hend e hi => rw [t.inf] at hi; cases hi

theorem Stopped.runFrom (L : Limits) (ops : List Op) {s : Svc} (h : Hist) (t : Stopped s) : Stopped (runFrom L s h ops).1 :=
  runFrom_ind (fun s _ => Stopped s) (fun _ => True) (fun s _ op _ t => (step_eff L s op).stopped t) ops s h (fun _ _ => trivial) t

end Iora.Tsvc
