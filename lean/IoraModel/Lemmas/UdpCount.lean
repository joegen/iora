import IoraModel.Lemmas.UdpEngine
/-!
The `sessionsCurrent` counter equals the number of open sessions in every reachable state, so the admission test of
`readFromListener`/`viaDo` (`maxSessions && sessionsCurrent >= maxSessions`) means what it says.
-/
namespace Iora.Udp

/-- number of open sessions among ids `< n` -/
def countOpen (ss : Nat → Option Sess) : Nat → Nat
  | 0 => 0
  | n + 1 => countOpen ss n + (if (ss n).isSome then 1 else 0)

theorem countOpen_upd_ge (ss : Nat → Option Sess) (k : Nat) (v : Option Sess) : ∀ n, n ≤ k → countOpen (upd ss k v) n = countOpen ss n
  | 0, _ => rfl
  | n + 1, h => by
    show countOpen (upd ss k v) n + _ = countOpen ss n + _
    rw [countOpen_upd_ge ss k v n (Nat.le_of_succ_le h), upd_other _ _ _ _ (Nat.ne_of_lt h)]

theorem countOpen_upd_lt (ss : Nat → Option Sess) (k : Nat) (v : Option Sess) : ∀ n, k < n →
    countOpen (upd ss k v) n + (if (ss k).isSome then 1 else 0) = countOpen ss n + (if v.isSome then 1 else 0)
  | n + 1, h => by
    show countOpen (upd ss k v) n + (if (upd ss k v n).isSome then 1 else 0) + _ = countOpen ss n + (if (ss n).isSome then 1 else 0) + _
    rcases Nat.lt_succ_iff_lt_or_eq.mp h with h | rfl
    · rw [upd_other _ _ _ _ (Nat.ne_of_gt h), Nat.add_right_comm, countOpen_upd_lt ss k v n h, Nat.add_right_comm]
    · rw [upd_same, countOpen_upd_ge ss k v k (Nat.le_refl _), Nat.add_right_comm]

def CInv (st : State) : Prop := st.sessionsCurrent = countOpen st.sessions st.nextSid

theorem countOpen_set {cfg : Cfg} {st : State} (h : Inv cfg st) (c : CInv st) {sid : Nat} {s : Sess} (hs : st.sessions sid = some s)
    (v : Option Sess) : countOpen (upd st.sessions sid v) st.nextSid + 1 = st.sessionsCurrent + (if v.isSome then 1 else 0) := by
  have h1 := countOpen_upd_lt st.sessions sid v st.nextSid (h.fresh sid s hs)
  rw [hs] at h1
  exact h1.trans (congrArg (· + _) c.symm)

/-- the count in the form `shutdownDrain_eq` has it -/
theorem countOpen_eq (ss : Nat → Option Sess) : ∀ n, countOpen ss n = ((List.range n).filter fun x => (ss x).isSome).length
  | 0 => rfl
  | n + 1 => by
    rw [List.range_succ, List.filter_append, List.length_append, ← countOpen_eq ss n]
    show _ + _ = _ + _
    cases h : (ss n).isSome <;> simp [h]

theorem shutdownDrain_cinv (cfg : Cfg) (st : State) (c : CInv st) : CInv (shutdownDrain cfg st).1 := by
  obtain ⟨ix, e, _⟩ := shutdownDrain_eq cfg st
  rw [e]
  show st.sessionsCurrent - _ = countOpen (fun _ => none) st.nextSid
  -- what is taken off is the number of open sessions, which the counter equals; the cleared table has none
  rw [← countOpen_eq, ← c, Nat.sub_self, countOpen_eq]
  exact (List.length_eq_zero_iff.mpr (List.filter_eq_nil_iff.mpr fun _ _ => Bool.false_ne_true)).symm

theorem Ops.cinv {cfg : Cfg} {loud : Bool} {st : State} {r : State × List Out} (hops : Ops cfg loud st r) (h : Inv cfg st) (c : CInv st) : CInv r.1 := by
  induction hops with
  | emit | setLst | tick => exact c
  | setSess sid s' hs => exact (Nat.add_right_cancel (countOpen_set h c hs (some s'))).symm
  | @opens st s =>
    show st.sessionsCurrent + 1 = countOpen (upd st.sessions st.nextSid (some s)) st.nextSid + (if (upd st.sessions st.nextSid (some s) st.nextSid).isSome then 1 else 0)
    rw [countOpen_upd_ge _ _ _ _ (Nat.le_refl _), upd_same]
    exact congrArg (· + 1) c
  | @skipId st =>
    show st.sessionsCurrent = countOpen st.sessions st.nextSid + (if (st.sessions st.nextSid).isSome then 1 else 0)
    cases hx : st.sessions st.nextSid with
    | none => exact c
    | some x => exact absurd (h.fresh _ _ hx) (Nat.lt_irrefl _)
  | drop sid hs => exact (congrArg (· - 1) (countOpen_set h c hs none)).symm.trans (Nat.add_sub_cancel ..)
  | restart => exact shutdownDrain_cinv cfg _ c
  | seq h1 _ ih1 ih2 => exact ih2 (h1.inv h) (ih1 h c)

theorem run_cinv (cfg : Cfg) (is : List In) : CInv (run cfg is).1 := (runFrom_ops cfg is 0 {}).cinv (inv_init cfg) rfl

end Iora.Udp
