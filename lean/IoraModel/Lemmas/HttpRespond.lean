import IoraModel.Model.HttpServerRespond
import IoraModel.Model.HttpRespondScript
import IoraModel.Lemmas.HttpRespondMap
/-
C16, one call of `processHttpRequest`.  The notions in which `Props/C16` speaks of a call and which the model does not have
(`ApiConsistent`, `upgradeSeam`, `reqOf`, `dispatched`, `suppressSeam`, `drainCloses`, `CallsShaped`, `engineCmds`, `connTokens`) are defined
here, beside their lemmas.  A call is looked at in two ways: as the list of transport calls `processCalls` makes arm by arm, whose
shape is `processCalls_shape` (`processCalls_upgrade` is the list itself on the upgrade arm, the only one a statement spells out); and,
through the engine, as `process`, one decision tree over the parse, the two seams and the dispatch whose leaves are send blocks
(`process_eq`).  The fields and the wire of the response are read off `buildWire_eq`.
-/
namespace Iora.HttpRespond
open Iora

/-- A string literal is `String.ofList` of its characters by definition, so rewriting with this lemma turns `ascii "…"` into a
    `List.map` over character literals without running `String.toList` (whose UTF-8 decoding is slow in the kernel).  An evaluation of anything but a very short literal rewrites with
    it first. -/
theorem ascii_ofList (l : List Char) : ascii (String.ofList l) = l.map (fun c => UInt8.ofNat c.toNat) := by
  simp [ascii]

/-- Used as a term to walk a cascade of `if`s whose conditions do not matter; `split` on the cascades of the request parser is
    very slow. -/
theorem pred_ite {α : Type} {Q : α → Prop} {c : Prop} [Decidable c] {a b : α} (ha : Q a) (hb : Q b) :
    Q (if c then a else b) := by
  split <;> assumption

def kCL : Bytes := ascii "Content-Length"

/-- the response object is consistent in the sense of the response API: Content-Length says how long the body is -/
def ApiConsistent (r : Resp) : Prop := hFind r.headers kCL = some (dec r.body.length)

theorem setContent_consistent (r : Resp) (b ct : Bytes) : ApiConsistent (r.setContent b ct) := by
  simp [ApiConsistent, Resp.setContent, kCL, hFind_hSet_self]

theorem setContent_status (r : Resp) (b ct : Bytes) : (r.setContent b ct).status = r.status := rfl

theorem setContent_body (r : Resp) (b ct : Bytes) : (r.setContent b ct).body = b := rfl

theorem setContent_suppress (r : Resp) (b ct : Bytes) : (r.setContent b ct).suppress = r.suppress := rfl

theorem safetyNet_threw (h : Handler) (req : Req) (res : Resp) (ht : (h req res).threw = true) :
    (invokeWithSafetyNet h req res).status = 500 ∧ (invokeWithSafetyNet h req res).body = ascii "Internal Server Error" ∧
    ApiConsistent (invokeWithSafetyNet h req res) ∧ (invokeWithSafetyNet h req res).suppress = false := by
  have e : invokeWithSafetyNet h req res = _ := if_pos ht
  rw [e]
  exact ⟨rfl, (rfl : ascii Gen.HttpRespond.bodyHandlerThrew = _), setContent_consistent _ _ _, rfl⟩

theorem safetyNet_returned (h : Handler) (req : Req) (res : Resp) (ht : (h req res).threw = false) :
    invokeWithSafetyNet h req res = (h req res).res := by
  simp [invokeWithSafetyNet, ht]

theorem runScript_consistent (sc : Script) (hs : ApiScript sc) (req : Req) (res : Resp) (hc : ApiConsistent res) :
    ApiConsistent (runScript sc req res).res := by
  induction sc generalizing res with
  | nil => simpa [runScript] using hc
  | cons a rest ih =>
    have ha : a.isApi = true := hs a (by simp)
    have hr : ApiScript rest := fun b hb => hs b (by simp [hb])
    cases a with
    | setStatus s => exact ih hr _ hc
    | suppress => exact ih hr _ hc
    | nop => exact ih hr _ hc
    | setContent b ct => exact ih hr _ (setContent_consistent _ _ _)
    | echo => exact ih hr _ (setContent_consistent _ _ _)
    | big n f => exact ih hr _ (setContent_consistent _ _ _)
    | setHeader k v =>
      refine ih hr _ ?_
      have hk : ciEq k kCL = false := by simpa [HAction.isApi, kCL] using ha
      simp only [ApiConsistent, Resp.setHeader]
      rw [hFind_hSet_ne _ _ _ _ hk]; exact hc
    | setBodyRaw b => cases ha
    | eraseHeader k => cases ha
    | throwStd => exact hc
    | throwOther => exact hc

theorem defaultResp_consistent : ApiConsistent defaultResp := setContent_consistent _ _ _

/-- the handler whose return value can suppress the response (MATCHED / NO_ROUTE with a default handler) -/
def Decision.userHandler? {α : Type} : Decision α → Option α
  | .matched h _ _ => some h
  | .noRoute (some h) => some h
  | _ => none

/-- any handler the dispatch runs (also MATCHED_AS_HEAD) -/
def Decision.anyHandler? {α : Type} : Decision α → Option α
  | .matched h _ _ => some h
  | .matchedAsHead h _ _ => some h
  | .noRoute (some h) => some h
  | _ => none

/-- the response object a handler receives: the pre-seeded 404 body with status 200 -/
def prefilled : Resp := { defaultResp with status := 200 }

theorem prefilled_consistent : ApiConsistent prefilled := by
  have := defaultResp_consistent
  simpa [ApiConsistent, prefilled] using this

theorem dispatch_ran (d : Decision Handler) (req : Req) : (dispatch d req).2 = d.userHandler?.isSome := by
  cases d with
  | noRoute o => cases o <;> rfl
  | matched _ _ _ | matchedAsHead _ _ _ | autoOptions _ | optionsStar | methodNotAllowed _ => rfl

theorem dispatch_userHandler (d : Decision Handler) (req : Req) (h : Handler) (hd : d.userHandler? = some h) :
    (dispatch d req).1 = invokeWithSafetyNet h req prefilled := by
  cases d with
  | matched h' c r => cases hd; simp [dispatch, prefilled, Gen.HttpRespond.stMatched]
  | noRoute o =>
    cases o with
    | none => cases hd
    | some h' => cases hd; simp [dispatch, prefilled, Gen.HttpRespond.stMatched]
  | matchedAsHead _ _ _ | autoOptions _ | optionsStar | methodNotAllowed _ => cases hd

/-- What holds of the safety net's result holds of the dispatched response; `hq` because MATCHED_AS_HEAD clears the suppress flag
    of what the safety net returned. -/
theorem dispatch_anyHandler {Q : Resp → Prop} (hq : ∀ r, Q r → Q { r with suppress := false }) (d : Decision Handler) (req : Req)
    (h : Handler) (hd : d.anyHandler? = some h) (hr : Q (invokeWithSafetyNet h req prefilled)) : Q (dispatch d req).1 := by
  cases d with
  | matched h' c r => cases hd; simpa [dispatch, prefilled, Gen.HttpRespond.stMatched] using hr
  | matchedAsHead h' c r => cases hd; simpa [dispatch, prefilled, Gen.HttpRespond.stMatchedAsHead] using hq _ hr
  | noRoute o =>
    cases o with
    | none => cases hd
    | some h' => cases hd; simpa [dispatch, prefilled, Gen.HttpRespond.stMatched] using hr
  | autoOptions _ => cases hd
  | optionsStar => cases hd
  | methodNotAllowed _ => cases hd

theorem dispatch_consistent_of_handler (d : Decision Handler) (req : Req) (h : Handler) (hd : d.anyHandler? = some h)
    (hc : ApiConsistent (h req prefilled).res) : ApiConsistent (dispatch d req).1 := by
  refine dispatch_anyHandler (fun _ hr => hr) d req h hd ?_
  cases ht : (h req prefilled).threw with
  | true => obtain ⟨_, _, hc', _⟩ := safetyNet_threw h req prefilled ht; exact hc'
  | false => rw [safetyNet_returned h req prefilled ht]; exact hc

/-- `hb` rules out AUTO_OPTIONS, which answers 204 -/
theorem dispatch_consistent_no_handler (d : Decision Handler) (req : Req) (hd : d.anyHandler? = none)
    (hb : bodylessStatus (dispatch d req).1.status = false) : ApiConsistent (dispatch d req).1 := by
  cases d with
  | matched h c r => simp [Decision.anyHandler?] at hd
  | matchedAsHead h c r => simp [Decision.anyHandler?] at hd
  | noRoute o =>
    cases o with
    | some h => simp [Decision.anyHandler?] at hd
    | none => exact setContent_consistent _ _ _
  | autoOptions allow =>
    have : bodylessStatus (dispatch (.autoOptions allow) req).1.status = true := by
      simp only [dispatch]; decide +kernel
    rw [this] at hb; cases hb
  | optionsStar =>
    simp only [dispatch, ApiConsistent, kCL]
    rw [hFind_hSet_self]
    rfl
  | methodNotAllowed allow =>
    simp only [dispatch, ApiConsistent]
    rw [hFind_hSet_ne _ _ _ _ (by unfold kCL; repeat rw [ascii_ofList]; decide +kernel)]
    exact setContent_consistent _ _ _

/-- the status the error arm answers a parse failure with, the inline `match` of `processCalls`: the `HttpRequestError`'s own, 500 for
    any other exception -/
def errStatus : ParseErr → Nat
  | .request s => s
  | .other => Gen.HttpRespond.errDefaultStatus

/-- what the Upgrade seam does for a parsed request (`ret none` = no Upgrade header, or the subclass declined) -/
def upgradeSeam (srv : Server) (p : ParsedReq) : Seam (Option Resp) :=
  if hasUpgradeHeader (mkReq p).headers then srv.upgradeHook (mkReq p) else .ret none

def decisionOf (srv : Server) (p : ParsedReq) : Decision Handler :=
  classifyRequest srv.routes srv.defaultHandler (mkReq p).method (mkReq p).path (splitPath (mkReq p).path)

/-- the request as the handler sees it -/
def reqOf (srv : Server) (p : ParsedReq) : Req := applyDecision (mkReq p) (decisionOf srv p)

/-- the response object after the dispatch switch, and `ranHandler` -/
def dispatched (srv : Server) (p : ParsedReq) : Resp × Bool := dispatch (decisionOf srv p) (reqOf srv p)

/-- the suppression test of `processHttpRequest`: `ranHandler && (res._suppressSend || onResponseSuppressed(...))` — the seam
    is consulted only if a handler ran and did not already set the flag -/
def suppressSeam (srv : Server) (p : ParsedReq) : Seam Bool :=
  if (dispatched srv p).2 then
    (if (dispatched srv p).1.suppress then .ret true else srv.suppressHook (reqOf srv p) (dispatched srv p).1)
  else .ret false

theorem applyDecision_method (req : Req) (d : Decision Handler) : (applyDecision req d).method = req.method := by
  cases d <;> rfl

theorem applyDecision_headers (req : Req) (d : Decision Handler) : (applyDecision req d).headers = req.headers := by
  cases d <;> rfl

theorem mkReq_method (p : ParsedReq) : (mkReq p).method = p.method := by
  unfold mkReq; split <;> rfl

theorem mkReq_headers (p : ParsedReq) : (mkReq p).headers = p.headers := by
  unfold mkReq; split <;> rfl

theorem reqOf_method (srv : Server) (p : ParsedReq) : (reqOf srv p).method = p.method := by
  rw [reqOf, applyDecision_method, mkReq_method]

theorem reqOf_headers (srv : Server) (p : ParsedReq) : (reqOf srv p).headers = p.headers := by
  rw [reqOf, applyDecision_headers, mkReq_headers]

theorem suppressSeam_explicit (srv : Server) (p : ParsedReq) (hs : suppressSeam srv p = .ret true) :
    ∃ h, (decisionOf srv p).userHandler? = some h ∧
      (((h (reqOf srv p) prefilled).threw = false ∧ (h (reqOf srv p) prefilled).res.suppress = true) ∨
       srv.suppressHook (reqOf srv p) (dispatched srv p).1 = .ret true) := by
  have hran : (dispatched srv p).2 = (decisionOf srv p).userHandler?.isSome := dispatch_ran _ _
  unfold suppressSeam at hs
  cases hh : (decisionOf srv p).userHandler? with
  | none => rw [hran, hh] at hs; cases hs
  | some h =>
    refine ⟨h, rfl, ?_⟩
    have hres : (dispatched srv p).1 = invokeWithSafetyNet h (reqOf srv p) prefilled := dispatch_userHandler _ _ h hh
    rw [hran, hh, hres] at hs
    rw [hres]
    simp only [Option.isSome_some, if_true] at hs
    cases ht : (h (reqOf srv p) prefilled).threw with
    | true =>
      obtain ⟨_, _, _, hsup⟩ := safetyNet_threw h (reqOf srv p) prefilled ht
      simp only [hsup, Bool.false_eq_true, if_false] at hs
      exact Or.inr hs
    | false =>
      rw [safetyNet_returned h _ _ ht] at hs ⊢
      cases hsup : (h (reqOf srv p) prefilled).res.suppress with
      | true => exact Or.inl ⟨rfl, rfl⟩
      | false => simp only [hsup, Bool.false_eq_true, if_false] at hs; exact Or.inr hs

/-- does one of the `n` passes starting at pass `k` throw? -/
def drainThrows (hook : Nat → Seam Unit) : Nat → Nat → Bool
  | 0, _ => false
  | n + 1, k =>
    match hook k with
    | .ret _ => drainThrows hook n (k + 1)
    | .threw _ => true

/-- does the drain loop of the upgrade arm end in a Close?  (some pass's `onUpgradedData` threw, transport still up) -/
def drainCloses (srv : Server) (env : Env) : Bool := drainThrows srv.drainHook env.drainChunks 0 && env.upAtClose

theorem drainGuarded_eq : Gen.HttpRespond.upgradeDrainGuarded = true := by decide

theorem drainLoop_eq (hook : Nat → Seam Unit) (env : Env) (n k : Nat) :
    drainLoop hook env n k = if drainThrows hook n k && env.upAtClose then [.close] else [] := by
  fun_induction drainThrows hook n k with
  | case1 => rfl
  | case2 n k u hk ih => simp only [drainLoop, hk]; exact ih
  | case3 n k std hk => simp only [drainLoop, hk, drainGuarded_eq, if_true, Bool.true_and]

theorem drainCalls_eq (srv : Server) (env : Env) : drainCalls srv env = if drainCloses srv env then [.close] else [] := by
  unfold drainCalls drainCloses
  exact drainLoop_eq _ _ _ _

theorem drainThrows_iff (hook : Nat → Seam Unit) (n k : Nat) :
    drainThrows hook n k = true ↔ ∃ j, k ≤ j ∧ j < k + n ∧ ∃ std, hook j = .threw std := by
  fun_induction drainThrows hook n k with
  | case1 k => simp; intro j h1 h2; omega
  | case2 n k u hk ih =>
    rw [ih]
    constructor
    · rintro ⟨j, h1, h2, h3⟩; exact ⟨j, by omega, by omega, h3⟩
    · rintro ⟨j, h1, h2, std, h3⟩
      have : j ≠ k := by intro e; subst e; rw [hk] at h3; cases h3
      exact ⟨j, by omega, by omega, std, h3⟩
  | case3 n k std hk => simp only [true_iff]; exact ⟨k, Nat.le_refl _, by omega, std, hk⟩

theorem drainCloses_iff (srv : Server) (env : Env) :
    drainCloses srv env = true ↔ (∃ k, k < env.drainChunks ∧ ∃ std, srv.drainHook k = .threw std) ∧ env.upAtClose = true := by
  unfold drainCloses
  rw [Bool.and_eq_true, drainThrows_iff]
  constructor
  · rintro ⟨⟨j, _, h2, h3⟩, hc⟩; exact ⟨⟨j, by omega, h3⟩, hc⟩
  · rintro ⟨⟨j, h2, h3⟩, hc⟩; exact ⟨⟨j, Nat.zero_le _, by omega, h3⟩, hc⟩

theorem drainHookCalls_le (hook : Nat → Seam Unit) (n k : Nat) : drainHookCalls hook n k ≤ n := by
  fun_induction drainHookCalls hook n k with
  | case1 => exact Nat.le_refl _
  | case2 n k u hk ih => omega
  | case3 n k std hk => omega

theorem drainHookCalls_no_throw (hook : Nat → Seam Unit) (n k : Nat) (h : drainThrows hook n k = false) :
    drainHookCalls hook n k = n := by
  fun_induction drainHookCalls hook n k with
  | case1 => rfl
  | case2 n k u hk ih => simp only [drainThrows, hk] at h; rw [ih h]; omega
  | case3 n k std hk => simp [drainThrows, hk] at h

/-- at most one `sendAsync`, at most one `close`, and never a `sendAsync` after a `close` -/
def CallsShaped (l : List Call) : Prop := l = [] ∨ l = [.close] ∨ ∃ w, l = [.sendAsync w] ∨ l = [.sendAsync w, .close]

theorem CallsShaped.nil : CallsShaped [] := Or.inl rfl

theorem CallsShaped.close : CallsShaped [.close] := Or.inr (Or.inl rfl)

/-- the shape of every send block: the Send, then the Close under its own guard -/
theorem CallsShaped.send (w : Bytes) (c : Prop) [Decidable c] : CallsShaped (.sendAsync w :: if c then [.close] else []) :=
  pred_ite (Q := fun l => CallsShaped (_ :: l)) (Or.inr (Or.inr ⟨w, Or.inr rfl⟩)) (Or.inr (Or.inr ⟨w, Or.inl rfl⟩))

theorem errorArm_shaped (env : Env) (st : Nat) (head : Bool) : CallsShaped (errorArm env st head) :=
  pred_ite .nil (.send _ _)

theorem seamThrew_shaped (env : Env) (std : Bool) (head : Bool) : CallsShaped (seamThrew env std head) :=
  pred_ite (errorArm_shaped _ _ _) .nil

theorem normalSend_shaped (env : Env) (w : Bytes) (c : Bool) : CallsShaped (normalSend env w c) :=
  pred_ite .nil (.send _ _)

/-- Case analysis of the control flow of `processHttpRequest` — every arm, every guard, every seam outcome: the calls are
    `[]`, `[close]` (upgrade arm: transport down at the send, a drain pass threw), `[sendAsync w]` or `[sendAsync w, close]`. -/
theorem processCalls_shape (srv : Server) (env : Env) (data : Bytes) : CallsShaped (processCalls srv env data).1 := by
  unfold processCalls
  refine pred_ite (Q := fun r : List Call × Bool => CallsShaped r.1) (pred_ite (Q := CallsShaped) (.send _ _) .nil) ?_
  split
  · exact errorArm_shaped _ _ _
  · dsimp only
    split
    · exact seamThrew_shaped _ _ _
    · rw [drainCalls_eq]
      -- the one arm where a Close can stand alone: transport down at the Send, and then a drain pass threw
      exact pred_ite (Q := fun l => CallsShaped (l ++ _)) (pred_ite .close .nil) (.send _ _)
    · generalize dispatch _ _ = dr
      obtain ⟨res, ran⟩ := dr
      dsimp only
      refine pred_ite (Q := fun r : List Call × Bool => CallsShaped r.1) .nil ?_
      split
      · exact seamThrew_shaped _ _ _
      · exact .nil
      · exact normalSend_shaped _ _ _

/-- the engine commands that result from the calls: a refused `sendAsync` enqueues nothing -/
def engineCmds (env : Env) : List Call → List Cmd
  | [] => []
  | .sendAsync w :: rest => (if env.enqueueOk then [.send w] else []) ++ engineCmds env rest
  | .close :: rest => .close :: engineCmds env rest

/-- the possible shapes of what one `processHttpRequest` call enqueues -/
def WellShaped (cs : List Cmd) : Prop :=
  cs = [] ∨ cs = [.close] ∨ ∃ w, cs = [.send w] ∨ cs = [.send w, .close]

theorem outcome_wellShaped (o : Outcome) : WellShaped o.cmds := by
  cases o with
  | respond w c => cases c <;> simp [Outcome.cmds, WellShaped]
  | sendFailed c => cases c <;> simp [Outcome.cmds, WellShaped]
  | suppressed => simp [Outcome.cmds, WellShaped]
  | nothing => simp [Outcome.cmds, WellShaped]

def countSends (cs : List Cmd) : Nat := (cs.filter (fun c => match c with | .send _ => true | .close => false)).length

theorem wellShaped_countSends {cs : List Cmd} (h : WellShaped cs) : countSends cs ≤ 1 := by
  rcases h with h | h | ⟨w, h | h⟩ <;> subst h <;> simp [countSends]

theorem outcomeOf_cmds (env : Env) (t : List Call × Bool) (h : CallsShaped t.1) : (outcomeOf env t).cmds = engineCmds env t.1 := by
  unfold outcomeOf
  rcases h with h | h | ⟨w, h | h⟩ <;> rw [h]
  · cases t.2 <;> rfl
  · rfl
  · cases he : env.enqueueOk <;> simp [Outcome.cmds, engineCmds, he]
  · cases he : env.enqueueOk <;> simp [Outcome.cmds, engineCmds, he]

/-- the shutdown arm as the engine sees it: the Send and the Close each in its own `_mutex` section under `_transport && sameTransport()` -/
def shutdownOutcome (env : Env) (head : Bool) : Outcome :=
  if env.transportAtEntry then
    (if env.enqueueOk then .respond (shutdownWire head) env.transportAtShutdownClose else .sendFailed env.transportAtShutdownClose)
  else .nothing

/-- the upgrade arm as the engine sees it: the hook's response, and a Close only from the buffer drain -/
def upgradeOutcome (srv : Server) (env : Env) (u : Resp) : Outcome :=
  if !env.upAtSend then (if drainCloses srv env then .sendFailed true else .nothing)
  else if !env.enqueueOk then .sendFailed (drainCloses srv env)
  else .respond (toWire u.status (statusText u.status) (hSet u.headers (ascii "Server") (ascii Gen.HttpRespond.serverHeader)) u.body)
    (drainCloses srv env)

theorem outcomeOf_send (env : Env) (w : Bytes) (c : Bool) :
    outcomeOf env (.sendAsync w :: (if c then [.close] else []), false) =
      if env.enqueueOk then .respond w c else .sendFailed c := by
  cases c <;> rfl

theorem outcomeOf_errorArm (env : Env) (status : Nat) (head : Bool) :
    outcomeOf env (errorArm env status head, false) = sendBlock env (errorWire status head) true := by
  unfold errorArm sendBlock
  cases env.upAtSend
  · rfl
  · exact outcomeOf_send env _ env.upAtClose

theorem outcomeOf_normalSend (env : Env) (w : Bytes) (c : Bool) : outcomeOf env (normalSend env w c, false) = sendBlock env w c := by
  unfold normalSend sendBlock
  cases env.upAtSend
  · rfl
  · refine (outcomeOf_send env w _).trans ?_
    cases env.enqueueOk <;> rfl

/-- `processHttpRequest` as one decision tree over the parse, the two seams and the dispatch, each leaf a send block as the engine
    sees it (the error arm's is a `sendBlock` that always asks for the Close).  Every statement about `process` on one arm is
    this equation with the arm's hypotheses rewritten in, every one about all arms a case split on it (those about the call list
    are `processCalls_shape`, `processCalls_upgrade`).  The `500` of a throwing seam is `Gen.HttpRespond.errDefaultStatus`, which
    `seamThrew` passes to the error arm, evaluated. -/
theorem process_eq (srv : Server) (env : Env) (data : Bytes) :
    process srv env data =
      match env.shutdownAtEntry with
      | true => shutdownOutcome env (isHeadRaw data)
      | false =>
        match fromWireFormat data with
        | .error e => sendBlock env (errorWire (errStatus e) (isHeadRaw data)) true
        | .ok p =>
          match upgradeSeam srv p with
          | .threw _ => sendBlock env (errorWire 500 (isHeadRaw data)) true
          | .ret (some u) => upgradeOutcome srv env u
          | .ret none =>
            match suppressSeam srv p with
            | .threw _ => sendBlock env (errorWire 500 (isHeadRaw data)) true
            | .ret true => .suppressed
            | .ret false =>
              sendBlock env (buildWire env (reqOf srv p) (dispatched srv p).1).1 (buildWire env (reqOf srv p) (dispatched srv p).1).2 := by
  have hg : Gen.HttpRespond.errCatchesAll = true := rfl
  unfold process processCalls upgradeSeam suppressSeam dispatched reqOf decisionOf
  cases env.shutdownAtEntry with
  | true =>
    unfold shutdownOutcome
    cases env.transportAtEntry
    · rfl
    · exact outcomeOf_send env _ env.transportAtShutdownClose
  | false =>
    simp only [Bool.false_eq_true, if_false]
    cases fromWireFormat data with
    | error e => cases e <;> exact outcomeOf_errorArm env _ _
    | ok p =>
      simp only
      generalize (if hasUpgradeHeader (mkReq p).headers = true then srv.upgradeHook (mkReq p) else Seam.ret none) = us
      rcases us with (_ | u) | std
      · simp only
        generalize dispatch _ _ = dr
        obtain ⟨res, ran⟩ := dr
        cases ran <;> cases res.suppress <;> simp only [Bool.false_and, Bool.true_and, Bool.false_eq_true, if_false, if_true]
        · exact outcomeOf_normalSend env _ _
        · exact outcomeOf_normalSend env _ _
        · cases srv.suppressHook _ res with
          | threw std => simp only [seamThrew, hg, Bool.or_true, if_true]; exact outcomeOf_errorArm env _ _
          | ret b => cases b <;> first | exact outcomeOf_normalSend env _ _ | rfl
        · rfl
      · simp only [drainCalls_eq, upgradeOutcome]
        cases env.upAtSend
        · cases drainCloses srv env <;> rfl
        · refine (outcomeOf_send env _ (drainCloses srv env)).trans ?_
          cases env.enqueueOk <;> rfl
      · simp only [seamThrew, hg, Bool.or_true, if_true]; exact outcomeOf_errorArm env _ _

theorem processCalls_upgrade (srv : Server) (env : Env) (data : Bytes) (p : ParsedReq) (u : Resp)
    (h : env.shutdownAtEntry = false) (hp : fromWireFormat data = .ok p) (hu : upgradeSeam srv p = .ret (some u)) :
    processCalls srv env data =
      ((if !env.upAtSend then []
        else [.sendAsync (toWire u.status (statusText u.status)
                (hSet u.headers (ascii "Server") (ascii Gen.HttpRespond.serverHeader)) u.body)]) ++
       (if drainCloses srv env then [.close] else []), false) := by
  unfold upgradeSeam at hu
  simp [processCalls, h, hp, hu, drainCalls_eq]

theorem upgradeOutcome_up (srv : Server) (env : Env) (u : Resp) (h2 : env.upAtSend = true) (h3 : env.enqueueOk = true) :
    upgradeOutcome srv env u =
      .respond (toWire u.status (statusText u.status) (hSet u.headers (ascii "Server") (ascii Gen.HttpRespond.serverHeader)) u.body)
        (drainCloses srv env) := by
  simp [upgradeOutcome, h2, h3]

theorem shutdownOutcome_respond {env : Env} {head : Bool} {w : Bytes} {c : Bool} (h : shutdownOutcome env head = .respond w c) :
    w = shutdownWire head := by
  unfold shutdownOutcome at h
  cases ht : env.transportAtEntry <;> cases he : env.enqueueOk <;> simp [ht, he] at h
  exact h.1.symm

theorem sendBlock_up (env : Env) (w : Bytes) (c : Bool) (h2 : env.upAtSend = true) (h3 : env.enqueueOk = true) :
    sendBlock env w c = .respond w (c && env.upAtClose) := by
  simp [sendBlock, h2, h3]

theorem sendBlock_up_close (env : Env) (w : Bytes) (h2 : env.upAtSend = true) (h3 : env.enqueueOk = true) (h4 : env.upAtClose = true) :
    sendBlock env w true = .respond w true := by
  rw [sendBlock_up env w true h2 h3, h4]; rfl

theorem sendBlock_respond {env : Env} {w w' : Bytes} {c c' : Bool} (h : sendBlock env w c = .respond w' c') : w' = w := by
  unfold sendBlock at h
  cases hs : env.upAtSend <;> cases he : env.enqueueOk <;> simp [hs, he] at h
  exact h.1.symm

theorem process_normal_up (srv : Server) (env : Env) (data : Bytes) (p : ParsedReq)
    (h1 : env.shutdownAtEntry = false) (h2 : env.upAtSend = true) (h3 : env.enqueueOk = true)
    (hp : fromWireFormat data = .ok p) (hu : upgradeSeam srv p = .ret none) (hs : suppressSeam srv p = .ret false) :
    process srv env data = .respond (buildWire env (reqOf srv p) (dispatched srv p).1).1
      ((buildWire env (reqOf srv p) (dispatched srv p).1).2 && env.upAtClose) := by
  rw [process_eq]
  simp only [h1, hp, hu, hs]
  exact sendBlock_up env _ _ h2 h3

theorem process_up_cases (srv : Server) (env : Env) (data : Bytes)
    (h1 : env.shutdownAtEntry = false) (h2 : env.upAtSend = true) (h3 : env.enqueueOk = true) :
    (∃ w c, process srv env data = .respond w c) ∨
    (process srv env data = .suppressed ∧
      ∃ p, fromWireFormat data = .ok p ∧ upgradeSeam srv p = .ret none ∧ suppressSeam srv p = .ret true) := by
  rw [process_eq]
  simp only [h1]
  split
  · exact Or.inl ⟨_, _, sendBlock_up env _ _ h2 h3⟩
  · split
    · exact Or.inl ⟨_, _, sendBlock_up env _ _ h2 h3⟩
    · exact Or.inl ⟨_, _, upgradeOutcome_up srv env _ h2 h3⟩
    · split
      · exact Or.inl ⟨_, _, sendBlock_up env _ _ h2 h3⟩
      · exact Or.inr ⟨rfl, _, ‹_›, ‹_›, ‹_›⟩
      · exact Or.inl ⟨_, _, sendBlock_up env _ _ h2 h3⟩

/-- The wire of a response, whichever arm sent it: the shutdown arm's 503, an error arm's, the upgrade hook's own, or the normal
    path's. -/
theorem process_respond_wire (srv : Server) (env : Env) (data w : Bytes) (c : Bool) (hr : process srv env data = .respond w c) :
    w = shutdownWire (isHeadRaw data) ∨ (∃ s, w = errorWire s (isHeadRaw data)) ∨
    (∃ p u, fromWireFormat data = .ok p ∧ upgradeSeam srv p = .ret (some u)) ∨
    ∃ p, fromWireFormat data = .ok p ∧ w = (buildWire env (reqOf srv p) (dispatched srv p).1).1 := by
  rw [process_eq] at hr
  split at hr
  · exact .inl (shutdownOutcome_respond hr)
  · split at hr
    · exact .inr (.inl ⟨_, sendBlock_respond hr⟩)
    · rename_i p hp
      split at hr
      · exact .inr (.inl ⟨_, sendBlock_respond hr⟩)
      · rename_i u hu
        exact .inr (.inr (.inl ⟨p, u, hp, hu⟩))
      · split at hr
        · exact .inr (.inl ⟨_, sendBlock_respond hr⟩)
        · cases hr
        · exact .inr (.inr (.inr ⟨p, hp, sendBlock_respond hr⟩))

/-- the two headers `processHttpRequest` adds last -/
def finalHeaders (h : Headers) (conn : Bytes) : Headers :=
  hSet (hSet h (ascii "Server") (ascii Gen.HttpRespond.serverHeader)) (ascii "Connection") conn

theorem buildWire_eq (env : Env) (req : Req) (res : Resp) :
    buildWire env req res =
      (toWire (headStrip req.method res).status (statusText (headStrip req.method res).status)
         (finalHeaders (headStrip req.method res).headers (connectionDecision env.sess req.headers).2)
         (headStrip req.method res).body,
       (connectionDecision env.sess req.headers).1) := rfl

theorem finalKeys_ne : ciEq (ascii "Connection") kCL = false ∧ ciEq (ascii "Server") kCL = false ∧
    ciEq (ascii "Connection") (ascii "Server") = false := by
  unfold kCL
  repeat rw [ascii_ofList]
  decide +kernel

theorem finalHeaders_cl (h : Headers) (c : Bytes) : hFind (finalHeaders h c) kCL = hFind h kCL := by
  unfold finalHeaders
  rw [hFind_hSet_ne _ _ _ _ finalKeys_ne.1, hFind_hSet_ne _ _ _ _ finalKeys_ne.2.1]

theorem finalHeaders_connection (h : Headers) (c : Bytes) : hFind (finalHeaders h c) (ascii "Connection") = some c := by
  unfold finalHeaders
  exact hFind_hSet_self _ _ _

theorem finalHeaders_server (h : Headers) (c : Bytes) :
    hFind (finalHeaders h c) (ascii "Server") = some (ascii Gen.HttpRespond.serverHeader) := by
  unfold finalHeaders
  rw [hFind_hSet_ne _ _ _ _ finalKeys_ne.2.2]
  exact hFind_hSet_self _ _ _

theorem headStrip_status (m : Method) (r : Resp) : (headStrip m r).status = r.status := by
  unfold headStrip; split <;> rfl

theorem headStrip_head (r : Resp) : (headStrip .HEAD r).body = [] := by
  simp [headStrip]

theorem headStrip_headers (m : Method) (r : Resp) (hb : bodylessStatus r.status = false) : (headStrip m r).headers = r.headers := by
  unfold headStrip
  split <;> simp [hb]

theorem headStrip_bodyless (m : Method) (r : Resp) (hb : bodylessStatus r.status = true) :
    (headStrip m r).body = [] ∧ hFind (headStrip m r).headers kCL = none := by
  have hg : Gen.HttpRespond.bodylessAllMethods = true := by decide
  simp [headStrip, hb, hg, kCL, hFind_hErase_self]

theorem headStrip_id (m : Method) (r : Resp) (hm : m ≠ .HEAD) (hb : bodylessStatus r.status = false) : headStrip m r = r := by
  simp [headStrip, hm, hb]

theorem buildWire_content_length (env : Env) (req : Req) (res : Resp)
    (hc : ApiConsistent res) (hm : req.method ≠ .HEAD) (hb : bodylessStatus res.status = false) :
    ∃ H, (buildWire env req res).1 = toWire res.status (statusText res.status) H res.body ∧
         hFind H kCL = some (dec res.body.length) := by
  refine ⟨finalHeaders res.headers (connectionDecision env.sess req.headers).2, ?_, ?_⟩
  · rw [buildWire_eq, headStrip_id _ _ hm hb]
  · rw [finalHeaders_cl]; exact hc

theorem buildWire_head (env : Env) (req : Req) (res : Resp) (hm : req.method = .HEAD) :
    ∃ H, (buildWire env req res).1 = toWire res.status (statusText res.status) H [] ∧
         (bodylessStatus res.status = true → hFind H kCL = none) ∧
         (bodylessStatus res.status = false → hFind H kCL = hFind res.headers kCL) := by
  refine ⟨finalHeaders (headStrip .HEAD res).headers (connectionDecision env.sess req.headers).2, ?_, ?_, ?_⟩
  · rw [buildWire_eq, hm, headStrip_status, headStrip_head]
  · intro hb; rw [finalHeaders_cl]; exact (headStrip_bodyless .HEAD res hb).2
  · intro hb; rw [finalHeaders_cl, headStrip_headers .HEAD res hb]

theorem buildWire_bodyless (env : Env) (req : Req) (res : Resp) (hb : bodylessStatus res.status = true) :
    ∃ H, (buildWire env req res).1 = toWire res.status (statusText res.status) H [] ∧ hFind H kCL = none := by
  refine ⟨finalHeaders (headStrip req.method res).headers (connectionDecision env.sess req.headers).2, ?_, ?_⟩
  · rw [buildWire_eq, headStrip_status, (headStrip_bodyless req.method res hb).1]
  · rw [finalHeaders_cl]; exact (headStrip_bodyless req.method res hb).2

theorem connectionDecision_snd (sess : Option SessionInfo) (h : Headers) :
    (connectionDecision sess h).2 = if (connectionDecision sess h).1 then ascii "close" else ascii "keep-alive" := by
  have ite_pair : ∀ (c : Prop) [Decidable c] (a b : Bytes),
      (if c then (true, a) else (false, b)).2 = if (if c then (true, a) else (false, b)).1 then a else b := by
    intro c _ a b; split <;> rfl
  -- `connectionDecision` ends in `if … then (true, ascii connClose) else (false, ascii connKeepAlive)`; unifying with that is where
  -- `Gen.HttpRespond.connClose` and `connKeepAlive` are unfolded to the literals `"close"` and `"keep-alive"`
  exact ite_pair _ _ _

/-- the list of OWS-trimmed, case-folded tokens of a Connection value -/
def connTokens (v : Bytes) : List Bytes := (splitOn 44 v).map (fun t => lower (trim t))

theorem wantsClose_iff (v : Bytes) : wantsClose v = true ↔ ascii "close" ∈ connTokens v := by
  have hg : Gen.HttpRespond.connectionTokenised = true := by decide
  have hc : ascii Gen.HttpRespond.closeToken = ascii "close" := rfl
  simp only [wantsClose, hg, if_true, hc, connTokens, List.any_eq_true, List.mem_map, beq_iff_eq]

theorem connectionDecision_close_of_token (sess : Option SessionInfo) (h : Headers) (v : Bytes)
    (hv : hFind h (ascii "Connection") = some v) (ht : ascii "close" ∈ connTokens v) :
    (connectionDecision sess h).1 = true := by
  have := (wantsClose_iff v).2 ht
  simp [connectionDecision, hv, this]

theorem connectionDecision_default (h : Headers) (hv : hFind h (ascii "Connection") = none) :
    connectionDecision (some {}) h = (false, ascii "keep-alive") := by
  have h1 : ((({} : SessionInfo).httpVersion == ascii Gen.HttpRespond.sessionCloseVersion) || !({} : SessionInfo).connectionKeepAlive) = false := by
    decide +kernel
  simp only [connectionDecision, hv, h1]
  rfl

theorem buildWire_connection (env : Env) (req : Req) (res : Resp) :
    ∃ H, (buildWire env req res).1 = toWire res.status (statusText res.status) H (headStrip req.method res).body ∧
      hFind H (ascii "Connection") =
        some (if (connectionDecision env.sess req.headers).1 then ascii "close" else ascii "keep-alive") := by
  refine ⟨finalHeaders (headStrip req.method res).headers (connectionDecision env.sess req.headers).2, ?_, ?_⟩
  · rw [buildWire_eq, headStrip_status]
  · rw [finalHeaders_connection]
    exact congrArg some (connectionDecision_snd _ _)

/-- The normal path with the server up: the `Connection` field of the response and the Close that follows it are both the Connection
    decision, taken from the session and the request's own `Connection` field. -/
theorem process_normal_connection (srv : Server) (env : Env) (data : Bytes) (p : ParsedReq)
    (h1 : env.shutdownAtEntry = false) (h2 : env.upAtSend = true) (h3 : env.enqueueOk = true)
    (hp : fromWireFormat data = .ok p) (hu : upgradeSeam srv p = .ret none) (hs : suppressSeam srv p = .ret false) :
    ∃ H body, process srv env data =
        .respond (toWire (dispatched srv p).1.status (statusText (dispatched srv p).1.status) H body)
          ((connectionDecision env.sess p.headers).1 && env.upAtClose) ∧
      hFind H (ascii "Connection") =
        some (if (connectionDecision env.sess p.headers).1 then ascii "close" else ascii "keep-alive") := by
  obtain ⟨H, hw, hc⟩ := buildWire_connection env (reqOf srv p) (dispatched srv p).1
  rw [reqOf_headers] at hc
  exact ⟨H, _, by rw [process_normal_up srv env data p h1 h2 h3 hp hu hs, hw, buildWire_eq, reqOf_headers], hc⟩

theorem errorWire_eq (s : Nat) (head : Bool) :
    errorWire s head = toWire s (statusText s)
      [(ascii "Connection", ascii "close"), (ascii "Content-Length", dec (statusText s).length), (ascii "Content-Type", ascii "text/plain")]
      (if head then [] else statusText s) := by
  unfold errorWire
  simp only [Gen.HttpRespond.errContentType, Gen.HttpRespond.errConnection]
  repeat rw [ascii_ofList]
  -- `rfl` runs the `hSet`s: the fields stand in the map's key order, not in the order of the assignments
  rfl

theorem shutdownWire_eq (head : Bool) :
    shutdownWire head = toWire 503 (ascii "Service Unavailable")
      [(ascii "Connection", ascii "close"), (ascii "Content-Length", ascii "20"), (ascii "Content-Type", ascii "text/plain")]
      (if head then [] else ascii "Server Shutting Down") := by
  unfold shutdownWire
  simp only [Gen.HttpRespond.shutdownBody, Gen.HttpRespond.shutdownText]
  repeat rw [ascii_ofList]
  -- as in `errorWire_eq`; `20` is `dec` of the length of `Gen.HttpRespond.shutdownBody`
  rfl

theorem overflowWire_eq (head : Bool) :
    overflowWire head = toWire 503 (ascii "Service Unavailable")
      [(ascii "Connection", ascii "close"), (ascii "Content-Length", ascii "38"), (ascii "Content-Type", ascii "text/plain"),
       (ascii "Server", ascii "Iora HttpServer")]
      (if head then [] else ascii "Server overloaded - please retry later") := by
  -- `overflowWire` takes `Gen.HttpRespond.overflowBody` as the body unless it is empty (`hb`); `38` is `dec` of its length (`hl`)
  have hb : (ascii "Server overloaded - please retry later").isEmpty = false := by rw [ascii_ofList]; rfl
  have hl : dec (ascii "Server overloaded - please retry later").length = ascii "38" := by
    repeat rw [ascii_ofList]
    decide +kernel
  unfold overflowWire
  simp only [Gen.HttpRespond.overflowBody, hb, Bool.false_eq_true, if_false, hl, Gen.HttpRespond.overflowText,
    Gen.HttpRespond.overflowServer]
  repeat rw [ascii_ofList]
  rfl

end Iora.HttpRespond
