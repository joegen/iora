import IoraModel.Lemmas.DnsName
/-! N1 for C19, encoder side: what `encodeName` writes, and that the uncompressed encoding denotes its labels wherever it
stands in a message (so it decodes back to them); with it the vocabulary of the round-trip theorems: `normQ` (what a question looks
like after `buildQuery` and `parse`) and the legal maximum-length name `longNameMsg`. -/
namespace Iora.Dns
open Iora

theorem encodeWire_length (ls : List Bytes) : (encodeWire ls).length = wire ls + 1 := by
  induction ls with
  | nil => rfl
  | cons l ls ih => simp only [encodeWire, wire, List.length_cons, List.length_append, ih]; omega

theorem denotes_encodeWire {m : Bytes} : ∀ (ls : List Bytes) {o : Nat} {post : Bytes}, ValidLabels ls →
    m.drop o = encodeWire ls ++ post → DenotesH m o ls (o + wire ls + 1) 0
  | [], _, _, _, h => .root (rd_ok_iff.mp (rd_at h))
  | l :: ls, o, post, hv, h => by
    have hl := hv l List.mem_cons_self
    have hb : (b8 l.length).toNat = l.length := b8_toNat_small (by omega)
    have h0 : m.drop o = b8 l.length :: (l ++ (encodeWire ls ++ post)) := by
      rw [h]
      show _ :: ((l ++ _) ++ post) = _
      rw [List.append_assoc]
    have h1 : m.drop (o + 1) = l ++ (encodeWire ls ++ post) := drop_at (x := [_]) h0
    have hlen := length_at h1 (lt_length_at h0)
    have hd := denotes_encodeWire ls (fun x hx => hv x (List.mem_cons_of_mem _ hx)) (drop_at h1)
    have e1 : o + 1 + l.length = o + ((b8 l.length).toNat + 1) := by omega
    have e2 : o + ((b8 l.length).toNat + 1) + wire ls + 1 = o + wire (l :: ls) + 1 := by simp only [wire]; omega
    rw [e1, e2] at hd
    have := DenotesH.label (rd_ok_iff.mp (rd_at h0)) (by omega) (by omega) (by omega) hd
    rwa [hb, slice_at h1] at this

theorem encodeLabels_ok {ls : List Bytes} {w : Bytes} (h : encodeLabels ls = .ok w) :
    w = encodeWire ls ∧ ∀ l ∈ ls, l.length ≤ 63 := by
  induction ls generalizing w with
  | nil => cases h; exact ⟨rfl, nofun⟩
  | cons l ls ih =>
    simp only [encodeLabels] at h
    split at h
    · cases h
    · rename_i hl
      split at h
      · cases h
      · rename_i rest hr
        cases h
        obtain ⟨e, hall⟩ := ih hr
        exact ⟨by rw [e]; rfl, List.forall_mem_cons.mpr ⟨Nat.le_of_not_lt hl, hall⟩⟩

theorem labelsOf_nonempty (name : Bytes) : ∀ l ∈ labelsOf name, 1 ≤ l.length := by
  intro l hl
  have := (List.mem_filter.mp hl).2
  cases l with
  | nil => cases this
  | cons _ _ => exact Nat.succ_pos _

theorem encodeName_ok {name w : Bytes} (h : encodeName name = .ok w) :
    w = encodeWire (labelsOf name) ∧ ValidLabels (labelsOf name) ∧ wire (labelsOf name) + 1 ≤ 255 := by
  unfold encodeName at h
  split at h
  · rename_i hsp
    cases h
    have : labelsOf name = [] := by
      rcases hsp with h1 | h1
      · rw [List.isEmpty_iff.mp h1]; rfl
      · rw [h1]; rfl
    rw [this]
    exact ⟨rfl, nofun, by decide⟩
  · split at h
    · cases h
    · rename_i enc he
      -- the length test counts the root octet (regenerated fact `Gen.Dns.encodeLimitCountsRoot`)
      rw [if_pos (show Gen.Dns.encodeLimitCountsRoot = true from rfl)] at h
      split at h
      · cases h
      · rename_i hlen
        cases h
        obtain ⟨e, hall⟩ := encodeLabels_ok he
        rw [e, encodeWire_length] at hlen
        exact ⟨e, fun l hl => ⟨labelsOf_nonempty name l hl, hall l hl⟩, Nat.le_of_not_lt hlen⟩

theorem wellFormed_encodeName {name w m post : Bytes} {o : Nat} (h : encodeName name = .ok w) (hm : m.drop o = w ++ post) :
    WellFormedName m o (labelsOf name) (o + w.length) := by
  obtain ⟨rfl, hv, hw⟩ := encodeName_ok h
  rw [encodeWire_length, ← Nat.add_assoc]
  exact ⟨0, denotes_encodeWire _ hv hm, Nat.zero_le _, hw⟩

/-- what a question looks like after a round trip: empty labels of the name are dropped -/
def normQ (q : Question) : Question := { q with qname := dottedName (labelsOf q.qname) }

/-- a legal name of 255 octets on the wire (RFC 1035 §2.3.4 maximum): labels of 63, 63, 63 and 61 `x`, then the root label -/
def longNameMsg : Bytes :=
  63 :: List.replicate 63 120 ++ (63 :: List.replicate 63 120 ++ (63 :: List.replicate 63 120 ++ (61 :: List.replicate 61 120 ++ [0])))

def longNameLabels : List Bytes := [List.replicate 63 120, List.replicate 63 120, List.replicate 63 120, List.replicate 61 120]

/-- the message is the uncompressed encoding of its labels (a finite fact, evaluated) -/
theorem longName_wellFormed : WellFormedName longNameMsg 0 longNameLabels 255 := by
  have hw : wire longNameLabels = 254 := by decide
  have := denotes_encodeWire (m := longNameMsg) (o := 0) (post := []) longNameLabels
    (show ∀ l ∈ longNameLabels, _ from by decide) (by decide +kernel)
  rw [hw] at this
  exact ⟨0, this, Nat.zero_le _, by rw [hw]; decide⟩

end Iora.Dns
