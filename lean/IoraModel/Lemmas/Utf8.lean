import IoraModel.Model.WsFrame
/-! `isValidUtf8` (the model of `WebSocketFrame::isValidUtf8`) against an independent definition of well-formed
UTF-8: Table 3-7 of the Unicode Standard / RFC 3629 §4, one constructor per table row. -/
namespace Iora.Ws
open Iora

def inR (lo hi : Nat) (x : UInt8) : Prop := lo ≤ x.toNat ∧ x.toNat ≤ hi

/-- Well-formed UTF-8 byte sequences (Unicode Table 3-7). -/
inductive Utf8 : Bytes → Prop where
  | nil : Utf8 []
  | ascii (a : UInt8) (r : Bytes) : inR 0x00 0x7F a → Utf8 r → Utf8 (a :: r)
  | two (a b : UInt8) (r : Bytes) : inR 0xC2 0xDF a → inR 0x80 0xBF b → Utf8 r → Utf8 (a :: b :: r)
  | threeE0 (a b c : UInt8) (r : Bytes) : inR 0xE0 0xE0 a → inR 0xA0 0xBF b → inR 0x80 0xBF c → Utf8 r → Utf8 (a :: b :: c :: r)
  | threeE1 (a b c : UInt8) (r : Bytes) : inR 0xE1 0xEC a → inR 0x80 0xBF b → inR 0x80 0xBF c → Utf8 r → Utf8 (a :: b :: c :: r)
  | threeED (a b c : UInt8) (r : Bytes) : inR 0xED 0xED a → inR 0x80 0x9F b → inR 0x80 0xBF c → Utf8 r → Utf8 (a :: b :: c :: r)
  | threeEE (a b c : UInt8) (r : Bytes) : inR 0xEE 0xEF a → inR 0x80 0xBF b → inR 0x80 0xBF c → Utf8 r → Utf8 (a :: b :: c :: r)
  | fourF0 (a b c d : UInt8) (r : Bytes) : inR 0xF0 0xF0 a → inR 0x90 0xBF b → inR 0x80 0xBF c → inR 0x80 0xBF d → Utf8 r →
      Utf8 (a :: b :: c :: d :: r)
  | fourF1 (a b c d : UInt8) (r : Bytes) : inR 0xF1 0xF3 a → inR 0x80 0xBF b → inR 0x80 0xBF c → inR 0x80 0xBF d → Utf8 r →
      Utf8 (a :: b :: c :: d :: r)
  | fourF4 (a b c d : UInt8) (r : Bytes) : inR 0xF4 0xF4 a → inR 0x80 0x8F b → inR 0x80 0xBF c → inR 0x80 0xBF d → Utf8 r →
      Utf8 (a :: b :: c :: d :: r)

theorem isCont_iff (x : UInt8) : isCont x = true ↔ inR 0x80 0xBF x := by
  simp only [isCont, inR, decide_eq_true_eq]
  omega

/-! `utf8Step` by the class of the lead byte: which branch of the `if` chain is taken (`_eq`; the classes are given
as ranges, so that nothing downstream divides), and, on a tail long enough, when that branch accepts. Both directions
of the comparison with `Utf8` go through these and never open `utf8Step` again. -/

theorem utf8Step_ascii (c : UInt8) (t : Bytes) (h : c.toNat ≤ 0x7F) : utf8Step (c :: t) = some t := by
  unfold utf8Step; exact if_pos h

theorem utf8Step_two_eq (c : UInt8) (t : Bytes) (lo : 0xC0 ≤ c.toNat) (hi : c.toNat ≤ 0xDF) :
    utf8Step (c :: t) = match t with
      | x1 :: r => if !isCont x1 then none else if c.toNat < 0xC2 then none else some r
      | _ => none := by
  unfold utf8Step
  rw [if_neg (by omega), if_pos (by omega)]
  rfl

theorem utf8Step_three_eq (c : UInt8) (t : Bytes) (lo : 0xE0 ≤ c.toNat) (hi : c.toNat ≤ 0xEF) :
    utf8Step (c :: t) = match t with
      | x1 :: x2 :: r =>
        if !isCont x1 || !isCont x2 then none
        else if c.toNat = 0xE0 && x1.toNat < 0xA0 then none
        else if c.toNat = 0xED && x1.toNat ≥ 0xA0 then none
        else some r
      | _ => none := by
  unfold utf8Step
  rw [if_neg (by omega), if_neg (by omega), if_pos (by omega)]
  rfl

theorem utf8Step_four_eq (c : UInt8) (t : Bytes) (lo : 0xF0 ≤ c.toNat) (hi : c.toNat ≤ 0xF7) :
    utf8Step (c :: t) = match t with
      | x1 :: x2 :: x3 :: r =>
        if !isCont x1 || !isCont x2 || !isCont x3 then none
        else if c.toNat = 0xF0 && x1.toNat < 0x90 then none
        else if c.toNat > 0xF4 || (c.toNat = 0xF4 && x1.toNat > 0x8F) then none
        else some r
      | _ => none := by
  unfold utf8Step
  rw [if_neg (by omega), if_neg (by omega), if_neg (by omega), if_pos (by omega)]
  rfl

/-- a continuation byte or `F8..FF` in lead position -/
theorem utf8Step_other (c : UInt8) (t : Bytes) (h : 0x80 ≤ c.toNat ∧ c.toNat ≤ 0xBF ∨ 0xF8 ≤ c.toNat) :
    utf8Step (c :: t) = none := by
  unfold utf8Step
  rw [if_neg (by omega), if_neg (by omega), if_neg (by omega), if_neg (by omega)]

theorem utf8Step_two (c x1 : UInt8) (r' r : Bytes) (lo : 0xC0 ≤ c.toNat) (hi : c.toNat ≤ 0xDF) :
    utf8Step (c :: x1 :: r') = some r ↔ isCont x1 = true ∧ 0xC2 ≤ c.toNat ∧ r' = r := by
  rw [utf8Step_two_eq c _ lo hi]; simp

theorem utf8Step_three (c x1 x2 : UInt8) (r' r : Bytes) (lo : 0xE0 ≤ c.toNat) (hi : c.toNat ≤ 0xEF) :
    utf8Step (c :: x1 :: x2 :: r') = some r ↔ (isCont x1 = true ∧ isCont x2 = true) ∧
      (c.toNat = 0xE0 → 0xA0 ≤ x1.toNat) ∧ (c.toNat = 0xED → x1.toNat < 0xA0) ∧ r' = r := by
  rw [utf8Step_three_eq c _ lo hi]; simp

theorem utf8Step_four (c x1 x2 x3 : UInt8) (r' r : Bytes) (lo : 0xF0 ≤ c.toNat) (hi : c.toNat ≤ 0xF7) :
    utf8Step (c :: x1 :: x2 :: x3 :: r') = some r ↔ ((isCont x1 = true ∧ isCont x2 = true) ∧ isCont x3 = true) ∧
      (c.toNat = 0xF0 → 0x90 ≤ x1.toNat) ∧ (c.toNat ≤ 0xF4 ∧ (c.toNat = 0xF4 → x1.toNat ≤ 0x8F)) ∧ r' = r := by
  rw [utf8Step_four_eq c _ lo hi]; simp

theorem isValidUtf8_nil : isValidUtf8 [] = true := by rw [isValidUtf8]

theorem isValidUtf8_cons (c : UInt8) (t : Bytes) :
    isValidUtf8 (c :: t) = (match utf8Step (c :: t) with | none => false | some r => isValidUtf8 r) := by
  rw [isValidUtf8]
  split <;> rename_i h <;> simp [h]

theorem isValidUtf8_step {c : UInt8} {t r : Bytes} (h : utf8Step (c :: t) = some r) :
    isValidUtf8 (c :: t) = isValidUtf8 r := by
  rw [isValidUtf8_cons, h]

/-- one accepted step of the validator consumes exactly one well-formed scalar value: the row of Table 3-7 is picked
by the lead byte -/
theorem utf8Step_sound (c : UInt8) (t r : Bytes) (h : utf8Step (c :: t) = some r) (hr : Utf8 r) : Utf8 (c :: t) := by
  by_cases h1 : c.toNat ≤ 0x7F
  · rw [utf8Step_ascii c t h1] at h; cases h
    exact .ascii c _ ⟨Nat.zero_le _, h1⟩ hr
  by_cases h2 : c.toNat ≤ 0xBF
  · rw [utf8Step_other c t (.inl ⟨by omega, h2⟩)] at h; cases h
  by_cases h3 : c.toNat ≤ 0xDF
  · have lo : 0xC0 ≤ c.toNat := by omega
    match t, h with
    | [], h => rw [utf8Step_two_eq c _ lo h3] at h; cases h
    | x1 :: r', h =>
      obtain ⟨c1, hlo, rfl⟩ := (utf8Step_two c x1 r' r lo h3).mp h
      exact .two c x1 _ ⟨hlo, h3⟩ ((isCont_iff x1).mp c1) hr
  by_cases h4 : c.toNat ≤ 0xEF
  · have lo : 0xE0 ≤ c.toNat := by omega
    match t, h with
    | [], h => rw [utf8Step_three_eq c _ lo h4] at h; cases h
    | [_], h => rw [utf8Step_three_eq c _ lo h4] at h; cases h
    | x1 :: x2 :: r', h =>
      obtain ⟨⟨c1, c2⟩, hE0, hED, rfl⟩ := (utf8Step_three c x1 x2 r' r lo h4).mp h
      have c1 := (isCont_iff x1).mp c1
      have c2 := (isCont_iff x2).mp c2
      by_cases e0 : c.toNat = 0xE0
      · exact .threeE0 c x1 x2 _ ⟨lo, Nat.le_of_eq e0⟩ ⟨hE0 e0, c1.2⟩ c2 hr
      by_cases ed : c.toNat = 0xED
      · exact .threeED c x1 x2 _ ⟨Nat.le_of_eq ed.symm, Nat.le_of_eq ed⟩ ⟨c1.1, Nat.le_of_lt_succ (hED ed)⟩ c2 hr
      by_cases ee : 0xEE ≤ c.toNat
      · exact .threeEE c x1 x2 _ ⟨ee, h4⟩ c1 c2 hr
      · exact .threeE1 c x1 x2 _ ⟨by omega, by omega⟩ c1 c2 hr
  by_cases h5 : c.toNat ≤ 0xF7
  · have lo : 0xF0 ≤ c.toNat := by omega
    match t, h with
    | [], h => rw [utf8Step_four_eq c _ lo h5] at h; cases h
    | [_], h => rw [utf8Step_four_eq c _ lo h5] at h; cases h
    | [_, _], h => rw [utf8Step_four_eq c _ lo h5] at h; cases h
    | x1 :: x2 :: x3 :: r', h =>
      obtain ⟨⟨⟨c1, c2⟩, c3⟩, hF0, ⟨hmax, hF4⟩, rfl⟩ := (utf8Step_four c x1 x2 x3 r' r lo h5).mp h
      have c1 := (isCont_iff x1).mp c1
      have c2 := (isCont_iff x2).mp c2
      have c3 := (isCont_iff x3).mp c3
      by_cases f0 : c.toNat = 0xF0
      · exact .fourF0 c x1 x2 x3 _ ⟨lo, Nat.le_of_eq f0⟩ ⟨hF0 f0, c1.2⟩ c2 c3 hr
      by_cases f4 : c.toNat = 0xF4
      · exact .fourF4 c x1 x2 x3 _ ⟨Nat.le_of_eq f4.symm, hmax⟩ ⟨c1.1, hF4 f4⟩ c2 c3 hr
      · exact .fourF1 c x1 x2 x3 _ ⟨by omega, by omega⟩ c1 c2 c3 hr
  · rw [utf8Step_other c t (.inr (by omega))] at h; cases h

theorem isValidUtf8_sound (d : Bytes) (h : isValidUtf8 d = true) : Utf8 d := by
  -- by induction on a bound of the length: an accepted step leaves a shorter tail (`utf8Step_length`)
  suffices ∀ (n : Nat) (d : Bytes), d.length ≤ n → isValidUtf8 d = true → Utf8 d from this d.length d (Nat.le_refl _) h
  intro n
  induction n with
  | zero =>
    intro d hl _
    have : d = [] := List.eq_nil_of_length_eq_zero (by omega)
    subst this; exact .nil
  | succ n ih =>
    intro d hl h
    match d with
    | [] => exact .nil
    | c :: t =>
      cases hs : utf8Step (c :: t) with
      | none => rw [isValidUtf8_cons, hs] at h; cases h
      | some r =>
        rw [isValidUtf8_step hs] at h
        have hlt := utf8Step_length (c :: t) r (List.cons_ne_nil _ _) hs
        exact utf8Step_sound c t r hs (ih r (Nat.le_of_lt_succ (Nat.lt_of_lt_of_le hlt hl)) h)

/-- each row of the table satisfies the acceptance condition of its lead-byte class -/
theorem isValidUtf8_complete (d : Bytes) (h : Utf8 d) : isValidUtf8 d = true := by
  induction h with
  | nil => exact isValidUtf8_nil
  | ascii a r ha _ ih => rw [isValidUtf8_step (utf8Step_ascii a r ha.2)]; exact ih
  | two a b r ha hb _ ih =>
    obtain ⟨a1, a2⟩ := ha
    rw [isValidUtf8_step ((utf8Step_two a b r r (by omega) a2).mpr ⟨(isCont_iff b).mpr hb, a1, rfl⟩)]
    exact ih
  | threeE0 a b c r ha hb hc _ ih =>
    obtain ⟨a1, a2⟩ := ha; obtain ⟨b1, b2⟩ := hb
    rw [isValidUtf8_step ((utf8Step_three a b c r r a1 (by omega)).mpr
      ⟨⟨(isCont_iff b).mpr ⟨by omega, b2⟩, (isCont_iff c).mpr hc⟩, fun _ => b1, fun _ => by omega, rfl⟩)]
    exact ih
  | threeE1 a b c r ha hb hc _ ih =>
    obtain ⟨a1, a2⟩ := ha
    rw [isValidUtf8_step ((utf8Step_three a b c r r (by omega) (by omega)).mpr
      ⟨⟨(isCont_iff b).mpr hb, (isCont_iff c).mpr hc⟩, fun _ => by omega, fun _ => by omega, rfl⟩)]
    exact ih
  | threeED a b c r ha hb hc _ ih =>
    obtain ⟨a1, a2⟩ := ha; obtain ⟨b1, b2⟩ := hb
    rw [isValidUtf8_step ((utf8Step_three a b c r r (by omega) (by omega)).mpr
      ⟨⟨(isCont_iff b).mpr ⟨b1, by omega⟩, (isCont_iff c).mpr hc⟩, fun _ => by omega, fun _ => by omega, rfl⟩)]
    exact ih
  | threeEE a b c r ha hb hc _ ih =>
    obtain ⟨a1, a2⟩ := ha
    rw [isValidUtf8_step ((utf8Step_three a b c r r (by omega) a2).mpr
      ⟨⟨(isCont_iff b).mpr hb, (isCont_iff c).mpr hc⟩, fun _ => by omega, fun _ => by omega, rfl⟩)]
    exact ih
  | fourF0 a b c d r ha hb hc hd _ ih =>
    obtain ⟨a1, a2⟩ := ha; obtain ⟨b1, b2⟩ := hb
    rw [isValidUtf8_step ((utf8Step_four a b c d r r a1 (by omega)).mpr
      ⟨⟨⟨(isCont_iff b).mpr ⟨by omega, b2⟩, (isCont_iff c).mpr hc⟩, (isCont_iff d).mpr hd⟩,
        fun _ => b1, ⟨by omega, fun _ => by omega⟩, rfl⟩)]
    exact ih
  | fourF1 a b c d r ha hb hc hd _ ih =>
    obtain ⟨a1, a2⟩ := ha
    rw [isValidUtf8_step ((utf8Step_four a b c d r r (by omega) (by omega)).mpr
      ⟨⟨⟨(isCont_iff b).mpr hb, (isCont_iff c).mpr hc⟩, (isCont_iff d).mpr hd⟩,
        fun _ => by omega, ⟨by omega, fun _ => by omega⟩, rfl⟩)]
    exact ih
  | fourF4 a b c d r ha hb hc hd _ ih =>
    obtain ⟨a1, a2⟩ := ha; obtain ⟨b1, b2⟩ := hb
    rw [isValidUtf8_step ((utf8Step_four a b c d r r (by omega) (by omega)).mpr
      ⟨⟨⟨(isCont_iff b).mpr ⟨b1, by omega⟩, (isCont_iff c).mpr hc⟩, (isCont_iff d).mpr hd⟩,
        fun _ => by omega, ⟨a2, fun _ => b2⟩, rfl⟩)]
    exact ih

end Iora.Ws
