import IoraModel.Model.Teardown
import IoraModel.Common.Pool
/-! The teardown model (C05): the two groups of invariants (`Inv`, `Inv2`), the same facts arranged by where the destructor is (`Good`),
against which every step that respects the environment contract is checked, and what a step appends to the log (`Eff`, `step_eff`). -/
namespace Iora.Teardown
open Iora.Pool

/-- the program counter fits the kind of call -/
def kindOk (t : Thread) : Bool :=
  match t.kind, t.pc with
  | _, .notStarted | _, .done _ => true
  | .recv _, .parked _ => true
  | .conn, .parked _ | .conn, .window | .conn, .relock => true
  | .flush, .floop | .flush, .fcb | .flush, .fend _ | .flush, .fdtor => true
  | _, _ => false

/-! the regenerated values the model is instantiated with (a change of the source that flips one breaks the build here) -/
theorem gated_r : gated "activeReceives" = true := by decide +kernel
theorem gated_c : gated "activeConnects" = true := by decide +kernel
theorem gated_f : gated "activeFlushes" = true := by decide +kernel
theorem nrIo_true : nrIo = true := by decide +kernel
theorem nrStopped_true : nrStopped = true := by decide +kernel
theorem ioBranch_ok : ioBranchIdentityOnly = true := by decide +kernel
/-- the guard of `op` is in the generated list as it stands: membership and `==` of a literal with itself, no string is read -/
theorem guard_ok (op : SyncOp) : guardIdentityOnly op = true := by
  refine List.any_eq_true.mpr ?_
  cases op
  · exact ⟨_, .head _, by simp only [opName, beq_self_eq_true, Bool.and_self]⟩
  · exact ⟨_, .tail _ (.head _), by simp only [opName, beq_self_eq_true, Bool.and_self]⟩
  · exact ⟨_, .tail _ (.tail _ (.head _)), by simp only [opName, beq_self_eq_true, Bool.and_self]⟩
  · exact ⟨_, .tail _ (.tail _ (.tail _ (.head _))), by simp only [opName, beq_self_eq_true, Bool.and_self]⟩

theorem gate_def (s : State) : gate s = (s.activeReceives == 0 && s.activeConnects == 0 && s.activeFlushes == 0) := by
  simp [gate, gated_r, gated_c, gated_f]

def woken (t : Thread) : Thread := match t.pc with | .parked _ => { t with pc := .parked true } | _ => t

theorem wakeAll_eq (q : Thread → Bool) (l : List Thread) : wakeAll q l = l.map fun t => if q t then woken t else t := by
  unfold wakeAll
  apply List.map_congr_left
  intro t _
  obtain ⟨k, pc, c⟩ := t
  cases pc <;> first | rfl | exact (ite_self _).symm

theorem map_wakeAll {α : Type} (f : Thread → α) (hf : ∀ t, f (woken t) = f t) (q : Thread → Bool) (l : List Thread) :
    (wakeAll q l).map f = l.map f := by
  rw [wakeAll_eq, List.map_map]
  apply List.map_congr_left
  intro t _
  show f (if q t then woken t else t) = f t
  split
  · exact hf t
  · rfl

theorem get_wakeAll {q : Thread → Bool} {l : List Thread} {j : Nat} {u : Thread} (hj : (wakeAll q l)[j]? = some u) :
    ∃ t, l[j]? = some t ∧ u = (if q t = true then woken t else t) := by
  rw [wakeAll_eq, List.getElem?_map] at hj
  cases ht : l[j]? with
  | none => rw [ht] at hj; cases hj
  | some t => rw [ht] at hj; exact ⟨t, rfl, (Option.some.inj hj).symm⟩

/-! `woken` sets the `awake` flag of a parked thread, which none of these reads -/
theorem woken_kindOk (t : Thread) : kindOk (woken t) = kindOk t := by
  obtain ⟨k, pc, c⟩ := t; cases k <;> cases pc <;> rfl
theorem woken_inside (t : Thread) : inside (woken t).pc = inside t.pc := by
  obtain ⟨k, pc, c⟩ := t; cases pc <;> rfl
theorem woken_countedRecv (t : Thread) : countedRecv (woken t) = countedRecv t := by
  obtain ⟨k, pc, c⟩ := t; cases k <;> cases pc <;> rfl
theorem woken_countedConn (t : Thread) : countedConn (woken t) = countedConn t := by
  obtain ⟨k, pc, c⟩ := t; cases k <;> cases pc <;> rfl
theorem woken_countedFlush (t : Thread) : countedFlush (woken t) = countedFlush t := by
  obtain ⟨k, pc, c⟩ := t; cases k <;> cases pc <;> rfl

theorem woken_parked {t : Thread} {a : Bool} (h : (woken t).pc = .parked a) : a = true ∧ ∃ b, t.pc = .parked b := by
  cases t with
  | mk k pc c => cases pc <;> simp_all [woken]

theorem countP_wakeAll (p : Thread → Bool) (hp : ∀ t, p (woken t) = p t) (q : Thread → Bool) (l : List Thread) :
    (wakeAll q l).countP p = l.countP p := by
  have := congrArg (List.countP id) (map_wakeAll p hp q l)
  rwa [List.countP_map, List.countP_map] at this

/-- first group: the counters count the threads inside a call, a thread whose wake-up is due is awake, the gate, `Impl` alive
(`T1_no_lost_wakeup` and `T2_counters_gate_destruction` read their clauses off it and off `PN`, `PI`, `DT1` of the second group) -/
structure Inv (s : State) : Prop where
  KP : ∀ (j : Nat) (t : Thread), s.threads[j]? = some t → kindOk t = true
  CR : s.activeReceives = s.threads.countP countedRecv
  CC : s.activeConnects = s.threads.countP countedConn
  CF : s.activeFlushes = s.threads.countP countedFlush
  -- the destructor's wait completes only when no thread is inside a call
  WC : waitCompleted s.td = true → ∀ (j : Nat) (t : Thread), s.threads[j]? = some t → inside t.pc = false
  IA : s.implAlive = false → s.td = .destroyed
  UAF : s.uaf = false
  FS : s.td ≠ .idle → s.shuttingDown = true
  -- the receivers are notified by an entry section of `teardownWaitOut` only, which raises the fence
  RN : s.recvNotified = true → s.shuttingDown = true
  -- a parked thread is awake once the fence is up (connector), its completion was delivered, its session was closed, or the
  -- receivers were notified
  Wc : s.shuttingDown = true → ∀ (j : Nat) (t : Thread) (a : Bool), s.threads[j]? = some t → t.kind = .conn → t.pc = .parked a → a = true
  Wd : ∀ (j : Nat) (t : Thread) (a : Bool), s.threads[j]? = some t → t.kind = .conn → t.completed = true → t.pc = .parked a → a = true
  Wr : ∀ (j : Nat) (t : Thread) (sid : Nat) (a : Bool), s.threads[j]? = some t → t.kind = .recv sid → s.closed sid = true → t.pc = .parked a → a = true
  Wn : s.recvNotified = true → ∀ (j : Nat) (t : Thread) (a : Bool), s.threads[j]? = some t → isRecv t = true → t.pc = .parked a → a = true
  -- the destructor is not asleep on `teardownCv` with the gate open
  Wt : s.td = .waiting false ∨ s.td = .ioWaiting false → gate s = false
  -- `stop()` returns only once the I/O thread is gone (`T5_no_callback_after_stop`)
  IO1 : Ev.stopReturned ∈ s.log → s.ioAlive = false
  -- `_running` is cleared by `stop()`, whose caller then joins until the I/O thread is gone, or by the destructor
  IO2 : s.running = false → s.stopJoining = true ∨ s.td ≠ .idle ∨ s.ioAlive = false

theorem waitCompleted_notifyTd (td : Td) : waitCompleted (notifyTd td) = waitCompleted td := by
  cases td <;> simp [notifyTd, waitCompleted]

theorem notifyTd_awake (td : Td) : ¬ (notifyTd td = .waiting false ∨ notifyTd td = .ioWaiting false) := by
  cases td <;> simp [notifyTd]

/-- the destructor's program counter without the `awake` flag -/
def shape : Td → Nat
  | .idle => 0 | .fenced => 1 | .joining => 2 | .waiting _ => 3 | .waited => 4 | .ioWaiting _ => 5 | .ioReleased => 6
  | .flushOwned => 7 | .destroyed => 8

@[simp] theorem shape_notifyTd (td : Td) : shape (notifyTd td) = shape td := by cases td <;> rfl

theorem shape_ne_zero {td : Td} (h : td ≠ .idle) : shape td ≠ 0 := by
  cases td <;> first | exact absurd rfl h | nofun

/-- thread `j` is a flusher that ran the destructor inside its data callback -/
def fdAt (l : List Thread) (j : Nat) : Bool := match l[j]? with | some t => t.pc == .fdtor | none => false

theorem fdAt_set_self {l : List Thread} {i : Nat} {t x : Thread} (hi : l[i]? = some t) :
    fdAt (l.set i x) i = (x.pc == .fdtor) := by
  unfold fdAt; rw [get_set_self hi]

theorem fdAt_set_ne {l : List Thread} {i j : Nat} {x : Thread} (h : j ≠ i) : fdAt (l.set i x) j = fdAt l j := by
  unfold fdAt; rw [List.getElem?_set_ne (Ne.symm h)]

@[simp] theorem fdAt_wakeAll (q : Thread → Bool) (l : List Thread) (j : Nat) : fdAt (wakeAll q l) j = fdAt l j := by
  have h := congrArg (·[j]?) (map_wakeAll (fun t => t.pc == .fdtor) (fun ⟨_, pc, _⟩ => by cases pc <;> rfl) q l)
  simp only [List.getElem?_map] at h
  unfold fdAt
  cases h1 : (wakeAll q l)[j]? <;> cases h2 : l[j]? <;> rw [h1, h2] at h <;> first | rfl | cases h | exact Option.some.inj h

theorem fdAt_of_get {l : List Thread} {j : Nat} {t : Thread} (h : l[j]? = some t) : fdAt l j = (t.pc == .fdtor) := by
  unfold fdAt; rw [h]

theorem get_of_fdAt {l : List Thread} {i : Nat} (h : fdAt l i = true) : ∃ t, l[i]? = some t ∧ t.pc = .fdtor := by
  unfold fdAt at h
  split at h
  · rename_i t ht; exact ⟨t, ht, by simpa using h⟩
  · cases h

/-- second group: who runs the destructor, the I/O thread's life, the teardown path, close callbacks -/
structure Inv2 (s : State) : Prop where
  SB : s.ioSelfBlock = false
  -- a thread is joining inside `stop()` only before destruction begins (the contract: it holds a reference)
  SJ : s.stopJoining = true → shape s.td = 0 ∧ s.dtorOn = none ∧ s.running = false
  FR : shape s.td = 1 → s.running = true
  JR : shape s.td = 2 → s.running = false
  -- off the I/O-thread branch the destructor's wait begins after the I/O thread is gone
  DIO : shape s.td = 3 ∨ shape s.td = 4 ∨ shape s.td = 7 ∨ shape s.td = 8 → s.ioAlive = false
  IOA : shape s.td = 5 ∨ shape s.td = 6 → s.ioAlive = true ∧ s.dtorOn = none
  IOR : shape s.td = 6 → s.running = false
  -- at most one flusher runs the destructor in its callback, the one `dtorOn` names, and it stays there until `Impl` is gone
  DT1 : ∀ j, fdAt s.threads j = true → s.dtorOn = some j
  DT2 : ∀ i, s.dtorOn = some i → shape s.td ≠ 8 → fdAt s.threads i = true
  DT3 : shape s.td = 7 → s.dtorOn ≠ none
  -- on the already-stopped and I/O-thread paths no close callback will wake a receiver: the entry section has notified them
  PN : s.path = .stopped ∨ s.path = .io → s.recvNotified = true
  PI : shape s.td = 5 → s.path = .io
  SD : s.shuttingDown = true → shape s.td ≠ 0
  -- `T5_each_close_once`
  CL : ∀ sid, s.log.count (.cbClose sid) ≤ 1 ∧ (sid ∈ s.live → s.log.count (.cbClose sid) = 0)

/-! ## the two groups arranged by where the destructor is

The two groups say where the destructor is fact by fact (`shape s.td = 3 ∨ … → s.ioAlive = false`). A step of the destructor goes
from one place to the next, and what has to be shown is what holds at the new place: `At` is the same assertion arranged by place
(`At_iff`), `Good` the two groups with `At` in place of the fifteen fields that are keyed on the place; every step is checked
against `Good`. The facts about the threads, the counters and the wake flags (`TOk`) are a predicate of just the seven values they
read, so they are the same proposition for every state that agrees on those: `{ g with loc := … } : Good s'` copies each field of
`g : Good s` that the step does not concern. -/

/-- nothing that thread `t` would be woken for has happened: for a connector the fence is down and its connect is pending, for a
receiver its session is open and no receive notification has gone out -/
def unsignalled (sh : Bool) (cl : Nat → Bool) (rn : Bool) (t : Thread) : Prop :=
  match t.kind with
  | .recv sid => cl sid = false ∧ rn = false
  | .conn => sh = false ∧ t.completed = false
  | .flush => True

/-- the four facts of the first group about `awake` flags say that a thread asleep is `unsignalled` -/
theorem asleep_iff {th : List Thread} {sh : Bool} {cl : Nat → Bool} {rn : Bool} :
    (∀ (j : Nat) (t : Thread), th[j]? = some t → t.pc = .parked false → unsignalled sh cl rn t) ↔
    (sh = true → ∀ (j : Nat) (t : Thread) (a : Bool), th[j]? = some t → t.kind = .conn → t.pc = .parked a → a = true) ∧
    (∀ (j : Nat) (t : Thread) (a : Bool), th[j]? = some t → t.kind = .conn → t.completed = true → t.pc = .parked a → a = true) ∧
    (∀ (j : Nat) (t : Thread) (sid : Nat) (a : Bool), th[j]? = some t → t.kind = .recv sid → cl sid = true → t.pc = .parked a → a = true) ∧
    (rn = true → ∀ (j : Nat) (t : Thread) (a : Bool), th[j]? = some t → isRecv t = true → t.pc = .parked a → a = true) := by
  constructor
  · intro W
    -- a thread whose wake-up is due is not asleep
    have up : ∀ {j : Nat} {t : Thread} {a : Bool}, th[j]? = some t → t.pc = .parked a → ¬ unsignalled sh cl rn t → a = true :=
      fun {j t a} hj hp hn => by cases a; exact absurd (W j t hj hp) hn; rfl
    refine ⟨fun hs j t a hj hk hp => up hj hp ?_, fun j t a hj hk hc hp => up hj hp ?_, fun j t sid a hj hk hc hp => up hj hp ?_,
      fun hr j t a hj hk hp => up hj hp ?_⟩
    · simp [unsignalled, hk, hs]
    · simp [unsignalled, hk, hc]
    · simp [unsignalled, hk, hc]
    · obtain ⟨k, pc, c⟩ := t; cases k <;> cases hk; simp [unsignalled, hr]
  · intro ⟨Wc, Wd, Wr, Wn⟩ j t hj hp
    obtain ⟨k, pc, c⟩ := t
    cases k with
    | recv sid =>
      exact .intro (Bool.eq_false_iff.mpr fun h => nomatch Wr j _ sid false hj rfl h hp) (Bool.eq_false_iff.mpr fun h => nomatch Wn h j _ false hj rfl hp)
    | conn =>
      exact .intro (Bool.eq_false_iff.mpr fun h => nomatch Wc h j _ false hj rfl hp) (Bool.eq_false_iff.mpr fun h => nomatch Wd j _ false hj rfl h hp)
    | flush => trivial

/-- the facts of the first group about threads, counters and wake flags, of the seven values they read -/
structure TOk (th : List Thread) (r c f : Nat) (sh : Bool) (cl : Nat → Bool) (rn : Bool) : Prop where
  KP : ∀ (j : Nat) (t : Thread), th[j]? = some t → kindOk t = true
  CR : r = th.countP countedRecv
  CC : c = th.countP countedConn
  CF : f = th.countP countedFlush
  RN : rn = true → sh = true
  W : ∀ (j : Nat) (t : Thread), th[j]? = some t → t.pc = .parked false → unsignalled sh cl rn t

abbrev ThreadsOk (s : State) : Prop :=
  TOk s.threads s.activeReceives s.activeConnects s.activeFlushes s.shuttingDown s.closed s.recvNotified

def NoInside (s : State) : Prop := ∀ (j : Nat) (t : Thread), s.threads[j]? = some t → inside t.pc = false
/-- `Impl` exists, and the thread `dtorOn` names is still the flusher that ran the destructor in its callback -/
def Alive (s : State) : Prop := s.implAlive = true ∧ ∀ i, s.dtorOn = some i → fdAt s.threads i = true
/-- destruction is under way: the fence is up and no thread is inside `stop()` (such a thread holds a reference) -/
def Going (s : State) : Prop := s.shuttingDown = true ∧ s.stopJoining = false
/-- on the I/O-thread branch: the I/O thread exists (it is the one that runs the destructor) and no flusher runs it -/
def IoOwns (s : State) : Prop := s.ioAlive = true ∧ s.dtorOn = none

/-- what holds while the destructor is at `td` -/
def At (s : State) : Td → Prop
  | .idle => Alive s ∧ s.shuttingDown = false ∧ (s.running = false → s.stopJoining = true ∨ s.ioAlive = false) ∧
      (s.stopJoining = true → s.dtorOn = none ∧ s.running = false)
  | .fenced => Alive s ∧ Going s ∧ s.running = true
  | .joining => Alive s ∧ Going s ∧ s.running = false
  | .waiting a => Alive s ∧ Going s ∧ s.ioAlive = false ∧ (a = false → gate s = false)
  | .waited => Alive s ∧ Going s ∧ s.ioAlive = false ∧ NoInside s
  | .ioWaiting a => Alive s ∧ Going s ∧ IoOwns s ∧ s.path = .io ∧ (a = false → gate s = false)
  | .ioReleased => Alive s ∧ Going s ∧ IoOwns s ∧ s.running = false ∧ NoInside s
  | .flushOwned => Alive s ∧ Going s ∧ s.ioAlive = false ∧ s.dtorOn ≠ none ∧ NoInside s
  | .destroyed => Going s ∧ s.ioAlive = false ∧ NoInside s

/-- the two groups, arranged: `T` for the fields about threads, counters and wake flags, `loc` for those keyed on the destructor's
place; the other six hold wherever the destructor is -/
structure Good (s : State) : Prop where
  T : ThreadsOk s
  loc : At s s.td
  UAF : s.uaf = false
  SB : s.ioSelfBlock = false
  IO1 : Ev.stopReturned ∈ s.log → s.ioAlive = false
  DT1 : ∀ j, fdAt s.threads j = true → s.dtorOn = some j
  PN : s.path = .stopped ∨ s.path = .io → s.recvNotified = true
  CL : ∀ sid, s.log.count (.cbClose sid) ≤ 1 ∧ (sid ∈ s.live → s.log.count (.cbClose sid) = 0)

/-- `At`, transposed: one implication per fact, as the two groups state them (`shape`: 0 idle, 1 fenced, 2 joining, 3 waiting,
4 waited, 5 ioWaiting, 6 ioReleased, 7 flushOwned, 8 destroyed) -/
theorem At_iff {s : State} {td : Td} : At s td ↔
    (waitCompleted td = true → NoInside s) ∧ (s.implAlive = false → td = .destroyed) ∧ (td ≠ .idle → s.shuttingDown = true) ∧
    (td = .waiting false ∨ td = .ioWaiting false → gate s = false) ∧
    (s.running = false → s.stopJoining = true ∨ td ≠ .idle ∨ s.ioAlive = false) ∧
    (s.stopJoining = true → shape td = 0 ∧ s.dtorOn = none ∧ s.running = false) ∧
    (shape td = 1 → s.running = true) ∧ (shape td = 2 → s.running = false) ∧
    (shape td = 3 ∨ shape td = 4 ∨ shape td = 7 ∨ shape td = 8 → s.ioAlive = false) ∧
    (shape td = 5 ∨ shape td = 6 → s.ioAlive = true ∧ s.dtorOn = none) ∧ (shape td = 6 → s.running = false) ∧
    (∀ i, s.dtorOn = some i → shape td ≠ 8 → fdAt s.threads i = true) ∧ (shape td = 7 → s.dtorOn ≠ none) ∧
    (shape td = 5 → s.path = .io) ∧ (s.shuttingDown = true → shape td ≠ 0) := by
  cases td <;> simp [At, Alive, Going, IoOwns, shape, waitCompleted] <;> constructor <;> intro h <;> simp_all

theorem Inv.T {s : State} (h : Inv s) : ThreadsOk s := ⟨h.KP, h.CR, h.CC, h.CF, h.RN, asleep_iff.mpr ⟨h.Wc, h.Wd, h.Wr, h.Wn⟩⟩

theorem Good.of_inv {s : State} (h : Inv s) (h2 : Inv2 s) : Good s :=
  ⟨h.T, At_iff.mpr ⟨h.WC, h.IA, h.FS, h.Wt, h.IO2, h2.SJ, h2.FR, h2.JR, h2.DIO, h2.IOA, h2.IOR, h2.DT2, h2.DT3, h2.PI, h2.SD⟩,
    h.UAF, h2.SB, h.IO1, h2.DT1, h2.PN, h2.CL⟩

theorem Good.inv {s : State} (g : Good s) : Inv s ∧ Inv2 s := by
  obtain ⟨WC, IA, FS, Wt, IO2, SJ, FR, JR, DIO, IOA, IOR, DT2, DT3, PI, SD⟩ := At_iff.mp g.loc
  obtain ⟨Wc, Wd, Wr, Wn⟩ := asleep_iff.mp g.T.W
  exact ⟨⟨g.T.KP, g.T.CR, g.T.CC, g.T.CF, WC, IA, g.UAF, FS, g.T.RN, Wc, Wd, Wr, Wn, Wt, g.IO1, IO2⟩,
    ⟨g.SB, SJ, FR, JR, DIO, IOA, IOR, g.DT1, DT2, DT3, g.PN, PI, SD, g.CL⟩⟩

theorem Good_mk (threads : List Thread) (live : List Nat) (h : ∀ t ∈ threads, t.pc = .notStarted) : Good (mk threads live) := by
  have hget : ∀ {j : Nat} {t : Thread}, threads[j]? = some t → t.pc = .notStarted :=
    fun hj => h _ (List.mem_iff_getElem?.mpr ⟨_, hj⟩)
  have hz : ∀ (p : Thread → Bool), (∀ k c, p ⟨k, .notStarted, c⟩ = false) → 0 = threads.countP p := fun p hp =>
    (List.countP_eq_zero.mpr fun ⟨k, pc, c⟩ ht => by rw [show pc = _ from h _ ht, hp]; nofun).symm
  exact {
    T := ⟨fun j ⟨k, pc, c⟩ hj => by rw [show pc = _ from hget hj]; rfl, hz _ fun k _ => by cases k <;> rfl,
      hz _ fun k _ => by cases k <;> rfl, hz _ fun k _ => by cases k <;> rfl, nofun, fun j t hj hp => by rw [hget hj] at hp; cases hp⟩
    loc := ⟨⟨rfl, nofun⟩, rfl, nofun, nofun⟩
    UAF := rfl, SB := rfl, IO1 := nofun
    DT1 := fun j hj => by
      obtain ⟨t, ht, hpc⟩ := get_of_fdAt hj
      rw [hget ht] at hpc; cases hpc
    PN := fun e => e.elim nofun nofun
    CL := fun sid => ⟨Nat.zero_le _, fun _ => rfl⟩ }

theorem inside_eq_counted {t : Thread} (hk : kindOk t = true) :
    inside t.pc = (countedRecv t || countedConn t || countedFlush t) := by
  obtain ⟨k, pc, c⟩ := t
  cases k <;> cases pc <;> first | rfl | cases hk

theorem gate_iff {s : State} (T : ThreadsOk s) : gate s = true ↔ NoInside s := by
  have z : ∀ p : Thread → Bool, s.threads.countP p = 0 ↔ ∀ (j : Nat) (t : Thread), s.threads[j]? = some t → p t = false := fun p => by
    simp only [List.countP_eq_zero, List.mem_iff_getElem?, Bool.not_eq_true]
    exact ⟨fun h j t hj => h t ⟨j, hj⟩, fun h t ⟨j, hj⟩ => h j t hj⟩
  simp only [gate_def, T.CR, T.CC, T.CF, Bool.and_eq_true, beq_iff_eq, z]
  constructor
  · intro ⟨⟨h1, h2⟩, h3⟩ j t hj
    rw [inside_eq_counted (T.KP j t hj), h1 j t hj, h2 j t hj, h3 j t hj]; rfl
  · intro h
    have h' := fun j t hj => (inside_eq_counted (T.KP j t hj)).symm.trans (h j t hj)
    simp only [Bool.or_eq_false_iff] at h'
    exact ⟨⟨fun j t hj => (h' j t hj).1.1, fun j t hj => (h' j t hj).1.2⟩, fun j t hj => (h' j t hj).2⟩

theorem At.idle_of_sj {s : State} {td : Td} (h : At s td) (hsj : s.stopJoining = true) : td = .idle := by
  cases td <;> first | rfl | exact absurd h.2.1.2 (by rw [hsj]; nofun) | exact absurd h.1.2 (by rw [hsj]; nofun)

theorem Good.locAt {s : State} (g : Good s) {td : Td} (htd : s.td = td) : At s td := htd ▸ g.loc

theorem At.here {s : State} {td : Td} (htd : s.td = td) (h : At s td) : At s s.td := htd ▸ h

theorem At.alive {s : State} {td : Td} (h : At s td) (hne : td ≠ .destroyed) : s.implAlive = true := by
  cases td <;> first | exact h.1.1 | exact absurd rfl hne

theorem Good.alive {s : State} (g : Good s) (hw : waitCompleted s.td = false) : s.implAlive = true :=
  g.loc.alive fun e => by rw [e] at hw; cases hw

theorem Good.io_alive {s : State} (g : Good s) (hio : s.ioAlive = true) : s.implAlive = true :=
  g.loc.alive fun e => by have := (g.locAt e).2.1; rw [hio] at this; cases this

theorem Good.not_completed {s : State} (g : Good s) {i : Nat} {t : Thread} (hi : s.threads[i]? = some t)
    (hin : inside t.pc = true) : waitCompleted s.td = false :=
  Bool.eq_false_iff.mpr fun hw => by have := (At_iff.mp g.loc).1 hw i t hi; rw [hin] at this; cases this

/-- events an application thread logs in a section of its own; `moved_good` needs of them that none is `stopReturned` (`IO1`) or a
close callback (`CL`) -/
def ownEv : Ev → Bool
  | .ret .. | .cbData _ => true
  | _ => false

/-- anything but a user callback -/
def plainEv : Ev → Bool
  | .cbClose _ | .cbData _ => false
  | _ => true

/-- `l ++ evs`, but `l` itself when nothing is logged (so that a section that logs nothing is a `moved` by `rfl`) -/
def logApp (l evs : List Ev) : List Ev := match evs with | [] => l | _ => l ++ evs

@[simp] theorem logApp_eq (l evs : List Ev) : logApp l evs = l ++ evs := by cases evs <;> simp [logApp]

/-- thread `i` goes from `t` to `t'` in a critical section of its own and logs `evs`: the counters follow the program counter, and the
destructor is notified when the thread stops being counted -/
def moved (s : State) (i : Nat) (t t' : Thread) (evs : List Ev) : State :=
  { s with threads := s.threads.set i t',
           activeReceives := s.activeReceives + (countedRecv t').toNat - (countedRecv t).toNat,
           activeConnects := s.activeConnects + (countedConn t').toNat - (countedConn t).toNat,
           activeFlushes := s.activeFlushes + (countedFlush t').toNat - (countedFlush t).toNat,
           td := if inside t.pc && !inside t'.pc then notifyTd s.td else s.td, log := logApp s.log evs }

/-- a thread may go (back) to sleep only before the fence (hence before any receive notification) and `unsignalled` -/
def sleepOk (s : State) (t : Thread) : Prop :=
  t.pc = .parked false → s.shuttingDown = false ∧ unsignalled false s.closed false t

theorem countP_set_get (p : Thread → Bool) {l : List Thread} {i : Nat} {t : Thread} (x : Thread) (h : l[i]? = some t) :
    (l.set i x).countP p = l.countP p + (p x).toNat - (p t).toNat := by
  have h1 := countP_set p x h
  have e : ∀ b : Bool, (if b = true then 1 else 0) = b.toNat := fun b => by cases b <;> rfl
  simp only [e] at h1
  omega

theorem not_mem_of_all {p : Ev → Bool} {evs : List Ev} (hev : evs.all p = true) {e : Ev} (he : p e = false) : e ∉ evs :=
  fun hm => by rw [List.all_eq_true.mp hev e hm] at he; cases he

/-- events of a class `p` that holds no close callback (`ownEv`, `plainEv`) leave `CL` as it is -/
theorem cl_append (p : Ev → Bool) {log : List Ev} {live : List Nat}
    (h : ∀ sid, log.count (.cbClose sid) ≤ 1 ∧ (sid ∈ live → log.count (.cbClose sid) = 0)) {evs : List Ev}
    (hp : evs.all p = true) (hc : ∀ sid, p (.cbClose sid) = false := by exact fun _ => rfl) :
    ∀ sid, (log ++ evs).count (.cbClose sid) ≤ 1 ∧ (sid ∈ live → (log ++ evs).count (.cbClose sid) = 0) := fun sid => by
  rw [List.count_append, List.count_eq_zero_of_not_mem (not_mem_of_all hp (hc sid)), Nat.add_zero]; exact h sid

theorem TOk.set {s : State} (T : ThreadsOk s) {i : Nat} {t t' : Thread} (evs : List Ev) (hi : s.threads[i]? = some t)
    (hk : kindOk t' = true) (hsl : sleepOk s t') : ThreadsOk (moved s i t t' evs) := by
  have KP : ∀ (j : Nat) (u : Thread), (s.threads.set i t')[j]? = some u → kindOk u = true :=
    forall_set T.KP hk fun _ _ _ h => h
  have cnt : ∀ (p : Thread → Bool) (n : Nat), n = s.threads.countP p →
      n + (p t').toNat - (p t).toNat = (s.threads.set i t').countP p := fun p n e => by rw [countP_set_get p t' hi, e]
  refine ⟨KP, cnt _ _ T.CR, cnt _ _ T.CC, cnt _ _ T.CF, T.RN, fun j u hj hp => (get_set hj).elim (fun e => ?_) (fun e => T.W j u e.2 hp)⟩
  -- `t'` itself, asleep: under `sleepOk` the fence is down, hence no receive notification has gone out
  obtain ⟨rfl, rfl⟩ := e
  obtain ⟨hsh, h⟩ := hsl hp
  have hrn : s.recvNotified = false := Bool.eq_false_iff.mpr fun hr => by rw [T.RN hr] at hsh; cases hsh
  show unsignalled s.shuttingDown s.closed s.recvNotified u
  rw [hsh, hrn]; exact h

/-- what `At` reads: seven flags, which thread runs the destructor, whether a thread is inside a call, and whether the gate is shut
while the destructor sleeps. Each hypothesis defaults to the proof that the step leaves that part alone, so `h.frame` alone serves a
step that touches none of them. -/
theorem At.frame {s s' : State} {td : Td} (h : At s td)
    (e : (s'.shuttingDown, s'.stopJoining, s'.running, s'.ioAlive, s'.dtorOn, s'.path, s'.implAlive) =
      (s.shuttingDown, s.stopJoining, s.running, s.ioAlive, s.dtorOn, s.path, s.implAlive) := by rfl)
    (hfd : ∀ i, fdAt s'.threads i = fdAt s.threads i := by intro _; rfl)
    (hni : waitCompleted td = true → NoInside s → NoInside s' := by exact fun _ => id)
    (hg : td = .waiting false ∨ td = .ioWaiting false → gate s = false → gate s' = false := by exact fun _ => id) : At s' td := by
  simp only [Prod.mk.injEq] at e
  obtain ⟨e1, e2, e3, e4, e5, e6, e7⟩ := e
  cases td <;> simp only [At, Alive, Going, IoOwns, e1, e2, e3, e4, e5, e6, e7, hfd] at h ⊢
  case idle | fenced | joining => exact h
  case waiting a => obtain ⟨hal, hgo, hio, shut⟩ := h; exact ⟨hal, hgo, hio, fun e => hg (.inl (by rw [e])) (shut e)⟩
  case ioWaiting a => obtain ⟨hal, hgo, own, hp, shut⟩ := h; exact ⟨hal, hgo, own, hp, fun e => hg (.inr (by rw [e])) (shut e)⟩
  case waited => obtain ⟨hal, hgo, hio, hno⟩ := h; exact ⟨hal, hgo, hio, hni rfl hno⟩
  case ioReleased | flushOwned => obtain ⟨hal, hgo, h3, h4, hno⟩ := h; exact ⟨hal, hgo, h3, h4, hni rfl hno⟩
  case destroyed => obtain ⟨hgo, hio, hno⟩ := h; exact ⟨hgo, hio, hni rfl hno⟩

theorem At.notify {s : State} {td : Td} (h : At s td) : At s (notifyTd td) := by
  cases td with
  | waiting a => obtain ⟨hal, hgo, hio, _⟩ := h; exact ⟨hal, hgo, hio, nofun⟩
  | ioWaiting a => obtain ⟨hal, hgo, own, hp, _⟩ := h; exact ⟨hal, hgo, own, hp, nofun⟩
  | _ => exact h

theorem moved_good {s : State} (g : Good s) {i : Nat} {t t' : Thread} {evs : List Ev} (hi : s.threads[i]? = some t)
    (hk : kindOk t' = true) (hev : evs.all ownEv = true) (hw : waitCompleted s.td = false) (hsl : sleepOk s t') (hpc : (t.pc == .fdtor) = false) (hpc' : (t'.pc == .fdtor) = false) : Good (moved s i t t' evs) := by
  have T' := g.T.set evs hi hk hsl
  have hfd : ∀ j, fdAt (s.threads.set i t') j = fdAt s.threads j := fun j => by
    by_cases hji : j = i
    · rw [hji, fdAt_set_self hi, fdAt_of_get hi, hpc, hpc']
    · exact fdAt_set_ne hji
  have hni : waitCompleted s.td = true → NoInside s → NoInside (moved s i t t' evs) := fun e => by rw [hw] at e; cases e
  refine { g with T := T', loc := ?_, IO1 := fun hl => ?_, DT1 := fun j hj => g.DT1 j (by rw [← hfd]; exact hj), CL := fun sid => ?_ }
  · show At _ (if inside t.pc && !inside t'.pc then notifyTd s.td else s.td)
    split
    · -- the thread stops being counted: the destructor is notified
      exact g.loc.notify.frame rfl hfd (by rw [waitCompleted_notifyTd]; exact hni) (fun e => absurd e (notifyTd_awake _))
    · rename_i hc
      -- were no thread inside now, none was before: thread `i` is still counted if it was
      refine g.loc.frame rfl hfd hni fun _ hg => Bool.eq_false_iff.mpr fun hg' => ?_
      have none := (gate_iff T').mp hg'
      rw [(gate_iff g.T).mpr fun j u hj => ?_] at hg
      · cases hg
      · by_cases hji : j = i
        · subst hji
          rw [hi] at hj; cases hj
          exact Bool.eq_false_iff.mpr fun hu => hc (by rw [hu, none j t' (get_set_self hi)]; rfl)
        · exact none j u ((List.getElem?_set_ne (Ne.symm hji)).trans hj)
  · rw [show (moved s i t t' evs).log = s.log ++ evs from logApp_eq _ _] at hl
    exact (List.mem_append.mp hl).elim g.IO1 fun hl => absurd hl (not_mem_of_all hev rfl)
  · rw [show (moved s i t t' evs).log = s.log ++ evs from logApp_eq _ _]; exact (cl_append ownEv g.CL hev) sid

/-- `touch s` is `s` up to `uaf`, whose new value `u` stays unknown: so a step is read off the model for every state, and `u` is
settled (`u = s.uaf`) only where `Good` gives `implAlive`; `touch_alive` is for the steps that are read under `Good` from the start -/
theorem touch_eq (s : State) : ∃ u, (s.implAlive = true → u = s.uaf) ∧ touch s = { s with uaf := u } := by
  unfold touch
  split
  · exact ⟨s.uaf, fun _ => rfl, rfl⟩
  · rename_i h; exact ⟨true, fun e => absurd e h, rfl⟩

theorem touch_alive {s : State} (hal : s.implAlive = true) : touch s = s := by simp [touch, hal]

@[simp] theorem touch_threads (s : State) : (touch s).threads = s.threads := by unfold touch; split <;> rfl
@[simp] theorem touch_sh (s : State) : (touch s).shuttingDown = s.shuttingDown := by unfold touch; split <;> rfl
@[simp] theorem touch_closed (s : State) : (touch s).closed = s.closed := by unfold touch; split <;> rfl
@[simp] theorem touch_log (s : State) : (touch s).log = s.log := by unfold touch; split <;> rfl
@[simp] theorem touch_live (s : State) : (touch s).live = s.live := by unfold touch; split <;> rfl
@[simp] theorem touch_td (s : State) : (touch s).td = s.td := by unfold touch; split <;> rfl
@[simp] theorem touch_ioAlive (s : State) : (touch s).ioAlive = s.ioAlive := by unfold touch; split <;> rfl
@[simp] theorem touch_ioSelfBlock (s : State) : (touch s).ioSelfBlock = s.ioSelfBlock := by unfold touch; split <;> rfl

/-- what thread `i`, being at `t`, may log in a step `st` of its own: plain events; or the one data callback of its flush loop, before the fence -/
def OwnLog (s : State) (i : Nat) (st : Step) (t : Thread) (evs : List Ev) : Prop :=
  evs.all plainEv = true ∨ (evs = [.cbData i] ∧ s.shuttingDown = false ∧ t.pc = .floop ∧ st = .flushStep i true)

/-- the side conditions of a section that takes thread `i` from `t` to `t'` and logs `evs`; `chk` gathers those that hold by
computation: still well formed, neither end is the destructor-running flusher, only the thread's own events are logged, and the
thread was inside a call or the step is its entry. Each field defaults to the proof that serves most sections (`sleep`: `t'` is not
asleep; `log`: plain events), so `{}` at a use says that all three hold in that way. -/
structure Sect (s : State) (i : Nat) (st : Step) (t t' : Thread) (evs : List Ev) : Prop where
  chk : (kindOk t' && evs.all ownEv && !(t.pc == .fdtor) && !(t'.pc == .fdtor) &&
    (inside t.pc || st matches .enter _)) = true := by rfl
  sleep : sleepOk s t' := by exact nofun
  log : OwnLog s i st t evs := by exact .inl rfl

/-- what a step of application thread `i` (or of the I/O thread completing its connect) does to the state -/
inductive Shape (s : State) (i : Nat) (st : Step) : State → Prop
  | same : Shape s i st s
  /-- an ill-formed thread (its program counter does not fit the kind of its call): the invariants exclude it, but
  `T5_callbacks_confined` speaks of every state, so what the step logs is recorded -/
  | ill {t : Thread} {s' : State} (evs : List Ev) : s.threads[i]? = some t → kindOk t = false → s'.log = logApp s.log evs →
      OwnLog s i st t evs → Shape s i st s'
  | moved {t : Thread} (t' : Thread) (evs : List Ev) (u : Bool) : s.threads[i]? = some t → (s.implAlive = true → u = s.uaf) →
      Sect s i st t t' evs → Shape s i st { moved s i t t' evs with uaf := u }

/-- what step `st` may append to the log in state `s`: what `OwnLog` allows some thread; or the one close callback of a step of the
I/O thread, while that thread exists, for a session the engine still has open -/
def LogExt (s : State) (st : Step) (l : List Ev) : Prop :=
  l.all plainEv = true ∨
  (∃ sid, l = [.cbClose sid] ∧ s.ioAlive = true ∧ s.live.contains sid = true ∧
    (st = .ioCloseSess sid ∨ st = .ioDrain (some sid))) ∨
  (∃ i t, l = [.cbData i] ∧ s.shuttingDown = false ∧ s.threads[i]? = some t ∧ t.pc = .floop ∧ st = .flushStep i true)

theorem OwnLog.ext {s : State} {i : Nat} {st : Step} {t : Thread} {evs : List Ev} (h : OwnLog s i st t evs)
    (hi : s.threads[i]? = some t) : LogExt s st evs :=
  h.imp_right fun ⟨h1, h2, h3, h4⟩ => .inr ⟨i, _, h1, h2, hi, h3, h4⟩

theorem doEnter_shape (s : State) (i : Nat) : Shape s i (.enter i) (doEnter s i) := by
  obtain ⟨u, hu1, hu⟩ := touch_eq s
  unfold doEnter
  split
  · rename_i t hi
    obtain ⟨k, pc, c⟩ := t
    cases pc <;> try exact .same
    simp only [hu]
    split
    · -- fence: rejected without parking
      cases k <;> exact .moved _ [.ret i _] u hi hu1 {}
    · rename_i hsh
      cases k with
      | recv sid =>
        dsimp only
        split
        · exact .moved _ [.ret i _] u hi hu1 {}
        · rename_i hcl
          exact .moved _ [] u hi hu1 { sleep := fun _ => ⟨eq_false_of_ne_true hsh, eq_false_of_ne_true hcl, rfl⟩ }
      | conn => exact .moved _ [] u hi hu1 { sleep := fun _ => ⟨eq_false_of_ne_true hsh, rfl, rfl⟩ }
      | flush => exact .moved _ [] u hi hu1 {}
  · exact .same

/-- behind the fence the entry section returns at once: only the thread and the log change -/
theorem doEnter_fenced {s : State} {i : Nat} {t : Thread} (hi : s.threads[i]? = some t) (hp : t.pc = .notStarted)
    (hs : s.shuttingDown = true) : ∃ r, (r = .shuttingDown ∨ r = .flushed false) ∧
      doEnter s i = { touch s with threads := s.threads.set i { t with pc := .done r }, log := s.log ++ [.ret i r] } := by
  obtain ⟨k, pc, c⟩ := t
  simp only at hp; subst hp
  simp only [doEnter, hi, touch_sh, hs, if_true, touch_threads, touch_log, setT]
  cases k <;> exact ⟨_, by simp, rfl⟩

theorem doWake_shape (s : State) (i : Nat) (to : Bool) : Shape s i (.wake i to) (doWake s i to) := by
  obtain ⟨u, hu1, hu⟩ := touch_eq s
  unfold doWake
  split
  · rename_i t hi
    obtain ⟨k, pc, c⟩ := t
    cases pc <;> try exact .same
    simp only [hu]
    cases k with
    | recv sid =>
      dsimp only
      split
      · exact .moved _ [.ret i _] u hi hu1 {}
      · rename_i hc
        simp only [Bool.or_eq_true, not_or, Bool.not_eq_true] at hc
        exact .moved _ [] u hi hu1 { sleep := fun _ => ⟨hc.1.2, hc.1.1, rfl⟩ }
    | conn =>
      dsimp only
      split
      · exact .moved _ [.ret i _] u hi hu1 {}
      · rename_i hc
        split
        · exact .moved _ [.ret i _] u hi hu1 {}
        · rename_i hsh
          split
          · exact .moved _ [] u hi hu1 {}
          · exact .moved _ [] u hi hu1 { sleep := fun _ => ⟨eq_false_of_ne_true hsh, rfl, eq_false_of_ne_true hc⟩ }
    | flush => exact .ill [] hi rfl rfl (.inl rfl)
  · exact .same

theorem doConnClose_shape (s : State) (i : Nat) : Shape s i (.connClose i) (doConnClose s i) := by
  obtain ⟨u, hu1, hu⟩ := touch_eq s
  unfold doConnClose
  split
  · rename_i t hi
    obtain ⟨k, pc, c⟩ := t
    cases pc <;> try exact .same
    simp only [hu]
    cases k with | conn => exact .moved _ [] u hi hu1 {} | _ => exact .ill [] hi rfl rfl (.inl rfl)
  · exact .same

theorem doConnRelock_shape (s : State) (i : Nat) : Shape s i (.connRelock i) (doConnRelock s i) := by
  obtain ⟨u, hu1, hu⟩ := touch_eq s
  unfold doConnRelock
  split
  · rename_i t hi
    obtain ⟨k, pc, c⟩ := t
    cases pc <;> try exact .same
    simp only [hu]
    cases k with | conn => exact .moved _ [.ret i _] u hi hu1 {} | _ => exact .ill [.ret i _] hi rfl rfl (.inl rfl)
  · exact .same

theorem doIoConnDone_shape (s : State) (i : Nat) : Shape s i (.ioConnDone i) (doIoConnDone s i) := by
  obtain ⟨u, hu1, hu⟩ := touch_eq s
  unfold doIoConnDone
  split
  · split
    · rename_i t hi
      obtain ⟨k, pc, c⟩ := t
      cases k <;> cases pc <;> try exact .same
      simp only [hu]
      exact .moved _ [] u hi hu1 {}
    · exact .same
  · exact .same

theorem waitCompleted_cases (td : Td) :
    waitCompleted td = true ↔ td = .waited ∨ td = .ioReleased ∨ td = .flushOwned ∨ td = .destroyed := by
  cases td <;> simp [waitCompleted]

theorem ioFree_alive {s : State} (hf : ioFree s = true) : s.ioAlive = true := by
  simp only [ioFree, Bool.and_eq_true] at hf; exact hf.1

@[simp] theorem waitOut_log (s : State) (nr : Bool) : (waitOutEntry s nr).log = s.log := rfl

theorem closeSess_log (s : State) (sid : Nat) : (closeSess s sid).log = s.log ++ [.cbClose sid] := by
  simp [closeSess]

theorem closeSess_flags (s : State) (sid : Nat) : (closeSess s sid).stopJoining = s.stopJoining ∧
    (closeSess s sid).running = s.running ∧ (closeSess s sid).td = s.td := by
  unfold closeSess touch; split <;> exact ⟨rfl, rfl, rfl⟩

/-- a section that only sets `awake` flags (`wakeAll q`) and raises flags: it wakes every thread for which something has happened now -/
theorem TOk.wake {th : List Thread} {r c f : Nat} {sh sh' : Bool} {cl cl' : Nat → Bool} {rn rn' : Bool}
    (h : TOk th r c f sh cl rn) (q : Thread → Bool) (hrn : rn' = true → sh' = true)
    (hq : ∀ t, unsignalled sh cl rn t → q t = false → unsignalled sh' cl' rn' t) : TOk (wakeAll q th) r c f sh' cl' rn' := by
  refine ⟨?_, ?_, ?_, ?_, hrn, fun j u hj hp => ?_⟩
  · intro j u hj; obtain ⟨t, ht, rfl⟩ := get_wakeAll hj
    split
    · rw [woken_kindOk]; exact h.KP j t ht
    · exact h.KP j t ht
  · rw [countP_wakeAll _ woken_countedRecv]; exact h.CR
  · rw [countP_wakeAll _ woken_countedConn]; exact h.CC
  · rw [countP_wakeAll _ woken_countedFlush]; exact h.CF
  · -- a thread still asleep is an old one that `q` did not choose
    obtain ⟨t, ht, rfl⟩ := get_wakeAll hj
    split at hp
    · exact nomatch (woken_parked hp).1
    · rename_i hqt; rw [if_neg hqt]; exact hq t (h.W j t ht hp) (eq_false_of_ne_true hqt)

theorem TOk.fence {s : State} (h : ThreadsOk s) (nr : Bool) : ThreadsOk (waitOutEntry s nr) :=
  h.wake _ (fun _ => rfl) fun ⟨k, pc, c⟩ hu hq => by
    -- a connector is woken; a receiver left asleep was not to be notified
    cases k <;> simp_all [unsignalled, isConn, isRecv, waitOutEntry]

theorem Alive.wake {s s' : State} (h : Alive s) (q : Thread → Bool)
    (e : (s'.implAlive, s'.dtorOn, s'.threads) = (s.implAlive, s.dtorOn, wakeAll q s.threads) := by rfl) : Alive s' := by
  simp only [Prod.mk.injEq] at e
  obtain ⟨e1, e2, e3⟩ := e
  unfold Alive
  rw [e1, e2, e3]
  exact ⟨h.1, fun i hi => by rw [fdAt_wakeAll]; exact h.2 i hi⟩

theorem dt1_wake {th : List Thread} {d : Option Nat} (h : ∀ j, fdAt th j = true → d = some j) (q : Thread → Bool) :
    ∀ j, fdAt (wakeAll q th) j = true → d = some j := by simpa only [fdAt_wakeAll] using h

theorem NoInside.wake {s s' : State} (h : NoInside s) (q : Thread → Bool) (e : s'.threads = wakeAll q s.threads := by rfl) :
    NoInside s' := by
  intro j u hj
  rw [e] at hj
  obtain ⟨t, ht, rfl⟩ := get_wakeAll hj
  split
  · rw [woken_inside]; exact h j t ht
  · exact h j t ht

/-- what a step does: `log` holds in every state, since `T5_callbacks_confined` speaks of every state; `good` needs the invariants
and the contract -/
structure Eff (s : State) (st : Step) (s' : State) : Prop where
  log : ∃ l, s'.log = s.log ++ l ∧ LogExt s st l
  good : Good s → ok s st = true → Good s'

theorem log_none {s s' : State} {st : Step} (e : s'.log = s.log := by rfl) : ∃ l, s'.log = s.log ++ l ∧ LogExt s st l :=
  ⟨[], e.trans (List.append_nil _).symm, .inl rfl⟩

theorem Eff.same {s : State} {st : Step} : Eff s st s := ⟨log_none, fun g _ => g⟩

theorem Shape.eff {s s' : State} {i : Nat} {st : Step} (hs : Shape s i st s') : Eff s st s' := by
  cases hs with
  | same => exact .same
  | ill evs hi hk hl h => exact ⟨⟨evs, hl.trans (logApp_eq _ _), h.ext hi⟩, fun g _ => by rw [g.T.KP i _ hi] at hk; cases hk⟩
  | moved t' evs u hi hu c =>
    refine ⟨⟨evs, logApp_eq _ _, c.log.ext hi⟩, fun g hok => ?_⟩
    have hc := c.chk
    simp only [Bool.and_eq_true, Bool.or_eq_true, Bool.not_eq_true'] at hc
    obtain ⟨⟨⟨⟨hkok, hown⟩, hfd⟩, hfd'⟩, hbeg⟩ := hc
    have hw : waitCompleted s.td = false := by
      rcases hbeg with hin | he
      · exact g.not_completed hi hin
      · cases st <;> first | simpa [ok] using hok | cases he
    rw [hu (g.alive hw)]
    exact moved_good g hi hkok hown hw c.sleep hfd hfd'

theorem closeSess_good {s : State} (g : Good s) (hio : s.ioAlive = true) {sid : Nat} (hm : s.live.contains sid = true) :
    Good (closeSess s sid) := by
  simp only [closeSess, touch_alive (g.io_alive hio)]
  refine { g with
    T := g.T.wake (isRecvOf sid) g.T.RN fun ⟨k, pc, c⟩ hu hq => ?_
    loc := g.loc.frame rfl (fdAt_wakeAll _ _) fun _ h => h.wake _
    IO1 := fun hl => g.IO1 (by simpa using hl)
    DT1 := dt1_wake g.DT1 _
    CL := fun sid' => ?_ }
  · -- a receiver of another session
    cases k <;> simp_all [unsignalled, isRecvOf]
  · have h1 := g.CL sid'
    by_cases hs : sid' = sid
    · subst hs
      simp [List.count_append, h1.2 (by simpa using hm)]
    · have hne : ¬ (sid = sid') := fun e => hs e.symm
      simp only [List.count_append, List.count_cons, List.count_nil, beq_iff_eq, Ev.cbClose.injEq, hne, if_false,
        Nat.add_zero, List.mem_filter, bne_iff_ne, ne_eq]
      exact ⟨h1.1, fun hm' => h1.2 hm'.1⟩

theorem doIoCloseSess_eff (s : State) (sid : Nat) : Eff s (.ioCloseSess sid) (doIoCloseSess s sid) := by
  unfold doIoCloseSess
  split
  · rename_i hc
    simp only [Bool.and_eq_true] at hc
    exact .mk ⟨_, closeSess_log s sid, .inr (.inl ⟨sid, rfl, ioFree_alive hc.1, hc.2, .inl rfl⟩)⟩
      fun g _ => closeSess_good g (ioFree_alive hc.1) hc.2
  · exact .same

theorem doIoDrain_eff (s : State) (x : Option Nat) : Eff s (.ioDrain x) (doIoDrain s x) := by
  unfold doIoDrain
  split
  · rename_i hc
    simp only [Bool.and_eq_true, Bool.not_eq_true'] at hc
    obtain ⟨hfree, hrun⟩ := hc
    have hio := ioFree_alive hfree
    cases x with
    | some sid =>
      dsimp only
      split
      · exact .mk ⟨_, closeSess_log s sid, .inr (.inl ⟨sid, rfl, hio, ‹_›, .inr rfl⟩)⟩ fun g _ => closeSess_good g hio ‹_›
      · exact .same
    | none =>
      dsimp only
      split
      · split
        · -- the deleter registered by the I/O-thread self-destruct runs in the thread epilogue
          rename_i htd
          refine .mk ⟨_, rfl, .inl rfl⟩ fun g _ => ?_
          obtain ⟨_, hgo, _, _, hni⟩ := g.locAt htd
          exact { g with loc := ⟨hgo, rfl, hni⟩, IO1 := fun _ => rfl, CL := cl_append plainEv g.CL rfl }
        · -- the I/O thread terminates: the destructor has not begun, or is joining it
          rename_i hnr
          refine .mk log_none fun g _ => ?_
          have hat := g.loc
          have h5 : ∀ a, s.td ≠ .ioWaiting a := fun a e => by simp [ioFree, e] at hfree
          refine { g with loc := ?_, IO1 := fun _ => rfl }
          show At _ s.td
          generalize s.td = td at hat hnr h5
          cases td with
          | idle => obtain ⟨hal, hsh, _, hsj⟩ := hat; exact ⟨hal, hsh, fun _ => .inr rfl, hsj⟩
          | joining => exact hat
          | fenced => exact absurd hat.2.2 (by rw [hrun]; nofun)
          | ioReleased => exact absurd rfl hnr
          | ioWaiting a => exact absurd rfl (h5 a)
          | waiting _ | waited | flushOwned => exact absurd hat.2.2.1 (by rw [hio]; nofun)
          | destroyed => exact absurd hat.2.1 (by rw [hio]; nofun)
      · exact .same
  · exact .same

/-- the guards test thread identity alone (`guard_ok`): the call is refused whatever `_running` is -/
theorem doIoSyncCall_free {s : State} (op : SyncOp) (hf : ioFree s = true) :
    doIoSyncCall s op = { touch s with log := s.log ++ [.refused op] } := by
  simp only [doIoSyncCall, hf, guard_ok, Bool.true_or, if_true]

theorem doIoSyncCall_eff (s : State) (op : SyncOp) : Eff s (.ioSyncCall op) (doIoSyncCall s op) := by
  cases hf : ioFree s with
  | false => rw [doIoSyncCall, hf]; exact .same
  | true =>
    obtain ⟨u, hu1, hu⟩ := touch_eq s
    rw [doIoSyncCall_free op hf, hu]
    refine .mk ⟨_, rfl, .inl rfl⟩ fun g _ => ?_
    rw [hu1 (g.io_alive (ioFree_alive hf))]
    exact { g with loc := g.loc.frame, IO1 := fun hl => g.IO1 (by simpa using hl), CL := cl_append plainEv g.CL rfl }

theorem doStopCall_eff (s : State) : Eff s .stopCall (doStopCall s) := by
  obtain ⟨u, hu1, hu⟩ := touch_eq s
  simp only [doStopCall, hu]
  split
  · exact .same
  · rename_i hsj
    -- `stop()` is called before destruction begins
    have pre : Good s → ok s .stopCall = true → u = s.uaf ∧ s.td = .idle ∧ s.dtorOn = none ∧ At s .idle := fun g hok => by
      have hidle : s.td = .idle ∧ s.dtorOn = none := by simpa [ok] using hok
      have hat := g.locAt hidle.1
      exact ⟨hu1 hat.1.1, hidle.1, hidle.2, hat⟩
    split
    · refine .mk log_none fun g hok => ?_
      obtain ⟨rfl, htd, hdt, hal, hsh, _, _⟩ := pre g hok
      exact { g with loc := .here htd ⟨hal, hsh, fun _ => .inl rfl, fun _ => ⟨hdt, rfl⟩⟩ }
    · rename_i hrun
      refine .mk ⟨_, rfl, .inl rfl⟩ fun g hok => ?_
      obtain ⟨rfl, htd, hdt, hal, hsh, hio, _⟩ := pre g hok
      have hio : s.ioAlive = false := (hio (eq_false_of_ne_true hrun)).resolve_left hsj
      exact { g with loc := g.loc.frame, IO1 := fun _ => hio, CL := cl_append plainEv g.CL rfl }

theorem doStopJoin_eff (s : State) : Eff s .stopJoin (doStopJoin s) := by
  obtain ⟨u, hu1, hu⟩ := touch_eq s
  simp only [doStopJoin, hu]
  split
  · rename_i hc
    simp only [Bool.and_eq_true, Bool.not_eq_true'] at hc
    refine .mk ⟨_, rfl, .inl rfl⟩ fun g _ => ?_
    have htd := g.loc.idle_of_sj hc.1
    obtain ⟨hal, hsh, _, _⟩ := g.locAt htd
    rw [hu1 hal.1]
    exact { g with loc := .here htd ⟨hal, hsh, fun _ => .inr hc.2, nofun⟩, IO1 := fun _ => hc.2, CL := cl_append plainEv g.CL rfl }
  · exact .same

theorem doTdStop_eff (s : State) : Eff s .tdStop (doTdStop s) := by
  unfold doTdStop
  split
  · rename_i htd
    split
    · refine .mk log_none fun g _ => ?_
      obtain ⟨hal, hgo, _⟩ := g.locAt htd
      exact { g with loc := ⟨hal, hgo, rfl⟩ }
    · -- not reached from a good state (the engine runs while the destructor is `fenced`); the log fact is about every state
      have no : Good s → s.running = true := fun g => (g.locAt htd).2.2
      dsimp only
      split <;> exact .mk log_none fun g _ => absurd (no g) ‹_›
  · exact .same

theorem doTdWake_eff (s : State) : Eff s .tdWake (doTdWake s) := by
  unfold doTdWake
  split
  · rename_i a htd
    refine .mk (by split <;> exact log_none) fun g _ => ?_
    obtain ⟨hal, hgo, hio, _⟩ := g.locAt htd
    split
    · exact { g with loc := ⟨hal, hgo, hio, (gate_iff g.T).mp ‹_›⟩ }
    · exact { g with loc := ⟨hal, hgo, hio, fun _ => eq_false_of_ne_true ‹_›⟩ }
  · rename_i a htd
    refine .mk (by split <;> exact log_none) fun g _ => ?_
    obtain ⟨hal, hgo, hown, hp, _⟩ := g.locAt htd
    split
    · exact { g with loc := ⟨hal, hgo, hown, rfl, (gate_iff g.T).mp ‹_›⟩ }
    · exact { g with loc := ⟨hal, hgo, hown, hp, fun _ => eq_false_of_ne_true ‹_›⟩ }
  · exact .same

/-- an entry section (`setTeardownFence`, `teardownWaitOut`) that takes the destructor to `td`. Where it goes on to wait, the section is
checked up to the wait, with `td` awake: the destructor has not yet looked at the gate, its first predicate check is a `doTdWake` -/
theorem waitEntry_good {s : State} (g : Good s) (nr : Bool) (p : Path) (td : Td)
    (loc : At { waitOutEntry s nr with path := p, td := td } td) (hp : p = .stopped ∨ p = .io → (s.recvNotified || nr) = true) :
    Good { waitOutEntry s nr with path := p, td := td } :=
  { g with T := g.T.fence nr, loc := loc, DT1 := dt1_wake g.DT1 _, PN := hp }

theorem doTdBegin_eff (s : State) : Eff s .tdBegin (doTdBegin s) := by
  unfold doTdBegin
  split
  · rename_i htd
    have pre : Good s → ok s .tdBegin = true → s.stopJoining = false ∧ At s .idle := fun g hok => by
      exact ⟨by simpa [ok] using hok, g.locAt htd⟩
    split
    · refine .mk log_none fun g hok => ?_
      obtain ⟨hsj, hal, _⟩ := pre g hok
      exact waitEntry_good g false .normal .fenced ⟨hal.wake _, ⟨rfl, hsj⟩, ‹_›⟩ fun e => e.elim nofun nofun
    · rename_i hrun
      dsimp only
      refine .mk (by split <;> exact log_none) fun g hok => ?_
      obtain ⟨hsj, hal, _, hio, _⟩ := pre g hok
      have hio := (hio (eq_false_of_ne_true hrun)).resolve_left (by rw [hsj]; nofun)
      exact (doTdWake_eff _).good (waitEntry_good g nrStopped .stopped (.waiting true) ⟨hal.wake _, ⟨rfl, hsj⟩, hio, nofun⟩
        fun _ => by rw [nrStopped_true]; exact Bool.or_true _) rfl
  · exact .same

theorem doTdJoined_eff (s : State) : Eff s .tdJoined (doTdJoined s) := by
  unfold doTdJoined
  split
  · rename_i htd
    split
    · exact .same
    · rename_i hio
      dsimp only
      refine .mk (by split <;> exact log_none) fun g _ => ?_
      obtain ⟨hal, hgo, _⟩ := g.locAt htd
      exact (doTdWake_eff _).good (waitEntry_good g nrNormal s.path (.waiting true)
        ⟨hal.wake _, ⟨rfl, hgo.2⟩, eq_false_of_ne_true hio, nofun⟩ fun hp => by rw [g.PN hp]; rfl) rfl
  · exact .same

theorem doTdDestroy_eff (s : State) : Eff s .tdDestroy (doTdDestroy s) := by
  unfold doTdDestroy
  split
  · rename_i htd hdt
    refine .mk ⟨_, rfl, .inl rfl⟩ fun g _ => ?_
    obtain ⟨_, hgo, hio, hni⟩ := g.locAt htd
    exact { g with loc := ⟨hgo, hio, hni⟩, IO1 := fun _ => hio, CL := cl_append plainEv g.CL rfl }
  · exact .same

theorem doTdOrphan_eff (s : State) : Eff s .tdOrphan (doTdOrphan s) := by
  unfold doTdOrphan
  split
  · rename_i i htd hdt
    refine .mk log_none fun g _ => ?_
    obtain ⟨hal, hgo, hio, hni⟩ := g.locAt htd
    exact { g with loc := ⟨hal, hgo, hio, by rw [hdt]; nofun, hni⟩ }
  · exact .same

theorem doIoSelfDestruct_eff (s : State) : Eff s .ioSelfDestruct (doIoSelfDestruct s) := by
  unfold doIoSelfDestruct
  split
  · rename_i htd hdt
    split
    · rename_i hfree
      simp only [ioBranch_ok, Bool.not_true, Bool.false_and, Bool.false_eq_true, if_false]
      refine .mk (by split <;> exact log_none) fun g hok => ?_
      have hsj : s.stopJoining = false := by simpa [ok] using hok
      obtain ⟨hal, _⟩ := g.locAt htd
      have own : IoOwns s := ⟨ioFree_alive hfree, hdt⟩
      exact (doTdWake_eff _).good (waitEntry_good g nrIo .io (.ioWaiting true) ⟨hal.wake _, ⟨rfl, hsj⟩, own, rfl, nofun⟩
        fun _ => by rw [nrIo_true]; exact Bool.or_true _) rfl
    · exact .same
  · exact .same

theorem doFlushSelfDestruct_eff (s : State) (i : Nat) : Eff s (.flushSelfDestruct i) (doFlushSelfDestruct s i) := by
  unfold doFlushSelfDestruct
  split
  · rename_i t hi
    split
    · rename_i hpc htd hdt
      obtain ⟨k, pc, c⟩ := t
      simp only at hpc; subst hpc
      refine .mk (log_none (touch_log s)) fun g hok => ?_
      have hsj : s.stopJoining = false := by simpa [ok] using hok
      have hkp := g.T.KP i _ hi
      simp only [touch_alive (g.alive (g.not_completed hi rfl))]
      cases k <;> cases hkp
      obtain ⟨hal, hsh, hio, _⟩ := g.locAt htd
      refine { g with T := g.T.set [] hi rfl nofun, loc := ?_, DT1 := fun j hj => ?_ }
      · show At _ (notifyTd s.td)
        rw [htd]
        exact ⟨⟨hal.1, fun k hk => by cases hk; exact (fdAt_set_self hi).trans rfl⟩, hsh, hio, fun e => absurd e (by rw [hsj]; nofun)⟩
      · by_cases hji : j = i
        · rw [hji]
        · rw [setT, fdAt_set_ne hji] at hj
          exact absurd (g.DT1 j hj) (by rw [hdt]; nofun)
    · exact .same
  · exact .same

/-- the flush loop: a section of the flusher, unless the thread is the one that ran the destructor in its callback (`fdtor_unwind_eff`) -/
theorem doFlushStep_shape (s : State) (i : Nat) (more : Bool) :
    Shape s i (.flushStep i more) (doFlushStep s i more) ∨ ∃ t, s.threads[i]? = some t ∧ (t.pc == .fdtor) = true := by
  obtain ⟨u, hu1, hu⟩ := touch_eq s
  unfold doFlushStep
  split
  · rename_i t hi
    obtain ⟨k, pc, c⟩ := t
    cases pc <;> try exact .inl .same
    · simp only [hu]
      split
      · cases k with | flush => exact .inl (.moved _ [] u hi hu1 {}) | _ => exact .inl (.ill [] hi rfl rfl (.inl rfl))
      · rename_i hsh
        split
        · rename_i hm
          cases k with
          | flush => exact .inl (.moved _ [.cbData i] u hi hu1 { log := .inr ⟨rfl, eq_false_of_ne_true hsh, rfl, by rw [hm]⟩ })
          | _ => exact .inl (.ill [.cbData i] hi rfl rfl (.inr ⟨rfl, eq_false_of_ne_true hsh, rfl, by rw [hm]⟩))
        · cases k with | flush => exact .inl (.moved _ [] u hi hu1 {}) | _ => exact .inl (.ill [] hi rfl rfl (.inl rfl))
    · cases k with | flush => exact .inl (.moved _ [] s.uaf hi (fun _ => rfl) {}) | _ => exact .inl (.ill [] hi rfl rfl (.inl rfl))
    · simp only [hu]
      cases k with | flush => exact .inl (.moved _ [.ret i _] u hi hu1 {}) | _ => exact .inl (.ill [.ret i _] hi rfl rfl (.inl rfl))
    · exact .inr ⟨_, hi, rfl⟩
  · exact .inl .same

/-- the flusher that ran the destructor in its callback unwinds: it leaves the call and its flush frame deletes `Impl` -/
theorem fdtor_unwind_eff (s : State) {i : Nat} {t : Thread} (hi : s.threads[i]? = some t) (hpc : (t.pc == .fdtor) = true) (more : Bool) :
    Eff s (.flushStep i more) (doFlushStep s i more) := by
  obtain ⟨u, hu1, hu⟩ := touch_eq s
  obtain ⟨k, pc, c⟩ := t
  cases pc <;> cases hpc
  simp only [doFlushStep, hi, hu]
  split
  · rename_i htd
    refine .mk ⟨_, rfl, .inl rfl⟩ fun g _ => ?_
    obtain ⟨hal, hgo, hio, _, hni⟩ := g.locAt htd
    rw [hu1 hal.1]
    have hkp := g.T.KP i _ hi
    cases k <;> cases hkp
    have T := g.T.set (t' := ⟨.flush, .done (.flushed false), c⟩) [] hi rfl nofun
    refine { g with T := T, loc := ⟨hgo, hio, forall_set hni rfl fun _ _ _ h => h⟩,
                    IO1 := fun _ => hio, DT1 := fun j hj => ?_, CL := cl_append plainEv g.CL rfl }
    by_cases hji : j = i
    · subst hji; rw [setT, fdAt_set_self hi] at hj; cases hj
    · rw [setT, fdAt_set_ne hji] at hj; exact g.DT1 j hj
  · exact .same

theorem doFlushStep_eff (s : State) (i : Nat) (more : Bool) : Eff s (.flushStep i more) (doFlushStep s i more) :=
  (doFlushStep_shape s i more).elim Shape.eff fun ⟨_, hi, hpc⟩ => fdtor_unwind_eff s hi hpc more

theorem step_eff (s : State) (st : Step) : Eff s st (step s st) := by
  cases st with
  | enter i => exact (doEnter_shape s i).eff
  | wake i t => exact (doWake_shape s i t).eff
  | connClose i => exact (doConnClose_shape s i).eff
  | connRelock i => exact (doConnRelock_shape s i).eff
  | flushStep i m => exact doFlushStep_eff s i m
  | ioCloseSess sid => exact doIoCloseSess_eff s sid
  | ioConnDone i => exact (doIoConnDone_shape s i).eff
  | ioDrain sid => exact doIoDrain_eff s sid
  | ioSyncCall op => exact doIoSyncCall_eff s op
  | stopCall => exact doStopCall_eff s
  | stopJoin => exact doStopJoin_eff s
  | tdBegin => exact doTdBegin_eff s
  | tdStop => exact doTdStop_eff s
  | tdJoined => exact doTdJoined_eff s
  | tdWake => exact doTdWake_eff s
  | tdDestroy => exact doTdDestroy_eff s
  | tdOrphan => exact doTdOrphan_eff s
  | ioSelfDestruct => exact doIoSelfDestruct_eff s
  | flushSelfDestruct i => exact doFlushSelfDestruct_eff s i

theorem step_inv {s : State} (h : Inv s) (h2 : Inv2 s) (st : Step) (hok : ok s st = true) :
    Inv (step s st) ∧ Inv2 (step s st) := ((step_eff s st).good (.of_inv h h2) hok).inv

theorem run_good : ∀ (steps : List Step) (s : State), Good s → Disciplined s steps → Good (run s steps)
  | [], _, g, _ => g
  | st :: rest, s, g, hd => run_good rest _ ((step_eff s st).good g hd.1) hd.2

theorem run_inv (steps : List Step) (s : State) (h : Inv s) (h2 : Inv2 s) (hd : Disciplined s steps) :
    Inv (run s steps) ∧ Inv2 (run s steps) := (run_good steps s (.of_inv h h2) hd).inv

theorem run_append (a b : List Step) : ∀ s : State, run s (a ++ b) = run (run s a) b := by
  induction a with
  | nil => intro s; rfl
  | cons x rest ih => intro s; exact ih (step s x)

theorem disc_append (a b : List Step) : ∀ s : State, Disciplined s a → Disciplined (run s a) b → Disciplined s (a ++ b) := by
  induction a with
  | nil => intro s _ h; exact h
  | cons x rest ih => intro s h1 h2; exact ⟨h1.1, ih (step s x) h1.2 h2⟩

theorem cbClose_step (s : State) (st : Step) (sid : Nat) :
    (step s st).log.count (.cbClose sid) = s.log.count (.cbClose sid) ∨
    ((step s st).log.count (.cbClose sid) = s.log.count (.cbClose sid) + 1 ∧ s.ioAlive = true ∧ s.live.contains sid = true ∧
      (st = .ioCloseSess sid ∨ st = .ioDrain (some sid))) := by
  obtain ⟨l, hl, h⟩ := (step_eff s st).log
  rw [hl, List.count_append]
  rcases h with h | ⟨x, rfl, h1, h2, h3⟩ | ⟨i, t, rfl, _⟩
  · left; rw [List.count_eq_zero_of_not_mem (not_mem_of_all h rfl)]; rfl
  · by_cases hx : x = sid
    · subst hx; right; exact ⟨by simp, h1, h2, h3⟩
    · left; simp [hx]
  · left; simp

theorem cbData_step (s : State) (st : Step) (i : Nat) :
    (step s st).log.count (.cbData i) = s.log.count (.cbData i) ∨
    ((step s st).log.count (.cbData i) = s.log.count (.cbData i) + 1 ∧ s.shuttingDown = false ∧
      (∃ t, s.threads[i]? = some t ∧ t.pc = .floop) ∧ st = .flushStep i true) := by
  obtain ⟨l, hl, h⟩ := (step_eff s st).log
  rw [hl, List.count_append]
  rcases h with h | ⟨x, rfl, _⟩ | ⟨j, t, rfl, h1, h2, h3, h4⟩
  · left; rw [List.count_eq_zero_of_not_mem (not_mem_of_all h rfl)]; rfl
  · left; simp
  · by_cases hj : j = i
    · subst hj; right; exact ⟨by simp, h1, ⟨t, h2, h3⟩, h4⟩
    · left; simp [hj]

theorem cbClose_quiet {s : State} (hio : s.ioAlive = false) (st : Step) (sid : Nat) :
    (step s st).log.count (.cbClose sid) = s.log.count (.cbClose sid) :=
  (cbClose_step s st sid).resolve_right fun h => by rw [hio] at h; cases h.2.1

theorem cbData_quiet {s : State} (hni : NoInside s) (st : Step) (i : Nat) :
    (step s st).log.count (.cbData i) = s.log.count (.cbData i) :=
  (cbData_step s st i).resolve_right fun ⟨_, _, ⟨t, ht, hpc⟩, _⟩ => by have := hni i t ht; rw [hpc] at this; cases this

end Iora.Teardown
