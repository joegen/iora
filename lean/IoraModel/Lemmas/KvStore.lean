import IoraModel.Model.KvSpec
import IoraModel.Lemmas.KvMap
/-! Refinement of the running store (`Model/KvStore.lean`) to the reference map (`Model/KvSpec.lean`): memory part. -/
namespace Iora.Kv
open Iora

/-- `_kv[k]` with the deadline `_expiry[k]` beside it -/
def Mem.look (m : Mem) (k : Key) : Option Ent :=
  match m.kv.get? k with
  | some v => some (v, m.expOf k)
  | none => none

/-- the abstraction function: memory as the readers see it at the current time -/
def W.abs (w : W) : SpecSt := { m := fun k => live w.now (w.mem.look k), now := w.now }

/-- the invariant of memory between two public calls (inside a critical section: `MemInvX`) -/
structure MemInv (m : Mem) : Prop where
  /-- cache coherence: every cached `(value, expiry)` is what `_kv` / `_expiry` hold for that key -/
  cache : ∀ x ∈ m.cache, m.look x.1 = some (x.2.value, x.2.expiry)
  /-- `_expiry` only has keys of `_kv` -/
  sub : ∀ k, (m.expiry.get? k).isSome = true → (m.kv.get? k).isSome = true
  nodupKv : (Map.keys m.kv).Nodup
  nodupExp : (Map.keys m.expiry).Nodup
  /-- the empty key is never stored -/
  noEmpty : m.kv.get? [] = none

theorem live_none (now : Int) : live now none = none := rfl
@[simp] theorem live_some_none (now : Int) (v : Val) : live now (some (v, none)) = some (v, none) := rfl

theorem live_isSome_of (now : Int) (x : Option Ent) (h : (live now x).isSome = true) : x.isSome = true := by
  cases x with
  | none => simp [live] at h
  | some y => simp

theorem live_idem (now : Int) (x : Option Ent) : live now (live now x) = live now x := by
  match x with
  | none => rfl
  | some (v, none) => rfl
  | some (v, some e) =>
    by_cases h : now < e <;> simp [live, h]

theorem live_mono (t now : Int) (h : now ≤ t) (x : Option Ent) : live t (live now x) = live t x := by
  match x with
  | none => rfl
  | some (v, none) => rfl
  | some (v, some e) =>
    by_cases h1 : now < e
    · simp [live, h1]
    · have : ¬ t < e := by omega
      simp [live, h1, this]

theorem expOf_def (m : Mem) (k : Key) : m.expOf k = (m.expiry.get? k).map (·.at_) := rfl

theorem expired_iff (m : Mem) (now : Int) (k : Key) :
    m.expired now k = true ↔ ∃ e, m.expOf k = some e ∧ e ≤ now := by
  unfold Mem.expired Mem.expOf
  cases h : m.expiry.get? k with
  | none => simp
  | some e => simp

theorem expired_false_iff (m : Mem) (now : Int) (k : Key) :
    m.expired now k = false ↔ ∀ e, m.expOf k = some e → now < e := by
  unfold Mem.expired Mem.expOf
  cases h : m.expiry.get? k with
  | none => simp
  | some e => simp

theorem expOf_none_of_not_has (m : Mem) (k : Key) (h : m.expiry.has k = false) : m.expOf k = none := by
  unfold Map.has at h; unfold Mem.expOf
  cases hk : m.expiry.get? k with
  | none => rfl
  | some v => rw [hk] at h; simp at h

theorem expired_of_at_le {m : Mem} {now : Int} {k : Key} {e : ExpEnt} (he : m.expiry.get? k = some e) (h : ¬ e.at_ > now) :
    m.expired now k = true := by
  rw [expired_iff]; exact ⟨e.at_, by simp [Mem.expOf, he], by omega⟩

/-- `live` is the two tests every read path makes: `_kv.find`, then `isExpiredLocked` -/
theorem live_look_eq (m : Mem) (now : Int) (k : Key) :
    live now (m.look k) = if m.kv.has k && !m.expired now k then m.look k else none := by
  unfold Mem.look Map.has Mem.expired Mem.expOf
  cases m.kv.get? k with
  | none => rfl
  | some v =>
    cases m.expiry.get? k with
    | none => rfl
    | some e => by_cases h : now < e.at_ <;> simp [live, h, Int.not_le.mpr, Int.not_lt.mp]

theorem live_look_isSome (m : Mem) (now : Int) (k : Key) :
    (live now (m.look k)).isSome = (m.kv.has k && !m.expired now k) := by
  rw [live_look_eq]
  unfold Mem.look Map.has
  cases m.kv.get? k <;> cases m.expired now k <;> rfl

theorem rdExists_spec (w : W) (hi : MemInv w.mem) (k : Key) :
    rdExists w.mem w.now k = specExists w.abs k := by
  unfold rdExists specExists W.abs
  simp only
  rw [live_look_isSome]
  by_cases hk : k.isEmpty = true
  · have := List.isEmpty_iff.mp hk; subst this
    simp [Map.has, hi.noEmpty]
  · simp [hk]

theorem rdTtl_spec (w : W) (hi : MemInv w.mem) (k : Key) :
    rdTtl w.mem w.now k = specTtl w.abs k := by
  unfold rdTtl specTtl W.abs Mem.look Map.has Mem.expOf
  simp only
  split
  · next hk => rw [List.isEmpty_iff.mp hk, hi.noEmpty]; rfl
  · cases w.mem.kv.get? k with
    | none => rfl
    | some v =>
      cases w.mem.expiry.get? k with
      | none => rfl
      | some e => by_cases h : e.at_ ≤ w.now <;> simp [live, h, Int.not_lt.mpr, Int.not_le.mp]

theorem rdGetBatch_spec (w : W) (hi : MemInv w.mem) (ks : List Key) :
    rdGetBatch w.mem w.now ks = specGetBatch w.abs ks := by
  unfold rdGetBatch specGetBatch
  congr 1
  funext k
  show _ = (live w.now (w.mem.look k)).map _
  by_cases hk : k.isEmpty = true
  · have := List.isEmpty_iff.mp hk; subst this
    simp [Mem.look, hi.noEmpty, live]
  · simp only [hk, Bool.false_eq_true, ↓reduceIte]
    rw [live_look_eq]
    unfold Mem.look Map.has
    cases hkv : w.mem.kv.get? k with
    | none => simp
    | some v =>
      cases hx : w.mem.expired w.now k <;> simp

theorem keysWithPrefix_spec (w : W) (hi : MemInv w.mem) (p : Bytes) :
    SpecKeys w.abs p (keysWithPrefix w.mem w.now p) := by
  unfold SpecKeys keysWithPrefix
  constructor
  · exact Map.nodup_filter _ _ hi.nodupKv
  · intro k
    show _ ↔ (_ ∧ (live w.now (w.mem.look k)).isSome = true)
    rw [live_look_isSome]
    have := Map.mem_keys_iff (w.mem.kv.filter (fun x => p.isPrefixOf x.1 && !w.mem.expired w.now x.1)) k
    unfold Map.keys at this
    rw [this, Map.get?_filter_key w.mem.kv (fun a => p.isPrefixOf a && !w.mem.expired w.now a)]
    unfold Map.has
    cases hkv : w.mem.kv.get? k with
    | none => simp
    | some v =>
      cases hp : p.isPrefixOf k <;> cases hx : w.mem.expired w.now k <;> simp

theorem rdKeys_spec (w : W) (hi : MemInv w.mem) : SpecKeys w.abs [] (rdKeys w.mem w.now) :=
  keysWithPrefix_spec w hi []

/-- `size()` (`_kv.size()` minus the expired entries of `_expiry`) is the number of keys `keys()` returns -/
theorem rdSize_spec (w : W) (hi : MemInv w.mem) : rdSize w.mem w.now = (rdKeys w.mem w.now).length := by
  unfold rdSize rdKeys keysWithPrefix
  simp only [List.length_map]
  have hsplit : w.mem.kv.length = (w.mem.kv.filter (fun x => w.mem.expired w.now x.1)).length
      + (w.mem.kv.filter (fun x => !w.mem.expired w.now x.1)).length :=
    Map.length_filter_split (fun x : Key × Val => w.mem.expired w.now x.1) w.mem.kv
  have hpre : (w.mem.kv.filter (fun x => ([] : Bytes).isPrefixOf x.1 && !w.mem.expired w.now x.1))
      = w.mem.kv.filter (fun x => !w.mem.expired w.now x.1) := by
    congr 1
  rw [hpre]
  have heq : (w.mem.expiry.filter (fun x => decide (x.2.at_ ≤ w.now))).length
      = (w.mem.kv.filter (fun x => w.mem.expired w.now x.1)).length := by
    apply Map.length_eq_of_keys_equiv
    · exact Map.nodup_filter _ _ hi.nodupExp
    · exact Map.nodup_filter _ _ hi.nodupKv
    · intro k
      rw [Map.mem_keys_filter_val w.mem.expiry hi.nodupExp (fun e => decide (e.at_ ≤ w.now)) k]
      have := Map.mem_keys_iff (w.mem.kv.filter (fun x => w.mem.expired w.now x.1)) k
      rw [this, Map.get?_filter_key w.mem.kv (fun a => w.mem.expired w.now a)]
      constructor
      · rintro ⟨e, he, hq⟩
        have hx : w.mem.expired w.now k = true := by
          unfold Mem.expired; rw [he]; exact hq
        have hs := hi.sub k (by rw [he]; rfl)
        obtain ⟨v, hv⟩ := Option.isSome_iff_exists.mp hs
        exact ⟨v, by simp [hx, hv]⟩
      · rintro ⟨v, hv⟩
        by_cases hx : w.mem.expired w.now k = true
        · unfold Mem.expired at hx
          cases he : w.mem.expiry.get? k with
          | none => rw [he] at hx; simp at hx
          | some e => rw [he] at hx; exact ⟨e, rfl, hx⟩
        · simp [hx] at hv
  omega

theorem look_congr {m1 m2 : Mem} (h1 : m1.kv = m2.kv) (h2 : m1.expiry = m2.expiry) : m1.look = m2.look := by
  funext k; simp [Mem.look, Mem.expOf, h1, h2]

def Mem.chg (m : Mem) (k : Key) (a : Map.Chg Val) (b : Map.Chg ExpEnt) (n : Nat) : Mem :=
  { m with kv := m.kv.chg k a, expiry := m.expiry.chg k b, nextTimer := n }

def Mem.newAt (m : Mem) (k : Key) (a : Map.Chg Val) (b : Map.Chg ExpEnt) : Option Ent :=
  (a.at (m.kv.get? k)).map fun v => (v, (b.at (m.expiry.get? k)).map (·.at_))

/-- `Mem.chg`, then the cache entry of `k` is set to `x` (`updateCache`) or erased (`invalidateCache`).  Every write of the store
to the entries of one key has this form but the RE-ARM branch of the eviction callback (a bare `Mem.chg`). -/
def Mem.upd (cfg : Cfg) (m : Mem) (k : Key) (a : Map.Chg Val) (b : Map.Chg ExpEnt) (n : Nat) : Option Ent → Mem
  | some x => updateCache cfg (m.chg k a b n) k x.1 x.2
  | none => invalidateCache (m.chg k a b n) k

theorem look_chg (m : Mem) (k : Key) (a : Map.Chg Val) (b : Map.Chg ExpEnt) (n : Nat) (k' : Key) :
    (m.chg k a b n).look k' = if k = k' then m.newAt k a b else m.look k' := by
  simp only [Mem.look, Mem.expOf, Mem.chg, Mem.newAt, Map.get?_chg]
  by_cases e : k = k'
  · subst e
    simp only [↓reduceIte]
    cases a.at (m.kv.get? k) <;> rfl
  · simp only [e, ↓reduceIte]

theorem look_upd (cfg : Cfg) (m : Mem) (k : Key) (a : Map.Chg Val) (b : Map.Chg ExpEnt) (n : Nat) (c : Option Ent) (k' : Key) :
    (m.upd cfg k a b n c).look k' = if k = k' then m.newAt k a b else m.look k' := by
  rw [← look_chg m k a b n k']
  cases c <;> exact congrFun (look_congr rfl rfl) k'

@[simp] theorem upd_kv (cfg : Cfg) (m : Mem) (k : Key) (a : Map.Chg Val) (b : Map.Chg ExpEnt) (n : Nat) (c : Option Ent) :
    (m.upd cfg k a b n c).kv = m.kv.chg k a := by cases c <;> rfl

@[simp] theorem upd_expiry (cfg : Cfg) (m : Mem) (k : Key) (a : Map.Chg Val) (b : Map.Chg ExpEnt) (n : Nat) (c : Option Ent) :
    (m.upd cfg k a b n c).expiry = m.expiry.chg k b := by cases c <;> rfl

theorem mem_updateCache (cfg : Cfg) (m : Mem) (k : Key) (v : Val) (e : Option Int) (x : Key × CacheEnt)
    (h : x ∈ (updateCache cfg m k v e).cache) : x = (k, ⟨v, e⟩) ∨ (x ∈ m.cache ∧ x.1 ≠ k) ∨ (cfg.maxCache = 0 ∧ x ∈ m.cache) := by
  unfold updateCache at h
  by_cases h0 : cfg.maxCache = 0
  · simp only [h0, ↓reduceIte] at h
    exact .inr (.inr ⟨h0, h⟩)
  · simp only [h0, ↓reduceIte, Map.put] at h
    rcases List.mem_cons.mp h with h | h
    · exact .inl h
    · right; left
      have h2 := Map.mem_erase _ k x h
      refine ⟨?_, h2.2⟩
      split at h2
      · split at h2
        · exact List.mem_of_mem_eraseIdx h2.1
        · exact List.mem_of_mem_eraseIdx h2.1
      · exact h2.1

@[simp] theorem updateCache_kv (cfg : Cfg) (m : Mem) (k : Key) (v : Val) (e : Option Int) :
    (updateCache cfg m k v e).kv = m.kv := rfl
@[simp] theorem updateCache_expiry (cfg : Cfg) (m : Mem) (k : Key) (v : Val) (e : Option Int) :
    (updateCache cfg m k v e).expiry = m.expiry := rfl
@[simp] theorem updateCache_nextTimer (cfg : Cfg) (m : Mem) (k : Key) (v : Val) (e : Option Int) :
    (updateCache cfg m k v e).nextTimer = m.nextTimer := rfl

theorem look_updateCache (cfg : Cfg) (m : Mem) (k : Key) (v : Val) (e : Option Int) :
    (updateCache cfg m k v e).look = m.look := look_congr rfl rfl

theorem look_invalidateCache (m : Mem) (k : Key) : (invalidateCache m k).look = m.look := look_congr rfl rfl

/-- `MemInv` except that cached entries of key `k` may be stale (the state between the update of `_kv`/`_expiry` and the
cache update/invalidation of the same critical section) -/
structure MemInvX (m : Mem) (k : Key) : Prop where
  cache : ∀ x ∈ m.cache, x.1 ≠ k → m.look x.1 = some (x.2.value, x.2.expiry)
  sub : ∀ k', (m.expiry.get? k').isSome = true → (m.kv.get? k').isSome = true
  nodupKv : (Map.keys m.kv).Nodup
  nodupExp : (Map.keys m.expiry).Nodup
  noEmpty : m.kv.get? [] = none

/-! `MemInv m` is its cache clause and `Map.KvWF m.kv m.expiry`; `MemInvX m k` likewise. -/

theorem MemInv.wf {m : Mem} (hi : MemInv m) : Map.KvWF m.kv m.expiry := ⟨hi.sub, hi.nodupKv, hi.nodupExp, hi.noEmpty⟩

theorem MemInv.of_wf {m : Mem} (hc : ∀ x ∈ m.cache, m.look x.1 = some (x.2.value, x.2.expiry)) (wf : Map.KvWF m.kv m.expiry) :
    MemInv m := ⟨hc, wf.sub, wf.nodupKv, wf.nodupExp, wf.noEmpty⟩

theorem MemInvX.wf {m : Mem} {k : Key} (hi : MemInvX m k) : Map.KvWF m.kv m.expiry := ⟨hi.sub, hi.nodupKv, hi.nodupExp, hi.noEmpty⟩

theorem MemInvX.of_wf {m : Mem} {k : Key} (hc : ∀ x ∈ m.cache, x.1 ≠ k → m.look x.1 = some (x.2.value, x.2.expiry))
    (wf : Map.KvWF m.kv m.expiry) : MemInvX m k := ⟨hc, wf.sub, wf.nodupKv, wf.nodupExp, wf.noEmpty⟩

/-- `updateCache` returns at once when `maxCacheSize == 0`, so it could not replace a stale entry: the cache is empty then, and there
is none -/
def CacheOff (cfg : Cfg) (m : Mem) : Prop := cfg.maxCache = 0 → m.cache = []

def MInv (cfg : Cfg) (m : Mem) : Prop := MemInv m ∧ CacheOff cfg m

theorem CacheOff.updateCache (cfg : Cfg) (m : Mem) (hz : CacheOff cfg m) (k : Key) (v : Val) (e : Option Int) :
    CacheOff cfg (updateCache cfg m k v e) := by
  intro h0
  unfold Iora.Kv.updateCache
  simp only [h0, ↓reduceIte]
  exact hz h0

theorem MemInvX.updateCache (cfg : Cfg) {m : Mem} {k : Key} (hi : MemInvX m k) (hz : CacheOff cfg m) (v : Val) (e : Option Int)
    (hl : m.look k = some (v, e)) : MemInv (updateCache cfg m k v e) := by
  refine .of_wf (fun x hx => ?_) hi.wf
  rw [look_updateCache]
  rcases mem_updateCache cfg m k v e x hx with h | h | h
  · subst h; exact hl
  · exact hi.cache x h.1 h.2
  · rw [hz h.1] at h; exact absurd h.2 List.not_mem_nil

theorem MemInvX.invalidate {m : Mem} {k : Key} (hi : MemInvX m k) : MemInv (invalidateCache m k) := by
  refine .of_wf (fun x hx => ?_) hi.wf
  have h := Map.mem_erase m.cache k x hx
  rw [look_invalidateCache]
  exact hi.cache x h.1 h.2

theorem erase_nil {β : Type} (k : Key) : Map.erase ([] : Map β) k = [] := rfl

/-- `hsub`, `hne`: the change keeps `_expiry ⊆ _kv` and stores nothing under the empty key.  `hc` is cache coherence: the entry written
for `k` is what has just been stored, or the entry is erased. -/
theorem MInv.upd {cfg : Cfg} {m : Mem} (hi : MInv cfg m) (k : Key) (a : Map.Chg Val) (b : Map.Chg ExpEnt) (n : Nat) (c : Option Ent)
    (hsub : (b.at (m.expiry.get? k)).isSome = true → (a.at (m.kv.get? k)).isSome = true)
    (hne : k = [] → a.at (m.kv.get? k) = none) (hc : c = none ∨ c = m.newAt k a b) : MInv cfg (m.upd cfg k a b n c) := by
  have wf := hi.1.wf.chg k a b hsub hne
  -- after `chg` only the cached entries of `k` can be stale; the cache step then sets or erases exactly those
  have hx : MemInvX (m.chg k a b n) k :=
    .of_wf (fun x hx hxk => by rw [look_chg, if_neg (Ne.symm hxk)]; exact hi.1.cache x hx) wf
  cases c with
  | none => exact ⟨hx.invalidate, fun h0 => by show Map.erase m.cache k = []; rw [hi.2 h0]; rfl⟩
  | some x =>
    have hl : (m.chg k a b n).look k = some (x.1, x.2) := by
      rw [look_chg, if_pos rfl]
      rcases hc with h | h
      · cases h
      · exact h.symm
    exact ⟨hx.updateCache cfg hi.2 x.1 x.2 hl, CacheOff.updateCache cfg _ hi.2 _ _ _⟩

@[simp] theorem emit_mem (w : W) (o : FsOp) : (w.emit o).mem = w.mem := rfl
@[simp] theorem emit_now (w : W) (o : FsOp) : (w.emit o).now = w.now := rfl
@[simp] theorem writeLog_mem (cfg : Cfg) (w : W) (r : Rec) : (writeLog cfg w r).mem = w.mem := rfl
@[simp] theorem writeLog_now (cfg : Cfg) (w : W) (r : Rec) : (writeLog cfg w r).now = w.now := rfl

/-- the state a critical section leaves: memory `mF`, the records `recs` appended to the log.  A call that is one critical section
has this form, followed by `maybeCompact` or not (what the records must satisfy: `Sect` in `Lemmas/KvFiles.lean`). -/
def W.sec (cfg : Cfg) (w : W) (mF : Mem) (recs : List Rec) : W := recs.foldl (fun w r => writeLog cfg w r) { w with mem := mF }

theorem sec_io (cfg : Cfg) (w : W) (mF : Mem) (recs : List Rec) :
    (w.sec cfg mF recs).mem = mF ∧ (w.sec cfg mF recs).now = w.now ∧
    (w.sec cfg mF recs).tr = w.tr ++ recs.map (fun r => FsOp.append .log (encode cfg.crc r)) ∧
    (w.sec cfg mF recs).fs = applyAll w.fs (recs.map (fun r => FsOp.append .log (encode cfg.crc r))) := by
  suffices h : ∀ w0 : W, (recs.foldl (fun w r => writeLog cfg w r) w0).mem = w0.mem ∧
      (recs.foldl (fun w r => writeLog cfg w r) w0).now = w0.now ∧
      (recs.foldl (fun w r => writeLog cfg w r) w0).tr = w0.tr ++ recs.map (fun r => FsOp.append .log (encode cfg.crc r)) ∧
      (recs.foldl (fun w r => writeLog cfg w r) w0).fs = applyAll w0.fs (recs.map (fun r => FsOp.append .log (encode cfg.crc r))) from
    h { w with mem := mF }
  induction recs with
  | nil => intro w0; exact ⟨rfl, rfl, (List.append_nil _).symm, rfl⟩
  | cons r rest ih =>
    intro w0
    obtain ⟨h1, h2, h3, h4⟩ := ih (writeLog cfg w0 r)
    exact ⟨h1, h2, h3.trans (List.append_assoc _ _ _), h4⟩

theorem sec_setMem (cfg : Cfg) (w : W) (m m' : Mem) (recs : List Rec) : ({ w.sec cfg m recs with mem := m' } : W) = w.sec cfg m' recs := by
  suffices h : ∀ w0 : W, ({ recs.foldl (fun w r => writeLog cfg w r) w0 with mem := m' } : W)
      = recs.foldl (fun w r => writeLog cfg w r) { w0 with mem := m' } from h { w with mem := m }
  induction recs with
  | nil => intro w0; rfl
  | cons r rest ih => intro w0; exact ih (writeLog cfg w0 r)

theorem abs_congr {w1 w2 : W} (hm : w1.mem.look = w2.mem.look) (hn : w1.now = w2.now) : w1.abs = w2.abs := by
  unfold W.abs; rw [hm, hn]

theorem abs_sec (cfg : Cfg) (w : W) (mF : Mem) (recs : List Rec) : (w.sec cfg mF recs).abs = ({ w with mem := mF } : W).abs :=
  abs_congr (by rw [(sec_io cfg w mF recs).1]) (sec_io cfg w mF recs).2.1

@[simp] theorem compactLocked_now (cfg : Cfg) (w : W) : (compactLocked cfg w).now = w.now := rfl

theorem look_compact (cfg : Cfg) (w : W) (k : Key) :
    (compactLocked cfg w).mem.look k = if w.mem.expired w.now k then none else w.mem.look k := by
  simp only [compactLocked, Mem.look, Mem.expOf]
  rw [Map.get?_filter_key w.mem.kv (fun a => !w.mem.expired w.now a),
      Map.get?_filter_key w.mem.expiry (fun a => !w.mem.expired w.now a)]
  cases h : w.mem.expired w.now k <;> simp

theorem expired_compact (cfg : Cfg) (w : W) (k : Key) : (compactLocked cfg w).mem.expired w.now k = false := by
  unfold Mem.expired
  simp only [compactLocked]
  rw [Map.get?_filter_key w.mem.expiry (fun a => !w.mem.expired w.now a)]
  cases hx : w.mem.expired w.now k with
  | true => simp
  | false =>
    simp only [Bool.not_false, ↓reduceIte]
    unfold Mem.expired at hx
    exact hx

theorem compact_look_eq_live (cfg : Cfg) (w : W) (k : Key) :
    (compactLocked cfg w).mem.look k = live w.now (w.mem.look k) := by
  rw [look_compact, live_look_eq]
  cases hx : w.mem.expired w.now k with
  | true => simp
  | false =>
    simp only [Bool.false_eq_true, ↓reduceIte, Bool.not_false, Bool.and_true]
    cases hh : w.mem.kv.has k with
    | true => rfl
    | false => simp [Mem.look, Option.not_isSome_iff_eq_none.mp (by simpa [Map.has] using hh)]

theorem abs_compact (cfg : Cfg) (w : W) : (compactLocked cfg w).abs = w.abs := by
  unfold W.abs
  simp only [compactLocked_now, SpecSt.mk.injEq, and_true]
  funext k
  rw [compact_look_eq_live, live_idem]

theorem MemInv.compact (cfg : Cfg) (w : W) (hi : MemInv w.mem) : MemInv (compactLocked cfg w).mem := by
  refine .of_wf (fun x hx => ?_) (hi.wf.filter_key fun a => !w.mem.expired w.now a)
  rw [look_compact]
  have hx' : x ∈ w.mem.cache.filter (fun x => !w.mem.expired w.now x.1) := hx
  obtain ⟨h1, h2⟩ := List.mem_filter.mp hx'
  have : w.mem.expired w.now x.1 = false := by simpa using h2
  simp only [this, Bool.false_eq_true, ↓reduceIte]
  exact hi.cache x h1

theorem MInv.compact (cfg : Cfg) (w : W) (hi : MInv cfg w.mem) : MInv cfg (compactLocked cfg w).mem :=
  ⟨MemInv.compact cfg w hi.1, fun h0 => by simp [compactLocked, hi.2 h0]⟩

@[simp] theorem maybeCompact_now (cfg : Cfg) (w : W) : (maybeCompact cfg w).now = w.now := by
  unfold maybeCompact; split <;> simp

theorem abs_maybeCompact (cfg : Cfg) (w : W) : (maybeCompact cfg w).abs = w.abs := by
  unfold maybeCompact; split
  · exact abs_compact cfg w
  · rfl

theorem MInv.maybeCompact (cfg : Cfg) (w : W) (hi : MInv cfg w.mem) : MInv cfg (maybeCompact cfg w).mem := by
  unfold Iora.Kv.maybeCompact; split
  · exact hi.compact cfg w
  · exact hi

theorem upd_ok (cfg : Cfg) (w : W) (hi : MInv cfg w.mem) (k : Key) (a : Map.Chg Val) (b : Map.Chg ExpEnt) (n : Nat) (c : Option Ent)
    (recs : List Rec) (hsub : (b.at (w.mem.expiry.get? k)).isSome = true → (a.at (w.mem.kv.get? k)).isSome = true)
    (hne : k = [] → a.at (w.mem.kv.get? k) = none) (hc : c = none ∨ c = w.mem.newAt k a b) :
    MInv cfg (w.sec cfg (w.mem.upd cfg k a b n c) recs).mem ∧
    (w.sec cfg (w.mem.upd cfg k a b n c) recs).abs = { w.abs with m := w.abs.m.upd k (live w.now (w.mem.newAt k a b)) } := by
  refine ⟨by rw [(sec_io cfg w _ recs).1]; exact hi.upd k a b n c hsub hne hc, ?_⟩
  rw [abs_sec]
  unfold W.abs Spec.upd
  simp only [SpecSt.mk.injEq, and_true]
  funext k'
  rw [look_upd]
  split <;> rfl

theorem maybeCompact_ok {cfg : Cfg} {w : W} {s : SpecSt} (h : MInv cfg w.mem ∧ w.abs = s) :
    MInv cfg (maybeCompact cfg w).mem ∧ (maybeCompact cfg w).abs = s :=
  ⟨h.1.maybeCompact cfg w, (abs_maybeCompact cfg w).trans h.2⟩

theorem upd_self {s : SpecSt} {k : Key} {x : Option Ent} (h : s.m k = x) : ({ s with m := s.m.upd k x } : SpecSt) = s := by
  cases s
  simp only [SpecSt.mk.injEq, and_true]
  funext k'
  unfold Spec.upd
  split
  · next e => exact e ▸ h.symm
  · rfl

theorem abs_none (w : W) (hi : MemInv w.mem) (k : Key)
    (h : k = [] ∨ w.mem.kv.has k = false ∨ w.mem.expired w.now k = true) : w.abs.m k = none := by
  show live w.now (w.mem.look k) = none
  rw [live_look_eq]
  rcases h with rfl | h | h
  · simp [Map.has, hi.noEmpty]
  · simp [h]
  · simp [h]

theorem look_some {m : Mem} {k : Key} {v : Val} (hv : m.kv.get? k = some v) : m.look k = some (v, m.expOf k) := by
  simp [Mem.look, hv]

theorem abs_some (w : W) (k : Key) (v : Val) (hv : w.mem.kv.get? k = some v) (hx : w.mem.expired w.now k = false) :
    w.abs.m k = some (v, w.mem.expOf k) := by
  show live w.now (w.mem.look k) = _
  rw [live_look_eq, look_some hv]
  simp [Map.has, hv, hx]

/-! ## the calls that touch one key

Each is first put in the form "guards, then the critical section `w.sec cfg (Mem.upd …) [record]`" (`op…_eq`, by unfolding; no
record for `get`, `maybeCompact` after it in `set`, `set`+TTL and `remove`); the file side (`Lemmas/KvFiles.lean`) starts from the
same equations.  Two sections are not a `Mem.upd`: the RE-ARM branch of the eviction callback is a bare `Mem.chg` (it leaves the cache
entry of `k` alone, which `upd` cannot say) and `clear` empties all three maps (`clearedMem`); `evictFire_ok` and `clear_ok` show the
invariant for them directly. -/

theorem validate_none {l : Lim} {k : Key} {v : Val} (h : validate l k v = none) :
    1 ≤ k.length ∧ k.length ≤ l.maxKey ∧ v.length ≤ l.maxVal := by
  unfold validate at h
  split at h
  · cases h
  split at h
  · cases h
  split at h
  · cases h
  rename_i h1 h2 h3
  refine ⟨?_, by omega, by omega⟩
  cases k
  · simp at h1
  · simp

theorem opSet_eq (cfg : Cfg) (w : W) (k : Key) (v : Val) :
    opSet cfg w k v = match validate cfg.lim k v with
      | some e => (w, .err e)
      | none => (maybeCompact cfg (w.sec cfg (w.mem.upd cfg k (.put v) .erase w.mem.nextTimer (some (v, none))) [.set k v]), .ok) :=
  rfl

theorem set_ok (cfg : Cfg) (w : W) (hi : MInv cfg w.mem) (k : Key) (v : Val) :
    MInv cfg (opSet cfg w k v).1.mem ∧ (opSet cfg w k v).1.abs = specStep cfg.lim w.abs (.set k v)
      ∧ OutOK cfg.lim w.abs (.set k v) (opSet cfg w k v).2 := by
  rw [opSet_eq]
  cases hv : validate cfg.lim k v with
  | some e => simp [specStep, OutOK, hv, hi]
  | none =>
    have hk : k ≠ [] := List.ne_nil_of_length_pos (validate_none hv).1
    obtain ⟨h1, h2⟩ := maybeCompact_ok (upd_ok cfg w hi k (.put v) .erase w.mem.nextTimer (some (v, none)) [.set k v]
      (fun _ => rfl) (fun e => absurd e hk) (.inr rfl))
    refine ⟨h1, h2.trans ?_, by simp [OutOK, hv]⟩
    simp [specStep, hv, Mem.newAt, Map.Chg.at]

theorem opSetTtl_eq (cfg : Cfg) (w : W) (k : Key) (v : Val) (ttl : Int) :
    opSetTtl cfg w k v ttl = if ttl ≤ 0 then (w, .err .badTtl) else match validate cfg.lim k v with
      | some e => (w, .err e)
      | none => (maybeCompact cfg (w.sec cfg
          (w.mem.upd cfg k (.put v) (.put ⟨deadlineAfter cfg.lim w.now ttl, w.mem.nextTimer, false⟩)
            (w.mem.nextTimer + 1) (some (v, some (deadlineAfter cfg.lim w.now ttl))))
          [.setE k v (deadlineAfter cfg.lim w.now ttl)]), .ok) := rfl

theorem setTtl_ok (cfg : Cfg) (w : W) (hi : MInv cfg w.mem) (k : Key) (v : Val) (ttl : Int) :
    MInv cfg (opSetTtl cfg w k v ttl).1.mem ∧ (opSetTtl cfg w k v ttl).1.abs = specStep cfg.lim w.abs (.setTtl k v ttl)
      ∧ OutOK cfg.lim w.abs (.setTtl k v ttl) (opSetTtl cfg w k v ttl).2 := by
  rw [opSetTtl_eq]
  by_cases ht : ttl ≤ 0
  · simp [specStep, OutOK, ht, hi]
  · simp only [ht, ↓reduceIte]
    cases hv : validate cfg.lim k v with
    | some e => simp [specStep, OutOK, hv, hi, ht]
    | none =>
      have hk : k ≠ [] := List.ne_nil_of_length_pos (validate_none hv).1
      obtain ⟨h1, h2⟩ := maybeCompact_ok (upd_ok cfg w hi k (.put v) (.put ⟨deadlineAfter cfg.lim w.now ttl, w.mem.nextTimer, false⟩)
        (w.mem.nextTimer + 1) (some (v, some (deadlineAfter cfg.lim w.now ttl))) [.setE k v (deadlineAfter cfg.lim w.now ttl)]
        (fun _ => rfl) (fun e => absurd e hk) (.inr rfl))
      refine ⟨h1, h2.trans ?_, by simp [OutOK, hv, ht]⟩
      have hnow : (W.abs w).now = w.now := rfl
      simp [specStep, hv, ht, hnow, Mem.newAt, Map.Chg.at]

/-- a cache hit is what the authoritative path would return (cache coherence + the embedded expiry) -/
theorem cacheLookup_some (m : Mem) (hi : MemInv m) (now : Int) (k : Key) (v : Val)
    (h : cacheLookup m now k = some v) : (live now (m.look k)).map (·.1) = some v := by
  unfold cacheLookup at h
  cases hc : m.cache.get? k with
  | none => rw [hc] at h; simp at h
  | some c =>
    rw [hc] at h
    have hcoh := hi.cache (k, c) (Map.mem_of_get? _ _ _ hc)
    simp only at hcoh h
    rw [hcoh]
    cases hce : c.expiry with
    | none => rw [hce] at h; simp at h; simp [h]
    | some e =>
      rw [hce] at h
      by_cases hlt : e > now
      · simp only [hlt, ↓reduceIte, Option.some.injEq] at h
        have : now < e := hlt
        simp [live, this, h]
      · simp [hlt] at h

/-- the right side is what `get` returns on a cache miss (the authoritative path: `_kv.find`, then `isExpiredLocked`) -/
theorem look_map_fst (m : Mem) (now : Int) (k : Key) :
    (live now (m.look k)).map (·.1) = (match m.kv.get? k with
      | none => none
      | some v => if m.expired now k then none else some v) := by
  rw [live_look_eq]
  unfold Mem.look Map.has
  cases hkv : m.kv.get? k with
  | none => simp
  | some v => cases hx : m.expired now k <;> simp

theorem opGet_eq (cfg : Cfg) (w : W) (k : Key) :
    opGet cfg w k = if k.isEmpty then (w, .value none) else
      match cacheLookup w.mem w.now k with
      | some v => (w, .value (some v))
      | none =>
        match w.mem.kv.get? k with
        | none => (w, .value none)
        | some v =>
          if w.mem.expired w.now k then (w, .value none)
          else (w.sec cfg (w.mem.upd cfg k .keep .keep w.mem.nextTimer (some (v, w.mem.expOf k))) [], .value (some v)) := rfl

theorem get_ok (cfg : Cfg) (w : W) (hi : MInv cfg w.mem) (k : Key) :
    MInv cfg (opGet cfg w k).1.mem ∧ (opGet cfg w k).1.abs = specStep cfg.lim w.abs (.get k)
      ∧ OutOK cfg.lim w.abs (.get k) (opGet cfg w k).2 := by
  rw [opGet_eq]
  simp only [specStep, OutOK]
  have hm := look_map_fst w.mem w.now k
  split
  · next hk =>
    have := List.isEmpty_iff.mp hk; subst this
    exact ⟨hi, rfl, by rw [abs_none w hi.1 [] (.inl rfl)]; rfl⟩
  · split
    · next v hc =>
      refine ⟨hi, rfl, ?_⟩
      show Out.value (some v) = Out.value ((live w.now (w.mem.look k)).map (·.1))
      rw [cacheLookup_some w.mem hi.1 w.now k v hc]
    · split
      · next hkv =>
        rw [hkv] at hm
        exact ⟨hi, rfl, congrArg Out.value hm.symm⟩
      · next v hkv =>
        rw [hkv] at hm
        split
        · next hex =>
          rw [hex] at hm
          exact ⟨hi, rfl, congrArg Out.value hm.symm⟩
        · next hex =>
          simp only [hex] at hm
          have hc : some (v, w.mem.expOf k) = w.mem.newAt k .keep .keep := by simp [Mem.newAt, Map.Chg.at, hkv, Mem.expOf]
          exact ⟨hi.upd k .keep .keep w.mem.nextTimer (some (v, w.mem.expOf k)) (hi.1.sub k) (fun e => e ▸ hi.1.noEmpty) (.inr hc),
            abs_congr (look_congr rfl rfl) rfl, congrArg Out.value hm.symm⟩

theorem opRemove_eq (cfg : Cfg) (w : W) (k : Key) :
    opRemove cfg w k = if k.isEmpty then w else
      if w.mem.kv.has k then
        maybeCompact cfg (w.sec cfg (w.mem.upd cfg k .erase .erase w.mem.nextTimer none) [.del k])
      else w := rfl

theorem remove_ok (cfg : Cfg) (w : W) (hi : MInv cfg w.mem) (k : Key) :
    MInv cfg (opRemove cfg w k).mem ∧ (opRemove cfg w k).abs = specStep cfg.lim w.abs (.remove k) := by
  rw [opRemove_eq]
  simp only [specStep]
  split
  · next hk => exact ⟨hi, (upd_self (abs_none w hi.1 k (.inl (List.isEmpty_iff.mp hk)))).symm⟩
  · split
    · exact maybeCompact_ok (upd_ok cfg w hi k .erase .erase w.mem.nextTimer none [.del k] (fun h => nomatch h) (fun _ => rfl) (.inl rfl))
    · next hh => exact ⟨hi, (upd_self (abs_none w hi.1 k (.inr (.inl (by simpa using hh))))).symm⟩

theorem opExpireAt_eq (cfg : Cfg) (w : W) (k : Key) (t : Int) :
    opExpireAt cfg w k t = if k.isEmpty then w else
      if !w.mem.kv.has k || w.mem.expired w.now k then w else
      w.sec cfg (w.mem.upd cfg k .keep (.put ⟨t, w.mem.nextTimer, decide (t ≤ w.now)⟩) (w.mem.nextTimer + 1) none)
        [.exp k (max t 1)] := rfl

/-- past the guard of `expireAt` the key is there and has not expired -/
theorem visible_of_guard {w : W} {k : Key} (h : ¬ (!w.mem.kv.has k || w.mem.expired w.now k) = true) :
    ∃ v, w.mem.kv.get? k = some v ∧ w.mem.expired w.now k = false := by
  cases h1 : w.mem.kv.has k <;> cases h2 : w.mem.expired w.now k <;> simp [h1, h2] at h
  exact ⟨_, Option.eq_some_of_isSome h1, rfl⟩

theorem expireAt_ok (cfg : Cfg) (w : W) (hi : MInv cfg w.mem) (k : Key) (t : Int) :
    MInv cfg (opExpireAt cfg w k t).mem ∧ (opExpireAt cfg w k t).abs = specStep cfg.lim w.abs (.expireAt k t) := by
  rw [opExpireAt_eq]
  simp only [specStep]
  split
  · next hk => rw [abs_none w hi.1 k (.inl (List.isEmpty_iff.mp hk))]; exact ⟨hi, rfl⟩
  · split
    · next hb =>
      -- absent, or expired-not-yet-evicted: a no-op on both sides
      rw [abs_none w hi.1 k (by cases h1 : w.mem.kv.has k <;> simp_all)]; exact ⟨hi, rfl⟩
    · next hb =>
      obtain ⟨v, hv, hx⟩ := visible_of_guard hb
      have habs := abs_some w k v hv hx
      rw [habs]
      obtain ⟨h1, h2⟩ := upd_ok cfg w hi k .keep (.put ⟨t, w.mem.nextTimer, decide (t ≤ w.now)⟩) (w.mem.nextTimer + 1) none
        [.exp k (max t 1)] (fun _ => by rw [hv]; rfl) (fun e => e ▸ hi.1.noEmpty) (.inl rfl)
      refine ⟨h1, h2.trans ?_⟩
      have hnow : (W.abs w).now = w.now := rfl
      simp [Mem.newAt, Map.Chg.at, hv, live, hnow]

theorem opPersist_eq (cfg : Cfg) (w : W) (k : Key) :
    opPersist cfg w k = if k.isEmpty then w else
      if !w.mem.kv.has k then w else
      if !w.mem.expiry.has k then w else
      if w.mem.expired w.now k then w else
      w.sec cfg (w.mem.upd cfg k .keep .erase w.mem.nextTimer none) [.exp k sentinel] := rfl

theorem persist_ok (cfg : Cfg) (w : W) (hi : MInv cfg w.mem) (k : Key) :
    MInv cfg (opPersist cfg w k).mem ∧ (opPersist cfg w k).abs = specStep cfg.lim w.abs (.persist k) := by
  rw [opPersist_eq]
  simp only [specStep]
  split
  · next hk => rw [abs_none w hi.1 k (.inl (List.isEmpty_iff.mp hk))]; exact ⟨hi, rfl⟩
  · split
    · next h1 => rw [abs_none w hi.1 k (.inr (.inl (by simpa using h1)))]; exact ⟨hi, rfl⟩
    · next h1 =>
      obtain ⟨v, hv⟩ := (Map.has_iff w.mem.kv k).mp (by simpa using h1)
      split
      · next h2 =>
        -- already permanent
        have he := expOf_none_of_not_has _ _ (by simpa using h2)
        have hx : w.mem.expired w.now k = false := by
          rw [expired_false_iff]; intro e h; rw [he] at h; cases h
        have habs := abs_some w k v hv hx
        rw [habs]
        exact ⟨hi, (upd_self (by rw [habs, he])).symm⟩
      · split
        · next h3 => rw [abs_none w hi.1 k (.inr (.inr h3))]; exact ⟨hi, rfl⟩
        · next h3 =>
          have habs := abs_some w k v hv (by simpa using h3)
          rw [habs]
          obtain ⟨h1, h2⟩ := upd_ok cfg w hi k .keep .erase w.mem.nextTimer none [.exp k sentinel]
            (fun h => nomatch h) (fun e => e ▸ hi.1.noEmpty) (.inl rfl)
          refine ⟨h1, h2.trans ?_⟩
          simp [Mem.newAt, Map.Chg.at, hv]

theorem opEvictFire_eq (cfg : Cfg) (w : W) (k : Key) (gen : Nat) :
    opEvictFire cfg w k gen = match w.mem.expiry.get? k with
      | none => w
      | some e =>
        if gen = 0 ∨ e.timer ≠ gen then w
        else if e.at_ > w.now then
          w.sec cfg (w.mem.chg k .keep (.put { e with timer := w.mem.nextTimer, due0 := false }) (w.mem.nextTimer + 1)) []
        else w.sec cfg (w.mem.upd cfg k .erase .erase w.mem.nextTimer none) [.del k] := rfl

theorem look_rearm (m : Mem) (k : Key) (e e' : ExpEnt) (he : m.expiry.get? k = some e) (hat : e'.at_ = e.at_) (n : Nat) :
    (m.chg k .keep (.put e') n).look = m.look := by
  funext k'
  rw [look_chg]
  split
  · next h => subst h; simp [Mem.newAt, Map.Chg.at, Mem.look, Mem.expOf, he, hat]; cases m.kv.get? k <;> rfl
  · rfl

/-- the eviction callback — STALE / RE-ARM / EVICT — never changes what the readers see: it removes only a key whose
expiry has passed (`M2`), whatever key and timer generation the wheel delivers, early or late -/
theorem evictFire_ok (cfg : Cfg) (w : W) (hi : MInv cfg w.mem) (k : Key) (gen : Nat) :
    MInv cfg (opEvictFire cfg w k gen).mem ∧ (opEvictFire cfg w k gen).abs = w.abs := by
  rw [opEvictFire_eq]
  split
  · exact ⟨hi, rfl⟩
  · next e he =>
    split
    · exact ⟨hi, rfl⟩
    · split
      · have hlook := look_rearm w.mem k e { e with timer := w.mem.nextTimer, due0 := false } he rfl (w.mem.nextTimer + 1)
        have wf := hi.1.wf.chg k .keep (.put { e with timer := w.mem.nextTimer, due0 := false })
          (fun _ => hi.1.sub k (by rw [he]; rfl)) (fun h => h ▸ hi.1.noEmpty)
        exact ⟨⟨.of_wf (fun x hx => (congrFun hlook x.1).trans (hi.1.cache x hx)) wf, hi.2⟩, abs_congr hlook rfl⟩
      · next hlt =>
        -- EVICT: the key's expiry has passed, so it was invisible already
        obtain ⟨h1, h2⟩ := upd_ok cfg w hi k .erase .erase w.mem.nextTimer none [.del k]
          (fun h => nomatch h) (fun _ => rfl) (.inl rfl)
        refine ⟨h1, h2.trans ?_⟩
        exact upd_self (abs_none w hi.1 k (.inr (.inr (expired_of_at_le he hlt))))

/-- the callback never removes a live key: the readers see it before, hence (`evictFire_ok`) after, and they see what `_kv` holds -/
theorem evictFire_live (cfg : Cfg) (w : W) (hi : MInv cfg w.mem) (k : Key) (gen : Nat) (k' : Key) (v : Val)
    (hl : w.mem.kv.get? k' = some v) (hlive : w.mem.expired w.now k' = false) :
    (opEvictFire cfg w k gen).mem.kv.get? k' = some v := by
  have h := congrArg (fun s : SpecSt => (s.m k').map (·.1)) (evictFire_ok cfg w hi k gen).2
  simp only [W.abs, look_map_fst, hl, hlive] at h
  split at h
  · cases h
  · next v' hv' =>
    split at h
    · cases h
    · rw [hv']; exact h

def clearedMem (m : Mem) : Mem := { kv := [], expiry := [], cache := [], nextTimer := m.nextTimer, choices := m.choices }

theorem opClear_eq (cfg : Cfg) (w : W) :
    opClear cfg w = maybeCompact cfg (w.sec cfg (clearedMem w.mem) (w.mem.kv.map (fun x => Rec.del x.1))) := by
  have e : w.mem.kv.foldl (fun w x => writeLog cfg w (.del x.1)) w = w.sec cfg w.mem (w.mem.kv.map (fun x => Rec.del x.1)) := by
    unfold W.sec; rw [List.foldl_map]
  unfold opClear
  simp only [e, (sec_io cfg w w.mem _).1]
  exact congrArg _ (sec_setMem cfg w w.mem (clearedMem w.mem) _)

theorem clear_ok (cfg : Cfg) (w : W) :
    MInv cfg (opClear cfg w).mem ∧ (opClear cfg w).abs = specStep cfg.lim w.abs .clear := by
  rw [opClear_eq]
  refine ⟨MInv.maybeCompact cfg _ (by
    rw [(sec_io cfg w _ _).1]
    exact ⟨.of_wf (fun x hx => nomatch hx) Map.KvWF.nil, fun _ => rfl⟩), ?_⟩
  rw [abs_maybeCompact, abs_sec]
  unfold W.abs
  simp only [specStep, SpecSt.mk.injEq, and_true]
  funext k
  simp [Mem.look, clearedMem, live]

/-- a clock tick: exactly the pruning of the reference map -/
theorem advance_ok (w : W) (dt : Nat) :
    ({ w with now := w.now + dt } : W).abs = { m := fun k => live (w.now + dt) (w.abs.m k), now := w.now + dt } := by
  unfold W.abs
  simp only [SpecSt.mk.injEq, and_true]
  funext k
  rw [live_mono _ _ (by omega)]

/-! ## batches: `setBatch(batch)` (`eo = none`) and `setBatch(batch, ttl)` (`eo` = the common deadline) -/

theorem batchBad_valid (l : Lim) (x : Key × Val) (r : List (Key × Val)) (h : batchBad l (x :: r) = false) :
    (1 ≤ x.1.length ∧ x.1.length ≤ l.maxKey ∧ x.2.length ≤ l.maxVal) ∧ batchBad l r = false := by
  unfold batchBad at *
  simp only [List.any_cons, Bool.or_eq_false_iff, decide_eq_false_iff_not] at h
  refine ⟨⟨?_, by omega, by omega⟩, h.2⟩
  cases hk : x.1 with
  | nil => rw [hk] at h; simp at h
  | cons a b => simp

def batchExp (eo : Option Int) (m : Mem) : Map.Chg ExpEnt × Nat :=
  match eo with
  | none => (.erase, m.nextTimer)
  | some e => (.put ⟨e, m.nextTimer, false⟩, m.nextTimer + 1)

def Mem.setAll (cfg : Cfg) (eo : Option Int) (m : Mem) (kvs : List (Key × Val)) : Mem :=
  kvs.foldl (fun m x => m.upd cfg x.1 (.put x.2) (batchExp eo m).1 (batchExp eo m).2 (some (x.2, eo))) m

def batchRec (eo : Option Int) (x : Key × Val) : Rec :=
  match eo with
  | none => .set x.1 x.2
  | some e => .setE x.1 x.2 e

/-- both batch calls past the guard on the TTL -/
def batchCall (cfg : Cfg) (w : W) (eo : Option Int) (kvs : List (Key × Val)) : W × Out :=
  if kvs.isEmpty then (w, .ok) else if batchBad cfg.lim kvs then (w, .err .badBatch) else
    (maybeCompact cfg (w.sec cfg (w.mem.setAll cfg eo kvs) (kvs.map (batchRec eo))), .ok)

theorem opSetBatch_eq (cfg : Cfg) (w : W) (kvs : List (Key × Val)) : opSetBatch cfg w kvs = batchCall cfg w none kvs := by
  unfold opSetBatch batchCall W.sec; rw [List.foldl_map]; rfl

theorem opSetBatchTtl_eq (cfg : Cfg) (w : W) (kvs : List (Key × Val)) (ttl : Int) :
    opSetBatchTtl cfg w kvs ttl =
      if ttl ≤ 0 then (w, .err .badTtl) else batchCall cfg w (some (deadlineAfter cfg.lim w.now ttl)) kvs := by
  unfold opSetBatchTtl batchCall W.sec; rw [List.foldl_map]; rfl

theorem newAt_batch (eo : Option Int) (m : Mem) (x : Key × Val) :
    m.newAt x.1 (.put x.2) (batchExp eo m).1 = some (x.2, eo) := by
  cases eo <;> rfl

theorem setAll_ok (cfg : Cfg) (now : Int) (eo : Option Int) (kvs : List (Key × Val)) (hb : batchBad cfg.lim kvs = false) :
    ∀ (m : Mem), MInv cfg m → MInv cfg (m.setAll cfg eo kvs) ∧
      (fun k => live now ((m.setAll cfg eo kvs).look k))
        = kvs.foldl (fun (sp : Spec) x => sp.upd x.1 (live now (some (x.2, eo)))) (fun k => live now (m.look k)) := by
  induction kvs with
  | nil => intro m hi; exact ⟨hi, rfl⟩
  | cons x r ih =>
    intro m hi
    obtain ⟨hx, hr⟩ := batchBad_valid _ _ _ hb
    have hk : x.1 ≠ [] := List.ne_nil_of_length_pos hx.1
    obtain ⟨h1, h2⟩ := ih hr _ (hi.upd x.1 (.put x.2) (batchExp eo m).1 (batchExp eo m).2 (some (x.2, eo))
      (fun _ => rfl) (fun e => absurd e hk) (.inr (newAt_batch eo m x).symm))
    refine ⟨h1, h2.trans ?_⟩
    simp only [List.foldl_cons]
    congr 1
    funext k'
    rw [look_upd, newAt_batch]
    unfold Spec.upd
    split <;> rfl

theorem batch_ok (cfg : Cfg) (w : W) (hi : MInv cfg w.mem) (eo : Option Int) (kvs : List (Key × Val)) :
    MInv cfg (batchCall cfg w eo kvs).1.mem ∧
    (batchCall cfg w eo kvs).1.abs = (if batchBad cfg.lim kvs then w.abs else
      { w.abs with m := kvs.foldl (fun (sp : Spec) x => sp.upd x.1 (live w.now (some (x.2, eo)))) w.abs.m }) ∧
    (batchCall cfg w eo kvs).2 = if kvs.isEmpty then .ok else if batchBad cfg.lim kvs then .err .badBatch else .ok := by
  unfold batchCall
  by_cases he : kvs.isEmpty = true
  · have : kvs = [] := List.isEmpty_iff.mp he
    subst this
    simp [hi, batchBad]
  · simp only [he, Bool.false_eq_true, ↓reduceIte]
    cases hb : batchBad cfg.lim kvs with
    | true => simp [hi]
    | false =>
      simp only [Bool.false_eq_true, ↓reduceIte]
      obtain ⟨h1, h2⟩ := setAll_ok cfg w.now eo kvs hb w.mem hi
      refine ⟨MInv.maybeCompact cfg _ (by rw [(sec_io cfg w _ _).1]; exact h1), ?_, trivial⟩
      rw [abs_maybeCompact, abs_sec]
      exact congrArg (SpecSt.mk · w.now) h2

theorem setBatch_ok (cfg : Cfg) (w : W) (hi : MInv cfg w.mem) (kvs : List (Key × Val)) :
    MInv cfg (opSetBatch cfg w kvs).1.mem ∧ (opSetBatch cfg w kvs).1.abs = specStep cfg.lim w.abs (.setBatch kvs)
      ∧ OutOK cfg.lim w.abs (.setBatch kvs) (opSetBatch cfg w kvs).2 := by
  rw [opSetBatch_eq]
  simpa [specStep, OutOK] using batch_ok cfg w hi none kvs

theorem setBatchTtl_ok (cfg : Cfg) (w : W) (hi : MInv cfg w.mem) (kvs : List (Key × Val)) (ttl : Int) :
    MInv cfg (opSetBatchTtl cfg w kvs ttl).1.mem
      ∧ (opSetBatchTtl cfg w kvs ttl).1.abs = specStep cfg.lim w.abs (.setBatchTtl kvs ttl)
      ∧ OutOK cfg.lim w.abs (.setBatchTtl kvs ttl) (opSetBatchTtl cfg w kvs ttl).2 := by
  rw [opSetBatchTtl_eq]
  by_cases ht : ttl ≤ 0
  · simp [specStep, OutOK, ht, hi]
  · have hnow : (W.abs w).now = w.now := rfl
    simpa [specStep, OutOK, ht, hnow] using batch_ok cfg w hi (some (deadlineAfter cfg.lim w.now ttl)) kvs

theorem removeFold_ok (cfg : Cfg) (ks : List Key) :
    ∀ (w : W), MInv cfg w.mem →
      MInv cfg (ks.foldl (opRemove cfg) w).mem ∧
      (ks.foldl (opRemove cfg) w).abs = { w.abs with m := fun k => if k ∈ ks then none else w.abs.m k } := by
  induction ks with
  | nil => intro w hi; exact ⟨hi, by simp⟩
  | cons a r ih =>
    intro w hi
    simp only [List.foldl_cons]
    obtain ⟨h1, h2⟩ := remove_ok cfg w hi a
    obtain ⟨h3, h4⟩ := ih _ h1
    refine ⟨h3, ?_⟩
    rw [h4, h2]
    simp only [specStep, SpecSt.mk.injEq, and_true]
    funext k
    unfold Spec.upd
    by_cases e : a = k
    · subst e; simp
    · have : ¬ k = a := fun h => e h.symm
      simp [e, this]

/-- the order handed in is used only when it lists exactly the matching keys, each once -/
theorem prefixOrder_spec (m : Mem) (now : Int) (p : Bytes) (ord : List Key) :
    (prefixOrder m now p ord).Perm (keysWithPrefix m now p) := by
  unfold prefixOrder
  split
  · next h => exact List.isPerm_iff.mp h
  · exact List.Perm.refl _

theorem removeWithPrefix_ok (cfg : Cfg) (w : W) (hi : MInv cfg w.mem) (p : Bytes) (ord : List Key) :
    MInv cfg (opRemoveWithPrefix cfg w p ord).1.mem
      ∧ (opRemoveWithPrefix cfg w p ord).1.abs = specStep cfg.lim w.abs (.removeWithPrefix p ord)
      ∧ OutOK cfg.lim w.abs (.removeWithPrefix p ord) (opRemoveWithPrefix cfg w p ord).2 := by
  unfold opRemoveWithPrefix
  obtain ⟨hn, hm⟩ := keysWithPrefix_spec w hi.1 p
  have hperm := prefixOrder_spec w.mem w.now p ord
  have hn' : (prefixOrder w.mem w.now p ord).Nodup := hperm.nodup_iff.mpr hn
  have hm' : ∀ k, k ∈ prefixOrder w.mem w.now p ord ↔ (p.isPrefixOf k = true ∧ ((W.abs w).m k).isSome) := fun k =>
    hperm.mem_iff.trans (hm k)
  obtain ⟨h1, h2⟩ := removeFold_ok cfg (prefixOrder w.mem w.now p ord) w hi
  refine ⟨h1, ?_, ⟨_, hn', hm', rfl⟩⟩
  simp only
  rw [h2]
  simp only [specStep, SpecSt.mk.injEq, and_true]
  funext k
  by_cases hk : k ∈ prefixOrder w.mem w.now p ord
  · have := (hm' k).mp hk
    simp [hk, this.1]
  · simp only [hk, ↓reduceIte]
    cases hp : p.isPrefixOf k with
    | false => simp
    | true =>
      simp only [↓reduceIte]
      cases hs : (W.abs w).m k with
      | none => rfl
      | some x => exact absurd ((hm' k).mpr ⟨hp, by rw [hs]; rfl⟩) hk

/-- **simulation of one step**, the part that needs memory only; `reopen` needs the files (`step_ok` in `Lemmas/KvFiles.lean`) -/
theorem step_mem_ok (cfg : Cfg) (w : W) (hi : MInv cfg w.mem) (op : Op) (hop : op ≠ .reopen) :
    MInv cfg (step cfg w op).1.mem ∧ (step cfg w op).1.abs = specStep cfg.lim w.abs op
      ∧ OutOK cfg.lim w.abs op (step cfg w op).2 := by
  have hi0 : MInv cfg ({ w with tr := [] } : W).mem := hi
  have habs0 : ({ w with tr := [] } : W).abs = w.abs := rfl
  unfold step
  cases op with
  | set k v => simpa [habs0] using set_ok cfg { w with tr := [] } hi0 k v
  | setTtl k v ttl => simpa [habs0] using setTtl_ok cfg { w with tr := [] } hi0 k v ttl
  | setBatch kvs => simpa [habs0] using setBatch_ok cfg { w with tr := [] } hi0 kvs
  | setBatchTtl kvs ttl => simpa [habs0] using setBatchTtl_ok cfg { w with tr := [] } hi0 kvs ttl
  | get k => simpa [habs0] using get_ok cfg { w with tr := [] } hi0 k
  | remove k => exact (remove_ok cfg { w with tr := [] } hi0 k).imp_right (⟨·, rfl⟩)
  | removeWithPrefix p ord => simpa [habs0] using removeWithPrefix_ok cfg { w with tr := [] } hi0 p ord
  | clear => exact (clear_ok cfg { w with tr := [] }).imp_right (⟨·, rfl⟩)
  | expireAt k t => exact (expireAt_ok cfg { w with tr := [] } hi0 k t).imp_right (⟨·, rfl⟩)
  | persist k => exact (persist_ok cfg { w with tr := [] } hi0 k).imp_right (⟨·, rfl⟩)
  | compact => exact ⟨hi0.compact cfg _, abs_compact cfg _, rfl⟩
  | advance dt => exact ⟨hi, advance_ok w dt, rfl⟩
  | evictFire k g => exact (evictFire_ok cfg { w with tr := [] } hi0 k g).imp_right (⟨·, rfl⟩)
  | reopen => exact absurd rfl hop

end Iora.Kv
