import IoraModel.Lemmas.AssetsWalk
/-!
C20: the fuel of `walk`.  Every step of the path walk decreases the measure `|todo| + b·(maxTarget+1)`, so a walk with fuel above
it never answers "out of fuel" (`walk_enough_fuel`); the fuel `kwalk` gives is enough (`walkFuel_enough`), so
the walk of a system call gives the answer of the iteration (`walks_walkFuel`).
-/
namespace Iora.Assets
open Iora

theorem foldl_max_ge_init (l : List (Loc × Entry)) (m : Nat) :
    m ≤ l.foldl (fun m e => match e.2 with | .link t => max m t.length | _ => m) m := by
  induction l generalizing m with
  | nil => simp
  | cons x xs ih =>
    simp only [List.foldl_cons]
    split
    · exact Nat.le_trans (Nat.le_max_left _ _) (ih _)
    · exact ih _

theorem foldl_max_ge_mem (l : List (Loc × Entry)) (m : Nat) (k : Loc) (t : Bytes) (h : (k, Entry.link t) ∈ l) :
    t.length ≤ l.foldl (fun m e => match e.2 with | .link t => max m t.length | _ => m) m := by
  induction l generalizing m with
  | nil => simp at h
  | cons x xs ih =>
    simp only [List.foldl_cons]
    simp only [List.mem_cons] at h
    rcases h with h | h
    · subst h
      simp only
      exact Nat.le_trans (Nat.le_max_right _ _) (foldl_max_ge_init xs _)
    · exact ih _ h

theorem lookup_mem {α β} [BEq α] [LawfulBEq α] (l : List (α × β)) (k : α) (v : β) (h : l.lookup k = some v) : (k, v) ∈ l := by
  obtain ⟨l₁, l₂, rfl, _⟩ := List.lookup_eq_some_iff.mp h
  simp

theorem get_link_le (fs : Fs) (l : Loc) (t : Bytes) (h : fs.get l = some (.link t)) : t.length ≤ fs.maxTarget := by
  cases l with
  | nil => simp [Fs.get] at h
  | cons n up =>
    simp only [Fs.get] at h
    split at h
    · exact foldl_max_ge_mem fs.entries 0 _ t (lookup_mem _ _ _ h)
    · cases h

theorem filter_consHead_le (c : UInt8) (l : List Bytes) :
    ((consHead c l).filter (fun s => !s.isEmpty)).length ≤ (l.filter (fun s => !s.isEmpty)).length + 1 := by
  cases l with
  | nil => simp [consHead]
  | cons x xs =>
    simp only [consHead, List.filter_cons, List.isEmpty_cons, Bool.not_false, ↓reduceIte, List.length_cons]
    split <;> simp

theorem comps_length_le (p : Bytes) : (comps p).length ≤ p.length := by
  induction p with
  | nil => simp [comps, splitSlash]
  | cons c cs ih =>
    simp only [comps, splitSlash] at ih ⊢
    split
    · simp only [List.filter_cons, List.isEmpty_nil, Bool.not_true, Bool.false_eq_true, ↓reduceIte, List.length_cons]
      omega
    · have h1 := filter_consHead_le c (splitSlash cs)
      simp only [List.length_cons]
      exact Nat.le_trans h1 (Nat.succ_le_succ ih)

theorem cstr_length_le (p : Bytes) : (cstr p).length ≤ p.length := by
  unfold cstr
  exact (List.takeWhile_sublist _).length_le

theorem step_measure (fs : Fs) (b : Nat) (cur : Loc) (todo : List Name) (fol tr : Bool) :
    (walkStep fs b cur todo fol tr).sat (· ≠ .error .EFUEL) fun b' _ todo' _ =>
      todo'.length + b' * (fs.maxTarget + 1) + 1 ≤ todo.length + b * (fs.maxTarget + 1) := by
  cases todo with
  | nil => exact fun h => nomatch h
  | cons c rest =>
    cases walkStep_head fs cur c with
    | dot _ eq | dotdot _ eq | dir _ _ eq => simp [eq]; omega
    | long _ eq | missing _ eq | file _ _ _ eq => simp [eq]
    | link t0 _ hg eq =>
      -- following a link costs one unit of budget, worth `maxTarget + 1`, and puts at most `maxTarget` names in front
      have hle : (comps (cstr t0)).length ≤ fs.maxTarget :=
        Nat.le_trans (comps_length_le _) (Nat.le_trans (cstr_length_le _) (get_link_le fs _ t0 hg))
      simp [eq]
      intro _ hb _
      obtain ⟨b, rfl⟩ := Nat.exists_eq_succ_of_ne_zero hb
      rw [Nat.succ_sub_one, Nat.succ_mul]
      omega

theorem walk_succ (fs : Fs) (f b : Nat) (cur : Loc) (todo : List Name) (fol tr : Bool) :
    walk fs (f + 1) b cur todo fol tr =
      match walkStep fs b cur todo fol tr with
      | .done r => r
      | .next b' cur' todo' tr' => walk fs f b' cur' todo' fol tr' := rfl

theorem walk_enough_fuel (fs : Fs) : ∀ (f b : Nat) (cur : Loc) (todo : List Name) (fol tr : Bool),
    todo.length + b * (fs.maxTarget + 1) + 1 ≤ f → walk fs f b cur todo fol tr ≠ .error .EFUEL := by
  intro f
  induction f with
  | zero => intro b cur todo fol tr h; omega
  | succ f ih =>
    intro b cur todo fol tr h
    have hs := step_measure fs b cur todo fol tr
    rw [walk_succ]
    cases hst : walkStep fs b cur todo fol tr with
    | done r => rw [hst] at hs; exact hs
    | next b' cur' todo' tr' =>
      rw [hst] at hs
      exact ih _ _ _ _ _ (Nat.le_of_succ_le_succ (Nat.le_trans (Nat.succ_le_succ hs) h))

theorem walkFuel_enough (fs : Fs) (todo : List Name) :
    todo.length + SYMLOOP * (fs.maxTarget + 1) + 1 ≤ walkFuel fs todo := by
  simp only [walkFuel, SYMLOOP]
  have : 40 * (fs.maxTarget + 1) ≤ (40 + 1) * (fs.maxTarget + 1) := Nat.mul_le_mul_right _ (by omega)
  omega

theorem walks_of_walk {fs : Fs} {fol : Bool} : ∀ {f b cur todo tr}, walk fs f b cur todo fol tr ≠ .error .EFUEL →
    Walks fs fol b cur todo tr (walk fs f b cur todo fol tr) := by
  intro f
  induction f with
  | zero => intro b cur todo tr h; exact absurd rfl h
  | succ f ih =>
    intro b cur todo tr h
    rw [walk_succ] at h ⊢
    cases hs : walkStep fs b cur todo fol tr with
    | done r => exact .done hs
    | next b' cur' todo' tr' => rw [hs] at h; exact .next hs (ih h)

theorem walks_walkFuel (fs : Fs) (fol : Bool) (cur : Loc) (todo : List Name) (tr : Bool) :
    Walks fs fol SYMLOOP cur todo tr (walk fs (walkFuel fs todo) SYMLOOP cur todo fol tr) :=
  walks_of_walk (walk_enough_fuel fs _ _ _ _ _ _ (walkFuel_enough fs todo))

end Iora.Assets
