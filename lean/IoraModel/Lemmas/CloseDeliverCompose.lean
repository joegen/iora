import IoraModel.Lemmas.CloseDeliver
import IoraModel.Lemmas.LifecycleCore
/-! Composition (C02): the engine model's "nothing after the close" (T3a, `AllFrom okClosed`) is the `EngineContract` the
Transport-level delivery theorem assumes, for every Transport history whose engine-originated ops are - in order, with any
payloads and any application calls in between - the callbacks of an engine trace. -/
namespace Iora.Deliver

/-- the shape of an engine-originated op: (is it the close?, id); application calls have none.  The engine's close callback is ONE
event and the handler is two ops: the engine's event is the moment the I/O thread ENTERS the handler, i.e. the half the source
variant `markFirst` runs first; the other half maps to nothing -/
def opShape (markFirst : Bool) : Op → Option (Bool × Sid)
  | .engAccept s => some (false, s)
  | .engConnect s => some (false, s)
  | .engData s _ => some (false, s)
  | .closeMark s => if markFirst then some (true, s) else none
  | .closeCbs s => if markFirst then none else some (true, s)
  | _ => none

/-- the shape of an engine callback in a trace of `Model/EngineLifecycle.lean` (`ret` is connect() returning, not a callback) -/
def outShape : Lifecycle.Out → Option (Bool × Sid)
  | .announce s _ => some (false, s)
  | .data s => some (false, s)
  | .close s _ => some (true, s)
  | .ret _ _ => none

/-- every Transport history whose engine-originated ops are, in order, the callbacks of a trace with "nothing after the close"
honours the engine contract - whatever the payloads and whatever application calls are interleaved (also between the two halves
of a handler run).  Mark-first order: the engine's close event is the `closeMark` op. -/
theorem contract_of_engine_trace (tr : List Lifecycle.Out) (h : Lifecycle.AllFrom Lifecycle.okClosed [] tr) (ops : List Op)
    (hord : MarkBeforeCbs ops) (hproj : ops.filterMap (opShape true) = tr.filterMap outShape) : EngineContract ops := by
  -- in the common projection no callback shape of an id stands behind the close shape of that id
  have hsh : AllSplits (fun pre b => b.1 = false → (true, b.2) ∉ pre) (ops.filterMap (opShape true)) := by
    rw [hproj]
    refine AllSplits.filterMap (P := Lifecycle.okClosed) (fun _ _ _ hs => Lifecycle.allFrom_split_nil h hs) fun pre o b ho hok _ hm => ?_
    obtain ⟨x, hx, hxs⟩ := List.mem_filterMap.1 hm
    refine hok b.2 (by cases o <;> cases ho <;> rfl) (List.mem_filterMap.2 ⟨x, hx, ?_⟩)
    cases x <;> cases hxs <;> rfl
  intro pre o post hsplit s hso
  -- a mark of `s` before `o` would be such a close shape
  have hm : Op.closeMark s ∉ pre := fun hm => by
    have ho : opShape true o = some (false, s) := by cases o <;> cases hso <;> rfl
    exact hsh (pre.filterMap (opShape true)) (false, s) (post.filterMap (opShape true)) (by rw [hsplit]; simp [ho]) rfl
      (List.mem_filterMap.2 ⟨_, hm, rfl⟩)
  exact ⟨hm, fun hc => hm (mark_mem_of_cbs_mem hord hsplit hc)⟩

end Iora.Deliver
