import IoraModel.Model.Json
import IoraModel.Common.Span
/-! Lemmas about the JSON model (C13): the postcondition `Post` shared by all parsing functions (cursor invariant, progress, error
offset, budget never exhausted, a property of the result) for white space, literals, numbers and strings (`utf8_eq_core` and `decodeU_char`
are the two halves of U1); `parseValue_at` unfolds the dispatch of `parseValue` once, `parseValue_cases` reads it as a case principle
for what holds of every outcome, and J1, which knows the first byte, reads it off byte by byte (`parseValue_null` … in `JsonSpec.lean`). The containers and `parse` follow in
`JsonLimits.lean`. `strSlack` is the constant J4_limits and S3 of Props/C13 are stated with. -/
namespace Iora.Json
open Iora

-- what the guards and surrogate tests generated from json.hpp (`Gen/Json.lean`) compute; a change of the source breaks these
theorem depthExceeded_iff (x l : Nat) : Gen.Json.depthExceeded x l = true ↔ l < x := by simp [Gen.Json.depthExceeded]
theorem stringExceeded_iff (x l : Nat) : Gen.Json.stringExceeded x l = true ↔ l < x := by simp [Gen.Json.stringExceeded]
theorem arrayExceeded_iff (x l : Nat) : Gen.Json.arrayExceeded x l = true ↔ l ≤ x := by simp [Gen.Json.arrayExceeded]
theorem membersExceeded_iff (x l : Nat) : Gen.Json.membersExceeded x l = true ↔ l ≤ x := by simp [Gen.Json.membersExceeded]

theorem isHiSurr_iff (v : Nat) : isHiSurr v = true ↔ 0xD800 ≤ v ∧ v ≤ 0xDBFF := by
  unfold isHiSurr Gen.Json.hiSurrLo Gen.Json.hiSurrHi
  simp

theorem isLoSurr_iff (v : Nat) : isLoSurr v = true ↔ 0xDC00 ≤ v ∧ v ≤ 0xDFFF := by
  unfold isLoSurr Gen.Json.loSurrLo Gen.Json.loSurrHi
  simp

def Cur.wf (n : Nat) (c : Cur) : Prop := c.pos + c.rest.length = n

/-- what every parsing function guarantees when started inside a text of `n` bytes: success leaves the cursor inside the
    text and strictly further, with a result that satisfies `Q`; a failure reports a position inside the text (`≤ n`) and is
    never the budget outcome -/
def Post {α : Type} (Q : α → Prop) (n : Nat) (c : Cur) : Res α → Prop
  | .ok (a, c') => (c'.wf n ∧ c'.rest.length < c.rest.length) ∧ Q a
  | .error (k, off) => off ≤ n ∧ k ≠ ErrKind.fuel

theorem Post.mono {α : Type} {Q : α → Prop} {n : Nat} {c c0 : Cur} {r : Res α} (h : Post Q n c r)
    (hl : c.rest.length ≤ c0.rest.length) : Post Q n c0 r := by
  cases r with
  | error e => exact h
  | ok y => exact ⟨⟨h.1.1, Nat.lt_of_lt_of_le h.1.2 hl⟩, h.2⟩

theorem Post.imp {α : Type} {Q Q' : α → Prop} {n : Nat} {c : Cur} {r : Res α} (h : Post Q n c r) (hq : ∀ a, Q a → Q' a) :
    Post Q' n c r := by
  cases r with
  | error e => exact h
  | ok y => exact ⟨h.1, hq _ h.2⟩

theorem Post.err {α β : Type} {Q : α → Prop} {Q' : β → Prop} {n : Nat} {c c' : Cur} {e : Err} (h : Post Q n c (.error e)) :
    Post Q' n c' (.error e) := by
  obtain ⟨k, off⟩ := e; exact h

/-- the same for the scanning functions of `_parseNumber`, which report only a position; `get` extracts the cursor from the
    result, `d` bounds the bytes consumed from below -/
def Scan {α : Type} (get : α → Cur) (n : Nat) (c : Cur) (d : Nat) : Except Nat α → Prop
  | .ok a => (get a).wf n ∧ (get a).rest.length + d ≤ c.rest.length
  | .error p => p ≤ n

theorem Scan.mono {α : Type} {get : α → Cur} {n d d0 : Nat} {c c0 : Cur} {r : Except Nat α} (h : Scan get n c d r)
    (hl : c.rest.length + d0 ≤ c0.rest.length + d) : Scan get n c0 d0 r := by
  cases r with
  | error p => exact h
  | ok a => exact ⟨h.1, by have := h.2; omega⟩

/-- `scanFrac` and `scanExp` pair the cursor of `digitsRequired` with `true`; the `match` is theirs -/
theorem Scan.tag {n d : Nat} {c : Cur} {r : Except Nat Cur} (h : Scan id n c d r) :
    Scan Prod.snd n c d (match r with | .ok c' => .ok (true, c') | .error p => .error p) := by
  cases r <;> exact h

theorem Cur.wf.adv {n p : Nat} {b : UInt8} {r : Bytes} (h : Cur.wf n ⟨b :: r, p⟩) : Cur.wf n ⟨r, p + 1⟩ := by
  simp only [Cur.wf, List.length_cons] at *; omega

/-- `_skipWhitespace` and the digit loop of `_parseNumber` are the same loop: drop the bytes that satisfy `p` -/
def Cur.skip (p : UInt8 → Bool) (c : Cur) : Cur := ⟨c.rest.dropWhile p, c.pos + (c.rest.takeWhile p).length⟩

theorem Cur.skip_of_loop (p : UInt8 → Bool) {aux : Bytes → Nat → Cur} (hnil : ∀ q, aux [] q = ⟨[], q⟩)
    (hcons : ∀ b r q, aux (b :: r) q = if p b then aux r (q + 1) else ⟨b :: r, q⟩) (r : Bytes) (q : Nat) :
    aux r q = Cur.skip p ⟨r, q⟩ := by
  induction r generalizing q with
  | nil => exact hnil q
  | cons b r ih =>
    rw [hcons]
    cases h : p b
    · simp [Cur.skip, h]
    · simp [Cur.skip, h, ih, Nat.add_assoc, Nat.add_comm 1]

theorem skipWs_eq (c : Cur) : skipWs c = c.skip isSpace :=
  Cur.skip_of_loop isSpace (aux := skipWsAux) (fun _ => rfl) (fun _ _ _ => rfl) c.rest c.pos

theorem skipDigits_eq (c : Cur) : skipDigits c = c.skip isDigit :=
  Cur.skip_of_loop isDigit (aux := skipDigitsAux) (fun _ => rfl) (fun _ _ _ => rfl) c.rest c.pos

theorem Cur.skip_wf (p : UInt8 → Bool) {n : Nat} {c : Cur} (h : c.wf n) :
    (c.skip p).wf n ∧ (c.skip p).rest.length ≤ c.rest.length := by
  have := length_takeWhile_add p c.rest
  simp only [Cur.wf, Cur.skip] at *
  omega

theorem Cur.skip_append (p : UInt8 → Bool) (xs y : Bytes) (q : Nat) (hx : ∀ a ∈ xs, p a = true) (hy : HeadNot p y) :
    Cur.skip p ⟨xs ++ y, q⟩ = ⟨y, q + xs.length⟩ := by
  simp only [Cur.skip, takeWhile_append_stop hx hy, dropWhile_append_stop hx hy]

theorem skipWs_wf {n : Nat} {c : Cur} (h : c.wf n) : (skipWs c).wf n ∧ (skipWs c).rest.length ≤ c.rest.length :=
  skipWs_eq c ▸ Cur.skip_wf isSpace h

theorem skipDigits_wf {n : Nat} {c : Cur} (h : c.wf n) : (skipDigits c).wf n ∧ (skipDigits c).rest.length ≤ c.rest.length :=
  skipDigits_eq c ▸ Cur.skip_wf isDigit h

theorem skipWs_cases {n : Nat} {c : Cur} (h : c.wf n) :
    ((skipWs c).rest = [] ∧ (skipWs c).pos ≤ n) ∨
    ∃ b r, (skipWs c).rest = b :: r ∧ Cur.wf n ⟨b :: r, (skipWs c).pos⟩ ∧ r.length + 1 ≤ c.rest.length := by
  have hs := skipWs_wf h
  cases h2 : (skipWs c).rest with
  | nil => exact .inl ⟨rfl, Nat.le.intro hs.1⟩
  | cons b r => exact .inr ⟨b, r, rfl, by have := hs.1; rw [Cur.wf, h2] at this; exact this, by have := hs.2; rw [h2] at this; exact this⟩

/-- a value that is neither a string nor a container: nothing in it for the limits to bound -/
def Scalar : Json → Prop
  | .str _ | .arr _ | .obj _ => False
  | _ => True

theorem Post.lit {n k : Nat} {c : Cur} {lit : Bytes} {v : Json} (h : c.wf n) (ht : c.rest.take k = lit) (hk : lit.length = k)
    (h0 : 0 < k) (hv : Scalar v) : Post Scalar n c (.ok (v, ⟨c.rest.drop k, c.pos + k⟩)) := by
  have := congrArg List.length ht
  simp only [List.length_take] at this
  simp only [Post, Cur.wf, List.length_drop] at *
  exact ⟨by omega, hv⟩

theorem parseNull_post {n : Nat} {c : Cur} (h : c.wf n) : Post Scalar n c (parseNull c) := by
  unfold parseNull
  split
  · rename_i ht; exact Post.lit h ht (by decide) (by decide) trivial
  · exact ⟨Nat.le.intro h, by decide⟩

theorem parseBool_post {n : Nat} {c : Cur} (h : c.wf n) : Post Scalar n c (parseBool c) := by
  unfold parseBool
  split
  · rename_i ht; exact Post.lit h ht (by decide) (by decide) trivial
  · split
    · rename_i ht; exact Post.lit h ht (by decide) (by decide) trivial
    · exact ⟨Nat.le.intro h, by decide⟩

theorem skipDigits_cons_digit {d : UInt8} {r : Bytes} {p : Nat} (hd : isDigit d = true) :
    skipDigits ⟨d :: r, p⟩ = skipDigits ⟨r, p + 1⟩ := by
  simp [skipDigits, skipDigitsAux, hd]

theorem digitsRequired_scan {n : Nat} {c : Cur} (h : c.wf n) : Scan id n c 1 (digitsRequired c) := by
  obtain ⟨rest, pos⟩ := c
  cases rest with
  | nil => exact Nat.le.intro h
  | cons d r =>
    simp only [digitsRequired]
    split
    · rename_i hd
      rw [skipDigits_cons_digit hd]
      have := skipDigits_wf h.adv
      exact ⟨this.1, Nat.succ_le_succ this.2⟩
    · exact Nat.le.intro h

/-- an optional one-byte prefix (`skipSign`, `skipMinus`): `f` drops the first byte if it is one of `P`, and does nothing else -/
theorem skipOpt_wf {n : Nat} {c : Cur} (h : c.wf n) {f : Cur → Cur} (P : UInt8 → Prop) [DecidablePred P] (hnil : ∀ q, f ⟨[], q⟩ = ⟨[], q⟩)
    (hcons : ∀ b r q, f ⟨b :: r, q⟩ = if P b then ⟨r, q + 1⟩ else ⟨b :: r, q⟩) : (f c).wf n ∧ (f c).rest.length ≤ c.rest.length := by
  obtain ⟨rest, pos⟩ := c
  cases rest with
  | nil => rw [hnil]; exact ⟨h, Nat.le_refl _⟩
  | cons b r =>
    rw [hcons]
    split
    · exact ⟨h.adv, Nat.le_succ _⟩
    · exact ⟨h, Nat.le_refl _⟩

theorem skipSign_wf {n : Nat} {c : Cur} (h : c.wf n) : (skipSign c).wf n ∧ (skipSign c).rest.length ≤ c.rest.length :=
  skipOpt_wf h (fun s => s = 0x2B ∨ s = 0x2D) (fun _ => rfl) (fun _ _ _ => rfl)

theorem skipMinus_wf {n : Nat} {c : Cur} (h : c.wf n) : (skipMinus c).wf n ∧ (skipMinus c).rest.length ≤ c.rest.length :=
  skipOpt_wf h (· = 0x2D) (fun _ => rfl) (fun _ _ _ => rfl)

theorem scanFrac_scan {n : Nat} {c : Cur} (h : c.wf n) : Scan Prod.snd n c 0 (scanFrac c) := by
  obtain ⟨rest, pos⟩ := c
  cases rest with
  | nil => exact ⟨h, Nat.le_refl _⟩
  | cons b r =>
    simp only [scanFrac]
    split
    · exact (digitsRequired_scan h.adv).tag.mono (by simp only [List.length_cons]; omega)
    · exact ⟨h, Nat.le_refl _⟩

theorem scanExp_scan {n : Nat} {c : Cur} (h : c.wf n) : Scan Prod.snd n c 0 (scanExp c) := by
  obtain ⟨rest, pos⟩ := c
  cases rest with
  | nil => exact ⟨h, Nat.le_refl _⟩
  | cons b r =>
    simp only [scanExp]
    split
    · have hs := skipSign_wf h.adv
      exact (digitsRequired_scan hs.1).tag.mono (by have := hs.2; simp only [List.length_cons] at *; omega)
    · exact ⟨h, Nat.le_refl _⟩

theorem scanInt_scan {n : Nat} {c : Cur} (h : c.wf n) : Scan id n c 1 (scanInt c) := by
  obtain ⟨rest, pos⟩ := c
  cases rest with
  | nil => exact Nat.le.intro h
  | cons d r =>
    simp only [scanInt]
    split
    · rename_i hd
      split
      · exact ⟨h.adv, Nat.le_refl _⟩
      · rw [skipDigits_cons_digit hd]
        have := skipDigits_wf h.adv
        exact ⟨this.1, Nat.succ_le_succ this.2⟩
    · exact Nat.le.intro h

theorem scanNumber_scan {n : Nat} {c : Cur} (h : c.wf n) : Scan Prod.snd n c 1 (scanNumber c) := by
  have hm := skipMinus_wf h
  have hi := scanInt_scan hm.1
  cases hsi : scanInt (skipMinus c) with
  | error p => rw [hsi] at hi; simp only [scanNumber, hsi]; exact hi
  | ok c1 =>
    rw [hsi] at hi
    have h1 : c1.rest.length + 1 ≤ c.rest.length := Nat.le_trans hi.2 hm.2
    have hf := scanFrac_scan (c := c1) hi.1
    cases hsf : scanFrac c1 with
    | error p => rw [hsf] at hf; simp only [scanNumber, hsi, hsf]; exact hf
    | ok x =>
      obtain ⟨hasFrac, c2⟩ := x
      rw [hsf] at hf
      have he := scanExp_scan (c := c2) hf.1
      cases hse : scanExp c2 with
      | error p => rw [hse] at he; simp only [scanNumber, hsi, hsf, hse]; exact he
      | ok y =>
        obtain ⟨hasExp, c3⟩ := y
        rw [hse] at he
        simp only [scanNumber, hsi, hsf, hse]
        exact ⟨he.1, by have := hf.2; have := he.2; simp only [Nat.add_zero] at *; omega⟩

theorem convertNumber_scalar (ops : FloatOps) (f : Bool) (tok : Bytes) : Scalar (convertNumber ops f tok) := by
  unfold convertNumber
  split
  · trivial
  · split <;> trivial

theorem parseNumber_post (ops : FloatOps) {n : Nat} {c : Cur} (h : c.wf n) : Post Scalar n c (parseNumber ops c) := by
  have := scanNumber_scan h
  unfold parseNumber
  cases hsn : scanNumber c with
  | error p => rw [hsn] at this; exact ⟨this, by decide⟩
  | ok x => obtain ⟨hd, c3⟩ := x; rw [hsn] at this; exact ⟨this, convertNumber_scalar ops _ _⟩

/-- slack of the string-length guard: it runs before the append, and a `\u` escape appends up to 4 bytes -/
def strSlack : Nat := 4

theorem utf8_length (cp : Nat) : 1 ≤ (utf8 cp).length ∧ (utf8 cp).length ≤ strSlack := by
  unfold utf8
  split
  · exact (by decide : 1 ≤ 1 ∧ 1 ≤ 4)
  · split
    · exact (by decide : 1 ≤ 2 ∧ 2 ≤ 4)
    · split
      · exact (by decide : 1 ≤ 3 ∧ 3 ≤ 4)
      · exact (by decide : 1 ≤ 4 ∧ 4 ≤ 4)

/-- `_appendUtf8` computes exactly core Lean's `String.utf8EncodeChar` (the reference encoder) on every `Char` -/
theorem utf8_eq_core (c : Char) : utf8 c.val.toNat = String.utf8EncodeChar c := by
  unfold utf8 String.utf8EncodeChar
  -- once `Gen.Json.utf8Max1/2/3` unfold (0x7f, 0x7ff, 0xffff) the model's body is core's, term for term: this rests on how this version
  -- of core writes `String.utf8EncodeChar` (`Init/Prelude.lean`)
  rfl

theorem hexVal_lt {b : UInt8} {v : Nat} (h : hexVal b = some v) : v < 16 := by
  unfold hexVal at h
  simp only [UInt8.le_iff_toNat_le, UInt8.toNat_ofNat] at h
  split at h
  · injection h with h; omega
  · split at h
    · injection h with h; omega
    · split at h
      · injection h with h; omega
      · cases h

theorem parseHex4_spec {r : Bytes} {v : Nat} (h : parseHex4 r = some v) : 4 ≤ r.length ∧ v < 65536 := by
  match r with
  | [] | [_] | [_, _] | [_, _, _] => simp [parseHex4] at h
  | a :: b :: c :: d :: _ =>
    simp only [parseHex4] at h
    split at h
    · rename_i ha hb hc hd
      have := hexVal_lt ha; have := hexVal_lt hb; have := hexVal_lt hc; have := hexVal_lt hd
      simp only [Option.some.injEq] at h
      simp only [List.length_cons]
      omega
    · cases h

theorem lowSurrogate_spec {r : Bytes} {lo : Nat} (h : lowSurrogate r = some lo) : 6 ≤ r.length ∧ isLoSurr lo = true := by
  match r with
  | [] | [_] => simp [lowSurrogate] at h
  | a :: b :: r' =>
    simp only [lowSurrogate] at h
    split at h
    · cases hp : parseHex4 r' with
      | none => simp [hp] at h
      | some v =>
        simp only [hp] at h
        split at h
        · rename_i hl
          injection h with h; subst h
          exact ⟨by have := (parseHex4_spec hp).1; simp only [List.length_cons]; omega, hl⟩
        · cases h
    · cases h

/-- what one `\u` escape (single, surrogate pair or lone surrogate) yields: a count of bytes that are there, and a Unicode scalar value -/
theorem decodeU_spec {r : Bytes} {cp k : Nat} (h : decodeU r = some (cp, k)) :
    (1 ≤ k ∧ k ≤ r.length + 1) ∧ cp < 0x110000 ∧ ¬ (0xD800 ≤ cp ∧ cp ≤ 0xDFFF) := by
  unfold decodeU at h
  cases hp : parseHex4 r with
  | none => simp [hp] at h
  | some v =>
    have ⟨h4, hv⟩ := parseHex4_spec hp
    simp only [hp] at h
    -- three of the four ways out consume the four digits and yield U+FFFD or the code unit itself
    have lone : ∀ c, some (c, 1 + Gen.Json.hexAdvance) = some (cp, k) → (c < 0x110000 ∧ ¬ (0xD800 ≤ c ∧ c ≤ 0xDFFF)) →
        (1 ≤ k ∧ k ≤ r.length + 1) ∧ cp < 0x110000 ∧ ¬ (0xD800 ≤ cp ∧ cp ≤ 0xDFFF) := by
      intro c e hc
      simp only [Option.some.injEq, Prod.mk.injEq] at e
      obtain ⟨rfl, rfl⟩ := e
      exact ⟨by simp only [Gen.Json.hexAdvance]; omega, hc⟩
    split at h
    · rename_i hh
      rw [isHiSurr_iff] at hh
      cases hl : lowSurrogate (r.drop Gen.Json.hexAdvance) with
      | none => rw [hl] at h; exact lone _ h (by decide)
      | some lo =>
        have ⟨h6, hlo⟩ := lowSurrogate_spec hl
        rw [isLoSurr_iff] at hlo
        simp only [hl, Option.some.injEq, Prod.mk.injEq] at h
        obtain ⟨rfl, rfl⟩ := h
        simp only [Gen.Json.supplementaryBase, Gen.Json.hiSurrLo, Gen.Json.surrogateShift, Gen.Json.loSurrLo, Gen.Json.hexAdvance,
          Gen.Json.pairAdvance, List.length_drop] at *
        omega
    · rename_i hh
      rw [isHiSurr_iff] at hh
      split at h
      · exact lone _ h (by decide)
      · rename_i hl
        rw [isLoSurr_iff] at hl
        exact lone _ h (by omega)

theorem decodeU_char {r : Bytes} {cp k : Nat} (h : decodeU r = some (cp, k)) :
    ∃ c : Char, c.val.toNat = cp ∧ utf8 cp = String.utf8EncodeChar c := by
  have hs := (decodeU_spec h).2
  have hc : (Char.ofNat cp).val.toNat = cp := by
    unfold Char.ofNat
    rw [dif_pos (by simp [Nat.isValidChar]; omega)]
    simp [Char.ofNatAux, UInt32.toNat_ofNatLT]
  exact ⟨Char.ofNat cp, hc, by rw [← utf8_eq_core, hc]⟩

theorem strLoop_post (lim : Limits) {N : Nat} : ∀ (fuel : Nat) (racc : Bytes) (n : Nat) (c : Cur),
    c.wf N → c.rest.length + 1 ≤ fuel → n = racc.length → n ≤ lim.stringLengthMax + strSlack →
    Post (fun s => s.length ≤ lim.stringLengthMax + strSlack) N c (strLoop lim fuel racc n c) := by
  intro fuel
  induction fuel with
  | zero => intro racc n c _ hf; omega
  | succ fuel ih =>
    intro racc n c hw hf hn hle
    obtain ⟨rest, pos⟩ := c
    cases rest with
    | nil => exact ⟨Nat.le.intro hw, by decide⟩
    | cons b r =>
      simp only [strLoop]
      have hN : pos + (r.length + 1) = N := hw
      have hf' : r.length + 1 ≤ fuel := Nat.le_of_succ_le_succ hf
      -- an iteration that appends `k ≤ 4` bytes after the guard has passed and moves to a cursor inside `r`
      have step : n ≤ lim.stringLengthMax → ∀ (racc' : Bytes) (k : Nat) (c' : Cur), racc'.length = n + k → k ≤ strSlack → c'.wf N →
          c'.rest.length ≤ r.length → Post (fun s => s.length ≤ lim.stringLengthMax + strSlack) N ⟨b :: r, pos⟩
            (strLoop lim fuel racc' (n + k) c') :=
        fun hx racc' k c' hl hk hw' hlen =>
          (ih racc' (n + k) c' hw' (by omega) hl.symm (by omega)).mono (Nat.le_succ_of_le hlen)
      by_cases hq : b = 0x22
      · rw [if_pos hq]
        exact ⟨⟨hw.adv, Nat.lt_succ_self _⟩, by show racc.reverse.length ≤ _; rw [List.length_reverse, ← hn]; exact hle⟩
      rw [if_neg hq]
      by_cases hx : Gen.Json.stringExceeded n lim.stringLengthMax = true
      · rw [if_pos hx]; exact ⟨by omega, by decide⟩
      rw [if_neg hx]
      have hx' : n ≤ lim.stringLengthMax := Nat.le_of_not_lt fun h' => hx ((stringExceeded_iff _ _).mpr h')
      by_cases hb : b = 0x5C
      · rw [if_pos hb]
        cases r with
        | nil => exact ⟨by omega, by decide⟩
        | cons e r2 =>
          dsimp only
          by_cases he : e = 0x75
          · rw [if_pos he]
            cases hd : decodeU r2 with
            | none => exact ⟨by omega, by decide⟩
            | some x =>
              obtain ⟨cp, k⟩ := x
              have hk := (decodeU_spec hd).1
              exact step hx' _ _ _ (by rw [List.length_append, List.length_reverse, hn, Nat.add_comm]) (utf8_length cp).2
                (by simp only [Cur.wf, List.length_drop, List.length_cons] at *; omega)
                (by simp only [List.length_drop]; omega)
          · rw [if_neg he]
            cases hl : Gen.Json.parseEscapes.lookup e.toNat with
            | none => exact ⟨by omega, by decide⟩
            | some o => exact step hx' _ 1 _ (by rw [List.length_cons, hn]) (by decide) hw.adv.adv (Nat.le_succ _)
      · rw [if_neg hb]
        exact step hx' _ 1 _ (by rw [List.length_cons, hn]) (by decide) hw.adv (Nat.le_refl _)

theorem parseString_post (lim : Limits) {N : Nat} {c : Cur} (h : c.wf N) :
    Post (fun s => s.length ≤ lim.stringLengthMax + strSlack) N c (parseString lim c) := by
  obtain ⟨rest, pos⟩ := c
  cases rest with
  | nil => exact ⟨Nat.le.intro h, by decide⟩
  | cons b r =>
    simp only [parseString]
    split
    · exact (strLoop_post lim (r.length + 1) [] 0 _ h.adv (Nat.le_refl _) rfl (Nat.zero_le _)).mono (Nat.le_succ _)
    · exact ⟨Nat.le.intro h, by decide⟩

theorem parseValue_at {ops : FloatOps} {lim : Limits} {fuel depth : Nat} {c : Cur} {b : UInt8} {r : Bytes}
    (hd : Gen.Json.depthExceeded depth lim.depthMax = false) (h : (skipWs c).rest = b :: r) :
    parseValue ops lim (fuel + 1) depth c =
      if b = 0x6E then parseNull (skipWs c)
      else if b = 0x74 ∨ b = 0x66 then parseBool (skipWs c)
      else if b = 0x22 then
        match parseString lim (skipWs c) with
        | .ok (s, c') => .ok (.str s, c')
        | .error e => .error e
      else if b = 0x5B then parseArray (parseValue ops lim fuel (depth + 1)) lim (skipWs c)
      else if b = 0x7B then parseObject (parseValue ops lim fuel (depth + 1)) lim (skipWs c)
      else if b = 0x2D ∨ isDigit b = true then parseNumber ops (skipWs c)
      else .error (.char, (skipWs c).pos) := by
  rw [parseValue, hd, if_neg Bool.false_ne_true]
  dsimp only
  rw [h]
  rfl

theorem parseValue_cases {ops : FloatOps} {lim : Limits} {fuel depth : Nat} {c : Cur} {P : Res Json → Prop}
    (hdepth : lim.depthMax < depth → P (.error (.depth, c.pos)))
    (heof : P (.error (.eof, (skipWs c).pos)))
    (hnull : depth ≤ lim.depthMax → P (parseNull (skipWs c)))
    (hbool : depth ≤ lim.depthMax → P (parseBool (skipWs c)))
    (hstr : depth ≤ lim.depthMax →
      P (match parseString lim (skipWs c) with | .ok (s, c') => .ok (.str s, c') | .error e => .error e))
    (harr : depth ≤ lim.depthMax → (skipWs c).rest ≠ [] → P (parseArray (parseValue ops lim fuel (depth + 1)) lim (skipWs c)))
    (hobj : depth ≤ lim.depthMax → (skipWs c).rest ≠ [] → P (parseObject (parseValue ops lim fuel (depth + 1)) lim (skipWs c)))
    (hnum : depth ≤ lim.depthMax → P (parseNumber ops (skipWs c)))
    (hchar : P (.error (.char, (skipWs c).pos))) :
    P (parseValue ops lim (fuel + 1) depth c) := by
  by_cases hx : Gen.Json.depthExceeded depth lim.depthMax = true
  · rw [parseValue, if_pos hx]; exact hdepth ((depthExceeded_iff _ _).mp hx)
  · have hd : depth ≤ lim.depthMax := Nat.le_of_not_lt fun h => hx ((depthExceeded_iff _ _).mpr h)
    cases h1 : (skipWs c).rest with
    | nil => rw [parseValue, if_neg hx]; dsimp only; rw [h1]; exact heof
    | cons b r =>
      have hne : (skipWs c).rest ≠ [] := fun e => by rw [e] at h1; cases h1
      rw [parseValue_at (Bool.eq_false_iff.mpr hx) h1]
      by_cases h : b = 0x6E
      · rw [if_pos h]; exact hnull hd
      rw [if_neg h]
      by_cases h : b = 0x74 ∨ b = 0x66
      · rw [if_pos h]; exact hbool hd
      rw [if_neg h]
      by_cases h : b = 0x22
      · rw [if_pos h]; exact hstr hd
      rw [if_neg h]
      by_cases h : b = 0x5B
      · rw [if_pos h]; exact harr hd hne
      rw [if_neg h]
      by_cases h : b = 0x7B
      · rw [if_pos h]; exact hobj hd hne
      rw [if_neg h]
      by_cases h : b = 0x2D ∨ isDigit b = true
      · rw [if_pos h]; exact hnum hd
      rw [if_neg h]; exact hchar

end Iora.Json
