import IoraModel.Model.Monitor
/-!
# The broadcast discipline, proved once for every monitor program (DESIGN §6.3)

For ANY program in the vocabulary of `Model/Monitor.lean` that uses one mutex `m` and satisfies the classical discipline

* a thread calls `wait cv` only while holding `m`, in the same atomic step in which it found `pred cv` false;
* the shared data changes only in steps of the thread that holds `m`;
* a step that turns `pred cv` from false to true leaves its thread *owing* a `notifyAll cv`, and a thread that owes one
  keeps owing it until it executes it, and neither sleeps nor finishes meanwhile;

the following holds in every state reachable under every schedule (time-outs and spurious wake-ups included):
every thread asleep on `cv` has a false predicate, or some ready thread still owes the `notifyAll cv`; in particular
in a dead-locked state every sleeper's predicate is false — **no lost wake-up**.

This is the flag-style case (`closed`, `stopped`, `done` … announced by `notify_all`).  Wake-ups by `notify_one` are NOT
covered: their soundness is a counting argument over a class-specific resource (for the blocking queue: items resp. free
slots against wake-ups in the pipeline — `Lemmas/BlockingQueueCredit.lean`, `Inv.credNE/credNF`), stated in terms of what
the data means and proved for the queue only, on top of this theorem.
-/
namespace Iora.Monitor

variable {D L : Type}

@[simp] theorem updT_same {α : Type} (f : Nat → α) (k : Nat) (x : α) : updT f k x k = x := by simp [updT]
theorem updT_other {α : Type} (f : Nat → α) (k : Nat) (x : α) (i : Nat) (h : i ≠ k) : updT f k x i = f i := by simp [updT, h]

theorem updT_loc (thr : Tid → TState L) (t : Tid) (x : TState L) (hx : x.loc = (thr t).loc) (u : Tid) :
    (updT thr t x u).loc = (thr u).loc := by
  by_cases e : u = t
  · subst e; rw [updT_same]; exact hx
  · rw [updT_other _ _ _ _ e]

theorem ready_eta {ts : TState L} (h : ts.status = .ready) : ts = { status := .ready, loc := ts.loc } := by
  cases ts; cases h; rfl

theorem runAfter_eq (P : Prog D L) (s : State D L) (t : Tid) (late : Bool) :
    runAfter P s t late =
      { s with data := (P.after (s.thr t).loc s.data late).2,
               thr := updT s.thr t { status := .ready, loc := (P.after (s.thr t).loc s.data late).1 } } := rfl

theorem runAfter_other (P : Prog D L) (s : State D L) (u t : Tid) (late : Bool) (h : t ≠ u) :
    (runAfter P s u late).thr t = s.thr t := by
  rw [runAfter_eq]; exact updT_other _ _ _ _ h

theorem asleep_status {cv : CvId} {ts : TState L} (h : isAsleepOn cv ts = true) : ∃ m timed, ts.status = .asleep cv m timed := by
  unfold isAsleepOn at h
  split at h
  · rename_i c m timed hs
    have : c = cv := by simpa using h
    subst this; exact ⟨m, timed, hs⟩
  · cases h

theorem wakeT_loc (ts : TState L) (to : Bool) : (wakeT ts to).loc = ts.loc := by
  unfold wakeT; split <;> rfl

theorem wakeAll_loc (cv : CvId) (thr : Tid → TState L) (u : Tid) : (wakeAll cv thr u).loc = (thr u).loc := by
  unfold wakeAll; split
  · exact wakeT_loc _ _
  · rfl

theorem wakeAll_not_asleep (cv : CvId) (thr : Tid → TState L) (u : Tid) (h : isAsleepOn cv (thr u) = false) :
    wakeAll cv thr u = thr u := by simp [wakeAll, h]

theorem wakeAll_cases (cv : CvId) (thr : Tid → TState L) (u : Tid) :
    (wakeAll cv thr u = thr u ∧ isAsleepOn cv (thr u) = false) ∨
    ∃ m timed, (thr u).status = .asleep cv m timed ∧ wakeAll cv thr u = { (thr u) with status := .woken m timed false } := by
  cases ha : isAsleepOn cv (thr u) with
  | false => exact Or.inl ⟨wakeAll_not_asleep cv thr u ha, rfl⟩
  | true =>
    obtain ⟨m, timed, hs⟩ := asleep_status ha
    exact Or.inr ⟨m, timed, hs, by simp [wakeAll, ha, wakeT, hs]⟩

theorem ready_disabled {P : Prog D L} {s : State D L} {u : Tid} (hs : (s.thr u).status = .ready)
    (hd : enabled P s u = false) :
    (∃ m, P.op (s.thr u).loc = .lock m ∧ (s.owner m).isNone = false) ∨ P.op (s.thr u).loc = .done := by
  simp only [enabled, hs] at hd
  cases hop : P.op (s.thr u).loc <;> rw [hop] at hd <;> first | exact Or.inr rfl | exact Or.inl ⟨_, rfl, hd⟩ | cases hd

/-- does the thread hold `m` once the pending operation of local state `l` has taken effect? -/
def holdsAfterOp (P : Prog D L) (holds : L → Bool) (l : L) : Bool :=
  match P.op l with
  | .lock _ => true
  | .wait _ _ _ => true
  | .unlock _ => false
  | _ => holds l

/-- the broadcast discipline of a program `P` over the single mutex `m`; `wfL` = the local states that can occur -/
structure Broadcast (P : Prog D L) (m : MutexId) where
  pred : CvId → D → Bool
  /-- a ready thread in this local state holds `m` -/
  holds : L → Bool
  /-- a thread in this local state owes a `notifyAll cv` -/
  owes : CvId → L → Bool
  wfL : L → Prop
  wf_after : ∀ l d late, wfL l → wfL (P.after l d late).1
  lock_m : ∀ l m', wfL l → P.op l = .lock m' → m' = m ∧ holds l = false
  unlock_m : ∀ l m', wfL l → P.op l = .unlock m' → m' = m ∧ holds l = true
  wait_m : ∀ l cv m' timed, wfL l → P.op l = .wait cv m' timed → m' = m ∧ holds l = true
  done_free : ∀ l, wfL l → P.op l = .done → holds l = false
  holds_after : ∀ l d late, wfL l → holds (P.after l d late).1 = holdsAfterOp P holds l
  /-- data changes only in steps of the holder -/
  frame : ∀ l d late, wfL l → holdsAfterOp P holds l = false → (P.after l d late).2 = d
  /-- the decision to wait is taken in the step that found the predicate false -/
  wait_pred : ∀ l d late cv m' timed, wfL l → P.op (P.after l d late).1 = .wait cv m' timed → pred cv (P.after l d late).2 = false
  /-- whoever makes a predicate true owes the broadcast -/
  owe_new : ∀ l d late cv, wfL l → pred cv d = false → pred cv (P.after l d late).2 = true → owes cv (P.after l d late).1 = true
  owe_keep : ∀ l d late cv, wfL l → owes cv l = true → P.op l ≠ .notifyAll cv → owes cv (P.after l d late).1 = true
  owe_active : ∀ l cv, wfL l → owes cv l = true → (∀ c m' t, P.op l ≠ .wait c m' t) ∧ P.op l ≠ .done

namespace Broadcast
variable {P : Prog D L} {m : MutexId} (B : Broadcast P m)

def holdingT (ts : TState L) : Bool :=
  match ts.status with
  | .ready => B.holds ts.loc
  | _ => false

/-- status and local state fit together -/
def wfT (ts : TState L) : Prop :=
  B.wfL ts.loc ∧
  match ts.status with
  | .ready => True
  | .asleep cv m' _ => m' = m ∧ ∃ timed, P.op ts.loc = .wait cv m timed
  | .woken m' _ _ => m' = m ∧ ∃ cv timed, P.op ts.loc = .wait cv m timed

structure Inv (s : State D L) : Prop where
  wf : ∀ t, t < s.n → B.wfT (s.thr t)
  own1 : ∀ t, t < s.n → B.holdingT (s.thr t) = true → s.owner m = some t
  own2 : ∀ t, s.owner m = some t → t < s.n ∧ B.holdingT (s.thr t) = true
  about : ∀ t cv m' timed, t < s.n → (s.thr t).status = .ready → P.op (s.thr t).loc = .wait cv m' timed → B.pred cv s.data = false
  main : ∀ t cv, t < s.n → isAsleepOn cv (s.thr t) = true →
          B.pred cv s.data = false ∨ ∃ u, u < s.n ∧ (s.thr u).status = .ready ∧ B.owes cv (s.thr u).loc = true

theorem not_holding_of_free {s : State D L} (h : B.Inv s) (hfree : s.owner m = none) (u : Tid) (hu : u < s.n) :
    B.holdingT (s.thr u) = false := by
  cases hh : B.holdingT (s.thr u) with
  | false => rfl
  | true => have := h.own1 u hu hh; rw [hfree] at this; cases this

theorem not_holding_of_other {s : State D L} (h : B.Inv s) {t : Tid} (ho : s.owner m = some t) (u : Tid) (hu : u < s.n) (hne : u ≠ t) :
    B.holdingT (s.thr u) = false := by
  cases hh : B.holdingT (s.thr u) with
  | false => rfl
  | true => have := h.own1 u hu hh; rw [ho] at this; cases this; exact absurd rfl hne

theorem waiter_holds {s : State D L} (h : B.Inv s) (u : Tid) (hu : u < s.n) (hs : (s.thr u).status = .ready)
    {cv : CvId} {m' : MutexId} {timed : Bool} (hop : P.op (s.thr u).loc = .wait cv m' timed) : B.holdingT (s.thr u) = true := by
  have := (B.wait_m _ cv m' timed (h.wf u hu).1 hop).2
  simp [holdingT, hs, this]

/-- Waking sleepers (a time-out, a spurious wake-up, the first half of a notify) keeps the invariant: a sleeper holds nothing,
owes nothing and is not about to wait, and the clause about sleepers only loses instances. -/
theorem inv_wake {s : State D L} (h : B.Inv s) (thr0 : Tid → TState L)
    (hst : ∀ u, thr0 u = s.thr u ∨
      ∃ cv m' timed to, (s.thr u).status = .asleep cv m' timed ∧ thr0 u = { (s.thr u) with status := .woken m' timed to }) :
    B.Inv { s with thr := thr0 } := by
  refine ⟨fun u hu => ?_, fun u hu (hh : B.holdingT (thr0 u) = true) => ?_, fun u hu => ?_,
    fun u cv m' timed hu (hs : (thr0 u).status = .ready) (hop : P.op (thr0 u).loc = .wait cv m' timed) => ?_,
    fun v cv hv (ha : isAsleepOn cv (thr0 v) = true) => ?_⟩
  · show B.wfT (thr0 u)
    have hw := h.wf u hu
    rcases hst u with e | ⟨cv, m', timed, to, e1, e2⟩
    · rw [e]; exact hw
    · have h2 := hw.2; rw [e1] at h2
      rw [e2]; exact ⟨hw.1, h2.1, cv, h2.2⟩
  · rcases hst u with e | ⟨_, _, _, _, _, e⟩ <;> rw [e] at hh
    · exact h.own1 u hu hh
    · cases hh
  · obtain ⟨hun, hh⟩ := h.own2 u hu
    refine ⟨hun, ?_⟩
    show B.holdingT (thr0 u) = true
    rcases hst u with e | ⟨_, _, _, _, e, _⟩
    · rw [e]; exact hh
    · simp [holdingT, e] at hh
  · rcases hst u with e | ⟨_, _, _, _, _, e⟩ <;> rw [e] at hs
    · rw [e] at hop; exact h.about u cv m' timed hu hs hop
    · cases hs
  · rcases hst v with e | ⟨_, _, _, _, _, e⟩ <;> rw [e] at ha
    · rcases h.main v cv hv ha with hp | ⟨u, hu, hus, huo⟩
      · exact Or.inl hp
      · rcases hst u with e | ⟨_, _, _, _, e, _⟩
        · exact Or.inr ⟨u, hu, by show (thr0 u).status = .ready; rw [e]; exact hus,
            by show B.owes cv (thr0 u).loc = true; rw [e]; exact huo⟩
        · rw [e] at hus; cases hus
    · cases ha

/-- A ready thread whose pending operation is a wait releases the mutex and goes to sleep: it found its predicate false in the
step before (`about`), and a thread that owes a broadcast does not wait (`owe_active`), so no sleeper loses the one it counts on. -/
theorem inv_sleep {s : State D L} (h : B.Inv s) (t : Tid) (ht : t < s.n) (cv : CvId) (m' : MutexId) (timed : Bool)
    (hs : (s.thr t).status = .ready) (hop : P.op (s.thr t).loc = .wait cv m' timed) :
    B.Inv { s with owner := updT s.owner m' none, thr := updT s.thr t { (s.thr t) with status := .asleep cv m' timed } } := by
  have hw := h.wf t ht
  obtain ⟨hm, _⟩ := B.wait_m _ cv m' timed hw.1 hop
  subst hm
  have ho := h.own1 t ht (B.waiter_holds h t ht hs hop)
  refine ⟨?_, ?_, ?_, ?_, ?_⟩
  · intro u hu
    by_cases e : u = t
    · subst e; simp only [updT_same]; exact ⟨hw.1, rfl, timed, hop⟩
    · simpa [updT_other _ _ _ _ e] using h.wf u hu
  · intro u hu hh
    by_cases e : u = t
    · subst e; simp [updT_same, holdingT] at hh
    · simp only [updT_other _ _ _ _ e] at hh
      have := B.not_holding_of_other h ho u hu e
      rw [this] at hh; cases hh
  · intro u hu; simp [updT_same] at hu
  · intro u cv' m'' timed' hu hsu hop'
    by_cases e : u = t
    · subst e; simp [updT_same] at hsu
    · simp only [updT_other _ _ _ _ e] at hsu hop'; exact h.about u cv' m'' timed' hu hsu hop'
  · intro v cv' hv ha
    by_cases e : v = t
    · subst e
      simp only [updT_same, isAsleepOn, beq_iff_eq] at ha
      subst ha
      exact Or.inl (h.about v cv m' timed hv hs hop)
    · simp only [updT_other _ _ _ _ e] at ha
      rcases h.main v cv' hv ha with hp | ⟨u, hu, hus, huo⟩
      · exact Or.inl hp
      · have eu : u ≠ t := by
          rintro rfl
          exact (B.owe_active _ cv' hw.1 huo).1 cv m' timed hop
        exact Or.inr ⟨u, hu, by simpa [updT_other _ _ _ _ eu] using hus, by simpa [updT_other _ _ _ _ eu] using huo⟩

/-- The generic step: thread `t` runs its user code `after`; before that the effect of its pending operation `o` on the mutex
has been applied (the owner of `m` is now `o0 m`) and `s` already has the sleepers woken that `o` wakes.  `hholds`: if `t` holds `m`
afterwards it is the recorded owner and nobody else held it; `hnot`: otherwise the owner is unchanged, or `t` released it;
`hall`: a `notifyAll cv` has left nobody asleep on `cv`. -/
theorem core (s : State D L) (h : B.Inv s) (t : Tid) (late : Bool) (ht : t < s.n) (o0 : MutexId → Option Tid)
    (hholds : holdsAfterOp P B.holds (s.thr t).loc = true → o0 m = some t ∧ ∀ u, u < s.n → u ≠ t → B.holdingT (s.thr u) = false)
    (hnot : holdsAfterOp P B.holds (s.thr t).loc = false →
        (o0 m = s.owner m ∧ B.holdingT (s.thr t) = false) ∨ (s.owner m = some t ∧ o0 m = none))
    (o : Op) (hop : P.op (s.thr t).loc = o)
    (hall : ∀ cv, o = .notifyAll cv → ∀ u, u < s.n → u ≠ t → isAsleepOn cv (s.thr u) = false) :
    B.Inv (runAfter P { s with owner := o0 } t late) := by
  subst hop
  have hwft := (h.wf t ht).1
  have hH := B.holds_after (s.thr t).loc s.data late hwft
  show B.Inv { s with data := (P.after (s.thr t).loc s.data late).2, owner := o0,
                      thr := updT s.thr t { status := .ready, loc := (P.after (s.thr t).loc s.data late).1 } }
  refine ⟨?_, ?_, ?_, ?_, ?_⟩
  · intro u hu
    by_cases e : u = t
    · subst e; simp only [updT_same]; exact ⟨B.wf_after _ _ _ hwft, trivial⟩
    · simp only [updT_other _ _ _ _ e]; exact h.wf u hu
  · intro u hu hh
    by_cases e : u = t
    · subst e
      simp only [updT_same, holdingT] at hh
      rw [hH] at hh
      exact (hholds hh).1
    · simp only [updT_other _ _ _ _ e] at hh
      cases hHc : holdsAfterOp P B.holds (s.thr t).loc with
      | true => have := (hholds hHc).2 u hu e; rw [this] at hh; cases hh
      | false =>
        have ho := h.own1 u hu hh
        rcases hnot hHc with ⟨e1, _⟩ | ⟨e1, _⟩
        · show o0 m = some u; rw [e1]; exact ho
        · rw [e1] at ho; cases ho; exact absurd rfl e
  · intro u hu
    have hu' : o0 m = some u := hu
    cases hHc : holdsAfterOp P B.holds (s.thr t).loc with
    | true =>
      have := (hholds hHc).1; rw [this] at hu'; cases hu'
      exact ⟨ht, by simp only [updT_same, holdingT]; rw [hH, hHc]⟩
    | false =>
      rcases hnot hHc with ⟨e1, hnt⟩ | ⟨_, e1⟩
      · rw [e1] at hu'
        obtain ⟨hun, hhu⟩ := h.own2 u hu'
        have e : u ≠ t := by rintro rfl; rw [hnt] at hhu; cases hhu
        exact ⟨hun, by simp only [updT_other _ _ _ _ e]; exact hhu⟩
      · rw [e1] at hu'; cases hu'
  · intro u cv m' timed hu hs hop
    by_cases e : u = t
    · subst e
      simp only [updT_same] at hop
      exact B.wait_pred _ _ _ cv m' timed hwft hop
    · simp only [updT_other _ _ _ _ e] at hs hop
      have hp := h.about u cv m' timed hu hs hop
      cases hHc : holdsAfterOp P B.holds (s.thr t).loc with
      | true =>
        -- `u`, about to wait, holds `m` (`wait_m`), so `t` does not hold it after its step
        have := (hholds hHc).2 u hu e
        rw [B.waiter_holds h u hu hs hop] at this; cases this
      | false => show B.pred cv (P.after _ _ _).2 = false; rw [B.frame _ _ _ hwft hHc]; exact hp
  · intro v cv hv ha
    have e : v ≠ t := by rintro rfl; simp [updT_same, isAsleepOn] at ha
    simp only [updT_other _ _ _ _ e] at ha
    rcases h.main v cv hv ha with hp | ⟨u, hu, hus, huo⟩
    · cases hp' : B.pred cv (P.after (s.thr t).loc s.data late).2 with
      | false => exact Or.inl rfl
      | true =>
        refine Or.inr ⟨t, ht, by simp [updT_same], ?_⟩
        simp only [updT_same]
        exact B.owe_new _ _ _ cv hwft hp hp'
    · by_cases eu : u = t
      · subst eu
        by_cases hna : P.op (s.thr u).loc = .notifyAll cv
        · have := hall cv hna v hv e; rw [this] at ha; cases ha
        · exact Or.inr ⟨u, hu, by simp [updT_same], by simp only [updT_same]; exact B.owe_keep _ _ _ cv hwft huo hna⟩
      · exact Or.inr ⟨u, hu, by simp only [updT_other _ _ _ _ eu]; exact hus, by simp only [updT_other _ _ _ _ eu]; exact huo⟩

/-- `core` for a step that does not touch the owner map (`start`, `yield`, `notifyOne`, `notifyAll`) -/
theorem core_same_owner (s : State D L) (h : B.Inv s) (t : Tid) (late : Bool) (ht : t < s.n) (hs : (s.thr t).status = .ready)
    (o : Op) (hop : P.op (s.thr t).loc = o) (hH : holdsAfterOp P B.holds (s.thr t).loc = B.holds (s.thr t).loc)
    (hall : ∀ cv, o = .notifyAll cv → ∀ u, u < s.n → u ≠ t → isAsleepOn cv (s.thr u) = false) :
    B.Inv (runAfter P s t late) := by
  refine B.core s h t late ht s.owner (fun hh => ?_) (fun hh => Or.inl ⟨rfl, ?_⟩) o hop hall
  · rw [hH] at hh
    have ho := h.own1 t ht (by simp [holdingT, hs, hh])
    exact ⟨ho, fun u hu hne => B.not_holding_of_other h ho u hu hne⟩
  · rw [hH] at hh; simp [holdingT, hs, hh]

/-- `core` for a step in which `t` obtains the free mutex (`lock`, return from a `wait`) -/
theorem core_acquire (s : State D L) (h : B.Inv s) (t : Tid) (late : Bool) (ht : t < s.n) (hfree : s.owner m = none)
    (hop : (∃ m', P.op (s.thr t).loc = .lock m') ∨ ∃ cv m' timed, P.op (s.thr t).loc = .wait cv m' timed) :
    B.Inv (runAfter P { s with owner := updT s.owner m (some t) } t late) := by
  have hH : holdsAfterOp P B.holds (s.thr t).loc = true := by
    rcases hop with ⟨_, e⟩ | ⟨_, _, _, e⟩ <;> simp [holdsAfterOp, e]
  refine B.core s h t late ht _ (fun _ => ⟨updT_same _ _ _, fun u hu _ => B.not_holding_of_free h hfree u hu⟩)
    (fun hf => by rw [hH] at hf; cases hf) _ rfl fun cv e => ?_
  rcases hop with ⟨_, e'⟩ | ⟨_, _, _, e'⟩ <;> rw [e'] at e <;> cases e

theorem inv_tr (s s' : State D L) (h : B.Inv s) (tr : Tr P s s') : B.Inv s' := by
  cases tr with
  | wake t cv m' timed to ht hs =>
    refine B.inv_wake h _ fun u => ?_
    by_cases e : u = t
    · subst e; exact Or.inr ⟨cv, m', timed, to, hs, updT_same _ _ _⟩
    · exact Or.inl (updT_other _ _ _ _ e)
  | sleep t cv m' timed ht hs hop => exact B.inv_sleep h t ht cv m' timed hs hop
  | reacquire t m' timed to late ht hs hfree =>
    have h2 := (h.wf t ht).2; rw [hs] at h2
    obtain ⟨rfl, cv, timed', hop⟩ := h2
    exact B.core_acquire s h t late ht hfree (Or.inr ⟨cv, _, timed', hop⟩)
  | lock t m' ht hs hop hfree =>
    obtain ⟨rfl, _⟩ := B.lock_m _ m' (h.wf t ht).1 hop
    exact B.core_acquire s h t false ht hfree (Or.inl ⟨_, hop⟩)
  | unlock t m' ht hs hop =>
    have hw := h.wf t ht
    obtain ⟨hm, hholds⟩ := B.unlock_m _ m' hw.1 hop
    subst hm
    have hH : holdsAfterOp P B.holds (s.thr t).loc = false := by simp [holdsAfterOp, hop]
    have ho := h.own1 t ht (by simp [holdingT, hs, hholds])
    exact B.core s h t false ht (updT s.owner m' none)
      (fun hf => by rw [hH] at hf; cases hf)
      (fun _ => Or.inr ⟨ho, by simp [updT_same]⟩)
      _ hop nofun
  | plain t ht hs hop =>
    have hH : holdsAfterOp P B.holds (s.thr t).loc = B.holds (s.thr t).loc := by
      rcases hop with e | e <;> simp [holdsAfterOp, e]
    rcases hop with hop | hop <;> exact B.core_same_owner s h t false ht hs _ hop hH nofun
  | notifyNone t cv ht hs hop hno => exact B.core_same_owner s h t false ht hs _ hop (by simp [holdsAfterOp, hop]) nofun
  | notifyWake t cv u ht hs hop hu hsl =>
    obtain ⟨m', timed, hsu⟩ := asleep_status hsl
    have et : updT s.thr u (wakeT (s.thr u) false) t = s.thr t :=
      updT_other _ _ _ _ (by rintro rfl; rw [hs] at hsu; cases hsu)
    have h1 : B.Inv { s with thr := updT s.thr u (wakeT (s.thr u) false) } := B.inv_wake h _ fun w => by
      by_cases e : w = u
      · subst e; exact Or.inr ⟨cv, m', timed, false, hsu, by rw [updT_same, wakeT_asleep _ cv m' timed false hsu]⟩
      · exact Or.inl (updT_other _ _ _ _ e)
    have hop1 : P.op ((updT s.thr u (wakeT (s.thr u) false)) t).loc = .notifyOne cv := by rw [et]; exact hop
    exact B.core_same_owner _ h1 t false ht (by rw [← hs]; exact congrArg _ et) _ hop1 (by simp [holdsAfterOp, hop1]) nofun
  | notifyAll t cv ht hs hop =>
    have et : wakeAll cv s.thr t = s.thr t := wakeAll_not_asleep cv s.thr t (by simp [isAsleepOn, hs])
    have h1 : B.Inv { s with thr := wakeAll cv s.thr } := B.inv_wake h _ fun w =>
      (wakeAll_cases cv s.thr w).imp (·.1) fun ⟨m', timed, e1, e2⟩ => ⟨cv, m', timed, false, e1, e2⟩
    have hop1 : P.op (wakeAll cv s.thr t).loc = .notifyAll cv := by rw [et]; exact hop
    refine B.core_same_owner _ h1 t false ht (by rw [← hs]; exact congrArg _ et) _ hop1 (by simp [holdsAfterOp, hop1])
      fun cv' hna w _ _ => ?_
    cases hna
    rcases wakeAll_cases cv s.thr w with ⟨e, ha⟩ | ⟨m', timed, _, e⟩
    · show isAsleepOn cv (wakeAll cv s.thr w) = false; rw [e]; exact ha
    · show isAsleepOn cv (wakeAll cv s.thr w) = false; rw [e]; rfl

theorem inv_init (s : State D L) (hr : ∀ t, t < s.n → (s.thr t).status = .ready ∧ B.wfL (s.thr t).loc ∧ B.holds (s.thr t).loc = false)
    (hw : ∀ t cv m' timed, t < s.n → P.op (s.thr t).loc ≠ .wait cv m' timed) (ho : s.owner m = none) : B.Inv s := by
  refine ⟨?_, ?_, ?_, ?_, ?_⟩
  · intro t ht; obtain ⟨h1, h2, _⟩ := hr t ht; exact ⟨h2, by rw [h1]; trivial⟩
  · intro t ht hh; obtain ⟨h1, _, h3⟩ := hr t ht; simp [holdingT, h1, h3] at hh
  · intro t h1; rw [ho] at h1; cases h1
  · intro t cv m' timed ht _ hop; exact absurd hop (hw t cv m' timed ht)
  · intro t cv ht ha; obtain ⟨h1, _, _⟩ := hr t ht; simp [isAsleepOn, h1] at ha

/-- **The broadcast-discipline theorem.**  From any state that satisfies the invariant (in particular an initial state in
which nobody holds the mutex and nobody sleeps), after EVERY schedule: every sleeper's predicate is false or some ready
thread still owes the broadcast. -/
theorem inv_run (s : State D L) (h : B.Inv s) (sched : List Choice) : B.Inv (run P s sched) :=
  inv_of_tr P B.Inv B.inv_tr sched s h

/-- when no thread can run nobody holds the mutex: a holder would be ready, and a ready thread that cannot run is waiting
for the mutex or has finished -/
theorem deadlocked_free (s : State D L) (h : B.Inv s) (hd : Deadlocked P s) : s.owner m = none := by
  cases ho : s.owner m with
  | none => rfl
  | some u =>
    obtain ⟨hu, hh⟩ := h.own2 u ho
    unfold holdingT at hh
    cases hst : (s.thr u).status with
    | ready =>
      rw [hst] at hh
      have hw := (h.wf u hu).1
      rcases ready_disabled hst (hd u hu) with ⟨m', hop, _⟩ | hop
      · rw [(B.lock_m _ m' hw hop).2] at hh; cases hh
      · rw [B.done_free _ hw hop] at hh; cases hh
    | asleep _ _ _ => rw [hst] at hh; cases hh
    | woken _ _ _ => rw [hst] at hh; cases hh

/-- **No lost wake-up, generically**: in a dead-locked reachable state every sleeper's wait predicate is false. -/
theorem deadlocked_sleepers (s : State D L) (h : B.Inv s) (hd : Deadlocked P s) (t : Tid) (cv : CvId) (ht : t < s.n)
    (ha : isAsleepOn cv (s.thr t) = true) : B.pred cv s.data = false := by
  rcases h.main t cv ht ha with hp | ⟨u, hu, hus, huo⟩
  · exact hp
  · exfalso
    have hw := (h.wf u hu).1
    obtain ⟨nw, nd⟩ := B.owe_active _ cv hw huo
    rcases ready_disabled hus (hd u hu) with ⟨m', hop, hno⟩ | hop
    · obtain ⟨rfl, _⟩ := B.lock_m _ m' hw hop
      rw [B.deadlocked_free s h hd] at hno; cases hno
    · exact nd hop

end Broadcast
end Iora.Monitor
