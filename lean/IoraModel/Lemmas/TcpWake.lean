import IoraModel.Model.TcpWake
/-! Invariant of the eventfd wake-up protocol (`Model/TcpWake.lean`) as the code has it: eventfd write after `push_back` inside
the lock scope, `drainEvt()` before `process()`. -/
namespace Iora.Tcp.Wake

/-- a non-empty queue is always announced: the counter is non-zero, or the I/O thread stands between `drainEvt()` and
`process()` (it will swap next), or the sender that pushed still holds the lock just before its eventfd write; and every
pushed command is either queued or taken. `pre0`: no sender has written the eventfd before taking the lock (that order is not
the code's), so the last clause of `W.Asleep` always holds; no theorem reads it. -/
structure WInv (w : W) : Prop where
  announced : w.cmds > 0 → w.evt > 0 ∨ w.io = .mid ∨ w.crit = .pushed
  conserved : w.accepted = w.taken + w.cmds
  pre0 : w.pre = 0

theorem init_inv : WInv {} := ⟨fun h => absurd h (by decide), rfl, rfl⟩

theorem step_inv (w : W) (a : Actor) (h : WInv w) : WInv (step true true true w a) := by
  obtain ⟨ha, hc, hp⟩ := h
  -- a step that leaves `cmds` and `evt` alone keeps the announcement unless it destroys the disjunct that witnesses it
  have keep (w' : W) (e1 : w'.cmds = w.cmds) (e2 : w'.evt = w.evt) (hio : w.io = .mid → w'.io = .mid)
      (hcr : w.crit = .pushed → w'.crit = .pushed) : w'.cmds > 0 → w'.evt > 0 ∨ w'.io = .mid ∨ w'.crit = .pushed :=
    fun h0 => (ha (e1 ▸ h0)).imp (e2 ▸ ·) (.imp hio hcr)
  cases a with
  | early => exact ⟨ha, hc, hp⟩
  | sender =>
    unfold step
    cases hcr : w.crit with
    | free =>
      exact ⟨keep _ rfl rfl id (fun h1 => nomatch hcr.symm.trans h1), hc, hp⟩
    | locked =>
      refine ⟨fun _ => Or.inr (Or.inr rfl), ?_, hp⟩
      show w.accepted + 1 = w.taken + (w.cmds + 1)
      omega
    | pushed =>
      refine ⟨fun _ => Or.inl (Nat.succ_pos _), hc, hp⟩
    | wrote =>
      exact ⟨keep _ rfl rfl id (fun h1 => nomatch hcr.symm.trans h1), hc, hp⟩
  | io =>
    unfold step
    cases hio : w.io with
    | waiting =>
      simp only
      split
      · exact ⟨keep _ rfl rfl (fun h1 => nomatch hio.symm.trans h1) id, hc, hp⟩
      · exact ⟨ha, hc, hp⟩
    | woken =>
      exact ⟨fun _ => Or.inr (Or.inl rfl), hc, hp⟩
    | mid =>
      simp only [if_true]
      split
      · refine ⟨fun h0 => absurd h0 (by simp), ?_, hp⟩
        show w.accepted = w.taken + w.cmds + 0
        omega
      · exact ⟨ha, hc, hp⟩

/-- the three source facts the protocol rests on are hypotheses: at the regenerated `Gen.TcpSession` flags each is discharged by `rfl` -/
theorem run_inv {a b c : Bool} (ha : a = true) (hb : b = true) (hc : c = true) (as : List Actor) (w : W) (h : WInv w) :
    WInv (run a b c w as) := by
  subst ha hb hc
  induction as generalizing w with
  | nil => exact h
  | cons x xs ih => exact ih _ (step_inv w x h)

theorem WInv.cmds_zero {w : W} (h : WInv w) (hev : ¬w.evt > 0) (hio : w.io ≠ .mid) (hcr : w.crit ≠ .pushed) : w.cmds = 0 :=
  Nat.eq_zero_of_not_pos fun h0 => (h.announced h0).elim hev fun h1 => h1.elim hio hcr

theorem WInv.asleep {w : W} (h : WInv w) (ha : w.Asleep) : w.cmds = 0 ∧ w.taken = w.accepted := by
  obtain ⟨hio, hev, hcr, _⟩ := ha
  have hc0 := h.cmds_zero (by omega) (by rw [hio]; exact nofun) (by rw [hcr]; exact nofun)
  exact ⟨hc0, by have := h.conserved; omega⟩

/-- the steps of the I/O thread are waking, `drainEvt()` and `process()`: wherever it stands, after three the swap has happened -/
theorem WInv.three_io_steps {w : W} (h : WInv w) (hf : w.crit = .free) :
    (run true true true w [.io, .io, .io]).cmds = 0 ∧ (run true true true w [.io, .io, .io]).taken = w.accepted := by
  have hc := h.conserved
  cases hio : w.io with
  | waiting =>
    by_cases he : w.evt > 0
    · simp [run, step, hio, he, hf]; omega
    · have hc0 := h.cmds_zero he (by rw [hio]; exact nofun) (by rw [hf]; exact nofun)
      simp [run, step, hio, he, hc0]; omega
  | woken => simp [run, step, hio, hf]; omega
  | mid => by_cases he : w.evt > 0 <;> simp [run, step, hio, he, hf] <;> omega

/-- one complete `enqueue` call — four steps of a sender that finds the lock free — pushes one command and signals once -/
theorem enqueue_call (w : W) (h : w.crit = .free) (as : List Actor) :
    run true true true w (.sender :: .sender :: .sender :: .sender :: as) =
      run true true true { w with cmds := w.cmds + 1, accepted := w.accepted + 1, evt := w.evt + 1, crit := .free } as := by
  show run true true true (step true true true (step true true true (step true true true (step true true true w .sender)
    .sender) .sender) .sender) as = _
  congr 1
  simp [step, h]

theorem enqueue_calls : ∀ (k : Nat) (w0 : W), w0.crit = .free →
    let w := run true true true w0 (List.replicate k [Actor.sender, .sender, .sender, .sender]).flatten
    w.io = w0.io ∧ w.crit = .free ∧ w.cmds = w0.cmds + k ∧ w.evt = w0.evt + k ∧ w.accepted = w0.accepted + k
  | 0, _, h => ⟨rfl, h, rfl, rfl, rfl⟩
  | k + 1, w0, h => by
    simp only [List.replicate_succ, List.flatten_cons, List.cons_append, List.nil_append]
    rw [enqueue_call w0 h]
    obtain ⟨a, b, c, d, e⟩ :=
      enqueue_calls k { w0 with cmds := w0.cmds + 1, accepted := w0.accepted + 1, evt := w0.evt + 1, crit := .free } rfl
    exact ⟨a, b, by rw [c]; show w0.cmds + 1 + k = _; omega, by rw [d]; show w0.evt + 1 + k = _; omega,
      by rw [e]; show w0.accepted + 1 + k = _; omega⟩

end Iora.Tcp.Wake
