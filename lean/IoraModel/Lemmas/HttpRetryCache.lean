import IoraModel.Lemmas.HttpRetry
/-! The cache invariant `Inv` through every piece of `executeRequest`, composed by `StepOK`, hence over the retry loop and any
sequence of requests (C17, R4). Which session is the cached entry of the host where the code drops or uses it is read off `PreOut`. -/
namespace Iora.HttpRetry
open Iora

theorem lookup_some_mem {h : Host} {s : Sid} {l : List (Host × Sid)} (hl : l.lookup h = some s) : (h, s) ∈ l := by
  obtain ⟨l₁, l₂, rfl, _⟩ := List.lookup_eq_some_iff.1 hl
  simp

theorem lookup_none_not_key {h : Host} : ∀ {l : List (Host × Sid)}, l.lookup h = none → ∀ p ∈ l, p.1 ≠ h := by
  intro l hl p hp e
  have := List.lookup_eq_none_iff.1 hl p hp
  simp [e] at this

theorem nodup_snd_unique : ∀ {l : List (Host × Sid)}, (l.map (·.2)).Nodup → ∀ p ∈ l, ∀ q ∈ l, p.2 = q.2 → p = q := by
  intro l
  induction l with
  | nil => intro _ p hp; simp at hp
  | cons a t ih =>
    intro hn p hp q hq hpq
    simp only [List.map_cons, List.nodup_cons, List.mem_map, not_exists, not_and] at hn
    rcases List.mem_cons.1 hp with hp1 | hp1 <;> rcases List.mem_cons.1 hq with hq1 | hq1
    · rw [hp1, hq1]
    · rw [hp1] at hpq; exact absurd hpq.symm (hn.1 q hq1)
    · rw [hq1] at hpq; exact absurd hpq (hn.1 p hp1)
    · exact ih hn.2 p hp1 q hq1 hpq

theorem nodup_map_eraseHost {β : Type} (f : Host × Sid → β) (h : Host) {l : List (Host × Sid)} (hn : (l.map f).Nodup) :
    ((eraseHost h l).map f).Nodup :=
  List.Nodup.sublist (List.Sublist.map f (by simp [eraseHost])) hn

theorem Inv.erase {cl : List Sid} {c : Client} (hi : Inv cl c) (h : Host) :
    Inv cl { c with conns := eraseHost h c.conns } :=
  { keys := nodup_map_eraseHost _ h hi.keys
    sids := nodup_map_eraseHost _ h hi.sids
    live := fun p hp => hi.live p (mem_eraseHost.1 hp).1
    old := hi.old }

theorem Inv.setLeased {cl : List Sid} {c : Client} (hi : Inv cl c) (l : List Host) : Inv cl { c with leased := l } :=
  { keys := hi.keys, sids := hi.sids, live := hi.live, old := hi.old }

theorem Inv.bump {cl : List Sid} {c : Client} (hi : Inv cl c) : Inv cl { c with nextSid := c.nextSid + 1 } :=
  ⟨hi.keys, hi.sids, fun p hp => ⟨(hi.live p hp).1, Nat.lt_succ_of_lt (hi.live p hp).2⟩,
   fun s hs => Nat.lt_succ_of_lt (hi.old s hs)⟩

theorem Inv.close {cl : List Sid} {c : Client} (hi : Inv cl c) {s : Sid} (hs : s < c.nextSid) (hn : ∀ p ∈ c.conns, p.2 ≠ s) :
    Inv (s :: cl) c :=
  ⟨hi.keys, hi.sids, fun p hp => ⟨fun hin => (List.mem_cons.1 hin).elim (hn p hp) (hi.live p hp).1, (hi.live p hp).2⟩,
   fun t ht => (List.mem_cons.1 ht).elim (fun e => e ▸ hs) (hi.old t)⟩

/-- caching, in place of whatever is cached for `h`, a session that was never closed and is not in the cache -/
theorem Inv.insert {cl : List Sid} {c : Client} (hi : Inv cl c) (h : Host) {s : Sid} (hs : s ∉ cl) (hlt : s < c.nextSid)
    (hn : ∀ p ∈ c.conns, p.2 ≠ s) : Inv cl { c with conns := (h, s) :: eraseHost h c.conns } := by
  have he := hi.erase h
  refine ⟨List.nodup_cons.2 ⟨fun hin => ?_, he.keys⟩, List.nodup_cons.2 ⟨fun hin => ?_, he.sids⟩, fun p hp => ?_, hi.old⟩
  · obtain ⟨p, hp, hph⟩ := List.mem_map.1 hin
    exact (mem_eraseHost.1 hp).2 hph
  · obtain ⟨p, hp, hps⟩ := List.mem_map.1 hin
    exact hn p (mem_eraseHost.1 hp).1 hps
  · rcases List.mem_cons.1 hp with rfl | hp
    · exact ⟨hs, hlt⟩
    · exact he.live p hp

theorem Inv.drop {cl : List Sid} {c : Client} (hi : Inv cl c) {h : Host} {sid : Sid} (hl : c.conns.lookup h = some sid) :
    Inv (sid :: cl) (dropConnection c h sid).1 := by
  have hm := lookup_some_mem hl
  rw [dropConnection_hit hl]
  refine (hi.erase h).close (hi.live _ hm).2 fun p hp e => ?_
  have hp' := mem_eraseHost.1 hp
  exact hp'.2 (congrArg Prod.fst (nodup_snd_unique hi.sids p hp'.1 (h, sid) hm e))

theorem Inv.init : Inv [] ({} : Client) :=
  { keys := by simp, sids := by simp, live := by intro p hp; simp at hp, old := by intro s hs; simp at hs }

theorem closedAfter_append (cl : List Sid) (e1 e2 : List Ev) :
    closedAfter cl (e1 ++ e2) = closedAfter (closedAfter cl e1) e2 := by
  induction e1 generalizing cl with
  | nil => rfl
  | cons e es ih => cases e <;> simp [closedAfter, ih]

theorem wellUsed_append (cl : List Sid) (e1 e2 : List Ev) :
    wellUsed cl (e1 ++ e2) ↔ wellUsed cl e1 ∧ wellUsed (closedAfter cl e1) e2 := by
  induction e1 generalizing cl with
  | nil => simp [wellUsed, closedAfter]
  | cons e es ih => cases e <;> simp [wellUsed, closedAfter, ih, and_assoc]

/-- what a piece of code guarantees when started in `c` with the sessions `cl` closed so far: its events use no closed session,
the invariant holds afterwards, and the lease list is as before (the pieces run inside the lease: `WorldInv.step` and
`R4_sequences` count lease entries across them) -/
structure StepOK (cl : List Sid) (c c' : Client) (ev : List Ev) : Prop where
  used : wellUsed cl ev
  inv : Inv (closedAfter cl ev) c'
  leased : c'.leased = c.leased

theorem StepOK.refl {cl : List Sid} {c : Client} (hi : Inv cl c) : StepOK cl c c [] :=
  ⟨trivial, hi, rfl⟩

theorem StepOK.trans {cl : List Sid} {c c1 c2 : Client} {e1 e2 : List Ev}
    (h1 : StepOK cl c c1 e1) (h2 : StepOK (closedAfter cl e1) c1 c2 e2) : StepOK cl c c2 (e1 ++ e2) :=
  ⟨(wellUsed_append _ _ _).2 ⟨h1.used, h2.used⟩, by rw [closedAfter_append]; exact h2.inv, h2.leased.trans h1.leased⟩

theorem step_drop {cl : List Sid} {c : Client} (hi : Inv cl c) {h : Host} {sid : Sid} (hl : c.conns.lookup h = some sid) :
    StepOK cl c (dropConnection c h sid).1 (dropConnection c h sid).2 :=
  ⟨by simp [dropConnection, wellUsed], by simpa [dropConnection, closedAfter] using hi.drop hl, by rw [dropConnection_hit hl]⟩

theorem step_connectNew {cl : List Sid} {c : Client} (hi : Inv cl c) (h : Host) (a : Attempt) :
    StepOK cl c (connectNew c h a).1 (connectNew c h a).2.2 := by
  have hnew : c.nextSid ∉ cl := fun hn => Nat.lt_irrefl _ (hi.old _ hn)
  have hne : ∀ p ∈ c.conns, p.2 ≠ c.nextSid := fun p hp => Nat.ne_of_lt (hi.live p hp).2
  unfold connectNew
  cases a.connect with
  | ok =>
    have hp := hi.bump.insert h hnew (Nat.lt_succ_self _) hne
    -- re-packed field by field: the model's client also records `tls` here, which `Inv` does not read
    exact ⟨by simp [wellUsed, hnew], ⟨hp.keys, hp.sids, hp.live, hp.old⟩, rfl⟩
  | refused => exact ⟨by simp [wellUsed, hnew], hi.bump, rfl⟩
  | timedOut => exact ⟨by simp [wellUsed, hnew], hi.bump.close (Nat.lt_succ_self _) hne, rfl⟩

theorem step_acquire {cl : List Sid} {c : Client} (hi : Inv cl c) (h : Host) (a : Attempt) :
    StepOK cl c (acquireConnection c h a).1 (acquireConnection c h a).2.2 := by
  refine acquireConnection_cases c h a (P := fun x => StepOK cl c x.1 x.2.2) (fun _ _ _ => StepOK.refl hi) (fun sid hl _ => ?_)
    fun _ => step_connectNew hi h a
  have hd := step_drop hi hl
  rw [dropConnection_hit hl] at hd
  exact StepOK.trans hd (step_connectNew hd.inv h a)

theorem step_preSend {cl : List Sid} {c : Client} (hi : Inv cl c) (h : Host) (a : Attempt) :
    StepOK cl c (preSend c h a).1 (preSend c h a).2.2 := by
  have ha := step_acquire hi h a
  have hc := (acquireConnection_pre c h a).2.2
  refine preSend_cases c h a (P := fun x => StepOK cl c x.1 x.2.2) (fun _ _ _ heq => ?_) (fun _ _ _ heq _ => ?_)
    fun _ _ _ heq _ => ?_
  all_goals rw [heq] at ha hc
  · exact ha
  · exact ha
  · exact StepOK.trans ha (step_drop ha.inv hc)

theorem step_send {cl : List Sid} {c : Client} (hi : Inv cl c) {h : Host} {sid : Sid} (hl : c.conns.lookup h = some sid) :
    StepOK cl c c [.send sid] :=
  ⟨by simp [wellUsed]; exact (hi.live _ (lookup_some_mem hl)).1, by simpa [closedAfter] using hi, rfl⟩

theorem step_underLease {cl : List Sid} {c : Client} (cfg : Cfg) (hi : Inv cl c) (h : Host) (a : Attempt) :
    StepOK cl c (underLease cfg c h a).1 (underLease cfg c h a).2.2 := by
  have hp := step_preSend hi h a
  have hc := (preSend_pre c h a).2.2
  refine underLease_cases cfg c h a (P := fun x => StepOK cl c x.1 x.2.2) (fun _ _ _ heq => ?_) (fun _ _ _ heq _ => ?_)
    fun _ _ _ heq _ => ?_
  all_goals rw [heq] at hp hc
  · exact hp
  · exact StepOK.trans hp (step_send hp.inv hc)
  · have hsend := StepOK.trans hp (step_send hp.inv hc)
    exact StepOK.trans hsend (step_drop hsend.inv hc)

theorem step_exec {cl : List Sid} {c : Client} (cfg : Cfg) (hi : Inv cl c) (urlOk : Bool) (h : Host) (a : Attempt) :
    StepOK cl c (executeRequest cfg c urlOk h a).1 (executeRequest cfg c urlOk h a).2.2 := by
  refine exec_cases cfg c urlOk h a (P := fun x => StepOK cl c x.1 x.2.2) (fun _ => StepOK.refl hi) fun _ => ?_
  have hs := step_underLease cfg (hi.setLeased (h :: c.leased)) h a
  rw [leaseWrap_evs, leaseWrap_client]
  exact ⟨by simpa [wellUsed_append, wellUsed, closedAfter] using hs.used,
    by simpa [closedAfter_append, closedAfter] using hs.inv.setLeased _, by simp [hs.leased]⟩

theorem step_performLoop {cl : List Sid} (cfg : Cfg) (rq : Request) (fuel attempt : Nat) (c : Client) (hi : Inv cl c) :
    StepOK cl c (performLoop cfg rq fuel attempt c).client (performLoop cfg rq fuel attempt c).evs := by
  refine performLoop_induct cfg rq (P := fun _ _ c r => ∀ cl, Inv cl c → StepOK cl c r.client r.evs) ?_ ?_ ?_
    fuel attempt c cl hi
  · intro _ c cl hi; exact StepOK.refl hi
  · intro _ a c _ _ _ hx _ cl hi
    simpa [hx] using step_exec cfg hi rq.urlOk rq.host (rq.script a)
  · intro _ a c _ _ _ r hx _ ih cl hi
    have hs := step_exec cfg hi rq.urlOk rq.host (rq.script a)
    rw [hx] at hs
    exact StepOK.trans hs (ih _ hs.inv)

theorem step_runRequests {cl : List Sid} (cfg : Cfg) :
    ∀ (rqs : List Request) (c : Client), Inv cl c →
      StepOK cl c (runRequests cfg c rqs).1 (runRequests cfg c rqs).2.1 := by
  intro rqs
  induction rqs generalizing cl with
  | nil => intro c hi; exact StepOK.refl hi
  | cons rq rqs ih =>
    intro c hi
    have h1 : StepOK cl c (performRequest cfg c rq).client (performRequest cfg c rq).evs := step_performLoop cfg rq _ 0 c hi
    have h2 := ih (performRequest cfg c rq).client h1.inv
    simp only [runRequests]
    exact StepOK.trans h1 h2

end Iora.HttpRetry
