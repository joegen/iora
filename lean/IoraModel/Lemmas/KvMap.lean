import IoraModel.Model.KvMap
/-! The association-list maps of `Model/KvMap.lean`: `get?` after `erase`, `put` and `filter`; one change of one key's entry (`Chg`,
`chg`), and the well-formedness of `_kv` with `_expiry` beside it (`KvWF`) that such changes keep. -/
namespace Iora.Kv.Map
variable {β : Type}

@[simp] theorem get?_nil (k : Key) : get? ([] : Map β) k = none := rfl

theorem get?_cons (k' : Key) (v : β) (r : Map β) (k : Key) :
    get? ((k', v) :: r) k = if k' = k then some v else get? r k := rfl

theorem get?_erase (m : Map β) (k k' : Key) :
    get? (erase m k) k' = if k = k' then none else get? m k' := by
  induction m with
  | nil => simp [erase]
  | cons x r ih =>
    obtain ⟨a, v⟩ := x
    simp only [erase]
    by_cases h : a = k
    · subst h
      simp only [↓reduceIte, ih, get?_cons]
      by_cases h2 : a = k' <;> simp [h2]
    · simp only [h, ↓reduceIte, get?_cons, ih]
      by_cases h2 : a = k'
      · subst h2
        have : ¬ k = a := fun e => h e.symm
        simp [this]
      · simp [h2]

theorem get?_put (m : Map β) (k : Key) (v : β) (k' : Key) :
    get? (put m k v) k' = if k = k' then some v else get? m k' := by
  simp only [put, get?_cons, get?_erase]
  by_cases h : k = k' <;> simp [h]

@[simp] theorem get?_erase_self (m : Map β) (k : Key) : get? (erase m k) k = none := by
  simp [get?_erase]

@[simp] theorem get?_put_self (m : Map β) (k : Key) (v : β) : get? (put m k v) k = some v := by
  simp [get?_put]

theorem get?_filter_key (m : Map β) (q : Key → Bool) (k : Key) :
    get? (m.filter (fun x => q x.1)) k = if q k then get? m k else none := by
  induction m with
  | nil => simp
  | cons x r ih =>
    obtain ⟨a, v⟩ := x
    simp only [List.filter_cons]
    by_cases hq : q a = true
    · simp only [hq, ↓reduceIte, get?_cons, ih]
      by_cases h : a = k
      · subst h; simp [hq]
      · simp [h]
    · have hq' : q a = false := by simpa using hq
      simp only [hq', Bool.false_eq_true, ↓reduceIte, get?_cons]
      by_cases h : a = k
      · subst h; simp [hq', ih]
      · simp [h, ih]

theorem forall_filter_key {P : Key → β → Prop} (m : Map β) (q : Key → Bool) (h : ∀ a b, get? m a = some b → P a b) :
    ∀ a b, get? (m.filter (fun x => q x.1)) a = some b → P a b := by
  intro a b hg
  rw [get?_filter_key] at hg
  split at hg
  · exact h a b hg
  · cases hg

theorem has_iff (m : Map β) (k : Key) : has m k = true ↔ ∃ v, get? m k = some v := by
  simp [has, Option.isSome_iff_exists]

theorem mem_keys_iff (m : Map β) (k : Key) : k ∈ keys m ↔ ∃ v, get? m k = some v := by
  induction m with
  | nil => simp [keys]
  | cons x r ih =>
    obtain ⟨a, v⟩ := x
    simp only [keys, List.map_cons, List.mem_cons, get?_cons] at *
    by_cases h : a = k
    · subst h; simp
    · have : ¬ k = a := fun e => h e.symm
      simp [h, this, ih]

theorem get?_of_mem_nodup (m : Map β) (h : (keys m).Nodup) (k : Key) (v : β) (hm : (k, v) ∈ m) : get? m k = some v := by
  induction m with
  | nil => cases hm
  | cons x r ih =>
    obtain ⟨a, w⟩ := x
    simp only [keys, List.map_cons, List.nodup_cons] at h
    rcases List.mem_cons.mp hm with e | e
    · cases e; simp [get?_cons]
    · have hk : k ∈ keys r := List.mem_map.mpr ⟨(k, v), e, rfl⟩
      have : a ≠ k := fun e => h.1 (e ▸ hk)
      simp [get?_cons, this, ih h.2 e]

theorem mem_of_get? (m : Map β) (k : Key) (v : β) (h : get? m k = some v) : (k, v) ∈ m := by
  induction m with
  | nil => simp at h
  | cons x r ih =>
    obtain ⟨a, w⟩ := x
    simp only [get?_cons] at h
    by_cases e : a = k
    · subst e; simp at h; subst h; simp
    · simp [e] at h; exact List.mem_cons_of_mem _ (ih h)

theorem keys_erase_sublist (m : Map β) (k : Key) : (keys (erase m k)).Sublist (keys m) := by
  induction m with
  | nil => simp [erase, keys]
  | cons x r ih =>
    obtain ⟨a, w⟩ := x
    simp only [erase]
    by_cases e : a = k
    · simp only [e, ↓reduceIte, keys, List.map_cons]; exact List.Sublist.cons _ ih
    · simp only [e, ↓reduceIte, keys, List.map_cons]; exact List.Sublist.cons_cons _ ih

theorem nodup_erase (m : Map β) (k : Key) (h : (keys m).Nodup) : (keys (erase m k)).Nodup :=
  h.sublist (keys_erase_sublist m k)

theorem not_mem_keys_erase (m : Map β) (k : Key) : k ∉ keys (erase m k) := by
  rw [mem_keys_iff]; simp

theorem nodup_put (m : Map β) (k : Key) (v : β) (h : (keys m).Nodup) : (keys (put m k v)).Nodup := by
  simp only [put, keys, List.map_cons, List.nodup_cons]
  exact ⟨not_mem_keys_erase m k, nodup_erase m k h⟩

theorem nodup_filter (m : Map β) (q : Key × β → Bool) (h : (keys m).Nodup) : (keys (m.filter q)).Nodup := by
  unfold keys at *
  exact h.sublist (List.Sublist.map _ List.filter_sublist)

theorem mem_erase (c : Map β) (k : Key) (x : Key × β) (h : x ∈ erase c k) : x ∈ c ∧ x.1 ≠ k := by
  induction c with
  | nil => simp [erase] at h
  | cons y r ih =>
    obtain ⟨a, b⟩ := y
    simp only [erase] at h
    by_cases e : a = k
    · simp only [e, ↓reduceIte] at h
      exact ⟨List.mem_cons_of_mem _ (ih h).1, (ih h).2⟩
    · simp only [e, ↓reduceIte] at h
      rcases List.mem_cons.mp h with h | h
      · subst h; exact ⟨List.mem_cons_self, e⟩
      · exact ⟨List.mem_cons_of_mem _ (ih h).1, (ih h).2⟩

theorem length_erase_le (m : Map β) (k : Key) : (erase m k).length ≤ m.length := by
  induction m with
  | nil => simp [erase]
  | cons x r ih =>
    obtain ⟨a, b⟩ := x
    simp only [erase]
    split <;> simp <;> omega

theorem length_filter_split {α : Type} (p : α → Bool) (l : List α) :
    l.length = (l.filter p).length + (l.filter (fun a => !p a)).length := by
  induction l with
  | nil => rfl
  | cons a r ih =>
    cases h : p a <;> simp [h] <;> omega

theorem length_eq_of_keys_equiv {α : Type} (a : Map α) (b : Map β) (ha : (keys a).Nodup) (hb : (keys b).Nodup)
    (h : ∀ k, k ∈ keys a ↔ k ∈ keys b) : a.length = b.length := by
  have h1 := List.Nodup.length_le_of_subset ha (fun k hk => (h k).mp hk)
  have h2 := List.Nodup.length_le_of_subset hb (fun k hk => (h k).mpr hk)
  simp only [keys, List.length_map] at h1 h2
  omega

theorem mem_keys_filter_val (m : Map β) (hn : (keys m).Nodup) (q : β → Bool) (k : Key) :
    k ∈ keys (m.filter (fun x => q x.2)) ↔ ∃ v, get? m k = some v ∧ q v = true := by
  constructor
  · intro hk
    obtain ⟨x, hx, rfl⟩ := List.mem_map.mp hk
    obtain ⟨hx1, hx2⟩ := List.mem_filter.mp hx
    exact ⟨x.2, get?_of_mem_nodup m hn x.1 x.2 hx1, hx2⟩
  · rintro ⟨v, hv, hq⟩
    exact List.mem_map.mpr ⟨(k, v), List.mem_filter.mpr ⟨mem_of_get? m k v hv, hq⟩, rfl⟩

/-- what one critical section does to the entry of one key: leaves it, `m[k] = v`, or `erase(k)` -/
inductive Chg (β : Type)
  | keep
  | put (v : β)
  | erase

def Chg.at : Chg β → Option β → Option β
  | .keep, x => x
  | .put v, _ => some v
  | .erase, _ => none

def chg (m : Map β) (k : Key) : Chg β → Map β
  | .keep => m
  | .put v => put m k v
  | .erase => erase m k

theorem get?_chg (m : Map β) (k : Key) (c : Chg β) (k' : Key) :
    get? (chg m k c) k' = if k = k' then c.at (get? m k) else get? m k' := by
  cases c with
  | keep => split <;> simp_all [chg, Chg.at]
  | put v => exact get?_put m k v k'
  | erase => exact get?_erase m k k'

theorem nodup_chg (m : Map β) (k : Key) (c : Chg β) (h : (keys m).Nodup) : (keys (chg m k c)).Nodup := by
  cases c with
  | keep => exact h
  | put v => exact nodup_put m k v h
  | erase => exact nodup_erase m k h

theorem length_chg_le (m : Map β) (k : Key) (c : Chg β) : (chg m k c).length ≤ m.length + 1 := by
  have := length_erase_le m k
  cases c <;> simp only [chg, put, List.length_cons] <;> omega

theorem forall_chg {P : Key → β → Prop} (m : Map β) (k : Key) (c : Chg β) (h : ∀ a b, get? m a = some b → P a b)
    (hk : ∀ v, c.at (get? m k) = some v → P k v) : ∀ a b, get? (chg m k c) a = some b → P a b := by
  intro a b hg
  rw [get?_chg] at hg
  split at hg
  · next e => exact e ▸ hk b hg
  · exact h a b hg

theorem sub_chg {γ : Type} {a : Map β} {b : Map γ} (h : ∀ k, (get? a k).isSome = true → (get? b k).isSome = true)
    (k : Key) (ca : Chg β) (cb : Chg γ) (hk : (ca.at (get? a k)).isSome = true → (cb.at (get? b k)).isSome = true) :
    ∀ k', (get? (chg a k ca) k').isSome = true → (get? (chg b k cb) k').isSome = true := by
  intro k' hg
  rw [get?_chg] at hg ⊢
  split at hg
  · next e => rw [if_pos e]; exact hk hg
  · next e => rw [if_neg e]; exact h k' hg

theorem sub_filter_key {γ : Type} {a : Map β} {b : Map γ} (h : ∀ k, (get? a k).isSome = true → (get? b k).isSome = true)
    (q : Key → Bool) :
    ∀ k', (get? (a.filter (fun x => q x.1)) k').isSome = true → (get? (b.filter (fun x => q x.1)) k').isSome = true := by
  intro k' hk
  rw [get?_filter_key] at hk ⊢
  split at hk
  · next e => rw [if_pos e]; exact h k' hk
  · cases hk

/-- `_kv` and a map of per-key data beside it (`_expiry`): the keys of the latter are keys of the former, no key occurs twice,
the empty key is never stored -/
structure KvWF {γ : Type} (kv : Map β) (ex : Map γ) : Prop where
  sub : ∀ k, (get? ex k).isSome = true → (get? kv k).isSome = true
  nodupKv : (keys kv).Nodup
  nodupExp : (keys ex).Nodup
  noEmpty : get? kv [] = none

theorem KvWF.nil {γ : Type} : KvWF ([] : Map β) ([] : Map γ) :=
  ⟨fun _ h => (nomatch h), List.nodup_nil, List.nodup_nil, rfl⟩

theorem KvWF.chg {γ : Type} {kv : Map β} {ex : Map γ} (h : KvWF kv ex) (k : Key) (a : Chg β) (b : Chg γ)
    (hsub : (b.at (get? ex k)).isSome = true → (a.at (get? kv k)).isSome = true) (hne : k = [] → a.at (get? kv k) = none) :
    KvWF (chg kv k a) (chg ex k b) where
  sub := sub_chg h.sub k b a hsub
  nodupKv := nodup_chg kv k a h.nodupKv
  nodupExp := nodup_chg ex k b h.nodupExp
  noEmpty := by
    rw [get?_chg]
    split
    · next e => exact e ▸ hne e
    · exact h.noEmpty

theorem KvWF.filter_key {γ : Type} {kv : Map β} {ex : Map γ} (h : KvWF kv ex) (q : Key → Bool) :
    KvWF (kv.filter (fun x => q x.1)) (ex.filter (fun x => q x.1)) where
  sub := sub_filter_key h.sub q
  nodupKv := nodup_filter kv _ h.nodupKv
  nodupExp := nodup_filter ex _ h.nodupExp
  noEmpty := by rw [get?_filter_key, h.noEmpty]; split <;> rfl

end Iora.Kv.Map
