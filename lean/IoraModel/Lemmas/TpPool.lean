import IoraModel.Lemmas.TpInv
/-!
# C09 — the worker map, the worker bound, quiescence, and all invariants together

`WInv` (the worker map `_threads` against the worker threads; P5b), `SizeInv` (P6) and `QOk` (what "a join loop has completed" means, and that
it stays so) read of a step its `StepEff` and its `ThreadsStep`, and lean on `MutexOk` and `CInv`.  `AllInv` is these with `MutexOk` and `CInv`, for every
schedule of a pool that is joined and not restarted (`allInv_run`); with it `stop()` (ok), `shutdown()` and the destructor return only in a
quiet state (P2) and no task body starts afterwards (P3, `quiet_step`).
-/
namespace Iora.ThreadPool

theorem effMax_bounds (cfg : Cfg) : 1 ≤ cfg.effMax ∧ cfg.initialSize ≤ cfg.effMax ∧ cfg.maxSize ≤ cfg.effMax := by
  unfold Cfg.effMax; simp only []; (repeat' split) <;> omega

/-- `w` is the worker some controller has taken out of `_threads` and is joining -/
def isTarget (l : List Thread) (w : Tid) : Prop := ∃ (t : Nat) (th : Thread), l[t]? = some th ∧ targetOf th = some w

/-- worker `w` (state `th`) is accounted for: in `_threads`, being joined, or self-removed and about to return -/
def Accounted (threads : List Tid) (l : List Thread) (w : Tid) (th : Thread) : Prop :=
  w ∈ threads ∨ isTarget l w ∨ th = .worker .unlockExit

/-- worker `w` (state `th`) guards the queue: it is registered (or being joined) and will look at the queue again -/
def Guardian (threads : List Tid) (l : List Thread) (w : Tid) (th : Thread) : Prop :=
  isWorker th = true ∧ tailW th = false ∧ (w ∈ threads ∨ isTarget l w)

/-- the queue is guarded: a worker guards it, or a submitter is about to create one -/
abbrev Guarded (threads : List Tid) (l : List Thread) : Prop :=
  (∃ (w : Nat) (th : Thread), l[w]? = some th ∧ Guardian threads l w th) ∨ (∃ (t : Nat) (th : Thread), l[t]? = some th ∧ atCreate th = true)

/-- The worker map `_threads` against the thread list: its entries are indices of worker threads (a worker is registered by the step that
creates it, under the index `thr.length` it gets).  `nodup` carries `live` through a worker's own erase, `bound` carries `nodup` through a create. -/
structure WInv (s : St) : Prop where
  /-- every worker that has not returned is accounted for -/
  reg : ∀ (w : Nat) (th : Thread), s.thr[w]? = some th → isWorker th = true → th ≠ .worker .done → Accounted s.sh.threads s.thr w th
  /-- P5: a non-empty queue has a guardian, or a submitter that is about to create one -/
  guard : s.sh.tasks ≠ [] → Guarded s.sh.threads s.thr
  /-- until shutdown every entry of `_threads` is a worker that has neither removed itself nor returned -/
  live : s.sh.shutdown = false → ∀ w, w ∈ s.sh.threads → ∃ th, s.thr[w]? = some th ∧ isWorker th = true ∧ goneW th = false
  bound : ∀ w, w ∈ s.sh.threads → w < s.thr.length
  nodup : s.sh.threads.Nodup

section
variable {l0 l : List Thread} {t : Tid} {th th' : Thread} {post : Post}

theorem isTarget_keep (hts : ThreadsStep l0 l t th' post) (hget : l0[t]? = some th) (w : Tid)
    (h : isTarget l0 w) (hk : targetOf th = some w → targetOf th' = some w) : isTarget l w := by
  obtain ⟨j, x, hx, htg⟩ := h
  by_cases e : j = t
  · rw [e] at hx; rw [hget] at hx
    have e2 : th = x := Option.some.inj hx
    rw [← e2] at htg
    exact ⟨t, th', hts.self, hk htg⟩
  · obtain ⟨y, hy, hw⟩ := hts.old j x e hx
    exact ⟨j, y, hy, by rw [hw.obs targetOf]; exact htg⟩

theorem reg_step {threads threads' : List Tid} (hts : ThreadsStep l0 l t th' post)
    (hreg : ∀ (w : Nat) (x : Thread), l0[w]? = some x → isWorker x = true → x ≠ .worker .done → Accounted threads l0 w x)
    (hself : isWorker th' = true → th' ≠ .worker .done → Accounted threads' l t th')
    (hother : ∀ (w : Nat) (x : Thread), w ≠ t → l0[w]? = some x → isWorker x = true → x ≠ .worker .done →
        Accounted threads l0 w x → Accounted threads' l w x)
    (hspawn : ∀ nt, post = .spawn nt → isWorker nt = true → l0.length ∈ threads') :
    ∀ (w : Nat) (y : Thread), l[w]? = some y → isWorker y = true → y ≠ .worker .done → Accounted threads' l w y := by
  intro w y hy hwk hnd
  rcases hts.new w y hy with ⟨e1, e2⟩ | ⟨ne, x, hx, hwf⟩ | ⟨nt, hnt, e1, e2⟩
  · rw [e1, e2]; rw [e2] at hwk hnd; exact hself hwk hnd
  · have hxnd : x ≠ .worker .done := fun e => hnd (hwf.done_iff.mpr e)
    have hxw : isWorker x = true := by rw [← hwf.obs isWorker]; exact hwk
    have := hother w x ne hx hxw hxnd (hreg w x hx hxw hxnd)
    rcases this with r | r | r
    · exact Or.inl r
    · exact Or.inr (Or.inl r)
    · exact Or.inr (Or.inr (hwf.unlockExit_iff.mpr r))
  · rw [e2] at hwk; rw [e1]; exact Or.inl (hspawn nt hnt hwk)

theorem old_thread (hts : ThreadsStep l0 l t th' post) (w : Nat) (x : Thread) (ne : w ≠ t) (hx : l0[w]? = some x) :
    ∃ y, l[w]? = some y ∧ isWorker y = isWorker x ∧ tailW y = tailW x ∧ goneW y = goneW x ∧ atCreate y = atCreate x := by
  obtain ⟨y, hy, hwf⟩ := hts.old w x ne hx
  exact ⟨y, hy, hwf.obs isWorker, hwf.obs tailW, hwf.obs goneW, hwf.obs atCreate⟩

end

theorem own_of_target (y : Thread) (hy : targetOf y ≠ none) : ∃ pc r, y = .main pc r ∧ ownsPc pc = true := by
  cases y with
  | main pc r => cases pc <;> first | exact absurd rfl hy | exact ⟨_, _, rfl, rfl⟩
  | _ => exact absurd rfl hy

theorem target_owner {s : St} (hc : CInv s) {j t : Nat} {x : Thread} {w : Tid} {pc : MPc} {r : MRegs} (hx : s.thr[j]? = some x)
    (htg : targetOf x = some w) (hget : s.thr[t]? = some (.main pc r)) (ho : ownsPc pc = true) : j = t := by
  obtain ⟨pc', r', rfl, o⟩ := own_of_target x (by rw [htg]; exact fun e => nomatch e)
  exact hc.oneOwner j t pc' pc r' r hx hget o ho

/-- What `PoolStep.winv` has in hand in every case of `StepEff`: the step of the thread list, the acting thread before it, and `WInv` before it.
The lemmas below say under which conditions on `_threads`, the join targets and the acting thread each clause of `WInv` goes over. -/
structure WInvStep (s : St) (l : List Thread) (t : Tid) (th th' : Thread) (post : Post) : Prop where
  hts : ThreadsStep s.thr l t th' post
  hget : s.thr[t]? = some th
  hfresh : ∀ nt, post = .spawn nt → isFresh nt = true
  hwk : isWorker th' = isWorker th
  hnd : th ≠ .worker .done
  hinv : WInv s

namespace WInvStep
variable {s : St} {sh' : Shared} {l : List Thread} {t : Tid} {th th' : Thread} {post : Post} (c : WInvStep s l t th th' post)
include c

theorem isTarget_iff (htgt : targetOf th' = targetOf th) (w : Tid) : isTarget l w ↔ isTarget s.thr w := by
  constructor
  · intro ⟨j, y, hy, htg⟩
    rcases c.hts.new j y hy with ⟨_, e⟩ | ⟨_, x, hx, hw⟩ | ⟨nt, hnt, _, e⟩
    · exact ⟨t, th, c.hget, by rw [← htgt, ← e]; exact htg⟩
    · exact ⟨j, x, hx, by rw [← hw.obs targetOf]; exact htg⟩
    · rw [e] at htg; rw [(class_fresh nt (c.hfresh nt hnt)).1] at htg; cases htg
  · intro hh; exact isTarget_keep c.hts c.hget w hh (by rw [htgt]; exact id)

theorem reg_keep (hthreads : ∀ w, w ∈ s.sh.threads → w ∈ sh'.threads) (htgt : targetOf th' = targetOf th)
    (hself : isWorker th' = true → th' ≠ .worker .done → Accounted s.sh.threads s.thr t th → Accounted sh'.threads l t th')
    (hspawn : ∀ nt, post = .spawn nt → isWorker nt = true → s.thr.length ∈ sh'.threads) :
    ∀ (w : Nat) (y : Thread), l[w]? = some y → isWorker y = true → y ≠ .worker .done → Accounted sh'.threads l w y := by
  apply reg_step c.hts c.hinv.reg
  · intro h1 h2; exact hself h1 h2 (c.hinv.reg t th c.hget (by rw [← c.hwk]; exact h1) c.hnd)
  · intro w x _ _ _ _ hacc
    rcases hacc with r | r | r
    · exact Or.inl (hthreads w r)
    · exact Or.inr (Or.inl ((c.isTarget_iff htgt w).mpr r))
    · exact Or.inr (Or.inr r)
  · exact hspawn

/-- `guard` when a queue that is non-empty after the step was so before: the old guardian (or creator) is another thread, which the
step leaves as it was (`hthreads`, `htg`: it stays registered or a target), or the acting thread (`hselfG`, `hselfC`) -/
theorem guard (htasks : sh'.tasks ≠ [] → s.sh.tasks ≠ [])
    (hthreads : ∀ w, w ∈ s.sh.threads → w ≠ t → w ∈ sh'.threads ∨ isTarget l w)
    (htg : ∀ w x, w ≠ t → s.thr[w]? = some x → isWorker x = true → tailW x = false → isTarget s.thr w → isTarget l w)
    (hselfG : Guardian s.sh.threads s.thr t th → Guarded sh'.threads l)
    (hselfC : atCreate th = true → Guarded sh'.threads l) (hne : sh'.tasks ≠ []) : Guarded sh'.threads l := by
  rcases c.hinv.guard (htasks hne) with ⟨w, x, hx, hg⟩ | ⟨j, x, hx, h1⟩
  · by_cases e : w = t
    · rw [e, c.hget] at hx
      have e2 : th = x := Option.some.inj hx
      rw [e, ← e2] at hg
      exact hselfG hg
    · left
      obtain ⟨y, hy, c1, c2, _, _⟩ := old_thread c.hts w x e hx
      refine ⟨w, y, hy, by rw [c1]; exact hg.1, by rw [c2]; exact hg.2.1, ?_⟩
      rcases hg.2.2 with r | r
      · exact hthreads w r e
      · exact Or.inr (htg w x e hx hg.1 hg.2.1 r)
  · by_cases e : j = t
    · rw [e, c.hget] at hx
      have e2 : th = x := Option.some.inj hx
      rw [← e2] at h1
      exact hselfC h1
    · right
      obtain ⟨y, hy, _, _, _, c4⟩ := old_thread c.hts j x e hx
      exact ⟨j, y, hy, by rw [c4]; exact h1⟩

theorem live (hs : sh'.shutdown = false → s.sh.shutdown = false)
    (hsub : ∀ w, w ∈ sh'.threads → w ≠ t → w ∈ s.sh.threads ∨ (w = s.thr.length ∧ post = .spawn newWorker))
    (hself : sh'.shutdown = false → t ∈ sh'.threads → isWorker th' = true ∧ goneW th' = false)
    (hsd : sh'.shutdown = false) (w : Tid) (hm : w ∈ sh'.threads) :
    ∃ y, l[w]? = some y ∧ isWorker y = true ∧ goneW y = false := by
  by_cases e : w = t
  · rw [e] at hm ⊢
    exact ⟨th', c.hts.self, hself hsd hm⟩
  · rcases hsub w hm e with r | ⟨r1, r2⟩
    · obtain ⟨x, hx, h1, h2⟩ := c.hinv.live (hs hsd) w r
      obtain ⟨y, hy, c1, _, c3, _⟩ := old_thread c.hts w x e hx
      exact ⟨y, hy, by rw [c1]; exact h1, by rw [c3]; exact h2⟩
    · rw [r1]
      exact ⟨newWorker, (c.hts.spawned newWorker r2).1, rfl, rfl⟩

theorem bound {threads' : List Tid} (hsub : ∀ w, w ∈ threads' → w ∈ s.sh.threads) (w : Tid) (hm : w ∈ threads') : w < l.length :=
  Nat.lt_of_lt_of_le (c.hinv.bound w (hsub w hm)) c.hts.len

theorem acc_self (hsub : ∀ w, w ∈ s.sh.threads → w ∈ sh'.threads) (htgt : targetOf th' = targetOf th) (hgone : goneW th' = goneW th)
    (hnd' : th' ≠ .worker .done) (hacc : Accounted s.sh.threads s.thr t th) : Accounted sh'.threads l t th' := by
  rcases hacc with r | r | r
  · exact .inl (hsub t r)
  · exact .inr (.inl ((c.isTarget_iff htgt t).mpr r))
  · refine .inr (.inr ?_)
    have hg : goneW th' = true := by rw [hgone, r]; rfl
    cases th' with
    | worker ws => cases ws <;> first | rfl | exact absurd rfl hnd' | cases hg
    | _ => cases hg

theorem live_self (hgone : goneW th' = goneW th) (hsd : s.sh.shutdown = false) (hm : t ∈ s.sh.threads) :
    isWorker th' = true ∧ goneW th' = false := by
  obtain ⟨x, hx, h1, h2⟩ := c.hinv.live hsd t hm
  rw [c.hget] at hx; cases hx
  exact ⟨by rw [c.hwk]; exact h1, by rw [hgone]; exact h2⟩

theorem guard_self (hsub : ∀ w, w ∈ s.sh.threads → w ∈ sh'.threads) (htgt : targetOf th' = targetOf th) (htail : tailW th' = tailW th)
    (hg : Guardian s.sh.threads s.thr t th) : Guarded sh'.threads l :=
  .inl ⟨t, th', c.hts.self, by rw [c.hwk]; exact hg.1, by rw [htail]; exact hg.2.1, hg.2.2.imp (hsub t) (c.isTarget_iff htgt t).mpr⟩

theorem guard_other (e1 : sh'.tasks = s.sh.tasks) (e2 : sh'.threads = s.sh.threads) (htgt : targetOf th' = targetOf th)
    (hng : ¬ (isWorker th = true ∧ tailW th = false)) (hnc : atCreate th = false) : sh'.tasks ≠ [] → Guarded sh'.threads l :=
  c.guard (by rw [e1]; exact id) (fun w hm _ => .inl (by rw [e2]; exact hm))
    (fun w _ _ _ _ _ r => (c.isTarget_iff htgt w).mpr r) (fun hg => absurd ⟨hg.1, hg.2.1⟩ hng) (fun hh => by rw [hnc] at hh; cases hh)

/-- all of `WInv` after a step that keeps `_threads`, the targets and the class of the acting thread, and creates no worker: left to show are
`reg` and `live` for the acting thread, and `guard` -/
theorem keep_all (e : sh'.threads = s.sh.threads) (htgt : targetOf th' = targetOf th)
    (hself : isWorker th' = true → th' ≠ .worker .done → Accounted s.sh.threads s.thr t th → Accounted sh'.threads l t th')
    (hsp : ∀ nt, post = .spawn nt → isWorker nt = false)
    (hguard : sh'.tasks ≠ [] → Guarded sh'.threads l)
    (hlive : sh'.shutdown = false → s.sh.shutdown = false ∧ (t ∈ s.sh.threads → isWorker th' = true ∧ goneW th' = false)) :
    WInv { sh := sh', thr := l } := by
  have sub : ∀ w, w ∈ s.sh.threads → w ∈ sh'.threads := fun w hm => by rw [e]; exact hm
  refine ⟨c.reg_keep sub htgt hself (fun nt hnt hnw => by rw [hsp nt hnt] at hnw; cases hnw), hguard, ?_,
    c.bound (fun w hm => by rw [← e]; exact hm), by rw [e]; exact c.hinv.nodup⟩
  exact c.live (fun hsd => (hlive hsd).1) (fun w hm _ => .inl (by rw [← e]; exact hm))
    (fun hsd hm => (hlive hsd).2 (by rw [← e]; exact hm))

end WInvStep

/-- `WInv` is kept by a step.  Of the step it reads `StepEff` (what happens to queue, `_threads`, flags and the acting thread) and `ThreadsStep`
(what happens to the thread list), that the mutex is acquired only when free and that a `join` is pending only on a finished thread; of `CInv`
that there is one join loop at a time, no `detach` and no restart.
The kinds of step that leave `_threads` and the join targets alone go through `WInvStep.keep_all`; create, the worker's own erase, and the
join loop's pick / joined are done clause by clause. -/
theorem PoolStep.winv {cfg s t th alt sh' th' post l} (ps : PoolStep cfg s t th alt sh' th' post l) (hmx : MutexOk s) (hc : CInv s)
    (hinv : WInv s) : WInv { sh := sh', thr := l } := by
  obtain ⟨hst, hget, hunfin, hfree, hjoin, hts, _⟩ := ps
  have c : WInvStep s l t th th' post :=
    ⟨hts, hget, hst.spawn_fresh, hst.kind.2, fun e => by rw [e] at hunfin; simp [isFinished] at hunfin, hinv⟩
  have no_spawn : post = .none → ∀ nt, post = .spawn nt → isWorker nt = false := fun e nt hnt => by rw [e] at hnt; cases hnt
  match hst.eff with
  | .quiet (hq := h) (hpost := hp) (hat := hat) (htail := htail) (hgone := hgone) (htgt := htgt) .. =>
    have sub : ∀ w, w ∈ s.sh.threads → w ∈ sh'.threads := fun w hm => by rw [h.threads]; exact hm
    refine c.keep_all h.threads htgt (fun _ hnd' => c.acc_self sub htgt hgone hnd') hp ?_
      (fun hsd => ⟨by rw [← h.shutdown]; exact hsd, c.live_self hgone (by rw [← h.shutdown]; exact hsd)⟩)
    exact c.guard (by rw [h.tasks]; exact id) (fun w hm _ => .inl (sub w hm)) (fun w _ _ _ _ _ r => (c.isTarget_iff htgt w).mpr r)
      (c.guard_self sub htgt htail) (fun hh => by rw [hat] at hh; cases hh)
  | .push (hs := hs) (hthreads := h2) (hpost := hp) (hat' := hat') (htail := htail) (hgone := hgone) (htgt := htgt) (hacq := hacq) .. =>
    have sub : ∀ w, w ∈ s.sh.threads → w ∈ sh'.threads := fun w hm => by rw [h2]; exact hm
    refine c.keep_all h2 htgt (fun _ hnd' => c.acc_self sub htgt hgone hnd') (no_spawn hp) (fun _ => ?_)
      (fun _ => ⟨hs, c.live_self hgone hs⟩)
    rcases hat' with ⟨hat', _⟩ | ⟨_, hge⟩
    · exact .inr ⟨t, th', hts.self, hat'⟩
    · -- `_threads.size() >= _maxSize >= 1`: some registered worker exists; it is live (not shut down) and cannot be
      -- in its exit path, because that would mean it holds the mutex the submitter has just acquired
      have hne : s.sh.threads ≠ [] := by
        intro e; rw [e] at hge; have := (effMax_bounds cfg).1; simp at hge; omega
      obtain ⟨w, hwm⟩ := List.exists_mem_of_ne_nil _ hne
      obtain ⟨x, hx, h1, hg⟩ := hinv.live hs w hwm
      have hown := hfree hacq
      have htl : tailW x = false := by
        cases x with
        | worker ws =>
          cases ws <;> simp [goneW] at hg <;> simp [tailW]
          have := hmx w _ hx rfl
          rw [hown] at this; cases this
        | main pc r => simp [isWorker] at h1
        | sub z => simp [isWorker] at h1
      by_cases e : w = t
      · rw [e] at hx hwm; rw [hget] at hx; cases hx
        exact c.guard_self sub htgt htail ⟨h1, htl, .inl hwm⟩
      · obtain ⟨y, hy, c1, c2, _, _⟩ := old_thread hts w x e hx
        exact .inl ⟨w, y, hy, by rw [c1]; exact h1, by rw [c2]; exact htl, .inl (sub w hwm)⟩
  | .create (htasks := h1) (hthreads := ht) (hshut := h3) (hpost := hp) (htail := htail) (hgone := hgone) (htgt := htgt) .. =>
    have hsp := hts.spawned newWorker hp
    have hnew_mem : s.thr.length ∈ sh'.threads := by rw [ht]; simp
    have sub : ∀ w, w ∈ s.sh.threads → w ∈ sh'.threads := fun w hm => by rw [ht]; exact List.mem_append_left _ hm
    have back : ∀ w, w ∈ sh'.threads → w ∈ s.sh.threads ∨ w = s.thr.length := fun w hm => by
      rw [ht] at hm; simpa using hm
    refine ⟨c.reg_keep sub htgt (fun _ hnd' => c.acc_self sub htgt hgone hnd') (fun _ _ _ => hnew_mem), ?_, ?_, ?_, ?_⟩
    · exact c.guard (by rw [h1]; exact id) (fun w hm _ => .inl (sub w hm)) (fun w _ _ _ _ _ r => (c.isTarget_iff htgt w).mpr r)
        (c.guard_self sub htgt htail) (fun _ => .inl ⟨s.thr.length, newWorker, hsp.1, rfl, rfl, .inl hnew_mem⟩)
    · refine c.live (by rw [h3]; exact id) (fun w hm _ => (back w hm).imp id (fun r => ⟨r, hp⟩)) (fun hsd hm => ?_)
      rcases back t hm with r | r
      · exact c.live_self hgone (by rw [← h3]; exact hsd) r
      · have hlt : t < s.thr.length := Pool.lt_of_get hget
        rw [r] at hlt; exact absurd hlt (Nat.lt_irrefl _)
    · intro w hm
      rcases back w hm with r | r
      · exact c.bound (fun _ => id) w r
      · rw [r, hsp.2]; exact Nat.lt_succ_self _
    · show sh'.threads.Nodup
      rw [ht, List.nodup_append]
      refine ⟨hinv.nodup, by simp, ?_⟩
      intro a ha b hb
      simp at hb; rw [hb]
      intro e; rw [e] at ha
      exact Nat.lt_irrefl _ (hinv.bound _ ha)
  | .exit (hq := h) (hpost := hp) (hth := hth) (hempty := he) (hth' := hw) .. =>
    have htgt : targetOf th' = targetOf th := by
      rw [targetOf_worker hth.1]; rcases hw with ⟨e, _⟩ | ⟨e, _⟩ <;> rw [e] <;> rfl
    refine c.keep_all h.threads htgt (fun _ _ _ => ?_) (no_spawn hp) (fun hne => absurd (h.tasks ▸ he) hne)
      (fun hsd => ⟨by rw [← h.shutdown]; exact hsd, fun hm => ?_⟩)
    · rcases hw with ⟨e, hm, _⟩ | ⟨e, _⟩
      · exact .inl (by rw [h.threads]; exact hm)
      · exact .inr (.inr e)
    · rcases hw with ⟨e, _⟩ | ⟨_, hnm | hs⟩
      · rw [e]; exact ⟨rfl, rfl⟩
      · exact absurd hm hnm
      · rw [h.shutdown, hs] at hsd; cases hsd
  | .pop (id := tid) (hthreads := h2) (hshut := h3) (hpost := hp) (hth := hth) (hth' := hw) .. =>
    subst hw
    have htgt : targetOf (.worker (.unlockTask tid)) = targetOf th := (targetOf_worker hth.1).symm
    have hacc : t ∈ sh'.threads ∨ isTarget l t := by
      rcases hinv.reg t th hget hth.1 c.hnd with r | r | r
      · exact .inl (by rw [h2]; exact r)
      · exact .inr ((c.isTarget_iff htgt t).mpr r)
      · rw [r] at hth; simp [tailW] at hth
    exact c.keep_all h2 htgt (fun _ _ _ => hacc.imp id .inl) (no_spawn hp)
      (fun _ => .inl ⟨t, _, hts.self, rfl, rfl, hacc⟩) (fun hsd => ⟨by rw [← h3]; exact hsd, fun _ => ⟨rfl, rfl⟩⟩)
  | .quiesce (hth := hth) (hth' := hw) (hempty := he) (htasks := h1) (hthreads := ht) (hshut := h3) (hpost := hp) .. =>
    subst hth hw
    exact c.keep_all ht rfl (fun hh => nomatch hh) (no_spawn hp) (c.guard_other h1 ht rfl (fun g => nomatch g.1) rfl)
      (fun hsd => ⟨by rw [← h3]; exact hsd, fun hm => by rw [he] at hm; cases hm⟩)
  | .setShut (hth := hth) (hth' := hw) (htasks := h1) (hthreads := ht) (hshut := h3) (hpost := hp) .. =>
    subst hth hw
    exact c.keep_all ht rfl (fun hh => nomatch hh) (no_spawn hp) (c.guard_other h1 ht rfl (fun g => nomatch g.1) rfl)
      (fun hsd => by rw [h3] at hsd; cases hsd)
  | .restart hth => rw [hc.nors t th hget] at hth; cases hth
  | .selfErase (hth := hth) (hth' := hw) (htasks := h1) (hthreads := ht) (hshut := h3) (hpost := hp) .. =>
    -- the eraser had decided to exit before (`tailW`): it guarded nothing, and is accounted for as `unlockExit` from here on
    subst hth hw
    have htgt : targetOf (.worker .unlockExit) = targetOf (.worker .detach) := rfl
    have hsub : ∀ w, w ∈ sh'.threads → w ∈ s.sh.threads := fun w hm => List.mem_of_mem_erase (by rw [← ht]; exact hm)
    have hnodup : sh'.threads.Nodup := by rw [ht]; exact hinv.nodup.erase _
    refine ⟨?_, ?_, ?_, c.bound hsub, hnodup⟩
    · apply reg_step hts hinv.reg
      · intro _ _; exact .inr (.inr rfl)
      · intro w x ne _ _ _ hacc
        rcases hacc with r | r | r
        · exact .inl (by rw [ht]; exact (List.mem_erase_of_ne ne).mpr r)
        · exact .inr (.inl ((c.isTarget_iff htgt w).mpr r))
        · exact .inr (.inr r)
      · intro nt hnt; rw [hp] at hnt; cases hnt
    · exact c.guard (by rw [h1]; exact id) (fun w hm ne => .inl (by rw [ht]; exact (List.mem_erase_of_ne ne).mpr hm))
        (fun w _ _ _ _ _ r => (c.isTarget_iff htgt w).mpr r) (fun hg => nomatch hg.2.1) (fun hh => nomatch hh)
    · refine c.live (by rw [h3]; exact id) (fun w hm _ => .inl (hsub w hm)) (fun _ hm => ?_)
      rw [ht] at hm
      exact absurd hm (List.Nodup.not_mem_erase hinv.nodup)
  | .pick (r := r) (hth := hth) (hth' := hw) (htasks := h1) (hthreads := ht) (hshut := h3) (hpost := hp) .. =>
    subst hth hw
    -- the erased entry becomes the picker's join target: `Accounted`/`Guardian` move from "∈ `_threads`" to `isTarget`
    have tgt_alt : isTarget l alt := ⟨t, _, hts.self, rfl⟩
    have tgt_keep : ∀ w, isTarget s.thr w → isTarget l w := by
      intro w hh; exact isTarget_keep hts hget w hh (fun e => nomatch e)
    have moved : ∀ w, w ∈ s.sh.threads → w ∈ sh'.threads ∨ isTarget l w := fun w hm => by
      by_cases e : w = alt
      · rw [e]; exact .inr tgt_alt
      · exact .inl (by rw [ht]; exact (List.mem_erase_of_ne e).mpr hm)
    have hsub : ∀ w, w ∈ sh'.threads → w ∈ s.sh.threads := fun w hm => List.mem_of_mem_erase (by rw [← ht]; exact hm)
    have hnodup : sh'.threads.Nodup := by rw [ht]; exact hinv.nodup.erase _
    refine ⟨?_, ?_, ?_, c.bound hsub, hnodup⟩
    · apply reg_step hts hinv.reg
      · exact fun hwk => nomatch hwk
      · intro w x _ _ _ _ hacc
        rcases hacc with r1 | r1 | r1
        · exact (moved w r1).imp id .inl
        · exact .inr (.inl (tgt_keep w r1))
        · exact .inr (.inr r1)
      · intro nt hnt; rw [hp] at hnt; cases hnt
    · exact c.guard (by rw [h1]; exact id) (fun w hm _ => moved w hm) (fun w _ _ _ _ _ r => tgt_keep w r)
        (fun hg => nomatch hg.1) (fun hh => nomatch hh)
    · exact c.live (by rw [h3]; exact id) (fun w hm _ => .inl (hsub w hm))
        (fun hsd hm => c.live_self rfl (by rw [← h3]; exact hsd) (hsub t hm))
  | .joined (w := w0) (r := r) (hth := hth) (hth' := hw) (hq := h) (hpost := hp) .. =>
    obtain rfl : th = .main (.jJoin w0) r := hth.resolve_right (fun e => hc.noDetach t w0 r (by rw [← e]; exact hget))
    subst hw
    obtain ⟨tj, htj, hfin⟩ := hjoin w0 r rfl
    -- there is one join loop (`CInv.oneOwner`), so the only target before the step is `w0`; `join` was enabled, so `w0` has returned:
    -- no worker that still counts for `reg` or `guard` is accounted for as a target
    have target_done : ∀ w x, isTarget s.thr w → s.thr[w]? = some x → isWorker x = true → x = .worker .done := by
      intro w x ⟨j, z, hz, htg⟩ hx hwk
      have hj := target_owner hc hz htg hget rfl
      rw [hj, hget] at hz; cases hz
      cases htg
      rw [htj] at hx; cases hx
      exact finished_worker _ hfin hwk
    have hsub : ∀ w, w ∈ sh'.threads → w ∈ s.sh.threads := fun w hm => by rw [← h.threads]; exact hm
    refine ⟨?_, ?_, ?_, c.bound hsub, by rw [h.threads]; exact hinv.nodup⟩
    · apply reg_step hts hinv.reg
      · exact fun hwk => nomatch hwk
      · intro w x _ hx hwk hxnd hacc
        rcases hacc with r1 | r1 | r1
        · exact .inl (by rw [h.threads]; exact r1)
        · exact absurd (target_done w x r1 hx hwk) hxnd
        · exact .inr (.inr r1)
      · intro nt hnt; rw [hp] at hnt; cases hnt
    · exact c.guard (by rw [h.tasks]; exact id) (fun w hm _ => .inl (by rw [h.threads]; exact hm))
        (fun w x _ hx hwk htl r => by rw [target_done w x r hx hwk] at htl; cases htl)
        (fun hg => nomatch hg.1) (fun hh => nomatch hh)
    · exact c.live (by rw [h.shutdown]; exact id) (fun w hm _ => .inl (hsub w hm))
        (fun hsd hm => c.live_self rfl (by rw [← h.shutdown]; exact hsd) (hsub t hm))

theorem winv_init (cfg : Cfg) : WInv (init cfg) := by
  refine ⟨?_, ?_, ?_, ?_, ?_⟩
  · intro w th h hw
    obtain ⟨rfl, rfl⟩ := init_get h
    cases hw
  · intro h; simp [init] at h
  · intro _ w hm; simp [init] at hm
  · intro w hm; simp [init] at hm
  · simp [init]

/-- P6: the pool never registers more workers than `_maxSize` (the clamped value `Cfg.effMax`).  The constructor spawns `initialSize` workers
unconditionally; afterwards a worker is created only by a caller that saw `_threads.size() < _maxSize` in the same critical section. -/
structure SizeInv (cfg : Cfg) (s : St) : Prop where
  /-- the entries of `_threads` and the constructor spawns still to come fit (`ctorRem` is 0 but for the constructing thread) -/
  size : ∀ (t : Nat) (th : Thread), s.thr[t]? = some th → ctorOk th ∧ s.sh.threads.length + ctorRem th ≤ cfg.effMax
  total : s.sh.threads.length ≤ cfg.effMax
  /-- a caller about to create a worker still has the room it saw: it holds the mutex, so nobody else has registered one since -/
  room : ∀ (t : Nat) (th : Thread), s.thr[t]? = some th → atCreate th = true → s.sh.threads.length < cfg.effMax
  /-- while the constructor runs the queue is empty and no thread has a task in hand: nobody but the constructing thread has the
  pool yet, and the workers it has created find nothing to do -/
  quietCtor : ∀ (t0 : Nat) (th0 : Thread), s.thr[t0]? = some th0 → inCtor th0 = true →
      s.sh.tasks = [] ∧ ∀ (t : Nat) (th : Thread), s.thr[t]? = some th → cur th = none

theorem sizeInv_init (cfg : Cfg) : SizeInv cfg (init cfg) := by
  refine ⟨fun t th hget => ?_, Nat.zero_le _, fun t th hget hc => ?_, fun _ _ _ _ => ⟨rfl, fun t th hget => ?_⟩⟩ <;> obtain ⟨rfl, rfl⟩ := init_get hget
  · exact ⟨trivial, by simpa [ctorRem, init] using (effMax_bounds cfg).2.1⟩
  · cases hc
  · rfl

/-- what a step does to the length of `_threads`, and when the acting thread is about to create a worker afterwards: only if it has
just pushed with room left -/
theorem stepEff_threads {cfg : Cfg} {sh sh' : Shared} {n t alt : Nat} {th th' : Thread} {post : Post}
    (h : StepEff cfg sh n t th alt sh' th' post) (hnr : restartTh th = false) :
    (sh'.threads.length ≤ sh.threads.length ∨
      (sh'.threads.length = sh.threads.length + 1 ∧ (atCreate th = true ∨ ∃ r, th = .main .cC r))) ∧
    (atCreate th' = true → sh'.threads = sh.threads ∧ sh.threads.length < cfg.effMax) := by
  have no : ∀ {P : Prop}, atCreate th' = false → atCreate th' = true → P := fun h2 h => by rw [h2] at h; cases h
  have same : ∀ {x : List Tid}, x = sh.threads → x.length ≤ sh.threads.length := fun e => Nat.le_of_eq (congrArg _ e)
  have erase : ∀ {x : List Tid} {y : Tid}, x = sh.threads.erase y → x.length ≤ sh.threads.length :=
    fun e => e ▸ List.length_erase_le
  match h with
  | .quiet (hq := hq) (hat' := hat') .. => exact ⟨.inl (same hq.threads), no hat'⟩
  | .push (hthreads := ht) (hat' := hat') .. =>
    exact ⟨.inl (same ht), fun h => hat'.elim (fun ⟨_, hl⟩ => ⟨ht, hl⟩) (fun ⟨e, _⟩ => no e h)⟩
  | .create (hat := hat) (hat' := hat') (hthreads := ht) .. => exact ⟨.inr ⟨by rw [ht]; simp, hat⟩, no hat'⟩
  | .exit (hq := hq) (hth' := e) .. => rcases e with ⟨e, _⟩ | ⟨e, _⟩ <;> exact ⟨.inl (same hq.threads), no (e ▸ rfl)⟩
  | .pop (hthreads := ht) (hth' := e) .. => exact ⟨.inl (same ht), no (e ▸ rfl)⟩
  | .selfErase (hthreads := ht) (hth' := e) .. | .pick (hthreads := ht) (hth' := e) .. => exact ⟨.inl (erase ht), no (e ▸ rfl)⟩
  | .quiesce (hthreads := ht) (hth' := e) .. | .setShut (hthreads := ht) (hth' := e) .. => exact ⟨.inl (same ht), no (e ▸ rfl)⟩
  | .joined (hq := hq) (hth' := e) .. => exact ⟨.inl (same hq.threads), no (e ▸ rfl)⟩
  | .restart hth => rw [hth] at hnr; cases hnr

/-- The P6 invariants are kept by a step.  Of `CInv` it reads that a thread inside the constructor is alone with its workers (`alone`); of the
step, besides `StepEff` and `ThreadsStep`, the constructor's bookkeeping (`Step.ctor`, `Step.cls`). -/
theorem PoolStep.size {cfg s t th alt sh' th' post l} (ps : PoolStep cfg s t th alt sh' th' post l) (hmx : MutexOk s) (hc : CInv s)
    (hI : SizeInv cfg s) : SizeInv cfg { sh := sh', thr := l } := by
  obtain ⟨hst, hget, _, _, _, hts, _⟩ := ps
  have heff := hst.eff
  have hfresh := hst.spawn_fresh
  have hnr := hc.nors t th hget
  -- while a thread is inside the constructor, every other thread is a worker with nothing in hand
  have alone : ∀ (j : Nat) (x : Thread), s.thr[j]? = some x → inCtor x = true →
      ∀ (j' : Nat) (y : Thread), j' ≠ j → s.thr[j']? = some y → isWorker y = true ∧ cur y = none := by
    intro j x hx hic j' y ne hy
    obtain ⟨pc, r, rfl, hcp⟩ := inCtor_main hic
    exact ⟨hc.ctorAlone j pc r hx hcp j' y ne hy, (hI.quietCtor j _ hx hic).2 j' y hy⟩
  -- so when somebody is about to create a worker, no constructor is running
  have create_not_ctor : atCreate th = true → ∀ (j : Nat) (x : Thread), s.thr[j]? = some x → ctorRem x = 0 := by
    intro hcr j x hx
    apply inCtor_false_rem
    cases hic : inCtor x with
    | false => rfl
    | true =>
      exfalso
      by_cases e : t = j
      · rw [e, hx] at hget; cases hget
        rw [inCtor_atCreate _ hic] at hcr; cases hcr
      · have := alone j x hx hic t th e hget
        rw [atCreate_of_cur_none th this.1 this.2] at hcr; cases hcr
  have hlen := (stepEff_threads heff hnr).1
  have hself := hst.ctor.1 (hI.size t th hget).1
  have hs := (hI.size t th hget).2
  have selfB : sh'.threads.length + ctorRem th' ≤ cfg.effMax := by
    rcases hlen with hl | ⟨hl, hcr | ⟨r, hcr⟩⟩
    · omega
    · have := hI.room t th hget hcr
      have := create_not_ctor hcr t th hget
      omega
    · have : isCCth th = 1 := by rw [hcr]; rfl
      omega
  refine ⟨?_, Nat.le_trans (Nat.le_add_right _ _) selfB, ?_, ?_⟩
  · refine allT_of_step (PT := fun sh _ y => ctorOk y ∧ sh.threads.length + ctorRem y ≤ cfg.effMax) hts ⟨hself.1, selfB⟩ (fun j x ne hx => ?_)
      (fun nt hnt => by
        rcases fresh_cases (hfresh nt hnt) with rfl | ⟨sc, rfl⟩ | ⟨r, rfl⟩ <;> exact ⟨trivial, Nat.le_trans (Nat.le_add_right _ _) selfB⟩)
    have key : ctorOk x ∧ sh'.threads.length + ctorRem x ≤ cfg.effMax := by
      refine ⟨(hI.size j x hx).1, ?_⟩
      have hsx := (hI.size j x hx).2
      rcases hlen with hl | ⟨hl, hcr | ⟨r, hcr⟩⟩
      · omega
      · have := hI.room t th hget hcr
        have := create_not_ctor hcr j x hx
        omega
      · -- the constructor creates a worker: `x` is one of its workers
        have hx0 : ctorRem x = 0 := inCtor_false_rem x (by
          have := (alone t th hget (by rw [hcr]; rfl) j x ne hx).1
          cases x <;> first | rfl | cases this)
        have : isCCth th = 1 := by rw [hcr]; rfl
        omega
    exact ⟨key, fun _ => by rw [wake_obs ctorOk (fun _ => rfl), wake_obs ctorRem (fun _ => rfl)]; exact key⟩
  · refine allT_of_step (PT := fun sh _ y => atCreate y = true → sh.threads.length < cfg.effMax) hts (fun hcy => ?_) (fun j x ne hx => ?_)
      (fun nt hnt hcy => by rw [(class_fresh nt (hfresh nt hnt)).2] at hcy; cases hcy)
    · have := (stepEff_threads heff hnr).2 hcy
      show sh'.threads.length < cfg.effMax
      rw [this.1]; exact this.2
    · have key : atCreate x = true → sh'.threads.length < cfg.effMax := fun hx' => by
        have hr := hI.room j x hx hx'
        rcases hlen with hl | ⟨_, hcr⟩
        · omega
        · -- the creator holds the mutex, and so does `x`
          exfalso
          have hhx := hmx j x hx (atCreate_holds x hx')
          have hht : holdsM th = true := by
            rcases hcr with hcr | ⟨r, hcr⟩
            · exact atCreate_holds th hcr
            · rw [hcr]; rfl
          rw [hmx t th hget hht] at hhx
          exact ne (Option.some.inj hhx).symm
      exact ⟨key, fun _ => by rw [atCreate_wake]; exact key⟩
  · -- quiet during construction: the acting thread is the constructing controller or a worker with nothing in hand
    intro j0 x0' h0' hic
    -- a thread inside the constructor after the step was inside before
    obtain ⟨j, x, hx, hicx⟩ : ∃ (j : Nat) (x : Thread), s.thr[j]? = some x ∧ inCtor x = true := by
      rcases hts.new j0 x0' h0' with ⟨_, e2⟩ | ⟨_, x, hx, hwf⟩ | ⟨nt, hnt, _, e2⟩
      · exact ⟨t, th, hget, hst.inCtor_of (e2 ▸ hic)⟩
      · exact ⟨j0, x, hx, by rw [← hwf.obs inCtor]; exact hic⟩
      · rw [e2] at hic
        rcases fresh_cases (hfresh nt hnt) with rfl | ⟨sc, rfl⟩ | ⟨r, rfl⟩ <;> cases hic
    obtain ⟨qt, qc⟩ := hI.quietCtor j x hx hicx
    have qth := qc t th hget
    have key : sh'.tasks = [] ∧ cur th' = none := by
      match heff with
      | .quiet (hq := hq) (hcur := hcur) .. => exact ⟨hq.tasks.trans qt, hcur qth⟩
      | .push (hcall := hcall) .. =>
        by_cases e : t = j
        · rw [e, hx] at hget; cases hget
          rw [hcall.1] at hicx; cases hicx
        · exact absurd qth (hcall.2 (alone j x hx hicx t th e hget).1)
      | .create (hat := hat) (htasks := h1) .. =>
        refine ⟨h1.trans qt, ?_⟩
        cases hk : isWorker th with
        | false => exact cur_of_not_worker _ (hst.kind.2.trans hk)
        | true =>
          rcases hat with hat | ⟨r, e⟩
          · rw [atCreate_of_cur_none th hk qth] at hat; cases hat
          · rw [e] at hk; cases hk
      | .exit (hq := hq) (hth' := e) .. => exact ⟨hq.tasks.trans qt, by rcases e with ⟨e, _⟩ | ⟨e, _⟩ <;> rw [e] <;> rfl⟩
      | .pop (htasks := ht) .. => rw [qt] at ht; cases ht
      | .selfErase (htasks := h1) (hth' := e) .. | .pick (htasks := h1) (hth' := e) .. | .quiesce (htasks := h1) (hth' := e) ..
      | .setShut (htasks := h1) (hth' := e) .. => exact ⟨h1.trans qt, by rw [e]; rfl⟩
      | .joined (hq := hq) (hth' := e) .. => exact ⟨hq.tasks.trans qt, by rw [e]; rfl⟩
      | .restart hth => rw [hnr] at hth; cases hth
    exact ⟨key.1, allT_of_step (PT := fun _ _ y => cur y = none) (sh' := sh') hts key.2
      (fun j x _ hx => ⟨qc j x hx, fun _ => by rw [cur_wake]; exact qc j x hx⟩) (fun nt hnt => (cur_fresh nt (hfresh nt hnt)).1)⟩

/-- a worker THREAD (not map entry) that can still take a task: it has neither removed itself from `_threads` nor returned.  A worker
that has removed itself after an idle time-out still holds `_mutex` and can only unlock and return; it is not counted. -/
def liveWorker (th : Thread) : Bool := isWorker th && !goneW th

/-- Pigeonhole over a pool: if every thread in condition `p` has its index in `T`, there are at most `T.length` of them.  By induction on `T`:
replacing thread `w` by one that is not in the condition (`d`) takes at most one out of the count. -/
theorem countP_le_of_index {α : Type} (p : α → Bool) (d : α) (hd : p d = false) : ∀ (T : List Nat) (l : List α),
    (∀ i a, l[i]? = some a → p a = true → i ∈ T) → l.countP p ≤ T.length
  | [], l, h => by
    rw [List.countP_eq_zero.mpr fun a ha hp => ?_]
    · exact Nat.le_refl 0
    · obtain ⟨i, hi, e⟩ := List.getElem_of_mem ha
      exact nomatch h i a (by rw [List.getElem?_eq_getElem hi, e]) hp
  | w :: T, l, h => by
    cases hw : l[w]? with
    | none =>
      exact Nat.le_succ_of_le (countP_le_of_index p d hd T l fun i a hi hp =>
        (List.mem_cons.mp (h i a hi hp)).resolve_left fun e => by rw [e, hw] at hi; cases hi)
    | some a =>
      have hc := Pool.countP_set p d hw
      have ih := countP_le_of_index p d hd T (l.set w d) fun i b hi hp => by
        rcases Pool.get_set hi with ⟨_, e⟩ | ⟨ne, hi'⟩
        · rw [e, hd] at hp; cases hp
        · exact (List.mem_cons.mp (h i b hi' hp)).resolve_left ne
      rw [hd] at hc
      simp only [List.length_cons]
      split at hc <;> omega

/-- Until shutdown every live worker thread is an entry of `_threads` (`WInv.reg`: no join target exists yet), so there are no more of them
than entries. -/
theorem live_le_threads (s : St) (hw : WInv s) (hc : CInv s) (hs : s.sh.shutdown = false) :
    s.thr.countP liveWorker ≤ s.sh.threads.length := by
  refine countP_le_of_index liveWorker (.worker .done) rfl _ _ fun i th hget hl => ?_
  simp only [liveWorker, Bool.and_eq_true, Bool.not_eq_true'] at hl
  rcases hw.reg i th hget hl.1 (fun e => by rw [e] at hl; cases hl.2) with h | ⟨t, th', hget', htgt⟩ | h
  · exact h
  · obtain ⟨pc, r, rfl, hown⟩ := own_of_target th' (by rw [htgt]; exact fun e => nomatch e)
    have := (hc.cok t pc r hget').own hown
    rw [hs] at this; cases this
  · rw [h] at hl; cases hl.2

/-- the state of a pool whose join loop has completed -/
structure Quiet (s : St) : Prop where
  tasks : s.sh.tasks = []
  thr : ∀ (t : Nat) (th : Thread), s.thr[t]? = some th →
      atCreate th = false ∧ (isWorker th = true → goneW th = true)

/-- "quiesced" is the model's flag for: a join loop has found `_threads` empty (`StepEff.quiesce`) -/
def QOk (s : St) : Prop := s.sh.quiesced = true → Quiet s

theorem stepEff_quiesced {cfg : Cfg} {sh sh' : Shared} {n t alt : Nat} {th th' : Thread} {post : Post}
    (h : StepEff cfg sh n t th alt sh' th' post) (hnr : restartTh th = false) :
    sh'.quiesced = sh.quiesced ∨
    (∃ r, th = .main .jL r ∧ th' = .main .jUnone r ∧ sh.threads = [] ∧ sh'.tasks = sh.tasks ∧ post = .none ∧ sh'.quiesced = true) := by
  match h with
  | .quiet (hq := hq) .. | .exit (hq := hq) .. | .joined (hq := hq) .. => exact .inl hq.quiesced
  | .push (hquiesced := e) .. | .create (hquiesced := e) .. | .pop (hquiesced := e) .. | .selfErase (hquiesced := e) ..
  | .pick (hquiesced := e) .. | .setShut (hquiesced := e) .. => exact .inl e
  | .quiesce r hth hth' hempty htasks _ _ hquiesced hpost => exact .inr ⟨r, hth, hth', hempty, htasks, hpost, hquiesced⟩
  | .restart hth => rw [hth] at hnr; cases hnr

/-- `QOk` is kept by a step.  Of `CInv` it reads `GOk.qs`, `COk.ctor` (`hcq`) and, from `oneOwner`, that at `jL` nobody has a join target
(`hnotgt`). -/
theorem PoolStep.qok {cfg s t th alt sh' th' post l} (ps : PoolStep cfg s t th alt sh' th' post l) (hmx : MutexOk s) (hc : CInv s)
    (hinv : WInv s) (hq : QOk s) : QOk { sh := sh', thr := l } := by
  obtain ⟨hst, hget, _, hfree, _, hts, _⟩ := ps
  have heff := hst.eff
  have hfresh := hst.spawn_fresh
  have hnr := hc.nors t th hget
  have hqs : s.sh.quiesced = true → s.sh.shutdown = true := hc.gok.qs
  have hcq : ∀ r, th = .main .cC r → s.sh.quiesced = false := fun r e => ((hc.cok t .cC r (e ▸ hget)).ctor rfl).2
  have hnotgt : ∀ r, th = .main .jL r → ∀ (j : Nat) (x : Thread) (w : Tid), s.thr[j]? = some x → targetOf x ≠ some w := by
    intro r e j x w hx htg
    -- the thread with the target owns the shutdown, and so does the acting thread at `jL`: they are the same thread
    subst e
    obtain rfl := target_owner hc hx htg hget rfl
    rw [hget] at hx; cases hx; cases htg
  -- `Quiet.thr` after the step: from the acting thread, the others as they were, and no worker created
  have lift : (atCreate th' = false ∧ (isWorker th' = true → goneW th' = true)) →
      (∀ j x, j ≠ t → s.thr[j]? = some x → atCreate x = false ∧ (isWorker x = true → goneW x = true)) →
      (∀ nt, post = .spawn nt → isWorker nt = false) →
      ∀ j y, l[j]? = some y → atCreate y = false ∧ (isWorker y = true → goneW y = true) := fun hself hoth hnw =>
    allT_of_step (PT := fun _ _ y => atCreate y = false ∧ (isWorker y = true → goneW y = true)) (sh' := sh') hts hself
      (fun j x ne hx => ⟨hoth j x ne hx, fun _ => by rw [atCreate_wake, isWorker_wake, goneW_wake]; exact hoth j x ne hx⟩)
      (fun nt hnt => ⟨(class_fresh nt (hfresh nt hnt)).2, fun hw => by rw [hnw nt hnt] at hw; cases hw⟩)
  -- the pool was quiet before, tasks unchanged, the acting thread stays in its class
  have keep : s.sh.quiesced = true → sh'.tasks = s.sh.tasks → (∀ nt, post = .spawn nt → isWorker nt = false) →
      (atCreate th' = false ∧ (isWorker th' = true → goneW th' = true)) → Quiet { sh := sh', thr := l } := fun hq0 ht hnw hself =>
    ⟨ht.trans (hq hq0).tasks, lift hself (fun j x _ hx => (hq hq0).thr j x hx) hnw⟩
  intro hq'
  by_cases hq0 : s.sh.quiesced = true
  · -- quiet before the step: a quiet pool admits only steps that change nothing of it
    have Qth := (hq hq0).thr t th hget
    have tail : isWorker th = true → tailW th = true := fun h => goneW_tailW th (Qth.2 h)
    match heff with
    | .quiet (hq := h) (hpost := hp) (hat' := hat') (hgone := hgone) .. =>
      exact keep hq0 h.tasks hp ⟨hat', by rw [hst.kind.2, hgone]; exact Qth.2⟩
    | .push (hs := hs) .. | .setShut (hs := hs) .. => rw [hqs hq0] at hs; cases hs
    | .create (hat := hat) .. =>
      rcases hat with e | ⟨r, e⟩
      · rw [Qth.1] at e; cases e
      · have := hcq r e; rw [hq0] at this; cases this
    | .exit (hth := hth) .. | .pop (hth := hth) .. => have := tail hth.1; rw [hth.2.1] at this; cases this
    | .selfErase (hth := hth) .. => have := Qth.2 (by rw [hth]; rfl); rw [hth] at this; cases this
    | .pick (htasks := h1) (hth' := e) (hpost := hp) .. | .quiesce (htasks := h1) (hth' := e) (hpost := hp) .. =>
      exact keep hq0 h1 (fun nt e => by rw [hp] at e; cases e) (by rw [e]; exact ⟨rfl, fun e => nomatch e⟩)
    | .joined (hq := h) (hth' := e) (hpost := hp) .. =>
      exact keep hq0 h.tasks (fun nt e => by rw [hp] at e; cases e) (by rw [e]; exact ⟨rfl, fun e => nomatch e⟩)
    | .restart hth => rw [hnr] at hth; cases hth
  · -- not quiet before: the step is the one that sets the flag
    rcases stepEff_quiesced heff hnr with e | ⟨r, hth, hw, he, h1, hp, _⟩
    · exact absurd (e ▸ hq') hq0
    · -- the join loop has just found `_threads` empty while holding the mutex
      have hown : s.sh.owner = none := hfree (by rw [hth]; rfl)
      have no_target : ∀ w, ¬ isTarget s.thr w := by
        intro w ⟨j, x, hx, htg⟩
        exact hnotgt r hth j x w hx htg
      have no_create : ∀ (j : Nat) (x : Thread), s.thr[j]? = some x → atCreate x = false := by
        intro j x hx
        cases hat : atCreate x with
        | false => rfl
        | true =>
          have := hmx j x hx (atCreate_holds x hat)
          rw [hown] at this; cases this
      have tasks_empty : s.sh.tasks = [] := by
        cases hts' : s.sh.tasks with
        | nil => rfl
        | cons a rest =>
          exfalso
          rcases hinv.guard (by rw [hts']; simp) with ⟨w, x, _, hg⟩ | ⟨j, x, hx, g1⟩
          · rcases hg.2.2 with r1 | r1
            · rw [he] at r1; cases r1
            · exact no_target w r1
          · rw [no_create j x hx] at g1; cases g1
      refine ⟨h1.trans tasks_empty, lift (by rw [hw]; exact ⟨rfl, fun e => nomatch e⟩) (fun j x _ hx => ⟨no_create j x hx, fun hwk => ?_⟩)
        (fun nt e => by rw [hp] at e; cases e)⟩
      -- a worker is accounted for: not by `_threads` (empty), not as a target (none): it has left
      by_cases hd : x = .worker .done
      · rw [hd]; rfl
      · rcases hinv.reg j x hx hwk hd with r1 | r1 | r1
        · rw [he] at r1; cases r1
        · exact absurd r1 (no_target j)
        · rw [r1]; rfl

/-- The invariants of a pool that is joined (mode ≠ DETACHED) and not restarted, proved along a run together because the later lean on the
earlier: `WInv` and `SizeInv` on `MutexOk` and `CInv`, `QOk` on these and `WInv`.  `Conserved` and `IdInv` hold on their own
(`conserved_run`, `idInv_run`). -/
structure AllInv (cfg : Cfg) (s : St) : Prop where
  mutex : MutexOk s
  c : CInv s
  w : WInv s
  q : QOk s
  size : SizeInv cfg s

theorem allInv_init (cfg : Cfg) : AllInv cfg (init cfg) :=
  ⟨mutexOk_init cfg, cinv_init cfg, winv_init cfg, fun h => by simp [init] at h, sizeInv_init cfg⟩

theorem allInv_step (cfg : Cfg) (hdet : cfg.detached = false) (hr : cfg.allowRestart = false) (s : St) (c : Choice)
    (h : AllInv cfg s) : AllInv cfg (step cfg s c) :=
  step_elim cfg s c (AllInv cfg) h fun _ _ _ _ _ _ _ ps =>
    ⟨ps.mutexOk h.mutex, ps.cinv hdet hr h.c, ps.winv h.mutex h.c h.w, ps.qok h.mutex h.c h.w h.q, ps.size h.mutex h.c h.size⟩

theorem allInv_run (cfg : Cfg) (hdet : cfg.detached = false) (hr : cfg.allowRestart = false) (sched : List Choice) :
    AllInv cfg (run cfg sched) :=
  inv_run cfg (AllInv cfg) (allInv_init cfg) (fun s c h => allInv_step cfg hdet hr s c h) sched

theorem cinv_run (cfg : Cfg) (hdet : cfg.detached = false) (hr : cfg.allowRestart = false) (sched : List Choice) :
    CInv (run cfg sched) :=
  (allInv_run cfg hdet hr sched).c

/-- P3 (one step): from a state in which a join loop has completed, no step starts a task body -/
theorem quiet_step (cfg : Cfg) (s : St) (c : Choice) (hq : s.sh.quiesced = true) (hQ : QOk s) (hN : NoRs s) :
    (step cfg s c).sh.quiesced = true ∧ (step cfg s c).sh.startCnt = s.sh.startCnt := by
  apply step_elim cfg s c (fun s' => s'.sh.quiesced = true ∧ s'.sh.startCnt = s.sh.startCnt) ⟨hq, rfl⟩
  intro t th alt sh' th' post l ps
  refine ⟨(stepEff_quiesced ps.eff (hN t th ps.get)).elim (fun e => e.trans hq) (fun ⟨_, _, _, _, _, _, h⟩ => h), ps.start.resolve_right fun hc => hc ?_⟩
  -- every worker has left: the acting thread has no task in hand
  exact (cur_of_gone th ((hQ hq).thr t th ps.get).2).1

theorem quiet_runFrom (cfg : Cfg) (hdet : cfg.detached = false) (hr : cfg.allowRestart = false) (more : List Choice) (s : St)
    (hA : AllInv cfg s) (hq : s.sh.quiesced = true) : (runFrom cfg s more).sh.startCnt = s.sh.startCnt :=
  (inv_runFrom cfg (fun s' => AllInv cfg s' ∧ s'.sh.quiesced = true ∧ s'.sh.startCnt = s.sh.startCnt)
    (fun s' c ⟨hA, hq, he⟩ =>
      have hs := quiet_step cfg s' c hq hA.q hA.c.nors
      ⟨allInv_step cfg hdet hr s' c hA, hs.1, hs.2.trans he⟩)
    more s ⟨hA, hq, rfl⟩).2.2

/-- P2: in a quiet pool nothing is queued or in hand, so what conservation counts as accepted has been started and has finished; and an id is
accepted once or not at all (`IdInv.acc`) -/
theorem quiet_counts (s : St) (Q : Quiet s) (h : Conserved s) (hi : IdInv s) (id : Nat) :
    (s.sh.result id = .accepted → s.sh.startCnt id = 1 ∧ s.sh.doneCnt id = 1) ∧
    (s.sh.result id ≠ .accepted → s.sh.startCnt id = 0 ∧ s.sh.doneCnt id = 0) := by
  have hc : ∀ th, th ∈ s.thr → cur th = none ∧ running th = none := by
    intro th hm
    obtain ⟨t, hlt, hget⟩ := List.getElem_of_mem hm
    exact cur_of_gone th (Q.thr t th (by rw [List.getElem?_eq_getElem hlt, hget])).2
  have h1 := h.1 id
  have h2 := h.2 id
  have z1 : handCnt s.thr id = 0 := List.countP_eq_zero.mpr fun th hm => by simp [(hc th hm).1]
  have z2 : runCnt s.thr id = 0 := List.countP_eq_zero.mpr fun th hm => by simp [(hc th hm).2]
  rw [Q.tasks, z1, List.count_nil] at h1
  rw [z2] at h2
  constructor <;> intro ha
  · have := (hi.acc id).1 ha
    omega
  · have := (hi.acc id).2 ha
    omega

/-- P2 of a quiet state; `quiesced` is reached from a return code in `mlog` (`GOk.log`) as well as from `0 < complete` (`GOk.cq`) -/
theorem Quiet.finished {s : St} (Q : Quiet s) (h : Conserved s) (hi : IdInv s) :
    s.sh.tasks = [] ∧
    (∀ (t : Nat) (th : Thread), s.thr[t]? = some th → cur th = none ∧ (isWorker th = true → goneW th = true)) ∧
    (∀ id, s.sh.result id = .accepted → s.sh.startCnt id = 1 ∧ s.sh.doneCnt id = 1) ∧
    (∀ id, s.sh.result id ≠ .accepted → s.sh.startCnt id = 0 ∧ s.sh.doneCnt id = 0) :=
  ⟨Q.tasks, fun t th hget => ⟨(cur_of_gone th (Q.thr t th hget).2).1, (Q.thr t th hget).2⟩,
    fun id => (quiet_counts s Q h hi id).1, fun id => (quiet_counts s Q h hi id).2⟩

end Iora.ThreadPool
