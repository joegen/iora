import IoraModel.Lemmas.BlockingQueueBroadcast
/-!
The ghost logs of the blocking-queue model are what the calls return: for every thread, the values it pushed (in the
global push order) are exactly the arguments of its put calls that returned / are about to return `true`, in program
order; the values it popped are exactly the items its take calls returned, in program order.  Together with
`puts = takes ++ queue` (Q1) this is "per-producer order is kept" stated on return values.
-/
namespace Iora.BQ
open Iora.Monitor

/-- the result the call in progress is going to return, once it is determined -/
def retOf : Pc → Option Ret
  | .unlockRet r => some r
  | .unlockNotify _ r => some r
  | .notify _ r => some r
  | _ => none

def pendP (l : Loc) : List Val :=
  match retOf l.pc, l.todo with
  | some r, c :: _ => putContrib c r
  | _, _ => []

def pendT (l : Loc) : List Val :=
  match retOf l.pc with
  | some r => takeContrib r
  | none => []

/-- successful puts of the completed calls, in program order -/
def logP (done : List Call) (rets : List Ret) : List Val := ((done.zip rets).map (fun x => putContrib x.1 x.2)).flatten
/-- items returned by the completed calls, in program order -/
def logT (rets : List Ret) : List Val := (rets.map takeContrib).flatten

def mine (t : Tid) (log : List (Tid × Val)) : List Val := (log.filter (fun x => x.1 == t)).map (·.2)

/-- per thread: its local state carries its own id; inside a call the program is not exhausted; the completed calls are a
prefix of its program with one result each, and what it has logged is what those results report plus what the result of the
call in progress (once determined) is going to report (`Q1_results_are_the_logs` reads `done`) -/
structure TLog (ps : List (List Call)) (d : Data) (t : Tid) (l : Loc) : Prop where
  me : l.me = t
  act : l.pc ≠ .start → l.pc ≠ .finished → l.todo ≠ []
  done : ∃ done, progOf ps t = done ++ l.todo ∧ done.length = l.rets.length ∧
          mine t d.puts = logP done l.rets ++ pendP l ∧ mine t d.takes = logT l.rets ++ pendT l

theorem mine_snoc (t : Tid) (log : List (Tid × Val)) (v : Val) : mine t (log ++ [(t, v)]) = mine t log ++ [v] := by
  simp [mine, List.filter_append]

theorem mine_snoc_other (t u : Tid) (log : List (Tid × Val)) (v : Val) (hu : u ≠ t) : mine u (log ++ [(t, v)]) = mine u log := by
  simp [mine, List.filter_append, Ne.symm hu]

/-- a step of thread `t` logs under `t`'s name only: what the other threads have logged is untouched -/
theorem tlog_other {ps : List (List Call)} {d d' : Data} {t u : Tid} {l : Loc} (hu : u ≠ t) (g : DataStep t d d')
    (h : TLog ps d u l) : TLog ps d' u l := by
  obtain ⟨hm, ha, dn, p1, p2, p3, p4⟩ := h
  cases g with
  | put v => exact ⟨hm, ha, dn, p1, p2, by rw [← p3]; exact mine_snoc_other t u _ v hu, p4⟩
  | take x xs => exact ⟨hm, ha, dn, p1, p2, p3, by rw [← p4]; exact mine_snoc_other t u _ x hu⟩
  | _ => exact ⟨hm, ha, dn, p1, p2, p3, p4⟩

theorem logP_snoc (done : List Call) (rets : List Ret) (c : Call) (r : Ret) (h : done.length = rets.length) :
    logP (done ++ [c]) (rets ++ [r]) = logP done rets ++ putContrib c r := by
  simp [logP, List.zip_append h]

theorem logT_snoc (rets : List Ret) (r : Ret) : logT (rets ++ [r]) = logT rets ++ takeContrib r := by
  simp [logT]

theorem tlog_begin (ps : List (List Call)) (d : Data) (t : Tid) (l0 : Loc) (todo done : List Call) (hm : l0.me = t)
    (p1 : progOf ps t = done ++ todo) (p2 : done.length = l0.rets.length)
    (p3 : mine t d.puts = logP done l0.rets) (p4 : mine t d.takes = logT l0.rets) :
    TLog ps d t (begin true l0 d todo).1 := by
  rw [begin_loc]
  cases todo with
  | nil => exact ⟨hm, fun _ h2 => absurd rfl h2, done, p1, p2, by rw [p3]; exact (List.append_nil _).symm,
      by rw [p4]; exact (List.append_nil _).symm⟩
  | cons c rest => exact ⟨hm, fun _ _ => nofun, done, p1, p2, by rw [p3]; exact (List.append_nil _).symm,
      by rw [p4]; exact (List.append_nil _).symm⟩

theorem pend_none (l : Loc) (h : retOf l.pc = none) : pendP l = [] ∧ pendT l = [] := by
  simp [pendP, pendT, h]

/-- the call in progress returns `r`, the result that was pending (its contribution is logged already), or `()` from
`close()`, which reports nothing -/
theorem tlog_ret (ps : List (List Call)) (d : Data) (t : Tid) (l : Loc) (r : Ret) (h : TLog ps d t l)
    (hr : retOf l.pc = some r ∨ (retOf l.pc = none ∧ r = .unit)) (hpc : l.pc ≠ .start ∧ l.pc ≠ .finished) :
    TLog ps d t (ret true l d r).1 := by
  obtain ⟨hm, ha, dn, p1, p2, p3, p4⟩ := h
  cases htodo : l.todo with
  | nil => exact absurd htodo (ha hpc.1 hpc.2)
  | cons c rest =>
    have hp : pendP l = putContrib c r ∧ pendT l = takeContrib r := by
      rcases hr with hr | ⟨hr, rfl⟩
      · simp [pendP, pendT, hr, htodo]
      · rw [(pend_none l hr).1, (pend_none l hr).2, putContrib_nonbool c .unit nofun]; exact ⟨rfl, rfl⟩
    rw [htodo] at p1
    unfold ret
    rw [htodo]
    exact tlog_begin ps d t _ rest (dn ++ [c]) hm (by rw [p1]; simp) (by simp [p2])
      (by rw [p3, hp.1]; exact (logP_snoc _ _ _ _ p2).symm) (by rw [p4, hp.2]; exact (logT_snoc _ _).symm)

theorem tlog_logs_pending (ps : List (List Call)) (d d' : Data) (t : Tid) (l : Loc) (pc' : Pc) (h : TLog ps d t l)
    (hnone : retOf l.pc = none) (hact : pc' ≠ .start → pc' ≠ .finished → l.todo ≠ [])
    (hP : mine t d'.puts = mine t d.puts ++ pendP { l with pc := pc' })
    (hT : mine t d'.takes = mine t d.takes ++ pendT { l with pc := pc' }) : TLog ps d' t { l with pc := pc' } := by
  obtain ⟨hm, ha, dn, p1, p2, p3, p4⟩ := h
  obtain ⟨e1, e2⟩ := pend_none l hnone
  rw [e1] at p3; rw [e2] at p4
  simp only [List.append_nil] at p3 p4
  exact ⟨hm, hact, dn, p1, p2, by rw [hP, p3], by rw [hT, p4]⟩

theorem tlog_keep (ps : List (List Call)) (d : Data) (t : Tid) (l : Loc) (pc' : Pc) (h : TLog ps d t l)
    (hret : retOf pc' = retOf l.pc) (h1 : l.pc ≠ .start) (h2 : l.pc ≠ .finished) : TLog ps d t { l with pc := pc' } := by
  obtain ⟨hm, ha, dn, p1, p2, p3, p4⟩ := h
  exact ⟨hm, fun _ _ => ha h1 h2, dn, p1, p2, by simpa [pendP, hret] using p3, by simpa [pendT, hret] using p4⟩

theorem tlog_quiet (ps : List (List Call)) (d : Data) (t : Tid) (l : Loc) (pc' : Pc) (h : TLog ps d t l)
    (hnone : retOf l.pc = none) (hne : l.todo ≠ [])
    (hq : pendP { l with pc := pc' } = [] ∧ pendT { l with pc := pc' } = []) : TLog ps d t { l with pc := pc' } :=
  tlog_logs_pending ps d d t l pc' h hnone (fun _ _ => hne) (by rw [hq.1]; simp) (by rw [hq.2]; simp)

/-- what the thread logs in a critical section is what the result it has now determined is going to report -/
theorem Crit.log {l l' : Loc} {d d' : Data} (h : Crit l d l' d') (ps : List (List Call)) (t : Tid) (hl : TLog ps d t l)
    (hnone : retOf l.pc = none) (hne : l.todo ≠ []) : TLog ps d' t l' := by
  cases h with
  | ret r hr hk =>
    refine tlog_quiet ps d t l _ hl hnone hne ⟨?_, hk⟩
    unfold pendP
    cases ht : l.todo with
    | nil => rfl
    | cons c rest => exact hr c rest ht
  | waitNE => exact tlog_quiet ps d t l _ hl hnone hne ⟨rfl, rfl⟩
  | waitNF => exact tlog_quiet ps d t l _ hl hnone hne ⟨rfl, rfl⟩
  | put c rest v ht hv =>
    refine tlog_logs_pending ps d _ t l _ hl hnone (fun _ _ => hne) ?_ (List.append_nil _).symm
    simp only [pendP, retOf, ht, putContrib, hv]
    rw [hl.me]; exact mine_snoc t d.puts v
  | take c rest x xs ht hv hq =>
    refine tlog_logs_pending ps d _ t l _ hl hnone (fun _ _ => hne) ?_ ?_
    · simp only [pendP, retOf, ht]
      rw [putContrib_nonbool c (.item (some x)) nofun, List.append_nil]
    · simp only [pendT, retOf, takeContrib]
      rw [hl.me]; exact mine_snoc t d.takes x
  | close => exact tlog_logs_pending ps d _ t l _ hl hnone (fun _ _ => hne) (List.append_nil _).symm (List.append_nil _).symm

theorem after_log (ps : List (List Call)) (d : Data) (t : Tid) (l : Loc) (late : Bool) (hw : wfL l) (h : TLog ps d t l) :
    TLog ps (after true l d late).2 t (after true l d late).1 := by
  cases hpc : l.pc with
  | enter | sleepNE | sleepNF =>
    -- the steps that get the mutex: the call is in progress and its result not yet determined
    exact (after_crit l d late hw (by simp [hpc])).log ps t h (by rw [hpc]; rfl) (h.act (by rw [hpc]; nofun) (by rw [hpc]; nofun))
  | start =>
    simp only [after, hpc, begin_data]
    obtain ⟨hm, ha, dn, p1, p2, p3, p4⟩ := h
    have hp := pend_none l (by rw [hpc]; rfl)
    rw [hp.1, List.append_nil] at p3; rw [hp.2, List.append_nil] at p4
    exact tlog_begin ps d t l l.todo dn hm p1 p2 p3 p4
  | unlockRet r | notify _ r =>
    simp only [after, hpc, ret_data]
    exact tlog_ret ps d t l r h (Or.inl (by rw [hpc]; rfl)) ⟨by rw [hpc]; nofun, by rw [hpc]; nofun⟩
  | closeNotifyNF =>
    simp only [after, hpc, ret_data]
    exact tlog_ret ps d t l .unit h (Or.inr ⟨by rw [hpc]; rfl, rfl⟩) ⟨by rw [hpc]; nofun, by rw [hpc]; nofun⟩
  | unlockNotify _ _ | closeUnlock | closeNotifyNE =>
    simp only [after, hpc]; exact tlog_keep ps d t l _ h (by rw [hpc]; rfl) (by rw [hpc]; nofun) (by rw [hpc]; nofun)
  | finished => rw [after_finished hpc]; exact h

def LogsInv (ps : List (List Call)) (s : State Data Loc) : Prop := ∀ t, t < s.n → TLog ps s.data t (s.thr t).loc

theorem logs_congr {ps : List (List Call)} {s s0 : State Data Loc} (h : LogsInv ps s) (hn : s0.n = s.n) (hd : s0.data = s.data)
    (hl : ∀ u, (s0.thr u).loc = (s.thr u).loc) : LogsInv ps s0 :=
  fun u hu => by rw [hd, hl u]; exact h u (hn ▸ hu)

theorem logs_runAfter (ps : List (List Call)) (s : State Data Loc) (t : Tid) (late : Bool) (ht : t < s.n)
    (hw : wfL (s.thr t).loc) (h : LogsInv ps s) : LogsInv ps (runAfter (prog true) s t late) := by
  rw [runAfter_eq, show (prog true).after = after true from rfl]
  have key := after_log ps s.data t (s.thr t).loc late hw (h t ht)
  have step : DataStep t s.data (after true (s.thr t).loc s.data late).2 := by
    have := after_data (s.thr t).loc s.data late
    rwa [(h t ht).me] at this
  intro u hu
  by_cases e : u = t
  · subst e; simpa using key
  · simp only [updT_other _ _ _ _ e]
    exact tlog_other e step (h u hu)

theorem logs_tr (ps : List (List Call)) (s s' : State Data Loc) (hB : closeBroadcast.Inv s) (h : LogsInv ps s)
    (tr : Tr (prog true) s s') : LogsInv ps s' := by
  have hw := fun t ht => (hB.wf t ht).1
  cases tr with
  | wake t cv m timed to ht hs => exact logs_congr h rfl rfl (updT_loc _ _ _ rfl)
  | sleep t cv m timed ht hs hop => exact logs_congr h rfl rfl (updT_loc _ _ _ rfl)
  | notifyWake t cv u ht hs hop hu hsl =>
    refine logs_runAfter ps _ t false ht ?_ (logs_congr h rfl rfl (updT_loc _ _ _ (wakeT_loc _ _)))
    rw [updT_loc _ _ _ (wakeT_loc _ _)]; exact hw t ht
  | notifyAll t cv ht hs hop =>
    refine logs_runAfter ps _ t false ht ?_ (logs_congr h rfl rfl (wakeAll_loc cv s.thr))
    rw [wakeAll_loc]; exact hw t ht
  | reacquire t m timed to late ht hs hfree => exact logs_runAfter ps _ t late ht (hw t ht) h
  | lock t m ht hs hop hfree => exact logs_runAfter ps _ t false ht (hw t ht) h
  | unlock t m ht hs hop => exact logs_runAfter ps _ t false ht (hw t ht) h
  | plain t ht hs hop => exact logs_runAfter ps s t false ht (hw t ht) h
  | notifyNone t cv ht hs hop hno => exact logs_runAfter ps s t false ht (hw t ht) h

theorem logs_init (cap : Nat) (ps : List (List Call)) : LogsInv ps (init cap ps) := by
  intro t _
  exact ⟨rfl, by intro h; exact absurd rfl h, [], by simp [init], by simp [init],
    by simp [init, mine, logP, pendP, retOf], by simp [init, mine, logT, pendT, retOf]⟩

theorem logs_run (cap : Nat) (ps : List (List Call)) (sched : List Choice) : LogsInv ps (run (prog true) (init cap ps) sched) :=
  (inv_of_tr (prog true) (fun s => closeBroadcast.Inv s ∧ LogsInv ps s)
    (fun s s' h tr => ⟨closeBroadcast.inv_tr s s' h.1 tr, logs_tr ps s s' h.1 h.2 tr⟩) sched _
    ⟨closeBroadcast_init cap ps, logs_init cap ps⟩).2

end Iora.BQ
