import IoraModel.Model.CloseDeliver
/-! # Nothing is delivered after the close, at the Transport level (C02, T3)

A marked id cannot be flushed (`Safe`, `Inv`), and a delivery comes from an engine op or from a flush (`step_out`); so in a history
every op of which is `okOp` in the state it is applied to (`Valid`) nothing is delivered for an id behind its close marker, given
the two state variants of the repaired source (`SoundState`; `run_traceOk`).  `Valid` then follows from properties of the op list
alone (`EngineContract`, `WindowEmpty`, `HandlerOrder`), the first of which `contractB` decides. -/
namespace Iora.Deliver

/-- the two source variants about the STATE the theorems need -/
def SoundState (c : Cfg) : Prop := c.eraseAlways = true ∧ c.tombGuard = true

/-- the three source variants the theorems about the repaired code need (all Gen facts of the translator): the two about the state
and the order of the close handler - marked closed BEFORE the close callbacks run (FC03c) -/
def Sound (c : Cfg) : Prop := c.eraseAlways = true ∧ c.tombGuard = true ∧ c.markFirst = true

theorem Sound.state {c : Cfg} (h : Sound c) : SoundState c := ⟨h.1, h.2.1⟩
theorem Sound.order {c : Cfg} (h : Sound c) {ops : List Op} (ho : HandlerOrder c.markFirst ops) : HandlerOrder true ops := h.2.2 ▸ ho

/-- the id an engine-originated accept / connect / data op is for -/
def engSid : Op → Option Sid
  | .engAccept s => some s
  | .engConnect s => some s
  | .engData s _ => some s
  | _ => none

/-- the id whose close handler an op is one half of -/
def halfOf : Op → Option Sid
  | .closeMark s => some s
  | .closeCbs s => some s
  | _ => none

def Op.sid : Op → Sid
  | .engAccept s | .engConnect s | .engData s _ | .closeMark s | .closeCbs s | .setMode s _ | .recv s _ => s

/-- the engine contract (T3a of the engine model): no accept / connect / data from the engine for an id whose close handler it has
entered (either half has run) -/
def engOk (t : T) (op : Op) : Prop := ∀ s, engSid op = some s → t.closedH s = false ∧ t.marked s = false

/-- `engOk`, and nothing happens INSIDE the window of a handler that runs its callbacks first: while the close callbacks of an id have
been started and its buffer is not yet marked closed, the only op is that mark.  (Histories of the mark-first order have no such
window at all: `windowEmpty_of_order`.) -/
def okOp (t : T) (op : Op) : Prop :=
  engOk t op ∧ ∀ s, t.closedH s = true → t.marked s = true ∨ op = .closeMark s

/-- each element of a list against the elements in front of it.  `EngineContract` and `WindowEmpty` are of this form, written out. -/
def AllSplits {α : Type} (P : List α → α → Prop) (l : List α) : Prop := ∀ pre o post, l = pre ++ o :: post → P pre o

theorem allSplits_nil {α : Type} {P : List α → α → Prop} : AllSplits P [] :=
  fun pre o post h => by cases pre <;> cases h

theorem allSplits_cons {α : Type} {a : α} {r : List α} {P : List α → α → Prop} :
    AllSplits P (a :: r) ↔ P [] a ∧ AllSplits (fun pre => P (a :: pre)) r := by
  refine ⟨fun h => ⟨h [] a r rfl, fun pre o post e => h (a :: pre) o post (by rw [e]; rfl)⟩, fun ⟨h0, h1⟩ pre o post e => ?_⟩
  cases pre with
  | nil => obtain ⟨rfl, _⟩ := List.cons.inj e; exact h0
  | cons p pre' => obtain ⟨rfl, e'⟩ := List.cons.inj e; exact h1 pre' o post e'

theorem AllSplits.filterMap {α β : Type} {f : α → Option β} {P : List α → α → Prop} {Q : List β → β → Prop} {l : List α}
    (h : AllSplits P l) (hf : ∀ pre o b, f o = some b → P pre o → Q (pre.filterMap f) b) : AllSplits Q (l.filterMap f) := by
  intro pre' b post' e
  obtain ⟨l1, l2, rfl, rfl, e2⟩ := List.filterMap_eq_append_iff.1 e
  obtain ⟨m1, o, m2, rfl, hm1, ho, -⟩ := List.filterMap_eq_cons_iff.1 e2
  have := hf _ o b ho (h (l1 ++ m1) o m2 (by simp))
  rwa [List.filterMap_append, List.filterMap_eq_nil_iff.2 hm1, List.append_nil] at this

def Valid (t : T) (ops : List Op) : Prop := AllSplits (fun pre o => okOp (runState t pre) o) ops

theorem Valid.head {t : T} {op : Op} {r : List Op} (h : Valid t (op :: r)) : okOp t op := (allSplits_cons.1 h).1
theorem Valid.tail {t : T} {op : Op} {r : List Op} (h : Valid t (op :: r)) : Valid (step t op).1 r := (allSplits_cons.1 h).2

/-- a closed id can no longer be flushed: either it has no mode and its buffer is a closed tombstone (setReadMode leaves it alone),
or nothing is buffered for it -/
def Safe (t : T) (s : Sid) : Prop := (t.modes s = none ∧ tomb t s = true) ∨ bufData t s = []

/-- the invariant of a `Valid` history: what is marked cannot be flushed -/
def Inv (t : T) : Prop := ∀ s, t.marked s = true → Safe t s

/-- an event that hands something of session `s` to the application's accept / connect / data callback -/
def delFor (s : Sid) : Out → Prop
  | .acceptCb x => x = s
  | .connectCb x => x = s
  | .dataCb x _ => x = s
  | _ => False

def NoDel (s : Sid) (tr : List Out) : Prop := ∀ e ∈ tr, ¬ delFor s e

/-- nothing is delivered for an id after the event that marks its close handler -/
def TraceOk (tr : List Out) : Prop := tr.Pairwise fun e e' => ∀ s, e = .closeH s → ¬ delFor s e'

@[simp] theorem upd_same {β : Type} (f : Nat → β) (k : Nat) (v : β) : upd f k v k = v := by simp [upd]
@[simp] theorem upd_other {β : Type} (f : Nat → β) (k x : Nat) (v : β) (h : x ≠ k) : upd f k v x = f x := by simp [upd, h]

/-- `t'` is `t` except for the mode and the buffer of `sid` (and the key list): configuration, ghosts and every other session are
as before.  Every op that is not one half of a close handler is of this kind (`step_touch`). -/
structure Touch (sid : Sid) (t t' : T) : Prop where
  cfg : t'.cfg = t.cfg
  closedH : t'.closedH = t.closedH
  marked : t'.marked = t.marked
  modes : ∀ s, s ≠ sid → t'.modes s = t.modes s
  bufs : ∀ s, s ≠ sid → t'.bufs s = t.bufs s

theorem Touch.refl (sid : Sid) (t : T) : Touch sid t t := ⟨rfl, rfl, rfl, fun _ _ => rfl, fun _ _ => rfl⟩
theorem Touch.setBuf {sid : Sid} {t t' : T} (h : Touch sid t t') (b : Buf) : Touch sid t (setBuf sid b t') :=
  ⟨h.cfg, h.closedH, h.marked, h.modes, fun s hs => (upd_other _ _ _ _ hs).trans (h.bufs s hs)⟩
theorem Touch.eraseBuf {sid : Sid} {t t' : T} (h : Touch sid t t') : Touch sid t (eraseBuf sid t') :=
  ⟨h.cfg, h.closedH, h.marked, h.modes, fun s hs => (upd_other _ _ _ _ hs).trans (h.bufs s hs)⟩
theorem Touch.mode {sid : Sid} {t t' : T} (h : Touch sid t t') (m : Option Mode) :
    Touch sid t { t' with modes := upd t'.modes sid m } :=
  ⟨h.cfg, h.closedH, h.marked, fun s hs => (upd_other _ _ _ _ hs).trans (h.modes s hs), h.bufs⟩

theorem onData_touch (sid : Sid) (b : Bytes) (t : T) : Touch sid t (onData sid b t).1 := by
  fun_cases onData sid b t <;> first | exact .refl _ _ | exact (Touch.refl _ _).setBuf _

theorem recv_touch (sid : Sid) (n : Nat) (t : T) : Touch sid t (recv sid n t).1 := by
  fun_cases recv sid n t <;> first | exact .refl _ _ | exact (Touch.refl _ _).setBuf _ | exact (Touch.refl _ _).eraseBuf.mode _

@[simp] theorem bufData_setBuf (sid : Sid) (b : Buf) (t : T) : bufData (setBuf sid b t) sid = b.data := by simp [bufData, setBuf]
@[simp] theorem tomb_setBuf (sid : Sid) (b : Buf) (t : T) : tomb (setBuf sid b t) sid = b.closed := by simp [tomb, setBuf]

/-- what `setReadMode sid` can do: nothing but answer (in particular when the tombstone guard applies); or, the guard not
applying, change the mode and buffer of `sid` so that an empty buffer stays empty, and answer `true` after the flush - which hands
out exactly the non-empty content of the buffer of `sid` -/
def SetModeSpec (sid : Sid) (t : T) (r : T × List Out) : Prop :=
  (∃ ok, r = (t, [.modeRet sid ok])) ∨
  ((t.cfg.tombGuard && tomb t sid) = false ∧ Touch sid t r.1 ∧ (bufData t sid = [] → bufData r.1 sid = []) ∧
    ∃ fl, r.2 = fl ++ [.modeRet sid true] ∧ ∀ e ∈ fl, ∃ b, t.bufs sid = some b ∧ b.data ≠ [] ∧ e = .dataCb sid b.data)

theorem setMode_spec (sid : Sid) (m : Mode) (t : T) : SetModeSpec sid t (setMode sid m t) := by
  unfold setMode
  split
  · exact Or.inl ⟨_, rfl⟩
  · split
    · exact Or.inl ⟨_, rfl⟩
    · rename_i hguard
      have hguard : (t.cfg.tombGuard && tomb t sid) = false := by simpa using hguard
      split
      · refine Or.inr ⟨hguard, ?_, ?_, [], rfl, nofun⟩ <;> dsimp only <;> split
        · split
          · exact ((Touch.refl _ _).mode _).setBuf _
          · exact (Touch.refl _ _).mode _
        · exact (Touch.refl _ _).mode _
        · split
          · exact fun _ => bufData_setBuf _ _ _
          · exact id
        · exact id
      · split
        · exact Or.inr ⟨hguard, (Touch.refl _ _).mode _, id, [], rfl, nofun⟩
        · rename_i b hb
          refine Or.inr ⟨hguard, ((Touch.refl _ _).mode _).setBuf _, fun _ => bufData_setBuf _ _ _, _, rfl, fun e he => ?_⟩
          split at he
          · cases he
          · rename_i hne
            unfold dataCb at he; split at he
            · exact ⟨b, hb, by simpa using hne, List.mem_singleton.1 he⟩
            · cases he

theorem setMode_touch (sid : Sid) (m : Mode) (t : T) : Touch sid t (setMode sid m t).1 := by
  rcases setMode_spec sid m t with ⟨ok, eq⟩ | ⟨_, h, _⟩
  · rw [eq]; exact .refl _ _
  · exact h

theorem step_touch (t : T) (op : Op) (h : halfOf op = none) : Touch op.sid t (step t op).1 := by
  cases op with
  | engAccept sid | engConnect sid => exact .refl _ _
  | engData sid b => exact onData_touch sid b t
  | setMode sid m => exact setMode_touch sid m t
  | recv sid n => exact recv_touch sid n t
  | closeCbs _ | closeMark _ => cases h

theorem markClosed_touch (sid : Sid) (t : T) : Touch sid t (markClosed sid t) := by
  unfold markClosed; split <;> exact (Touch.refl _ _).setBuf _

theorem eraseMode_touch (sid : Sid) (t : T) : Touch sid t (eraseMode sid t) := by
  unfold eraseMode; split
  · exact (Touch.refl _ _).mode _
  · exact .refl _ _

theorem sweep_frame (sid : Sid) (t : T) :
    (sweep sid t).cfg = t.cfg ∧ (sweep sid t).closedH = t.closedH ∧ (sweep sid t).marked = t.marked ∧ (sweep sid t).modes = t.modes ∧
    (sweep sid t).bufs sid = t.bufs sid ∧ ∀ s, (sweep sid t).bufs s = t.bufs s ∨ (sweep sid t).bufs s = none := by
  unfold sweep gc; split
  · refine ⟨rfl, rfl, rfl, rfl, by simp [dead], fun s => ?_⟩
    dsimp only; split
    · exact Or.inr rfl
    · exact Or.inl rfl
  · exact ⟨rfl, rfl, rfl, rfl, rfl, fun _ => Or.inl rfl⟩

/-- the syncMutex block of the close handler of `sid`: marks `sid`, leaves the other ghost, the configuration and every other
session's mode alone, and keeps or drops the other sessions' buffers -/
theorem closeMark_frame (sid : Sid) (t : T) :
    (closeMark sid t).1.cfg = t.cfg ∧ (closeMark sid t).1.closedH = t.closedH ∧ (closeMark sid t).1.marked = upd t.marked sid true ∧
    ∀ s, s ≠ sid → (closeMark sid t).1.modes s = t.modes s ∧ ((closeMark sid t).1.bufs s = t.bufs s ∨ (closeMark sid t).1.bufs s = none) := by
  have hm := markClosed_touch sid t
  have he := eraseMode_touch sid (markClosed sid t)
  obtain ⟨h1, h2, h3, h4, _, h6⟩ := sweep_frame sid (eraseMode sid (markClosed sid t))
  simp only [closeMark]
  refine ⟨h1.trans (he.cfg.trans hm.cfg), h2.trans (he.closedH.trans hm.closedH), ?_, fun s hs => ⟨?_, ?_⟩⟩
  · rw [h3, he.marked, hm.marked]
  · rw [h4, he.modes s hs, hm.modes s hs]
  · rw [← hm.bufs s hs, ← he.bufs s hs]; exact h6 s

/-- after the syncMutex block of its close handler (unconditional erase) the session has no mode and its buffer is a closed tombstone -/
theorem closeMark_same (sid : Sid) (t : T) (he : t.cfg.eraseAlways = true) :
    (closeMark sid t).1.modes sid = none ∧ tomb (closeMark sid t).1 sid = true := by
  obtain ⟨_, _, _, h4, h5, _⟩ := sweep_frame sid (eraseMode sid (markClosed sid t))
  simp only [closeMark]
  constructor
  · rw [h4]; unfold eraseMode; simp [(markClosed_touch sid t).cfg, he]
  · have hb : (eraseMode sid (markClosed sid t)).bufs = (markClosed sid t).bufs := by unfold eraseMode; split <;> rfl
    unfold tomb; rw [h5, hb]
    unfold markClosed; cases t.bufs sid <;> simp [setBuf]

theorem step_frame (t : T) (op : Op) :
    (step t op).1.cfg = t.cfg ∧
    (∀ s, (step t op).1.closedH s = true ↔ t.closedH s = true ∨ op = .closeCbs s) ∧
    (∀ s, (step t op).1.marked s = true ↔ t.marked s = true ∨ op = .closeMark s) := by
  have set : ∀ (f : Sid → Bool) (x s : Sid), upd f x true s = true ↔ f s = true ∨ x = s := by
    intro f x s; by_cases e : s = x
    · subst e; simp
    · rw [upd_other _ _ _ _ e]; exact ⟨Or.inl, fun h => h.resolve_right (fun e' => e e'.symm)⟩
  cases hh : halfOf op with
  | none =>
    have h := step_touch t op hh
    have ne : ∀ {op'}, halfOf op' ≠ none → op ≠ op' := fun h' e => h' (e ▸ hh)
    exact ⟨h.cfg, fun s => by rw [h.closedH]; exact ⟨Or.inl, fun e => e.resolve_right (ne nofun)⟩,
      fun s => by rw [h.marked]; exact ⟨Or.inl, fun e => e.resolve_right (ne nofun)⟩⟩
  | some _ =>
    cases op with
    | closeCbs sid =>
      refine ⟨rfl, fun s => ?_, fun s => ⟨Or.inl, fun e => e.resolve_right nofun⟩⟩
      show upd t.closedH sid true s = true ↔ _
      rw [set]; simp
    | closeMark sid =>
      obtain ⟨h1, h2, h3, _⟩ := closeMark_frame sid t
      refine ⟨h1, fun s => ?_, fun s => ?_⟩
      · show (closeMark sid t).1.closedH s = true ↔ _
        rw [h2]; exact ⟨Or.inl, fun e => e.resolve_right nofun⟩
      · show (closeMark sid t).1.marked s = true ↔ _
        rw [h3, set]; simp
    | _ => cases hh

theorem step_cfg (t : T) (op : Op) : (step t op).1.cfg = t.cfg := (step_frame t op).1
theorem step_closedH_iff (t : T) (op : Op) (s : Sid) : (step t op).1.closedH s = true ↔ t.closedH s = true ∨ op = .closeCbs s :=
  (step_frame t op).2.1 s
theorem step_marked_iff (t : T) (op : Op) (s : Sid) : (step t op).1.marked s = true ↔ t.marked s = true ∨ op = .closeMark s :=
  (step_frame t op).2.2 s

theorem safe_congr {t t' : T} {s : Sid} (hm : t'.modes s = t.modes s) (hb : t'.bufs s = t.bufs s) (h : Safe t s) : Safe t' s := by
  unfold Safe tomb bufData at *
  rw [hm, hb]; exact h

/-- setReadMode on a session that is Safe leaves it Safe (the tombstone guard makes the call vacuous; otherwise nothing is buffered) -/
theorem setMode_safe (sid : Sid) (m : Mode) (t : T) (hg : t.cfg.tombGuard = true) (h : Safe t sid) : Safe (setMode sid m t).1 sid := by
  rcases setMode_spec sid m t with ⟨ok, eq⟩ | ⟨hguard, _, hd', _⟩
  · rw [eq]; exact h
  · rcases h with ⟨_, ht⟩ | hd
    · simp [hg, ht] at hguard
    · exact Or.inr (hd' hd)

theorem recv_safe (sid : Sid) (len : Nat) (t : T) (h : Safe t sid) : Safe (recv sid len t).1 sid := by
  unfold recv
  cases hb : t.bufs sid with
  | none => exact Or.inr (bufData_setBuf _ _ _)
  | some b =>
    have hdata : bufData t sid = b.data := by simp [bufData, hb]
    have htomb : tomb t sid = b.closed := by simp [tomb, hb]
    dsimp only
    split
    · rename_i hne
      rcases h with ⟨hm, ht⟩ | hd
      · exact Or.inl ⟨hm, by rw [tomb_setBuf]; exact htomb ▸ ht⟩
      · rw [hdata] at hd; simp [hd] at hne
    · rename_i he
      have he : b.data = [] := by simpa using he
      split
      · exact Or.inr (by rw [bufData_setBuf]; exact he)
      · split
        · exact Or.inr (by simp [bufData, eraseBuf])
        · exact h

theorem step_inv (t : T) (op : Op) (hs : SoundState t.cfg) (hok : okOp t op) (hi : Inv t) : Inv (step t op).1 := by
  intro s hc
  rw [step_marked_iff] at hc
  cases hh : halfOf op with
  | none =>
    have hm : t.marked s = true := hc.resolve_right fun e => by rw [e] at hh; cases hh
    have h := step_touch t op hh
    by_cases e : s = op.sid
    · -- the op's own session: marked, so the engine sends it nothing and the application calls keep it `Safe`
      subst e
      cases op with
      | engAccept sid | engConnect sid => exact hi _ hm
      | engData sid b => exact nomatch (hok.1 sid rfl).2.symm.trans hm
      | setMode sid m => exact setMode_safe sid m t hs.2 (hi _ hm)
      | recv sid len => exact recv_safe sid len t (hi _ hm)
      | closeCbs _ | closeMark _ => cases hh
    · exact safe_congr (h.modes s e) (h.bufs s e) (hi s hm)
  | some _ =>
    cases op with
    | closeCbs sid => exact safe_congr (t := t) rfl rfl (hi s (hc.resolve_right nofun))
    | closeMark sid =>
      by_cases e : s = sid
      · subst e; exact Or.inl (closeMark_same s t hs.1)
      · have hm : t.marked s = true := hc.resolve_right (fun h => e (Op.closeMark.inj h).symm)
        obtain ⟨-, -, -, hother⟩ := closeMark_frame sid t
        obtain ⟨h1, h2⟩ := hother s e
        rcases h2 with h2 | h2
        · exact safe_congr h1 h2 (hi s hm)
        · exact Or.inr (by simp [bufData, show (step t (.closeMark sid)).1.bufs s = none from h2])
    | _ => cases hh

/-- where the outputs of a step come from: something is handed to the application for `s` only by an engine op for `s`, or by
`setReadMode` flushing a non-empty buffer of `s` that the tombstone guard let through; a close marker only by `closeCbs` -/
theorem step_out (t : T) (op : Op) (e : Out) (he : e ∈ (step t op).2) :
    (∀ s, delFor s e → engSid op = some s ∨
      ∃ m b, op = .setMode s m ∧ t.bufs s = some b ∧ b.data ≠ [] ∧ (t.cfg.tombGuard && tomb t s) = false) ∧
    (∀ s, e = .closeH s → op = .closeCbs s) := by
  cases op with
  | engAccept sid => cases List.mem_singleton.1 he; exact ⟨fun s h => Or.inl (congrArg some h), nofun⟩
  | engConnect sid => cases List.mem_singleton.1 he; exact ⟨fun s h => Or.inl (congrArg some h), nofun⟩
  | closeMark sid => cases he
  | closeCbs sid => cases List.mem_singleton.1 he; exact ⟨nofun, fun s h => by cases h; rfl⟩
  | engData sid b =>
    have : e = .dataCb sid b := by
      revert he; show e ∈ (onData sid b t).2 → _
      fun_cases onData sid b t <;> simp [dataCb]
    subst this; exact ⟨fun s h => Or.inl (congrArg some h), nofun⟩
  | recv sid len =>
    have : ∃ r, e = .recvRet sid r := by
      revert he; show e ∈ (recv sid len t).2 → _
      fun_cases recv sid len t <;> exact fun he => ⟨_, List.mem_singleton.1 he⟩
    obtain ⟨r, rfl⟩ := this; exact ⟨nofun, nofun⟩
  | setMode sid m =>
    rcases setMode_spec sid m t with ⟨ok, eq⟩ | ⟨hguard, _, _, fl, hfl, hflush⟩
    · have he : e ∈ (setMode sid m t).2 := he
      rw [eq] at he; cases List.mem_singleton.1 he; exact ⟨nofun, nofun⟩
    · have he : e ∈ (setMode sid m t).2 := he
      rw [hfl] at he
      rcases List.mem_append.1 he with he | he
      · obtain ⟨b, hb, hne, rfl⟩ := hflush _ he
        exact ⟨fun s h => by cases h; exact Or.inr ⟨m, b, rfl, hb, hne, hguard⟩, nofun⟩
      · cases List.mem_singleton.1 he; exact ⟨nofun, nofun⟩

theorem step_nodel (t : T) (op : Op) (hs : SoundState t.cfg) (hok : okOp t op) (s : Sid) (hc : t.closedH s = true) (hi : Inv t) :
    NoDel s (step t op).2 := by
  intro e he hd
  rcases (step_out t op e he).1 s hd with h | ⟨m, b, rfl, hb, hne, hg⟩
  · rw [(hok.1 s h).1] at hc; cases hc
  · -- the flush of a closed id: not a tombstone (the guard let it through), so nothing is buffered
    rcases hok.2 s hc with hm | hcm
    · rcases hi s hm with ⟨_, ht⟩ | hd
      · simp [hs.2, ht] at hg
      · exact hne (by simpa [bufData, hb] using hd)
    · cases hcm

theorem step_closeH (t : T) (op : Op) (s : Sid) (h : Out.closeH s ∈ (step t op).2) :
    (step t op).2 = [Out.closeH s] ∧ (step t op).1.closedH s = true := by
  cases (step_out t op _ h).2 s rfl
  exact ⟨rfl, (step_closedH_iff _ _ _).2 (Or.inr rfl)⟩

theorem inv_init (cfg : Cfg) : Inv (init cfg) := by
  intro s h; simp [init] at h

theorem traceOk_split {tr : List Out} (h : TraceOk tr) (pre : List Out) (s : Sid) (post : List Out)
    (hsplit : tr = pre ++ Out.closeH s :: post) : NoDel s post := by
  subst hsplit
  exact fun e he => (List.pairwise_cons.1 (List.pairwise_append.1 h).2.1).1 e he s rfl

theorem run_nodel (ops : List Op) : ∀ (t : T), SoundState t.cfg → Valid t ops → Inv t → ∀ s, t.closedH s = true → NoDel s (run t ops) := by
  induction ops with
  | nil => intro t _ _ _ s _ e he; cases he
  | cons op r ih =>
    intro t hs hv hi s hc
    simp only [run]
    refine List.forall_mem_append.2 ⟨step_nodel t op hs hv.head s hc hi, ?_⟩
    exact ih _ (by rw [step_cfg]; exact hs) hv.tail (step_inv t op hs hv.head hi) s ((step_closedH_iff t op s).2 (Or.inl hc))

theorem run_traceOk (ops : List Op) : ∀ (t : T), SoundState t.cfg → Valid t ops → Inv t → TraceOk (run t ops) := by
  induction ops with
  | nil => intro t _ _ _; exact .nil
  | cons op r ih =>
    intro t hs hv hi
    simp only [run]
    have hs' : SoundState (step t op).1.cfg := by rw [step_cfg]; exact hs
    have hi' := step_inv t op hs hv.head hi
    refine List.pairwise_append.2 ⟨?_, ih _ hs' hv.tail hi', fun a ha b hb s e =>
      run_nodel r _ hs' hv.tail hi' s (step_closeH t op s (e ▸ ha)).2 b hb⟩
    -- one step's outputs: a lone close marker, or no marker at all
    by_cases hm : ∃ s, Out.closeH s ∈ (step t op).2
    · obtain ⟨s, h⟩ := hm
      rw [(step_closeH t op s h).1]
      exact List.pairwise_singleton ..
    · exact List.pairwise_of_forall_mem_list fun a ha _ _ s e => absurd ⟨s, e ▸ ha⟩ hm

theorem runState_inv (ops : List Op) : ∀ (t : T), SoundState t.cfg → Valid t ops → Inv t → Inv (runState t ops) := by
  induction ops with
  | nil => intro t _ _ hi; exact hi
  | cons op r ih =>
    intro t hs hv hi
    exact ih _ (by rw [step_cfg]; exact hs) hv.tail (step_inv t op hs hv.head hi)

/-- a ghost `f` that exactly the op `mk s` sets for `s` (`closedH` and `closeCbs`, `marked` and `closeMark`) -/
theorem runState_ghost (f : T → Sid → Bool) (mk : Sid → Op)
    (hstep : ∀ t op s, f (step t op).1 s = true ↔ f t s = true ∨ op = mk s) (ops : List Op) :
    ∀ (t : T) (s : Sid), f (runState t ops) s = true ↔ (f t s = true ∨ mk s ∈ ops) := by
  induction ops with
  | nil => intro t s; simp [runState]
  | cons op r ih =>
    intro t s
    simp only [runState]
    rw [ih, hstep, List.mem_cons, or_assoc, @eq_comm _ (mk s)]

/-- the ghosts after a history: set exactly for the ids whose close callbacks have been started / whose buffer has been marked -/
theorem runState_closedH (ops : List Op) : ∀ (t : T) (s : Sid),
    (runState t ops).closedH s = true ↔ (t.closedH s = true ∨ Op.closeCbs s ∈ ops) :=
  runState_ghost (·.closedH) .closeCbs step_closedH_iff ops

theorem runState_marked (ops : List Op) : ∀ (t : T) (s : Sid),
    (runState t ops).marked s = true ↔ (t.marked s = true ∨ Op.closeMark s ∈ ops) :=
  runState_ghost (·.marked) .closeMark step_marked_iff ops

/-- "nothing for an id after its close" on the engine side (what T3_nothing_after_close proves of both engines): the engine reports
no accept / connect / data for an id once it has entered the close handler of that id (either half of the handler has run) -/
def EngineContract (ops : List Op) : Prop :=
  ∀ pre o post, ops = pre ++ o :: post → ∀ s, engSid o = some s → Op.closeMark s ∉ pre ∧ Op.closeCbs s ∉ pre

/-- nothing happens inside the window of a callbacks-first handler run: at every op, an id whose close callbacks have been started
has been marked closed too - unless the op is that very mark -/
def WindowEmpty (ops : List Op) : Prop :=
  ∀ pre o post, ops = pre ++ o :: post → ∀ s, Op.closeCbs s ∈ pre → Op.closeMark s ∈ pre ∨ o = Op.closeMark s

/-- the mark-first order, as a property of splits: the callbacks of an id start only after its mark -/
def MarkBeforeCbs (ops : List Op) : Prop := AllSplits (fun pre o => ∀ s, o = Op.closeCbs s → Op.closeMark s ∈ pre) ops

/-- the two properties of the op list are what `Valid` asks: the ghosts after a prefix are set exactly for the ids whose `closeCbs` /
`closeMark` occurs in it -/
theorem valid_init_of_contract (cfg : Cfg) (ops : List Op) (h : EngineContract ops) (hw : WindowEmpty ops) : Valid (init cfg) ops := by
  intro pre o post hsplit
  have hc := fun s => (runState_closedH pre (init cfg) s).trans (or_iff_right Bool.false_ne_true)
  have hm := fun s => (runState_marked pre (init cfg) s).trans (or_iff_right Bool.false_ne_true)
  refine ⟨fun s hs => ?_, fun s hcl => ?_⟩
  · obtain ⟨h1, h2⟩ := h pre o post hsplit s hs
    exact ⟨Bool.eq_false_iff.2 (mt (hc s).1 h2), Bool.eq_false_iff.2 (mt (hm s).1 h1)⟩
  · exact (hw pre o post hsplit s ((hc s).1 hcl)).imp_left (hm s).2

theorem mark_mem_of_cbs_mem {ops : List Op} (h : MarkBeforeCbs ops) {s : Sid} {pre : List Op} {rest : List Op}
    (hsplit : ops = pre ++ rest) (hc : Op.closeCbs s ∈ pre) : Op.closeMark s ∈ pre := by
  obtain ⟨p1, p2, hp⟩ := List.append_of_mem hc
  have := h p1 (Op.closeCbs s) (p2 ++ rest) (by rw [hsplit, hp]; simp) s rfl
  rw [hp]; exact List.mem_append_left _ this

theorem markBefore_of_orderB (ops : List Op) : ∀ seen, orderB true seen ops = true →
    ∀ pre o post, ops = pre ++ o :: post → ∀ s, o = Op.closeCbs s → s ∈ seen ∨ Op.closeMark s ∈ pre := by
  induction ops with
  | nil => exact fun _ _ => allSplits_nil
  | cons op r ih =>
    intro seen hb
    refine allSplits_cons.2 ⟨fun s ho => ?_, fun pre o post h s ho => ?_⟩
    · subst ho; simp [orderB] at hb; exact Or.inl hb.1
    · -- only a `closeMark` in front changes `seen`; it is then found in the prefix
      have keep : ∀ seen', orderB true seen' r = true → (∀ x, x ∈ seen' → x ∈ seen ∨ op = .closeMark x) →
          s ∈ seen ∨ Op.closeMark s ∈ op :: pre := fun seen' hb' hsub =>
        (ih seen' hb' pre o post h s ho).elim
          (fun h3 => (hsub s h3).imp_right fun e => by simp [e]) (fun h3 => Or.inr (List.mem_cons_of_mem _ h3))
      cases op with
      | closeMark x =>
        exact keep (x :: seen) (by simpa [orderB] using hb) fun y hy => (List.mem_cons.1 hy).symm.imp_right fun e => by rw [e]
      | closeCbs x => exact keep seen (by simp [orderB] at hb; exact hb.2) fun _ => Or.inl
      | _ => exact keep seen (by simpa [orderB] using hb) fun _ => Or.inl

theorem markBefore_of_order (ops : List Op) (h : HandlerOrder true ops) : MarkBeforeCbs ops :=
  fun pre o post hsplit s ho => (markBefore_of_orderB ops [] h pre o post hsplit s ho).resolve_left (by simp)

theorem windowEmpty_of_order (ops : List Op) (h : HandlerOrder true ops) : WindowEmpty ops :=
  fun _ _ _ hsplit _ hc => Or.inl (mark_mem_of_cbs_mem (markBefore_of_order ops h) hsplit hc)

/-- a decision procedure for the contract: `cl` = ids whose close handler the engine has entered so far -/
def contractB : List Sid → List Op → Bool
  | _, [] => true
  | cl, op :: r => (match engSid op with | some s => !cl.contains s | none => true) && contractB ((halfOf op).toList ++ cl) r

theorem contract_of_contractB (ops : List Op) : ∀ cl, contractB cl ops = true →
    ∀ pre o post, ops = pre ++ o :: post → ∀ s, engSid o = some s → s ∉ cl ∧ Op.closeMark s ∉ pre ∧ Op.closeCbs s ∉ pre := by
  induction ops with
  | nil => exact fun _ _ => allSplits_nil
  | cons op r ih =>
    intro cl hb
    simp only [contractB, Bool.and_eq_true] at hb
    refine allSplits_cons.2 ⟨fun s hs => ?_, fun pre o post h s hs => ?_⟩
    · rw [hs] at hb; exact ⟨by simpa using hb.1, nofun, nofun⟩
    · -- an op in front that is neither half of the handler of `s` changes nothing for `s`
      obtain ⟨h1, h2, h3⟩ := ih _ hb.2 pre o post h s hs
      rw [List.mem_append, not_or] at h1
      have hne : ∀ {op'}, halfOf op' = some s → op ≠ op' := fun hh e => h1.1 (by rw [e, hh]; exact List.mem_singleton.2 rfl)
      exact ⟨h1.2, by rw [List.mem_cons, not_or]; exact ⟨(hne rfl).symm, h2⟩, by rw [List.mem_cons, not_or]; exact ⟨(hne rfl).symm, h3⟩⟩

theorem contract_of_check (ops : List Op) (h : contractB [] ops = true) : EngineContract ops :=
  fun pre o post hsplit s hs => (contract_of_contractB ops [] h pre o post hsplit s hs).2

end Iora.Deliver
