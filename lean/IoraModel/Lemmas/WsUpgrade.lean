import IoraModel.Lemmas.WsClient
import IoraModel.Common.Find
/-! The client's upgrade boundary: a valid `101` response followed by frames, cut anywhere. -/
namespace Iora.Ws
open Iora Iora.Framing

theorem findFrom_eq_occ {pat : Bytes} (hne : pat ≠ []) : ∀ (d : Bytes) (i : Nat), findFrom pat d i = (occ pat d).map (i + ·)
  | [], i => by simp [findFrom, occ, hne]
  | x :: t, i => by
    simp only [findFrom, occ]
    split
    · rfl
    · rw [findFrom_eq_occ hne t (i + 1), Option.map_map]; congr 1; funext m; simp only [Function.comp]; omega

/-- on a non-empty pattern `findSub` is the first occurrence of `Common/Find.lean` -/
theorem findSub_eq_occ {pat : Bytes} (hne : pat ≠ []) (d : Bytes) : findSub pat d = occ pat d := by
  simp [findSub, findFrom_eq_occ hne]

theorem findSub_fits {pat d : Bytes} {k : Nat} (hne : pat ≠ []) (h : findSub pat d = some k) : k + pat.length ≤ d.length :=
  occ_fits (findSub_eq_occ hne d ▸ h)

theorem findSub_append {pat d : Bytes} {k : Nat} (hne : pat ≠ []) (x : Bytes) (h : findSub pat d = some k) :
    findSub pat (d ++ x) = some k := by
  rw [findSub_eq_occ hne] at h ⊢
  exact occ_append x h

/-- if the first occurrence in a buffer is its very end, no strict prefix of the buffer contains one -/
theorem findSub_prefix_none (pat : Bytes) (hne : pat ≠ []) (b y : Bytes) (hy : y ≠ [])
    (hf : findSub pat (b ++ y) = some ((b ++ y).length - pat.length)) : findSub pat b = none := by
  have hl := findSub_fits hne hf
  rw [findSub_eq_occ hne] at hf ⊢
  have : 0 < y.length := List.length_pos_iff.mpr hy
  exact occ_prefix_none hf (by simp only [List.length_append] at hl ⊢; omega)

/-- a response the client accepts: it ends with its first CRLF CRLF, is not longer than the client waits for, starts with
the 101 status, and carries the expected `Sec-WebSocket-Accept` value on a line inside the header section -/
structure ValidResp (cfg : CCfg) (resp : Bytes) : Prop where
  len4 : 4 ≤ resp.length
  cap : resp.length ≤ Gen.Ws.clientMaxUpgradeResponse
  ends : findSub crlf2 resp = some (resp.length - 4)
  status : statusOk.isPrefixOf resp = true
  accept : ∃ ap k, findSub acceptHdr resp = some ap ∧ ap < resp.length - 4 ∧
    findSub crlf (resp.drop (ap + acceptHdr.length)) = some k ∧
    trimWs ((resp.drop (ap + acceptHdr.length)).take k) = cfg.accept

theorem crlf2_ne : crlf2 ≠ [] := by decide
theorem crlf_ne : crlf ≠ [] := by decide
theorem acceptHdr_ne : acceptHdr ≠ [] := by decide

theorem acceptValue_append (cfg : CCfg) (resp rest : Bytes) (h : ValidResp cfg resp) :
    acceptValue (resp ++ rest) (resp.length - 4) = cfg.accept := by
  obtain ⟨ap, k, h1, h2, h3, h4⟩ := h.accept
  have f1 := findSub_fits acceptHdr_ne h1
  have f3 := findSub_fits crlf_ne h3
  unfold acceptValue
  have e1 : findSub acceptHdr (resp ++ rest) = some ap := findSub_append acceptHdr_ne rest h1
  rw [e1]
  simp only [h2, ↓reduceIte]
  have hd : (resp ++ rest).drop (ap + acceptHdr.length) = resp.drop (ap + acceptHdr.length) ++ rest := by
    rw [List.drop_append_of_le_length (by omega)]
  rw [hd]
  have e3 : findSub crlf (resp.drop (ap + acceptHdr.length) ++ rest) = some k :=
    findSub_append crlf_ne rest h3
  rw [e3]
  rw [List.take_append_of_le_length (by simp at f3 ⊢; omega)]
  exact h4

theorem cHandshake_ok (cfg : CCfg) (s : CSess) (resp rest : Bytes) (h : ValidResp cfg resp) :
    cHandshake cfg s (resp ++ rest) = .ok { s with upgraded := true, connected := true } [.connected] rest := by
  unfold cHandshake
  have e1 : findSub crlf2 (resp ++ rest) = some (resp.length - 4) := findSub_append crlf2_ne rest h.ends
  rw [e1]
  have e2 : statusOk.isPrefixOf (resp ++ rest) = true := by
    rw [isPrefixOf_append_of_le rest (isPrefixOf_length h.status)]; exact h.status
  simp only [e2, Bool.not_true, Bool.false_eq_true, ↓reduceIte, acceptValue_append cfg resp rest h, ne_eq, not_true_eq_false]
  have : resp.length - 4 + 4 = resp.length := by have := h.len4; omega
  rw [this, List.drop_left]

theorem cHandshake_wait (cfg : CCfg) (s : CSess) (b y : Bytes) (h : ValidResp cfg (b ++ y)) (hy : y ≠ []) :
    cHandshake cfg s b = .wait { s with buffer := b } := by
  unfold cHandshake
  have e1 : findSub crlf2 b = none := findSub_prefix_none crlf2 crlf2_ne b y hy (by simpa [crlf2] using h.ends)
  rw [e1]
  have : ¬ b.length > Gen.Ws.clientMaxUpgradeResponse := by
    have := h.cap
    have : b.length ≤ (b ++ y).length := by simp
    omega
  simp [this]

/-- a client waiting for the upgrade response, with `b` already received; `waiting []` is the model's `preUpgrade`, by `rfl` -/
def waiting (b : Bytes) : CSess := { buffer := b, connected := false, upgraded := false }

theorem cOnData_waiting (cfg : CCfg) (b seg : Bytes) :
    cOnData cfg (waiting b) seg =
      match cHandshake cfg (waiting []) (b ++ seg) with
      | .wait s1 => (s1, [])
      | .failed s1 ev => (s1, ev)
      | .ok s1 ev rest => ((cFrames cfg s1 rest).1, ev ++ (cFrames cfg s1 rest).2) := by
  simp only [cOnData, waiting, Bool.false_eq_true, ↓reduceIte]
  cases cHandshake cfg { buffer := [], connected := false, upgraded := false } (b ++ seg) <;> rfl

/-- `b` is the part of the response already buffered, which the induction over the reads needs;
`W3_client_upgrade_boundary` is `b = []`. -/
theorem cRun_upgrade_eq (cfg : CCfg) (resp : Bytes) (h : ValidResp cfg resp) (fs : List Frame) (hv : ValidFrames cfg.max fs) :
    ∀ (ss : List Bytes) (b : Bytes), b.length < resp.length → b ++ ss.flatten = resp ++ stream fs →
    (cRun cfg (waiting b) (ss.map COp.data)).2 = CEv.connected :: (cInterp cfg {} (fs.map toP)).2 := by
  intro ss
  induction ss with
  | nil =>
    intro b hb he
    simp only [List.flatten_nil, List.append_nil] at he
    have : b.length = resp.length + (stream fs).length := by rw [he]; simp
    omega
  | cons seg ss ih =>
    intro b hb he
    simp only [List.flatten_cons, ← List.append_assoc] at he
    simp only [List.map_cons, cRun, cStep]
    rw [cOnData_waiting]
    by_cases hlt : (b ++ seg).length < resp.length
    · -- still inside the response
      obtain ⟨y, hy⟩ : ∃ y, resp = (b ++ seg) ++ y := by
        have := List.append_eq_append_iff.mp he
        rcases this with ⟨a', h1, h2⟩ | ⟨c', h1, h2⟩
        · exact ⟨a', h1⟩
        · exfalso
          have : (b ++ seg).length = resp.length + c'.length := by rw [h1]; simp
          omega
      have hyne : y ≠ [] := by
        intro h0; subst h0
        have : resp.length = (b ++ seg).length := by rw [hy]; simp
        omega
      rw [cHandshake_wait cfg (waiting []) (b ++ seg) y (hy ▸ h) hyne]
      simp only [List.nil_append]
      exact ih (b ++ seg) hlt he
    · -- the response is complete in this read
      obtain ⟨rest, hrest, hrest2⟩ : ∃ rest, b ++ seg = resp ++ rest ∧ rest ++ ss.flatten = stream fs := by
        have := List.append_eq_append_iff.mp he
        rcases this with ⟨a', h1, h2⟩ | ⟨c', h1, h2⟩
        · have hl : resp.length = (b ++ seg).length + a'.length := by rw [h1]; simp only [List.length_append]
          have : a' = [] := by apply List.length_eq_zero_iff.mp; omega
          subst this
          exact ⟨[], by simpa using h1.symm, by simpa using h2⟩
        · exact ⟨c', h1, h2.symm⟩
      rw [hrest, cHandshake_ok cfg (waiting []) resp rest h]
      simp only [List.cons_append, List.nil_append]
      -- from here on it is the post-upgrade theorem, with `rest` as a first read
      have hs1 : ({ waiting [] with upgraded := true, connected := true } : CSess) = {} := rfl
      rw [hs1]
      have hd := cRun_data_eq cfg (rest :: ss) {} fs hv rfl rfl (by simp) (by simpa using hrest2) (by simp [parse])
      simp only [List.map_cons, cRun, cStep, cOnData_upgraded cfg {} rest rfl, List.nil_append] at hd
      exact congrArg _ hd

end Iora.Ws
