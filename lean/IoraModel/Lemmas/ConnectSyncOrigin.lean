import IoraModel.Lemmas.ConnectSyncSteps
import IoraModel.Model.ConnectSyncX
/-! What follows from the `Effect` of a step alone (`step_effect`), that is from where its events come from (`Origin`) and how it moves
the callers between attempts: the second invariant of the control model (`Inv2`: what a finished attempt's result says about its session)
and the invariant of the argument layer (`InvX`, `Model/ConnectSyncX.lean`: the session of an attempt was created with the TLS mode the
call requested).  After them, where `eng` and the close reason can change. -/
namespace Iora.ConnectSync

/-- What a finished attempt's result says.  Like the fields of `Inv` whose hypothesis is an event, these are preserved because of where
an event comes from (`Origin`); they stand beside `Inv` because they need nothing else of a step than its `Effect`, so no branch of
the model has anything to show for them. -/
structure Inv2 (s : State) : Prop where
  /-- every attempt that is over has a return event -/
  CL : ∀ c sid, Ev.created c sid ∈ s.log → att (s.callers c).pc ≠ some sid → ∃ r, Ev.attemptRet c (some sid) r ∈ s.log
  /-- an attempt returns the engine-reported close error only if the onClose handler delivered it for THIS session -/
  RC2 : ∀ c sid, Ev.attemptRet c (some sid) (.err .closed) ∈ s.log → Ev.delivered sid false ∈ s.log
  /-- ShuttingDown is only returned once the fence is set -/
  RS : ∀ c o, Ev.attemptRet c o (.err .shuttingDown) ∈ s.log → s.shuttingDown = true
  /-- a refused attempt never had a session -/
  RF : ∀ c o, Ev.attemptRet c o (.err .refused) ∈ s.log → o = none
  /-- connectSync itself never returns Cancelled (only the wrapper does) -/
  RCn : ∀ c o, Ev.attemptRet c o (.err .cancelled) ∉ s.log

theorem Inv2_init : Inv2 init := by
  constructor <;> simp [init]

theorem Effect.inv2 {s s' : State} {st : Step} (eff : Effect s s' st) (h2 : Inv2 s) : Inv2 s' := by
  have mono {e : Ev} := eff.mono (e := e)
  have mem {e : Ev} := eff.mem (e := e)
  constructor
  case CL =>
    intro c sid hc ha
    rcases mem hc with hc' | ⟨-, -, -, -, -, hconn⟩
    · by_cases hb : att (s.callers c).pc = some sid
      · rcases eff.attempts c with e | ⟨_, hp, _⟩ | ⟨_, sid', r, e1, e2⟩
        · exact absurd (e.trans hb) ha
        · rw [hp] at hb; cases hb
        · rw [hb] at e1; cases e1; exact ⟨r, e2⟩
      · obtain ⟨r, hr⟩ := h2.CL c sid hc' hb
        exact ⟨r, mono hr⟩
    · rw [hconn] at ha; exact absurd rfl ha
  case RC2 =>
    intro c sid hr
    rcases mem hr with h' | ⟨-, -, x, e, -, -, hdl⟩
    · exact mono (h2.RC2 c sid h')
    · cases e; exact mono hdl
  case RS =>
    intro c o hr
    rcases mem hr with h' | ⟨-, -, hd, -⟩
    · exact eff.fence (h2.RS c o h')
    · exact eff.fence hd
  case RF =>
    intro c o hr
    rcases mem hr with h' | ⟨-, -, ho⟩
    · exact h2.RF c o h'
    · exact ho
  case RCn =>
    intro c o hr
    rcases mem hr with h' | ⟨-, -, ho⟩
    · exact h2.RCn c o h'
    · exact ho

theorem run_inv2 : ∀ (steps : List Step) (s : State), Inv s → Inv2 s → Inv2 (run s steps) := by
  intro steps
  induction steps with
  | nil => intro s _ h2; exact h2
  | cons st rest ih => intro s h h2; exact ih _ (step_inv h st) ((step_effect h st).inv2 h2)

theorem reachable_inv2 (steps : List Step) : Inv2 (run init steps) := run_inv2 steps init Inv_init Inv2_init

theorem reachableC {cfg : Cfg} (hg : cfg.Good) (steps : List Step) : Inv (runC cfg init steps) ∧ Inv2 (runC cfg init steps) := by
  rw [runC_good hg]; exact ⟨reachable_inv steps, reachable_inv2 steps⟩

/-- the session an attempt is working on was created with the TLS mode its call requested -/
def InvX (x : XState) : Prop :=
  ∀ c sid, att (x.core.callers c).pc = some sid → x.sessTls sid = x.reqTls c

theorem InvX_init : InvX xinit := by
  intro c sid h; simp [xinit, att] at h

theorem xstep_invX {cfg : Cfg} (hg : cfg.Good) {x : XState} (h : Inv x.core) (hx : InvX x) (st : Step) (n : Nat) :
    InvX (xstep cfg x st n) := by
  intro j sid ha
  rw [xstep_core, stepC_good hg] at ha
  obtain ⟨-, -, -, -, hargs, -, -⟩ := hg
  rcases (step_effect h st).attempts j with e | ⟨rfl, hp, e, -⟩ | ⟨e, _⟩
  · -- `j` was in this attempt before: the step writes neither `sessTls sid` nor `reqTls j`
    rw [e] at ha
    have h0 := hx j sid ha
    unfold xstep
    dsimp only
    split
    · -- `call c _` writes `reqTls c` only for a caller outside an attempt
      split
      · rename_i c _ hpc
        have hne : j ≠ c := by
          rintro rfl
          simp only [Bool.or_eq_true, beq_iff_eq] at hpc
          rcases hpc with hpc | hpc <;> rw [hpc] at ha <;> cases ha
        simpa [setN, hne] using h0
      · exact h0
    · -- `cConnect c` writes `sessTls` at a fresh id
      split
      · have hne : sid ≠ x.core.nextSid := Nat.ne_of_lt (h.F_att j sid ha)
        simpa [setN, hne] using h0
      · exact h0
    · split <;> exact h0
  · rw [e] at ha; cases ha
    simp [xstep, hp, setN, hargs]
  · rw [e] at ha; cases ha

theorem xrun_inv {cfg : Cfg} (hg : cfg.Good) : ∀ (steps : List (Step × Nat)) (x : XState), Inv x.core → InvX x →
    Inv (xrun cfg x steps).core ∧ InvX (xrun cfg x steps) := by
  intro steps
  induction steps with
  | nil => intro x h hx; exact ⟨h, hx⟩
  | cons p rest ih =>
    intro x h hx
    obtain ⟨st, n⟩ := p
    have h' : Inv (xstep cfg x st n).core := by rw [xstep_core, stepC_good hg]; exact step_inv h st
    exact ih _ h' (xstep_invX hg h hx st n)

/-- `reachableC` for the argument layer -/
theorem reachableX {cfg : Cfg} (hg : cfg.Good) (steps : List (Step × Nat)) :
    Inv (xrun cfg xinit steps).core ∧ Inv2 (xrun cfg xinit steps).core ∧ InvX (xrun cfg xinit steps) := by
  obtain ⟨I, IX⟩ := xrun_inv hg steps xinit Inv_init InvX_init
  refine ⟨I, ?_, IX⟩
  rw [xrun_core]; exact (reachableC hg _).2

theorem step_eng (s : State) (st : Step) : (step s st).eng = s.eng ∨ (∃ b, st = .ioPop b) ∨ (∃ x, st = .ioComplete x) ∨
    (∃ x, st = .ioFail x) ∨ (∃ x, st = .ioPeerClose x) ∨ ∃ x, st = .timerClose x := by
  cases st
  case ioPop b => exact .inr (.inl ⟨b, rfl⟩)
  case ioComplete x => exact .inr (.inr (.inl ⟨x, rfl⟩))
  case ioFail x => exact .inr (.inr (.inr (.inl ⟨x, rfl⟩)))
  case ioPeerClose x => exact .inr (.inr (.inr (.inr (.inl ⟨x, rfl⟩))))
  case timerClose x => exact .inr (.inr (.inr (.inr (.inr ⟨x, rfl⟩))))
  case cancel c => exact .inl rfl
  all_goals
    refine .inl ?_
    simp only [step, doCall, doEnter, doConnect, doRefuse, doRegister, doPark, doWake, afterWait, doClose, doRelock,
      doWLoop, doIoStep, connHandler, closeHandler, notify, doFence, ret]
    (repeat' split) <;> rfl

/-- The engine steps read once more, for one established session `sid`: a Connect popped for it is ignored, completion and failure
(`doFail`: `ioFail`, and `timerClose`, tagged under `Cfg.engine`) act on a pending connect only; what closes it is the peer or a Close
command at the head of the FIFO. -/
theorem step_keeps_established (s : State) (st : Step) (sid : Nat) (he : s.eng sid = .established) :
    (step s st).eng sid = .established ∨ st = .ioPeerClose sid ∨ (∃ b, st = .ioPop b ∧ s.fifo.head? = some (.close sid)) := by
  have keep {sid' : Nat} {e : ES} (hs : sid' ≠ sid) : setE s.eng sid' e sid = .established := by rw [setE_other _ _ (Ne.symm hs), he]
  have fail (sid' : Nat) : (doFail s sid').eng sid = .established := by
    simp only [doFail]
    split
    · rename_i hio hc
      by_cases hs : sid' = sid
      · subst hs; rw [he] at hc; cases hc
      · exact keep hs
    · exact he
  rcases step_eng s st with e | ⟨b, rfl⟩ | ⟨sid', rfl⟩ | ⟨sid', rfl⟩ | ⟨sid', rfl⟩ | ⟨sid', rfl⟩
  · exact .inl (by rw [e, he])
  · simp only [step, doPop]
    split
    · rename_i sid' rest hio hf
      by_cases hs : sid' = sid
      · subst hs; simp [he]
      · split
        · split <;> exact .inl (keep hs)
        · exact .inl he
    · rename_i sid' rest hio hf
      by_cases hs : sid' = sid
      · subst hs; exact .inr (.inr ⟨b, rfl, by simp [hf]⟩)
      · split <;> first | exact .inl (keep hs) | exact .inl he
    · exact .inl he
  · simp only [step, doComplete]
    split
    · rename_i hio hc
      by_cases hs : sid' = sid
      · subst hs; rw [he] at hc; cases hc
      · exact .inl (keep hs)
    · exact .inl he
  · exact .inl (fail sid')
  · by_cases hs : sid' = sid
    · subst hs; exact .inr (.inl rfl)
    · simp only [step, doPeerClose]
      split
      · exact .inl (keep hs)
      · exact .inl he
  · exact .inl (fail sid')

theorem closeBegins_not_closed (s : State) (st : Step) (sid : Nat) (h : closeBegins s st = some sid) : s.eng sid ≠ .closed := by
  cases st <;> simp only [closeBegins] at h
  case ioPop b =>
    split at h
    · split at h
      · rename_i hc; simp at h hc; subst h; rw [hc.1]; simp
      · cases h
    · split at h
      · rename_i hc; simp at h hc; subst h; rcases hc with hc | hc <;> rw [hc] <;> simp
      · cases h
    · cases h
  case ioFail sid' =>
    split at h
    · rename_i hc; simp at h hc; subst h; rw [hc.2]; simp
    · cases h
  case ioPeerClose sid' =>
    split at h
    · rename_i hc; simp at h hc; subst h; rw [hc.2]; simp
    · cases h
  case timerClose sid' =>
    split at h
    · rename_i hc; simp at h hc; subst h; rw [hc.2]; simp
    · cases h
  all_goals cases h

theorem xstep_reason (cfg : Cfg) (x : XState) (st : Step) (n : Nat) :
    (xstep cfg x st n).reason = match closeBegins x.core st with | some sid => setN x.reason sid n | none => x.reason := by
  unfold xstep
  cases st <;> dsimp only
  case call | cConnect => split <;> rfl
  all_goals generalize closeBegins x.core _ = o; cases o <;> rfl

theorem reason_frozen (cfg : Cfg) (x : XState) (st : Step) (n sid : Nat) (hc : x.core.eng sid = .closed) :
    (xstep cfg x st n).reason sid = x.reason sid := by
  rw [xstep_reason]
  split
  · rename_i sid' hb
    have hne : sid ≠ sid' := fun e => closeBegins_not_closed _ _ _ hb (e ▸ hc)
    simp [setN, hne]
  · rfl

end Iora.ConnectSync
