import IoraModel.Lemmas.AssetsWc
/-!
C20: the roots `Assets::fromDirectory` computes — a sub-directory name appended to a canonical root and passed through
`weakly_canonical` is a canonical absolute root again (`subroot_ok`, for A0).
-/
namespace Iora.Assets
open Iora

/-- `fromDirectory` passes `root / sub` through `weakly_canonical` and keeps it as it is when that fails: a canonical root either way -/
theorem subroot_ok (fs : Fs) (L : Loc) (hL : LocOK L) (sub : Bytes) (hsub : Plain sub ∧ (0 : UInt8) ∉ sub) :
    ∃ bn, RootOK (match weaklyCanonical fs (pathAppend (renderLoc L) sub) with
                  | .ok r => r
                  | .error _ => pathAppend (renderLoc L) sub) bn := by
  have hs : pathAppend (renderLoc L) sub = renderAbs (L.reverse ++ [sub]) := by
    rw [renderLoc_eq]; exact pathAppend_renderAbs_name L.reverse sub hL.todo.names hsub.1.1
  have hnames : ∀ n ∈ L.reverse ++ [sub], Plain n ∧ (0 : UInt8) ∉ n := by
    intro n hn
    rcases List.mem_append.mp hn with hn | hn
    · exact hL.reverse n hn
    · simp at hn; subst hn; exact hsub
  rw [hs]
  have hself : RootOK (renderAbs (L.reverse ++ [sub])) (L.reverse ++ [sub]) := ⟨rfl, hnames⟩
  cases hw : weaklyCanonical fs (renderAbs (L.reverse ++ [sub])) with
  | error e => exact ⟨_, hself⟩
  | ok r =>
    simp only
    rcases wc_cases fs _ _ hw with ⟨L', e, hk, hr⟩ | hnf
    · subst hr
      obtain ⟨_, hL', _, _⟩ := kwalk_abs_ok fs true _ hself.absOK.no_nul hself.absOK.abs L' e hk
      exact ⟨_, .of_loc hL'⟩
    · obtain ⟨M, tsl, hM, rfl, htsl⟩ := wc_missing_normal fs _ r hself.absOK hnf hw
      rw [htsl (trailSlash_renderAbs _ (fun n hn => (hnames n hn).1.1) (by simp))
        (by rw [hself.comps]; simpa using hsub.1.ne_dot), npath_false]
      exact ⟨_, .of_loc hM⟩

end Iora.Assets
