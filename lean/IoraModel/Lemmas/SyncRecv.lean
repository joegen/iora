import IoraModel.Lemmas.SyncRecvEff
/-! The C03 model (`Model/SyncRecv.lean`): the per-session invariant `InvS` with one preservation lemma per operation, the global `Inv` and its
induction over disciplined runs; what a `PeerClosed` answer says in a state that satisfies `Inv` (T2); what a receive answers, at its entry or
at its wake-up, when the wait predicate holds (any state). -/
namespace Iora.SyncRecv
open Iora

def pd : Option Bytes → Bytes
  | some d => d
  | none => []

@[simp] theorem pd_none : pd none = [] := rfl
@[simp] theorem pd_some (d : Bytes) : pd (some d) = d := rfl

/-- the skeleton facts the model is instantiated with (`C03.skeleton_conforms`: they hold of `genCfg`, by `decide` from Gen) -/
def Cfg.Good (cfg : Cfg) : Prop :=
  cfg.notifyOnData = true ∧ cfg.notifyOnOverflow = true ∧ cfg.notifyOnClose = true

/-- The per-session invariant without its wake-up clause; `sh` = global `shuttingDown`, `po` = the chunk pending for this session's
data callback (`pendO`).
* `E` conservation: handed out, held by a flusher, buffered, pending — in this order — is what was accepted (T1). `A`: that is all that
  arrived while nothing was dropped (T1); `Pre`: and a prefix of it unless the application went Async after a drop (T1, receiver's view).
* `I1`, `I2` keep `E` ordered: while a chunk is pending (then the session is live), and whenever a live session is in Async mode, nothing is
  buffered or held (T3).
* `D` a closed buffer belongs to a dead session; `B` a live Sync session has a buffer; `P` so has a parked receiver; `X` nobody is
  parked during a flush; `H` `hasData` mirrors the buffer (FC03a; T4).
* Two clauses about a dropped chunk (`gap`). `G`, for a LIVE session: its buffer is overflowed, or the fence is up with nobody
  parked — and then the handler drops again, hence `L`: nothing is appended after a drop (T5, F15). `GO`, for what a later receive
  will say, tombstone GC included: outside teardown the overflowed buffer still exists — so a receive that finds it closed does not
  answer `PeerClosed` (T2) — or the overflow has been reported and no closed buffer is left (T5, FC03d): the GC may have dropped the
  buffer, an absent one reads as not closed (`bufOf`), and only a closed one answers `PeerClosed`; `R`: `reported` is set only by a receive
  that answered `BufferOverflow`. -/
structure InvC (sh : Bool) (po : Option Bytes) (x : Sess) : Prop where
  E : x.out ++ inflight x ++ bufData x ++ pd po = x.accepted
  A : x.gap = false → x.accepted = x.arrived
  Pre : x.lateAsync = false → ∃ t, x.arrived = x.accepted ++ t
  I1 : po.isSome = true → inflight x = [] ∧ bufData x = [] ∧ x.dead = false
  I2 : effMode x = .async → x.dead = false → bufData x = [] ∧ inflight x = []
  D : (bufOf x).closed = true → x.dead = true
  B : effMode x = .sync → x.dead = false → x.buf.isSome = true
  P : x.parked.isSome = true → x.buf.isSome = true
  X : x.flush.isSome = true → x.parked = none
  H : (bufOf x).hasData = !(bufData x).isEmpty
  G : x.gap = true → x.dead = false → (bufOf x).overflow = true ∨ (sh = true ∧ x.parked = none)
  L : x.lateSync = false
  GO : x.gap = true → sh = true ∨ (bufOf x).overflow = true ∨ (x.ovfSeen = true ∧ (bufOf x).closed = false)
  R : (bufOf x).reported = true → x.ovfSeen = true

/-- `InvC` and no lost wake-up (T6): a parked receiver whose wait predicate holds by data, close or overflow has been notified. A write
to the buffer breaks `W` until the notify that follows it under the same lock (`wake_true`), which is why the two are kept apart. -/
structure InvS (sh : Bool) (po : Option Bytes) (x : Sess) : Prop extends InvC sh po x where
  W : ∀ p, x.parked = some p → ((bufOf x).hasData || (bufOf x).closed || (bufOf x).overflow) = true → p.awake = true

theorem InvS_init (sh : Bool) : InvS sh none ({} : Sess) := by
  constructor
  · constructor <;> simp [inflight, bufData, effMode, bufOf]
  · simp

/-- T1, receiver's view: what has been handed out is a prefix of what arrived -/
theorem InvC.out_prefix {sh po x} (h : InvC sh po x) (hl : x.lateAsync = false) : ∃ t, x.arrived = x.out ++ t := by
  obtain ⟨t, ht⟩ := h.Pre hl
  exact ⟨inflight x ++ bufData x ++ pd po ++ t, by rw [ht, ← h.E]; simp [List.append_assoc]⟩

/-- T3: a live session in Async mode has nothing buffered or held -/
theorem InvC.async_flushed {sh po x} (h : InvC sh po x) (hm : effMode x = .async) (hl : x.dead = false) :
    bufData x = [] ∧ inflight x = [] ∧ x.out ++ pd po = x.accepted := by
  obtain ⟨h1, h2⟩ := h.I2 hm hl
  refine ⟨h1, h2, ?_⟩
  have := h.E; rw [h1, h2] at this; simpa using this

/-- T5: outside teardown a dropped chunk has been reported or the overflowed buffer is still there -/
theorem InvC.gap_reported {sh po x} (h : InvC sh po x) (hg : x.gap = true) (hsh : sh = false) :
    x.ovfSeen = true ∨ ∃ b, x.buf = some b ∧ b.overflow = true := by
  rcases h.GO hg with k | k | k
  · exact nomatch hsh.symm.trans k
  · right
    cases hb : x.buf with
    | none => rw [bufOf, hb] at k; cases k
    | some b => exact ⟨b, rfl, bufOf_some hb ▸ k⟩
  · exact .inl k.1

theorem InvS.unpark {sh po x} (h : InvS sh po x) : InvS sh po { x with parked := none } :=
  { h with
    X := fun _ => rfl
    P := fun k => nomatch k
    G := fun hg hd => (h.G hg hd).imp_right fun a => ⟨a.1, rfl⟩
    W := fun _ k => nomatch k }

/-- A closed, drained buffer is dropped, its overflow reported if it had one: what an EOF answer (which also clears the mode, `m`, and sets
`eof`, `e`) and the tombstone GC both do. The session is dead (`D`), so the clauses about live sessions hold emptily. -/
theorem InvS.drop {sh po x} (m : Option Mode) (e : Bool) (h : InvS sh po x) (hc : (bufOf x).closed = true) (hd : bufData x = [])
    (ho : (bufOf x).overflow = true → (bufOf x).reported = true) :
    InvS sh po { x with buf := none, mode := m, parked := none, eof := e } := by
  have hdead := h.D hc
  have hE := h.E
  rw [hd] at hE
  exact { h.unpark with
    E := hE
    I1 := fun hp => nomatch hdead.symm.trans (h.I1 hp).2.2
    I2 := fun _ k => nomatch hdead.symm.trans k
    D := fun k => nomatch k
    P := fun k => nomatch k
    H := rfl
    B := fun _ k => nomatch hdead.symm.trans k
    G := fun _ k => nomatch hdead.symm.trans k
    GO := fun hg => (h.GO hg).imp_right fun k => .inr ⟨k.elim (fun k => h.R (ho k)) (·.1), rfl⟩
    R := fun k => nomatch k
    W := fun _ k => nomatch k }

/-- a notify writes `awake` only, which no clause but `W` reads; `hW` is `W` of the flag it writes -/
theorem InvS.wake {sh po x} (r : Bool) (h : InvC sh po x)
    (hW : ∀ p, x.parked = some p → ((bufOf x).hasData || (bufOf x).closed || (bufOf x).overflow) = true → (p.awake || r) = true) :
    InvS sh po (wake x r) := by
  rcases x with ⟨_, _, _ | p⟩
  · exact { h with W := fun _ k => nomatch k }
  · exact { h with
      X := fun k => nomatch h.X k
      G := fun hg hd => (h.G hg hd).imp_right fun a => nomatch a.2
      W := fun _ hp hc => by cases hp; exact hW p rfl hc }

theorem wake_inv {sh po x} (r : Bool) (h : InvS sh po x) : InvS sh po (wake x r) :=
  .wake r h.toInvC fun p hp hc => by rw [h.W p hp hc]; rfl

theorem wake_true {sh po x} (h : InvC sh po x) : InvS sh po (wake x true) := .wake true h fun _ _ _ => Bool.or_true _

theorem InvS.fence {sh po x} (h : InvS sh po x) : InvS true po x :=
  { h with
    G := fun hg hd => (h.G hg hd).imp_right fun a => ⟨rfl, a.2⟩
    GO := fun _ => .inl rfl }

/-- `hf`: a receive never overlaps a flush of its session (`ok` for one that enters, `X` for a parked one). It is needed for `E`: the bytes
a receive takes go to `out` ahead of `inflight`, so the order is kept only if no flusher holds bytes. -/
theorem drain_inv {sh po x b} (len : Nat) (h : InvS sh po x) (hb : x.buf = some b) (hf : x.flush = none) :
    InvS sh po (drain x b len).1 := by
  cases x; cases hb; cases hf
  unfold drain
  split
  · next hne =>
    exact { h.unpark with
      E := by simpa [inflight, bufData] using h.E
      I1 := fun hp => absurd (h.I1 hp).2.1 hne
      I2 := fun hm hd => absurd (h.I2 hm hd).1 hne
      H := rfl
      W := fun _ k => nomatch k }
  · next hd =>
    have hd : b.data = [] := Decidable.not_not.mp hd
    split
    · next ho => exact { h.unpark with GO := fun _ => .inr (.inl ho), R := fun _ => rfl }
    · next ho =>
      split
      · next hc => exact h.drop none true hc hd fun k => absurd k ho
      · exact h.unpark

theorem recvEnterS_inv_buf {po x b} (len : Nat) (h : InvS false po x) (hb : x.buf = some b) (hf : x.flush = none) :
    InvS false po (recvEnterS false x len).1 := by
  cases x; cases hb; cases hf
  simp only [recvEnterS, Bool.false_eq_true, if_false]
  split
  · exact h
  · split
    · exact drain_inv len h rfl rfl
    · next hpr =>
      have hpr : (b.hasData = false ∧ b.closed = false) ∧ b.overflow = false := by simpa [pred] using hpr
      exact { h with
        X := fun k => nomatch k
        P := fun _ => rfl
        G := fun hg hd => (h.G hg hd).elim (fun k => nomatch hpr.2.symm.trans k) fun k => nomatch k.1
        W := fun _ _ k => by simp [bufOf, hpr] at k }

/-- the entry section creates the buffer if there is none, and goes on as for a session that has it -/
theorem recvEnterS_none {x : Sess} (len : Nat) (hb : x.buf = none) :
    recvEnterS false x len = recvEnterS false { x with buf := some {} } len := by
  cases x; cases hb; rfl

theorem recvEnterS_inv {sh po x} (len : Nat) (h : InvS sh po x) (hf : x.flush = none) :
    InvS sh po (recvEnterS sh x len).1 := by
  cases sh
  · rcases x with ⟨_, _ | b⟩
    · rw [recvEnterS_none len rfl]
      exact recvEnterS_inv_buf len { h with P := fun _ => rfl, B := fun _ _ => rfl } rfl hf
    · exact recvEnterS_inv_buf len h rfl hf
  · exact h

theorem recvWakeS_inv {sh po x} (t : Bool) (h : InvS sh po x) : InvS sh po (recvWakeS sh x t).1 := by
  unfold recvWakeS
  split
  · next p b hp hb =>
    have hf : x.flush = none := Option.not_isSome_iff_eq_none.mp fun k => nomatch (h.X k).symm.trans hp
    split
    · exact drain_inv p.len h hb hf
    · next hpr =>
      split
      · exact h.unpark
      · cases x; cases hp; cases hb
        exact { h with
          X := fun k => nomatch h.X k
          G := fun hg hd => (h.G hg hd).imp_right fun a => nomatch a.2
          W := fun _ _ k => absurd (by have : (b.hasData || b.closed || b.overflow) = true := k; rw [pred, this]; rfl) hpr }
  · exact h

theorem waiters_zero {x : Sess} : waiters x = 0 ↔ x.parked = none := by
  rcases x with ⟨_, _, _ | p⟩ <;> simp [waiters]

theorem ioDataS_inv {cfg sh x} (chunk : Bytes) (hg : cfg.Good) (h : InvS sh none x) (hd : x.dead = false) :
    InvS sh (if (ioDataS cfg sh x chunk).2 = .toCallback then some chunk else none) (ioDataS cfg sh x chunk).1 := by
  have pre : x.lateAsync = false → ∃ t, x.arrived ++ chunk = x.accepted ++ t := fun hl =>
    let ⟨t, ht⟩ := h.Pre hl; ⟨t ++ chunk, by rw [ht, List.append_assoc]⟩
  obtain ⟨hnd, hno, _⟩ := hg
  unfold ioDataS
  split
  · next hm =>
    split
    · next hb => exact nomatch (congrArg Option.isSome hb).symm.trans (h.B hm hd)
    · next b hb =>
      cases x; cases hb
      split
      · next hc =>
        obtain ⟨hsh, hw⟩ : sh = true ∧ _ = none := by simpa [waiters_zero] using hc
        exact { h with
          G := fun _ _ => .inr ⟨hsh, hw⟩
          A := fun k => nomatch k
          Pre := pre
          GO := fun _ => .inl hsh }
      · next hc =>
        split
        · next ho =>
          exact { h with
            G := fun _ _ => .inl ho
            A := fun k => nomatch k
            Pre := pre
            GO := fun _ => .inr (.inl ho) }
        · next ho =>
          split
          · -- the overflow flag is written and notified under the same lock (`hno`), which is what restores `W` (`wake_true`)
            rw [hno]
            exact wake_true { h with
              G := fun _ _ => .inl rfl
              A := fun k => nomatch k
              Pre := pre
              GO := fun _ => .inr (.inl rfl) }
          · -- buffered: no chunk of this live session has been dropped (`G`: not overflowed, not fenced-and-unparked)
            have hgap : _ = false := Bool.eq_false_iff.mpr fun k =>
              (h.G k hd).elim ho fun a => hc (by simpa [waiters_zero] using a)
            rw [hnd]
            show InvS sh none _
            exact wake_true { h with
              E := by simpa [inflight, bufData] using congrArg (· ++ chunk) h.E
              I1 := fun k => nomatch k
              I2 := fun k => nomatch hm.symm.trans k
              H := rfl
              L := by show (_ || _) = false; rw [h.L, hgap]; rfl
              A := fun _ => congrArg (· ++ chunk) (h.A hgap)
              Pre := fun _ => ⟨[], by rw [h.A hgap, List.append_nil]⟩ }
  · exact h
  · next hm =>
    have hi := h.I2 hm hd
    show InvS sh (some chunk) _
    exact { h with
      E := by
        show x.out ++ inflight x ++ bufData x ++ chunk = x.accepted ++ chunk
        rw [← h.E, hi.1, hi.2]; simp
      I1 := fun _ => ⟨hi.2, hi.1, hd⟩
      A := fun k => congrArg (· ++ chunk) (h.A k)
      Pre := fun k => ⟨[], by rw [h.A (Bool.or_eq_false_iff.mp k).2, List.append_nil]⟩ }

/-- the close handler's writes commute with its notify -/
theorem ioCloseS_eq (cfg : Cfg) (x : Sess) : ioCloseS cfg x =
    match x.buf with
    | some b => wake { x with buf := some { b with closed := true }, mode := none, dead := true } cfg.notifyOnClose
    | none => { x with buf := some { closed := true }, mode := none, dead := true } := by
  rcases x with ⟨_, _ | b, _ | p⟩ <;> rfl

theorem ioCloseS_inv {cfg sh x} (hg : cfg.Good) (h : InvS sh none x) (hd : x.dead = false) : InvS sh none (ioCloseS cfg x) := by
  obtain ⟨_, _, hnc⟩ := hg
  rw [ioCloseS_eq, hnc]
  rcases x with ⟨_, _ | b⟩
  · exact { h with
      I1 := fun k => nomatch k
      I2 := fun _ k => nomatch k
      D := fun _ => rfl
      P := fun _ => rfl
      B := fun k => nomatch k
      G := fun _ k => nomatch k
      GO := fun hg => (h.G hg hd).elim (fun k => nomatch k) fun k => .inl k.1
      W := fun p hp => nomatch h.P (congrArg Option.isSome hp) }
  · exact wake_true { h with
      I1 := fun k => nomatch k
      I2 := fun _ k => nomatch k
      D := fun _ => rfl
      B := fun k => nomatch k
      G := fun _ k => nomatch k
      GO := fun hg => (h.G hg hd).elim (fun k => .inr (.inl k)) fun k => .inl k.1 }

theorem deliver_inv {sh x d} (h : InvS sh (some d) x) : InvS sh none { x with out := x.out ++ d } :=
  have h1 := h.I1 rfl
  { h with
    E := by
      show x.out ++ d ++ inflight x ++ bufData x ++ [] = x.accepted
      rw [← h.E, h1.1, h1.2.1]; simp
    I1 := fun k => nomatch k }

/-- the tombstone GC (`reclaimable`): closed (so dead, `D`), drained, unused, its overflow reported if it had one -/
theorem gc_inv {sh po y} (h : InvS sh po y) (hr : reclaimable y = true) : InvS sh po { y with buf := none } := by
  rcases y with ⟨_, _ | b, _ | p⟩
  · cases hr
  · cases hr
  · obtain ⟨⟨⟨hc, hh⟩, _⟩, ho⟩ : ((b.closed = true ∧ b.hasData = false) ∧ _) ∧ (b.overflow = false ∨ b.reported = true) := by
      simpa [reclaimable, waiters] using hr
    -- `parked` is `none` in this case, so the goal is the session of `InvS.drop` for the mode and `eof` the session has
    exact h.drop _ _ hc (by simpa [bufOf, bufData, hh] using h.H) fun k => ho.resolve_left fun e => nomatch e.symm.trans k
  · simp [reclaimable, waiters] at hr

theorem setModeS_inv {cfg sh po x} (m : Mode) (h : InvS sh po x) (hf : x.flush = none)
    (hp : flushPath x m = true → x.parked = none) : InvS sh po (setModeS cfg x m).1 := by
  unfold setModeS
  split
  · exact h
  · split
    · exact h
    · split
      · next hfp =>
        cases x; cases hf
        exact { h with X := fun _ => hp hfp }
      · next hfp =>
        cases m
        · -- Async is registered only for a session whose mode is Async already (otherwise: the flush path)
          have hm : effMode x = .async := by simpa [flushPath] using hfp
          exact { h with I2 := fun _ => h.I2 hm, B := fun k => nomatch k }
        · rcases x with ⟨_, _ | b⟩
          · exact { h with I2 := fun k => nomatch k
                           P := fun _ => rfl
                           B := fun _ _ => rfl }
          · exact { h with I2 := fun k => nomatch k
                           B := fun _ _ => rfl }
        · exact { h with I2 := fun k => nomatch k
                         B := fun k => nomatch k }

theorem flushStepS_inv {sh po x} (h : InvS sh po x) : InvS sh po (flushStepS sh x).1 := by
  unfold flushStepS
  split
  · exact h
  · next hf =>
    cases x; cases hf
    split
    · exact { h with X := fun k => nomatch k }
    · split
      · next hb =>
        cases hb
        exact { h with I2 := fun _ _ => ⟨rfl, rfl⟩
                       X := fun k => nomatch k
                       B := fun k => nomatch k }
      · -- the leaf only moves `flush` from `begin` to `loop`, which `isSome` and `inflight` read alike (no clause reads `flushing`):
        -- each clause of `h` is, by reduction, the clause of the new session
        exact { h with }
  · next hf =>
    cases x; cases hf
    split
    · exact { h with }
    · split
      · next b hb =>
        cases hb
        split
        · next hne =>
          -- the flusher takes the buffered bytes; nobody is parked while a flush is in progress (`X`)
          exact { h with
            E := by simpa [inflight, bufData] using h.E
            I1 := fun k => absurd (h.I1 k).2.1 hne
            I2 := fun hm hd => absurd (h.I2 hm hd).1 hne
            H := rfl
            W := fun _ hp => nomatch (h.X rfl).symm.trans hp }
        · next hd =>
          exact { h with I2 := fun _ _ => ⟨Decidable.not_not.mp hd, rfl⟩, B := fun k => nomatch k }
      · next hb =>
        cases hb
        exact { h with I2 := fun _ _ => ⟨rfl, rfl⟩, B := fun k => nomatch k }
  · next d hf =>
    cases x; cases hf
    exact { h with
      E := by simpa [inflight, bufData] using h.E
      I1 := fun k => ⟨rfl, (h.I1 k).2⟩
      I2 := fun hm hd => ⟨(h.I2 hm hd).1, rfl⟩ }
  · next hf =>
    cases x; cases hf
    exact { h with X := fun k => nomatch k }

/-- a dropped chunk outside teardown leaves a buffer that cannot answer `PeerClosed`: it is overflowed (sticky) or not closed -/
def G2S (sh : Bool) (x : Sess) : Prop :=
  x.gap = true → sh = true ∨ (∀ b, x.buf = some b → b.overflow = true ∨ b.closed = false)

theorem wake_g2 {sh : Bool} {x : Sess} (r : Bool) (h : G2S sh x) : G2S sh (wake x r) := by
  unfold wake; split <;> simpa [G2S] using h

/-! ## the global invariant -/

def Inv (s : State) : Prop := ∀ j, InvS s.shuttingDown (pendO s j) (s.sess j)

theorem Inv_init : Inv init := fun _ => InvS_init false

theorem pendO_none_of_ioPend {s : State} (h : s.ioPend = none) (j : Nat) : pendO s j = none := by simp [pendO, h]

/-- the engine contract, the same for both deliveries: nothing arrives for a closed session, and the I/O thread is one thread -/
theorem ok_ioData {s : State} {sid : Nat} {c : Bytes} (h : ok s (.ioData sid c) = true) :
    (s.sess sid).dead = false ∧ s.ioPend = none := by
  simpa [ok] using h

theorem ok_ioClose {s : State} {sid : Nat} (h : ok s (.ioClose sid) = true) : (s.sess sid).dead = false ∧ s.ioPend = none := by
  simpa [ok] using h

theorem Inv.idle {s : State} (h : Inv s) (hp : s.ioPend = none) (j : Nat) : InvS s.shuttingDown none (s.sess j) :=
  pendO_none_of_ioPend hp j ▸ h j

theorem Inv.upd {s : State} (h : Inv s) {sid : Nat} {x' : Sess} (hx : InvS s.shuttingDown (pendO s sid) x') (j : Nat) :
    InvS s.shuttingDown (pendO s j) (upd s.sess sid x' j) :=
  upd_cases (P := InvS s.shuttingDown (pendO s j)) (fun e => e ▸ hx) fun _ => h j

theorem step_inv {cfg : Cfg} (hg : cfg.Good) {s : State} (h : Inv s) (st : Step) (hok : ok s st = true) :
    Inv (step cfg s st).1 := by
  cases st with
  | ioData sid chunk =>
    obtain ⟨hd, hp⟩ := ok_ioData hok
    have hs := ioDataS_inv (cfg := cfg) chunk hg (h.idle hp sid) hd
    simp only [step, hp]
    -- the pending chunk, if any, is `sid`'s
    intro j
    by_cases hj : j = sid
    · subst hj
      by_cases hc : (ioDataS cfg s.shuttingDown (s.sess j) chunk).2 = .toCallback <;> simpa [pendO, hc] using hs
    · by_cases hc : (ioDataS cfg s.shuttingDown (s.sess sid) chunk).2 = .toCallback <;>
        simpa [pendO, hc, upd_other _ _ hj, Ne.symm hj] using h.idle hp j
  | ioDeliver =>
    unfold step
    cases hp : s.ioPend with
    | none => exact h
    | some q =>
      obtain ⟨sid, d⟩ := q
      intro j
      have hj := h j
      by_cases e : j = sid
      · subst e
        simpa [pendO, hp] using deliver_inv (by simpa [pendO, hp] using hj)
      · simpa [pendO, hp, upd_other _ _ e, Ne.symm e] using hj
  | ioClose sid =>
    obtain ⟨hd, hp⟩ := ok_ioClose hok
    have h0 := h.idle hp
    simp only [step, hp, closeSess]
    intro j
    show InvS s.shuttingDown none (if j = sid then _ else _)
    split
    · next e => subst e; exact ioCloseS_inv hg (h0 _) hd
    · split
      · next hgc => exact gc_inv (h0 j) (Bool.and_eq_true_iff.mp hgc).2
      · exact h0 j
  | recvEnter sid len =>
    have hf : (s.sess sid).flush = none := by simpa [ok] using hok
    exact h.upd (recvEnterS_inv len (h sid) hf)
  | recvWake sid t => exact h.upd (recvWakeS_inv t (h sid))
  | setMode sid m =>
    obtain ⟨hf, hp⟩ : (s.sess sid).flush = none ∧ (flushPath (s.sess sid) m = false ∨ (s.sess sid).parked = none) := by
      simpa [ok] using hok
    exact h.upd (setModeS_inv m (h sid) hf fun k => hp.resolve_left (by simp [k]))
  | flushStep sid => exact h.upd (flushStepS_inv (h sid))
  | ioCloseCb sid =>
    simp only [step]
    split <;> exact h
  | fence n => exact fun j => (wake_inv n (h j)).fence

/-! ## disciplined runs -/

theorem disciplined_append (cfg : Cfg) : ∀ (a b : List Step) (s : State),
    Disciplined cfg s (a ++ b) ↔ Disciplined cfg s a ∧ Disciplined cfg (run cfg s a).1 b := by
  intro a
  induction a with
  | nil => intro b s; simp [Disciplined, run_nil]
  | cons st rest ih =>
    intro b s
    simp only [List.cons_append, Disciplined, run_cons, ih, and_assoc]

theorem disciplinedB_iff (cfg : Cfg) : ∀ (steps : List Step) (s : State),
    disciplinedB cfg s steps = true ↔ Disciplined cfg s steps := by
  intro steps
  induction steps with
  | nil => intro s; simp [disciplinedB, Disciplined]
  | cons st rest ih => intro s; simp [disciplinedB, Disciplined, ih]

theorem run_induction {cfg : Cfg} {P : State → Prop} (hs : ∀ s st, ok s st = true → P s → P (step cfg s st).1) :
    ∀ (steps : List Step) (s : State), P s → Disciplined cfg s steps → P (run cfg s steps).1 := by
  intro steps
  induction steps with
  | nil => exact fun _ h _ => h
  | cons st rest ih => exact fun s h hd => ih _ (hs s st hd.1 h) hd.2

theorem run_inv {cfg : Cfg} (hg : cfg.Good) : ∀ (steps : List Step) (s : State), Inv s → Disciplined cfg s steps →
    Inv (run cfg s steps).1 :=
  run_induction fun _ st hok h => step_inv hg h st hok

/-! ## what a `PeerClosed` answer says in a state that satisfies the invariant (T2) -/

theorem inflight_of_flushing {x : Sess} (h : flushing x = false) : inflight x = [] := by
  unfold inflight; split
  · next d hf => simp [flushing, hf] at h
  · rfl

/-- T2 for one step, disciplined or not: the buffer was empty, afterwards everything accepted is out — all that arrived if nothing was
dropped — and outside teardown nothing was dropped (`GO`). `Eff.eof` says what the answer means for the session; the invariant adds that a
closed buffer belongs to a dead session, for which nothing is pending (`D`, `I1`), and that no flusher holds bytes (`X`). -/
theorem peerClosed_drained {cfg : Cfg} {s : State} (h : Inv s) {st : Step} {sid : Nat}
    (hev : Ev.recvRet sid .peerClosed ∈ (step cfg s st).2) :
    bufData (s.sess sid) = [] ∧ ((step cfg s st).1.sess sid).out = ((step cfg s st).1.sess sid).accepted ∧
      (((step cfg s st).1.sess sid).gap = false → ((step cfg s st).1.sess sid).out = ((step cfg s st).1.sess sid).arrived) ∧
      (s.shuttingDown = false → ((step cfg s st).1.sess sid).gap = false) := by
  obtain ⟨hq, hd, ho, hc, e⟩ := (step_eff cfg s st sid).eof hev
  have hi := h sid
  have hdead := hi.D hc
  have hpo : pendO s sid = none := Option.not_isSome_iff_eq_none.mp fun k => nomatch hdead.symm.trans (hi.I1 k).2.2
  have hfl : inflight (s.sess sid) = [] := hq.elim inflight_of_flushing fun k => by
    have hf : (s.sess sid).flush = none := Option.not_isSome_iff_eq_none.mp fun f => by rw [hi.X f] at k; cases k
    rw [inflight, hf]
  have hbd : bufData (s.sess sid) = [] := (bufData_eq _).trans hd
  have hout : (s.sess sid).out = (s.sess sid).accepted := by simpa [hfl, hbd, hpo] using hi.E
  rw [e]
  refine ⟨hbd, hout, fun hg => hout.trans (hi.A hg), fun hsh => Bool.eq_false_iff.mpr fun hg => ?_⟩
  rcases hi.GO hg with k | k | k
  · exact nomatch hsh.symm.trans k
  · exact nomatch ho.symm.trans k
  · exact nomatch hc.symm.trans k.2

/-! ## what a receive answers when its wait predicate holds -/

/-- the answer of `drain` depends on the buffer alone: the bytes if there are any, else `BufferOverflow` (T5) before `PeerClosed` (T7). The last
branch is for a receive the teardown fence has woken (`pred` by `sh`); where the wait predicate holds by the buffer, as in the two lemmas
below, it would take `hasData` without data, which `InvC.H` excludes. -/
theorem drain_answer (x : Sess) (b : Buf) (len : Nat) : (drain x b len).2 =
    if b.data ≠ [] then .ok (b.data.take (min len b.data.length)) else if b.overflow then .overflow
      else if b.closed then .peerClosed else .shuttingDown := by
  unfold drain
  repeat' split
  all_goals rfl

/-- entered outside teardown, with nobody parked and no flusher at work (`flushing`), on a buffer that satisfies the wait predicate, a receive
answers at once -/
theorem recvEnter_answers (cfg : Cfg) (s : State) (sid len : Nat) (b : Buf) (hsh : s.shuttingDown = false)
    (hb : (s.sess sid).buf = some b) (hp : (s.sess sid).parked = none) (hf : flushing (s.sess sid) = false)
    (hpr : (b.hasData || b.closed || b.overflow) = true) :
    (step cfg s (.recvEnter sid len)).2 = [.recvRet sid (drain (s.sess sid) b len).2] := by
  -- `flushing` is unfolded on both sides: in the goal it stands at the session with the buffer put in place, and it reads `flush` only
  unfold flushing at hf
  simp only [step, recvEnterS, hsh, hb, waiters, hp, flushing, hf, pred, hpr, drain_answer, evRecv, Bool.false_eq_true, if_false,
    Bool.or_false, Nat.lt_irrefl, decide_false, Bool.or_self, if_true]

/-- so does the wake-up of a parked receive (any state) -/
theorem recvWake_answers (cfg : Cfg) (s : State) (sid : Nat) (t : Bool) (p : Parked) (b : Buf) (hp : (s.sess sid).parked = some p)
    (hb : (s.sess sid).buf = some b) (hpr : (b.hasData || b.closed || b.overflow) = true) :
    (step cfg s (.recvWake sid t)).2 = [.recvRet sid (drain (s.sess sid) b p.len).2] := by
  simp only [step, recvWakeS, hp, hb, pred, hpr, evRecv, Bool.true_or, if_true]

end Iora.SyncRecv
