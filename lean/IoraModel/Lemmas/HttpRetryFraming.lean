import IoraModel.Model.HttpClientFraming
import IoraModel.Lemmas.HttpClose
import IoraModel.Lemmas.HttpRetryCache
/-!
# Link between the byte-level framing model (C15) and the abstract retry/cache model (C17)

`Model/HttpClientFraming.lean` (C15, namespace `Iora.Http`) computes the reuse decision of `executeRequest` FROM THE BYTES
(`executeReceive … : LoopOut × Bool`, the `Bool` = "connection dropped").  `Model/HttpRetry.lean` (C17, namespace
`Iora.HttpRetry`) takes what the framer found as a free input (`Attempt.recvs`, `Attempt.residue`, `RespInfo`) and says what
happens to the connection cache.  Here the inputs of C17 are COMPUTED from C15's run (`absAttempt`), the two models of
`responseRequestsClose` are shown equal (`rrc_agree`), and the two reuse decisions are shown to be the same decision
(`reuse_decision_agrees`).  Consequence at byte level (`C17.R4_bytes_beyond_message_not_cached`): whenever any received byte lies
beyond the framed message, the connection is not in the cache afterwards.
-/
namespace Iora.HttpRetry.Link
open Iora Iora.HttpRetry

/-- what C17 needs to know of a complete response, read off C15's parsed response (`forceEvict` = surplus was handed to the framer) -/
def absInfo (r : Http.Resp) (forceEvict : Bool) : RespInfo :=
  { status := r.status, conn := Http.hdrFind r.headers (Http.ascii "Connection"), version := r.version, surplus := forceEvict }

/-- the C17 event of a `receiveSync` that returned data, from C15's outcome of that loop turn (`failed` cannot come out of a data
turn; it is mapped to `otherErr`, which has the same result class, so that no theorem needs the unreachability) -/
def absDataOut : Http.LoopOut → RecvEv
  | .more => .more
  | .response r fe => .complete (absInfo r fe)
  | .framingError .cap => .capExceeded
  | .framingError _ => .malformed
  | .failed _ => .otherErr

/-- the C17 event of ONE `receiveSync` call answered by `r` when the loop is in state `st` (`absScript` uses it for the answers
other than data; a data answer is split into reads and goes through `absPieces`) -/
def absEv (method : Bytes) (cap : Nat) (st : Http.St) : Http.Recv → RecvEv
  | .data seg => absDataOut (Http.recvStep method cap st (.data seg)).2
  | .timeout => .timeout
  | .overflow => .overflow
  | .shuttingDown => .shuttingDown
  | .peerClosed =>
    if st.headersDone ∧ st.framing.mode = .closeDelimited then
      .peerClosed (some (absInfo { st.resp with body := st.data.drop st.bodyStart } true))
    else .peerClosed none
  | .otherError => .otherErr

/-- events of the reads of one delivery (mirrors `Http.runPieces`) -/
def absPieces (method : Bytes) (cap : Nat) : Http.St → List Bytes → List RecvEv
  | _, [] => []
  | st, p :: ps =>
    match Http.recvStep method cap st (.data p) with
    | (st', .more) => .more :: absPieces method cap st' ps
    | (_, o) => [absDataOut o]

/-- events of a whole script, one per `receiveSync` call the C15 loop makes (mirrors `Http.runScript`) -/
def absScript (method : Bytes) (cap : Nat) : Http.St → List Http.Recv → List RecvEv
  | _, [] => []
  | st, .data seg :: rs =>
    match Http.runPieces method cap st (Http.splitReads Gen.Http.clientReadSize seg) with
    | (st', .more, _) => absPieces method cap st (Http.splitReads Gen.Http.clientReadSize seg) ++ absScript method cap st' rs
    | _ => absPieces method cap st (Http.splitReads Gen.Http.clientReadSize seg)
  | st, r :: rs =>
    match Http.recvStep method cap st r with
    | (st', .more) => absEv method cap st r :: absScript method cap st' rs
    | _ => [absEv method cap st r]

/-- the C17 attempt of a C15 script: lease granted, connect/setSync/send/setAsync succeed (defaults); the receive events and the
answer of the residual-data probe are those C15 computes from the bytes -/
def absAttempt (method : Bytes) (cap : Nat) (script : List Http.Recv) : Attempt :=
  { recvs := absScript method cap {} script, residue := (Http.runScript method cap {} script).2.2 }

/-- result class of C15's loop outcome in C17's vocabulary; a script that runs out (`more`) is C17's silent peer: the next
`receiveSync` times out (`std::runtime_error`) -/
def absResult : Http.LoopOut → Except Exn RespInfo
  | .more => .error .runtime
  | .response r fe => .ok (absInfo r fe)
  | .framingError _ => .error .framing
  | .failed _ => .error .runtime

/-- C17's receive-loop result for C15's final state and outcome -/
def absRes (st : Http.St) : Http.LoopOut → RecvRes
  | .more => .fail .runtime
  | .response r fe => .done (absInfo r fe) fe (decide (st.framing.mode = .closeDelimited))
  | .framingError _ => .fail .framing
  | .failed _ => .fail .runtime

/-! C15 facts the link needs, proved here so that this file depends on C15's model only, not on its lemma files. -/

theorem bodyPhase_complete_mode (cap : Nat) (st st2 : Http.St) (h : Http.bodyPhase cap st = (st2, .complete)) :
    st2.framing.mode ≠ .closeDelimited := by
  unfold Http.bodyPhase at h
  split at h
  · rename_i hm
    cases h
    simp [hm]
  · rename_i hm
    split at h
    · cases h
    · cases h
      simp [hm]
  · rename_i hm
    split at h
    · cases h
    · cases h
    · cases h
      simp [hm]
  · cases h

theorem frameResponse_complete_mode (m : Bytes) (cap : Nat) (st st2 : Http.St)
    (h : Http.frameResponse m cap st = (st2, .complete)) : st2.framing.mode ≠ .closeDelimited := by
  -- `.complete` comes out of `bodyPhase` only: headers already done (case 1), a final header block just parsed (case 7), or the
  -- recursive call behind an interim response (case 5); every other exit of `frameResponse` is `needMore` or `malformed`
  fun_induction Http.frameResponse m cap st with
  | case1 => exact bodyPhase_complete_mode _ _ _ h
  | case5 _ _ _ _ _ _ _ _ ih => exact ih h
  | case7 => exact bodyPhase_complete_mode _ _ _ h
  | _ => cases h

/-- faithfulness of `absScript`: an answer of `receiveSync` other than data always ends C15's loop (the `more` arm of the last
clause of `runScript` / `absScript` is dead) -/
theorem recvStep_nondata_terminal (m : Bytes) (cap : Nat) (st : Http.St) (rv : Http.Recv) (h : ∀ seg, rv ≠ .data seg) :
    (Http.recvStep m cap st rv).2 ≠ .more := by
  cases rv with
  | data seg => exact absurd rfl (h seg)
  | peerClosed =>
    simp only [Http.recvStep]
    split <;> simp
  | _ => simp [Http.recvStep]

/-- faithfulness of `absDataOut`: a data turn never yields `failed` (its `otherErr` arm is dead) -/
theorem recvStep_data_not_failed (m : Bytes) (cap : Nat) (st : Http.St) (seg : Bytes) (f : Http.Fail) :
    (Http.recvStep m cap st (.data seg)).2 ≠ .failed f := by
  simp only [Http.recvStep]
  split
  · simp
  · split
    · simp
    · split <;> simp

theorem recvStep_data_response {m : Bytes} {cap : Nat} {st st' : Http.St} {seg : Bytes} {r : Http.Resp} {fe : Bool}
    (h : Http.recvStep m cap st (.data seg) = (st', .response r fe)) :
    Http.frameResponse m cap { st with data := st.data ++ seg } = (st', .complete) ∧ fe = st'.forceEvict := by
  simp only [Http.recvStep] at h
  split at h
  · cases h
  · split at h
    · cases h
    · split at h <;> rename_i hfr <;> cases h
      exact ⟨hfr, rfl⟩

theorem data_step_link (m : Bytes) (cap : Nat) (st st' : Http.St) (p : Bytes) (o : Http.LoopOut)
    (h : Http.recvStep m cap st (.data p) = (st', o)) (ho : o ≠ .more) :
    isMore (absDataOut o) = false ∧ terminalRes (absDataOut o) = absRes st' o := by
  cases o with
  | more => exact absurd rfl ho
  | framingError k => cases k <;> simp [absDataOut, isMore, terminalRes, absRes]
  | failed f => simp [absDataOut, isMore, terminalRes, absRes]
  | response r fe =>
    have hmode := frameResponse_complete_mode _ _ _ _ (recvStep_data_response h).1
    simp [absDataOut, isMore, terminalRes, absRes, absInfo, hmode]

/-- `rest` is what `absScript` appends behind the events of this delivery -/
theorem pieces_link (m : Bytes) (cap : Nat) : ∀ (ps : List Bytes) (st : Http.St) (rest : List RecvEv),
    loopRes (absPieces m cap st ps ++ rest) =
      (match (Http.runPieces m cap st ps).2.1 with
       | .more => loopRes rest
       | o => absRes (Http.runPieces m cap st ps).1 o) := by
  intro ps
  induction ps with
  | nil => intro st rest; simp [absPieces, Http.runPieces]
  | cons p ps ih =>
    intro st rest
    cases hstep : Http.recvStep m cap st (.data p) with
    | mk st' o =>
      by_cases ho : o = .more
      · subst ho
        simp only [absPieces, Http.runPieces, hstep, List.cons_append, loopRes_more]
        exact ih st' rest
      · have hl := data_step_link m cap st st' p o hstep ho
        cases o with
        | more => exact absurd rfl ho
        | _ => simp only [absPieces, Http.runPieces, hstep, List.cons_append, loopRes_term _ _ hl.1, hl.2]

theorem script_link (m : Bytes) (cap : Nat) : ∀ (script : List Http.Recv) (st : Http.St),
    loopRes (absScript m cap st script) =
      absRes (Http.runScript m cap st script).1 (Http.runScript m cap st script).2.1 := by
  intro script
  induction script with
  | nil => intro st; simp [absScript, Http.runScript, loopRes, absRes]
  | cons r rs ih =>
    intro st
    cases r with
    | data seg =>
      have hp := pieces_link m cap (Http.splitReads Gen.Http.clientReadSize seg) st
      cases hrun : Http.runPieces m cap st (Http.splitReads Gen.Http.clientReadSize seg) with
      | mk st' or =>
        obtain ⟨o, res⟩ := or
        rw [hrun] at hp
        cases o with
        | more =>
          simp only [absScript, Http.runScript, hrun]
          rw [hp]
          exact ih st'
        | _ =>
          have := hp []
          simp only [List.append_nil] at this
          simp only [absScript, Http.runScript, hrun, this]
    | peerClosed =>
      by_cases hc : st.headersDone = true ∧ st.framing.mode = .closeDelimited
      · simp [absScript, Http.runScript, Http.recvStep, absEv, loopRes, isMore, terminalRes, absRes, hc, absInfo]
      · simp [absScript, Http.runScript, Http.recvStep, absEv, loopRes, isMore, terminalRes, absRes, hc]
    | _ => simp [absScript, Http.runScript, Http.recvStep, absEv, loopRes, isMore, terminalRes, absRes]

theorem splitOn_eq_splitComma : ∀ v : Bytes, Http.splitOn 44 v = splitComma v := by
  intro v
  induction v with
  | nil => rfl
  | cons x xs ih =>
    by_cases hx : x = 44
    · simp [Http.splitOn, splitComma, isComma, hx, ih]
    · simp only [Http.splitOn, splitComma, isComma, hx, ih, if_false, decide_false, Bool.false_eq_true]
      cases splitComma xs <;> rfl

theorem isOWS_eq : Http.isOWS = isOws := by
  funext c
  rw [Bool.eq_iff_iff]
  simp [Http.isOWS, isOws]

theorem trim_eq_trimOws (s : Bytes) : Http.trim s = trimOws s := by
  simp [Http.trim, Http.trimRight, Http.trimLeft, trimOws, isOWS_eq]

theorem asciiLower_eq : Http.asciiLower = HttpRetry.asciiLower := by
  funext c
  simp [Http.asciiLower, HttpRetry.asciiLower, UInt8.le_iff_toNat_le]

theorem connTokens_eq (v : Bytes) : Http.connTokens v = HttpRetry.connTokens v := by
  unfold Http.connTokens HttpRetry.connTokens
  rw [splitOn_eq_splitComma]
  induction splitComma v with
  | nil => rfl
  | cons e es ih =>
    simp only [List.map_cons, List.filter_cons, List.filterMap_cons, segTok]
    rw [ih]
    by_cases he : trimOws e = []
    · simp [he, trim_eq_trimOws, Http.lower]
    · simp [he, trim_eq_trimOws, Http.lower, asciiLower_eq]

theorem ascii_close : Http.ascii "close" = tokClose := by decide +kernel
theorem ascii_keepAlive : Http.ascii "keep-alive" = tokKeepAlive := by decide +kernel
theorem ascii_10 : Http.ascii "1.0" = [49, 46, 48] := by decide +kernel

theorem rrc_agree (r : Http.Resp) :
    Http.responseRequestsClose r =
      HttpRetry.responseRequestsClose (Http.hdrFind r.headers (Http.ascii "Connection")) r.version := by
  unfold Http.responseRequestsClose
  cases hf : Http.hdrFind r.headers (Http.ascii "Connection") with
  | none =>
    simp [responseRequestsClose_absent, ascii_10, Lean.Grind.beq_eq_decide_eq]
  | some v =>
    simp only [responseRequestsClose_spec, connTokens_eq, ascii_close, ascii_keepAlive, ascii_10, List.contains_iff_mem]
    by_cases h1 : tokClose ∈ HttpRetry.connTokens v
    · simp [h1]
    · by_cases h2 : tokKeepAlive ∈ HttpRetry.connTokens v <;> simp [h1, h2, Lean.Grind.beq_eq_decide_eq]

theorem executeReceive_of_run {method : Bytes} {mrb jmp : Nat} {script : List Http.Recv} {st : Http.St} {o : Http.LoopOut}
    {residual : Bool} (reuse : Bool) (hrun : Http.runScript method (Http.effectiveCap mrb jmp) {} script = (st, o, residual)) :
    Http.executeReceive method mrb jmp reuse script =
      match o with
      | .response r fe => (.response r fe, !(reuse && !Http.responseRequestsClose r && !fe &&
          !decide (st.framing.mode = .closeDelimited) && !residual))
      | o => (o, true) := by
  unfold Http.executeReceive
  simp only [hrun]
  cases o <;> rfl

theorem executeReceive_framingError_drops {method : Bytes} {mrb jmp : Nat} {reuse : Bool} {script : List Http.Recv} {k : Http.Kind}
    (hk : (Http.executeReceive method mrb jmp reuse script).1 = .framingError k) :
    (Http.executeReceive method mrb jmp reuse script).2 = true := by
  obtain ⟨st, o, residual, hrun⟩ : ∃ st o residual, Http.runScript method (Http.effectiveCap mrb jmp) {} script = (st, o, residual) :=
    ⟨_, _, _, rfl⟩
  rw [executeReceive_of_run reuse hrun] at hk ⊢
  cases o <;> first | rfl | cases hk

/-- stated as `C17.R4_bytes_reuse_decision_agrees`. It holds for ANY client state `c` and host `h`, cached entry or not, because a
successful pre-send region always leaves the session in use as the cached entry of `h` (`underLease_ok`) -/
theorem reuse_decision_agrees (method : Bytes) (mrb jmp : Nat) (reuse : Bool) (script : List Http.Recv)
    (c : Client) (h : Host) :
    (((Http.executeReceive method mrb jmp reuse script).2 = true) ↔
      ((underLease { reuse := reuse } c h (absAttempt method (Http.effectiveCap mrb jmp) script)).1.conns.lookup h = none)) ∧
    (underLease { reuse := reuse } c h (absAttempt method (Http.effectiveCap mrb jmp) script)).2.1.result =
      absResult (Http.executeReceive method mrb jmp reuse script).1 := by
  have hul := underLease_ok { reuse := reuse } c h (absAttempt method (Http.effectiveCap mrb jmp) script) rfl rfl
  rw [hul.1, hul.2]
  have hlink := script_link method (Http.effectiveCap mrb jmp) script {}
  obtain ⟨st, o, residual, hrun⟩ : ∃ st o residual, Http.runScript method (Http.effectiveCap mrb jmp) {} script = (st, o, residual) :=
    ⟨_, _, _, rfl⟩
  rw [executeReceive_of_run reuse hrun]
  simp only [keeps, sentLog, absAttempt, hlink, hrun]
  cases o with
  | response r fe =>
    simp only [absRes, absResult, reusable_eq, absInfo, ← rrc_agree]
    cases (reuse && !Http.responseRequestsClose r && !fe && !decide (st.framing.mode = Http.Mode.closeDelimited) &&
      !residual) <;> simp
  | _ => simp [absRes, absResult]

/-- the same at the level of C17's whole `executeRequest` (URL accepted, lease granted — the defaults of `absAttempt`): the lease
bookkeeping around `underLease` does not touch the cache -/
theorem reuse_decision_agrees_executeRequest (method : Bytes) (mrb jmp : Nat) (reuse : Bool) (script : List Http.Recv)
    (c : Client) (h : Host) :
    (((Http.executeReceive method mrb jmp reuse script).2 = true) ↔
      ((executeRequest { reuse := reuse } c true h
        (absAttempt method (Http.effectiveCap mrb jmp) script)).1.conns.lookup h = none)) ∧
    (executeRequest { reuse := reuse } c true h (absAttempt method (Http.effectiveCap mrb jmp) script)).2.1.result =
      absResult (Http.executeReceive method mrb jmp reuse script).1 := by
  refine exec_cases _ c true h _ (P := fun x => (_ ↔ x.1.conns.lookup h = none) ∧ x.2.1.result = _) (fun hg => by cases hg) fun _ => ?_
  rw [leaseWrap_client, leaseWrap_log]
  exact reuse_decision_agrees method mrb jmp reuse script { c with leased := h :: c.leased } h

/-- a received byte beyond the message, handed to the framer, is reported in the outcome: when the loop ends in a response,
`forceEvict` of the final state implies the `forceEvict` the loop returns (`C17.R4_bytes_beyond_message_not_cached` lists the
state's flag among the ways a byte can lie beyond the message; the reuse decision reads the returned one) -/
def EvictOK (x : Http.St × Http.LoopOut) : Prop :=
  ∀ r fe, x.2 = .response r fe → x.1.forceEvict = true → fe = true

theorem recvStep_evictOK (m : Bytes) (cap : Nat) (st : Http.St) (rv : Http.Recv) : EvictOK (Http.recvStep m cap st rv) := by
  intro r fe h he
  generalize hx : Http.recvStep m cap st rv = x at h he
  obtain ⟨st', o⟩ := x
  obtain rfl : o = .response r fe := h
  cases rv with
  | data seg => exact (recvStep_data_response hx).2.trans he
  | peerClosed =>
    simp only [Http.recvStep] at hx
    split at hx <;> cases hx
    rfl
  | _ => simp [Http.recvStep] at hx

theorem runPieces_evictOK (m : Bytes) (cap : Nat) :
    ∀ (ps : List Bytes) (st : Http.St), EvictOK ((Http.runPieces m cap st ps).1, (Http.runPieces m cap st ps).2.1)
  | [], _ => fun _ _ h => by cases h
  | p :: ps, st => by
    unfold Http.runPieces
    split
    · exact runPieces_evictOK m cap ps _
    · rename_i heq
      exact heq ▸ recvStep_evictOK m cap st (.data p)

theorem runScript_evictOK (m : Bytes) (cap : Nat) :
    ∀ (script : List Http.Recv) (st : Http.St), EvictOK ((Http.runScript m cap st script).1, (Http.runScript m cap st script).2.1)
  | [], _ => fun _ _ h => by cases h
  | rv :: rs, st => by
    cases rv with
    | data seg =>
      unfold Http.runScript
      split
      · exact runScript_evictOK m cap rs _
      · exact runPieces_evictOK m cap _ st
    | _ =>
      unfold Http.runScript
      split
      · exact runScript_evictOK m cap rs _
      · rename_i heq
        exact heq ▸ recvStep_evictOK m cap st _

theorem executeReceive_beyond_drops {method : Bytes} {mrb jmp : Nat} {script : List Http.Recv} {st : Http.St} {r : Http.Resp}
    {fe residual : Bool} (reuse : Bool)
    (hrun : Http.runScript method (Http.effectiveCap mrb jmp) {} script = (st, .response r fe, residual))
    (hbeyond : st.forceEvict = true ∨ fe = true ∨ residual = true) :
    (Http.executeReceive method mrb jmp reuse script).2 = true := by
  have hfe := runScript_evictOK method (Http.effectiveCap mrb jmp) script {} r fe
  rw [hrun] at hfe
  rw [executeReceive_of_run reuse hrun]
  rcases hbeyond with hb | hb | hb
  · simp [hfe rfl hb]
  · simp [hb]
  · simp [hb]

/-- a script of ONE delivery that fits into one `receiveSync` and below the cap: the run is one `frameResponse` call -/
theorem executeReceive_single (m : Bytes) (mrb jmp : Nat) (reuse : Bool) (seg : Bytes) (h1 : seg.isEmpty = false)
    (h2 : seg.length ≤ Gen.Http.clientReadSize) (h3 : seg.length ≤ Http.effectiveCap mrb jmp) :
    Http.executeReceive m mrb jmp reuse [.data seg] =
      (match Http.frameResponse m (Http.effectiveCap mrb jmp) { data := seg } with
       | (_, .needMore) => (.more, true)
       | (st2, .complete) =>
         (.response st2.resp st2.forceEvict, !(reuse && !Http.responseRequestsClose st2.resp && !st2.forceEvict &&
           !decide (st2.framing.mode = .closeDelimited)))
       | (_, .malformed k) => (.framingError k, true)) := by
  have hs : Http.splitReads Gen.Http.clientReadSize seg = [seg] := by
    rw [Http.splitReads]; simp [h2]
  have hcap : ¬ seg.length > Http.effectiveCap mrb jmp := by omega
  cases hfr : Http.frameResponse m (Http.effectiveCap mrb jmp) { data := seg } with
  | mk st2 o =>
    have hrun : Http.runScript m (Http.effectiveCap mrb jmp) {} [.data seg] =
        (st2, (match o with
          | .needMore => .more
          | .complete => .response st2.resp st2.forceEvict
          | .malformed k => .framingError k), false) := by
      simp only [Http.runScript, hs, Http.runPieces, Http.recvStep, h1, Bool.false_eq_true, if_false, List.nil_append, hcap, hfr]
      cases o <;> simp
    rw [executeReceive_of_run reuse hrun]
    cases o <;> simp

/-- `HTTP/1.1 200 OK`, `Connection: keep-alive`, `Content-Length: 0`: a complete, reusable response of 62 bytes -/
def demoResp : Bytes := Http.ascii "HTTP/1.1 200 OK\r\nConnection: keep-alive\r\nContent-Length: 0\r\n\r\n"

/-- the characters of `demoResp` written out: through `String.toList_ofList` the kernel does not have to decode the string literal
(the device of `Http.ascii_ofList` in `Lemmas/HttpCommon`, which this file does not import) -/
theorem demoResp_chars : demoResp = ['H', 'T', 'T', 'P', '/', '1', '.', '1', ' ', '2', '0', '0', ' ', 'O', 'K', '\r', '\n',
    'C', 'o', 'n', 'n', 'e', 'c', 't', 'i', 'o', 'n', ':', ' ', 'k', 'e', 'e', 'p', '-', 'a', 'l', 'i', 'v', 'e', '\r', '\n',
    'C', 'o', 'n', 't', 'e', 'n', 't', '-', 'L', 'e', 'n', 'g', 't', 'h', ':', ' ', '0', '\r', '\n', '\r', '\n'].map
      (fun c => UInt8.ofNat c.toNat) :=
  congrArg _ String.toList_ofList

/-- C15 drops the connection after the demo response followed by ONE surplus byte in the same delivery and keeps it after the demo
response alone. (One evaluation for both runs; the goal is brought into shape by rewriting only, since a definitional step on it
makes the kernel run the framer again.) -/
theorem demo_c15 :
    (Http.executeReceive (Http.ascii "GET") 1048576 0 true [.data (demoResp ++ [88])]).2 = true ∧
    (Http.executeReceive (Http.ascii "GET") 1048576 0 true [.data demoResp]).2 = false := by
  rw [demoResp_chars, executeReceive_single _ _ _ _ _ (by decide) (by decide) (by decide),
    executeReceive_single _ _ _ _ _ (by decide) (by decide) (by decide), Http.frameResponse, Http.frameResponse]
  decide +kernel

/-- the only `.ok` exit of `sizeLine` lies behind its test `chunkSize > cap` -/
theorem sizeLine_ok_le_cap (buf : Bytes) (cap pos n ds : Nat) (h : Http.sizeLine buf cap pos = .ok n ds) : n ≤ cap := by
  unfold Http.sizeLine at h
  split at h
  · cases h
  · simp only at h
    split at h
    · cases h
    · split at h
      · cases h
      · split at h
        · cases h
        · split at h
          · cases h
          · split at h <;> cases h
            omega

/-- the response body in the scenario of the seeded change `seeded/C17-e`: chunk-size `7FFFFFFF`, five data bytes, then nothing -/
def demoChunkOverCap : Bytes := Http.ascii "7FFFFFFF\r\nhello"

end Iora.HttpRetry.Link
