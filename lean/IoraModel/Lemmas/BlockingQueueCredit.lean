import IoraModel.Lemmas.BlockingQueueBroadcast
/-!
The wake-ups by `notify_one`: a counting invariant on top of the broadcast instance.  For each condition variable an account
(`Acct`): while somebody sleeps on it and the queue is open, what the sleepers wait for (items resp. free slots) is matched by
wake-ups in the pipeline (`creditOn`).  Mutual exclusion, the fit of status and program counter, and everything about
`close()` come from `closeBroadcast.Inv` (the generic theorem); what a step does to an account is read off `Crit`
(`Crit.acct`) and `after_passive` (`credit_passive`).  `Inv` is the two together; Q3a and Q4 of `Props/C10.lean` are
read off it.  `LostWakeup` is what Q4 excludes, `f01Schedule` the schedule on which the class as found (F01: `close()` flips
`_closed` without holding `_mutex`) has one.
-/
namespace Iora.BQ
open Iora.Monitor

/-- a wake-up for condition variable `cv` is "in the pipeline" at this thread: either it is a notifier that has made the
condition true and has not yet called `notify_one(cv)`, or it is a waiter of `cv` that has been woken and has not yet
re-evaluated its predicate -/
def creditOn (cv : CvId) (ts : TState Loc) : Bool :=
  match ts.status with
  | .woken _ _ _ => (cv == NE && ts.loc.pc == .sleepNE) || (cv == NF && ts.loc.pc == .sleepNF)
  | .ready =>
    match ts.loc.pc with
    | .unlockNotify c _ => c == cv
    | .notify c _ => c == cv
    | _ => false
  | .asleep _ _ _ => false

theorem credit_idle (cv : CvId) (l : Loc) (h : (l.pc = .enter ∧ l.todo ≠ []) ∨ l.pc = .finished) :
    creditOn cv { status := .ready, loc := l } = false := by
  rcases h with ⟨h, _⟩ | h <;> simp [creditOn, h]


theorem asleep_ready (cv : CvId) (l : Loc) : isAsleepOn cv ({ status := .ready, loc := l } : TState Loc) = false := rfl

/-- a step of `after_passive` uses up a wake-up only by the `notify_one` it was for -/
theorem credit_passive (l : Loc) (d : Data) (late : Bool) (cv : CvId) (h : creditOn cv { status := .ready, loc := l } = true) :
    creditOn cv { status := .ready, loc := (after true l d late).1 } = true ∨ op l = .notifyOne cv := by
  obtain ⟨me, todo, pc, rets⟩ := l
  cases pc
  case unlockNotify c r => exact Or.inl h
  case notify c r => exact Or.inr (congrArg _ (beq_iff_eq.mp h))
  all_goals cases h

def someAsleep (s : State Data Loc) (cv : CvId) : Prop := ∃ t, t < s.n ∧ isAsleepOn cv (s.thr t) = true

def sleepPc : Side → Pc
  | .ne => .sleepNE
  | .nf => .sleepNF

/-- what the sleepers of a condition variable are waiting for, and what is set against it: for `_condNotEmpty` items count
against nothing, for `_condNotFull` the capacity counts against the items -/
def owed : Side → Data → Nat
  | .ne, d => d.q.length
  | .nf, d => d.cap

def paid : Side → Data → Nat
  | .ne, _ => 0
  | .nf, d => d.q.length

/-- the wait predicate, which is "closed, or less paid than owed" (`predOf_iff`) -/
def predOf : Side → Data → Bool
  | .ne => predNE
  | .nf => predNF

theorem predOf_iff (c : Side) (d : Data) : predOf c d = true ↔ d.closed = true ∨ paid c d < owed c d := by
  obtain ⟨cap, q, closed, puts, takes⟩ := d
  cases c
  · cases q <;> simp [predOf, predNE, owed, paid]
  · show predNF _ = true ↔ closed = true ∨ q.length < cap
    simp [predNF, Or.comm]

/-- the account of one condition variable with slack `k` (the slack is only used between the two halves of a `notify_one`
that wakes a sleeper) -/
structure Acct (c : Side) (k : Nat) (s : State Data Loc) : Prop where
  /-- a thread about to wait has found nothing owed (and has held `_mutex` since) -/
  about : ∀ t, t < s.n → (s.thr t).status = .ready → (s.thr t).loc.pc = sleepPc c → owed c s.data ≤ paid c s.data
  /-- while somebody sleeps and the queue is open, what is owed is matched by wake-ups in the pipeline -/
  cred : someAsleep s c.cv → s.data.closed = false → owed c s.data + k ≤ paid c s.data + cnt (creditOn c.cv) s.thr s.n

theorem ite_le_one (p : Prop) [Decidable p] : (if p then 1 else 0 : Nat) ≤ 1 := by split <;> omega

theorem holding_sleepPc (c : Side) : isHoldingPc (sleepPc c) = true := by cases c <;> rfl

theorem sleepPc_cases (c : Side) : sleepPc c = .sleepNE ∨ sleepPc c = .sleepNF := by cases c <;> simp [sleepPc]

theorem Side.cv_inj {c c' : Side} (h : c.cv = c'.cv) : c = c' := by cases c <;> cases c' <;> first | rfl | cases h

theorem op_wait_side {l : Loc} {cv : CvId} {m : MutexId} {timed : Bool} (h : op l = .wait cv m timed) :
    ∃ c : Side, cv = c.cv ∧ l.pc = sleepPc c := by
  rcases (op_wait h).2 with ⟨rfl, hp⟩ | ⟨rfl, hp⟩
  · exact ⟨.ne, rfl, hp⟩
  · exact ⟨.nf, rfl, hp⟩

theorem asleep_pc {ts : TState Loc} {cv : CvId} {m : MutexId} {timed : Bool} (hw : closeBroadcast.wfT ts)
    (h : ts.status = .asleep cv m timed) : ∃ c : Side, cv = c.cv ∧ ts.loc.pc = sleepPc c := by
  have h2 := hw.2; rw [h] at h2
  obtain ⟨_, timed', hop⟩ := h2
  exact op_wait_side hop

theorem woken_pc {ts : TState Loc} {m : MutexId} {timed to : Bool} (hw : closeBroadcast.wfT ts)
    (h : ts.status = .woken m timed to) : m = M ∧ (ts.loc.pc = .sleepNE ∨ ts.loc.pc = .sleepNF) := by
  have h2 := hw.2; rw [h] at h2
  obtain ⟨hm, cv, timed', hop⟩ := h2
  exact ⟨hm, (op_wait hop).2.elim (fun h => Or.inl h.2) fun h => Or.inr h.2⟩

/-- a woken thread carries the wake-up of the condition variable it waited on, and no other -/
theorem credit_woken (c : Side) (l : Loc) (m : MutexId) (timed to : Bool) (hp : l.pc = .sleepNE ∨ l.pc = .sleepNF) :
    creditOn c.cv { status := .woken m timed to, loc := l } = decide (l.pc = sleepPc c) := by
  cases c <;> rcases hp with hp | hp <;> simp [creditOn, sleepPc, Side.cv, hp, NE, NF]

/-- One thread `t` moves to a state `x`; data and owner may change.  The account is kept when: a new sleeper has found
nothing owed (`hsl`, `hx`); the other threads about to wait still see the data they saw, or there are none (`hothers`); and
nothing is owed any more, or (`hcr`, written without subtraction) `owed - paid` grows by no more than the credit `t` holds,
up to the slack. -/
theorem acct_single {c : Side} {k k' : Nat} (s : State Data Loc) (ha : Acct c k s) (t : Tid) (ht : t < s.n) (x : TState Loc)
    (d' : Data) (own' : MutexId → Option Tid) (hsl : isAsleepOn c.cv x = true → owed c d' + k' ≤ paid c d')
    (hx : x.status = .ready → x.loc.pc = sleepPc c → owed c d' ≤ paid c d')
    (hothers : d' = s.data ∨ ∀ u, u < s.n → u ≠ t → (s.thr u).status = .ready → (s.thr u).loc.pc ≠ sleepPc c)
    (hmono : s.data.closed = true → d'.closed = true)
    (hcr : someAsleep s c.cv → d'.closed = false → owed c d' + k' ≤ paid c d' ∨
      owed c d' + paid c s.data + (if creditOn c.cv (s.thr t) = true then 1 else 0) + k'
        ≤ owed c s.data + paid c d' + (if creditOn c.cv x = true then 1 else 0) + k) :
    Acct c k' { s with data := d', owner := own', thr := updT s.thr t x } := by
  refine ⟨fun u hu hs hp => ?_, fun ⟨u, hu, hs⟩ hcf => ?_⟩
  · by_cases e : u = t
    · subst e; simp only [updT_same] at hs hp; exact hx hs hp
    · simp only [updT_other _ _ _ _ e] at hs hp
      rcases hothers with rfl | h
      · exact ha.about u hu hs hp
      · exact absurd hp (h u hu e hs)
  · have hcf : d'.closed = false := hcf
    show owed c d' + k' ≤ paid c d' + cnt (creditOn c.cv) (updT s.thr t x) s.n
    by_cases e : u = t
    · subst e; simp only [updT_same] at hs
      exact Nat.le_trans (hsl hs) (Nat.le_add_right _ _)
    · have hsa : someAsleep s c.cv := ⟨u, hu, by simpa [updT_other _ _ _ _ e] using hs⟩
      have hc0 : s.data.closed = false := by
        cases hh : s.data.closed with
        | false => rfl
        | true => rw [hmono hh] at hcf; cases hcf
      have h1 := ha.cred hsa hc0
      have h2 := hcr hsa hcf
      have h3 := cnt_upd (creditOn c.cv) s.thr s.n t x ht
      omega

/-- a sleeper is woken (time-out, spurious, or the first half of a `notify_one`): one more wake-up in the pipeline of its
condition variable -/
theorem acct_wake {c : Side} (s : State Data Loc) (ha : Acct c 0 s) (t : Tid) (ht : t < s.n)
    (cv : CvId) (m : MutexId) (timed to : Bool) (hs : (s.thr t).status = .asleep cv m timed)
    (hw : closeBroadcast.wfT (s.thr t)) :
    Acct c (if c.cv = cv then 1 else 0) { s with thr := updT s.thr t { (s.thr t) with status := .woken m timed to } } := by
  obtain ⟨c', rfl, hp⟩ := asleep_pc hw hs
  refine acct_single s ha t ht _ s.data s.owner (by simp [isAsleepOn]) nofun (Or.inl rfl) id fun _ _ => Or.inr ?_
  rw [show creditOn c.cv (s.thr t) = false by simp [creditOn, hs], credit_woken c _ m timed to (hp ▸ sleepPc_cases c')]
  cases c <;> cases c' <;> simp [hp, sleepPc, Side.cv, NE, NF]

/-- release-and-sleep: the thread found nothing owed when it evaluated its predicate -/
theorem acct_sleep {c : Side} (s : State Data Loc) (ha : Acct c 0 s) (t : Tid) (ht : t < s.n) (cv : CvId) (m : MutexId)
    (timed : Bool) (hs : (s.thr t).status = .ready) (hop : op (s.thr t).loc = .wait cv m timed) :
    Acct c 0 { s with owner := updT s.owner m none, thr := updT s.thr t { (s.thr t) with status := .asleep cv m timed } } := by
  obtain ⟨c', rfl, hp⟩ := op_wait_side hop
  have hnc : creditOn c.cv (s.thr t) = false := by
    rcases sleepPc_cases c' with e | e <;> simp [creditOn, hs, hp, e]
  refine acct_single s ha t ht _ s.data _ (fun h => ?_) nofun (Or.inl rfl) id fun _ _ => Or.inr ?_
  · have e : c' = c := Side.cv_inj (by simpa [isAsleepOn] using h)
    subst e
    exact ha.about t ht hs hp
  · rw [hnc, show creditOn c.cv { (s.thr t) with status := .asleep c'.cv m timed } = false by simp [creditOn]]
    exact Nat.le_refl _

theorem acct_wakeAll {c : Side} (s : State Data Loc) (ha : Acct c 0 s) (cv : CvId)
    (hw : ∀ u, u < s.n → closeBroadcast.wfT (s.thr u)) :
    Acct c 0 { s with thr := wakeAll cv s.thr } := by
  have hno : ¬ someAsleep { s with thr := wakeAll cv s.thr } cv := by
    rintro ⟨u, hu, hsu⟩
    rcases wakeAll_cases cv s.thr u with ⟨e, hsl⟩ | ⟨m, timed, _, e⟩
    · simp only [e] at hsu; rw [hsl] at hsu; cases hsu
    · simp only [e] at hsu; simp [isAsleepOn] at hsu
  refine ⟨fun u hu hs hp => ?_, fun hsa hcl => ?_⟩
  · rcases wakeAll_cases cv s.thr u with ⟨e, _⟩ | ⟨m, timed, _, e⟩
    · simp only [e] at hs hp; exact ha.about u hu hs hp
    · simp only [e] at hs; cases hs
  · by_cases e : c.cv = cv
    · subst e; exact absurd hsa hno
    · show owed c s.data + 0 ≤ paid c s.data + cnt (creditOn c.cv) (wakeAll cv s.thr) s.n
      have hsa' : someAsleep s c.cv := by
        obtain ⟨u, hu, hsu⟩ := hsa
        rcases wakeAll_cases cv s.thr u with ⟨e', _⟩ | ⟨m, timed, _, e'⟩
        · exact ⟨u, hu, by simpa [e'] using hsu⟩
        · simp only [e'] at hsu; simp [isAsleepOn] at hsu
      rw [cnt_congr (creditOn c.cv) (wakeAll cv s.thr) s.thr s.n fun u hu => ?_]
      · exact ha.cred hsa' hcl
      · rcases wakeAll_cases cv s.thr u with ⟨e', _⟩ | ⟨m, timed, hst, e'⟩
        · rw [e']
        · -- a sleeper of `cv` that is woken carries a wake-up of `cv` only
          obtain ⟨c', rfl, hp⟩ := asleep_pc (hw u hu) hst
          rw [e', credit_woken c _ m timed false (hp ▸ sleepPc_cases c'), show creditOn c.cv (s.thr u) = false by simp [creditOn, hst]]
          cases c <;> cases c' <;> first | exact absurd rfl e | simp [hp, sleepPc]

/-- thread `t` performs an operation other than `lock`/`wait` (whose effect on mutex and sleepers has been applied: the
owner map is `own'`, `s` already has the sleepers woken) and runs on.  `notify_one` needs one unit of slack in the account
of its condition variable, or no sleeper. -/
theorem acct_passive {c : Side} {k : Nat} (s : State Data Loc) (ha : Acct c k s) (t : Tid) (ht : t < s.n) (late : Bool)
    (own' : MutexId → Option Tid) (hs : (s.thr t).status = .ready) (o : Op) (hop : op (s.thr t).loc = o)
    (hna : nonAcquiring o = true) (hk : o = .notifyOne c.cv → someAsleep s c.cv → 1 ≤ k) :
    Acct c 0 (runAfter (prog true) { s with owner := own' } t late) := by
  subst hop
  obtain ⟨hd, hP⟩ := after_passive (s.thr t).loc s.data late hna
  have hcr := credit_passive (s.thr t).loc s.data late c.cv
  rw [← ready_eta hs] at hcr
  rw [runAfter_eq]
  show Acct c 0 { s with data := (after true (s.thr t).loc s.data late).2, owner := own',
                         thr := updT s.thr t { status := .ready, loc := (after true (s.thr t).loc s.data late).1 } }
  rw [hd]
  refine acct_single s ha t ht _ s.data own' nofun (fun _ hp => ?_) (Or.inl rfl) id fun hsa _ => Or.inr ?_
  · have := (passive_wfL hP).2.1
    rw [hp, holding_sleepPc] at this; cases this
  · by_cases hc : creditOn c.cv (s.thr t) = true
    · rcases hcr hc with h' | h'
      · rw [if_pos hc, if_pos h']; omega
      · have := hk h' hsa; rw [if_pos hc]; omega
    · rw [if_neg hc]; omega

/-- what a critical section does to an account: a thread that goes on to wait has found nothing owed; an item
added (a slot freed) is covered by the `notify_one` the thread now owes; a wake-up is used up only by taking what it was for,
or when nothing is owed any more -/
theorem Crit.acct {l l' : Loc} {d d' : Data} (h : Crit l d l' d') (hw : wfL l) (c : Side) :
    (l'.pc = sleepPc c → owed c d' ≤ paid c d') ∧
    (d'.closed = false → owed c d' ≤ paid c d' ∨
      owed c d' + paid c d + (if l.pc = sleepPc c then 1 else 0) ≤
        owed c d + paid c d' + (if creditOn c.cv { status := .ready, loc := l' } = true then 1 else 0)) := by
  -- by side: an item added is a debt on the account of `_condNotEmpty` and a payment on that of `_condNotFull`, an item taken
  -- the reverse, so the six cases have different reasons on the two sides
  cases c
  · simp only [owed, paid, Nat.add_zero, Side.cv]
    cases h with
    | ret r hr hk hE hF =>
      refine ⟨nofun, fun hopen => ?_⟩
      by_cases hp : l.pc = sleepPc .ne
      · exact Or.inl (by rw [hE hp hopen]; exact Nat.le_refl _)
      · exact Or.inr (by rw [if_neg hp]; omega)
    | waitNE rest ht hp =>
      have hq := (predNE_false hp).1
      exact ⟨fun _ => by rw [hq]; exact Nat.le_refl _, fun _ => Or.inl (by rw [hq]; exact Nat.le_refl _)⟩
    | waitNF v rest ht hp =>
      have : l.pc ≠ sleepPc .ne := by rcases ht with ht | ht <;> exact (wfL_sleeps_own_cv hw ht).1 nofun
      exact ⟨nofun, fun _ => Or.inr (by rw [if_neg this]; omega)⟩
    | put c rest v ht hv hopen hroom =>
      have : l.pc ≠ sleepPc .ne := (wfL_sleeps_own_cv hw ht).1 (by rw [hv]; nofun)
      exact ⟨nofun, fun _ => Or.inr (by rw [if_neg this]; simp [creditOn])⟩
    | take c rest x xs ht hv hq =>
      refine ⟨nofun, fun _ => Or.inr ?_⟩
      have := ite_le_one (l.pc = sleepPc .ne)
      rw [hq]; show xs.length + _ ≤ xs.length + 1 + _
      omega
    | close => exact ⟨nofun, nofun⟩
  · simp only [owed, paid, Side.cv]
    cases h with
    | ret r hr hk hE hF =>
      refine ⟨nofun, fun hopen => ?_⟩
      by_cases hp : l.pc = sleepPc .nf
      · exact Or.inl (hF hp hopen)
      · exact Or.inr (by rw [if_neg hp]; omega)
    | waitNE rest ht hp =>
      have : l.pc ≠ sleepPc .nf := by rcases ht with ht | ht <;> exact (wfL_sleeps_own_cv hw ht).2 rfl
      exact ⟨nofun, fun _ => Or.inr (by rw [if_neg this]; omega)⟩
    | waitNF v rest ht hp => exact ⟨fun _ => (predNF_false hp).1, fun _ => Or.inl (predNF_false hp).1⟩
    | put c rest v ht hv hopen hroom =>
      refine ⟨nofun, fun _ => Or.inr ?_⟩
      have := ite_le_one (l.pc = sleepPc .nf)
      show d.cap + d.q.length + _ ≤ d.cap + (d.q ++ [v]).length + _
      rw [List.length_append, List.length_singleton]; omega
    | take c rest x xs ht hv hq =>
      have : l.pc ≠ sleepPc .nf := (wfL_sleeps_own_cv hw ht).2 hv
      refine ⟨nofun, fun _ => Or.inr ?_⟩
      show d.cap + d.q.length + _ ≤ d.cap + xs.length + _
      rw [if_neg this, hq]; simp [creditOn]; omega
    | close => exact ⟨nofun, nofun⟩

theorem acct_tr {c : Side} (s s' : State Data Loc) (hB : closeBroadcast.Inv s) (ha : Acct c 0 s)
    (tr : Tr (prog true) s s') : Acct c 0 s' := by
  -- thread `t` gets the free mutex (method entry, or return from a wait) and runs a critical section
  have crit : ∀ t late, t < s.n → s.owner M = none →
      ((s.thr t).loc.pc = .enter ∨ (s.thr t).loc.pc = .sleepNE ∨ (s.thr t).loc.pc = .sleepNF) →
      creditOn c.cv (s.thr t) = decide ((s.thr t).loc.pc = sleepPc c) →
      Acct c 0 (runAfter (prog true) { s with owner := updT s.owner M (some t) } t late) := by
    intro t late ht hfree hpc hcr
    have hw : wfL (s.thr t).loc := (hB.wf t ht).1
    have hC := (after_crit (s.thr t).loc s.data late hw hpc).acct hw c
    rw [runAfter_eq, show (prog true).after = after true from rfl]
    refine acct_single s ha t ht _ _ _ nofun (fun _ => hC.1) (Or.inr fun u hu _ hsu hp => ?_)
      (fun h => ((after_data _ _ _).closed h).2.1) fun _ hcf => ?_
    · have := closeBroadcast.not_holding_of_free hB hfree u hu
      simp only [Broadcast.holdingT, hsu, closeBroadcast, hp, holding_sleepPc] at this
      cases this
    · rcases hC.2 hcf with h | h
      · exact Or.inl h
      · right; rw [hcr]; simpa using h
  have weaken : ∀ {k} {x : State Data Loc}, Acct c k x → Acct c 0 x :=
    fun h => ⟨h.about, fun a b => Nat.le_trans (Nat.le_add_right _ _) (h.cred a b)⟩
  cases tr with
  | wake t cv m timed to ht hs => exact weaken (acct_wake s ha t ht cv m timed to hs (hB.wf t ht))
  | sleep t cv m timed ht hs hop => exact acct_sleep s ha t ht cv m timed hs hop
  | reacquire t m timed to late ht hs hfree =>
    obtain ⟨rfl, hp⟩ := woken_pc (hB.wf t ht) hs
    refine crit t late ht hfree (Or.inr hp) ?_
    have := credit_woken c (s.thr t).loc M timed to hp
    rwa [← hs] at this
  | lock t m ht hs hop hfree =>
    obtain ⟨hp, rfl⟩ := op_lock hop
    refine crit t false ht hfree (Or.inl hp) ?_
    rw [ready_eta hs]
    cases c <;> simp [creditOn, sleepPc, hp]
  | unlock t m ht hs hop => exact acct_passive s ha t ht false _ hs _ hop rfl nofun
  | plain t ht hs hop => rcases hop with hop | hop <;> exact acct_passive s ha t ht false _ hs _ hop rfl nofun
  | notifyNone t cv ht hs hop hno =>
    refine acct_passive s ha t ht false _ hs _ hop rfl fun e ⟨u, hu, hsu⟩ => ?_
    cases e
    rw [hno u hu] at hsu; cases hsu
  | notifyWake t cv u ht hs hop hu hsl =>
    obtain ⟨m, timed, hsu⟩ := asleep_status hsl
    have hut : t ≠ u := by rintro rfl; rw [hs] at hsu; cases hsu
    have h1 := acct_wake s ha u hu cv m timed false hsu (hB.wf u hu)
    rw [wakeT_asleep _ cv m timed false hsu]
    have et : updT s.thr u { (s.thr u) with status := .woken m timed false } t = s.thr t := updT_other _ _ _ _ hut
    exact acct_passive _ h1 t ht false _ (by rw [← et] at hs; exact hs) (.notifyOne cv)
      (by rw [← hop]; exact congrArg _ (congrArg _ et)) rfl fun e _ => by cases e; simp
  | notifyAll t cv ht hs hop =>
    have h0 := acct_wakeAll s ha cv hB.wf
    have et : wakeAll cv s.thr t = s.thr t := wakeAll_not_asleep cv s.thr t (by simp [isAsleepOn, hs])
    exact acct_passive _ h0 t ht false _ (by rw [← et] at hs; exact hs) (.notifyAll cv)
      (by rw [← hop]; exact congrArg _ (congrArg _ et)) rfl nofun

theorem deadlocked_credit (s : State Data Loc) (h : closeBroadcast.Inv s) (hd : Deadlocked (prog true) s) (c : CvId) (t : Tid)
    (ht : t < s.n) : creditOn c (s.thr t) = false := by
  cases hst : (s.thr t).status with
  | asleep _ _ _ => simp [creditOn, hst]
  | woken m timed to =>
    -- nobody can run, so nobody holds the mutex: a woken thread could run
    obtain ⟨rfl, _⟩ := woken_pc (h.wf t ht) hst
    have hen := hd t ht
    simp only [enabled, hst, closeBroadcast.deadlocked_free s h hd] at hen
    cases hen
  | ready =>
    rw [ready_eta hst]
    refine credit_idle c _ ?_
    rcases ready_disabled hst (hd t ht) with ⟨_, hop, _⟩ | hop
    · exact Or.inl ⟨(op_lock hop).1, (h.wf t ht).1.1 (op_lock hop).1⟩
    · exact Or.inr (op_done hop)

structure Inv (s : State Data Loc) : Prop where
  bc : closeBroadcast.Inv s
  acct (c : Side) : Acct c 0 s

theorem inv_run (cap : Nat) (ps : List (List Call)) (sched : List Choice) : Inv (run (prog true) (init cap ps) sched) := by
  refine inv_of_tr (prog true) Inv (fun s s' h tr => ⟨closeBroadcast.inv_tr s s' h.bc tr, fun c => acct_tr s s' h.bc (h.acct c) tr⟩)
    sched _ ⟨closeBroadcast_init cap ps, fun c => ?_⟩
  exact ⟨fun t _ _ hp => by cases c <;> simp [init, sleepPc] at hp, fun ⟨t, _, h⟩ => by simp [init, isAsleepOn] at h⟩

theorem closerFor_NF_of_NE {ts : TState Loc} (h : closerFor NE ts = true) : closerFor NF ts = true := by
  obtain ⟨st, l⟩ := ts
  cases st <;> simp_all [closerFor, NE, NF]

namespace Inv
variable {s : State Data Loc} (h : Inv s)
include h

theorem credNE (hs : someAsleep s NE) (hc : s.data.closed = false) : s.data.q.length ≤ cnt (creditOn NE) s.thr s.n := by
  simpa [owed, paid, Side.cv] using (h.acct .ne).cred hs hc

theorem credNF (hs : someAsleep s NF) (hc : s.data.closed = false) :
    s.data.cap ≤ s.data.q.length + cnt (creditOn NF) s.thr s.n := by
  simpa [owed, paid, Side.cv] using (h.acct .nf).cred hs hc

/-- once closed, sleepers exist only until the closer's `notify_all`: the clause of the broadcast theorem, in the
vocabulary of the Q properties -/
theorem close (c : Side) (hc : s.data.closed = true) (hs : someAsleep s c.cv) :
    ∃ u, u < s.n ∧ closerFor c.cv (s.thr u) = true := by
  obtain ⟨t, ht, hsl⟩ := hs
  rcases h.bc.main t c.cv ht hsl with hp | ⟨u, hu, hus, huo⟩
  · cases c <;> simp [closeBroadcast, predClosed, hc, Side.cv] at hp
  · refine ⟨u, hu, ?_⟩
    have := (Bool.and_eq_true _ _ ▸ huo : _ ∧ _).2
    rwa [← ready_eta hus] at this

/-- once `close()` has returned (nobody is before its second `notify_all`, hence nobody before its first) nobody sleeps -/
theorem closed_awake (c : Side) (hc : s.data.closed = true)
    (hret : ∀ u, u < s.n → closerFor NF (s.thr u) = false) {t : Tid} (ht : t < s.n) : isAsleepOn c.cv (s.thr t) = false := by
  cases hsl : isAsleepOn c.cv (s.thr t) with
  | false => rfl
  | true =>
    obtain ⟨u, hu, hx⟩ := h.close c hc ⟨t, ht, hsl⟩
    have : closerFor NF (s.thr u) = true := by
      cases c
      · exact closerFor_NF_of_NE hx
      · exact hx
    rw [hret u hu] at this; cases this

/-- **Q4, every state**: a sleeper whose wait condition holds has a wake-up in the pipeline or a closer behind it -/
theorem pending (c : Side) {t : Tid} (ht : t < s.n) (hsl : isAsleepOn c.cv (s.thr t) = true)
    (hp : predOf c s.data = true) : ∃ u, u < s.n ∧ (creditOn c.cv (s.thr u) = true ∨ closerFor c.cv (s.thr u) = true) := by
  cases hc : s.data.closed with
  | true => obtain ⟨u, hu, hx⟩ := h.close c hc ⟨t, ht, hsl⟩; exact ⟨u, hu, Or.inr hx⟩
  | false =>
    have := (h.acct c).cred ⟨t, ht, hsl⟩ hc
    have := ((predOf_iff c _).mp hp).resolve_left (by rw [hc]; nofun)
    obtain ⟨u, hu, hx⟩ := exists_of_cnt_pos (creditOn c.cv) s.thr s.n (by omega)
    exact ⟨u, hu, Or.inl hx⟩

/-- **Q4, no lost wake-up**: when nobody can run, every sleeper's wait condition is false.  No wake-up is left in the pipeline,
so the account says that nothing is owed; that the queue is open is the broadcast theorem. -/
theorem no_lost_wakeup (c : Side)
    (hd : Deadlocked (prog true) s) {t : Tid} (ht : t < s.n) (hsl : isAsleepOn c.cv (s.thr t) = true) :
    predOf c s.data = false := by
  have hc : s.data.closed = false := deadlocked_open h.bc hd c ht hsl
  have := (h.acct c).cred ⟨t, ht, hsl⟩ hc
  rw [cnt_zero _ _ _ fun u hu => deadlocked_credit s h.bc hd c.cv u hu] at this
  refine Bool.eq_false_iff.mpr fun hp => ?_
  rcases (predOf_iff c _).mp hp with h1 | h1
  · rw [hc] at h1; cases h1
  · omega

end Inv

/-- a lost wake-up: nobody can run, yet a thread sleeps on `_condNotEmpty` while its condition (`predNE`: non-empty or closed) holds -/
def LostWakeup (fixed : Bool) (s : State Data Loc) : Prop :=
  Deadlocked (prog fixed) s ∧ ∃ t, t < s.n ∧ isAsleepOn NE (s.thr t) = true ∧ (s.thr t).status = .asleep NE M false ∧ predNE s.data = true

/-- the consumer evaluates its predicate (false) and is pre-empted before `wait`; `close()` runs to completion — flag set,
both `notify_all` hit nobody —; the consumer goes to sleep and is never woken.  (This is the schedule DetSched replays
against the real unrepaired header.) -/
def f01Schedule : List Choice :=
  [.run 0 0, .run 0 0, .run 1 0, .run 1 0, .run 1 0, .run 0 0]

end Iora.BQ
