import IoraModel.Model.ThreadPool
import IoraModel.Common.Pool
/-!
# C09 — the ground the proofs about `Model/ThreadPool.lean` stand on

`step`, `callStep`, `afterWait` and `applyPost` are unfolded here and nowhere else.  The first three are given once as a case rule (`step_cases`,
`callStep_cases`, `afterWait_cases`): one case per leaf or group of leaves its users treat alike (the stutters of `step`, the two pushes), with
the guards they read; a fact about the function is proved by giving it for the cases; `applyPost` is read through the inversion `applyPost_cases`.
The states of a thread are read through observation functions (`cur`, `holdsM`, `atCreate`, `tailW`, …): tables by state that say what the
state means in `thread_pool.hpp`; none of them tells a woken worker from a sleeping one, so no wake-up changes them (`wake_obs`).  The views
`ids`, `fview`, `subs`, `qview` are the tuples of shared fields a step is compared on.  What a step does to the thread list is one object,
`ThreadsStep`.
-/
namespace Iora.ThreadPool
open Iora.Pool

theorem step_cases (cfg : Cfg) (s : St) (c : Choice) (P : St → Prop)
    (hstut : P s)
    (hwake : ∀ t th b, s.thr[t]? = some th → isAsleep th = true → P { s with thr := s.thr.set t (wake th b) })
    (hreacq : ∀ t th to late, s.thr[t]? = some th → wokenBy th = some to → s.sh.owner = none →
        P { sh := (reacq cfg s.sh t late).1, thr := s.thr.set t (.worker (reacq cfg s.sh t late).2) })
    (hrun : ∀ t th alt l, s.thr[t]? = some th → wokenBy th = none → isAsleep th = false → isFinished th = false →
        enabled s th = true →
        applyPost (s.thr.set t (trans cfg s.sh s.thr.length t th alt).2.1) (trans cfg s.sh s.thr.length t th alt).2.2 alt = some l →
        P { sh := (trans cfg s.sh s.thr.length t th alt).1, thr := l }) :
    P (step cfg s c) := by
  cases c with
  | timeout t | spurious t =>
    simp only [step]
    cases h : s.thr[t]? with
    | none => simpa using hstut
    | some th =>
      simp only []
      by_cases ha : isAsleep th = true
      · rw [if_pos ha]; exact hwake t th _ h ha
      · rw [if_neg ha]; exact hstut
  | run t alt =>
    simp only [step]
    cases h : s.thr[t]? with
    | none => simpa using hstut
    | some th =>
      simp only []
      cases hw : wokenBy th with
      | some to =>
        simp only []
        by_cases ho : s.sh.owner.isNone = true
        · rw [if_pos ho]
          exact hreacq t th to _ h hw (by simpa using ho)
        · rw [if_neg ho]; exact hstut
      | none =>
        simp only []
        by_cases hf : (isAsleep th || isFinished th) = true
        · rw [if_pos hf]; exact hstut
        · rw [if_neg hf]
          have hf' : isAsleep th = false ∧ isFinished th = false := by
            cases h1 : isAsleep th <;> cases h2 : isFinished th <;> simp [h1, h2] at hf ⊢
          by_cases he : enabled s th = true
          · rw [if_pos he]
            cases hp : applyPost (s.thr.set t (trans cfg s.sh s.thr.length t th alt).2.1) (trans cfg s.sh s.thr.length t th alt).2.2 alt with
            | none => simpa using hstut
            | some l => exact hrun t th alt l h hw hf'.1 hf'.2 he hp
          · rw [if_neg he]; exact hstut

theorem callStep_cases {P : CallSt → Shared × CallOut × Post → Prop} (cfg : Cfg) (sh : Shared) (n : Nat) (t : Tid)
    (nil : P (.yield_ []) (sh, .done, .none))
    (alloc : ∀ a rest, sh.accepting = true →
      P (.yield_ (a :: rest)) ({ sh with nextId := sh.nextId + 1, bodyIx := setF sh.bodyIx sh.nextId a.body, modeOf := setF sh.modeOf sh.nextId a.mode },
        .more (.inCall rest sh.nextId .lock), .none))
    (drain : ∀ a rest, sh.accepting = false →
      P (.yield_ (a :: rest)) ({ sh with nextId := sh.nextId + 1, bodyIx := setF sh.bodyIx sh.nextId a.body, modeOf := setF sh.modeOf sh.nextId a.mode, result := setF sh.result sh.nextId .refDraining },
        nextCall rest, .none))
    (refS : ∀ rest cid, sh.shutdown = true →
      P (.inCall rest cid .lock) ({ sh with owner := some t, result := setF sh.result cid .refShutdown }, .more (.inCall rest cid .unlockR), .none))
    (refF : ∀ rest cid, sh.shutdown = false → cfg.maxQueue ≤ sh.tasks.length →
      P (.inCall rest cid .lock) ({ sh with owner := some t, result := setF sh.result cid .refFull }, .more (.inCall rest cid .unlockR), .none))
    (push : ∀ rest cid e, sh.shutdown = false → sh.tasks.length < cfg.maxQueue →
      (e = .create ∧ sh.threads.length < cfg.effMax ∨ e = .unlock ∧ cfg.effMax ≤ sh.threads.length) →
      P (.inCall rest cid .lock) ({ sh with owner := some t, tasks := sh.tasks ++ [cid], accCnt := bump sh.accCnt cid, result := setF sh.result cid .accepted },
        .more (.inCall rest cid e), .none))
    (create : ∀ rest cid, P (.inCall rest cid .create) ({ sh with threads := sh.threads ++ [n] }, .more (.inCall rest cid .unlock), .spawn newWorker))
    (unlock : ∀ rest cid, P (.inCall rest cid .unlock) ({ sh with owner := none }, .more (.inCall rest cid .notify), .none))
    (notify : ∀ rest cid, P (.inCall rest cid .notify) (sh, nextCall rest, .wakeOne))
    (unlockR : ∀ rest cid, P (.inCall rest cid .unlockR) ({ sh with owner := none }, nextCall rest, .none))
    (c : CallSt) : P c (callStep cfg sh n t c) := by
  cases c with
  | yield_ sc =>
    cases sc with
    | nil => exact nil
    | cons a rest =>
      dsimp only [callStep]; split
      · next h => exact alloc a rest h
      · next h => exact drain a rest (by simpa using h)
  | inCall rest cid e =>
    cases e <;> dsimp only [callStep]
    · split
      · next hs => exact refS rest cid hs
      · next hs =>
        have hs : sh.shutdown = false := by simpa using hs
        split
        · next hf => exact refF rest cid hs hf
        · next hf =>
          split
          · next hr => exact push rest cid .create hs (by omega) (.inl ⟨rfl, hr⟩)
          · next hr => exact push rest cid .unlock hs (by omega) (.inr ⟨rfl, by omega⟩)
    · exact create rest cid
    · exact unlock rest cid
    · exact notify rest cid
    · exact unlockR rest cid

theorem nextCall_cases (rest : List Act) : nextCall rest = .done ∨ nextCall rest = .more (.yield_ rest) := by
  unfold nextCall; split <;> simp

theorem callStep_wake (cfg : Cfg) (sh : Shared) (n : Nat) (t : Tid) (c : CallSt)
    (h : (callStep cfg sh n t c).2.2 = .wakeOne ∨ (callStep cfg sh n t c).2.2 = .wakeAll) :
    ∃ rest cid, c = .inCall rest cid .notify := by
  revert h
  refine callStep_cases (P := fun c x => x.2.2 = .wakeOne ∨ x.2.2 = .wakeAll → ∃ rest cid, c = .inCall rest cid .notify) cfg sh n t
    ?_ ?_ ?_ ?_ ?_ ?_ ?_ ?_ (fun rest cid _ => ⟨rest, cid, rfl⟩) ?_ c <;> intros <;> simp_all

theorem afterWait_cases {P : Shared × WSt → Prop} (cfg : Cfg) (sh : Shared) (t : Tid) (res : Bool)
    (cont : P (sh, .unlockCont))
    (detach : res = false → t ∈ sh.threads → P ({ sh with exited := sh.exited + 1 }, .detach))
    (exit : (res = false ∧ t ∉ sh.threads) ∨ (sh.shutdown = true ∧ sh.tasks = []) → P ({ sh with exited := sh.exited + 1 }, .unlockExit))
    (pop : ∀ id rest, sh.tasks = id :: rest → P ({ sh with tasks := rest, busy := sh.busy + 1 }, .unlockTask id)) :
    P (afterWait cfg sh t res) := by
  unfold afterWait
  split
  · next hr =>
    have hr : res = false := by simpa using hr
    split
    · exact cont
    · split
      · next hm => exact detach hr hm
      · next hm => exact exit (.inl ⟨hr, hm⟩)
  · split
    · next hc => exact exit (.inr (by simpa using hc))
    · split
      · exact cont
      · next id rest heq => exact pop id rest heq

theorem waitPred_false {sh : Shared} (h : waitPred sh = false) : sh.shutdown = false ∧ sh.tasks = [] := by
  cases hs : sh.shutdown <;> cases ht : sh.tasks <;> simp_all [waitPred]

theorem init_get {cfg : Cfg} {t : Nat} {x : Thread} (h : (init cfg).thr[t]? = some x) :
    t = 0 ∧ x = .main .start { mscript := cfg.main, ctor := cfg.initialSize } := by
  cases t with
  | zero => exact ⟨rfl, (Option.some.inj h).symm⟩
  | succ k => simp [init] at h

theorem asleep_eq {th : Thread} (h : isAsleep th = true) : th = .worker .asleep := by
  cases th with
  | worker w => cases w <;> first | rfl | cases h
  | _ => cases h

theorem woken_eq {th : Thread} {to : Bool} (h : wokenBy th = some to) : th = .worker (.woken to) := by
  cases th with
  | worker w => cases w <;> first | (cases h; rfl) | cases h
  | _ => cases h

/-- the task a worker has in hand: popped from the queue, body not yet finished -/
def cur : Thread → Option Nat
  | .worker (.unlockTask id) | .worker (.popped id) | .worker (.bYield id _) | .worker (.body id _) => some id
  | _ => none

/-- the task whose body a worker is executing -/
def running : Thread → Option Nat
  | .worker (.bYield id _) | .worker (.body id _) => some id
  | _ => none

/-- does a caller hold `_mutex` at this point of the call? -/
def holdsCall : CallSt → Bool
  | .inCall _ _ .create | .inCall _ _ .unlock | .inCall _ _ .unlockR => true
  | _ => false

def holdsOut : CallOut → Bool
  | .more c => holdsCall c
  | .done => false

@[simp] theorem nextCall_holds (rest : List Act) : holdsOut (nextCall rest) = false := by
  unfold nextCall; split <;> rfl

def holdsW : WSt → Bool
  | .waitReady | .detach | .unlockExit | .unlockCont | .unlockTask _ => true
  | .body _ c => holdsCall c
  | _ => false

def holdsS : SSt → Bool
  | .run c => holdsCall c
  | _ => false

def holdsP : MPc → Bool
  | .cC | .cU | .dInfU | .pollU _ | .finU _ | .sFlagUA _ | .sFlagU | .sChkU | .jU _ | .jUnone | .p5U | .rsU | .stU | .kC | .kU => true
  | .inCall c => holdsCall c
  | _ => false

/-- The thread's state says it holds `_mutex`.  This table and `locksM` are hand-written; they are checked against the model by `transW_step`,
`transS_step`, `transM_step` (`Step.lock` holds by `rfl` at every leaf) and `enabled_locks`. -/
def holdsM : Thread → Bool
  | .worker w => holdsW w
  | .sub x => holdsS x
  | .main pc _ => holdsP pc

def locksW : WSt → Bool
  | .lock => true
  | .body _ c => c.locks
  | _ => false

def locksS : SSt → Bool
  | .run c => c.locks
  | _ => false

def locksP : MPc → Bool
  | .cL | .dInfL | .pollL _ | .finL _ | .sFlagL | .sChkL | .jL | .p5L | .rsL | .stL | .kL => true
  | .inCall c => c.locks
  | _ => false

/-- the pending operation is `lock(_mutex)` -/
def locksM : Thread → Bool
  | .worker w => locksW w
  | .sub x => locksS x
  | .main pc _ => locksP pc

theorem enabled_locks (s : St) (th : Thread) (h : enabled s th = true) (hl : locksM th = true) : s.sh.owner = none := by
  have opt : ∀ o : Option Tid, o.isNone = true → o = none := fun o h => by cases o <;> first | rfl | cases h
  have call : ∀ c : CallSt, c.locks = true → (!c.locks || s.sh.owner.isNone) = true → s.sh.owner = none :=
    fun c hc h => by rw [hc] at h; exact opt _ h
  cases th with
  | worker w => cases w <;> first | (cases hl; done) | exact opt _ h | exact call _ hl h
  | sub x => cases x <;> first | (cases hl; done) | exact call _ hl h
  | main pc r => cases pc <;> first | (cases hl; done) | exact opt _ h | exact call _ hl h

/-- the caller is about to create a worker (holds the mutex, has pushed a task) -/
def atCreate : Thread → Bool
  | .worker (.body _ (.inCall _ _ .create)) => true
  | .sub (.run (.inCall _ _ .create)) => true
  | .main (.inCall (.inCall _ _ .create)) _ => true
  | _ => false

def isWorker : Thread → Bool
  | .worker _ => true
  | _ => false

/-- the worker has decided to exit (or has exited): it will not look at the queue again -/
def tailW : Thread → Bool
  | .worker .detach | .worker .unlockExit | .worker .done => true
  | _ => false

/-- the worker has removed itself from `_threads` (idle exit) or has returned -/
def goneW : Thread → Bool
  | .worker .unlockExit | .worker .done => true
  | _ => false

/-- the worker the controller has taken out of `_threads` and is about to join -/
def targetOf : Thread → Option Tid
  | .main (.jU w) _ | .main (.jJoin w) _ | .main (.jDetach w) _ => some w
  | _ => none

def isMain : Thread → Bool
  | .main _ _ => true
  | _ => false

theorem targetOf_isMain (th : Thread) (w : Tid) (h : targetOf th = some w) : isMain th = true := by
  cases th with
  | main pc r => rfl
  | sub x => simp [targetOf] at h
  | worker x => simp [targetOf] at h

theorem targetOf_worker {th : Thread} (h : isWorker th = true) : targetOf th = none := by
  cases th <;> first | rfl | cases h

theorem finished_worker (th : Thread) (h : isFinished th = true) (hw : isWorker th = true) : th = .worker .done := by
  cases th with
  | main pc r => simp [isWorker] at hw
  | sub x => simp [isWorker] at hw
  | worker w => cases w <;> simp [isFinished] at h; rfl

theorem atCreate_holds (th : Thread) (h : atCreate th = true) : holdsM th = true := by
  cases th with
  | main pc r =>
    cases pc with
    | inCall c => cases c with
      | yield_ sc => cases h
      | inCall rest cid e => cases e <;> first | rfl | cases h
    | _ => cases h
  | sub x =>
    cases x with
    | run c => cases c with
      | yield_ sc => cases h
      | inCall rest cid e => cases e <;> first | rfl | cases h
    | _ => cases h
  | worker w =>
    cases w with
    | body id c => cases c with
      | yield_ sc => cases h
      | inCall rest cid e => cases e <;> first | rfl | cases h
    | _ => cases h

theorem holdsM_cC (r : MRegs) : holdsM (.main .cC r) = true := rfl

/-- a worker about to create a worker does so inside the body of a task it has in hand -/
theorem atCreate_of_cur_none (th : Thread) (hw : isWorker th = true) (h : cur th = none) : atCreate th = false := by
  cases th with
  | worker w => cases w <;> first | rfl | cases h
  | _ => cases hw

theorem cur_of_not_worker (th : Thread) (h : isWorker th = false) : cur th = none := by
  cases th <;> first | rfl | cases h

/-- a thread that is not a worker, or a worker that has left, has no task in hand -/
theorem cur_of_gone (th : Thread) (h : isWorker th = true → goneW th = true) : cur th = none ∧ running th = none := by
  cases th with
  | worker w => have := h rfl; cases w <;> first | exact ⟨rfl, rfl⟩ | cases this
  | _ => exact ⟨rfl, rfl⟩

theorem goneW_tailW (th : Thread) (h : goneW th = true) : tailW th = true := by
  cases th with
  | worker w => cases w <;> simp [goneW] at h <;> rfl
  | main pc r => simp [goneW] at h
  | sub x => simp [goneW] at h

/-- controller that has set `_shutdown`: from there to the end of its join loop.  A caller that found `_shutdown` set waits at `sFlagUA` /
`sDoneZ` and is not in this class (`pollEp`). -/
def seqPc : MPc → Bool
  | .sFlagU | .sBcast | .sGrace | .sChkL | .sChkU | .jL | .jU _ | .jJoin _ | .jDetach _ | .p2Z | .p2Grace | .p4CfgL | .p4CfgU => true
  | .pollL k | .pollU k | .pollZ k => k != .drain
  | .finL k | .finU k => k != .drain
  | _ => false

/-- controller: its own join loop has completed -/
def qPc : MPc → Bool
  | .jUnone | .p5L | .p5U => true
  | _ => false

/-- controller: this thread has set `_shutdown` and has not yet returned from `shutdown()` / the destructor -/
def ownsPc (pc : MPc) : Bool := seqPc pc || qPc pc

/-- controller: inside `reset()` / `start()` -/
def restartPc : MPc → Bool
  | .rsL | .rsU | .stL | .stU | .kL | .kC | .kU => true
  | _ => false

def restartTh : Thread → Bool
  | .main pc _ => restartPc pc
  | _ => false

/-- controller: constructor not finished -/
def ctorPc : MPc → Bool
  | .start | .cL | .cC | .cU => true
  | _ => false

def inCtor : Thread → Bool
  | .main pc _ => ctorPc pc
  | _ => false

theorem inCtor_main {x : Thread} (h : inCtor x = true) : ∃ pc r, x = .main pc r ∧ ctorPc pc = true := by
  cases x with
  | main pc r => exact ⟨pc, r, rfl, h⟩
  | _ => cases h

theorem inCtor_atCreate (th : Thread) (h : inCtor th = true) : atCreate th = false := by
  cases th with
  | main pc r => cases pc <;> first | rfl | cases h
  | _ => cases h

/-- controller pcs at which the controller neither is about to create a worker nor has a join target -/
def calmPc : MPc → Bool
  | .inCall (.inCall _ _ .create) => false
  | .jU _ | .jJoin _ | .jDetach _ => false
  | _ => true

/-- the pcs at which a controller is between two operations: it holds nothing and has no worker in hand -/
def idlePc : MPc → Bool
  | .mYield | .done | .mJoin | .mSpawn _ | .mSpawnCtl _ | .inCall (.yield_ _) | .dInfL | .pollL _ | .finL _ | .sFlagL | .sGrace
  | .jL | .p4CfgL => true
  | _ => false

/-- the controller is at the `lock` operation of an enqueue call -/
def lockCall : MPc → Bool
  | .inCall c => c.locks
  | _ => false

/-- the join loop's `detach()` (DETACHED mode only) -/
def isDetach : MPc → Bool
  | .jDetach _ => true
  | _ => false

def detachTh : Thread → Bool
  | .main pc _ => isDetach pc
  | _ => false

theorem idlePc_spec {pc : MPc} (h : idlePc pc = true) :
    calmPc pc = true ∧ lockCall pc = false ∧ holdsP pc = false ∧ restartPc pc = false ∧ ctorPc pc = false ∧ isDetach pc = false := by
  cases pc with
  | inCall c => cases c <;> first | (cases h; done) | exact ⟨rfl, rfl, rfl, rfl, rfl, rfl⟩
  | _ => first | (cases h; done) | exact ⟨rfl, rfl, rfl, rfl, rfl, rfl⟩

/-- the id allocator, the outcomes and the acceptance counts -/
def ids (sh : Shared) := (sh.nextId, sh.result, sh.accCnt)

/-- the flags and the log, and with them the start counts: what neither an enqueue call nor the worker's wait touches -/
def fview (sh : Shared) := (sh.shutdown, sh.quiesced, sh.complete, sh.mlog, sh.epoch, sh.startCnt)

/-- what the bookkeeping of the submissions reads: the queue, the id allocator, the outcomes and the three counters per id -/
def subs (sh : Shared) := (sh.tasks, sh.nextId, sh.result, sh.accCnt, sh.startCnt, sh.doneCnt)

/-- the queue, the worker map and the two flags `WInv`, `SizeInv` and `QOk` speak of -/
def qview (sh : Shared) := (sh.tasks, sh.threads, sh.shutdown, sh.quiesced)

theorem wake_of_not_asleep (x : Thread) (b : Bool) (h : isAsleep x = false) : wake x b = x := by
  unfold wake
  split
  · simp [isAsleep] at h
  · rfl

/-- an observation that does not tell a woken worker from a sleeping one does not see a wake-up; the observation functions are such -/
theorem wake_obs {α : Type} (o : Thread → α) (h : ∀ b, o (.worker (.woken b)) = o (.worker .asleep)) (x : Thread) (b : Bool) :
    o (wake x b) = o x := by
  unfold wake; split
  · exact h b
  · rfl

@[simp] theorem isWorker_wake (x : Thread) (b : Bool) : isWorker (wake x b) = isWorker x := wake_obs _ (fun _ => rfl) x b
@[simp] theorem goneW_wake (x : Thread) (b : Bool) : goneW (wake x b) = goneW x := wake_obs _ (fun _ => rfl) x b
@[simp] theorem atCreate_wake (x : Thread) (b : Bool) : atCreate (wake x b) = atCreate x := wake_obs _ (fun _ => rfl) x b
@[simp] theorem holdsM_wake (x : Thread) (b : Bool) : holdsM (wake x b) = holdsM x := wake_obs _ (fun _ => rfl) x b
@[simp] theorem cur_wake (x : Thread) (b : Bool) : cur (wake x b) = cur x := wake_obs _ (fun _ => rfl) x b
@[simp] theorem running_wake (x : Thread) (b : Bool) : running (wake x b) = running x := wake_obs _ (fun _ => rfl) x b
@[simp] theorem restartTh_wake (x : Thread) (b : Bool) : restartTh (wake x b) = restartTh x := wake_obs _ (fun _ => rfl) x b

theorem wake_eq_done (x : Thread) (b : Bool) : wake x b = .worker .done ↔ x = .worker .done := by
  unfold wake; split <;> simp
theorem wake_eq_unlockExit (x : Thread) (b : Bool) : wake x b = .worker .unlockExit ↔ x = .worker .unlockExit := by
  unfold wake; split <;> simp

theorem applyPost_cases {l l' : List Thread} {p : Post} {alt : Nat} (h : applyPost l p alt = some l') :
    (p = .none ∧ l' = l) ∨ (∃ nt, p = .spawn nt ∧ l' = l ++ [nt]) ∨ (p = .wakeAll ∧ l' = wakeAll l) ∨
    (p = .wakeOne ∧ (l' = l ∨ ∃ x, l[alt]? = some x ∧ isAsleep x = true ∧ l' = l.set alt (wake x false))) := by
  cases p with
  | none => exact .inl ⟨rfl, (Option.some.inj h).symm⟩
  | spawn nt => exact .inr (.inl ⟨nt, rfl, (Option.some.inj h).symm⟩)
  | wakeAll => exact .inr (.inr (.inl ⟨rfl, (Option.some.inj h).symm⟩))
  | wakeOne =>
    refine .inr (.inr (.inr ⟨rfl, ?_⟩))
    simp only [applyPost, notifyOne] at h
    split at h
    · split at h
      · next x hx =>
        split at h
        · next hs => exact .inr ⟨x, hx, hs, (Option.some.inj h).symm⟩
        · cases h
      · cases h
    · exact .inl (Option.some.inj h).symm

def postLen : Post → Nat
  | .spawn _ => 1
  | _ => 0

theorem applyPost_length (l l' : List Thread) (p : Post) (alt : Nat) (h : applyPost l p alt = some l') :
    l'.length = l.length + postLen p := by
  rcases applyPost_cases h with ⟨rfl, rfl⟩ | ⟨nt, rfl, rfl⟩ | ⟨rfl, rfl⟩ | ⟨rfl, rfl | ⟨x, hx, hs, rfl⟩⟩ <;>
    simp [postLen, wakeAll]

def wakes : Post → Bool
  | .wakeOne | .wakeAll => true
  | _ => false

/-- `y` is what thread `x` is after a step of another thread: itself, or woken by that step's notify -/
def WokeFrom (x y : Thread) : Prop := y = x ∨ (isAsleep x = true ∧ y = wake x false)

theorem WokeFrom.obs {α : Type} {x y : Thread} (h : WokeFrom x y) (o : Thread → α)
    (ho : ∀ b, o (.worker (.woken b)) = o (.worker .asleep) := by exact fun _ => rfl) : o y = o x := by
  rcases h with rfl | ⟨_, rfl⟩
  · rfl
  · exact wake_obs o ho x false

theorem WokeFrom.done_iff {x y : Thread} (h : WokeFrom x y) : y = .worker .done ↔ x = .worker .done := by
  rcases h with rfl | ⟨_, rfl⟩
  · exact .rfl
  · exact wake_eq_done x false

theorem WokeFrom.unlockExit_iff {x y : Thread} (h : WokeFrom x y) : y = .worker .unlockExit ↔ x = .worker .unlockExit := by
  rcases h with rfl | ⟨_, rfl⟩
  · exact .rfl
  · exact wake_eq_unlockExit x false

/-- a controller does not sleep -/
theorem WokeFrom.main_eq {x y : Thread} (h : WokeFrom x y) (hm : isMain x = true ∨ isMain y = true) : y = x := by
  have hx : isMain x = true := hm.elim id fun e => (h.obs isMain).symm.trans e
  rcases h with e | ⟨ha, _⟩
  · exact e
  · cases x <;> first | cases ha | cases hx

/-- the last conjunct is needed for the acting thread only, which its own notify does not wake (`threadsStep_of_post`) -/
theorem applyPost_old (l l' : List Thread) (p : Post) (alt : Nat) (h : applyPost l p alt = some l')
    (j : Nat) (x : Thread) (hx : l[j]? = some x) :
    ∃ y, l'[j]? = some y ∧ WokeFrom x y ∧ (y = x ∨ wakes p = true) := by
  rcases applyPost_cases h with ⟨_, rfl⟩ | ⟨nt, _, rfl⟩ | ⟨rfl, rfl⟩ | ⟨rfl, rfl | ⟨z, hz, hs, rfl⟩⟩
  · exact ⟨x, hx, .inl rfl, .inl rfl⟩
  · exact ⟨x, by rw [List.getElem?_append_left (lt_of_get hx)]; exact hx, .inl rfl, .inl rfl⟩
  · refine ⟨wake x false, by simp [wakeAll, List.getElem?_map, hx], ?_, .inr rfl⟩
    by_cases ha : isAsleep x = true
    · exact .inr ⟨ha, rfl⟩
    · exact .inl (wake_of_not_asleep x false (by simpa using ha))
  · exact ⟨x, hx, .inl rfl, .inl rfl⟩
  · by_cases e : j = alt
    · subst e; rw [hx] at hz; cases hz
      exact ⟨wake x false, get_set_self hx, .inr ⟨hs, rfl⟩, .inr rfl⟩
    · exact ⟨x, by rw [List.getElem?_set_ne (Ne.symm e)]; exact hx, .inl rfl, .inl rfl⟩

/-- How the thread list changes in one step of thread `t`.  `new`, `len` and `spawned` follow from `self`, `old`, the exact length and the
created thread (`ThreadsStep.of_old`). -/
structure ThreadsStep (l0 l : List Thread) (t : Tid) (th' : Thread) (post : Post) : Prop where
  self : l[t]? = some th'
  old : ∀ j x, j ≠ t → l0[j]? = some x → ∃ y, l[j]? = some y ∧ WokeFrom x y
  new : ∀ j y, l[j]? = some y → (j = t ∧ y = th') ∨ (j ≠ t ∧ ∃ x, l0[j]? = some x ∧ WokeFrom x y) ∨
      (∃ nt, post = .spawn nt ∧ j = l0.length ∧ y = nt)
  len : l0.length ≤ l.length
  spawned : ∀ nt, post = .spawn nt → l[l0.length]? = some nt ∧ l.length = l0.length + 1

theorem ThreadsStep.of_old {l0 l : List Thread} {t : Tid} {th' : Thread} {post : Post}
    (self : l[t]? = some th') (old : ∀ j x, j ≠ t → l0[j]? = some x → ∃ y, l[j]? = some y ∧ WokeFrom x y)
    (len : l.length = l0.length + postLen post) (spawned : ∀ nt, post = .spawn nt → l[l0.length]? = some nt) :
    ThreadsStep l0 l t th' post := by
  refine ⟨self, old, fun j y hy => ?_, by omega, fun nt e => ⟨spawned nt e, by rw [len, e]; rfl⟩⟩
  by_cases e : j = t
  · rw [e, self] at hy; exact .inl ⟨e, (Option.some.inj hy).symm⟩
  · rcases Nat.lt_or_ge j l0.length with h | h
    · obtain ⟨y', hy', hw⟩ := old j l0[j] e (List.getElem?_eq_getElem h)
      rw [hy] at hy'; cases hy'
      exact .inr (.inl ⟨e, _, List.getElem?_eq_getElem h, hw⟩)
    · have hj := lt_of_get hy
      rw [len] at hj
      cases post with
      | spawn nt =>
        have ej : j = l0.length := Nat.le_antisymm (Nat.le_of_lt_succ hj) h
        rw [ej, spawned nt rfl] at hy
        exact .inr (.inr ⟨nt, rfl, ej, (Option.some.inj hy).symm⟩)
      | _ => exact absurd hj (Nat.not_lt.mpr h)

/-- `hself`: a thread that notifies does not go to sleep in the same step -/
theorem threadsStep_of_post {l0 l : List Thread} {t : Tid} {th th' : Thread} {post : Post} {alt : Nat} (hget : l0[t]? = some th)
    (hp : applyPost (l0.set t th') post alt = some l) (hself : isAsleep th' = false ∨ wakes post = false) : ThreadsStep l0 l t th' post := by
  have old := applyPost_old _ l _ alt hp
  refine .of_old ?_ (fun j x hne hx => ?_) (by rw [applyPost_length _ l _ alt hp, List.length_set]) (fun nt hnt => ?_)
  · obtain ⟨y, hy, hw, hp'⟩ := old t _ (get_set_self hget)
    rcases hw with e | ⟨ha, _⟩
    · rw [hy, e]
    · -- woken by its own notify: impossible
      rcases hp' with e | hwk
      · rw [hy, e]
      · rcases hself with h | h
        · rw [h] at ha; cases ha
        · rw [h] at hwk; cases hwk
  · obtain ⟨y, hy, hw, _⟩ := old j x (by rw [List.getElem?_set_ne (Ne.symm hne)]; exact hx)
    exact ⟨y, hy, hw⟩
  · rw [hnt] at hp
    cases hp
    rw [List.getElem?_append_right (by simp)]; simp

section
variable {l0 l : List Thread} {t : Tid} {th' : Thread} {post : Post} (hts : ThreadsStep l0 l t th' post) {j : Nat}
include hts

theorem ThreadsStep.main_new {pc : MPc} {r : MRegs} (ne : j ≠ t) (hj : l[j]? = some (.main pc r)) :
    l0[j]? = some (.main pc r) ∨ (post = .spawn (.main pc r) ∧ j = l0.length) := by
  rcases hts.new j _ hj with ⟨e, _⟩ | ⟨_, x, hx, hwf⟩ | ⟨nt, hnt, e1, e2⟩
  · exact absurd e ne
  · exact .inl (hwf.main_eq (.inr rfl) ▸ hx)
  · exact .inr ⟨e2 ▸ hnt, e1⟩

theorem ThreadsStep.main_old {x : Thread} (ne : j ≠ t) (hx : l0[j]? = some x) (hm : isMain x = true) : l[j]? = some x := by
  obtain ⟨y, hy, hwf⟩ := hts.old j x ne hx
  exact hwf.main_eq (.inl hm) ▸ hy

end

def AllT (PT : Shared → Tid → Thread → Prop) (s : St) : Prop := ∀ t th, s.thr[t]? = some th → PT s.sh t th

theorem allT_of_step {PT : Shared → Tid → Thread → Prop} {l0 l : List Thread} {sh' : Shared} {t : Tid} {th' : Thread} {post : Post}
    (hts : ThreadsStep l0 l t th' post) (hself : PT sh' t th')
    (hother : ∀ j x, j ≠ t → l0[j]? = some x → PT sh' j x ∧ (isAsleep x = true → PT sh' j (wake x false)))
    (hnew : ∀ nt, post = .spawn nt → PT sh' l0.length nt) : AllT PT { sh := sh', thr := l } := by
  intro j y hy
  rcases hts.new j y hy with ⟨e1, e2⟩ | ⟨ne, x, hx, e3 | ⟨ha, e3⟩⟩ | ⟨nt, hnt, e1, e2⟩
  · rw [e1, e2]; exact hself
  · rw [e3]; exact (hother j x ne hx).1
  · rw [e3]; exact (hother j x ne hx).2 ha
  · rw [e1, e2]; exact hnew nt hnt

/-- What an observation that no wake-up changes and that is `none` on a created thread reads at index `j` after a step: the thread list is
the old one updated at the acting thread.  This is the index-wise form (the pending ids of `IdInv`); the counts of `Conserved` go through
`PoolStep.count`, which is `applyPost_countP`. -/
theorem obs_step {α : Type} {o : Thread → Option α} {l0 l : List Thread} {t : Tid} {th' : Thread} {post : Post}
    (hw : ∀ x b, o (wake x b) = o x) (hts : ThreadsStep l0 l t th' post) (hfr : ∀ nt, post = .spawn nt → o nt = none) (j : Nat) :
    l[j]?.bind o = if j = t then o th' else l0[j]?.bind o := by
  split
  · next e => rw [e, hts.self]; rfl
  · next ne =>
    cases hy : l[j]? with
    | some y =>
      rcases hts.new j y hy with ⟨e, _⟩ | ⟨_, x, hx, hwf⟩ | ⟨nt, hnt, e1, e2⟩
      · exact absurd e ne
      · rw [hx]; rcases hwf with e | ⟨_, e⟩ <;> rw [e]; exact hw x false
      · rw [e1, List.getElem?_eq_none (Nat.le_refl _), e2]; exact hfr nt hnt
    | none =>
      cases hx : l0[j]? with
      | none => rfl
      | some x => obtain ⟨y, hy', _⟩ := hts.old j x ne hx; rw [hy] at hy'; cases hy'

def postAdd (p : Thread → Bool) : Post → Nat
  | .spawn nt => if p nt then 1 else 0
  | _ => 0

theorem applyPost_countP (p : Thread → Bool) (hw : ∀ x b, p (wake x b) = p x) (l l' : List Thread) (post : Post) (alt : Nat)
    (h : applyPost l post alt = some l') :
    l'.countP p = l.countP p + postAdd p post := by
  rcases applyPost_cases h with ⟨rfl, rfl⟩ | ⟨nt, rfl, rfl⟩ | ⟨rfl, rfl⟩ | ⟨rfl, rfl | ⟨x, hx, hs, rfl⟩⟩
  · rfl
  · simp [List.countP_append, List.countP_cons, postAdd]
  · exact countP_map_same p (fun th => wake th false) l (fun a => hw a false)
  · rfl
  · exact countP_set_same p hx (hw x false)

end Iora.ThreadPool
