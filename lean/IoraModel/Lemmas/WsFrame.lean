import IoraModel.Model.WsFrame
/-! The WebSocket frame codec: `parse` in two layers (the two fixed header bytes, then the three variable-length
pieces, `parseBody`, characterised by outcome in `parseBody_spec`), and `serialize` in the matching normal form. -/
namespace Iora.Ws
open Iora

theorem xorMask_length : ∀ (k xs : Bytes), (xorMask k xs).length = xs.length := by
  intro k xs
  induction xs generalizing k with
  | nil => cases k <;> simp [xorMask]
  | cons x xs ih =>
    cases k with
    | nil => simp [xorMask]
    | cons k0 ks => simp [xorMask, ih]

theorem xorMask_involutive : ∀ (k xs : Bytes), xorMask k (xorMask k xs) = xs := by
  intro k xs
  induction xs generalizing k with
  | nil => cases k <;> simp [xorMask]
  | cons x xs ih =>
    cases k with
    | nil => simp [xorMask]
    | cons k0 ks =>
      simp only [xorMask, ih]
      congr 1
      rw [UInt8.xor_assoc, UInt8.xor_self, UInt8.xor_zero]

/-- well-formed frames: what `serialize` can be asked to emit and `parse` will accept -/
structure Frame.WF (f : Frame) : Prop where
  op : f.opcode < 16
  key4 : f.key.length = 4
  keyZero : f.masked = false → f.key = zeroKey
  len : f.payload.length < 2 ^ 64
  control : isControl f.opcode = true → f.fin = true ∧ f.payload.length ≤ Gen.Ws.maxControlPayload

/-- the first header byte read back: opcode, RSV bits, FIN (a table of 32 byte values) -/
theorem hdr0 (op : Nat) (fin : Bool) (hop : op < 16) :
    (op + if fin = true then 128 else 0) % 256 % 16 = op ∧
    ((op + if fin = true then 128 else 0) % 256 / 16) % 8 = 0 ∧
    decide ((op + if fin = true then 128 else 0) % 256 ≥ 128) = fin := by
  revert fin
  revert op
  decide

/-- the second header byte read back: 7-bit length, MASK -/
theorem hdr1 (l7 : Nat) (masked : Bool) (h : l7 < 128) :
    ((if masked = true then 128 else 0) + l7) % 256 % 128 = l7 ∧
    decide (((if masked = true then 128 else 0) + l7) % 256 ≥ 128) = masked := by
  cases masked <;> simp <;> omega

theorem isControl_iff (op : Nat) : isControl op = true ↔ (op = 8 ∨ op = 9 ∨ op = 10) := by
  simp [isControl, Gen.Ws.controlOpcodes]

theorem takeN_none {n : Nat} {d : Bytes} (h : takeN n d = none) : d.length < n := by
  unfold takeN at h
  by_cases hl : d.length < n
  · exact hl
  · rw [if_neg hl] at h; cases h

theorem readExt_spec (l7 : Nat) (rest : Bytes) :
    match readExt l7 rest with
    | none => rest.length < 8
    | some (len, e, r) => rest.length = e + r.length ∧ e ≤ 8 ∧ (l7 < 126 → len = l7) ∧
        ∀ x, readExt l7 (rest ++ x) = some (len, e, r ++ x) := by
  have m16 : Gen.Ws.len16Marker = 126 := rfl
  have m64 : Gen.Ws.len64Marker = 127 := rfl
  unfold readExt
  by_cases h16 : l7 = Gen.Ws.len16Marker
  · simp only [if_pos h16]
    cases ht : takeN 2 rest with
    | none => have := takeN_none ht; show rest.length < 8; omega
    | some v =>
      obtain ⟨h1, h2⟩ := takeN_some ht
      refine ⟨by rw [h2, List.length_append, h1], by omega, fun _ => by omega, fun x => ?_⟩
      rw [takeN_append x ht]
  · simp only [if_neg h16]
    by_cases h64 : l7 = Gen.Ws.len64Marker
    · simp only [if_pos h64]
      cases ht : takeN 8 rest with
      | none => exact takeN_none ht
      | some v =>
        obtain ⟨h1, h2⟩ := takeN_some ht
        refine ⟨by rw [h2, List.length_append, h1], Nat.le_refl _, fun _ => by omega, fun x => ?_⟩
        rw [takeN_append x ht]
    · simp only [if_neg h64]
      refine ⟨by omega, by omega, ?_, ?_⟩ <;> simp

theorem readExt_none {l7 : Nat} {rest : Bytes} (h : readExt l7 rest = none) : rest.length < 8 := by
  have := readExt_spec l7 rest; rw [h] at this; exact this

theorem readExt_some {l7 : Nat} {rest : Bytes} {len e : Nat} {r : Bytes} (h : readExt l7 rest = some (len, e, r)) :
    rest.length = e + r.length ∧ e ≤ 8 ∧ (l7 < 126 → len = l7) ∧
      ∀ x, readExt l7 (rest ++ x) = some (len, e, r ++ x) := by
  have := readExt_spec l7 rest; rw [h] at this; exact this

theorem readExt_append {l7 : Nat} {rest : Bytes} {len e : Nat} {r : Bytes} (x : Bytes) (h : readExt l7 rest = some (len, e, r)) :
    readExt l7 (rest ++ x) = some (len, e, r ++ x) := (readExt_some h).2.2.2 x

theorem readKey_spec (m : Bool) (r1 : Bytes) :
    match readKey m r1 with
    | none => r1.length < 4
    | some (k, e, r) => r1.length = e + r.length ∧ e ≤ 4 ∧ k.length = 4 ∧ ∀ x, readKey m (r1 ++ x) = some (k, e, r ++ x) := by
  unfold readKey
  cases m with
  | false => exact ⟨by omega, by omega, rfl, fun _ => rfl⟩
  | true =>
    simp only [↓reduceIte]
    cases ht : takeN 4 r1 with
    | none => exact takeN_none ht
    | some v =>
      obtain ⟨h1, h2⟩ := takeN_some ht
      refine ⟨by rw [h2, List.length_append, h1], Nat.le_refl _, h1, fun x => ?_⟩
      simp only [takeN_append x ht]

theorem readKey_none {m : Bool} {r1 : Bytes} (h : readKey m r1 = none) : r1.length < 4 := by
  have := readKey_spec m r1; rw [h] at this; exact this

theorem readKey_some {m : Bool} {r1 k : Bytes} {e : Nat} {r : Bytes} (h : readKey m r1 = some (k, e, r)) :
    r1.length = e + r.length ∧ e ≤ 4 ∧ k.length = 4 ∧ ∀ x, readKey m (r1 ++ x) = some (k, e, r ++ x) := by
  have := readKey_spec m r1; rw [h] at this; exact this

theorem readKey_append {m : Bool} {r1 k : Bytes} {e : Nat} {r : Bytes} (x : Bytes) (h : readKey m r1 = some (k, e, r)) :
    readKey m (r1 ++ x) = some (k, e, r ++ x) := (readKey_some h).2.2.2 x

/-- the tail of the model's `parse`, behind the RSV check and the control-frame check, as a function of the decoded header
fields. It repeats the model's text: `parse_cons2` holds by `rfl` only while the two agree. -/
def parseBody (max : Nat) (fin : Bool) (op : Nat) (masked : Bool) (l7 : Nat) (rest : Bytes) : PRes :=
  match readExt l7 rest with
  | none => .incomplete
  | some (len, extBytes, r1) =>
    if len > max then .tooLarge
    else
      match readKey masked r1 with
      | none => .incomplete
      | some (key, keyBytes, r2) =>
        match takeN len r2 with
        | none => .incomplete
        | some (pl, _) =>
          .frame { fin := fin, opcode := op, masked := masked, key := key,
                   payload := if masked then xorMask key pl else pl }
                 (2 + extBytes + keyBytes + len)

theorem parseBody_tooLarge {max : Nat} {fin : Bool} {op : Nat} {masked : Bool} {l7 : Nat} {rest : Bytes}
    {len e : Nat} {r1 : Bytes} (he : readExt l7 rest = some (len, e, r1)) (h : max < len) :
    parseBody max fin op masked l7 rest = .tooLarge := by
  unfold parseBody; rw [he]; exact if_pos h

theorem parseBody_frame {max : Nat} {fin : Bool} {op : Nat} {masked : Bool} {l7 : Nat} {rest : Bytes}
    {len e ke : Nat} {r1 key r2 pl r3 : Bytes} (he : readExt l7 rest = some (len, e, r1)) (hle : len ≤ max)
    (hk : readKey masked r1 = some (key, ke, r2)) (ht : takeN len r2 = some (pl, r3)) :
    parseBody max fin op masked l7 rest =
      .frame { fin := fin, opcode := op, masked := masked, key := key, payload := if masked then xorMask key pl else pl }
        (2 + e + ke + len) := by
  unfold parseBody
  rw [he]
  simp only []
  rw [if_neg (Nat.not_lt.mpr hle), hk]
  simp only []
  rw [ht]

theorem parseBody_spec (max : Nat) (fin : Bool) (op : Nat) (masked : Bool) (l7 : Nat) (rest : Bytes) :
    match parseBody max fin op masked l7 rest with
    | .incomplete => rest.length + 2 < 14 + max
    | .tooLarge => ∃ len e r1, readExt l7 rest = some (len, e, r1) ∧ max < len
    | .frame f n => ∃ len e r1 key ke r2 pl r3, readExt l7 rest = some (len, e, r1) ∧ len ≤ max ∧
        readKey masked r1 = some (key, ke, r2) ∧ takeN len r2 = some (pl, r3) ∧
        f = { fin := fin, opcode := op, masked := masked, key := key, payload := if masked then xorMask key pl else pl } ∧
        n = 2 + e + ke + len
    | .protocolError => False := by
  unfold parseBody
  -- 14 = the 2 fixed header bytes + at most 8 of extended length (`he8`) + at most 4 of mask key (`hk4`): whichever stage runs
  -- out of bytes, `rest` is shorter than what the stages before it took plus what this one wanted
  cases he : readExt l7 rest with
  | none =>
    have := readExt_none he
    show rest.length + 2 < 14 + max
    omega
  | some v =>
    obtain ⟨len, e, r1⟩ := v
    obtain ⟨h3, he8, _⟩ := readExt_some he
    simp only []
    by_cases hm : len > max
    · rw [if_pos hm]; exact ⟨len, e, r1, rfl, hm⟩
    rw [if_neg hm]
    cases hk : readKey masked r1 with
    | none =>
      have := readKey_none hk
      show rest.length + 2 < 14 + max
      omega
    | some w =>
      obtain ⟨key, ke, r2⟩ := w
      obtain ⟨h4, hk4, _⟩ := readKey_some hk
      simp only []
      cases ht : takeN len r2 with
      | none =>
        have := takeN_none ht
        show rest.length + 2 < 14 + max
        omega
      | some u => exact ⟨len, e, r1, key, ke, r2, u.1, u.2, rfl, Nat.le_of_not_lt hm, hk, ht, rfl, rfl⟩

theorem parse_cons2 (max : Nat) (b0 b1 : UInt8) (rest : Bytes) :
    parse max (b0 :: b1 :: rest) =
      if (b0.toNat / 16) % 8 ≠ 0 then
        .frame { fin := decide (b0.toNat ≥ 128), opcode := b0.toNat % 16, masked := false, key := zeroKey, payload := [] }
          (b0 :: b1 :: rest).length
      else if isControl (b0.toNat % 16) && (decide (b1.toNat % 128 > Gen.Ws.maxControlPayload) || !decide (b0.toNat ≥ 128))
        then .protocolError
      else parseBody max (decide (b0.toNat ≥ 128)) (b0.toNat % 16) (decide (b1.toNat ≥ 128)) (b1.toNat % 128) rest := rfl

theorem parseBody_stable {max : Nat} {fin : Bool} {op : Nat} {masked : Bool} {l7 : Nat} {rest : Bytes} (x : Bytes)
    (h : parseBody max fin op masked l7 rest ≠ .incomplete) :
    parseBody max fin op masked l7 (rest ++ x) = parseBody max fin op masked l7 rest := by
  have hs := parseBody_spec max fin op masked l7 rest
  cases hp : parseBody max fin op masked l7 rest with
  | incomplete => exact absurd hp h
  | protocolError => rw [hp] at hs; exact hs.elim
  | tooLarge =>
    rw [hp] at hs
    obtain ⟨len, e, r1, he, hm⟩ := hs
    exact parseBody_tooLarge (readExt_append x he) hm
  | frame f n =>
    rw [hp] at hs
    obtain ⟨len, e, r1, key, ke, r2, pl, r3, he, hle, hk, ht, rfl, rfl⟩ := hs
    exact parseBody_frame (readExt_append x he) hle (readKey_append x hk) (takeN_append x ht)

def NoRsv : Bytes → Prop
  | [] => True
  | b0 :: _ => (b0.toNat / 16) % 8 = 0

/-- `NoRsv` is needed: an RSV-flagged buffer is answered with a frame that consumes the whole buffer, and that answer does
change when more bytes arrive. -/
theorem parse_stable (max : Nat) (d x : Bytes) (hr : NoRsv d) (h : parse max d ≠ .incomplete) :
    parse max (d ++ x) = parse max d := by
  match d, hr with
  | [], _ => exact absurd rfl h
  | [_], _ => exact absurd rfl h
  | b0 :: b1 :: rest, hr =>
    have hr' : ¬ (b0.toNat / 16) % 8 ≠ 0 := not_not_intro hr
    rw [parse_cons2, if_neg hr'] at h
    rw [List.cons_append, List.cons_append, parse_cons2, parse_cons2, if_neg hr', if_neg hr']
    by_cases hc : (isControl (b0.toNat % 16) &&
        (decide (b1.toNat % 128 > Gen.Ws.maxControlPayload) || !decide (b0.toNat ≥ 128))) = true
    · rw [if_pos hc, if_pos hc]
    · rw [if_neg hc] at h
      rw [if_neg hc, if_neg hc]
      exact parseBody_stable x h

theorem parse_frame_bounds (max : Nat) (d : Bytes) (f : Frame) (n : Nat) (h : parse max d = .frame f n) :
    2 ≤ n ∧ n ≤ d.length ∧ f.payload.length + 2 ≤ n ∧ f.payload.length ≤ max ∧
    (isControl f.opcode = true → f.payload.length ≤ Gen.Ws.maxControlPayload) := by
  match d with
  | [] => cases h
  | [_] => cases h
  | b0 :: b1 :: rest =>
    rw [parse_cons2] at h
    split at h
    · cases h
      exact ⟨Nat.le_add_left 2 _, Nat.le_refl _, Nat.le_add_left 2 _, Nat.zero_le _, fun _ => Nat.zero_le _⟩
    · split at h
      · cases h
      rename_i hc
      have hctl : isControl (b0.toNat % 16) = true → b1.toNat % 128 ≤ Gen.Ws.maxControlPayload := by
        intro hic
        rw [hic, Bool.true_and, Bool.or_eq_true, not_or, decide_eq_true_eq] at hc
        exact Nat.le_of_not_lt hc.1
      have hs := parseBody_spec max (decide (b0.toNat ≥ 128)) (b0.toNat % 16) (decide (b1.toNat ≥ 128)) (b1.toNat % 128) rest
      rw [h] at hs
      obtain ⟨len, e, r1, key, ke, r2, pl, r3, he, hle, hk, ht, rfl, rfl⟩ := hs
      obtain ⟨h1, h2⟩ := takeN_some ht
      obtain ⟨h3, _, hl7, _⟩ := readExt_some he
      obtain ⟨h4, _, _⟩ := readKey_some hk
      have hpl : (if decide (b1.toNat ≥ 128) = true then xorMask key pl else pl).length = len := by
        split
        · rw [xorMask_length]; exact h1
        · exact h1
      have h125 : Gen.Ws.maxControlPayload = 125 := rfl
      rw [h2, List.length_append] at h4
      simp only [hpl, List.length_cons]
      have key : 2 ≤ 2 + e + ke + len ∧ 2 + e + ke + len ≤ rest.length + 1 + 1 ∧ len + 2 ≤ 2 + e + ke + len := by omega
      refine ⟨key.1, key.2.1, key.2.2, hle, fun hic => ?_⟩
      have := hctl hic
      rw [hl7 (Nat.lt_succ_of_le (h125 ▸ this))]; exact this

/-- the sessions answer a ping (opcode 9) with a pong of the same payload, so this is what `Steps.run` and `CSteps.run` assume
in order to know `Q` of the pongs they send -/
def PingsSatisfy (max : Nat) (Q : Bytes → Prop) : Prop := ∀ d f n, parse max d = .frame f n → f.opcode = 9 → Q f.payload

theorem parse_ping_small (max : Nat) : PingsSatisfy max (fun pl => pl.length ≤ Gen.Ws.maxControlPayload) :=
  fun d f n h h9 => (parse_frame_bounds max d f n h).2.2.2.2 (by rw [h9]; rfl)

theorem nil_short (max : Nat) : ([] : Bytes).length < 14 + max := Nat.lt_of_lt_of_le (by decide : 0 < 14) (Nat.le_add_right _ _)

/-- The bound is the `.incomplete` arm of `parseBody_spec`. No `NoRsv` is asked for: an RSV-flagged buffer of two or more bytes
is never "incomplete". -/
theorem parse_incomplete_short (max : Nat) (d : Bytes) (h : parse max d = .incomplete) : d.length < 14 + max := by
  match d with
  | [] => exact nil_short max
  | [_] => exact Nat.lt_of_lt_of_le (by decide : 1 < 14) (Nat.le_add_right _ _)
  | b0 :: b1 :: rest =>
    rw [parse_cons2] at h
    split at h
    · cases h
    · split at h
      · cases h
      have hs := parseBody_spec max (decide (b0.toNat ≥ 128)) (b0.toNat % 16) (decide (b1.toNat ≥ 128)) (b1.toNat % 128) rest
      rw [h] at hs
      exact hs

/-- the 7-bit length field and the extended length bytes `serialize` writes for a payload of `n` bytes -/
def len7 (n : Nat) : Nat := if n ≤ Gen.Ws.serMax7 then n else if n ≤ Gen.Ws.serMax16 then 126 else 127
def lenExt (n : Nat) : Bytes := if n ≤ Gen.Ws.serMax7 then [] else if n ≤ Gen.Ws.serMax16 then be16 n else be64 n

theorem serialize_eq (f : Frame) :
    serialize f = b8 (f.opcode + (if f.fin then 128 else 0)) :: b8 ((if f.masked then 128 else 0) + len7 f.payload.length) ::
      (lenExt f.payload.length ++ (if f.masked then f.key ++ xorMask f.key f.payload else f.payload)) := by
  unfold serialize len7 lenExt
  by_cases h1 : f.payload.length ≤ Gen.Ws.serMax7
  · simp only [if_pos h1]; cases f.masked <;> rfl
  · by_cases h2 : f.payload.length ≤ Gen.Ws.serMax16
    · simp only [if_neg h1, if_pos h2]; cases f.masked <;> rfl
    · simp only [if_neg h1, if_neg h2]; cases f.masked <;> rfl

theorem len7_spec (n : Nat) : len7 n ≤ 127 ∧ (n ≤ 125 → len7 n = n) := by
  unfold len7 Gen.Ws.serMax7 Gen.Ws.serMax16
  split
  · omega
  · split <;> omega

theorem readExt_lenExt (n : Nat) (h : n < 2 ^ 64) (y : Bytes) :
    readExt (len7 n) (lenExt n ++ y) = some (n, (lenExt n).length, y) := by
  unfold len7 lenExt readExt Gen.Ws.serMax7 Gen.Ws.serMax16 Gen.Ws.len16Marker Gen.Ws.len64Marker
  by_cases h1 : n ≤ 125
  · rw [if_pos h1, if_pos h1, if_neg (by omega), if_neg (by omega)]; rfl
  · rw [if_neg h1, if_neg h1]
    by_cases h2 : n ≤ 65535
    · rw [if_pos h2, if_pos h2, if_pos rfl, takeN_left (n := 2) (be16 n) y rfl]
      show some (beNat (be16 n), 2, y) = _
      rw [beNat_be16 n (by omega)]; rfl
    · rw [if_neg h2, if_neg h2, if_neg (by decide), if_pos rfl, takeN_left (n := 8) (be64 n) y rfl]
      show some (beNat (be64 n), 8, y) = _
      rw [beNat_be64 n h]; rfl

theorem roundtrip (max : Nat) (f : Frame) (x : Bytes) (h : f.WF) (hmax : f.payload.length ≤ max) :
    parse max (serialize f ++ x) = .frame f (serialize f).length := by
  -- `serialize_eq` puts the bytes in the form `b0 :: b1 :: lenExt ++ key? ++ payload`; `parse_cons2` passes the two header
  -- checks (`hdr0`, `hdr1`, `hc`); `parseBody_frame` is fed the three stages read back (`readExt_lenExt`, `hkey`, `hpl`); what
  -- remains is unmasking (`hpay`) and the length equation `2 + |lenExt| + (4 or 0) + |payload| = |serialize f|` (last line)
  obtain ⟨fin, op, masked, key, pl⟩ := f
  obtain ⟨hop, hk4, hkz, hlen, hctl⟩ := h
  dsimp only at hop hk4 hkz hlen hctl hmax
  obtain ⟨e1, e2, e3⟩ := hdr0 op fin hop
  obtain ⟨l1, l2⟩ := len7_spec pl.length
  obtain ⟨e4, e5⟩ := hdr1 (len7 pl.length) masked (by omega)
  have hc : ¬ (isControl op && (decide (len7 pl.length > Gen.Ws.maxControlPayload) || !fin)) = true := by
    cases hic : isControl op with
    | false => exact Bool.false_ne_true
    | true =>
      obtain ⟨h1, h2⟩ := hctl hic
      rw [Bool.true_and, Bool.or_eq_true, not_or, decide_eq_true_eq, h1]
      exact ⟨by rw [l2 h2]; exact Nat.not_lt.mpr h2, Bool.false_ne_true⟩
  have hkey : ∀ y, readKey masked ((if masked = true then key ++ xorMask key pl else pl) ++ y) =
      some (key, (if masked = true then 4 else 0), (if masked = true then xorMask key pl else pl) ++ y) := by
    intro y
    unfold readKey
    cases masked with
    | false => rw [hkz rfl]; rfl
    | true => rw [if_pos rfl, if_pos rfl, if_pos rfl, if_pos rfl, List.append_assoc, takeN_left key _ hk4]
  have hpl : takeN pl.length ((if masked = true then xorMask key pl else pl) ++ x) =
      some ((if masked = true then xorMask key pl else pl), x) :=
    takeN_left _ _ (by cases masked <;> simp [xorMask_length])
  rw [serialize_eq]
  simp only [List.cons_append, List.append_assoc]
  rw [parse_cons2, b8_toNat, b8_toNat, e1, e3, e4, e5, if_neg (not_not_intro e2), if_neg hc,
    parseBody_frame (readExt_lenExt pl.length hlen _) hmax (hkey x) hpl]
  have hpay : (if masked = true then xorMask key (if masked = true then xorMask key pl else pl)
      else (if masked = true then xorMask key pl else pl)) = pl := by
    cases masked with
    | false => rfl
    | true => exact xorMask_involutive key pl
  rw [hpay]
  congr 1
  cases masked <;> simp [xorMask_length, hk4] <;> omega

theorem noRsv_of_prefix_serialize (f : Frame) (h : f.WF) (p x y : Bytes) (hp : p ++ x = serialize f ++ y) : NoRsv p := by
  rw [serialize_eq] at hp
  match p with
  | [] => trivial
  | b0 :: p' =>
    simp only [List.cons_append, List.cons.injEq] at hp
    obtain ⟨h0, _⟩ := hp
    subst h0
    simp only [NoRsv, b8_toNat]
    exact (hdr0 f.opcode f.fin h.op).2.1

/-- were the answer on `p` not "incomplete", stability would make it the answer on `p ++ x = serialize f`, i.e. the frame `f`
with `|p| + |x|` bytes consumed; but a frame lies inside the buffer it was parsed from (`parse_frame_bounds`: `n ≤ |p|`). -/
theorem prefix_incomplete (max : Nat) (f : Frame) (h : f.WF) (hmax : f.payload.length ≤ max)
    (p x : Bytes) (hx : x ≠ []) (hp : p ++ x = serialize f) : parse max p = .incomplete := by
  apply Classical.byContradiction
  intro hne
  have hr := noRsv_of_prefix_serialize f h p x [] (by rw [List.append_nil]; exact hp)
  have hs := parse_stable max p x hr hne
  have hrt := roundtrip max f [] h hmax
  rw [List.append_nil, ← hp] at hrt
  rw [hrt] at hs
  have := parse_frame_bounds max p f (p ++ x).length hs.symm
  have hxl : 0 < x.length := List.length_pos_iff.mpr hx
  simp at this
  omega

end Iora.Ws
