import IoraModel.Lemmas.WsFrame
import IoraModel.Common.Framing
/-! What W3/W4 say of BOTH endpoints rests on: streams of valid frames (`ValidFrames`, `stream`), the frame parser as a stable
parser on them (`wsStable`, a `Framing.Stable` of `Common/Framing.lean`) with the exactness of greedy framing on such a stream under every segmentation
(`feed_stream`), and the shape of what a peer sends (`CloseOnlyLast`, `Tail`, `IsMsg`, `Msgs`). Nothing here mentions a session. -/
namespace Iora.Ws
open Iora Iora.Framing

def ValidFrames (max : Nat) (fs : List Frame) : Prop := ∀ f ∈ fs, f.WF ∧ f.payload.length ≤ max

def stream (fs : List Frame) : Bytes := fs.flatMap serialize

/-- The buffers the framer is reasoned about on. Prefixes of valid streams, and not the streams alone, because `Framing.Stable`
wants the set closed under prefixes and under dropping a parsed frame; every such buffer is `NoRsv` (`good_noRsv`), which is
what `parse_stable` asks for. -/
def Good (max : Nat) (d : Bytes) : Prop := ∃ fs x, ValidFrames max fs ∧ d ++ x = stream fs

/-- `parse` as a `Framing` parser. The frame value it hands on is the whole `PRes`, so that what the framer yields is what
`interp1`/`cInterp1` take; both refusals (`protocolError`, `tooLarge`) are fatal. -/
def pws (max : Nat) (d : Bytes) : Res PRes :=
  match parse max d with
  | .incomplete => .more
  | .frame f n => .frame (.frame f n) n
  | .protocolError => .fatal .protocolError
  | .tooLarge => .fatal .tooLarge

theorem serialize_ne_nil (f : Frame) : serialize f ≠ [] := by
  rw [serialize_eq f]; simp

theorem good_noRsv (max : Nat) (d : Bytes) (h : Good max d) : NoRsv d := by
  obtain ⟨fs, x, hv, he⟩ := h
  match fs, hv, he with
  | [], _, he =>
    simp [stream] at he
    rw [he.1]; trivial
  | f :: fs', hv, he =>
    exact noRsv_of_prefix_serialize f (hv f (List.mem_cons_self ..)).1 d x (stream fs') he

theorem good_frame (max : Nat) (d : Bytes) (g : Frame) (n : Nat) (hg : Good max d) (hp : parse max d = .frame g n) :
    ∃ y, d = serialize g ++ y ∧ n = (serialize g).length ∧ Good max y := by
  obtain ⟨fs, x, hv, he⟩ := hg
  match fs, hv, he with
  | [], _, he =>
    simp [stream] at he
    rw [he.1] at hp; simp [parse] at hp
  | f :: fs', hv, he =>
    simp only [stream, List.flatMap_cons] at he
    obtain ⟨hf, hfm⟩ := hv f (List.mem_cons_self ..)
    have hv' : ValidFrames max fs' := fun f' h' => hv f' (List.mem_cons_of_mem _ h')
    rcases List.append_eq_append_iff.mp he with ⟨a', h1, h2⟩ | ⟨c', h1, h2⟩
    · -- serialize f = d ++ a'
      by_cases ha : a' = []
      · subst ha
        simp only [List.append_nil] at h1
        have hrt := roundtrip max f [] hf hfm
        rw [List.append_nil, h1] at hrt
        rw [hrt] at hp
        cases hp
        refine ⟨[], by simp [h1], by rw [h1], fs', x, hv', ?_⟩
        simpa [stream] using h2
      · have := prefix_incomplete max f hf hfm d a' ha h1.symm
        rw [this] at hp; cases hp
    · -- d = serialize f ++ c'
      have hrt := roundtrip max f c' hf hfm
      rw [← h1] at hrt
      rw [hrt] at hp
      cases hp
      exact ⟨c', h1, rfl, fs', x, hv', by simpa [stream] using h2.symm⟩

theorem pws_stable (max : Nat) (d x : Bytes) (hg : Good max (d ++ x)) (h : pws max d ≠ .more) : pws max (d ++ x) = pws max d := by
  have hgd : Good max d := by
    obtain ⟨fs, y, hv, he⟩ := hg
    exact ⟨fs, x ++ y, hv, by rw [← List.append_assoc]; exact he⟩
  unfold pws at h ⊢
  rw [parse_stable max d x (good_noRsv max d hgd) (fun hc => h (by rw [hc]))]

def wsStable (max : Nat) : Stable PRes (Good max) where
  p := pws max
  pos := by
    intro d a n h
    unfold pws at h
    split at h
    · cases h
    · rename_i f n' hp
      cases h
      have := parse_frame_bounds max d f _ hp
      omega
    · cases h
    · cases h
  ext_frame := by
    intro d a n x hg h
    rw [pws_stable max d x hg (by rw [h]; nofun)]; exact h
  ext_fatal := by
    intro d e x hg h
    rw [pws_stable max d x hg (by rw [h]; nofun)]; exact h
  g_drop := by
    intro d a n hg h
    unfold pws at h
    split at h
    · cases h
    · rename_i f n' hp
      cases h
      obtain ⟨y, h1, h2, h3⟩ := good_frame max d f _ hg hp
      subst h1
      rw [h2, List.drop_left]
      exact h3
    · cases h
    · cases h
  g_prefix := by
    intro d x hg
    obtain ⟨fs, y, hv, he⟩ := hg
    exact ⟨fs, x ++ y, hv, by simpa [List.append_assoc] using he⟩

/-- what `parse` answers on `serialize f ++ rest` (`roundtrip`), so that `fs.map toP` IS the framer's output on `stream fs`
(`drain_stream`) and the folds `interp`/`cInterp` can be run on it; the handlers do not look at the count. -/
def toP (f : Frame) : PRes := .frame f (serialize f).length

theorem drain_stream (max : Nat) (fs : List Frame) (hv : ValidFrames max fs) :
    drain (wsStable max) (stream fs) = (fs.map toP, .alive []) := by
  rw [stream, List.flatMap_def]
  refine drain_encoded (wsStable max) (by simp [wsStable, pws, parse]) serialize _ fs fun f hf rest => ?_
  show pws max _ = _
  rw [pws, roundtrip max f rest (hv f hf).1 (hv f hf).2]
  rfl

/-- `b` is an incomplete remainder already buffered when the segments `ss` arrive. This is where validity of the stream enters
the endpoint theorems. -/
theorem feed_stream (max : Nat) (fs : List Frame) (hv : ValidFrames max fs) (ss : List Bytes) (b : Bytes)
    (hb : b ++ ss.flatten = stream fs) (hinc : parse max b = .incomplete) :
    feed (wsStable max) (.alive b) ss = (fs.map toP, .alive []) := by
  rw [feed_eq_drain (wsStable max) ss b ⟨fs, [], hv, by rw [List.append_nil]; exact hb⟩
    (drain_more _ _ (by simp only [wsStable, pws, hinc])), hb]
  exact drain_stream max fs hv

/-- the framer's carry as the third component of the parse loops `loop`/`cLoop`: the unconsumed remainder, `none` after a
fatal answer -/
def carryOpt : Carry → Option Bytes
  | .alive r => some r
  | .dead => none

/-- the peer sends a CLOSE frame only as its last frame (RFC 6455 §5.5.1) -/
def CloseOnlyLast (fs : List Frame) : Prop := ∀ pre f post, fs = pre ++ f :: post → f.opcode = 8 → post = []

/-- the frames after the first fragment of a message: continuation fragments (last one with FIN) with ping/pong
control frames anywhere in between; `acc` is the concatenation of the continuation payloads -/
inductive Tail : Bytes → List Frame → Prop where
  | last (f : Frame) : f.opcode = 0 → f.fin = true → Tail f.payload [f]
  | cont (f : Frame) (acc : Bytes) (rest : List Frame) : f.opcode = 0 → f.fin = false → Tail acc rest →
      Tail (f.payload ++ acc) (f :: rest)
  | ctl (c : Frame) (acc : Bytes) (rest : List Frame) : (c.opcode = 9 ∨ c.opcode = 10) → Tail acc rest →
      Tail acc (c :: rest)

/-- the frames of ONE message with opcode `op` (text 1 / binary 2) and payload `pl`: unfragmented, or a first fragment
followed by a `Tail` (continuations, with pings/pongs in between) -/
inductive IsMsg : Nat → Bytes → List Frame → Prop where
  | single (f : Frame) : (f.opcode = 1 ∨ f.opcode = 2) → f.fin = true → IsMsg f.opcode f.payload [f]
  | frag (f : Frame) (acc : Bytes) (rest : List Frame) : (f.opcode = 1 ∨ f.opcode = 2) → f.fin = false → Tail acc rest →
      IsMsg f.opcode (f.payload ++ acc) (f :: rest)

/-- a peer's frame sequence that carries the messages `ms` (in order): messages, pings/pongs between them, and
optionally a final CLOSE -/
inductive Msgs : List (Nat × Bytes) → List Frame → Prop where
  | nil : Msgs [] []
  | close (c : Frame) : c.opcode = 8 → Msgs [] [c]
  | ctl (c : Frame) (ms : List (Nat × Bytes)) (fs : List Frame) : (c.opcode = 9 ∨ c.opcode = 10) → Msgs ms fs →
      Msgs ms (c :: fs)
  | msg (op : Nat) (pl : Bytes) (fsm : List Frame) (ms : List (Nat × Bytes)) (fs : List Frame) :
      IsMsg op pl fsm → Msgs ms fs → Msgs ((op, pl) :: ms) (fsm ++ fs)

end Iora.Ws
