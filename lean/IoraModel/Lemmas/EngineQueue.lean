import IoraModel.Model.EngineQueue
/-! The engine command-queue model (C05 T4): every accepted promise is queued once or fulfilled once (`Inv.C`; `owes` and `settle_head`
carry it through the steps), and what holds of the closed flag and the three lists in each phase of the I/O thread (`At`);
`Inv.promise_once` is what T4 reads off it. -/
namespace Iora.EngineQueue

/-! the regenerated facts of both engines the model is instantiated with (a change of the source that flips one breaks the build here) -/
theorem f_enq : TeardownFacts.enqueueRefusesWhenClosed = true := by decide +kernel
theorem f_drain : TeardownFacts.drainClosesAndTakesUnderOneLock = true := by decide +kernel
theorem f_resid : TeardownFacts.residualPromisesFailed = true := by decide +kernel
theorem f_norm : TeardownFacts.dispatchFulfilsNormalArm = true := by decide +kernel
theorem f_catch : TeardownFacts.dispatchFulfilsCatchArm = true := by decide +kernel
theorem f_shut : TeardownFacts.shutdownCommandClearsRunning = true := by decide +kernel

/-- how many queued commands still carry promise `p` -/
def pending (s : State) (p : Nat) : Nat :=
  s.cmds.count (.addListener p) + s.batch.count (.addListener p) + s.residual.count (.addListener p)

/-- what holds of the closed flag, the queue, the batch and the residual commands while the I/O thread is in a phase: the queue is
open and nothing is residual until the drain closes it; from then on queue and batch are empty -/
def At (closed : Bool) (cmds batch residual : List Cmd) : Phase → Prop
  | .loop | .drain => closed = false ∧ residual = []
  | .residual => closed = true ∧ cmds = [] ∧ batch = []
  | .exited => closed = true ∧ cmds = [] ∧ batch = [] ∧ residual = []

structure Inv (s : State) : Prop where
  /-- conservation: every accepted promise is either still queued once or has been fulfilled once -/
  C : ∀ p, s.fulfilled p + pending s p = if p ∈ s.accepted then 1 else 0
  loc : At s.closed s.cmds s.batch s.residual s.phase
  /-- kept because the contract (`ok`) asks of an enqueued `addListener p` that `p` is new: neither accepted nor rejected before -/
  R : ∀ p, p ∈ s.rejected → p ∉ s.accepted

theorem Inv_init : Inv init := ⟨fun _ => rfl, ⟨rfl, rfl⟩, nofun⟩

/-- `At` constrains the queue and the batch only once the queue is closed: while it is open any others do -/
theorem At.opened {closed : Bool} {cmds batch residual : List Cmd} {ph : Phase} (h : At closed cmds batch residual ph)
    (hcl : closed = false) (cmds' batch' : List Cmd) : At closed cmds' batch' residual ph := by
  cases ph <;> first | exact h | cases hcl.symm.trans h.1

/-- what one command contributes to the count of promise `q` -/
def owes (c : Cmd) (q : Nat) : Nat := if c = .addListener q then 1 else 0

theorem count_cons_owes (c : Cmd) (l : List Cmd) (q : Nat) :
    (c :: l).count (.addListener q) = l.count (.addListener q) + owes c q := by
  simp only [List.count_cons, owes, beq_iff_eq]

theorem count_snoc_owes (c : Cmd) (l : List Cmd) (q : Nat) :
    (l ++ [c]).count (.addListener q) = l.count (.addListener q) + owes c q := by
  rw [List.count_append, count_cons_owes, List.count_nil, Nat.zero_add]

theorem bump_owes (f : Nat → Nat) (p q : Nat) : bump f p q = f q + owes (.addListener p) q := by
  unfold bump owes
  by_cases h : q = p
  · rw [if_pos h, if_pos (congrArg _ h.symm)]
  · rw [if_neg h, if_neg (fun e => h (Cmd.addListener.inj e).symm)]; rfl

/-- `fulfilled` after command `c` is settled (dispatched, or failed by the residual drain): a promise it carries is fulfilled -/
def settle (f : Nat → Nat) : Cmd → Nat → Nat
  | .addListener p => bump f p
  | _ => f

theorem settle_head (f : Nat → Nat) (c : Cmd) (rest : List Cmd) (q : Nat) :
    settle f c q + rest.count (.addListener q) = f q + (c :: rest).count (.addListener q) := by
  rw [count_cons_owes]
  cases c with
  | addListener p => simp only [settle, bump_owes]; omega
  | shutdown => rfl
  | other => rfl

theorem step_inv {s : State} (h : Inv s) (st : Step) (hok : ok s st = true) : Inv (step s st) := by
  have hC := h.C
  cases st with
  | enqueue c =>
    simp only [step, doEnqueue]
    rw [f_enq, Bool.and_true]
    rcases Bool.eq_false_or_eq_true s.closed with hcl | hcl
    · -- refused: at most `rejected` grows
      rw [if_pos hcl]
      cases c with
      | addListener p =>
        have hok : p ∉ s.accepted ∧ p ∉ s.rejected := by simpa [ok] using hok
        exact { h with R := fun q hq => (List.mem_cons.mp hq).elim (fun e => e ▸ hok.1) (h.R q) }
      | shutdown => exact h
      | other => exact h
    · -- accepted: the command is appended; a promise it carries is fresh
      rw [if_neg (ne_true_of_eq_false hcl)]
      have key : ∀ acc : List Nat, (∀ q, (if q ∈ acc then 1 else 0) = (if q ∈ s.accepted then 1 else 0) + owes c q) →
          (∀ q, q ∈ s.rejected → q ∉ acc) →
          Inv { s with cmds := s.cmds ++ [c], accepted := acc } := fun acc hacc hrej =>
        ⟨fun q => by
            have h1 := hC q; have h2 := hacc q
            simp only [pending, count_snoc_owes] at h1 ⊢; omega,
          h.loc.opened hcl _ _, hrej⟩
      cases c with
      | addListener p =>
        have hok : p ∉ s.accepted ∧ p ∉ s.rejected := by simpa [ok] using hok
        refine key _ (fun q => ?_) (fun q hq hq' => ?_)
        · by_cases hqp : q = p
          · subst hqp; simp [owes, hok.1]
          · have : Cmd.addListener p ≠ .addListener q := fun e => hqp (Cmd.addListener.inj e).symm
            simp [owes, hqp, this]
        · rcases List.mem_cons.mp hq' with rfl | hq'
          · exact hok.2 hq
          · exact h.R q hq hq'
      | shutdown => exact key _ (fun _ => rfl) h.R
      | other => exact key _ (fun _ => rfl) h.R
  | clearRunning => exact { h with }
  | restart =>
    simp only [step]
    split
    · rename_i hph
      have := h.loc; rw [hph] at this
      obtain ⟨_, _, _, hres⟩ := this
      exact { h with loc := ⟨rfl, hres⟩ }
    · exact h
  | swap =>
    -- the batch is empty and takes the queue
    have key : s.closed = false → s.batch = [] → Inv { s with batch := s.cmds, cmds := [] } := fun hcl hb =>
      ⟨fun q => (by have h1 := hC q; simp only [pending, hb, List.count_nil] at h1 ⊢; omega), h.loc.opened hcl _ _, h.R⟩
    have hat := h.loc
    simp only [step]
    split
    · rename_i hph hb; rw [hph] at hat; exact key hat.1 hb
    · rename_i hph hb; rw [hph] at hat; exact key hat.1 hb
    · exact h
  | dispatch t =>
    have key : s.closed = false → Inv (doDispatch s t) := fun hcl => by
      -- each arm of `doDispatch` takes the head command `c` off the batch and leaves `settle s.fulfilled c`: by reduction, `c` being a
      -- constructor in that arm (likewise `failResidual` below)
      have head : ∀ c rest r, s.batch = c :: rest →
          Inv { s with batch := rest, fulfilled := settle s.fulfilled c, running := r } := fun c rest r hb =>
        ⟨fun q => (by have h1 := hC q; have h2 := settle_head s.fulfilled c rest q
                      simp only [pending, hb] at h1 ⊢; omega), h.loc.opened hcl _ _, h.R⟩
      unfold doDispatch
      simp only [f_norm, f_catch, f_shut, ite_self, if_true]
      split
      · exact h
      · exact head _ _ _ ‹_›
      · exact head _ _ _ ‹_›
      · exact head _ _ _ ‹_›
    have hat := h.loc
    simp only [step]
    split
    · rename_i hph; rw [hph] at hat; exact key hat.1
    · rename_i hph; rw [hph] at hat; exact key hat.1
    · exact h
  | loopExit =>
    simp only [step]
    split
    · rename_i hph hb
      split
      · exact h
      · have := h.loc; rw [hph] at this
        exact { h with loc := this }
    · exact h
  | closeQueue =>
    -- the residual list is empty and takes the queue
    simp only [step]
    split
    · rename_i hph hb
      rw [f_drain, if_pos rfl]
      have hat := h.loc; rw [hph] at hat
      exact ⟨fun q => (by have h1 := hC q; simp only [pending, hat.2, List.count_nil] at h1 ⊢; omega), ⟨rfl, rfl, hb⟩, h.R⟩
    · exact h
  | failResidual =>
    have hat := h.loc
    have head : ∀ c rest, s.phase = .residual → s.residual = c :: rest →
        Inv { s with residual := rest, fulfilled := settle s.fulfilled c } := fun c rest hph hr =>
      ⟨fun q => (by have h1 := hC q; have h2 := settle_head s.fulfilled c rest q
                    simp only [pending, hr] at h1 ⊢; omega), by rw [hph] at hat ⊢; exact hat, h.R⟩
    simp only [step]
    split
    · rename_i hph hr
      rw [hph] at hat
      exact { h with loc := ⟨hat.1, hat.2.1, hat.2.2, hr⟩ }
    · rw [f_resid, if_pos rfl]; exact head _ _ ‹_› ‹_›
    · rename_i c _ hnl _ _
      cases c with
      | addListener p => exact absurd rfl (hnl p)
      | _ => exact head _ _ ‹_› ‹_›
    · exact h

theorem run_inv : ∀ (steps : List Step) (s : State), Inv s → Disciplined s steps → Inv (run s steps) := by
  intro steps
  induction steps with
  | nil => intro s h _; exact h
  | cons st rest ih => intro s h hd; exact ih _ (step_inv h st hd.1) hd.2

theorem Inv.promise_once {s : State} (I : Inv s) (p : Nat) :
    s.fulfilled p ≤ 1 ∧ (p ∈ s.rejected → s.fulfilled p = 0) ∧
    (s.phase = .exited → s.fulfilled p = if p ∈ s.accepted then 1 else 0) := by
  have hC := I.C p
  refine ⟨?_, ?_, ?_⟩
  · split at hC <;> omega
  · intro hr; have := I.R p hr; simp [this] at hC; omega
  · intro he
    have h1 := I.loc
    rw [he] at h1
    obtain ⟨_, hcmds, hbatch, hres⟩ := h1
    simp [pending, hcmds, hbatch, hres] at hC
    exact hC

end Iora.EngineQueue
