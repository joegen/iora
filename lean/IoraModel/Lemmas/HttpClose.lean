import IoraModel.Model.HttpRetry
import IoraModel.Common.Span
/-!
`responseRequestsClose` (C17, R4): the index loop of the C++ (`find(',')`, `find_first_not_of`, `find_last_not_of`, `substr`)
computes exactly the RFC 7230 §6.1 reading of the `Connection` field: split at commas, trim optional white space, fold ASCII
case, compare whole tokens. The specification (`splitComma`, `trimOws`, `connTokens`) is written here over C17's own model and is
not C15's `Http.connTokens`: C17 imports C15's model only for the byte-level link, where `Link.connTokens_eq` shows the two equal.
-/
namespace Iora.HttpRetry
open Iora

def isComma (b : UInt8) : Bool := decide (b = 44)

/-- remove leading and trailing SP / HTAB -/
def trimOws (l : Bytes) : Bytes := ((l.dropWhile isOws).reverse.dropWhile isOws).reverse

/-- the token carried by one list element: trimmed and ASCII-lower-cased; `none` for an empty element -/
def segTok (seg : Bytes) : Option Bytes :=
  if trimOws seg = [] then none else some ((trimOws seg).map asciiLower)

/-- the specification as a loop over the comma-separated elements, `(sawClose, sawKeepAlive)`: the stepping stone between the index
loop of the C++ and `connTokens` -/
def specLoop : Nat → Bytes → Bool → Bool × Bool
  | 0, _, saw => (false, saw)
  | fuel + 1, l, saw =>
    let tok := segTok (l.takeWhile fun b => !isComma b)
    if tok = some tokClose then (true, saw) else
    let saw' := saw || tok = some tokKeepAlive
    match l.dropWhile fun b => !isComma b with
    | [] => (false, saw')
    | _ :: rest => specLoop fuel rest saw'

/-- `specLoop` without fuel, over the list of elements -/
def specList : List Bytes → Bool → Bool × Bool
  | [], saw => (false, saw)
  | seg :: rest, saw =>
    if segTok seg = some tokClose then (true, saw)
    else specList rest (saw || segTok seg = some tokKeepAlive)

/-- split at commas (RFC 7230 `#rule`): `"a,b,,c"` ↦ `["a","b","","c"]`; the empty string has one (empty) element -/
def splitComma : Bytes → List Bytes
  | [] => [[]]
  | x :: xs =>
    if isComma x then [] :: splitComma xs
    else match splitComma xs with
      | [] => [[x]]
      | s :: ss => (x :: s) :: ss

/-- the tokens of a `Connection` field value: the specification that `responseRequestsClose_spec` states the C++ loop against -/
def connTokens (v : Bytes) : List Bytes := (splitComma v).filterMap segTok

theorem findFrom_zero (p : UInt8 → Bool) : ∀ (l : Bytes),
    findFrom p l 0 = if l.dropWhile (fun b => !p b) = [] then none else some (l.takeWhile fun b => !p b).length := by
  intro l
  induction l with
  | nil => simp [findFrom]
  | cons x xs ih =>
    by_cases hx : p x = true
    · simp [findFrom, hx, List.dropWhile, List.takeWhile]
    · have hx' : p x = false := by simpa using hx
      simp only [findFrom, hx', Bool.false_eq_true, if_false, ih, List.dropWhile, Bool.not_false, List.takeWhile]
      split <;> simp

/-- the `findIdx?` form, for `findFrom_skip` (by the library's `findIdx?_append`); `findFrom_zero` is the form `specLoop` is written in -/
theorem findFrom_eq (p : UInt8 → Bool) : ∀ l : Bytes, findFrom p l 0 = l.findIdx? p
  | [] => rfl
  | x :: xs => by rw [findFrom, findFrom_eq p xs, List.findIdx?_cons]

theorem findFrom_skip (p : UInt8 → Bool) (ws y : Bytes) (h : ∀ x ∈ ws, p x = false) :
    findFrom p (ws ++ y) 0 = (findFrom p y 0).map (· + ws.length) := by
  rw [findFrom_eq, findFrom_eq, List.findIdx?_append, List.findIdx?_eq_none_iff.2 h, Option.none_or]

theorem findFrom_at (p : UInt8 → Bool) (pre y : Bytes) :
    findFrom p (pre ++ y) pre.length = (findFrom p y 0).map (· + pre.length) := by
  induction pre with
  | nil => simp
  | cons x xs ih =>
    simp only [List.cons_append, List.length_cons, findFrom, ih]
    cases findFrom p y 0 <;> simp [Nat.add_assoc]

theorem findFrom_hit (p : UInt8 → Bool) (c : UInt8) (y : Bytes) (hc : p c = true) : findFrom p (c :: y) 0 = some 0 := by
  simp [findFrom, hc]

theorem findLastUpTo_go_append (p : UInt8 → Bool) : ∀ (l1 l2 : Bytes) (i : Nat) (acc : Option Nat),
    findLastUpTo.go p (l1 ++ l2) i acc = findLastUpTo.go p l2 (i + l1.length) (findLastUpTo.go p l1 i acc) := by
  intro l1
  induction l1 with
  | nil => intro l2 i acc; simp [findLastUpTo.go]
  | cons x xs ih =>
    intro l2 i acc
    simp only [List.cons_append, findLastUpTo.go, List.length_cons]
    rw [ih]
    congr 1
    omega

theorem findLastUpTo_go_none (p : UInt8 → Bool) : ∀ (l : Bytes) (i : Nat) (acc : Option Nat), (∀ x ∈ l, p x = false) →
    findLastUpTo.go p l i acc = acc := by
  intro l
  induction l with
  | nil => intro i acc _; rfl
  | cons x xs ih =>
    intro i acc h
    simp only [findLastUpTo.go, h x (by simp), Bool.false_eq_true, if_false]
    exact ih _ _ fun y hy => h y (by simp [hy])

theorem findLastUpTo_go_last (p : UInt8 → Bool) (pre ws : Bytes) (c : UInt8) (hc : p c = true) (hws : ∀ x ∈ ws, p x = false) :
    findLastUpTo.go p (pre ++ c :: ws) 0 none = some pre.length := by
  rw [findLastUpTo_go_append]
  simp only [findLastUpTo.go, hc, if_true, Nat.zero_add]
  exact findLastUpTo_go_none p ws _ _ hws

theorem trim_decomp (seg : Bytes) :
    ∃ ws1 ws2 : Bytes, seg = ws1 ++ trimOws seg ++ ws2 ∧ (∀ x ∈ ws1, isOws x = true) ∧ (∀ x ∈ ws2, isOws x = true) :=
  trimBy_decomp isOws seg

theorem trim_ends (seg : Bytes) (h : trimOws seg ≠ []) :
    (∃ c r, trimOws seg = c :: r ∧ isOws c = false) ∧ (∃ i c, trimOws seg = i ++ [c] ∧ isOws c = false) :=
  trimBy_ends h

theorem notOws_false_of_ows {x : UInt8} (h : isOws x = true) : (fun b => !isOws b) x = false := by simp [h]

/-- `tokenAt` on the slice `[|pre|, |pre| + |seg|)` of `pre ++ seg ++ post` is the specification's token of `seg`. With
`seg = ws1 ++ core ++ ws2` (`trim_decomp`): `find_first_not_of` lands on `|pre| + |ws1|`, `find_last_not_of` on the last byte of the core,
and `substr` cuts out the core; an element that is all white space yields no index inside the slice -/
theorem tokenAt_spec (pre seg post : Bytes) :
    tokenAt (pre ++ seg ++ post) pre.length (pre.length + seg.length) = segTok seg := by
  obtain ⟨ws1, ws2, hdec, hws1, hws2⟩ := trim_decomp seg
  by_cases hcore : trimOws seg = []
  · -- the element is empty or all white space
    have hsegows : ∀ x ∈ seg, (fun b => !isOws b) x = false := by
      intro x hx
      rw [hdec, hcore] at hx
      simp only [List.append_nil, List.mem_append] at hx
      rcases hx with hx | hx
      · exact notOws_false_of_ows (hws1 x hx)
      · exact notOws_false_of_ows (hws2 x hx)
    have ha : findFrom (fun b => !isOws b) (pre ++ seg ++ post) pre.length =
        (findFrom (fun b => !isOws b) post 0).map (· + seg.length + pre.length) := by
      rw [List.append_assoc, findFrom_at, findFrom_skip _ seg post hsegows]
      cases findFrom (fun b => !isOws b) post 0 <;> simp
    unfold tokenAt segTok
    simp only [hcore, if_true]
    rw [ha]
    split
    · rename_i a b ha' _
      have : ¬ a < pre.length + seg.length := by
        cases hf : findFrom (fun b => !isOws b) post 0 <;> simp [hf] at ha'
        omega
      simp [this]
    · rfl
  · -- a core that starts with `c1` and ends with `c2`, neither white space
    obtain ⟨⟨c1, r1, hc1, hc1o⟩, ⟨ini, c2, hc2, hc2o⟩⟩ := trim_ends seg hcore
    have hseglen : seg.length = ws1.length + (trimOws seg).length + ws2.length := by
      have := congrArg List.length hdec
      simp only [List.length_append] at this
      omega
    have hcorelen : (trimOws seg).length = ini.length + 1 := by rw [hc2]; simp
    have ha : findFrom (fun b => !isOws b) (pre ++ seg ++ post) pre.length = some (ws1.length + pre.length) := by
      have hshape : pre ++ seg ++ post = pre ++ (ws1 ++ (c1 :: (r1 ++ ws2 ++ post))) := by
        rw [hdec, hc1]; simp [List.append_assoc]
      rw [hshape, findFrom_at, findFrom_skip _ ws1 _ (fun x hx => notOws_false_of_ows (hws1 x hx)),
        findFrom_hit _ c1 _ (by simp [hc1o])]
      simp
    have hb : findLastUpTo (fun b => !isOws b) (pre ++ seg ++ post)
        (if pre.length + seg.length = 0 then 0 else pre.length + seg.length - 1) = some (pre.length + ws1.length + ini.length) := by
      have hne : ¬ (pre.length + seg.length = 0) := by omega
      simp only [hne, if_false]
      unfold findLastUpTo
      have htake : (pre ++ seg ++ post).take (pre.length + seg.length - 1 + 1) = (pre ++ ws1 ++ ini) ++ c2 :: ws2 := by
        have e1 : pre.length + seg.length - 1 + 1 = (pre ++ seg).length := by simp [List.length_append]; omega
        rw [e1, List.take_left']
        · rw [hdec, hc2]; simp [List.append_assoc]
        · rfl
      rw [htake, findLastUpTo_go_last _ _ ws2 c2 (by simp [hc2o]) (fun x hx => notOws_false_of_ows (hws2 x hx))]
      simp [List.length_append, Nat.add_assoc]
    unfold tokenAt segTok
    simp only [hcore, if_false]
    rw [ha, hb]
    simp only
    have hcond : ws1.length + pre.length < pre.length + seg.length ∧ pre.length + ws1.length + ini.length ≥ ws1.length + pre.length := by
      omega
    simp only [hcond, and_self, if_true]
    congr 1
    congr 1
    have hdrop : (pre ++ seg ++ post).drop (ws1.length + pre.length) = trimOws seg ++ (ws2 ++ post) := by
      have hshape : pre ++ seg ++ post = (pre ++ ws1) ++ (trimOws seg ++ (ws2 ++ post)) := by
        conv => lhs; rw [hdec]
        simp [List.append_assoc]
      rw [hshape]
      have : ws1.length + pre.length = (pre ++ ws1).length := by simp [List.length_append]; omega
      rw [this, List.drop_left']
      rfl
    rw [hdrop]
    have hn : pre.length + ws1.length + ini.length - (ws1.length + pre.length) + 1 = (trimOws seg).length := by omega
    rw [hn, List.take_left']
    rfl

/-- the index loop started behind a prefix `pre` does with the rest what the specification does (the prefix grows by one
list element and its comma at every turn) -/
theorem tokenLoop_append : ∀ (fuel : Nat) (pre l : Bytes) (saw : Bool),
    tokenLoop (pre ++ l) fuel pre.length saw = specLoop fuel l saw := by
  intro fuel
  induction fuel with
  | zero => intro _ _ _; rfl
  | succ fuel ih =>
    intro pre l saw
    have hl : l = l.takeWhile (fun b => !isComma b) ++ l.dropWhile (fun b => !isComma b) :=
      List.takeWhile_append_dropWhile.symm
    generalize hseg : l.takeWhile (fun b => !isComma b) = seg at hl
    generalize hpost : l.dropWhile (fun b => !isComma b) = post at hl
    have hcomma : findFrom (fun b => decide (b = 44)) (pre ++ l) pre.length =
        if post = [] then none else some (pre.length + seg.length) := by
      -- the model's `tokenLoop` writes the comma test out; `isComma` is that function by definition
      have e1 : l.dropWhile (fun b => !decide (b = 44)) = post := hpost
      have e2 : l.takeWhile (fun b => !decide (b = 44)) = seg := hseg
      rw [findFrom_at, findFrom_zero, e1, e2]
      split <;> simp [Nat.add_comm]
    have htok : tokenAt (pre ++ l) pre.length (pre.length + seg.length) = segTok seg := by
      rw [hl, ← List.append_assoc]
      exact tokenAt_spec pre seg post
    unfold tokenLoop specLoop
    simp only [show ¬ pre.length > (pre ++ l).length by simp, if_false, hcomma, hseg, hpost]
    cases post with
    | nil =>
      simp only [if_true]
      rw [show (pre ++ l).length = pre.length + seg.length by rw [hl]; simp, htok]
    | cons c rest =>
      simp only [List.cons_ne_nil, if_false]
      rw [htok]
      split
      · rfl
      · rw [show pre ++ l = pre ++ seg ++ [c] ++ rest by rw [hl]; simp,
          show pre.length + seg.length + 1 = (pre ++ seg ++ [c]).length by simp [Nat.add_assoc]]
        exact ih _ _ _

theorem splitComma_ne_nil : ∀ l : Bytes, splitComma l ≠ [] := by
  intro l
  induction l with
  | nil => simp [splitComma]
  | cons x xs ih =>
    unfold splitComma
    split
    · simp
    · split <;> simp

/-- `splitComma` in the shape of `specLoop`'s step: the first element, then the rest behind its comma -/
theorem splitComma_unfold : ∀ l : Bytes,
    splitComma l = l.takeWhile (fun b => !isComma b) ::
      (match l.dropWhile (fun b => !isComma b) with
       | [] => []
       | _ :: rest => splitComma rest) := by
  intro l
  induction l with
  | nil => simp [splitComma]
  | cons x xs ih =>
    by_cases hx : isComma x = true
    · simp [splitComma, hx, List.takeWhile, List.dropWhile]
    · have hx' : isComma x = false := by simpa using hx
      simp only [splitComma, hx', Bool.false_eq_true, if_false, List.takeWhile, Bool.not_false, List.dropWhile]
      rw [ih]

theorem specLoop_eq_specList : ∀ (f : Nat) (l : Bytes) (saw : Bool), l.length < f →
    specLoop f l saw = specList (splitComma l) saw := by
  intro f
  induction f with
  | zero => intro _ _ h; omega
  | succ f ih =>
    intro l saw hf
    rw [splitComma_unfold]
    unfold specLoop specList
    simp only
    split
    · rfl
    · cases hd : l.dropWhile (fun b => !isComma b) with
      | nil => simp [specList]
      | cons c rest =>
        simp only
        have hlen := length_takeWhile_add (fun b => !isComma b) l
        rw [hd, List.length_cons] at hlen
        exact ih rest _ (by omega)

/-- the fuel does not matter once it exceeds the length: there are at most `length + 1` list elements -/
theorem specLoop_fuel_irrelevant : ∀ (l : Bytes) (f1 f2 : Nat) (saw : Bool), l.length < f1 → l.length < f2 →
    specLoop f1 l saw = specLoop f2 l saw := by
  intro l f1 f2 saw h1 h2
  rw [specLoop_eq_specList f1 l saw h1, specLoop_eq_specList f2 l saw h2]

/-- the decision taken on what the loop over the list elements returns (`d` = the HTTP/1.0 default), in terms of the token list -/
theorem specList_decision (d : Bool) : ∀ (segs : List Bytes) (saw : Bool),
    (if (specList segs saw).1 then true else if (specList segs saw).2 then false else d) =
      (decide (tokClose ∈ segs.filterMap segTok) || (!(saw || decide (tokKeepAlive ∈ segs.filterMap segTok)) && d)) := by
  intro segs
  induction segs with
  | nil => intro saw; cases saw <;> simp [specList]
  | cons s ss ih =>
    intro saw
    unfold specList
    by_cases hc : segTok s = some tokClose
    · simp [hc]
    · rw [if_neg hc, ih]
      by_cases hk : segTok s = some tokKeepAlive <;> simp [hc, hk, show tokClose ≠ tokKeepAlive by decide]

theorem responseRequestsClose_spec (v ver : Bytes) :
    responseRequestsClose (some v) ver =
      (decide (tokClose ∈ connTokens v) || (!decide (tokKeepAlive ∈ connTokens v) && decide (ver = [49, 46, 48]))) := by
  have := specList_decision (decide (ver = [49, 46, 48])) (splitComma v) false
  rw [← specLoop_eq_specList (v.length + 1) v false (Nat.lt_succ_self _),
    ← show tokenLoop v (v.length + 1) 0 false = specLoop (v.length + 1) v false from tokenLoop_append _ [] v false] at this
  simpa [responseRequestsClose, connTokens] using this

theorem responseRequestsClose_absent (ver : Bytes) : responseRequestsClose none ver = decide (ver = [49, 46, 48]) := by
  simp [responseRequestsClose]

end Iora.HttpRetry
