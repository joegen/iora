import IoraModel.Model.JsonSpec
import IoraModel.Lemmas.Json
/-! Lemmas for J4 and J5 of C13, for arbitrary input bytes: the value predicates of `Model/JsonSpec.lean` over lists; `insertOrAssign`
and duplicate keys (`SMembers.lastValue` is what J5_last_wins of Props/C13 is stated with); one walk over arrays, objects and `parseValue`
establishes the cursor invariant, the error offset and what every *accepted* value satisfies (`Accepted`: limits, distinct keys). -/
namespace Iora.Json
open Iora Iora.Json.Spec

theorem goodMembers_iff (ms : List (Bytes × Json)) : Json.GoodMembers ms ↔ ∀ kv ∈ ms, kv.2.Good := by
  induction ms with
  | nil => simp [Json.GoodMembers]
  | cons m ms ih => obtain ⟨k, v⟩ := m; simp [Json.GoodMembers, ih]

theorem goodList_iff (xs : List Json) : Json.GoodList xs ↔ ∀ x ∈ xs, x.Good := by
  induction xs with
  | nil => simp [Json.GoodList]
  | cons x xs ih => simp [Json.GoodList, ih]

theorem withinMembers_iff (lim : Limits) (s d : Nat) (ms : List (Bytes × Json)) :
    Json.withinMembers lim s d ms ↔ ∀ kv ∈ ms, kv.1.length ≤ lim.stringLengthMax + s ∧ kv.2.within lim s d := by
  induction ms with
  | nil => simp [Json.withinMembers]
  | cons m ms ih => obtain ⟨k, v⟩ := m; simp [Json.withinMembers, ih, and_assoc]

theorem withinList_iff (lim : Limits) (s d : Nat) (xs : List Json) :
    Json.withinList lim s d xs ↔ ∀ x ∈ xs, x.within lim s d := by
  induction xs with
  | nil => simp [Json.withinList]
  | cons x xs ih => simp [Json.withinList, ih]

theorem utf8Members_iff (ms : List (Bytes × Json)) : Json.utf8Members ms ↔ ∀ kv ∈ ms, ValidUtf8 kv.1 ∧ kv.2.utf8 := by
  induction ms with
  | nil => simp [Json.utf8Members]
  | cons m ms ih => obtain ⟨k, v⟩ := m; simp [Json.utf8Members, ih, and_assoc]

theorem utf8List_iff (xs : List Json) : Json.utf8List xs ↔ ∀ x ∈ xs, x.utf8 := by
  induction xs with
  | nil => simp [Json.utf8List]
  | cons x xs ih => simp [Json.utf8List, ih]

theorem distinctKeysMembers_iff (ms : List (Bytes × Json)) : Json.distinctKeysMembers ms ↔ ∀ kv ∈ ms, kv.2.distinctKeys := by
  induction ms with
  | nil => simp [Json.distinctKeysMembers]
  | cons m ms ih => obtain ⟨k, v⟩ := m; simp [Json.distinctKeysMembers, ih]

theorem distinctKeysList_iff (xs : List Json) : Json.distinctKeysList xs ↔ ∀ x ∈ xs, x.distinctKeys := by
  induction xs with
  | nil => simp [Json.distinctKeysList]
  | cons x xs ih => simp [Json.distinctKeysList, ih]

theorem insertOrAssign_not_mem (k : Bytes) (v : Json) (acc : List (Bytes × Json)) (h : k ∉ acc.map Prod.fst) :
    insertOrAssign k v acc = acc ++ [(k, v)] := by
  induction acc with
  | nil => rfl
  | cons m acc ih =>
    obtain ⟨k', v'⟩ := m
    simp only [List.map_cons, List.mem_cons, not_or] at h
    simp only [insertOrAssign]
    rw [if_neg (fun e => h.1 e.symm), ih h.2]
    rfl

theorem mem_insertOrAssign {k : Bytes} {v : Json} {ms : List (Bytes × Json)} {kv : Bytes × Json}
    (h : kv ∈ insertOrAssign k v ms) : kv ∈ ms ∨ kv = (k, v) := by
  induction ms with
  | nil => simp only [insertOrAssign, List.mem_singleton] at h; exact Or.inr h
  | cons m ms ih =>
    obtain ⟨k', v'⟩ := m
    simp only [insertOrAssign] at h
    split at h
    · rename_i hk
      simp only [List.mem_cons] at h ⊢
      rcases h with h | h
      · right; rw [h, hk]
      · left; right; exact h
    · simp only [List.mem_cons] at h ⊢
      rcases h with h | h
      · left; left; exact h
      · rcases ih h with h | h
        · left; right; exact h
        · right; exact h

theorem keys_insertOrAssign (k : Bytes) (v : Json) (ms : List (Bytes × Json)) :
    (insertOrAssign k v ms).map Prod.fst = if k ∈ ms.map Prod.fst then ms.map Prod.fst else ms.map Prod.fst ++ [k] := by
  induction ms with
  | nil => simp [insertOrAssign]
  | cons m ms ih =>
    obtain ⟨k', v'⟩ := m
    simp only [insertOrAssign]
    by_cases hk : k' = k
    · simp [hk]
    · have hk' : ¬ k = k' := fun e => hk e.symm
      simp only [hk, ↓reduceIte, List.map_cons, ih, List.mem_cons, hk', false_or]
      split <;> simp

theorem insertOrAssign_length_le (k : Bytes) (v : Json) (ms : List (Bytes × Json)) :
    (insertOrAssign k v ms).length ≤ ms.length + 1 := by
  have := congrArg List.length (keys_insertOrAssign k v ms)
  split at this <;> simp only [List.length_map, List.length_append, List.length_singleton] at this <;> omega

theorem nodup_insertOrAssign (k : Bytes) (v : Json) (ms : List (Bytes × Json)) (h : (ms.map Prod.fst).Nodup) :
    ((insertOrAssign k v ms).map Prod.fst).Nodup := by
  rw [keys_insertOrAssign]
  split
  · exact h
  · rename_i hk
    rw [List.nodup_append]
    exact ⟨h, by simp, fun a ha b hb => by simp only [List.mem_singleton] at hb; subst hb; exact fun e => hk (e ▸ ha)⟩

theorem lookupKey_insertOrAssign (k k' : Bytes) (v : Json) (ms : List (Bytes × Json)) :
    lookupKey k' (insertOrAssign k v ms) = if k = k' then some v else lookupKey k' ms := by
  induction ms with
  | nil => simp [insertOrAssign, lookupKey]
  | cons m ms ih =>
    obtain ⟨k0, v0⟩ := m
    simp only [insertOrAssign]
    by_cases h0 : k0 = k
    · subst h0
      simp only [↓reduceIte, lookupKey]
      split <;> rfl
    · simp only [h0, ↓reduceIte, lookupKey, ih]
      by_cases h1 : k0 = k'
      · have : ¬ k = k' := fun e => h0 (h1.trans e.symm)
        simp [h1, this]
      · simp [h1]

/-- the value of the LAST member named `k` in an object's member list, if any -/
def Spec.SMembers.lastValue (ops : FloatOps) (k : Bytes) : SMembers → Option Json
  | .nil => none
  | .cons _ k' _ _ v _ tl =>
    match tl.lastValue ops k with
    | some x => some x
    | none => if denoteItems k' = k then some (v.denote ops) else none

theorem lookupKey_denote (ops : FloatOps) (k : Bytes) : ∀ (ms : SMembers) (acc : List (Bytes × Json)),
    lookupKey k (ms.denote ops acc) = (ms.lastValue ops k).or (lookupKey k acc)
  | .nil, acc => rfl
  | .cons w1 k' w2 w3 v w4 tl, acc => by
    simp only [SMembers.denote, SMembers.lastValue]
    rw [lookupKey_denote ops k tl, lookupKey_insertOrAssign]
    cases tl.lastValue ops k with
    | some x => rfl
    | none => simp only [Option.none_or]; split <;> rfl

/-- what holds of every value the parser returns at nesting depth `d` -/
def Accepted (lim : Limits) (d : Nat) (v : Json) : Prop := v.within lim strSlack d ∧ v.distinctKeys

theorem scalar_accepted {lim : Limits} {depth : Nat} (hd : depth ≤ lim.depthMax) {v : Json} (h : Scalar v) : Accepted lim depth v := by
  cases v with
  | str s => cases h
  | arr xs => cases h
  | obj ms => cases h
  | null => exact ⟨hd, trivial⟩
  | bool b => exact ⟨hd, trivial⟩
  | int i => exact ⟨hd, trivial⟩
  | dbl d => exact ⟨hd, trivial⟩

section
variable {pv : Cur → Res Json} (lim : Limits) {N depth : Nat} (hd : depth ≤ lim.depthMax)
  (hpv : ∀ c, c.wf N → Post (Accepted lim (depth + 1)) N c (pv c))
include hd hpv

/-- `c.rest.length + 1 ≤ fuel` is the termination argument of the C++ loop: an iteration consumes at least one byte (`Post` of `pv` demands
    strict progress), so the fuel `parseArray` hands over, the bytes left + 1, is never used up. The same in `objLoop_post`. -/
theorem arrLoop_post : ∀ (fuel : Nat) (racc : List Json) (n : Nat) (c : Cur), c.wf N → c.rest.length + 1 ≤ fuel →
    n = racc.length → (∀ x ∈ racc, Accepted lim (depth + 1) x) → Post (Accepted lim depth) N c (arrLoop pv lim fuel racc n c) := by
  intro fuel
  induction fuel with
  | zero => intro racc n c _ hf; omega
  | succ fuel ih =>
    intro racc n c hw hf hn hall
    simp only [arrLoop]
    by_cases hx : Gen.Json.arrayExceeded n lim.arrayItemsMax = true
    · rw [if_pos hx]; exact ⟨Nat.le.intro hw, by decide⟩
    rw [if_neg hx]
    have hx' : n < lim.arrayItemsMax := Nat.lt_of_not_le fun h' => hx ((arrayExceeded_iff _ _).mpr h')
    have hp := hpv c hw
    cases hr : pv c with
    | error e => rw [hr] at hp; exact hp.err
    | ok y =>
      obtain ⟨v, c1⟩ := y
      rw [hr] at hp
      have hall' : ∀ y ∈ v :: racc, Accepted lim (depth + 1) y := List.forall_mem_cons.mpr ⟨hp.2, hall⟩
      rcases skipWs_cases hp.1.1 with ⟨h2, hp2⟩ | ⟨b, r, h2, hw2, hlen⟩
      · simp only [h2]; exact ⟨hp2, by decide⟩
      · simp only [h2]
        by_cases hb : b = 0x5D
        · rw [if_pos hb]
          refine ⟨⟨hw2.adv, by have := hp.1.2; simp only; omega⟩, ?_, ?_⟩
          · simp only [Json.within, withinList_iff, List.length_reverse, List.length_cons, List.mem_reverse]
            exact ⟨hd, by omega, fun y hy => (hall' y hy).1⟩
          · simp only [Json.distinctKeys, distinctKeysList_iff, List.mem_reverse]
            exact fun y hy => (hall' y hy).2
        rw [if_neg hb]
        by_cases hb : b = 0x2C
        · rw [if_pos hb]
          have hs' := skipWs_wf hw2.adv
          exact (ih (v :: racc) (n + 1) _ hs'.1 (by have := hs'.2; have := hp.1.2; simp only at *; omega)
            (by rw [List.length_cons, hn]) hall').mono (by have := hs'.2; have := hp.1.2; simp only at *; omega)
        · rw [if_neg hb]; exact ⟨Nat.le.intro hw2, by decide⟩

theorem parseArray_post {c : Cur} (hw : c.wf N) (hne : c.rest ≠ []) : Post (Accepted lim depth) N c (parseArray pv lim c) := by
  obtain ⟨rest, pos⟩ := c
  cases rest with
  | nil => exact absurd rfl hne
  | cons b0 r0 =>
    have hs := skipWs_wf (c := Cur.adv ⟨b0 :: r0, pos⟩) hw.adv
    -- both calls of the loop: from the cursor after `[` and white space, with fuel for the bytes left
    have loop : ∀ fuel, (skipWs (Cur.adv ⟨b0 :: r0, pos⟩)).rest.length + 1 ≤ fuel →
        Post (Accepted lim depth) N ⟨b0 :: r0, pos⟩ (arrLoop pv lim fuel [] 0 (skipWs (Cur.adv ⟨b0 :: r0, pos⟩))) :=
      fun fuel hf => (arrLoop_post lim hd hpv fuel [] 0 _ hs.1 hf rfl (fun _ h => nomatch h)).mono (Nat.le_succ_of_le hs.2)
    simp only [parseArray]
    rcases skipWs_cases (c := Cur.adv ⟨b0 :: r0, pos⟩) hw.adv with ⟨h1, -⟩ | ⟨b, r, h1, hw1, hlen⟩
    · simp only [h1]
      exact loop 1 (by rw [h1]; exact Nat.le_refl _)
    · simp only [h1]
      split
      · exact ⟨⟨hw1.adv, Nat.lt_succ_of_le (Nat.le_of_succ_le hlen)⟩, ⟨hd, Nat.zero_le _, trivial⟩, trivial⟩
      · exact loop _ (by rw [h1]; exact Nat.le_refl _)

theorem objLoop_post : ∀ (fuel : Nat) (ms : List (Bytes × Json)) (c : Cur), c.wf N → c.rest.length + 1 ≤ fuel →
    (ms.map Prod.fst).Nodup → (∀ kv ∈ ms, kv.1.length ≤ lim.stringLengthMax + strSlack ∧ Accepted lim (depth + 1) kv.2) →
    Post (Accepted lim depth) N c (objLoop pv lim fuel ms c) := by
  intro fuel
  induction fuel with
  | zero => intro ms c _ hf; omega
  | succ fuel ih =>
    intro ms c hw hf hnd hall
    simp only [objLoop]
    by_cases hx : Gen.Json.membersExceeded ms.length lim.membersMax = true
    · rw [if_pos hx]; exact ⟨Nat.le.intro hw, by decide⟩
    rw [if_neg hx]
    have hx' : ms.length < lim.membersMax := Nat.lt_of_not_le fun h' => hx ((membersExceeded_iff _ _).mpr h')
    have hk := parseString_post lim hw
    cases hr : parseString lim c with
    | error e => rw [hr] at hk; exact hk.err
    | ok y =>
      obtain ⟨k, c1⟩ := y
      rw [hr] at hk
      rcases skipWs_cases hk.1.1 with ⟨h2, hp2⟩ | ⟨b, r, h2, hw2, hlen⟩
      · simp only [h2]; exact ⟨hp2, by decide⟩
      simp only [h2]
      by_cases hb : b ≠ 0x3A
      · rw [if_pos hb]; exact ⟨Nat.le.intro hw2, by decide⟩
      rw [if_neg hb]
      have hv := hpv _ hw2.adv
      cases hr3 : pv ⟨r, (skipWs c1).pos + 1⟩ with
      | error e => rw [hr3] at hv; exact hv.err
      | ok y3 =>
        obtain ⟨v, c3⟩ := y3
        rw [hr3] at hv
        have hnd' := nodup_insertOrAssign k v ms hnd
        have hall' : ∀ kv ∈ insertOrAssign k v ms,
            kv.1.length ≤ lim.stringLengthMax + strSlack ∧ Accepted lim (depth + 1) kv.2 := by
          intro kv hkv
          rcases mem_insertOrAssign hkv with hm | rfl
          · exact hall kv hm
          · exact ⟨hk.2, hv.2⟩
        rcases skipWs_cases hv.1.1 with ⟨h4, hp4⟩ | ⟨b4, r4, h4, hw4, hlen4⟩
        · simp only [h4]; exact ⟨hp4, by decide⟩
        simp only [h4]
        have hprog : r4.length + 1 < c.rest.length := by have := hk.1.2; have := hv.1.2; simp only at *; omega
        by_cases hb4 : b4 = 0x7D
        · rw [if_pos hb4]
          have hlen' := insertOrAssign_length_le k v ms
          refine ⟨⟨hw4.adv, Nat.lt_of_succ_lt hprog⟩, ?_, ?_⟩
          · simp only [Json.within, withinMembers_iff]
            exact ⟨hd, by omega, fun kv hkv => ⟨(hall' kv hkv).1, (hall' kv hkv).2.1⟩⟩
          · simp only [Json.distinctKeys, distinctKeysMembers_iff]
            exact ⟨hnd', fun kv hkv => (hall' kv hkv).2.2⟩
        rw [if_neg hb4]
        by_cases hb4 : b4 = 0x2C
        · rw [if_pos hb4]
          have hs' := skipWs_wf hw4.adv
          exact (ih (insertOrAssign k v ms) _ hs'.1 (by have := hs'.2; simp only at *; omega) hnd' hall').mono
            (by have := hs'.2; simp only at *; omega)
        · rw [if_neg hb4]; exact ⟨Nat.le.intro hw4, by decide⟩

theorem parseObject_post {c : Cur} (hw : c.wf N) (hne : c.rest ≠ []) : Post (Accepted lim depth) N c (parseObject pv lim c) := by
  obtain ⟨rest, pos⟩ := c
  cases rest with
  | nil => exact absurd rfl hne
  | cons b0 r0 =>
    have hs := skipWs_wf (c := Cur.adv ⟨b0 :: r0, pos⟩) hw.adv
    have loop : ∀ fuel, (skipWs (Cur.adv ⟨b0 :: r0, pos⟩)).rest.length + 1 ≤ fuel →
        Post (Accepted lim depth) N ⟨b0 :: r0, pos⟩ (objLoop pv lim fuel [] (skipWs (Cur.adv ⟨b0 :: r0, pos⟩))) :=
      fun fuel hf => (objLoop_post lim hd hpv fuel [] _ hs.1 hf .nil (fun _ h => nomatch h)).mono (Nat.le_succ_of_le hs.2)
    simp only [parseObject]
    rcases skipWs_cases (c := Cur.adv ⟨b0 :: r0, pos⟩) hw.adv with ⟨h1, -⟩ | ⟨b, r, h1, hw1, hlen⟩
    · simp only [h1]
      exact loop 1 (by rw [h1]; exact Nat.le_refl _)
    · simp only [h1]
      split
      · exact ⟨⟨hw1.adv, Nat.lt_succ_of_le (Nat.le_of_succ_le hlen)⟩, ⟨hd, Nat.zero_le _, trivial⟩, .nil, trivial⟩
      · exact loop _ (by rw [h1]; exact Nat.le_refl _)

end

/-- The depth guard fires at `depthMax + 1`, one level deeper than the deepest accepted value, so the recursion is entered with
    `depth ≤ depthMax + 1` and the budget of `depthMax + 2` levels is never exhausted. -/
theorem parseValue_post (ops : FloatOps) (lim : Limits) {N : Nat} : ∀ (fuel depth : Nat) (c : Cur),
    c.wf N → lim.depthMax + 2 ≤ fuel + depth → depth ≤ lim.depthMax + 1 →
    Post (Accepted lim depth) N c (parseValue ops lim fuel depth c) := by
  intro fuel
  induction fuel with
  | zero => intro depth c _ h1 h2; omega
  | succ fuel ih =>
    intro depth c hw h1 h2
    have hs := skipWs_wf hw
    have hp : c.pos ≤ N ∧ (skipWs c).pos ≤ N := ⟨Nat.le.intro hw, Nat.le.intro hs.1⟩
    have hpv : depth ≤ lim.depthMax → ∀ c', Cur.wf N c' → Post (Accepted lim (depth + 1)) N c' (parseValue ops lim fuel (depth + 1) c') :=
      fun hd c' hc' => ih (depth + 1) c' hc' (by omega) (by omega)
    refine parseValue_cases (fun _ => ⟨hp.1, by decide⟩) ⟨hp.2, by decide⟩
      (fun hd => ((parseNull_post hs.1).mono hs.2).imp fun _ => scalar_accepted hd)
      (fun hd => ((parseBool_post hs.1).mono hs.2).imp fun _ => scalar_accepted hd) (fun hd => ?_)
      (fun hd hne => (parseArray_post lim hd (hpv hd) hs.1 hne).mono hs.2)
      (fun hd hne => (parseObject_post lim hd (hpv hd) hs.1 hne).mono hs.2)
      (fun hd => ((parseNumber_post ops hs.1).mono hs.2).imp fun _ => scalar_accepted hd) ⟨hp.2, by decide⟩
    have := parseString_post lim hs.1
    cases hr : parseString lim (skipWs c) with
    | error e => rw [hr] at this; exact this.err
    | ok y => rw [hr] at this; exact ⟨⟨this.1.1, Nat.lt_of_lt_of_le this.1.2 hs.2⟩, ⟨hd, this.2⟩, trivial⟩

theorem parse_post (ops : FloatOps) (lim : Limits) (bs : Bytes) :
    match parse ops lim bs with
    | .ok v => Accepted lim 0 v
    | .error (k, off) => off ≤ bs.length ∧ k ≠ .fuel := by
  have hw0 : Cur.wf bs.length ⟨bs, 0⟩ := Nat.zero_add _
  have hs := skipWs_wf hw0
  unfold parse
  rcases skipWs_cases hw0 with ⟨h1, hp1⟩ | ⟨b, r, h1, -, -⟩
  · simp only [h1]; exact ⟨hp1, by decide⟩
  · simp only [h1]
    have hg := parseValue_post ops lim (lim.depthMax + 2) 0 _ hs.1 (Nat.le_refl _) (Nat.zero_le _)
    cases hr : parseValue ops lim (lim.depthMax + 2) 0 (skipWs ⟨bs, 0⟩) with
    | error e => obtain ⟨k, off⟩ := e; rw [hr] at hg; exact hg
    | ok y =>
      obtain ⟨v, c1⟩ := y
      rw [hr] at hg
      rcases skipWs_cases hg.1.1 with ⟨h2, -⟩ | ⟨b2, r2, h2, hw2, -⟩
      · simp only [h2]; exact hg.2
      · simp only [h2]; exact ⟨Nat.le.intro hw2, by decide⟩

end Iora.Json
