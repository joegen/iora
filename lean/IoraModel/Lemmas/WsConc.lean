import IoraModel.Model.WsConc
import IoraModel.Common.Pool
/-! W5 for ANY number of application threads and ANY schedule, over disciplined programs (`Conc.ok`). -/
namespace Iora.Ws.Conc
open Iora.Mutex (OwnerStep)

/-- what holds for thread `t` (its local state `x`) in global state `st`. `okp`: the rest of its program is disciplined from its
present position; `nxt`: so are its later calls; `rdI`: `rd` means the value in `seen` was read under the mutex it still holds;
`arI`: `armed` means that read saw the flag clear and the early return was not taken; `wI`: `w` means this call has set the flag -/
structure ThrInv (st : St) (t : Nat) (x : Thr) : Prop where
  okp : okProg (decide (st.owner = some t)) x.rd x.armed x.w x.prog = true
  nxt : ∀ p ∈ x.next, ok p = true
  rdI : x.rd = true → st.owner = some t ∧ x.seen = st.flag
  arI : x.armed = true → x.rd = true ∧ st.flag = false
  wI : x.w = true → st.flag = true

/-- `wireFlag`: a CLOSE frame on the wire means the flag is set. With `ThrInv.arI` it is what makes a data send safe: an armed
thread saw the flag clear under the mutex it still holds, so no CLOSE frame is on the wire yet. -/
structure Inv (st : St) : Prop where
  wireFlag : true ∈ st.wire → st.flag = true
  ndac : NoDataAfterCloseW st.wire
  thr : ∀ t x, st.thr[t]? = some x → ThrInv st t x

theorem ndacW_iff_pairwise : ∀ w : List Bool, NoDataAfterCloseW w ↔ w.Pairwise (fun a b => a = true → b = true)
  | [] => by simp [NoDataAfterCloseW]
  | b :: rest => by
    rw [NoDataAfterCloseW, List.pairwise_cons, ndacW_iff_pairwise rest]
    exact and_congr_left' ⟨fun h a ha hc => h hc a ha, fun h hc a ha => h a ha hc⟩

theorem ndac_append_close (w : List Bool) (h : NoDataAfterCloseW w) : NoDataAfterCloseW (w ++ [true]) := by
  rw [ndacW_iff_pairwise] at h ⊢
  exact List.pairwise_append.mpr ⟨h, List.pairwise_singleton .., fun _ _ b hb _ => List.mem_singleton.mp hb⟩

theorem ndac_append_data (w : List Bool) (h : NoDataAfterCloseW w) (hn : true ∉ w) : NoDataAfterCloseW (w ++ [false]) := by
  rw [ndacW_iff_pairwise] at h ⊢
  exact List.pairwise_append.mpr ⟨h, List.pairwise_singleton .., fun a ha _ _ hc => absurd (hc ▸ ha) hn⟩

/-- the other threads are not disturbed by a step of thread `t` that changes the owner only from/to `t` and the flag
only while `t` holds the mutex -/
theorem others (st st' : St) (t : Nat)
    (h1 : ∀ t', t' ≠ t → (st'.owner = some t' ↔ st.owner = some t'))
    (h2 : st'.flag = st.flag ∨ (st.owner = some t ∧ st'.flag = true)) :
    ∀ t' x, t' ≠ t → ThrInv st t' x → ThrInv st' t' x := by
  intro t' x hne h
  have hd : decide (st'.owner = some t') = decide (st.owner = some t') := by
    simp only [decide_eq_decide]; exact h1 t' hne
  refine ⟨by rw [hd]; exact h.okp, h.nxt, ?_, ?_, ?_⟩
  · intro hr
    obtain ⟨r1, r2⟩ := h.rdI hr
    refine ⟨(h1 t' hne).mpr r1, ?_⟩
    rcases h2 with h2 | ⟨h2, _⟩
    · rw [h2]; exact r2
    · rw [r1] at h2; cases h2; exact absurd rfl hne
  · intro ha
    obtain ⟨a1, a2⟩ := h.arI ha
    refine ⟨a1, ?_⟩
    rcases h2 with h2 | ⟨h2, _⟩
    · rw [h2]; exact a2
    · rw [(h.rdI a1).1] at h2; cases h2; exact absurd rfl hne
  · intro hw
    rcases h2 with h2 | ⟨_, h2⟩
    · rw [h2]; exact h.wI hw
    · exact h2

theorem mkInv (st st' : St) (t : Nat) (x' : Thr) (hi : Inv st) (hthr : st'.thr = st.thr.set t x')
    (h1 : OwnerStep t st.owner st'.owner)
    (h2 : st'.flag = st.flag ∨ (st.owner = some t ∧ st'.flag = true))
    (hw : true ∈ st'.wire → st'.flag = true) (hn : NoDataAfterCloseW st'.wire)
    (ht : ThrInv st' t x') : Inv st' :=
  ⟨hw, hn, hthr ▸ Pool.forall_set hi.thr ht (others st st' t (fun _ => h1.other) h2)⟩

/-- the property is decided in two cases: `sendData` (the thread is armed, so it read the flag clear under the mutex it still
holds, so no close frame is on the wire) and `sendClose` (`w`: this call has set the flag); the rest is bookkeeping -/
theorem step_inv (st : St) (t : Nat) (c : Bool) (hi : Inv st) : Inv (step st t c) := by
  unfold step
  cases hx : st.thr[t]? with
  | none => exact hi
  | some x =>
    have hT := hi.thr t x hx
    simp only
    cases hp : x.prog with
    | nil =>
      cases hq : x.next with
      | nil => exact hi
      | cons p ps =>
        -- the thread starts its next call; the finished program ended with the mutex released
        have hok := hT.okp
        rw [hp] at hok
        simp only [okProg, Bool.not_eq_true', decide_eq_false_iff_not] at hok
        refine mkInv st _ t { prog := p, next := ps } hi rfl (.refl _ _) (.inl rfl) hi.wireFlag hi.ndac ?_
        have hdec : decide ((setThr st t { prog := p, next := ps }).owner = some t) = false := by
          simp only [setThr]; exact decide_eq_false hok
        refine ⟨?_, ?_, (fun h => nomatch h), (fun h => nomatch h), (fun h => nomatch h)⟩
        · rw [hdec]; exact hT.nxt p (by rw [hq]; exact List.mem_cons_self ..)
        · intro q hqm; exact hT.nxt q (by rw [hq]; exact List.mem_cons_of_mem _ hqm)
    | cons a r =>
      have hok := hT.okp
      rw [hp] at hok
      -- finishing the program (a `return`): RAII releases the mutex
      have hfin : Inv (finish st t x) := by
        refine mkInv st _ t { x with prog := [], rd := false, armed := false } hi rfl (.giveBack _ _) (.inl rfl) hi.wireFlag hi.ndac ?_
        have hdec : decide ((finish st t x).owner = some t) = false := by
          simp only [finish, setThr]
          by_cases ho : st.owner = some t
          · simp [ho]
          · simp [ho]
        refine ⟨by rw [hdec]; simp [okProg], hT.nxt, (fun h => nomatch h), (fun h => nomatch h), ?_⟩
        intro h; exact hT.wI h
      cases a with
      | lock =>
        simp only [okProg, Bool.and_eq_true, Bool.not_eq_true', decide_eq_false_iff_not] at hok
        by_cases ho : st.owner = none
        · simp only [ho, ↓reduceIte]
          exact mkInv st _ t { x with prog := r, rd := false, armed := false } hi rfl (ho ▸ .acquire t) (.inl rfl) hi.wireFlag hi.ndac
            ⟨by simpa [setThr] using hok.2, hT.nxt, (fun h => nomatch h), (fun h => nomatch h), hT.wI⟩
        · simp only [ho, ↓reduceIte]; exact hi
      | unlock =>
        simp only [okProg, Bool.and_eq_true, decide_eq_true_eq] at hok
        exact mkInv st _ t { x with prog := r, rd := false, armed := false } hi rfl (.giveBack _ _) (.inl rfl) hi.wireFlag hi.ndac
          ⟨by simpa [setThr, hok.1] using hok.2, hT.nxt, (fun h => nomatch h), (fun h => nomatch h), hT.wI⟩
      | read =>
        simp only [okProg] at hok
        refine mkInv st _ t { x with prog := r, rd := decide (st.owner = some t), seen := st.flag, armed := false } hi rfl
          (.refl _ _) (.inl rfl) hi.wireFlag hi.ndac ?_
        refine ⟨hok, hT.nxt, ?_, (fun h => nomatch h), hT.wI⟩
        intro h
        simp only [decide_eq_true_eq] at h
        exact ⟨h, rfl⟩
      | ret =>
        simp only [okProg] at hok
        by_cases h1 : (x.rd && x.seen) = true
        · simp only [h1, ↓reduceIte]; exact hfin
        · simp only [h1, Bool.false_eq_true, ↓reduceIte]
          cases c with
          | true => simp only [↓reduceIte]; exact hfin
          | false =>
            simp only [Bool.false_eq_true, ↓reduceIte]
            refine mkInv st _ t { x with prog := r, armed := x.rd } hi rfl (.refl _ _) (.inl rfl) hi.wireFlag hi.ndac ?_
            refine ⟨hok, hT.nxt, hT.rdI, ?_, hT.wI⟩
            intro ha
            simp only at ha
            refine ⟨ha, ?_⟩
            obtain ⟨_, hs⟩ := hT.rdI ha
            simp only [ha, Bool.true_and, Bool.not_eq_true] at h1
            simp only [setThr]
            rw [← hs]; exact h1
      | write =>
        simp only [okProg, Bool.and_eq_true, decide_eq_true_eq] at hok
        refine mkInv st _ t { x with prog := r, rd := false, armed := false, w := true } hi rfl (.refl _ _)
          (.inr ⟨hok.1, rfl⟩) (fun _ => rfl) hi.ndac ?_
        refine ⟨by simpa [setThr, hok.1] using hok.2, hT.nxt, (fun h => nomatch h), (fun h => nomatch h), fun _ => rfl⟩
      | sendData =>
        simp only [okProg, Bool.and_eq_true, decide_eq_true_eq] at hok
        obtain ⟨⟨⟨hl, hrd⟩, hrt⟩, hrest⟩ := hok
        have hflag : st.flag = false := (hT.arI hrt).2
        have hno : true ∉ st.wire := fun h => by rw [hi.wireFlag h] at hflag; cases hflag
        refine mkInv st _ t { x with prog := r } hi rfl (.refl _ _) (.inl rfl) ?_ (ndac_append_data _ hi.ndac hno) ?_
        · intro h
          simp only [List.mem_append, List.mem_singleton] at h
          rcases h with h | h
          · exact absurd h hno
          · cases h
        · exact ⟨by simpa [setThr, hl, hrd, hrt] using hrest, hT.nxt, hT.rdI, hT.arI, hT.wI⟩
      | sendClose =>
        simp only [okProg, Bool.and_eq_true] at hok
        refine mkInv st _ t { x with prog := r } hi rfl (.refl _ _) (.inl rfl) (fun _ => hT.wI hok.1)
          (ndac_append_close _ hi.ndac) ?_
        exact ⟨hok.2, hT.nxt, hT.rdI, hT.arI, hT.wI⟩
      | other =>
        simp only [okProg] at hok
        refine mkInv st _ t { x with prog := r } hi rfl (.refl _ _) (.inl rfl) hi.wireFlag hi.ndac ?_
        exact ⟨hok, hT.nxt, hT.rdI, hT.arI, hT.wI⟩

theorem run_inv : ∀ (sched : List (Nat × Bool)) (st : St), Inv st → Inv (run st sched) := by
  intro sched
  induction sched with
  | nil => intro st h; exact h
  | cons a rest ih => intro st h; obtain ⟨t, c⟩ := a; exact ih _ (step_inv st t c h)

theorem start_inv (flag : Bool) (calls : List (List (List Act))) (h : ∀ cs ∈ calls, ∀ p ∈ cs, ok p = true) :
    Inv (start flag calls) := by
  refine ⟨(fun h => nomatch h), trivial, ?_⟩
  intro t x hx
  simp only [start, List.getElem?_map, Option.map_eq_some_iff] at hx
  obtain ⟨cs, hcs, rfl⟩ := hx
  have hmem : cs ∈ calls := List.mem_of_getElem? hcs
  exact ⟨by simp [start, okProg], h cs hmem, (fun h => nomatch h), (fun h => nomatch h), (fun h => nomatch h)⟩

theorem run_ndac (progs : List (List Act)) (hok : progs.all ok = true) (flag : Bool) (calls : List (List (List Act)))
    (h : ∀ cs ∈ calls, ∀ p ∈ cs, p ∈ progs) (sched : List (Nat × Bool)) : NoDataAfterCloseW (run (start flag calls) sched).wire :=
  (run_inv sched _ (start_inv flag calls fun cs hcs p hp => List.all_eq_true.mp hok p (h cs hcs p hp))).ndac

end Iora.Ws.Conc
