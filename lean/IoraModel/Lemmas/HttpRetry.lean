import IoraModel.Model.HttpLease
/-!
The tables of the regenerated `Gen/HttpRetry.lean` as closed facts, the normal form of one attempt, the retry loop, and the retry
discipline of one caller's record (`ThreadOK`, `afterAttempt_ok`: stated for a thread of `Model/HttpLease`, of which the sequential
loop is an instance) (C17).
Each table fact is a closed statement about the extracted tables: if a classification fact of the source changes — a catch
clause moves, a receive branch throws another type, `retryEligible` gains a disjunct — it no longer builds. The proofs about
attempts and the loop use these facts and do not unfold a table.
-/
namespace Iora.HttpRetry
open Iora

theorem lookup_cons_ite {α β : Type} [DecidableEq α] (a k : α) (b : β) (es : List (α × β)) :
    List.lookup a ((k, b) :: es) = if a = k then some b else es.lookup a := by
  rw [List.lookup_cons, Lean.Grind.beq_eq_decide_eq]
  by_cases h : a = k <;> simp [h]

@[simp] theorem isSend_send (s : Sid) : isSend (.send s) = true := rfl
@[simp] theorem isSend_close (s : Sid) : isSend (.close s) = false := rfl
@[simp] theorem isSend_connect (h : Host) (s : Sid) : isSend (.connect h s) = false := rfl
@[simp] theorem isSend_acquire (h : Host) : isSend (.acquire h) = false := rfl
@[simp] theorem isSend_release (h : Host) : isSend (.release h) = false := rfl

theorem baseOf_framing : baseOf "HttpFramingError" = some "std::runtime_error" := by
  simp [baseOf, Gen.HttpRetry.exnBases]
theorem baseOf_notSent : baseOf "HttpRequestNotSentError" = some "std::runtime_error" := by
  simp [baseOf, Gen.HttpRetry.exnBases, lookup_cons_ite]
theorem baseOf_runtime : baseOf "std::runtime_error" = some "std::exception" := by
  simp [baseOf, Gen.HttpRetry.exnBases, stdBases, lookup_cons_ite]
theorem baseOf_invalidArg : baseOf "std::invalid_argument" = some "std::logic_error" := by
  simp [baseOf, Gen.HttpRetry.exnBases, stdBases, lookup_cons_ite]
theorem baseOf_logic : baseOf "std::logic_error" = some "std::exception" := by
  simp [baseOf, Gen.HttpRetry.exnBases, stdBases, lookup_cons_ite]
theorem baseOf_exception : baseOf "std::exception" = none := by
  simp [baseOf, Gen.HttpRetry.exnBases, stdBases, lookup_cons_ite]

/-- one step up the inheritance chain (used with the `baseOf_*` facts; unfolding `isAName` itself opens all six levels at once) -/
theorem isAName_succ (n : Nat) (c t : String) :
    isAName (n + 1) c t = (decide (c = t) || match baseOf c with
      | some b => isAName n b t
      | none => false) := by
  rw [isAName, Lean.Grind.beq_eq_decide_eq]
  rfl

theorem isA_table (e : Exn) :
    e.isA "HttpFramingError" = decide (e = .framing) ∧ e.isA "HttpRequestNotSentError" = decide (e = .notSent) ∧
    e.isA "std::exception" = true := by
  cases e <;> simp [Exn.isA, Exn.name, isAName_succ, baseOf_framing, baseOf_notSent, baseOf_runtime, baseOf_invalidArg,
    baseOf_logic, baseOf_exception]

theorem isA_framing (e : Exn) : e.isA "HttpFramingError" = decide (e = .framing) := (isA_table e).1
theorem isA_notSent (e : Exn) : e.isA "HttpRequestNotSentError" = decide (e = .notSent) := (isA_table e).2.1
theorem isA_exception (e : Exn) : e.isA "std::exception" = true := (isA_table e).2.2

theorem dispatch_eq (e : Exn) : dispatch e = if e = .framing then .rethrow else .retry := by
  simp [dispatch, dispatchGo, Gen.HttpRetry.performCatchOrder, Gen.HttpRetry.performCatchActions, isA_framing, isA_exception]

theorem dispatch_notSent : dispatch .notSent = .retry := by rw [dispatch_eq]; rfl
theorem dispatch_other : dispatch .other = .retry := by rw [dispatch_eq]; rfl

theorem retryEligible_eq (m : String) (e : Exn) : retryEligible m e = (isIdempotent m || decide (e = .notSent)) := by
  simp [retryEligible, Gen.HttpRetry.retryEligibleAtoms, evalAtom, isA_notSent]

theorem budgetExhausted_eq (a : Nat) (r : Int) : budgetExhausted a r = decide ((a : Int) ≥ r) := by
  simp [budgetExhausted, Gen.HttpRetry.budgetCmp]

theorem wrapPreSend_eq (e : Exn) : wrapPreSend e = if e = .framing then .framing else .notSent := by
  simp [wrapPreSend, wrapPreSendGo, Gen.HttpRetry.preSendCatch, isA_framing, isA_exception, exnOfName]
  split <;> simp [*]

theorem connectFail_exn : exnOfName Gen.HttpRetry.connectFailThrow = .runtime := by simp [exnOfName, Gen.HttpRetry.connectFailThrow]
theorem setSyncFail_exn : exnOfName Gen.HttpRetry.setSyncFailThrow = .runtime := by simp [exnOfName, Gen.HttpRetry.setSyncFailThrow]
theorem sendFail_exn : exnOfName Gen.HttpRetry.sendFailThrow = .runtime := by simp [exnOfName, Gen.HttpRetry.sendFailThrow]
theorem leaseFail_exn : exnOfName Gen.HttpRetry.leaseFailThrow = .runtime := by simp [exnOfName, Gen.HttpRetry.leaseFailThrow]
theorem urlFail_exn : exnOfName Gen.HttpRetry.urlFailThrow = .invalidArg := by simp [exnOfName, Gen.HttpRetry.urlFailThrow]
theorem portRange_exn : exnOfName Gen.HttpRetry.portRangeThrow = .other := by simp [exnOfName, Gen.HttpRetry.portRangeThrow]
theorem cap_exn : exnOfName Gen.HttpRetry.capThrow = .framing := by simp [exnOfName, Gen.HttpRetry.capThrow]
theorem framingExn_eq : framingExn = .framing := by simp [framingExn, Gen.HttpRetry.framingFnThrows, exnOfName]

theorem recvErr_throw {code t : String} (h : Gen.HttpRetry.recvBranches.lookup code = some ("throw", t)) (cd : Option RespInfo) :
    recvErr code cd = some (.fail (exnOfName t)) := by
  -- `rw` first: `simp` would evaluate the string discriminant of the `match` in order to reduce it
  rw [recvErr, recvBranch, h]; simp

theorem recvErr_timeout : recvErr "Timeout" none = some (.fail .runtime) := by
  rw [recvErr_throw (t := "std::runtime_error") (by simp [Gen.HttpRetry.recvBranches, lookup_cons_ite])]
  simp [exnOfName]
theorem recvErr_overflow : recvErr "BufferOverflow" none = some (.fail .framing) := by
  rw [recvErr_throw (t := "HttpFramingError") (by simp [Gen.HttpRetry.recvBranches, lookup_cons_ite])]
  simp [exnOfName]
theorem recvErr_shutdown : recvErr "ShuttingDown" none = some (.fail .runtime) := by
  rw [recvErr_throw (t := "std::runtime_error") (by simp [Gen.HttpRetry.recvBranches, lookup_cons_ite])]
  simp [exnOfName]
/-- a code without a branch of its own is handled by the final `isErr()` branch -/
theorem recvErr_other : recvErr "Socket" none = some (.fail .runtime) := by
  have h1 : Gen.HttpRetry.recvBranches.lookup "Socket" = none := by simp [Gen.HttpRetry.recvBranches, lookup_cons_ite]
  have h2 : Gen.HttpRetry.recvBranches.lookup "other" = some ("throw", "std::runtime_error") := by
    simp [Gen.HttpRetry.recvBranches, lookup_cons_ite]
  rw [recvErr, recvBranch, h1, h2]
  simp [exnOfName]
theorem recvErr_closed (cd : Option RespInfo) :
    recvErr "PeerClosed" cd = some (match cd with | some r => .done r true true | none => .fail .runtime) := by
  have h : Gen.HttpRetry.recvBranches.lookup "PeerClosed" = some ("closeDelimitedElse", "std::runtime_error") := by
    simp [Gen.HttpRetry.recvBranches, lookup_cons_ite]
  rw [recvErr, recvBranch, h]
  cases cd <;> simp [exnOfName]

theorem reusable_eq (cfg : Cfg) (r : RespInfo) (fe cd res : Bool) :
    reusable cfg r fe cd res = (cfg.reuse && !responseRequestsClose r.conn r.version && !fe && !cd && !res) := by
  simp [reusable, Gen.HttpRetry.reusableAtoms, evalReuse, Bool.and_assoc]

theorem nextAttempt_eq (m : String) (r : Int) (n : Nat) (res : Except Exn RespInfo) :
    nextAttempt m r n res =
      match res with
      | .ok _ => none
      | .error e => if e ≠ .framing ∧ (isIdempotent m = true ∨ e = .notSent) ∧ (n : Int) < r then some (n + 1) else none := by
  cases res with
  | ok x => rfl
  | error e =>
    simp only [nextAttempt, dispatch_eq, retryEligible_eq, budgetExhausted_eq]
    by_cases hf : e = .framing
    · simp [hf]
    · simp [hf, Int.not_le]

theorem nextAttempt_some {m : String} {r : Int} {n n' : Nat} {res : Except Exn RespInfo}
    (h : nextAttempt m r n res = some n') :
    n' = n + 1 ∧ (n : Int) < r ∧ ∃ e, res = .error e ∧ e ≠ .framing ∧ (isIdempotent m = true ∨ e = .notSent) := by
  rw [nextAttempt_eq] at h
  cases res with
  | ok x => cases h
  | error e =>
    simp only at h
    split at h
    · rename_i hc
      cases h
      exact ⟨rfl, hc.2.2, e, rfl, hc.1, hc.2.1⟩
    · cases h

/-- what the loop does on an event other than `more` -/
def terminalRes : RecvEv → RecvRes
  | .complete r => .done r r.surplus false
  | .malformed => .fail .framing
  | .capExceeded => .fail .framing
  | .overflow => .fail .framing
  | .peerClosed (some r) => .done r true true
  | _ => .fail .runtime

def isMore : RecvEv → Bool
  | .more => true
  | _ => false

theorem recvLoop_nil (n : Nat) : recvLoop [] n = (.fail .runtime, n + 1) := by
  simp [recvLoop, recvErr_timeout]

theorem recvLoop_more (rs : List RecvEv) (n : Nat) : recvLoop (.more :: rs) n = recvLoop rs (n + 1) := by
  simp [recvLoop]

theorem recvLoop_term (e : RecvEv) (rs : List RecvEv) (n : Nat) (he : isMore e = false) :
    recvLoop (e :: rs) n = (terminalRes e, n + 1) := by
  cases e with
  | more => cases he
  | complete r => rfl
  | malformed => simp [recvLoop, terminalRes, framingExn_eq]
  | capExceeded => simp [recvLoop, terminalRes, cap_exn]
  | timeout => simp [recvLoop, terminalRes, errCode, recvErr_timeout]
  | overflow => simp [recvLoop, terminalRes, errCode, recvErr_overflow]
  | shuttingDown => simp [recvLoop, terminalRes, errCode, recvErr_shutdown]
  | peerClosed cd => cases cd <;> simp [recvLoop, terminalRes, recvErr_closed]
  | otherErr => simp [recvLoop, terminalRes, errCode, recvErr_other]

/-- outcome of the loop: decided by the first event that is not `more` (silence = time-out if there is none) -/
def loopRes (rs : List RecvEv) : RecvRes :=
  match rs.dropWhile isMore with
  | [] => .fail .runtime
  | e :: _ => terminalRes e

theorem loopRes_of_dropWhile {rs rest : List RecvEv} {e : RecvEv} (h : rs.dropWhile isMore = e :: rest) :
    loopRes rs = terminalRes e := by
  rw [loopRes, h]

theorem loopRes_of_dropWhile_nil {rs : List RecvEv} (h : rs.dropWhile isMore = []) : loopRes rs = .fail .runtime := by
  rw [loopRes, h]

/-- a response that is not close-delimited was completed by the framer -/
theorem loopRes_done {rs : List RecvEv} {r : RespInfo} {fe : Bool} (h : loopRes rs = .done r fe false) :
    ∃ rest, rs.dropWhile isMore = .complete r :: rest ∧ r.surplus = fe := by
  unfold loopRes at h
  split at h
  · cases h
  · rename_i e rest heq
    cases e with
    | complete r' =>
      obtain ⟨rfl, h2, _⟩ := RecvRes.done.inj h
      exact ⟨rest, heq, h2⟩
    | peerClosed cd => cases cd <;> simp [terminalRes] at h
    | _ => simp [terminalRes] at h

theorem loopRes_more (rs : List RecvEv) : loopRes (.more :: rs) = loopRes rs := rfl

theorem loopRes_term (e : RecvEv) (rs : List RecvEv) (he : isMore e = false) : loopRes (e :: rs) = terminalRes e := by
  simp [loopRes, List.dropWhile, he]

theorem recvLoop_eq (rs : List RecvEv) (n : Nat) :
    recvLoop rs n = (loopRes rs, n + (rs.takeWhile isMore).length + 1) := by
  induction rs generalizing n with
  | nil => exact recvLoop_nil n
  | cons e rs ih =>
    cases he : isMore e with
    | true =>
      have : e = .more := by
        cases e with
        | more => rfl
        | _ => cases he
      subst this
      rw [recvLoop_more, ih, loopRes_more]
      simp [List.takeWhile, isMore]
      omega
    | false =>
      rw [recvLoop_term e rs n he, loopRes_term e rs he]
      simp [List.takeWhile, he]

theorem terminalRes_ne_notSent (e : RecvEv) : terminalRes e ≠ .fail .notSent := by
  cases e with
  | peerClosed cd => cases cd <;> simp [terminalRes]
  | _ => simp [terminalRes]

theorem loopRes_ne_notSent (rs : List RecvEv) : loopRes rs ≠ .fail .notSent := by
  unfold loopRes
  split
  · simp
  · exact terminalRes_ne_notSent _

theorem mem_eraseHost {h : Host} {l : List (Host × Sid)} {p : Host × Sid} :
    p ∈ eraseHost h l ↔ p ∈ l ∧ p.1 ≠ h := by
  simp [eraseHost, List.mem_filter]

theorem lookup_eraseHost (h : Host) (l : List (Host × Sid)) : (eraseHost h l).lookup h = none :=
  List.lookup_eq_none_iff.2 fun _ hp => bne_iff_ne.2 (Ne.symm (mem_eraseHost.1 hp).2)

theorem dropConnection_hit {c : Client} {h : Host} {sid : Sid} (hl : c.conns.lookup h = some sid) :
    (dropConnection c h sid).1 = { c with conns := eraseHost h c.conns } := by
  simp [dropConnection, hl]

/-- what the pre-send region yields, whatever the client state (`connectNew` for a host without a cache entry, as
`acquireConnection` calls it): no `send` on the engine; an error only when the connect or the mode switch failed (read by
`underLease_cache`, for the byte-level link), and then `std::runtime_error`; and the cache entry of `h` afterwards is the session
handed out, none after an error -/
def PreOut (h : Host) (a : Attempt) (x : Client × Except Exn Sid × List Ev) : Prop :=
  x.2.2.countP isSend = 0 ∧ (∀ e, x.2.1 = .error e → e = .runtime ∧ ¬ (a.connect = .ok ∧ a.setSync = true)) ∧
    x.1.conns.lookup h = x.2.1.toOption

theorem connectNew_pre {c : Client} {h : Host} (a : Attempt) (hl : c.conns.lookup h = none) :
    PreOut h a (connectNew c h a) := by
  unfold connectNew
  cases hc : a.connect with
  | ok => exact ⟨rfl, nofun, by simp [Except.toOption, List.lookup]⟩
  | refused | timedOut => exact ⟨rfl, fun e he => ⟨by simpa [connectFail_exn, eq_comm] using he, by simp [hc]⟩, hl⟩

theorem acquireConnection_cases (c : Client) (h : Host) (a : Attempt) {P : Client × Except Exn Sid × List Ev → Prop}
    (reuse : ∀ sid, c.conns.lookup h = some sid → entryUsable c sid a = true → P (c, .ok sid, []))
    (replace : ∀ sid, c.conns.lookup h = some sid → entryUsable c sid a = false →
      P ((connectNew { c with conns := eraseHost h c.conns } h a).1, (connectNew { c with conns := eraseHost h c.conns } h a).2.1,
        .close sid :: (connectNew { c with conns := eraseHost h c.conns } h a).2.2))
    (fresh : c.conns.lookup h = none → P (connectNew c h a)) :
    P (acquireConnection c h a) := by
  unfold acquireConnection
  split <;> rename_i hl
  · split <;> rename_i hu
    · exact reuse _ hl hu
    · exact replace _ hl (Bool.eq_false_iff.2 hu)
  · exact fresh hl

theorem acquireConnection_pre (c : Client) (h : Host) (a : Attempt) : PreOut h a (acquireConnection c h a) :=
  acquireConnection_cases c h a (fun _ hl _ => ⟨rfl, nofun, hl⟩)
    (fun _ _ _ => connectNew_pre (c := { c with conns := eraseHost h c.conns }) a (lookup_eraseHost h _))
    fun hl => connectNew_pre a hl

theorem preSend_cases (c : Client) (h : Host) (a : Attempt) {P : Client × Except Exn Sid × List Ev → Prop}
    (failed : ∀ c1 e ev, acquireConnection c h a = (c1, .error e, ev) → P (c1, .error e, ev))
    (ready : ∀ c1 sid ev, acquireConnection c h a = (c1, .ok sid, ev) → a.setSync = true → P (c1, .ok sid, ev))
    (noSync : ∀ c1 sid ev, acquireConnection c h a = (c1, .ok sid, ev) → a.setSync = false →
      P ((dropConnection c1 h sid).1, .error (exnOfName Gen.HttpRetry.setSyncFailThrow), ev ++ (dropConnection c1 h sid).2)) :
    P (preSend c h a) := by
  unfold preSend
  split <;> rename_i heq
  · exact failed _ _ _ heq
  · split <;> rename_i hs
    · exact ready _ _ _ heq hs
    · exact noSync _ _ _ heq (Bool.eq_false_iff.2 hs)

theorem preSend_pre (c : Client) (h : Host) (a : Attempt) : PreOut h a (preSend c h a) := by
  have ha := acquireConnection_pre c h a
  refine preSend_cases c h a (fun _ _ _ heq => heq ▸ ha) (fun _ _ _ heq _ => heq ▸ ha) fun _ _ _ heq hs => ?_
  rw [heq] at ha
  refine ⟨by simp [dropConnection, List.countP_append, show _ = 0 from ha.1, isSend],
    fun e he => ⟨by simpa [setSyncFail_exn, eq_comm] using he, fun h => by simp [hs] at h⟩, ?_⟩
  show (dropConnection _ h _).1.conns.lookup h = none
  rw [dropConnection_hit ha.2.2]
  exact lookup_eraseHost h _

/-- the log entry of an attempt whose pre-send region succeeded: `sendSync` was called; the outcome is the receive loop's, or
`std::runtime_error` without a receive when it failed -/
def sentLog (a : Attempt) : AttemptLog :=
  if a.send then
    match loopRes a.recvs with
    | .fail e => ⟨.error e, true, (a.recvs.takeWhile isMore).length + 1⟩
    | .done r _ _ => ⟨.ok r, true, (a.recvs.takeWhile isMore).length + 1⟩
  else ⟨.error .runtime, true, 0⟩

theorem sentLog_spec (a : Attempt) :
    (sentLog a).reachedSend = true ∧ (sentLog a).result ≠ .error .notSent ∧
    (sentLog a).receives ≤ (a.recvs.takeWhile isMore).length + 1 := by
  unfold sentLog
  cases a.send with
  | false => simp
  | true =>
    cases hl : loopRes a.recvs with
    | fail e =>
      refine ⟨rfl, fun he => ?_, Nat.le_refl _⟩
      cases he
      exact loopRes_ne_notSent _ hl
    | done r fe cd => simp

/-- the reuse decision at the end of such an attempt: the connection stays in the cache -/
def keeps (cfg : Cfg) (a : Attempt) : Bool :=
  a.send && match loopRes a.recvs with
    | .fail _ => false
    | .done r fe cd => reusable cfg r fe cd a.residue && a.setAsync

/-- what the reuse decision found when it let the connection stay (`keeps_spec`; read by the R4 theorems through `exec_kept`) -/
structure Kept (cfg : Cfg) (a : Attempt) (r : RespInfo) : Prop where
  sent : a.send = true
  framed : loopRes a.recvs = .done r false false
  reuse : cfg.reuse = true
  noClose : responseRequestsClose r.conn r.version = false
  noResidue : a.residue = false
  async : a.setAsync = true

theorem keeps_spec {cfg : Cfg} {a : Attempt} (h : keeps cfg a = true) : ∃ r, Kept cfg a r := by
  unfold keeps at h
  cases hl : loopRes a.recvs with
  | fail e => simp [hl] at h
  | done r fe cd =>
    simp only [hl, reusable_eq, Bool.and_eq_true, Bool.not_eq_true'] at h
    obtain ⟨sent, ⟨⟨⟨⟨reuse, noClose⟩, rfl⟩, rfl⟩, noResidue⟩, async⟩ := h
    exact ⟨r, { sent, framed := hl, reuse, noClose, noResidue, async }⟩

theorem underLease_eq (cfg : Cfg) (c : Client) (h : Host) (a : Attempt) :
    underLease cfg c h a =
      match preSend c h a with
      | (c1, .error _, ev) => (c1, ⟨.error .notSent, false, 0⟩, ev)
      | (c1, .ok sid, ev) =>
        if keeps cfg a then (c1, sentLog a, ev ++ [.send sid])
        else ((dropConnection c1 h sid).1, sentLog a, ev ++ [.send sid] ++ [.close sid]) := by
  unfold underLease
  split
  · rename_i c1 e ev heq
    have : e = .runtime := ((preSend_pre c h a).2.1 e (by rw [heq])).1
    subst this
    simp [heq, wrapPreSend_eq]
  · rename_i c1 sid ev heq
    rw [heq]
    cases hs : a.send with
    | false => simp [keeps, sentLog, dropConnection, hs, sendFail_exn]
    | true =>
      cases hl : loopRes a.recvs with
      | fail e => simp [keeps, sentLog, dropConnection, recvLoop_eq, hs, hl]
      | done r fe cd =>
        cases hk : reusable cfg r fe cd a.residue && a.setAsync <;>
          simp [keeps, sentLog, dropConnection, recvLoop_eq, hs, hl, hk]

theorem underLease_cases (cfg : Cfg) (c : Client) (h : Host) (a : Attempt) {P : Client × AttemptLog × List Ev → Prop}
    (unsent : ∀ c1 e ev, preSend c h a = (c1, .error e, ev) → P (c1, ⟨.error .notSent, false, 0⟩, ev))
    (kept : ∀ c1 sid ev, preSend c h a = (c1, .ok sid, ev) → keeps cfg a = true → P (c1, sentLog a, ev ++ [.send sid]))
    (dropped : ∀ c1 sid ev, preSend c h a = (c1, .ok sid, ev) → keeps cfg a = false →
      P ((dropConnection c1 h sid).1, sentLog a, ev ++ [.send sid] ++ [.close sid])) :
    P (underLease cfg c h a) := by
  rw [underLease_eq]
  split <;> rename_i heq
  · exact unsent _ _ _ heq
  · split <;> rename_i hk
    · exact kept _ _ _ heq hk
    · exact dropped _ _ _ heq (Bool.eq_false_iff.2 hk)

theorem underLease_cache (cfg : Cfg) (c : Client) (h : Host) (a : Attempt) :
    ((underLease cfg c h a).2.1 = ⟨.error .notSent, false, 0⟩ ∧ (underLease cfg c h a).1.conns.lookup h = none ∧
      ¬ (a.connect = .ok ∧ a.setSync = true)) ∨
    ((underLease cfg c h a).2.1 = sentLog a ∧ ((underLease cfg c h a).1.conns.lookup h = none ↔ keeps cfg a = false)) := by
  have hp := preSend_pre c h a
  refine underLease_cases cfg c h a
    (P := fun x => (x.2.1 = ⟨.error .notSent, false, 0⟩ ∧ x.1.conns.lookup h = none ∧ _) ∨
      (x.2.1 = sentLog a ∧ (x.1.conns.lookup h = none ↔ _)))
    (fun _ _ _ heq => ?_) (fun _ _ _ heq hk => ?_) fun _ _ _ heq hk => ?_
  all_goals rw [heq] at hp
  · exact .inl ⟨rfl, hp.2.2, (hp.2.1 _ rfl).2⟩
  · exact .inr ⟨rfl, by simp [hk, show _ = some _ from hp.2.2]⟩
  · exact .inr ⟨rfl, by simp [hk, dropConnection_hit hp.2.2, lookup_eraseHost]⟩

theorem underLease_ok (cfg : Cfg) (c : Client) (h : Host) (a : Attempt) (hc : a.connect = .ok) (hs : a.setSync = true) :
    ((underLease cfg c h a).1.conns.lookup h = none ↔ keeps cfg a = false) ∧ (underLease cfg c h a).2.1 = sentLog a :=
  (underLease_cache cfg c h a).elim (fun h => absurd ⟨hc, hs⟩ h.2.2) fun h => ⟨h.2, h.1⟩

theorem underLease_sends (cfg : Cfg) (c : Client) (h : Host) (a : Attempt) :
    (underLease cfg c h a).2.2.countP isSend = if (underLease cfg c h a).2.1.reachedSend then 1 else 0 := by
  have hp := (preSend_pre c h a).1
  refine underLease_cases cfg c h a (P := fun x => x.2.2.countP isSend = if x.2.1.reachedSend then 1 else 0)
    (fun _ _ _ heq => ?_) (fun _ _ _ heq _ => ?_) fun _ _ _ heq _ => ?_
  all_goals rw [heq] at hp
  · exact hp
  · simp [List.countP_append, show _ = 0 from hp, (sentLog_spec a).1]
  · simp [List.countP_append, List.countP_cons, show _ = 0 from hp, (sentLog_spec a).1]

def getsLease (urlOk : Bool) (a : Attempt) : Bool := urlOk && decide (a.lease = .granted)

theorem exec_noLease (cfg : Cfg) (c : Client) {urlOk : Bool} (h : Host) {a : Attempt} (hg : getsLease urlOk a = false) :
    executeRequest cfg c urlOk h a = (c, ⟨.error (if urlOk then .runtime else .invalidArg), false, 0⟩, []) := by
  unfold executeRequest
  cases urlOk with
  | false => simp [urlFail_exn]
  | true => cases hl : a.lease <;> simp_all [leaseFail_exn, getsLease]

/-- what `executeRequest` adds to the part under the lease: the two lease events, and the lease is given back -/
def leaseWrap (h : Host) (u : Client × AttemptLog × List Ev) : Client × AttemptLog × List Ev :=
  ({ u.1 with leased := u.1.leased.erase h }, u.2.1, [.acquire h] ++ u.2.2 ++ [.release h])

theorem leaseWrap_log (h : Host) (u : Client × AttemptLog × List Ev) : (leaseWrap h u).2.1 = u.2.1 := rfl
theorem leaseWrap_client (h : Host) (u : Client × AttemptLog × List Ev) :
    (leaseWrap h u).1 = { u.1 with leased := u.1.leased.erase h } := rfl
theorem leaseWrap_evs (h : Host) (u : Client × AttemptLog × List Ev) :
    (leaseWrap h u).2.2 = [.acquire h] ++ u.2.2 ++ [.release h] := rfl

theorem exec_granted (cfg : Cfg) (c : Client) {urlOk : Bool} (h : Host) {a : Attempt} (hg : getsLease urlOk a = true) :
    executeRequest cfg c urlOk h a = leaseWrap h (underLease cfg { c with leased := h :: c.leased } h a) := by
  have : urlOk = true ∧ a.lease = .granted := by simpa [getsLease] using hg
  simp [executeRequest, this, leaseWrap]

theorem exec_cases (cfg : Cfg) (c : Client) (urlOk : Bool) (h : Host) (a : Attempt) {P : Client × AttemptLog × List Ev → Prop}
    (idle : getsLease urlOk a = false → P (c, ⟨.error (if urlOk then .runtime else .invalidArg), false, 0⟩, []))
    (held : getsLease urlOk a = true → P (leaseWrap h (underLease cfg { c with leased := h :: c.leased } h a))) :
    P (executeRequest cfg c urlOk h a) := by
  cases hg : getsLease urlOk a with
  | false => exact exec_noLease cfg c h hg ▸ idle hg
  | true => exact exec_granted cfg c h hg ▸ held hg

/-- a log entry is honest about "not sent": an attempt that ends in `HttpRequestNotSentError` never called `sendSync` and made
no receive -/
def LogOK (lg : AttemptLog) : Prop := lg.result = .error .notSent → lg.reachedSend = false ∧ lg.receives = 0

theorem underLease_logOK (cfg : Cfg) (c : Client) (h : Host) (a : Attempt) : LogOK (underLease cfg c h a).2.1 := by
  rcases underLease_cache cfg c h a with hu | hu <;> rw [hu.1]
  · exact fun _ => ⟨rfl, rfl⟩
  · exact fun he => absurd he (sentLog_spec a).2.1

theorem exec_logOK (cfg : Cfg) (c : Client) (urlOk : Bool) (h : Host) (a : Attempt) :
    LogOK (executeRequest cfg c urlOk h a).2.1 := by
  refine exec_cases cfg c urlOk h a (P := fun x => LogOK x.2.1) (fun _ _ => ⟨rfl, rfl⟩) fun _ => ?_
  rw [leaseWrap_log]
  exact underLease_logOK cfg _ h a

theorem exec_log_received (cfg : Cfg) (c : Client) (h : Host) (a : Attempt) (sid : Sid)
    (hl : a.lease = .granted) (hp : (preSend { c with leased := h :: c.leased } h a).2.1 = .ok sid) :
    (executeRequest cfg c true h a).2.1 = sentLog a := by
  refine exec_cases cfg c true h a (P := fun x => x.2.1 = sentLog a) (fun hg => by simp [getsLease, hl] at hg) fun _ => ?_
  rw [leaseWrap_log]
  refine underLease_cases cfg _ h a (P := fun x => x.2.1 = sentLog a) (fun _ _ _ heq => ?_) (fun _ _ _ _ _ => rfl)
    fun _ _ _ _ _ => rfl
  rw [heq] at hp
  cases hp

theorem exec_log_failed (cfg : Cfg) (c : Client) (h : Host) (a : Attempt) (sid : Sid) (e : Exn)
    (hl : a.lease = .granted) (hp : (preSend { c with leased := h :: c.leased } h a).2.1 = .ok sid) (hs : a.send = true)
    (hf : loopRes a.recvs = .fail e) :
    (executeRequest cfg c true h a).2.1 = ⟨.error e, true, (a.recvs.takeWhile isMore).length + 1⟩ := by
  simp [exec_log_received cfg c h a sid hl hp, sentLog, hs, hf]

/-- **a failed attempt leaves no cached connection** (whenever it got as far as holding the lease), and a successful one
leaves one only if the reuse decision allowed it: nothing is cached for the host afterwards, or the attempt sent its request and
`Kept` is what the reuse decision found (read by the R4 theorems) -/
theorem exec_kept (cfg : Cfg) (c : Client) (h : Host) (a : Attempt) (hl : a.lease = .granted) :
    (executeRequest cfg c true h a).1.conns.lookup h = none ∨
    ((executeRequest cfg c true h a).2.1 = sentLog a ∧ ∃ r, Kept cfg a r) := by
  refine exec_cases cfg c true h a (P := fun x => x.1.conns.lookup h = none ∨ (x.2.1 = sentLog a ∧ _))
    (fun hg => by simp [getsLease, hl] at hg) fun _ => ?_
  rw [leaseWrap_client, leaseWrap_log]
  rcases underLease_cache cfg { c with leased := h :: c.leased } h a with hu | ⟨hlog, hu⟩
  · exact .inl hu.2.1
  · cases hk : keeps cfg a with
    | true => exact .inr ⟨hlog, keeps_spec hk⟩
    | false => exact .inl (hu.2 hk)

theorem exec_sends (cfg : Cfg) (c : Client) (urlOk : Bool) (h : Host) (a : Attempt) :
    (executeRequest cfg c urlOk h a).2.2.countP isSend = if (executeRequest cfg c urlOk h a).2.1.reachedSend then 1 else 0 := by
  refine exec_cases cfg c urlOk h a (P := fun x => x.2.2.countP isSend = if x.2.1.reachedSend then 1 else 0) (fun _ => rfl)
    fun _ => ?_
  rw [leaseWrap_evs, leaseWrap_log, ← underLease_sends]
  simp [List.countP_append]

/-- one turn of the `while (true)` of `performRequest`: an `executeRequest` call followed by the retry decision `nextAttempt`
(defined in `Model/HttpLease`, where the thread model applies it after every exchange; `performLoop` has the same code inline) -/
theorem performLoop_succ (cfg : Cfg) (rq : Request) (fuel a : Nat) {c c1 : Client} {lg : AttemptLog} {ev : List Ev}
    (hx : executeRequest cfg c rq.urlOk rq.host (rq.script a) = (c1, lg, ev)) :
    performLoop cfg rq (fuel + 1) a c =
      match nextAttempt rq.method rq.retries a lg.result with
      | none => { client := c1, result := lg.result, evs := ev, log := [lg] }
      | some _ =>
        { performLoop cfg rq fuel (a + 1) c1 with
          evs := ev ++ (performLoop cfg rq fuel (a + 1) c1).evs, log := lg :: (performLoop cfg rq fuel (a + 1) c1).log } := by
  simp only [performLoop, nextAttempt, hx]
  cases lg.result with
  | ok r => rfl
  | error e =>
    simp only
    cases dispatch e with
    | rethrow => rfl
    | uncaught => rfl
    | retry =>
      simp only
      cases retryEligible rq.method e with
      | false => rfl
      | true => cases budgetExhausted a rq.retries <;> rfl

/-- what is known about every attempt that was followed by another one -/
def Retried (m : String) (lg : AttemptLog) : Prop :=
  ∃ e, lg.result = .error e ∧ e ≠ .framing ∧
    (isIdempotent m = true ∨ (e = .notSent ∧ lg.reachedSend = false ∧ lg.receives = 0))

theorem Retried.notSent {m : String} {lg : AttemptLog} (hm : isIdempotent m = false) (h : Retried m lg) :
    lg.result = .error .notSent ∧ lg.reachedSend = false ∧ lg.receives = 0 := by
  obtain ⟨e, hres, _, h | ⟨rfl, h1, h2⟩⟩ := h
  · rw [hm] at h; cases h
  · exact ⟨hres, h1, h2⟩

theorem countP_le_one_of_dropLast {α : Type} (p : α → Bool) :
    ∀ (l : List α), (∀ x ∈ l.dropLast, p x = false) → l.countP p ≤ 1 := by
  intro l
  induction l with
  | nil => intro _; simp
  | cons a t ih =>
    intro h
    cases t with
    | nil => simp [List.countP_cons]; split <;> omega
    | cons b t' =>
      have ha : p a = false := h a (by simp)
      have := ih (fun x hx => h x (by simp only [List.dropLast_cons_cons, List.mem_cons]; exact .inr hx))
      simp only [List.countP_cons, ha] at this ⊢
      simpa using this

/-- R1 for any record: that of the sequential run (`performRequest_thread`) or of a finished thread (`ThreadOK`) -/
theorem atMostOnce_of_retried {m : String} {log : List AttemptLog} (hm : isIdempotent m = false)
    (h : ∀ lg ∈ log.dropLast, Retried m lg) :
    (∀ lg ∈ log.dropLast, lg.result = .error .notSent ∧ lg.reachedSend = false ∧ lg.receives = 0) ∧
    log.countP (·.reachedSend) ≤ 1 :=
  have h2 := fun lg hlg => (h lg hlg).notSent hm
  ⟨h2, countP_le_one_of_dropLast _ _ fun lg hlg => (h2 lg hlg).2.1⟩

/-- `P fuel a c run`: `run` is what the loop returns when it enters attempt number `a` in client state `c` with `fuel` turns left -/
theorem performLoop_induct (cfg : Cfg) (rq : Request) {P : Nat → Nat → Client → Run → Prop}
    (out : ∀ a c, P 0 a c { client := c, result := .error .other, evs := [], log := [], fuelOut := true })
    (last : ∀ f a c c1 lg ev, executeRequest cfg c rq.urlOk rq.host (rq.script a) = (c1, lg, ev) →
      nextAttempt rq.method rq.retries a lg.result = none →
      P (f + 1) a c { client := c1, result := lg.result, evs := ev, log := [lg] })
    (next : ∀ f a c c1 lg ev r, executeRequest cfg c rq.urlOk rq.host (rq.script a) = (c1, lg, ev) →
      nextAttempt rq.method rq.retries a lg.result = some (a + 1) → P f (a + 1) c1 r →
      P (f + 1) a c { r with evs := ev ++ r.evs, log := lg :: r.log }) :
    ∀ fuel a c, P fuel a c (performLoop cfg rq fuel a c) := by
  intro fuel
  induction fuel with
  | zero => exact out
  | succ f ih =>
    intro a c
    obtain ⟨c1, lg, ev, hx⟩ : ∃ c1 lg ev, executeRequest cfg c rq.urlOk rq.host (rq.script a) = (c1, lg, ev) := ⟨_, _, _, rfl⟩
    rw [performLoop_succ cfg rq f a hx]
    cases h : nextAttempt rq.method rq.retries a lg.result with
    | none => exact last f a c c1 lg ev hx h
    | some n =>
      have hn := (nextAttempt_some h).1
      subst hn
      exact next f a c c1 lg ev _ hx h (ih (a + 1) c1)

theorem performLoop_sends (cfg : Cfg) (rq : Request) :
    ∀ (fuel attempt : Nat) (c : Client),
      (performLoop cfg rq fuel attempt c).evs.countP isSend = (performLoop cfg rq fuel attempt c).log.countP (·.reachedSend) := by
  have h1 : ∀ a c c1 lg ev, executeRequest cfg c rq.urlOk rq.host (rq.script a) = (c1, lg, ev) →
      ev.countP isSend = [lg].countP (·.reachedSend) := by
    intro a c c1 lg ev hx
    have := exec_sends cfg c rq.urlOk rq.host (rq.script a)
    rw [hx] at this
    rw [this, List.countP_singleton]
  refine performLoop_induct cfg rq (P := fun _ _ _ r => r.evs.countP isSend = r.log.countP (·.reachedSend)) ?_ ?_ ?_
  · intro _ _; rfl
  · intro _ a c _ _ _ hx _; exact h1 a c _ _ _ hx
  · intro _ a c _ _ _ r hx _ ih
    rw [List.countP_append, List.countP_cons, ih, h1 a c _ _ _ hx, List.countP_singleton]
    omega

/-- what holds of a thread at every moment -/
def ThreadOK (t : Thread) : Prop :=
  match t.pc with
  | .start n => t.log.length = n ∧ n ≤ t.rq.retries.toNat ∧ ∀ lg ∈ t.log, Retried t.rq.method lg
  | .holding n => t.log.length = n ∧ n ≤ t.rq.retries.toNat ∧ ∀ lg ∈ t.log, Retried t.rq.method lg
  | .done res => t.log.length ≤ t.rq.retries.toNat + 1 ∧ (∀ lg ∈ t.log.dropLast, Retried t.rq.method lg) ∧
      ∃ lg, t.log.getLast? = some lg ∧ lg.result = res

/-- the retry discipline (R1–R3) in one step: recording an honest log entry and applying `nextAttempt` keeps a caller's record in order -/
theorem afterAttempt_ok {t : Thread} {n : Nat} {lg : AttemptLog} (hl : LogOK lg)
    (h1 : t.log.length = n) (h2 : n ≤ t.rq.retries.toNat) (h3 : ∀ x ∈ t.log, Retried t.rq.method x) :
    ThreadOK (afterAttempt t n lg) := by
  unfold afterAttempt ThreadOK
  cases hn : nextAttempt t.rq.method t.rq.retries n lg.result with
  | none =>
    simp only [List.length_append, List.length_singleton, List.dropLast_concat, List.getLast?_concat]
    exact ⟨by omega, h3, lg, rfl, rfl⟩
  | some n' =>
    obtain ⟨e1, e2, e, he, hne, hor⟩ := nextAttempt_some hn
    simp only [List.length_append, List.length_singleton]
    refine ⟨by omega, by omega, ?_⟩
    intro x hx
    rcases List.mem_append.1 hx with hx | hx
    · exact h3 x hx
    · rw [List.mem_singleton.1 hx]
      refine ⟨e, he, hne, hor.imp_right fun hs => ?_⟩
      subst hs
      exact ⟨rfl, hl he⟩

/-- the sequential loop is one caller of the thread model run alone: a turn of `performLoop` is `afterAttempt` on the record kept so far
(`pre` = the attempts before `a`), so the loop ends as a finished thread that is `ThreadOK` — at most budget + 1 attempts, every attempt
but the last `Retried`, the result that of the last attempt — and never by the model's fuel -/
theorem performLoop_thread (cfg : Cfg) (rq : Request) :
    ∀ (fuel a : Nat) (c : Client), (rq.retries.toNat - a) + 1 ≤ fuel →
      ∀ pre : List AttemptLog, pre.length = a → a ≤ rq.retries.toNat → (∀ x ∈ pre, Retried rq.method x) →
        (performLoop cfg rq fuel a c).fuelOut = false ∧
        ThreadOK { rq := rq, pc := .done (performLoop cfg rq fuel a c).result, log := pre ++ (performLoop cfg rq fuel a c).log } := by
  have turn : ∀ {a : Nat} {c c1 : Client} {lg : AttemptLog} {ev : List Ev} (pre : List AttemptLog),
      executeRequest cfg c rq.urlOk rq.host (rq.script a) = (c1, lg, ev) → pre.length = a → a ≤ rq.retries.toNat →
      (∀ x ∈ pre, Retried rq.method x) → ThreadOK (afterAttempt { rq := rq, pc := .start a, log := pre } a lg) := by
    intro a c c1 lg ev pre hx h1 h2 h3
    have hl : LogOK lg := by simpa [hx] using exec_logOK cfg c rq.urlOk rq.host (rq.script a)
    exact afterAttempt_ok (t := { rq := rq, pc := .start a, log := pre }) hl h1 h2 h3
  refine performLoop_induct cfg rq (P := fun f a _ r => (rq.retries.toNat - a) + 1 ≤ f →
    ∀ pre : List AttemptLog, pre.length = a → a ≤ rq.retries.toNat → (∀ x ∈ pre, Retried rq.method x) →
      r.fuelOut = false ∧ ThreadOK { rq := rq, pc := .done r.result, log := pre ++ r.log }) ?_ ?_ ?_
  · intro _ _ h; omega
  · intro _ _ _ _ _ _ hx hn _ pre h1 h2 h3
    have := turn pre hx h1 h2 h3
    simp only [afterAttempt, hn] at this
    exact ⟨rfl, this⟩
  · intro _ _ _ _ lg _ _ hx hn ih hf pre h1 h2 h3
    have := turn pre hx h1 h2 h3
    simp only [afterAttempt, hn, ThreadOK] at this
    simpa using ih (by omega) (pre ++ [lg]) this.1 this.2.1 this.2.2

/-- `performLoop_thread` for the whole request, the `done` arm of `ThreadOK` written out -/
theorem performRequest_thread (cfg : Cfg) (c : Client) (rq : Request) :
    (performRequest cfg c rq).fuelOut = false ∧ (performRequest cfg c rq).log.length ≤ rq.retries.toNat + 1 ∧
    (∀ lg ∈ (performRequest cfg c rq).log.dropLast, Retried rq.method lg) ∧
    ∃ lg, (performRequest cfg c rq).log.getLast? = some lg ∧ lg.result = (performRequest cfg c rq).result :=
  performLoop_thread cfg rq _ 0 c (by omega) [] rfl (Nat.zero_le _) (by simp)

end Iora.HttpRetry
