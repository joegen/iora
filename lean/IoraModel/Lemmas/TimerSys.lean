import IoraModel.Model.TimerSys
import IoraModel.Lemmas.TimerService
/-! Lemmas for `Model/TimerSys.lean`: every epoch of the restartable service is a run of the first-layer model (`refines`), and the
wake-up invariant of the loop thread (`winv_run`). -/
namespace Iora.Tsys
open Iora.Tsvc

/-- the state of the current epoch is a first-layer run; between `reset()` and `start()` it is one `start()` away from the initial state -/
def Ref (L : Limits) (y : Sys) : Prop :=
  (y.isReset = false ∧ ∃ sops, Tsvc.run L sops = (y.s, y.hist)) ∨ (y.isReset = true ∧ startSvc y.s = {})

theorem clears_all : Gen.Timer.svcResetClears.contains "records" = true ∧ Gen.Timer.svcResetClears.contains "periodic" = true ∧
    Gen.Timer.svcResetClears.contains "heap" = true ∧ Gen.Timer.svcResetClears.contains "nextId" = true := by decide +kernel

theorem reset_start_fresh (s : Svc) (w : Wf s) (hl : s.life = .stopped) (hd : s.dpc = .idle) : startSvc (resetSvc s) = {} := by
  -- `resetSvcWith` clears the containers (`clears_all`) and `startSvc` overwrites the lifecycle fields, but `ready`, `inflight`,
  -- `executing` and `dpc` are copied from `s`: they are the initial ones because a Stopped service has exited with nothing in hand
  obtain ⟨_, hex⟩ := w.st1 hl
  obtain ⟨_, hr, hi⟩ := w.ex1 hex
  have hacct := w.acct
  rw [hr, hi] at hacct
  simp at hacct
  obtain ⟨m1, m2, m3, m4⟩ := clears_all
  simp only [startSvc, resetSvc, resetSvcWith, m1, m2, m3, m4, hr, hi, hacct, hd, if_true, Bool.and_self]

theorem ref_step (L : Limits) (y : Sys) (op : Op) (r : Ref L y) : Ref L (step L y op).1 := by
  cases op with
  | svc sop =>
    simp only [step, svcStep]
    split
    · exact r
    · rename_i hg
      simp only [Bool.or_eq_true, not_or, Bool.not_eq_true] at hg
      obtain ⟨hnr, _⟩ := hg
      rcases r with ⟨_, sops, hs⟩ | ⟨h1, _⟩
      · refine Or.inl ⟨by simpa using hnr, sops ++ [sop], ?_⟩
        rw [run_snoc, hs]
      · rw [h1] at hnr; exact absurd hnr (by simp)
  | poke | arm now | wake now | spurious b =>
    -- these steps leave `isReset`, `s` and `hist` alone, which is all `Ref` reads
    simp only [step]
    split <;> exact r
  | reset =>
    simp only [step]
    split
    · exact r
    · rename_i hg
      simp only [Bool.or_eq_true, not_or, Bool.not_eq_true, bne_iff_ne, ne_eq, Decidable.not_not] at hg
      obtain ⟨⟨hnr, hl⟩, hd⟩ := hg
      rcases r with ⟨_, sops, hs⟩ | ⟨h1, _⟩
      · refine Or.inr ⟨rfl, ?_⟩
        have w := (inv_run L sops).wf
        rw [hs] at w
        exact reset_start_fresh y.s w hl hd
      · rw [h1] at hnr; exact absurd hnr (by simp)
  | start =>
    simp only [step]
    split
    · exact r
    · rename_i hg
      rcases r with ⟨h1, _⟩ | ⟨_, h2⟩
      · rw [h1] at hg; exact absurd hg (by simp)
      · exact Or.inl ⟨rfl, [], by simp only [h2]; rfl⟩

theorem runFrom_ind (L : Limits) (P : Sys → Prop) (hstep : ∀ y op, P y → P (step L y op).1) :
    ∀ (ops : List Op) (y : Sys), P y → P (runFrom L y ops)
  | [], _, h => h
  | op :: ops, y, h => runFrom_ind L P hstep ops _ (hstep y op h)

theorem refines (L : Limits) (ops : List Op) : Ref L (run L ops) :=
  runFrom_ind L (Ref L) (ref_step L) ops _ (Or.inl ⟨rfl, [], rfl⟩)

structure WInv (y : Sys) : Prop where
  /-- the eventfd is closed only after the loop thread has been joined -/
  fd : y.fdOpen = false → y.lpc = .gone
  /-- while the loop thread sleeps in `epoll_wait`: a wake-up is pending or owed, or the timerfd is armed no later than the heap top
  (or 1 ns, `Gen.Timer.svcTimerfdZeroNs`, after it was programmed, when the top was already due then: `armValue_some`) -/
  wk : y.lpc = .parked → ∀ t, y.s.heap.head? = some t →
        y.poked = true ∨ 0 < y.owed ∨ ∃ a, y.armed = some a ∧ (a ≤ t.tp ∨ a ≤ y.armNow + 1)

theorem WInv.init : WInv {} := ⟨by simp, by simp⟩

theorem heap_kept {s s' : Svc} {op : Tsvc.Op} {out : Tsvc.Out} (e : Eff s op s' out)
    (hc : ∀ now ax, op ≠ .collect now ax) : s'.heap = s.heap ∨ 0 < owes s op out := by
  -- of the five sites of `Gen.Timer.svcPokeSites` only the `poke()` of the two `schedule*` is needed: `cancel`, `drain` and `stop`
  -- leave the heap alone
  have p1 : pokes "scheduleAt" = true := by decide +kernel
  have p2 : pokes "schedulePeriodic" = true := by decide +kernel
  cases e with
  | ctl h => exact Or.inl h.data.heap
  | schedAt => exact Or.inr (by simp [owes, p1])
  | schedPer => exact Or.inr (by simp [owes, p2])
  | collect now ax => exact absurd rfl (hc now ax)
  | _ => exact Or.inl rfl

/-- the zero guard: a heap top always arms the timerfd, at the top's time point or 1 ns after `now` -/
theorem armValue_some (now : Int) (t : HeapItem) : ∃ a, armValue now (some t) = some a ∧ (a ≤ t.tp ∨ a ≤ now + 1) := by
  have g : Gen.Timer.svcTimerfdZeroGuard = true := by decide
  have z : Gen.Timer.svcTimerfdZeroNs = 1 := by decide
  unfold armValue armValueWith
  rw [g, z]
  by_cases h : t.tp > now
  · exact ⟨t.tp, by simp [h], Or.inl (Int.le_refl _)⟩
  · exact ⟨now + 1, by simp [h], Or.inr (by simp)⟩

/-- what a first-layer step that the loop thread may take where it stands does to the loop position: it leaves it (and while the loop sleeps
such a step is a client's: no `collect`, no disarming), or it is the loop's exit, or the collect after `epoll_wait`, which goes from `woken`
back to the top -/
theorem lpcAfter_cases {y : Sys} {op : Tsvc.Op} (hg : loopGate y op = true) (s' : Svc) :
    (lpcAfter y s' op = y.lpc ∧ (y.lpc = .parked → disarms y s' op = false ∧ ∀ now ax, op ≠ .collect now ax)) ∨
    lpcAfter y s' op = .gone ∨ (lpcAfter y s' op = .top ∧ y.lpc = .woken) := by
  have hnc : y.lpc = .parked → ∀ now ax, op ≠ .collect now ax := by
    rintro hp now ax rfl
    cases ax <;> simp [loopGate, hp] at hg
  cases op with
  | collect now ax =>
    cases ax
    · exact Or.inr (Or.inr ⟨rfl, by simpa [loopGate] using hg⟩)
    · exact Or.inl ⟨rfl, fun hp => absurd rfl (hnc hp now true)⟩
  | loopExit =>
    simp only [lpcAfter]
    split
    · exact Or.inr (Or.inl rfl)
    · exact Or.inl ⟨rfl, fun hp => ⟨rfl, hnc hp⟩⟩
  | _ => exact Or.inl ⟨rfl, fun hp => ⟨rfl, hnc hp⟩⟩

theorem winv_svc (L : Limits) (y : Sys) (op : Tsvc.Op) (w : WInv y) : WInv (svcStep L y op).1 := by
  unfold svcStep
  split
  · exact w
  · rename_i hg
    simp only [Bool.or_eq_true, not_or, Bool.not_eq_true, Bool.not_eq_false'] at hg
    have hl := lpcAfter_cases hg.2 (Tsvc.step L y.s op).1
    by_cases hcl : closesFd op (Tsvc.step L y.s op).2 = true
    · exact ⟨fun _ => by simp [hcl], fun hp => by simp [hcl] at hp⟩
    · simp only [hcl, Bool.false_eq_true, if_false]
      constructor
      · intro hf
        have hgone := w.fd hf
        rcases hl with ⟨h, _⟩ | h | ⟨_, h⟩
        · exact h.trans hgone
        · exact h
        · rw [hgone] at h; cases h
      · intro hp t ht
        simp only at hp ht ⊢
        rcases hl with ⟨h, hnc⟩ | h | ⟨h, _⟩
        · rw [h] at hp
          obtain ⟨hdis, hnc⟩ := hnc hp
          rw [hdis]
          simp only [Bool.false_eq_true, if_false]
          rcases heap_kept (step_eff L y.s op) hnc with hk | hk
          · rw [hk] at ht
            rcases w.wk hp t ht with h1 | h1 | h1
            · exact Or.inl h1
            · exact Or.inr (Or.inl (by omega))
            · exact Or.inr (Or.inr h1)
          · exact Or.inr (Or.inl (by omega))
        · rw [h] at hp; cases hp
        · rw [h] at hp; cases hp

theorem winv_step (L : Limits) (y : Sys) (op : Op) (w : WInv y) : WInv (step L y op).1 := by
  cases op with
  | svc sop => exact winv_svc L y sop w
  | poke =>
    simp only [step]
    split
    · exact w
    · constructor
      · intro hf; exact w.fd hf
      · intro hp t ht
        simp only at hp ht ⊢
        -- the owed `poke()` is paid: `owed` falls, and `poked` is set unless the eventfd is closed, when the loop is `gone`, not `parked`
        by_cases ho : y.fdOpen = true
        · simp [ho]
        · have := w.fd (by simpa using ho)
          rw [this] at hp; cases hp
  | arm now =>
    simp only [step]
    split
    · exact w
    · rename_i hg
      simp only [Bool.or_eq_true, not_or, Bool.not_eq_true, bne_iff_ne, ne_eq, Decidable.not_not] at hg
      obtain ⟨⟨⟨⟨⟨⟨_, htop⟩, _⟩, _⟩, _⟩, _⟩, _⟩ := hg
      constructor
      · intro hf
        have := w.fd hf
        rw [htop] at this; cases this
      · intro _ t ht
        simp only at ht ⊢
        rw [ht]
        exact Or.inr (Or.inr (armValue_some now t))
  | wake now =>
    simp only [step]
    split
    · exact w
    · constructor
      · intro hf
        rename_i hg
        simp only [Bool.or_eq_true, not_or, bne_iff_ne, ne_eq, Decidable.not_not] at hg
        obtain ⟨hpk, _⟩ := hg
        have := w.fd hf
        rw [hpk] at this; cases this
      · intro hp; cases hp
  | spurious b =>
    simp only [step]
    split
    · exact w
    · rename_i hg
      simp only [bne_iff_ne, ne_eq, Decidable.not_not] at hg
      constructor
      · intro hf
        have := w.fd hf
        rw [hg] at this; cases this
      · intro hp
        simp only at hp
        split at hp <;> cases hp
  | reset =>
    simp only [step]
    split
    · exact w
    · constructor
      · intro _; rfl
      · intro hp; simp at hp
  | start =>
    simp only [step]
    split
    · exact w
    · constructor
      · intro hf; simp at hf
      · intro hp; simp at hp

theorem winv_run (L : Limits) (ops : List Op) : WInv (run L ops) := runFrom_ind L WInv (winv_step L) ops _ WInv.init

theorem WInv.due_wakes {y : Sys} {h : Tsvc.Hist} (w : WInv y) (i : Tsvc.Inv y.s h) (hp : y.lpc = .parked) (ho : y.owed = 0)
    {now : Int} (hn : y.armNow < now) {r : Rec} (hm : r ∈ y.s.records) (hdue : r.tp ≤ now) : wakeEnabled y now = true := by
  -- the heap top is no later than any record: heap order, and heap items and records correspond
  obtain ⟨x, hx, hxr⟩ := i.wf.core.item_of_rec hm
  obtain ⟨t, tl, hh⟩ := List.exists_cons_of_ne_nil (List.ne_nil_of_mem hx)
  have ht : y.s.heap.head? = some t := by rw [hh]; rfl
  have hle := i.hok.head_le t ht x hx
  unfold wakeEnabled
  rcases w.wk hp t ht with h | h | ⟨a, ha, hb⟩
  · simp [h]
  · omega
  · have : a ≤ now := by rcases hb with hb | hb <;> omega
    simp [ha, expired, this]

end Iora.Tsys
