import IoraModel.Lemmas.HttpServer
import IoraModel.Lemmas.HttpExact
/-
Exactness of the server's request extraction (`extractOne`) on rendered requests of the reference syntax:
Content-Length, body-less and chunked (extensions, trailers) requests are cut exactly at their end and handed to the
request parser as header section + DECODED body (S1/S4/S5 at the framing level).  The request parser `fromWireFormat`: exactness on
complete requests, and its error statuses read off its decision tree (`ErrIn`).
-/
namespace Iora.Http.Srv
open Iora Iora.Http Iora.Http.Spec

theorem findAux_crlf_line (l r : Bytes) (i : Nat) (h : ∀ c ∈ l, c ≠ 13) :
    findAux crlf (l ++ 13 :: 10 :: r) i = some (i + l.length) := by
  rw [show crlf = 13 :: [10] from rfl, findAux_skip 13 [10] l _ i h]
  simp [findAux]

theorem sizeDigits_exact (mb : Nat) : ∀ (tok ext : Bytes) (acc k n : Nat), tokFold 16 tok acc = some n → n ≤ mb →
    HeadNot isHexDigit ext →
    sizeDigits mb (tok ++ ext) acc k = some (n, k + tok.length, ext) := by
  intro tok
  induction tok with
  | nil =>
    intro ext acc k n h _ hext
    simp only [tokFold, Option.some.injEq] at h
    subst h
    cases ext with
    | nil => simp [sizeDigits]
    | cons c cs =>
      have hnh := hext c cs rfl
      have hdv : digitVal 16 c = none := by
        cases hd : digitVal 16 c with
        | none => rfl
        | some v => have := (digitVal16_hex c v hd).1; rw [hnh] at this; cases this
      simp [sizeDigits, hdv]
  | cons c cs ih =>
    intro ext acc k n h hn hext
    simp only [tokFold] at h
    cases hd : digitVal 16 c with
    | none => rw [hd] at h; cases h
    | some v =>
      rw [hd] at h
      have hge := tokFold_ge 16 _ _ _ h
      have hle : ¬ (acc * 16 + v > mb) := by omega
      simp only [List.cons_append, sizeDigits, hd, hle, ↓reduceIte]
      rw [ih ext _ (k + 1) n h hn hext]
      have e : k + 1 + cs.length = k + (cs.length + 1) := by omega
      simp only [List.length_cons, e]

theorem sizeLine_exact (mb : Nat) (tok ext : Bytes) (n : Nat) (ht : tokValue 16 tok = some n) (hn : n ≤ mb)
    (he : ExtOK ext) : sizeLine mb (tok ++ ext) = some n := by
  obtain ⟨htne, hf, _⟩ := tokValue_some 16 tok n ht
  obtain ⟨_, hehead, hetail⟩ := ext_facts ext he
  unfold sizeLine
  rw [sizeDigits_exact mb tok ext 0 0 n hf hn hehead]
  have : 0 + tok.length ≠ 0 := by
    have := List.length_pos_iff.mpr htne; omega
  simp only [this, ↓reduceIte, hetail]

theorem trailerEnd_exact : ∀ (ts : List Bytes) (buf rest : Bytes) (pos : Nat), (∀ t ∈ ts, t ≠ [] ∧ NoCRLF t) →
    buf.drop pos = (ts.map (· ++ crlf)).flatten ++ crlf ++ rest →
    trailerEnd buf pos = some (pos + ((ts.map (· ++ crlf)).flatten).length + 2) := by
  intro ts
  induction ts with
  | nil =>
    intro buf rest pos _ hw
    have hw' : buf.drop pos = [] ++ 13 :: 10 :: rest := hw
    rw [trailerEnd, dif_pos (lt_length_at hw'), hw', findAux_crlf_line [] rest 0 (by simp)]
    simp
  | cons t ts ih =>
    intro buf rest pos h hw
    obtain ⟨hne, ht⟩ := h t (by simp)
    have hw' : buf.drop pos = t ++ 13 :: 10 :: ((ts.map (· ++ crlf)).flatten ++ crlf ++ rest) := by
      rw [hw]; simp [crlf]
    have hw2 : buf.drop pos = (t ++ crlf) ++ ((ts.map (· ++ crlf)).flatten ++ crlf ++ rest) := by rw [hw']; simp [crlf]
    have htl : 0 < t.length := List.length_pos_iff.mpr hne
    have hrec := ih buf rest (pos + (t ++ crlf).length) (fun t' ht' => h t' (by simp [ht'])) (drop_at hw2)
    simp only [List.length_append, crlf, List.length_cons, List.length_nil, ← Nat.add_assoc] at hrec
    rw [trailerEnd, dif_pos (lt_length_at hw'), hw', findAux_crlf_line t _ 0 (fun c hc => (ht c hc).1)]
    simp only [Nat.zero_add]
    rw [if_neg (by omega), hrec]
    simp [crlf]; omega

theorem scanStep_data (mb : Nat) (buf rest : Bytes) (pos : Nat) (c : Chunk) (hc : c.WF mb)
    (hw : buf.drop pos = c.render ++ rest) :
    scanStep mb buf pos = .next (pos + c.render.length) c.data := by
  have hn0 : c.data.length ≠ 0 := fun h => hc.nonempty (List.eq_nil_of_length_eq_zero h)
  obtain ⟨w1, hr, hlen, hg1, hg2, hd⟩ := chunk_layout c hw
  unfold scanStep
  rw [w1, findAux_crlf_line (c.tok ++ c.ext) _ 0 (fun x hx => (tokExt_noCRLF c.tok c.ext _ hc.size hc.ext_ok x hx).2), hr]
  simp only [Nat.zero_add, List.take_left' rfl, sizeLine_exact mb c.tok c.ext _ hc.size hc.small hc.ext_ok, hn0,
    ↓reduceIte]
  simp only [List.length_append, ← Nat.add_assoc, hg1, hg2, hd, List.take_left' rfl, ne_eq, not_true_eq_false, or_self,
    ↓reduceIte]
  rw [if_neg (by omega)]

theorem scanStep_last (mb : Nat) (buf rest : Bytes) (pos : Nat) (l : LastChunk) (hl : l.WF)
    (hw : buf.drop pos = l.render ++ rest) : scanStep mb buf pos = .last (pos + l.render.length) := by
  obtain ⟨w1, hd, hr⟩ := lastChunk_layout l hw
  unfold scanStep
  rw [w1, findAux_crlf_line (l.tok ++ l.ext) _ 0 (fun x hx => (tokExt_noCRLF l.tok l.ext _ hl.size hl.ext_ok x hx).2), hr]
  simp only [Nat.zero_add, List.take_left' rfl, sizeLine_exact mb l.tok l.ext 0 hl.size (Nat.zero_le _) hl.ext_ok,
    ↓reduceIte]
  simp only [List.length_append, ← Nat.add_assoc, trailerEnd_exact l.trailers buf rest _ hl.trailers_ok hd]

theorem chunkScan_exact (mb : Nat) (l : LastChunk) (hl : l.WF) (rest : Bytes) :
    ∀ (cs : List Chunk) (buf dec : Bytes) (pos : Nat), (∀ c ∈ cs, c.WF mb) →
    buf.drop pos = renderChunks cs ++ l.render ++ rest →
    chunkScan mb buf pos dec = .done (pos + (renderChunks cs).length + l.render.length) (dec ++ chunksData cs) := by
  have hlne : l.render ≠ [] := by simp [LastChunk.render, crlf]
  intro cs
  induction cs with
  | nil =>
    intro buf dec pos _ hw
    have hw' : buf.drop pos = l.render ++ rest := by simpa [renderChunks] using hw
    rw [chunkScan_step mb _ pos dec (lt_length_at hw' (by simp [hlne])), scanStep_last mb buf rest pos l hl hw']
    simp [renderChunks, chunksData]
  | cons c cs ih =>
    intro buf dec pos hcs hw
    have hw' : buf.drop pos = c.render ++ (renderChunks cs ++ l.render ++ rest) := by simpa [renderChunks] using hw
    rw [chunkScan_step mb _ pos dec (lt_length_at hw' (by simp [hlne])), scanStep_data mb buf _ pos c (hcs c (by simp)) hw']
    dsimp only
    rw [ih buf _ _ (fun c' hc' => hcs c' (by simp [hc'])) (drop_at hw')]
    simp [renderChunks, chunksData]
    omega

theorem stripCR_cr (l : Bytes) : stripCR (l ++ [13]) = l := by
  unfold stripCR
  simp

theorem stripCR_none (l : Bytes) (h : ∀ c ∈ l, c ≠ 13) : stripCR l = l := by
  unfold stripCR
  cases hg : l.getLast? with
  | none => rfl
  | some c =>
    have hc : c ≠ 13 := h c (List.mem_of_getLast? hg)
    split
    · rename_i heq; cases heq; exact absurd rfl hc
    · rfl

theorem getLines_join : ∀ (ls : List Bytes), ls ≠ [] → (∀ l ∈ ls, NoCRLF l) → getLines (joinCRLF ls) = ls := by
  intro ls
  induction ls with
  | nil => intro h; exact absurd rfl h
  | cons l ls ih =>
    intro _ hall
    have hl := hall l (by simp)
    cases ls with
    | nil =>
      simp only [joinCRLF, getLines]
      rw [splitOn_none 10 l (fun c hc => (hl c hc).2)]
      simp [stripCR_none l (fun c hc => (hl c hc).1)]
    | cons l2 ls2 =>
      have e : joinCRLF (l :: l2 :: ls2) = (l ++ [13]) ++ 10 :: joinCRLF (l2 :: ls2) := by simp [joinCRLF, crlf]
      have := ih (by simp) (fun l' hl' => hall l' (by simp [hl']))
      unfold getLines at this ⊢
      rw [e, splitOn_line 10 (l ++ [13]) _ (by
        intro c hc
        rcases List.mem_append.mp hc with hc | hc
        · exact (hl c hc).2
        · simp at hc; subst hc; decide)]
      simp only [List.map_cons, stripCR_cr, this]

theorem plain_key (f : Field) (hf : PlainField f) :
    lower f.name ≠ ascii "content-length" ∧ lower f.name ≠ ascii "transfer-encoding" := by
  constructor
  · intro h
    have := hf.2.1
    unfold ciEq at this
    rw [h, lower_clName] at this
    simp at this
  · intro h
    have := hf.2.2
    unfold ciEq at this
    rw [h, lower_teName] at this
    simp at this

theorem scan_plain : ∀ (fs : List Field) (rest : List Bytes) (hs : HdrScan), (∀ f ∈ fs, PlainField f) →
    scanHeaderLines (fs.map Field.line ++ rest) hs = scanHeaderLines rest hs := by
  intro fs
  induction fs with
  | nil => intro rest hs _; rfl
  | cons f fs ih =>
    intro rest hs h
    have hf := h f (by simp)
    obtain ⟨_, _, hidx, hname, hval⟩ := fieldLine_parse f hf.1
    obtain ⟨k1, k2⟩ := plain_key f hf
    simp only [List.map_cons, List.cons_append, scanHeaderLines, hidx, hname, k1, k2, ↓reduceIte]
    exact ih rest hs (fun g hg => h g (by simp [hg]))

/-- what the header scan must compute for a body (a close-delimited body is no request body: `ReqWF.body_ok`) -/
def scanOf : Body → HdrScan
  | .sized _ b => { contentLength := b.length, haveCL := true, isChunked := false }
  | .chunked _ _ _ => { contentLength := 0, haveCL := false, isChunked := true, haveTE := true }
  | _ => {}

/-- The requests `extract_exact` speaks of: `line` is any request line without CR/LF that the header scan does not take for a framing
field (`line_key`), plain fields stand around the framing field of `body`, and a declared length or chunk size is at most
`MAX_BODY_SIZE`, beyond which the server closes.  A request has no close-delimited body. -/
structure ReqWF (line : Bytes) (before after : List Field) (body : Body) : Prop where
  line_ne : line ≠ []
  line_ok : ∀ c ∈ line, c ≠ 13 ∧ c ≠ 10
  /-- the request line may contain `:` (absolute-form / authority-form targets); what precedes its first `:` is not read
  as a framing field name by the header scan -/
  line_key : ∀ colon, indexOf? (· == 58) line = some colon →
    lower (trim (line.take colon)) ≠ ascii "content-length" ∧ lower (trim (line.take colon)) ≠ ascii "transfer-encoding"
  before_ok : ∀ f ∈ before, PlainField f
  after_ok : ∀ f ∈ after, PlainField f
  body_ok :
    match body with
    | .empty => True
    | .sized tok b => tokValue 10 tok = some b.length ∧ b.length ≤ Gen.Http.serverMaxBodySize
    | .chunked te cs l =>
      lastToken (splitOn 44 (lower te)) [] = ascii "chunked" ∧ NoCRLF te ∧ Trimmed te ∧
        (∀ c ∈ cs, c.WF Gen.Http.serverMaxBodySize) ∧ l.WF
    | .untilClose _ => False

def reqFields (before after : List Field) (body : Body) : List Field :=
  before ++ (match body.field with | none => [] | some f => [f]) ++ after

theorem scan_request (line : Bytes) (before after : List Field) (body : Body) (h : ReqWF line before after body) :
    scanHeaderLines (line :: (reqFields before after body).map Field.line) {} = some (scanOf body) := by
  have hskip : ∀ (rest : List Bytes) (hs : HdrScan), scanHeaderLines (line :: rest) hs = scanHeaderLines rest hs := by
    intro rest hs
    cases hc : indexOf? (· == 58) line with
    | none => simp only [scanHeaderLines, hc]
    | some colon =>
      obtain ⟨k1, k2⟩ := h.line_key colon hc
      simp only [scanHeaderLines, hc, k1, k2, ↓reduceIte]
  have hend : ∀ hs : HdrScan, scanHeaderLines (after.map Field.line) hs = some hs := fun hs => by
    simpa [scanHeaderLines] using scan_plain after [] hs h.after_ok
  have hbody := h.body_ok
  rw [hskip]
  simp only [reqFields, List.map_append]
  rw [List.append_assoc, scan_plain before _ _ h.before_ok]
  cases body with
  | empty => exact hend _
  | untilClose b => exact hbody.elim
  | sized tok b =>
    obtain ⟨_, _, hidx, hname, hval⟩ := fieldLine_parse _ (clName_wf tok _ hbody.1)
    have hp : parseFullUInt 10 tok = some b.length :=
      (parseFullUInt_iff 10 tok _).2 ⟨hbody.1, by have := hbody.2; simp only [Gen.Http.serverMaxBodySize] at this; omega⟩
    simp only [Body.field, List.map_cons, List.map_nil, List.cons_append, List.nil_append, scanHeaderLines, hidx,
      hname, hval, lower_clName, ↓reduceIte, hp, Bool.false_eq_true, false_and, Nat.not_lt.mpr hbody.2]
    exact hend _
  | chunked te cs l =>
    obtain ⟨hfinal, hte, htrim, _⟩ := hbody
    obtain ⟨_, _, hidx, hname, hval⟩ := fieldLine_parse _ (teName_wf te hte htrim)
    simp only [Body.field, List.map_cons, List.map_nil, List.cons_append, List.nil_append, scanHeaderLines, hidx,
      hname, hval, lower_teName, ↓reduceIte, cl_ne_te.symm, hfinal, beq_self_eq_true]
    exact hend _

theorem reqFields_wf (line : Bytes) (before after : List Field) (body : Body) (h : ReqWF line before after body) :
    ∀ f ∈ reqFields before after body, f.WF := by
  refine (framed_fields before after body.field h.before_ok h.after_ok ?_).1
  have hbody := h.body_ok
  intro f hf
  cases body with
  | empty => cases hf
  | untilClose b => cases hf
  | sized tok b => cases hf; exact clName_wf tok _ hbody.1
  | chunked te cs l => obtain ⟨_, hte, htrim, _⟩ := hbody; cases hf; exact teName_wf te hte htrim

def reqHead (line : Bytes) (before after : List Field) (body : Body) : Bytes :=
  joinCRLF (line :: (reqFields before after body).map Field.line)

def reqRender (line : Bytes) (before after : List Field) (body : Body) : Bytes :=
  reqHead line before after body ++ crlf2 ++ body.wire

def reqRaw (line : Bytes) (before after : List Field) (body : Body) : Bytes :=
  reqHead line before after body ++ crlf2 ++ body.content

theorem reqHead_split (line : Bytes) (before after : List Field) (body : Body) (h : ReqWF line before after body)
    (tail : Bytes) :
    (find crlf2 (reqHead line before after body ++ crlf2 ++ tail) 0 = some (reqHead line before after body).length ∧
      (reqHead line before after body ++ crlf2 ++ tail).take (reqHead line before after body).length =
        reqHead line before after body ∧
      (reqHead line before after body ++ crlf2 ++ tail).drop ((reqHead line before after body).length + 4) = tail ∧
      (reqHead line before after body ++ crlf2 ++ tail).take ((reqHead line before after body).length + 4) =
        reqHead line before after body ++ crlf2) ∧
    getLines (reqHead line before after body) = line :: (reqFields before after body).map Field.line := by
  have hwf := reqFields_wf line before after body h
  have hok : ∀ l ∈ line :: (reqFields before after body).map Field.line, l ≠ [] ∧ NoCRLF l := by
    intro l hl
    rcases List.mem_cons.mp hl with rfl | hl
    · exact ⟨h.line_ne, h.line_ok⟩
    · obtain ⟨f, hf, rfl⟩ := List.mem_map.mp hl
      exact ⟨(fieldLine_parse f (hwf f hf)).1, fieldLine_noCRLF f (hwf f hf)⟩
  exact ⟨head_found _ (by simp) (fun l hl => ⟨(hok l hl).1, fun c hc => ((hok l hl).2 c hc).1⟩) tail,
    getLines_join _ (by simp) (fun l hl => (hok l hl).2)⟩

theorem extract_exact (line : Bytes) (before after : List Field) (body : Body) (h : ReqWF line before after body)
    (hhead : (reqHead line before after body).length ≤ Gen.Http.serverMaxHeaderSize) (rest : Bytes) :
    extractOne (reqRender line before after body ++ rest) =
      .request (reqRaw line before after body) (reqRender line before after body).length := by
  obtain ⟨⟨hfind, htake, hdrop, htake4⟩, hgl⟩ := reqHead_split line before after body h (body.wire ++ rest)
  have hscan := scan_request line before after body h
  have hbody := h.body_ok
  unfold reqRaw reqRender
  rw [List.append_assoc _ body.wire rest]
  have hacc : HeadAccepted (reqHead line before after body).length
      ((reqHead line before after body ++ crlf2 ++ (body.wire ++ rest)).take (reqHead line before after body).length)
      (scanOf body) := by
    rw [htake]
    exact ⟨hhead, hgl ▸ hscan, by cases body <;> simp [scanOf], by cases body <;> simp [scanOf]⟩
  rw [extractOne_accepted hfind hacc]
  clear hacc
  generalize reqHead line before after body = hd at *
  -- without chunked coding: the request is the header section and `w`, the declared number of bytes behind it
  have unchunked : ∀ w : Bytes,
      (if (hd ++ crlf2 ++ (w ++ rest)).length < hd.length + 4 + w.length then Extract.needMore
       else .request ((hd ++ crlf2 ++ (w ++ rest)).take (hd.length + 4 + w.length)) (hd.length + 4 + w.length)) =
      .request (hd ++ crlf2 ++ w) (hd ++ crlf2 ++ w).length := by
    intro w
    have l : hd.length + 4 + w.length = (hd ++ crlf2 ++ w).length := by simp [crlf2]; omega
    rw [if_neg (by simp [crlf2]; omega), l, ← List.append_assoc, List.take_left' rfl]
  cases body with
  | untilClose b => exact hbody.elim
  | empty => simpa [scanOf, Body.wire, Body.content] using unchunked []
  | sized tok b => simpa [scanOf, Body.wire, Body.content] using unchunked b
  | chunked te cs l =>
    obtain ⟨_, _, _, hcs, hl⟩ := hbody
    simp only [scanOf, ↓reduceIte]
    unfold findChunkedRequestEnd
    rw [chunkScan_exact Gen.Http.serverMaxBodySize l hl rest cs _ [] _ hcs hdrop, htake4]
    simp [Body.content, Body.wire, crlf2]
    omega

/-- a request of the reference syntax at the framing level: the request line is an uninterpreted line -/
structure ReqSpec where
  line : Bytes
  before : List Field := []
  after : List Field := []
  body : Body

def ReqSpec.render (r : ReqSpec) : Bytes := reqRender r.line r.before r.after r.body
/-- header section + decoded body: what `HttpRequest::fromWireFormat` is handed -/
def ReqSpec.raw (r : ReqSpec) : Bytes := reqRaw r.line r.before r.after r.body
def ReqSpec.OK (r : ReqSpec) : Prop :=
  ReqWF r.line r.before r.after r.body ∧ (reqHead r.line r.before r.after r.body).length ≤ Gen.Http.serverMaxHeaderSize

def renderAll (rs : List ReqSpec) : Bytes := (rs.map ReqSpec.render).flatten

structure ReqLine where
  method : Nat          -- index into the method table = `enum class HttpMethod`
  target : Bytes
  minor : Nat

def methodName (i : Nat) : Bytes := ((Gen.Http.methods.map ascii)[i]?).getD []
def versionBytes (minor : Nat) : Bytes := [72, 84, 84, 80, 47, 49, 46, b8 (48 + minor)]
def ReqLine.render (l : ReqLine) : Bytes := methodName l.method ++ 32 :: (l.target ++ 32 :: versionBytes l.minor)

structure ReqLine.WF (l : ReqLine) : Prop where
  method_ok : l.method < 9          -- `Gen.Http.methods` has 9 entries
  target_ne : l.target ≠ []
  target_ok : ∀ c ∈ l.target, 0x21 ≤ c.toNat ∧ c.toNat ≠ 0x7F
  target_len : l.target.length ≤ Gen.Http.maxRequestTargetSize
  minor_ok : l.minor ≤ 9            -- one digit

/-- by evaluation, entry by entry; stated with `.toOption` because equality on `Except` is not decidable -/
theorem method_table0 : ∀ i, i < 9 →
    methodName i ≠ [] ∧
    (∀ c ∈ methodName i, (c == 32) = false ∧ ¬ (c.toNat < 0x21) ∧ (c == 58) = false ∧ isOWS c = false) ∧
    (parseMethod (methodName i)).toOption = some i ∧
    lower (methodName i) ≠ ascii "content-length" ∧ lower (methodName i) ≠ ascii "transfer-encoding" := by
  decide +kernel

theorem method_table (i : Nat) (hi : i < 9) :
    methodName i ≠ [] ∧
    (∀ c ∈ methodName i, (c == 32) = false ∧ ¬ (c.toNat < 0x21) ∧ (c == 58) = false ∧ isOWS c = false) ∧
    parseMethod (methodName i) = .ok i ∧
    lower (methodName i) ≠ ascii "content-length" ∧ lower (methodName i) ≠ ascii "transfer-encoding" := by
  obtain ⟨a, b, c, d⟩ := method_table0 i hi
  refine ⟨a, b, ?_, d⟩
  cases hp : parseMethod (methodName i) with
  | error e => rw [hp] at c; cases c
  | ok j => rw [hp] at c; simp [Except.toOption] at c; rw [c]

theorem version_facts (minor : Nat) (h : minor ≤ 9) :
    (versionBytes minor).any (fun c => decide (c.toNat < 0x21)) = false ∧ parseVersion (versionBytes minor) = some (1, minor) := by
  have ht := b8_digit (show minor < 10 by omega)
  constructor
  · simp only [versionBytes, List.any_cons, List.any_nil, ht]
    simp (config := { decide := true })
    omega
  · simp only [versionBytes, parseVersion, isDigit, ht]
    have h1 : 48 ≤ 48 + minor ∧ 48 + minor ≤ 57 := by omega
    simp (config := { decide := true }) [h1]

theorem parseRequestLine_exact (l : ReqLine) (h : l.WF) :
    parseRequestLine l.render = .ok (l.method, l.target, l.minor) := by
  obtain ⟨hmne, hmch, hpm, _⟩ := method_table l.method h.method_ok
  obtain ⟨hv1, hv2⟩ := version_facts l.minor h.minor_ok
  have htsp : ∀ c ∈ l.target, (c == 32) = false := by
    intro c hc
    have := (h.target_ok c hc).1
    simp only [beq_eq_false_iff_ne, ne_eq]
    intro h32; subst h32; simp at this
  have hp1 : indexOf? (· == 32) l.render = some (methodName l.method).length :=
    indexOf_skip _ _ 32 _ (fun c hc => (hmch c hc).1) (by decide)
  have hd1 : l.render.drop ((methodName l.method).length + 1) = l.target ++ 32 :: versionBytes l.minor := by
    have e : l.render = (methodName l.method ++ [32]) ++ (l.target ++ 32 :: versionBytes l.minor) := by simp [ReqLine.render]
    rw [e, List.drop_left']; simp
  have hp2 : indexOf? (· == 32) (l.target ++ 32 :: versionBytes l.minor) = some l.target.length :=
    indexOf_skip _ _ 32 _ htsp (by decide)
  have hml : 0 < (methodName l.method).length := List.length_pos_iff.mpr hmne
  have htl : 0 < l.target.length := List.length_pos_iff.mpr h.target_ne
  have hlen : l.render.length = (methodName l.method).length + 1 + l.target.length + 1 + 8 := by
    simp [ReqLine.render, versionBytes]; omega
  have htake1 : l.render.take (methodName l.method).length = methodName l.method := by
    unfold ReqLine.render; rw [List.take_left']; rfl
  have htake2 : (l.target ++ 32 :: versionBytes l.minor).take l.target.length = l.target := by
    rw [List.take_left']; rfl
  have hd2 : l.render.drop ((methodName l.method).length + 1 + l.target.length + 1) = versionBytes l.minor := by
    have e : l.render = (methodName l.method ++ [32] ++ l.target ++ [32]) ++ versionBytes l.minor := by simp [ReqLine.render]
    rw [e, List.drop_left']; simp; omega
  have hmany : (methodName l.method).any (fun c => decide (c.toNat < 0x21)) = false := by
    rw [List.any_eq_false]; intro c hc; simpa using (hmch c hc).2.1
  have htany : l.target.any (fun c => decide (c.toNat < 0x20 ∨ c.toNat = 0x7F)) = false := by
    rw [List.any_eq_false]; intro c hc
    have := h.target_ok c hc
    simp only [decide_eq_true_eq]; omega
  unfold parseRequestLine
  simp only [hp1, hd1, hp2]
  have hc : ¬ ((methodName l.method).length = 0 ∨
      (methodName l.method).length + 1 + l.target.length = (methodName l.method).length + 1 ∨
      (methodName l.method).length + 1 + l.target.length + 1 ≥ l.render.length) := by omega
  have htl' : ¬ (l.target.length > Gen.Http.maxRequestTargetSize) := by have := h.target_len; omega
  simp only [hc, ↓reduceIte, htake1, htake2, hd2, hmany, hv1, Bool.false_eq_true, htl', htany, hpm, hv2]
  simp

theorem version_noCRLF (minor : Nat) (h : minor ≤ 9) : ∀ c ∈ versionBytes minor, c ≠ 13 ∧ c ≠ 10 := by
  intro c hc
  simp only [versionBytes, List.mem_cons, List.not_mem_nil, or_false] at hc
  rcases hc with rfl | rfl | rfl | rfl | rfl | rfl | rfl | rfl
  any_goals decide
  exact ⟨b8_digit_ne minor (by omega) 13 (by decide), b8_digit_ne minor (by omega) 10 (by decide)⟩

/-- for EVERY well-formed request line - whatever colons its target contains - the header scan of `handleIncomingData`
does not take it for a `Content-Length` / `Transfer-Encoding` line -/
theorem reqLine_facts (l : ReqLine) (h : l.WF) :
    l.render ≠ [] ∧ (∀ c ∈ l.render, c ≠ 13 ∧ c ≠ 10) ∧
    ∀ colon, indexOf? (· == 58) l.render = some colon →
      lower (trim (l.render.take colon)) ≠ ascii "content-length" ∧
      lower (trim (l.render.take colon)) ≠ ascii "transfer-encoding" := by
  obtain ⟨hmne, hmch, _, hm2, hm3⟩ := method_table l.method h.method_ok
  refine ⟨by simp [ReqLine.render], ?_, ?_⟩
  · intro c hc
    simp only [ReqLine.render, List.mem_append, List.mem_cons] at hc
    rcases hc with hc | rfl | hc | rfl | hc
    · have := (hmch c hc).2.1
      constructor <;> (intro hcc; subst hcc; simp at this)
    · decide
    · have := h.target_ok c hc
      constructor <;> (intro hcc; subst hcc; simp at this)
    · decide
    · exact version_noCRLF l.minor h.minor_ok c hc
  · -- the first colon lies behind the method and its space, so what precedes it is the method, the space and more; trimmed, that is
    -- the method alone or still holds the space, which no field name does
    intro colon hc
    have e : l.render = (methodName l.method ++ [32]) ++ (l.target ++ 32 :: versionBytes l.minor) := by simp [ReqLine.render]
    rw [e, indexOf_append_of_none _ _ _ (by
      intro c hc
      rcases List.mem_append.mp hc with hc | hc
      · exact (hmch c hc).2.2.1
      · rw [List.mem_singleton.mp hc]; decide)] at hc
    obtain ⟨k, _, rfl⟩ := Option.map_eq_some_iff.mp hc
    rw [e, Nat.add_comm, List.take_length_add_append, List.append_assoc, List.singleton_append]
    rcases trim_token_sp (methodName l.method) ((l.target ++ 32 :: versionBytes l.minor).take k) hmne
      (fun c hc => (hmch c hc).2.2.2) with ht | ⟨w, ht⟩
    · rw [ht]; exact ⟨hm2, hm3⟩
    · rw [ht]
      have h32 : (32 : UInt8) ∈ lower (methodName l.method ++ 32 :: w) := List.mem_map.mpr ⟨32, by simp, by decide⟩
      exact ⟨fun heq => names_no_space.1 (heq ▸ h32), fun heq => names_no_space.2 (heq ▸ h32)⟩

theorem reqWF_of_line (l : ReqLine) (h : l.WF) (before after : List Field) (body : Body)
    (hb : ∀ f ∈ before, PlainField f) (ha : ∀ f ∈ after, PlainField f)
    (hbody : match body with
      | .empty => True
      | .sized tok b => tokValue 10 tok = some b.length ∧ b.length ≤ Gen.Http.serverMaxBodySize
      | .chunked te cs l =>
        lastToken (splitOn 44 (lower te)) [] = ascii "chunked" ∧ NoCRLF te ∧ Trimmed te ∧
          (∀ c ∈ cs, c.WF Gen.Http.serverMaxBodySize) ∧ l.WF
      | .untilClose _ => False) :
    ReqWF l.render before after body :=
  { line_ne := (reqLine_facts l h).1, line_ok := (reqLine_facts l h).2.1, line_key := (reqLine_facts l h).2.2,
    before_ok := hb, after_ok := ha, body_ok := hbody }

/-- the header map `fromWireFormat` builds from field lines -/
def reqHeaders (fs : List Field) (h : Headers) : Headers := fs.foldl (fun h f => addOrCombine h f.name f.value) h

/-- the number of `Host` lines, which `fromWireFormat` requires to be 1 -/
def hostCount (fs : List Field) : Nat := (fs.filter (fun f => ciEq f.name (ascii "Host"))).length

theorem fieldLine_name_noOWS (f : Field) (hf : f.WF) : nameEndsWithOWS (f.line.take f.name.length) = false := by
  unfold Field.line
  rw [List.take_left' rfl]
  unfold nameEndsWithOWS
  cases h : f.name.getLast? with
  | none => rfl
  | some c => exact (hf.name_tok c (List.mem_of_getLast? h)).2.2.2

/-- with `parseReqLines_exact`, the hypothesis `hb` of `S6c_ws_before_colon_rejected` when well-formed field lines stand before the bad one -/
theorem parseReqLines_fields : ∀ (fs : List Field) (tail : List Bytes) (h : Headers) (n : Nat), (∀ f ∈ fs, f.WF) →
    parseReqLines (fs.map Field.line ++ tail) h n = parseReqLines tail (reqHeaders fs h) (n + hostCount fs) := by
  intro fs
  induction fs with
  | nil => intro tail h n _; simp [reqHeaders, hostCount]
  | cons f fs ih =>
    intro tail h n hwf
    obtain ⟨hne, hhead, hidx, hname, hval⟩ := fieldLine_parse f (hwf f (by simp))
    simp only [List.map_cons, List.cons_append]
    cases hl : f.line with
    | nil => exact absurd hl hne
    | cons c0 tl =>
      have hows := fieldLine_name_noOWS f (hwf f (by simp))
      rw [hl] at hidx hname hval hows
      have h0 : ¬ (c0 = 32 ∨ c0 = 9) := hhead c0 (by rw [hl]; rfl)
      rw [parseReqLines]
      simp only [h0, ↓reduceIte, hidx, hname, hval, hows, Bool.false_eq_true]
      rw [ih _ _ _ (fun g hg => hwf g (by simp [hg]))]
      simp only [reqHeaders, List.foldl_cons, hostCount, List.filter_cons]
      by_cases hh : ciEq f.name (ascii "Host") = true
      · simp only [hh, ↓reduceIte, List.length_cons]; congr 1; omega
      · simp only [hh, Bool.false_eq_true, ↓reduceIte]

theorem parseReqLines_exact (fs : List Field) (h : Headers) (n : Nat) (hwf : ∀ f ∈ fs, f.WF) :
    parseReqLines (fs.map Field.line) h n = .ok (reqHeaders fs h, n + hostCount fs) := by
  simpa [parseReqLines] using parseReqLines_fields fs [] h n hwf

/-- a complete request of the reference syntax -/
structure FullReq where
  rl : ReqLine
  before : List Field := []
  after : List Field := []
  body : Body

def FullReq.spec (r : FullReq) : ReqSpec := { line := r.rl.render, before := r.before, after := r.after, body := r.body }
def FullReq.fields (r : FullReq) : List Field := reqFields r.before r.after r.body

theorem fromWireFormat_exact (r : FullReq) (hrl : r.rl.WF) (hok : r.spec.OK)
    (hhost : hostCount r.fields = 1) (hhv : hdrFind (reqHeaders r.fields []) (ascii "Host") ≠ some []) :
    fromWireFormat r.spec.raw =
      .ok { method := r.rl.method, uri := r.rl.target, minor := r.rl.minor, headers := reqHeaders r.fields [],
            body := r.body.content } := by
  obtain ⟨⟨hfind, htake, hdrop, _⟩, hgl⟩ := reqHead_split r.rl.render r.before r.after r.body hok.1 r.body.content
  simp only [FullReq.fields] at hhost hhv
  unfold fromWireFormat
  rw [show r.spec.raw = reqHead r.rl.render r.before r.after r.body ++ crlf2 ++ r.body.content from rfl, hfind]
  simp only [htake, hdrop, hgl, parseRequestLine_exact r.rl hrl,
    parseReqLines_exact _ [] 0 (reqFields_wf r.rl.render r.before r.after r.body hok.1)]
  simp [hhost, hhv, FullReq.fields]

/-- every error status the parser step `e` can answer satisfies `P`; proved by walking the decision tree of the parser, one
lemma per kind of node (`ErrIn.error`, `ErrIn.ok`, `ErrIn.ite`), so that no `if` condition is ever case-split -/
def ErrIn {α : Type} (P : Nat → Prop) (e : Except Nat α) : Prop := ∀ s, e = .error s → P s

theorem ErrIn.error {α : Type} {P : Nat → Prop} {s : Nat} (h : P s) : ErrIn P (.error s : Except Nat α) := by
  intro t ht; cases ht; exact h

theorem ErrIn.ok {α : Type} {P : Nat → Prop} (x : α) : ErrIn P (.ok x : Except Nat α) := by
  intro t ht; cases ht

theorem ErrIn.ite {α : Type} {P : Nat → Prop} {c : Prop} [Decidable c] {a b : Except Nat α}
    (ha : ErrIn P a) (hb : ErrIn P b) : ErrIn P (if c then a else b) := by
  split <;> assumption

theorem parseMethod_status (m : Bytes) : ErrIn (fun s => s = 501 ∨ s = 400) (parseMethod m) := by
  unfold parseMethod
  cases (Gen.Http.methods.map ascii).idxOf? m with
  | some i => exact .ok i
  | none => exact .ite (.error (.inl rfl)) (.error (.inr rfl))

theorem parseReqLines_status : ∀ (lines : List Bytes) (hd : Headers) (n : Nat),
    ErrIn (· = 400) (parseReqLines lines hd n) := by
  intro lines
  induction lines with
  | nil => intro hd n; exact .ok _
  | cons line rest ih =>
    intro hd n
    unfold parseReqLines
    cases line with
    | nil => exact ih _ _
    | cons c0 tl =>
      refine .ite (.error rfl) ?_
      cases indexOf? (· == 58) (c0 :: tl) with
      | none => exact ih _ _
      | some colon => exact .ite (.error rfl) (ih _ _)

theorem parseRequestLine_status (line : Bytes) :
    ErrIn (fun s => s = 400 ∨ s = 414 ∨ s = 501 ∨ s = 505) (parseRequestLine line) := by
  have e400 : ∀ {α : Type}, ErrIn (fun s => s = 400 ∨ s = 414 ∨ s = 501 ∨ s = 505) (.error 400 : Except Nat α) :=
    .error (.inl rfl)
  unfold parseRequestLine
  cases indexOf? (· == 32) line with
  | none => exact e400
  | some p1 =>
    dsimp only
    cases indexOf? (· == 32) (line.drop (p1 + 1)) with
    | none => exact e400
    | some k =>
      dsimp only
      refine .ite e400 (.ite e400 (.ite e400 (.ite (.error (.inr (.inl rfl))) (.ite e400 ?_))))
      cases hm : parseMethod (line.take p1) with
      | error s =>
        refine .error ?_
        rcases parseMethod_status _ s hm with rfl | rfl
        · exact .inr (.inr (.inl rfl))
        · exact .inl rfl
      | ok m =>
        dsimp only
        cases parseVersion (line.drop (p1 + 1 + k + 1)) with
        | none => exact e400
        | some v => exact .ite (.error (.inr (.inr (.inr rfl)))) (.ok _)

/-- 500 is what the worker answers to an exception that is no `HttpRequestError`: here a missing header terminator, which cannot occur
after extraction -/
theorem fromWireFormat_status (data : Bytes) :
    ErrIn (fun s => s = 500 ∨ s = 400 ∨ s = 414 ∨ s = 501 ∨ s = 505) (fromWireFormat data) := by
  have e400 : ∀ {α : Type}, ErrIn (fun s => s = 500 ∨ s = 400 ∨ s = 414 ∨ s = 501 ∨ s = 505) (.error 400 : Except Nat α) :=
    .error (.inr (.inl rfl))
  unfold fromWireFormat
  cases find crlf2 data 0 with
  | none => exact .error (.inl rfl)
  | some headerEnd =>
    dsimp only
    cases getLines (data.take headerEnd) with
    | nil => exact e400
    | cons first lines =>
      dsimp only
      cases hrl : parseRequestLine first with
      | error s => exact .error (.inr (parseRequestLine_status _ _ hrl))
      | ok r =>
        dsimp only
        cases hpl : parseReqLines lines [] 0 with
        | error s => exact .error (.inr (.inl (parseReqLines_status _ _ _ _ hpl)))
        | ok hn => exact .ite e400 (.ite e400 (.ite e400 (.ok _)))

end Iora.Http.Srv
