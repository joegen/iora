import IoraModel.Model.BlockingQueue
import IoraModel.Lemmas.MonitorBroadcast
/-!
What one step of the blocking-queue program (class as repaired) does, in three summaries from which the invariants of the
other `BlockingQueue*` files are read off.

* `DataStep`: the effect of any step on the shared data, with NO assumption on the local state; capacity bound, `puts = takes ++
  queue` (`cap_n_run`, `data_run`) and "once closed: closed for ever, nothing is pushed, what is taken is the front of the
  queue" follow from it alone, the last from ANY closed state, reachable or not (`closed_run`, `closed_step_no_push`).
* `Crit`: the outcomes of the code that runs once `_mutex` has been obtained (method entry, return from a wait), each with the
  condition under which it is taken (`ret`: only that a thread which has waited returns on a closed queue or a false
  predicate).  This second reading of `entered`/`rewoken` needs a well-formed local state (`wfL`), which only a reachable
  state provides.
* `after_passive`: every other step leaves the data alone and the thread between two critical sections (`pc_class`: there
  are no others, a finished thread aside).
-/
namespace Iora.BQ
open Iora.Monitor

theorem begin_data (l : Loc) (d : Data) (todo : List Call) : (begin true l d todo).2 = d := by
  cases todo with
  | nil => rfl
  | cons c rest => cases c <;> rfl

theorem begin_loc (l : Loc) (d : Data) (todo : List Call) :
    (begin true l d todo).1 = { l with todo := todo, pc := match todo with | [] => .finished | _ :: _ => .enter } := by
  cases todo with
  | nil => rfl
  | cons c rest => cases c <;> rfl

theorem begin_pc (l : Loc) (d : Data) (todo : List Call) :
    ((begin true l d todo).1.pc = .enter ∧ (begin true l d todo).1.todo ≠ []) ∨ (begin true l d todo).1.pc = .finished := by
  rw [begin_loc]
  cases todo with
  | nil => exact Or.inr rfl
  | cons c rest => exact Or.inl ⟨rfl, nofun⟩

theorem ret_data (l : Loc) (d : Data) (r : Ret) : (ret true l d r).2 = d := begin_data _ _ _
theorem ret_pc (l : Loc) (d : Data) (r : Ret) :
    ((ret true l d r).1.pc = .enter ∧ (ret true l d r).1.todo ≠ []) ∨ (ret true l d r).1.pc = .finished :=
  begin_pc _ _ _

theorem predNF_false {d : Data} (h : predNF d = false) : d.cap ≤ d.q.length ∧ d.closed = false := by
  simp only [predNF, Bool.or_eq_false_iff, decide_eq_false_iff_not] at h
  exact ⟨by omega, h.2⟩

theorem predNF_true {d : Data} (h : predNF d = true) : d.closed = true ∨ d.q.length < d.cap := by
  simp only [predNF, Bool.or_eq_true, decide_eq_true_eq] at h
  rcases h with h | h
  · exact Or.inr h
  · exact Or.inl h

theorem predNE_false {d : Data} (h : predNE d = false) : d.q = [] ∧ d.closed = false := by
  simp only [predNE, Bool.or_eq_false_iff] at h
  refine ⟨?_, h.2⟩
  have := h.1
  -- the model writes `!d.q.isEmpty`
  cases hq : d.q with
  | nil => rfl
  | cons x xs => rw [hq] at this; simp at this

/-- what the user code of one step of thread `me` can do to the shared data (class as repaired): nothing, one
`push_back` on an open queue with room, one `pop_front`, or setting `_closed` -/
inductive DataStep (me : Tid) (d : Data) : Data → Prop
  | same : DataStep me d d
  | put (v : Val) (hopen : d.closed = false) (hroom : d.q.length < d.cap) :
      DataStep me d { d with q := d.q ++ [v], puts := d.puts ++ [(me, v)] }
  | take (x : Val) (xs : List Val) (hq : d.q = x :: xs) : DataStep me d { d with q := xs, takes := d.takes ++ [(me, x)] }
  | close : DataStep me d { d with closed := true }

theorem putBody_data (l : Loc) (d : Data) (v : Val) (h : d.closed = true ∨ d.q.length < d.cap) :
    DataStep l.me d (putBody l d v).2 := by
  unfold putBody
  by_cases hc : d.closed = true
  · rw [if_pos hc]; exact .same
  · rw [if_neg hc]; exact .put v (Bool.eq_false_iff.mpr hc) (h.resolve_left hc)

theorem takeBody_data (l : Loc) (d : Data) : DataStep l.me d (takeBody l d).2 := by
  unfold takeBody
  split
  · exact .same
  · rename_i x xs hq; exact .take x xs hq

theorem entered_data (l : Loc) (d : Data) : DataStep l.me d (entered l d).2 := by
  unfold entered
  split
  · exact .same
  · split
    · rename_i hp; exact putBody_data l d _ (predNF_true hp)
    · exact .same
  · split
    · rename_i hp; exact putBody_data l d _ (predNF_true hp)
    · exact .same
  · split
    · exact .same
    · rename_i hc
      simp only [Bool.or_eq_true, decide_eq_true_eq, not_or, Bool.not_eq_true, Nat.not_le] at hc
      exact .put _ hc.1 hc.2
  · split
    · exact takeBody_data l d
    · exact .same
  · split
    · exact takeBody_data l d
    · exact .same
  · exact takeBody_data l d
  · split
    · exact .same
    · exact .close
  · exact .same
  · exact .same
  · exact .same

theorem rewoken_data (l : Loc) (d : Data) (late : Bool) : DataStep l.me d (rewoken l d late).2 := by
  unfold rewoken
  split
  · split
    · rename_i hp; exact putBody_data l d _ (predNF_true hp)
    · exact .same
  · split
    · rename_i hp; exact putBody_data l d _ (predNF_true hp)
    · split <;> exact .same
  · split
    · exact takeBody_data l d
    · exact .same
  · split
    · exact takeBody_data l d
    · split <;> exact .same
  · exact .same

theorem after_data (l : Loc) (d : Data) (late : Bool) : DataStep l.me d (after true l d late).2 := by
  unfold after
  split
  · rw [begin_data]; exact .same
  · exact entered_data l d
  · exact rewoken_data l d late
  · exact rewoken_data l d late
  · rw [ret_data]; exact .same
  · exact .same
  · rw [ret_data]; exact .same
  · exact .same
  · exact .same
  · rw [ret_data]; exact .same
  · exact .same

theorem tr_data (s s' : State Data Loc) (tr : Tr (prog true) s s') : s'.n = s.n ∧ ∃ me, DataStep me s.data s'.data := by
  cases tr with
  | wake | sleep => exact ⟨rfl, 0, .same⟩
  | _ => exact ⟨rfl, _, after_data _ _ _⟩

def Conserved (d : Data) : Prop := d.puts.map (·.2) = d.takes.map (·.2) ++ d.q

namespace DataStep
variable {me : Tid} {d d' : Data} (h : DataStep me d d')
include h

theorem cap_eq : d'.cap = d.cap := by cases h <;> rfl

theorem bound (hb : d.q.length ≤ d.cap) : d'.q.length ≤ d'.cap := by
  cases h with
  | same => exact hb
  | put v _ hroom => rw [List.length_append]; exact hroom
  | take x xs hq => rw [hq] at hb; exact Nat.le_of_succ_le hb
  | close => exact hb

theorem conserved (hc : Conserved d) : Conserved d' := by
  unfold Conserved at hc ⊢
  cases h with
  | same => exact hc
  | put v _ _ => simp [hc]
  | take x xs hq => rw [hq] at hc; simp [hc]
  | close => exact hc

theorem closed (hc : d.closed = true) : d'.puts = d.puts ∧ d'.closed = true ∧
    ∃ taken, d'.takes.map (·.2) = d.takes.map (·.2) ++ taken ∧ taken ++ d'.q = d.q := by
  cases h with
  | same => exact ⟨rfl, hc, [], (List.append_nil _).symm, rfl⟩
  | put v hopen _ => rw [hopen] at hc; cases hc
  | take x xs hq => exact ⟨rfl, hc, [x], by simp, hq.symm⟩
  | close => exact ⟨rfl, rfl, [], (List.append_nil _).symm, rfl⟩

end DataStep

theorem cap_n_run (cap : Nat) (ps : List (List Call)) (sched : List Choice) :
    (run (prog true) (init cap ps) sched).data.cap = cap ∧ (run (prog true) (init cap ps) sched).n = ps.length :=
  inv_of_tr (prog true) (fun s => s.data.cap = cap ∧ s.n = ps.length)
    (fun s s' h tr => by
      obtain ⟨hn, _, hD⟩ := tr_data s s' tr
      exact ⟨by rw [hD.cap_eq]; exact h.1, by rw [hn]; exact h.2⟩) sched _ ⟨rfl, rfl⟩

/-- Q2 and Q1 on the data -/
theorem data_run (cap : Nat) (ps : List (List Call)) (sched : List Choice) :
    (run (prog true) (init cap ps) sched).data.q.length ≤ (run (prog true) (init cap ps) sched).data.cap ∧
    Conserved (run (prog true) (init cap ps) sched).data :=
  inv_of_tr (prog true) (fun s => s.data.q.length ≤ s.data.cap ∧ Conserved s.data)
    (fun s s' h tr => by
      obtain ⟨_, _, hD⟩ := tr_data s s' tr
      exact ⟨hD.bound h.1, hD.conserved h.2⟩) sched _ ⟨Nat.zero_le _, rfl⟩

/-- Q3b and Q3d, from any closed state -/
theorem closed_run (s : State Data Loc) (hc : s.data.closed = true) (sched : List Choice) :
    (run (prog true) s sched).data.puts = s.data.puts ∧ (run (prog true) s sched).data.closed = true ∧
    ∃ taken, (run (prog true) s sched).data.takes.map (·.2) = s.data.takes.map (·.2) ++ taken ∧
      taken ++ (run (prog true) s sched).data.q = s.data.q :=
  inv_of_tr (prog true) (fun x => x.data.puts = s.data.puts ∧ x.data.closed = true ∧
      ∃ taken, x.data.takes.map (·.2) = s.data.takes.map (·.2) ++ taken ∧ taken ++ x.data.q = s.data.q)
    (fun a b h tr => by
      obtain ⟨_, _, hD⟩ := tr_data a b tr
      obtain ⟨h1, h2, tk, h3, h4⟩ := hD.closed h.2.1
      obtain ⟨taken, h5, h6⟩ := h.2.2
      exact ⟨by rw [h1]; exact h.1, h2, taken ++ tk, by rw [h3, h5, List.append_assoc], by rw [List.append_assoc, h4, h6]⟩)
    sched s ⟨rfl, hc, [], (List.append_nil _).symm, rfl⟩

/-- of the four things a step can do to the data the push needs an open queue: a producer that slept on a full OPEN queue and
re-acquires `_mutex` after another thread's `close()` does not push -/
theorem closed_step_no_push (s : State Data Loc) (c : Choice) (hc : s.data.closed = true) :
    (step (prog true) s c).data.puts = s.data.puts ∧ (step (prog true) s c).data.q.length ≤ s.data.q.length ∧
    (step (prog true) s c).data.closed = true := by
  rcases step_tr (prog true) s c with e | tr
  · rw [e]; exact ⟨rfl, Nat.le_refl _, hc⟩
  · obtain ⟨_, _, hD⟩ := tr_data s _ tr
    obtain ⟨h1, h2, taken, _, h3⟩ := hD.closed hc
    exact ⟨h1, by rw [← h3, List.length_append]; exact Nat.le_add_left _ _, h2⟩

def putVal : Call → Option Val
  | .queue v => some v
  | .tryQueueFor v => some v
  | .tryQueue v => some v
  | _ => none

/-- what a completed call `c` returning `r` contributed to the push log -/
def putContrib (c : Call) (r : Ret) : List Val :=
  match putVal c, r with
  | some v, .bool true => [v]
  | _, _ => []

/-- what a call returning `r` contributed to the pop log -/
def takeContrib (r : Ret) : List Val :=
  match r with
  | .item (some x) => [x]
  | _ => []

theorem putContrib_nonbool (c : Call) (r : Ret) (h : ∀ b, r ≠ .bool b) : putContrib c r = [] := by
  unfold putContrib
  cases r with
  | bool b => exact absurd rfl (h b)
  | item o => cases putVal c <;> rfl
  | unit => cases putVal c <;> rfl
  | nat n => cases putVal c <;> rfl

theorem putContrib_false (c : Call) : putContrib c (.bool false) = [] := by
  unfold putContrib; cases putVal c <;> rfl

theorem putContrib_nonput (c : Call) (r : Ret) (h : putVal c = none) : putContrib c r = [] := by
  unfold putContrib; rw [h]

/-- what the code between getting `_mutex` (method entry, return from a wait) and the next pthread call does -/
inductive Crit (l : Loc) (d : Data) : Loc → Data → Prop
  /-- return `r`, which reports neither a push (`hr`) nor an item (`hk`); a thread that has waited does so only on a closed
  queue or when its predicate is false (`hE`, `hF`) -/
  | ret (r : Ret) (hr : ∀ c rest, l.todo = c :: rest → putContrib c r = []) (hk : takeContrib r = [])
      (hE : l.pc = .sleepNE → d.closed = false → d.q = []) (hF : l.pc = .sleepNF → d.closed = false → d.cap ≤ d.q.length) :
      Crit l d { l with pc := .unlockRet r } d
  | waitNE (rest : List Call) (ht : l.todo = .dequeue :: rest ∨ l.todo = .dequeueFor :: rest) (hp : predNE d = false) :
      Crit l d { l with pc := .sleepNE } d
  | waitNF (v : Val) (rest : List Call) (ht : l.todo = .queue v :: rest ∨ l.todo = .tryQueueFor v :: rest)
      (hp : predNF d = false) : Crit l d { l with pc := .sleepNF } d
  | put (c : Call) (rest : List Call) (v : Val) (ht : l.todo = c :: rest) (hv : putVal c = some v)
      (hopen : d.closed = false) (hroom : d.q.length < d.cap) :
      Crit l d { l with pc := .unlockNotify NE (.bool true) } { d with q := d.q ++ [v], puts := d.puts ++ [(l.me, v)] }
  | take (c : Call) (rest : List Call) (x : Val) (xs : List Val) (ht : l.todo = c :: rest) (hv : putVal c = none)
      (hq : d.q = x :: xs) :
      Crit l d { l with pc := .unlockNotify NF (.item (some x)) } { d with q := xs, takes := d.takes ++ [(l.me, x)] }
  | close (hopen : d.closed = false) : Crit l d { l with pc := .closeUnlock } { d with closed := true }

theorem putBody_crit (l : Loc) (d : Data) (c : Call) (rest : List Call) (v : Val) (ht : l.todo = c :: rest)
    (hv : putVal c = some v) (hp : predNF d = true) : Crit l d (putBody l d v).1 (putBody l d v).2 := by
  unfold putBody
  split
  · rename_i hc
    exact .ret _ (fun c _ _ => putContrib_false c) rfl (fun _ h => absurd (hc ▸ h) nofun) (fun _ h => absurd (hc ▸ h) nofun)
  · rename_i hc
    exact .put c rest v ht hv (Bool.eq_false_iff.mpr hc) ((predNF_true hp).resolve_left hc)

theorem takeBody_crit (l : Loc) (d : Data) (c : Call) (rest : List Call) (ht : l.todo = c :: rest) (hv : putVal c = none)
    (hF : l.pc ≠ .sleepNF) : Crit l d (takeBody l d).1 (takeBody l d).2 := by
  unfold takeBody
  split
  · rename_i hq
    exact .ret _ (fun c _ _ => putContrib_nonbool c _ nofun) rfl (fun _ _ => hq) (fun h => absurd h hF)
  · rename_i x xs hq
    exact .take c rest x xs ht hv hq

theorem entered_crit (l : Loc) (d : Data) (hpc : l.pc = .enter) (hne : l.todo ≠ []) :
    Crit l d (entered l d).1 (entered l d).2 := by
  have hE : l.pc ≠ .sleepNE := by rw [hpc]; nofun
  have hF : l.pc ≠ .sleepNF := by rw [hpc]; nofun
  -- a call that is not a put reports no push whatever it returns
  have ret : ∀ (c : Call) (rest : List Call) (r : Ret), l.todo = c :: rest → putVal c = none → takeContrib r = [] →
      Crit l d { l with pc := .unlockRet r } d := fun c rest r ht hv hk =>
    .ret r (fun c' _ h => by rw [ht] at h; cases h; exact putContrib_nonput c r hv) hk (fun h => absurd h hE) (fun h => absurd h hF)
  unfold entered
  split
  · rename_i h; exact absurd h hne
  · rename_i v rest ht
    split
    · rename_i hp; exact putBody_crit l d _ rest v ht rfl hp
    · rename_i hp; exact .waitNF v rest (Or.inl ht) (Bool.eq_false_iff.mpr hp)
  · rename_i v rest ht
    split
    · rename_i hp; exact putBody_crit l d _ rest v ht rfl hp
    · rename_i hp; exact .waitNF v rest (Or.inr ht) (Bool.eq_false_iff.mpr hp)
  · rename_i v rest ht
    split
    · exact .ret _ (fun c _ _ => putContrib_false c) rfl (fun h => absurd h hE) (fun h => absurd h hF)
    · rename_i hc
      have hc : d.closed = false ∧ d.q.length < d.cap := by simpa using hc
      exact .put _ rest v ht rfl hc.1 hc.2
  · rename_i rest ht
    split
    · exact takeBody_crit l d _ rest ht rfl hF
    · rename_i hp; exact .waitNE rest (Or.inl ht) (Bool.eq_false_iff.mpr hp)
  · rename_i rest ht
    split
    · exact takeBody_crit l d _ rest ht rfl hF
    · rename_i hp; exact .waitNE rest (Or.inr ht) (Bool.eq_false_iff.mpr hp)
  · rename_i rest ht; exact takeBody_crit l d _ rest ht rfl hF
  · rename_i rest ht
    split
    · exact ret _ rest _ ht rfl rfl
    · rename_i hc; exact .close (Bool.eq_false_iff.mpr hc)
  · rename_i rest ht; exact ret _ rest _ ht rfl rfl
  · rename_i rest ht; exact ret _ rest _ ht rfl rfl
  · rename_i rest ht; exact ret _ rest _ ht rfl rfl

/-- the local states that occur: inside a call the program is not exhausted, and a thread waits only inside a blocking call
of the matching kind -/
def wfL (l : Loc) : Prop :=
  (l.pc = .enter → l.todo ≠ []) ∧
  (l.pc = .sleepNE → ∃ rest, l.todo = .dequeue :: rest ∨ l.todo = .dequeueFor :: rest) ∧
  (l.pc = .sleepNF → ∃ v rest, l.todo = .queue v :: rest ∨ l.todo = .tryQueueFor v :: rest)

theorem wfL_sleeps_own_cv {l : Loc} (hw : wfL l) {c : Call} {rest : List Call} (ht : l.todo = c :: rest) :
    (putVal c ≠ none → l.pc ≠ .sleepNE) ∧ (putVal c = none → l.pc ≠ .sleepNF) := by
  refine ⟨fun hv hpc => ?_, fun hv hpc => ?_⟩
  · obtain ⟨r, h | h⟩ := hw.2.1 hpc <;> rw [ht] at h <;> cases h <;> exact hv rfl
  · obtain ⟨v, r, h | h⟩ := hw.2.2 hpc <;> rw [ht] at h <;> cases h <;> cases hv

theorem rewoken_crit (l : Loc) (d : Data) (late : Bool) (hw : wfL l) (hpc : l.pc = .sleepNE ∨ l.pc = .sleepNF) :
    Crit l d (rewoken l d late).1 (rewoken l d late).2 := by
  -- a thread at `sleepNE` that goes back to sleep: `{ l with pc := .sleepNE }` is `l`
  have stayE : ∀ rest, l.todo = .dequeue :: rest ∨ l.todo = .dequeueFor :: rest → l.pc = .sleepNE → ¬ predNE d = true →
      Crit l d l d := fun rest ht hpc hp => by
    have := Crit.waitNE rest ht (Bool.eq_false_iff.mpr hp); rwa [← hpc] at this
  have stayF : ∀ v rest, l.todo = .queue v :: rest ∨ l.todo = .tryQueueFor v :: rest → l.pc = .sleepNF → ¬ predNF d = true →
      Crit l d l d := fun v rest ht hpc hp => by
    have := Crit.waitNF v rest ht (Bool.eq_false_iff.mpr hp); rwa [← hpc] at this
  unfold rewoken
  split
  · rename_i v rest ht
    have hF := hpc.resolve_left ((wfL_sleeps_own_cv hw ht).1 nofun)
    split
    · rename_i hp; exact putBody_crit l d _ rest v ht rfl hp
    · rename_i hp; exact stayF v rest (Or.inl ht) hF hp
  · rename_i v rest ht
    have hF := hpc.resolve_left ((wfL_sleeps_own_cv hw ht).1 nofun)
    split
    · rename_i hp; exact putBody_crit l d _ rest v ht rfl hp
    · rename_i hp
      split
      · exact .ret _ (fun c _ _ => putContrib_false c) rfl (fun h => by rw [hF] at h; cases h)
          (fun _ _ => (predNF_false (Bool.eq_false_iff.mpr hp)).1)
      · exact stayF v rest (Or.inr ht) hF hp
  · rename_i rest ht
    have hF := (wfL_sleeps_own_cv hw ht).2 rfl
    split
    · exact takeBody_crit l d _ rest ht rfl hF
    · rename_i hp; exact stayE rest (Or.inl ht) (hpc.resolve_right hF) hp
  · rename_i rest ht
    have hF := (wfL_sleeps_own_cv hw ht).2 rfl
    split
    · exact takeBody_crit l d _ rest ht rfl hF
    · rename_i hp
      split
      · exact .ret _ (fun c _ _ => putContrib_nonbool c _ nofun) rfl
          (fun _ _ => (predNE_false (Bool.eq_false_iff.mpr hp)).1) (fun h => absurd h hF)
      · exact stayE rest (Or.inr ht) (hpc.resolve_right hF) hp
  · rename_i h1 h2 h3 h4
    rcases hpc with hpc | hpc
    · obtain ⟨r, h | h⟩ := hw.2.1 hpc
      · exact absurd h (h3 r)
      · exact absurd h (h4 r)
    · obtain ⟨v, r, h | h⟩ := hw.2.2 hpc
      · exact absurd h (h1 v r)
      · exact absurd h (h2 v r)

theorem after_crit (l : Loc) (d : Data) (late : Bool) (hw : wfL l) (hpc : l.pc = .enter ∨ l.pc = .sleepNE ∨ l.pc = .sleepNF) :
    Crit l d (after true l d late).1 (after true l d late).2 := by
  unfold after
  rcases hpc with hp | hp | hp <;> rw [hp] <;> simp only
  · exact entered_crit l d hp (hw.1 hp)
  · exact rewoken_crit l d late hw (Or.inl hp)
  · exact rewoken_crit l d late hw (Or.inr hp)

/-- where a READY thread holds `_mutex`: from the end of a critical section to its `unlock`, and at `sleepNE`/`sleepNF`, where
it is about to call `wait` (which releases the mutex) -/
def isHoldingPc : Pc → Bool
  | .sleepNF => true
  | .sleepNE => true
  | .unlockRet _ => true
  | .unlockNotify _ _ => true
  | .closeUnlock => true
  | _ => false

theorem op_wait {l : Loc} {cv : CvId} {m : MutexId} {timed : Bool} (h : op l = .wait cv m timed) :
    m = M ∧ ((cv = NE ∧ l.pc = .sleepNE) ∨ (cv = NF ∧ l.pc = .sleepNF)) := by
  unfold op at h
  cases hp : l.pc <;> rw [hp] at h <;> simp at h
  · exact ⟨h.2.1.symm, Or.inr ⟨h.1.symm, rfl⟩⟩
  · exact ⟨h.2.1.symm, Or.inl ⟨h.1.symm, rfl⟩⟩

theorem op_lock {l : Loc} {m : MutexId} (h : op l = .lock m) : l.pc = .enter ∧ m = M := by
  unfold op at h
  cases hp : l.pc <;> rw [hp] at h <;> simp at h
  exact ⟨rfl, h.symm⟩

theorem op_done {l : Loc} (h : op l = .done) : l.pc = .finished := by
  unfold op at h
  cases hp : l.pc <;> rw [hp] at h <;> simp at h

theorem op_unlock {l : Loc} {m : MutexId} (h : op l = .unlock m) : m = M ∧ isHoldingPc l.pc = true := by
  obtain ⟨me, todo, pc, rets⟩ := l
  cases pc <;> first | exact ⟨(Op.unlock.inj h).symm, rfl⟩ | cases h

/-- local states between two critical sections: nothing held, nothing awaited -/
def Passive (l : Loc) : Prop :=
  (l.pc = .enter ∧ l.todo ≠ []) ∨ l.pc = .finished ∨ l.pc = .closeNotifyNE ∨ l.pc = .closeNotifyNF ∨ ∃ cv r, l.pc = .notify cv r

theorem passive_wfL {l : Loc} (h : Passive l) :
    wfL l ∧ isHoldingPc l.pc = false ∧ ∀ cv m' timed, op l ≠ .wait cv m' timed := by
  obtain ⟨me, todo, pc, rets⟩ := l
  rcases h with ⟨h, h2⟩ | h | h | h | ⟨cv, r, h⟩ <;> dsimp only at h <;> subst h
  · exact ⟨⟨fun _ => h2, nofun, nofun⟩, rfl, nofun⟩
  all_goals exact ⟨⟨nofun, nofun, nofun⟩, rfl, nofun⟩

/-- operations after which the thread runs on without having acquired anything -/
def nonAcquiring : Op → Bool
  | .lock _ | .wait _ _ _ | .done => false
  | _ => true

theorem after_passive (l : Loc) (d : Data) (late : Bool)
    (hna : nonAcquiring (op l) = true) :
    (after true l d late).2 = d ∧ Passive (after true l d late).1 := by
  have idle : ∀ l' : Loc, ((l'.pc = .enter ∧ l'.todo ≠ []) ∨ l'.pc = .finished) → Passive l' := by
    rintro l' (h | h)
    · exact Or.inl h
    · exact Or.inr (Or.inl h)
  -- with the pc a constructor, `op` and `after` evaluate
  obtain ⟨me, todo, pc, rets⟩ := l
  cases pc
  case start => exact ⟨begin_data _ _ _, idle _ (begin_pc _ _ _)⟩
  case unlockRet r => exact ⟨ret_data _ _ _, idle _ (ret_pc _ _ _)⟩
  case unlockNotify c r => exact ⟨rfl, Or.inr (Or.inr (Or.inr (Or.inr ⟨c, r, rfl⟩)))⟩
  case notify c r => exact ⟨ret_data _ _ _, idle _ (ret_pc _ _ _)⟩
  case closeUnlock => exact ⟨rfl, Or.inr (Or.inr (Or.inl rfl))⟩
  case closeNotifyNE => exact ⟨rfl, Or.inr (Or.inr (Or.inr (Or.inl rfl)))⟩
  case closeNotifyNF => exact ⟨ret_data _ _ _, idle _ (ret_pc _ _ _)⟩
  all_goals cases hna

theorem after_finished {l : Loc} (h : l.pc = .finished) (d : Data) (late : Bool) : after true l d late = (l, d) := by
  simp [after, h]

/-- every local state is about to take a step of `after_passive`, or one of `after_crit`, or is finished (`after_finished`) -/
theorem pc_class (l : Loc) :
    nonAcquiring (op l) = true ∨ (l.pc = .enter ∨ l.pc = .sleepNE ∨ l.pc = .sleepNF) ∨ l.pc = .finished := by
  obtain ⟨me, todo, pc, rets⟩ := l
  cases pc <;> simp [op, nonAcquiring]

end Iora.BQ
