import IoraModel.Lemmas.WsServer
import IoraModel.Lemmas.WsFraming
/-! The server side of W3/W4 (vocabulary shared with the client: `Lemmas/WsFraming.lean`): the parse loop as greedy framing
followed by the handler folded over the frames (`interp`), hence the reads as that fold over a prefix of what the generic `feed`
yields (all of it unless the session has ended: `run_feed`), for arbitrary bytes; then, on streams of valid frames, segmentation
independence of events (`LiveUntilLast`) and of delivered messages (`msgs`), reassembly, message-level exactness. -/
namespace Iora.Ws
open Iora Iora.Framing

/-- what the server does with one parse outcome (one iteration of the `onUpgradedData` loop) -/
def interp1 (max : Nat) (cb : Cbs) (s : Sess) : PRes → Sess × List Ev
  | .frame f _ => handleFrame max cb s f
  | .protocolError => failSession cb s 1002 (str "Protocol error")
  | .tooLarge => failSession cb s 1009 (str "Message Too Big")
  | .incomplete => (s, [])

def interp (max : Nat) (cb : Cbs) : Sess → List PRes → Sess × List Ev
  | s, [] => (s, [])
  | s, r :: rs =>
    let (s1, e1) := interp1 max cb s r
    let (s2, e2) := interp max cb s1 rs
    (s2, e1 ++ e2)

/-- The second conjunct goes through the same induction: the framer ends `dead` only behind a fatal answer, which the handler
answers by ending the session. `run_feed` needs it to rule out a live session whose buffer is gone. -/
theorem loop_eq_interp (max : Nat) (cb : Cbs) : ∀ (fuel : Nat) (s : Sess) (d : Bytes),
    loop max cb fuel s d =
      ((interp max cb s (drainF (wsStable max) fuel d).1).1, (interp max cb s (drainF (wsStable max) fuel d).1).2,
        carryOpt (drainF (wsStable max) fuel d).2) ∧
    ((drainF (wsStable max) fuel d).2 = .dead → (interp max cb s (drainF (wsStable max) fuel d).1).1.alive = false) := by
  intro fuel
  induction fuel with
  | zero => intro s d; simp [loop, drainF, interp, carryOpt]
  | succ fuel ih =>
    intro s d
    unfold loop drainF
    by_cases he : d.isEmpty = true
    · have : d = [] := by simpa using he
      subst this
      simp [wsStable, pws, parse, interp, carryOpt]
    · simp only [he, Bool.false_eq_true, ↓reduceIte]
      simp only [wsStable, pws]
      cases hp : parse max d with
      | incomplete => simp [interp, carryOpt]
      | protocolError => simp [interp, interp1, carryOpt]
      | tooLarge => simp [interp, interp1, carryOpt]
      | frame f n =>
        simp only
        obtain ⟨i1, i2⟩ := ih (handleFrame max cb s f).1 (d.drop n)
        simp only [wsStable] at i1 i2
        rw [i1]
        exact ⟨by simp [interp, interp1], by simpa [interp, interp1] using i2⟩

theorem interp_append (max : Nat) (cb : Cbs) : ∀ (a b : List PRes) (s : Sess),
    interp max cb s (a ++ b) =
      ((interp max cb (interp max cb s a).1 b).1, (interp max cb s a).2 ++ (interp max cb (interp max cb s a).1 b).2) := by
  intro a
  induction a with
  | nil => intro b s; simp [interp]
  | cons r rs ih => intro b s; simp [interp, ih, List.append_assoc]

theorem interp_buffer (max : Nat) (cb : Cbs) : ∀ (rs : List PRes) (s : Sess), s.buffer = [] →
    (interp max cb s rs).1.buffer = [] := by
  intro rs
  induction rs with
  | nil => intro s h; exact h
  | cons r rs ih =>
    intro s h
    simp only [interp]
    refine ih _ ?_
    cases r with
    | frame f n => exact handleFrame_buffer max cb s f h
    | _ => first | rfl | exact h

theorem run_dead (max : Nat) (cb : Cbs) : ∀ (ss : List Bytes) (s : Sess), s.alive = false →
    run max cb s (ss.map AppOp.data) = (s, []) := by
  intro ss
  induction ss with
  | nil => intro s _; rfl
  | cons x xs ih =>
    intro s h
    simp only [List.map_cons, run, step, onData, h, Bool.not_false, ↓reduceIte]
    rw [ih s h]; rfl

/-- only the LAST frame of the stream may end the session (the peer's CLOSE, or the fragment that makes a message
exceed the limit): every frame is handled by a session that still exists -/
def LiveUntilLast (max : Nat) (cb : Cbs) (s : Sess) (fs : List Frame) : Prop :=
  ∀ pre f post, fs = pre ++ f :: post → post ≠ [] → (interp max cb s ((pre ++ [f]).map toP)).1.alive = true

/-- For arbitrary bytes: `rsA` is what the reads process of the framer's output, `rsB` what is framed after the session has
ended and is ignored. Nothing about the parser is used: `feed` is unfolded next to `run`. -/
theorem run_feed (max : Nat) (cb : Cbs) : ∀ (ss : List Bytes) (s : Sess), s.alive = true →
    ∃ rsA rsB, (feed (wsStable max) (.alive s.buffer) ss).1 = rsA ++ rsB ∧
      (run max cb s (ss.map AppOp.data)).2 = (interp max cb { s with buffer := [] } rsA).2 ∧
      (rsB = [] ∨ (interp max cb { s with buffer := [] } rsA).1.alive = false) := by
  intro ss
  induction ss with
  | nil => intro s _; exact ⟨[], [], rfl, rfl, .inl rfl⟩
  | cons seg ss ih =>
    intro s ha
    have hna : ¬ (!s.alive) = true := by rw [ha]; decide
    have hd : drain (wsStable max) (s.buffer ++ seg) = drainF (wsStable max) ((s.buffer ++ seg).length + 1) (s.buffer ++ seg) := rfl
    obtain ⟨hL, hdead⟩ := loop_eq_interp max cb ((s.buffer ++ seg).length + 1) { s with buffer := [] } (s.buffer ++ seg)
    rw [← hd] at hL hdead
    have hbuf := interp_buffer max cb (drain (wsStable max) (s.buffer ++ seg)).1 { s with buffer := [] } rfl
    simp only [List.map_cons, run, step, onData, if_neg hna, hL, feed, resume]
    generalize drain (wsStable max) (s.buffer ++ seg) = D at hdead hbuf ⊢
    obtain ⟨rs1, c⟩ := D
    generalize hI : interp max cb { s with buffer := [] } rs1 = I at hdead hbuf ⊢
    obtain ⟨s1, ev1⟩ := I
    by_cases ha1 : s1.alive = true
    · cases c with
      | dead => exact absurd (hdead rfl) (by rw [ha1]; decide)
      | alive rest =>
        simp only [carryOpt, if_pos ha1]
        obtain ⟨rsA, rsB, g1, g2, g3⟩ := ih { s1 with buffer := rest } ha1
        -- the fold left the emptied read buffer alone (`hbuf`), so emptying it again gives `s1` back: the next read goes on
        -- from the session the fold ended in, with the framer's carry as its buffer
        have hs1 : ({ { s1 with buffer := rest } with buffer := [] } : Sess) = s1 := by
          obtain ⟨al, bf, fb, fo, cs⟩ := s1
          simp only at hbuf
          simp [hbuf]
        rw [hs1] at g2 g3
        refine ⟨rs1 ++ rsA, rsB, by rw [g1, List.append_assoc], ?_, ?_⟩
        · rw [interp_append, hI]; simp only; rw [g2]
        · rw [interp_append, hI]; exact g3
    · -- the session ended in this read: the later reads are ignored, whatever is framed of them
      have ha1' : s1.alive = false := by simpa using ha1
      refine ⟨rs1, (feed (wsStable max) c ss).1, rfl, ?_, .inr (by rw [hI]; exact ha1')⟩
      cases c <;> simp only [carryOpt, ha1', Bool.false_eq_true, ↓reduceIte] <;> rw [run_dead max cb ss _ ha1', hI] <;> simp

theorem run_data_split (max : Nat) (cb : Cbs) (ss : List Bytes) (s : Sess) (fs : List Frame)
    (hv : ValidFrames max fs) (ha : s.alive = true) (hb : s.buffer ++ ss.flatten = stream fs)
    (hinc : parse max s.buffer = .incomplete) :
    ∃ fsA fsB, fs = fsA ++ fsB ∧
      (run max cb s (ss.map AppOp.data)).2 = (interp max cb { s with buffer := [] } (fsA.map toP)).2 ∧
      (fsB = [] ∨ (interp max cb { s with buffer := [] } (fsA.map toP)).1.alive = false) := by
  obtain ⟨rsA, rsB, g1, g2, g3⟩ := run_feed max cb ss s ha
  rw [feed_stream max fs hv ss s.buffer hb hinc] at g1
  obtain ⟨fsA, fsB, rfl, rfl, rfl⟩ := List.map_eq_append_iff.mp g1
  exact ⟨fsA, fsB, rfl, g2, g3.imp_left List.map_eq_nil_iff.mp⟩

/-- W3 for the server. `LiveUntilLast` rules out the one way in which the reads and the fold differ: frames that arrive in a
later read than the one in which the session ended (`fsB` of `run_data_split`) are ignored by the reads and handled by the fold. -/
theorem run_data_eq (max : Nat) (cb : Cbs) (ss : List Bytes) (s : Sess) (fs : List Frame)
    (hv : ValidFrames max fs) (hl : LiveUntilLast max cb { s with buffer := [] } fs) (ha : s.alive = true)
    (hb : s.buffer ++ ss.flatten = stream fs) (hinc : parse max s.buffer = .incomplete) :
    (run max cb s (ss.map AppOp.data)).2 = (interp max cb { s with buffer := [] } (fs.map toP)).2 := by
  obtain ⟨fsA, fsB, g1, g2, g3⟩ := run_data_split max cb ss s fs hv ha hb hinc
  rcases g3 with g3 | g3
  · subst g3; rw [g2, g1]; simp
  · -- the session ended inside `fsA`; by hypothesis that can only be at the very last frame
    by_cases hB : fsB = []
    · subst hB; rw [g2, g1]; simp
    · exfalso
      have hA : fsA ≠ [] := by
        intro h; subst h
        simp [interp, ha] at g3
      obtain ⟨pre, f, rfl⟩ : ∃ pre f, fsA = pre ++ [f] := ⟨fsA.dropLast, fsA.getLast hA, (List.dropLast_concat_getLast hA).symm⟩
      have := hl pre f fsB (by rw [g1]; simp) hB
      rw [this] at g3; cases g3

/-- size of the fragment buffer after the locked part of `handleDataFrame` -/
def accLen (cur : Nat) (f : Frame) : Nat :=
  if f.opcode = 1 || f.opcode = 2 then f.payload.length else if f.opcode = 0 then cur + f.payload.length else cur

def isDataOp (f : Frame) : Bool := f.opcode = 0 || f.opcode = 1 || f.opcode = 2

/-- every message of the stream, complete or not, stays within `max` while it is being reassembled
(`cur` = bytes of the current message already received) -/
def fitsFrom (max : Nat) : Nat → List Frame → Bool
  | _, [] => true
  | cur, f :: r => decide (accLen cur f ≤ max) && fitsFrom max (if isDataOp f && f.fin then 0 else accLen cur f) r

theorem accumulate_len (s : Sess) (f : Frame) : (accumulate s f).fragBuf.length = accLen s.fragBuf.length f := by
  unfold accumulate accLen
  split
  · rfl
  · split <;> simp

theorem accumulate_nondata (s : Sess) (f : Frame) (h : isDataOp f = false) : accumulate s f = s := by
  unfold accumulate
  unfold isDataOp at h
  simp only [Bool.or_eq_false_iff, decide_eq_false_iff_not] at h
  simp [h.1.2, h.2, h.1.1]

theorem handleFrame_live (max : Nat) (cb : Cbs) (s : Sess) (f : Frame) (ha : s.alive = true) (h8 : f.opcode ≠ 8)
    (hfit : accLen s.fragBuf.length f ≤ max) :
    (handleFrame max cb s f).1.alive = true ∧
    (handleFrame max cb s f).1.fragBuf.length = (if isDataOp f && f.fin then 0 else accLen s.fragBuf.length f) := by
  have hdo : ((f.opcode = 1 ∨ f.opcode = 2) ∨ f.opcode = 0) ↔ isDataOp f = true := by
    unfold isDataOp
    simp only [Bool.or_eq_true, decide_eq_true_eq]
    omega
  -- a frame that is not a data frame leaves the fragment buffer alone
  have hnd : ¬ ((f.opcode = 1 ∨ f.opcode = 2) ∨ f.opcode = 0) →
      (if isDataOp f && f.fin then 0 else accLen s.fragBuf.length f) = s.fragBuf.length := by
    intro h
    have hf : isDataOp f = false := Bool.eq_false_iff.mpr (fun h' => h (hdo.mpr h'))
    rw [hf, Bool.false_and, if_neg Bool.false_ne_true, ← accumulate_len, accumulate_nondata s f hf]
  refine handleFrame_cases (motive := fun r => r.1.alive = true ∧
    r.1.fragBuf.length = (if isDataOp f && f.fin then 0 else accLen s.fragBuf.length f)) max cb s f ?_ ?_ ?_ ?_ ?_
  · intro hd
    rw [hdo.mp hd, Bool.true_and]
    refine handleDataFrame_cases (motive := fun r => r.1.alive = true ∧
      r.1.fragBuf.length = (if f.fin then 0 else accLen s.fragBuf.length f)) max cb s f ?_ ?_ ?_ ?_
    · intro hdead; rw [ha] at hdead; cases hdead
    · intro _ hbig; rw [accumulate_len] at hbig; omega
    · intro _ _ hfin
      have hd := deliver_same cb { accumulate s f with fragBuf := [], fragOp := 0 } (accumulate s f).fragOp (accumulate s f).fragBuf
      rw [hfin]
      exact ⟨hd.alive.trans ((accumulate_alive s f).trans ha), by rw [hd.fragBuf]; rfl⟩
    · intro _ _ hfin
      rw [hfin]
      exact ⟨(accumulate_alive s f).trans ha, accumulate_len s f⟩
  · intro h9; exact ⟨ha, (hnd (by omega)).symm⟩
  · intro h10; exact ⟨ha, (hnd (by omega)).symm⟩
  · intro h; exact absurd h h8
  · intro hd _ _ _
    have hf := fire_same (sendClose s 1002 (str "Unsupported opcode")).1 .onError cb.onError
    exact ⟨hf.alive.trans ha, by rw [hf.fragBuf, hnd hd]; rfl⟩

theorem liveUntilLast_of_fits (max : Nat) (cb : Cbs) : ∀ (fs : List Frame) (s : Sess), s.alive = true →
    CloseOnlyLast fs → fitsFrom max s.fragBuf.length fs = true → LiveUntilLast max cb s fs := by
  intro fs
  induction fs with
  | nil => intro s _ _ _ pre f post he; simp at he
  | cons f r ih =>
    intro s ha hcl hfit pre f' post he hpost
    simp only [fitsFrom, Bool.and_eq_true, decide_eq_true_eq] at hfit
    obtain ⟨hfit1, hfit2⟩ := hfit
    have hrne : r ≠ [] := by
      cases pre with
      | nil => simp at he; rw [he.2]; exact hpost
      | cons p pre' => simp at he; rw [he.2]; simp
    have h8 : f.opcode ≠ 8 := fun h => hrne (hcl [] f r rfl h)
    obtain ⟨l1, l2⟩ := handleFrame_live max cb s f ha h8 hfit1
    cases pre with
    | nil =>
      simp only [List.nil_append, List.cons.injEq] at he
      obtain ⟨rfl, _⟩ := he
      simpa [interp, interp1, toP] using l1
    | cons p pre' =>
      simp only [List.cons_append, List.cons.injEq] at he
      obtain ⟨rfl, he2⟩ := he
      have := ih (handleFrame max cb s f).1 l1 (fun pre f' post he h8 => hcl (f :: pre) f' post (by rw [he]; rfl) h8) (by rw [l2]; simpa [Bool.and_eq_true] using hfit2) pre' f' post he2 hpost
      simpa [interp, interp1, toP] using this

def isDelivery : Ev → Bool
  | .text _ => true
  | .binary _ => true
  | _ => false

/-- the messages handed to the application, in order -/
def msgs (evs : List Ev) : List Ev := evs.filter isDelivery

@[simp] theorem msgs_nil : msgs [] = [] := rfl
@[simp] theorem msgs_append (a b : List Ev) : msgs (a ++ b) = msgs a ++ msgs b := by simp [msgs]

theorem sendStep_msgs (s : Sess) (a : Send) : msgs (sendStep s a).2 = [] := by
  have hsend : ∀ op pl, msgs (appSend s op pl).2 = [] := by
    intro op pl; unfold appSend; split <;> rfl
  cases a with
  | text bs => exact hsend 1 bs
  | binary bs => exact hsend 2 bs
  | ping bs =>
    show msgs (sendPing s bs).2 = []
    unfold sendPing; split
    · rfl
    · exact hsend 9 bs
  | close c r => rfl

theorem runSends_msgs : ∀ (as : List Send) (s : Sess), msgs (runSends s as).2 = [] := by
  intro as
  induction as with
  | nil => intro s; rfl
  | cons a as ih => intro s; simp [runSends, sendStep_msgs, ih]

theorem fire_msgs (s : Sess) (e : Ev) (sc : List Send) : msgs (fire s e sc).2 = msgs [e] := by
  simp only [fire]
  have : e :: (runSends s sc).2 = [e] ++ (runSends s sc).2 := rfl
  rw [this, msgs_append, runSends_msgs]; simp

@[simp] theorem sendClose_msgs (s : Sess) (c : Nat) (r : Bytes) : msgs (sendClose s c r).2 = [] := by
  simp [sendClose, msgs, isDelivery]

theorem failSession_msgs (cb : Cbs) (s : Sess) (c : Nat) (r : Bytes) : msgs (failSession cb s c r).2 = [] := by
  simp only [failSession, msgs_append, sendClose_msgs, fire_msgs]
  simp [msgs, isDelivery]

theorem handleFrame_dead (max : Nat) (cb : Cbs) (s : Sess) (f : Frame) (ha : s.alive = false) :
    (handleFrame max cb s f).1.alive = false ∧ msgs (handleFrame max cb s f).2 = [] := by
  refine handleFrame_cases (motive := fun r => r.1.alive = false ∧ msgs r.2 = []) max cb s f ?_ ?_ ?_ ?_ ?_
  · intro _
    refine handleDataFrame_cases (motive := fun r => r.1.alive = false ∧ msgs r.2 = []) max cb s f ?_ ?_ ?_ ?_
    · intro _; exact ⟨ha, rfl⟩
    all_goals intro h; rw [ha] at h; cases h
  · intro _; exact ⟨ha, rfl⟩
  · intro _; exact ⟨ha, rfl⟩
  · intro _ code reason
    refine ⟨rfl, ?_⟩
    rw [ha, Bool.false_and, if_neg Bool.false_ne_true, msgs_append, msgs_append, fire_msgs]
    rfl
  · intro _ _ _ _
    refine ⟨(fire_same (sendClose s 1002 (str "Unsupported opcode")).1 .onError cb.onError).alive.trans ha, ?_⟩
    rw [msgs_append, sendClose_msgs, fire_msgs]
    rfl

theorem interp_dead (max : Nat) (cb : Cbs) : ∀ (fs : List Frame) (s : Sess), s.alive = false →
    msgs (interp max cb s (fs.map toP)).2 = [] := by
  intro fs
  induction fs with
  | nil => intro s _; rfl
  | cons f fs ih =>
    intro s ha
    obtain ⟨h1, h2⟩ := handleFrame_dead max cb s f ha
    simp only [List.map_cons, interp, toP, interp1, msgs_append, h2, List.nil_append]
    exact ih _ h1

/-- No assumption on where the peer's CLOSE is or on message sizes: frames that follow the end of the session deliver nothing
(`interp_dead`), in the same read or later. -/
theorem run_msgs_eq (max : Nat) (cb : Cbs) (ss : List Bytes) (s : Sess) (fs : List Frame)
    (hv : ValidFrames max fs) (ha : s.alive = true) (hb : s.buffer ++ ss.flatten = stream fs)
    (hinc : parse max s.buffer = .incomplete) :
    msgs (run max cb s (ss.map AppOp.data)).2 = msgs (interp max cb { s with buffer := [] } (fs.map toP)).2 := by
  obtain ⟨fsA, fsB, g1, g2, g3⟩ := run_data_split max cb ss s fs hv ha hb hinc
  rw [g2, g1, List.map_append, interp_append]
  simp only [msgs_append]
  rcases g3 with g3 | g3
  · subst g3; simp [interp]
  · rw [interp_dead max cb fsB _ g3]; simp

/-- the pongs owed for the pings among some frames, in order -/
def pongsOf : List Frame → List Ev
  | [] => []
  | c :: cs => (if c.opcode = 9 then [Ev.sent (serialize (mkFrame 10 true c.payload))] else []) ++ pongsOf cs

/-- the session once the message has been taken out of the fragment buffer -/
def cleared (s : Sess) : Sess := { s with fragBuf := [], fragOp := 0 }

theorem handleFrame_cont (max : Nat) (cb : Cbs) (s : Sess) (f : Frame) (ha : s.alive = true) (h0 : f.opcode = 0)
    (hl : (s.fragBuf ++ f.payload).length ≤ max) :
    handleFrame max cb s f =
      if f.fin then deliver cb (cleared s) s.fragOp (s.fragBuf ++ f.payload)
      else ({ s with fragBuf := s.fragBuf ++ f.payload }, []) := by
  have hgt : ¬ max < s.fragBuf.length + f.payload.length := by simp at hl; omega
  simp [handleFrame, handleDataFrame, accumulate, h0, ha, hgt, cleared]

theorem handleFrame_start (max : Nat) (cb : Cbs) (s : Sess) (f : Frame) (ha : s.alive = true)
    (hop : f.opcode = 1 ∨ f.opcode = 2) (hl : f.payload.length ≤ max) :
    handleFrame max cb s f =
      if f.fin then deliver cb (cleared s) f.opcode f.payload
      else ({ s with fragOp := f.opcode, fragBuf := f.payload }, []) := by
  have hgt : ¬ max < f.payload.length := by omega
  rcases hop with h | h <;> simp [handleFrame, handleDataFrame, accumulate, h, ha, hgt, cleared]

theorem handleFrame_ping (max : Nat) (cb : Cbs) (s : Sess) (f : Frame) (h : f.opcode = 9) :
    handleFrame max cb s f = (s, [.sent (serialize (mkFrame 10 true f.payload))]) := by
  simp [handleFrame, h]

theorem handleFrame_pong (max : Nat) (cb : Cbs) (s : Sess) (f : Frame) (h : f.opcode = 10) :
    handleFrame max cb s f = (s, []) := by
  simp [handleFrame, h]

theorem pongsOf_msgs : ∀ cs : List Frame, msgs (pongsOf cs) = []
  | [] => rfl
  | c :: cs => by simp only [pongsOf, msgs_append, pongsOf_msgs cs, List.append_nil]; split <;> simp [msgs, isDelivery]

theorem reassembly_tail (max : Nat) (cb : Cbs) :
    ∀ (fs : List Frame) (acc : Bytes), Tail acc fs → ∀ (s : Sess), s.alive = true →
      (s.fragBuf ++ acc).length ≤ max →
      interp max cb s (fs.map toP) =
        ((deliver cb (cleared s) s.fragOp (s.fragBuf ++ acc)).1,
         pongsOf fs ++ (deliver cb (cleared s) s.fragOp (s.fragBuf ++ acc)).2) := by
  intro fs acc ht
  induction ht with
  | last f h0 hfin =>
    intro s ha hlen
    simp [interp, interp1, toP, handleFrame_cont max cb s f ha h0 hlen, hfin, pongsOf, h0]
  | cont f acc rest h0 hfin _ ih =>
    intro s ha hlen
    have hlen' : (s.fragBuf ++ f.payload).length ≤ max := by simp at hlen ⊢; omega
    have := ih { s with fragBuf := s.fragBuf ++ f.payload } ha (by simpa [List.append_assoc] using hlen)
    simp only [List.map_cons, interp, toP, interp1, handleFrame_cont max cb s f ha h0 hlen', hfin]
    simp [this, pongsOf, h0, cleared, List.append_assoc]
  | ctl c acc rest hc _ ih =>
    intro s ha hlen
    have := ih s ha hlen
    rcases hc with hc | hc
    · simp only [List.map_cons, interp, toP, interp1, handleFrame_ping max cb s c hc, hc, pongsOf]
      simp [this]
    · simp only [List.map_cons, interp, toP, interp1, handleFrame_pong max cb s c hc, hc, pongsOf]
      simp [this]

/-- what the application must see for a message: a binary message as it is, a text message iff it is valid UTF-8 -/
def deliveryOf : Nat × Bytes → Option Ev
  | (op, pl) => if op = 1 then (if isValidUtf8 pl then some (.text pl) else none) else some (.binary pl)

theorem deliver_msgs (cb : Cbs) (s : Sess) (op : Nat) (pl : Bytes) (hop : op = 1 ∨ op = 2) :
    msgs (deliver cb s op pl).2 = (deliveryOf (op, pl)).toList := by
  unfold deliver deliveryOf
  rcases hop with h | h <;> subst h
  · by_cases hu : isValidUtf8 pl = true
    · simp only [hu, Bool.not_true, Bool.false_eq_true, ↓reduceIte, fire_msgs]
      simp [msgs, isDelivery]
    · simp [hu]
  · simp only [show ¬ (2 : Nat) = 1 by omega, ↓reduceIte, fire_msgs]
    simp [msgs, isDelivery]

/-- `s` may be in any state of reassembly: the first fragment overwrites the fragment buffer. -/
theorem isMsg_exact (max : Nat) (cb : Cbs) (op : Nat) (pl : Bytes) (fsm : List Frame) (hm : IsMsg op pl fsm)
    (hfit : pl.length ≤ max) (s : Sess) (ha : s.alive = true) :
    msgs (interp max cb s (fsm.map toP)).2 = (deliveryOf (op, pl)).toList ∧
    (interp max cb s (fsm.map toP)).1.alive = true := by
  cases hm with
  | single f hop hfin =>
    simp only [List.map_cons, List.map_nil, interp, toP, interp1, handleFrame_start max cb s f ha hop hfit, hfin, ↓reduceIte,
      List.append_nil]
    exact ⟨deliver_msgs cb _ _ _ hop, (deliver_same cb (cleared s) f.opcode f.payload).alive.trans ha⟩
  | frag f acc rest hop hfin ht =>
    have hfl : f.payload.length ≤ max := by simp at hfit; omega
    have hr := reassembly_tail max cb rest acc ht { s with fragOp := f.opcode, fragBuf := f.payload } ha hfit
    simp only [List.map_cons, interp, toP, interp1, handleFrame_start max cb s f ha hop hfl, hfin, Bool.false_eq_true,
      ↓reduceIte, List.nil_append]
    rw [hr]
    have hc : cleared { s with fragOp := f.opcode, fragBuf := f.payload } = cleared s := rfl
    simp only [hc]
    refine ⟨?_, (deliver_same cb (cleared s) f.opcode (f.payload ++ acc)).alive.trans ha⟩
    rw [msgs_append, deliver_msgs cb _ _ _ hop, pongsOf_msgs]; rfl

theorem handleFrame_close_msgs (max : Nat) (cb : Cbs) (s : Sess) (f : Frame) (h : f.opcode = 8) :
    msgs (handleFrame max cb s f).2 = [] := by
  refine handleFrame_cases (motive := fun r => msgs r.2 = []) max cb s f ?_ ?_ ?_ ?_ ?_
  · intro hd; omega
  · intro h9; omega
  · intro h10; omega
  · intro _ code reason
    simp only [msgs_append, fire_msgs]
    split <;> simp [msgs, isDelivery]
  · intro _ _ _ h8; exact absurd h h8

theorem msgs_exact (max : Nat) (cb : Cbs) : ∀ (ms : List (Nat × Bytes)) (fs : List Frame), Msgs ms fs →
    (∀ m ∈ ms, m.2.length ≤ max) → ∀ (s : Sess), s.alive = true →
    msgs (interp max cb s (fs.map toP)).2 = ms.filterMap deliveryOf := by
  intro ms fs h
  induction h with
  | nil => intro _ s _; rfl
  | close c h8 =>
    intro _ s ha
    simp only [List.map_cons, List.map_nil, interp, toP, interp1, List.append_nil]
    exact handleFrame_close_msgs max cb s c h8
  | ctl c ms fs hc _ ih =>
    intro hfit s ha
    have := ih hfit s ha
    rcases hc with hc | hc
    · simp only [List.map_cons, interp, toP, interp1, handleFrame_ping max cb s c hc, msgs_append, this]
      simp [msgs, isDelivery]
    · simp only [List.map_cons, interp, toP, interp1, handleFrame_pong max cb s c hc, msgs_append, this]
      simp
  | msg op pl fsm ms fs hm _ ih =>
    intro hfit s ha
    obtain ⟨e1, e2⟩ := isMsg_exact max cb op pl fsm hm (hfit (op, pl) (List.mem_cons_self ..)) s ha
    rw [List.map_append, interp_append]
    simp only [msgs_append, e1]
    rw [ih (fun m hm' => hfit m (List.mem_cons_of_mem _ hm')) _ e2]
    simp only [List.filterMap_cons]
    cases deliveryOf (op, pl) <;> simp

end Iora.Ws
