import IoraModel.Model.RingThrow
import IoraModel.Lemmas.RingBuffer
/-!
Vocabulary for the properties of `Model/RingThrow.lean` (rings whose element assignment may throw): the calls as data, the
strong exception guarantee as a statement (refuted in `Props/C10.lean`) and the ring its counterexample starts from.
-/
namespace Iora.RingT
open Iora.Ring

theorem throwsAt_zero (n : Nat) : throwsAt 0 n = none := by simp [throwsAt]

theorem throwsAt_lt {arm n k : Nat} (h : throwsAt arm n = some k) : k < n := by
  unfold throwsAt at h
  split at h
  · cases h; omega
  · cases h

inductive TOp
  | push (x : Cell) | pop | peek | pushBatch (xs : List Cell) | popBatch (n : Nat) | resize (n : UInt64)
  deriving Repr

def stepT (r : Ring Cell) (arm : Nat) : TOp → Ring Cell × Res
  | .push x => tryPush r arm x
  | .pop => tryPop r arm
  | .peek => peek r arm
  | .pushBatch xs => tryPushBatch r arm xs
  | .popBatch n => tryPopBatch r arm n
  | .resize n => resize r arm n

def isThrow : Res → Bool
  | .threw _ _ => true
  | .ok _ => false

/-- the strong guarantee one would like for the batch consumer and for `resize`: after an exception the ring still
stands for the same FIFO content -/
def strong_guarantee_statement : Prop :=
  ∀ (r : Ring Cell) (arm : Nat) (o : TOp), WF r → isThrow (stepT r arm o).2 = true → abs (stepT r arm o).1 = abs r

/-- a 4-slot ring holding 1,2,3,4 -/
def four : Ring Cell := (Ring.tryPushBatch (mkStatic none 4) [some 1, some 2, some 3, some 4]).2

theorem four_wf : WF four := ⟨⟨2, by decide, by decide⟩, by decide, by decide, by decide⟩

end Iora.RingT
