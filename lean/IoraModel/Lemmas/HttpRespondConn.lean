import IoraModel.Model.HttpRespondConn
/-
The worker pool and the engine's side of a session (C16: O1/O2/O3, O4′).  Every order statement about the pool is an instance of
`stepPool_kept`; what the peer of a session reads is read off `runSock_split`.
-/
namespace Iora.HttpRespond
open Iora

theorem pending_nil : pending [] = [] := rfl
theorem pending_cons (t : Task) (ts : List Task) : pending (t :: ts) = t.tagged ++ pending ts := by
  simp [pending]
theorem pending_append (a b : List Task) : pending (a ++ b) = pending a ++ pending b := by
  simp [pending]

theorem proj_append (sid : Nat) (a b : List (Nat × Cmd)) : proj sid (a ++ b) = proj sid a ++ proj sid b := by
  simp [proj]
theorem proj_tag_same (sid : Nat) (cs : List Cmd) : proj sid (tag sid cs) = cs := by
  induction cs with
  | nil => rfl
  | cons c cs ih => simpa [proj, tag] using ih
theorem proj_tag_ne (sid s : Nat) (cs : List Cmd) (h : s ≠ sid) : proj sid (tag s cs) = [] := by
  simp [proj, tag, h]

theorem markFirstQueued_pending (ts : List Task) : pending (markFirstQueued ts) = pending ts := by
  fun_induction markFirstQueued ts with
  | case1 => rfl
  | case2 t ts h ih => simp [pending_cons, ih]
  | case3 t ts h => simp [pending_cons, Task.tagged]

theorem markFirstQueued_sids (ts : List Task) : (markFirstQueued ts).map (·.sid) = ts.map (·.sid) := by
  fun_induction markFirstQueued ts with
  | case1 => rfl
  | case2 t ts h ih => simp [ih]
  | case3 t ts h => simp

theorem emitAt_cases (ts : List Task) (i : Nat) :
    emitAt ts i = (none, ts) ∨
    ∃ pre t post, ts = pre ++ t :: post ∧ t.running = true ∧
      ((t.cmds = [] ∧ emitAt ts i = (none, pre ++ post)) ∨
       ∃ c r, t.cmds = c :: r ∧
         emitAt ts i = (some (t.sid, c), pre ++ (if r = [] then post else { t with cmds := r } :: post))) := by
  fun_induction emitAt ts i with
  | case1 => exact Or.inl rfl
  | case2 t ts hr => exact Or.inl rfl
  | case3 t ts hr hc => exact Or.inr ⟨[], t, ts, rfl, by simpa using hr, Or.inl ⟨hc, rfl⟩⟩
  | case4 t ts hr c hc => exact Or.inr ⟨[], t, ts, rfl, by simpa using hr, Or.inr ⟨c, [], hc, rfl⟩⟩
  | case5 t ts hr c r hne hc => exact Or.inr ⟨[], t, ts, rfl, by simpa using hr, Or.inr ⟨c, r, hc, by rw [if_neg hne]; rfl⟩⟩
  | case6 t ts i r ih =>
    rcases ih with h | ⟨pre, t', post, rfl, hr, ⟨hc, h⟩ | ⟨c, r', hc, h⟩⟩
    · exact Or.inl (by simp [r, h])
    · exact Or.inr ⟨t :: pre, t', post, rfl, hr, Or.inl ⟨hc, by simp [r, h]⟩⟩
    · exact Or.inr ⟨t :: pre, t', post, rfl, hr, Or.inr ⟨c, r', hc, by simp [r, h]⟩⟩

theorem pending_rest (t : Task) (r : List Cmd) (post : List Task) :
    pending (if r = [] then post else { t with cmds := r } :: post) = tag t.sid r ++ pending post := by
  split
  · simp [*, tag]
  · simp [pending_cons, Task.tagged]

theorem stepPool_arrive_full (P : Params) (p : Pool) (sid : Nat) (data : Bytes) (h : queuedCount p.tasks ≥ P.qcap) :
    stepPool P p (.arrive sid data) =
      { p with log := p.log ++ tag sid (overflowCmds (isHeadRaw data)), ledger := p.ledger ++ tag sid (overflowCmds (isHeadRaw data)) } := by
  simp [stepPool, h]

/-- What one step does to the pool, for every invariant below: an arrival is refused (503 and close logged at once) or queued; a
    pick marks the first queued task or changes nothing; an emit changes nothing, or the running task `t` at that position retires
    without a command, or moves its first command to the log and stays only if it has more. -/
theorem stepPool_cases (P : Params) (p : Pool) (s : Step) (Q : Pool → Prop)
    (full : ∀ sid data, s = .arrive sid data → queuedCount p.tasks ≥ P.qcap →
      Q { p with log := p.log ++ tag sid (overflowCmds (isHeadRaw data)),
                 ledger := p.ledger ++ tag sid (overflowCmds (isHeadRaw data)) })
    (queued : ∀ sid data, s = .arrive sid data → queuedCount p.tasks < P.qcap →
      Q { p with tasks := p.tasks ++ [{ sid := sid, cmds := P.respond sid data }],
                 ledger := p.ledger ++ tag sid (P.respond sid data) })
    (pick : runningCount p.tasks < P.w → Q { p with tasks := markFirstQueued p.tasks })
    (same : Q p)
    (retire : ∀ pre t post, p.tasks = pre ++ t :: post → t.running = true → t.cmds = [] → Q { p with tasks := pre ++ post })
    (issue : ∀ pre t post c r, p.tasks = pre ++ t :: post → t.running = true → t.cmds = c :: r →
      Q { p with tasks := pre ++ (if r = [] then post else { t with cmds := r } :: post), log := p.log ++ [(t.sid, c)] }) :
    Q (stepPool P p s) := by
  cases s with
  | arrive sid data =>
    by_cases hq : queuedCount p.tasks ≥ P.qcap
    · rw [stepPool_arrive_full P p sid data hq]; exact full sid data rfl hq
    · simp only [stepPool, hq, if_false]; exact queued sid data rfl (by omega)
  | pick =>
    by_cases hr : runningCount p.tasks < P.w
    · simp only [stepPool, hr, if_true]; exact pick hr
    · simp only [stepPool, hr, if_false]; exact same
  | emit i =>
    simp only [stepPool]
    rcases emitAt_cases p.tasks i with h | ⟨pre, t, post, hts, hr, ⟨hc, h⟩ | ⟨c, r, hc, h⟩⟩
    · rw [h]; exact same
    · rw [h]; exact retire pre t post hts hr hc
    · rw [h]; exact issue pre t post c r hts hr hc

/-- What every order theorem about the pool is an instance of.  `R` is a congruence for `++` (equality, equality of every session's
    commands, permutation); `log ++ owed` stays `R`-related to the ledger as long as whatever goes into the log — the refused
    arrival's 503-and-close, a running task's next command — commutes, up to `R`, with the commands owed in front of it. -/
theorem stepPool_kept {R : List (Nat × Cmd) → List (Nat × Cmd) → Prop} (refl : ∀ a, R a a)
    (trans : ∀ {a b c}, R a b → R b c → R a c) (app : ∀ {a a' b b'}, R a a' → R b b' → R (a ++ b) (a' ++ b'))
    (P : Params) (p : Pool) (s : Step)
    (hfull : ∀ sid data, s = .arrive sid data → queuedCount p.tasks ≥ P.qcap →
      R (tag sid (overflowCmds (isHeadRaw data)) ++ pending p.tasks) (pending p.tasks ++ tag sid (overflowCmds (isHeadRaw data))))
    (hissue : ∀ pre t post c, p.tasks = pre ++ t :: post → t.running = true →
      R (tag t.sid [c] ++ pending pre) (pending pre ++ tag t.sid [c]))
    (h : R (p.log ++ pending p.tasks) p.ledger) :
    R ((stepPool P p s).log ++ pending (stepPool P p s).tasks) (stepPool P p s).ledger := by
  refine stepPool_cases P p s (fun p' => R (p'.log ++ pending p'.tasks) p'.ledger) ?_ ?_ ?_ h ?_ ?_
  · intro sid data hs hq
    refine trans ?_ (app h (refl _))
    simp only [List.append_assoc]
    exact app (refl _) (hfull sid data hs hq)
  · intro sid data _ _
    simp only [pending_append, pending_cons, pending_nil, Task.tagged, List.append_nil, ← List.append_assoc]
    exact app h (refl _)
  · intro _; rw [markFirstQueued_pending]; exact h
  · intro pre t post hts _ hc
    simpa [hts, pending_append, pending_cons, Task.tagged, hc, tag] using h
  · intro pre t post c r hts hr hc
    rw [hts] at h
    refine trans ?_ h
    simp only [pending_append, pending_cons, pending_rest, Task.tagged, hc, List.append_assoc]
    refine app (refl _) ?_
    simpa [tag, List.append_assoc] using app (hissue pre t post c hts hr) (refl (tag t.sid r ++ pending post))

theorem runPool_perm (P : Params) (p : Pool) (steps : List Step) (h : (p.log ++ pending p.tasks).Perm p.ledger) :
    ((runPool P p steps).log ++ pending (runPool P p steps).tasks).Perm (runPool P p steps).ledger := by
  induction steps generalizing p with
  | nil => exact h
  | cons s rest ih =>
    exact ih _ (stepPool_kept .refl .trans .append P p s (fun _ _ _ _ => List.perm_append_comm) (fun _ _ _ _ _ _ => List.perm_append_comm) h)

def arrivals : List Step → List (Nat × Bytes)
  | [] => []
  | .arrive sid d :: rest => (sid, d) :: arrivals rest
  | _ :: rest => arrivals rest

def TicketOf (P : Params) (a : Nat × Bytes) (t : Nat × List Cmd) : Prop :=
  t.1 = a.1 ∧ (t.2 = P.respond a.1 a.2 ∨ t.2 = overflowCmds (isHeadRaw a.2))

def flattenTickets (ts : List (Nat × List Cmd)) : List (Nat × Cmd) := ts.flatMap (fun t => tag t.1 t.2)

theorem mem_flattenTickets {sid : Nat} {c : Cmd} {ts : List (Nat × List Cmd)} :
    (sid, c) ∈ flattenTickets ts ↔ ∃ t ∈ ts, t.1 = sid ∧ c ∈ t.2 := by
  simp only [flattenTickets, List.mem_flatMap, tag, List.mem_map, Prod.mk.injEq]
  exact ⟨fun ⟨t, ht, _, hc, hs, he⟩ => ⟨t, ht, hs, he ▸ hc⟩, fun ⟨t, ht, hs, hc⟩ => ⟨t, ht, c, hc, hs, rfl⟩⟩

/-- what the ledger is: one ticket per arrived request, in arrival order; the ticket is what `processHttpRequest`
    issues for that request, or the 503-and-close of the overflow path (which of the two only the schedule decides: `ticketsOf`) -/
inductive Tickets (P : Params) : List (Nat × Bytes) → List (Nat × List Cmd) → Prop where
  | nil : Tickets P [] []
  | cons {a t as ts} : TicketOf P a t → Tickets P as ts → Tickets P (a :: as) (t :: ts)

theorem Tickets.all {P : Params} {as : List (Nat × Bytes)} {ts : List (Nat × List Cmd)} (h : Tickets P as ts) {Q : List Cmd → Prop}
    (hr : ∀ sid d, Q (P.respond sid d)) (ho : ∀ head, Q (overflowCmds head)) : ∀ t ∈ ts, Q t.2 := by
  induction h with
  | nil => exact fun _ h => nomatch h
  | cons hd _ ih => exact List.forall_mem_cons.2 ⟨hd.2.elim (fun h => h ▸ hr _ _) (fun h => h ▸ ho _), ih⟩

/-- the ticket of every arrival, by replaying the schedule: the overflow 503 exactly when the task queue was at capacity at that
    arrival, what `processHttpRequest` issues otherwise -/
def ticketsOf (P : Params) : Pool → List Step → List (Nat × List Cmd)
  | _, [] => []
  | p, s :: rest =>
    (match s with
     | .arrive sid d => [(sid, if queuedCount p.tasks ≥ P.qcap then overflowCmds (isHeadRaw d) else P.respond sid d)]
     | _ => []) ++ ticketsOf P (stepPool P p s) rest

theorem runPool_cons (P : Params) (p : Pool) (s : Step) (rest : List Step) :
    runPool P p (s :: rest) = runPool P (stepPool P p s) rest := rfl

theorem runPool_ledger_eq (P : Params) (p : Pool) (steps : List Step) :
    (runPool P p steps).ledger = p.ledger ++ flattenTickets (ticketsOf P p steps) := by
  induction steps generalizing p with
  | nil => simp [runPool, ticketsOf, flattenTickets]
  | cons s rest ih =>
    rw [runPool_cons, ih]
    -- only an arrival appends to the ledger, refused or queued, and `ticketsOf` appends the same ticket
    cases s with
    | arrive sid data => by_cases hq : queuedCount p.tasks ≥ P.qcap <;> simp [stepPool, ticketsOf, flattenTickets, hq]
    | pick => simp only [stepPool, ticketsOf]; split <;> simp
    | emit i => simp only [stepPool, ticketsOf]; split <;> simp

theorem ticketsOf_tickets (P : Params) (p : Pool) (steps : List Step) : Tickets P (arrivals steps) (ticketsOf P p steps) := by
  induction steps generalizing p with
  | nil => exact .nil
  | cons s rest ih =>
    cases s with
    | arrive sid data =>
      simp only [arrivals, ticketsOf, List.singleton_append]
      refine .cons ⟨rfl, ?_⟩ (ih _)
      by_cases hq : queuedCount p.tasks ≥ P.qcap
      · right; simp [hq]
      · left; simp [hq]
    | pick => simpa [arrivals, ticketsOf] using ih (stepPool P p .pick)
    | emit i => simpa [arrivals, ticketsOf] using ih (stepPool P p (.emit i))

theorem runPool_ledger (P : Params) (p : Pool) (steps : List Step) :
    ∃ ts, Tickets P (arrivals steps) ts ∧ (runPool P p steps).ledger = p.ledger ++ flattenTickets ts :=
  ⟨ticketsOf P p steps, ticketsOf_tickets P p steps, runPool_ledger_eq P p steps⟩

theorem ticketsOf_noOverflow (P : Params) (p : Pool) (steps : List Step) (h : NoOverflow P p steps) :
    ticketsOf P p steps = (arrivals steps).map (fun a => (a.1, P.respond a.1 a.2)) := by
  induction steps generalizing p with
  | nil => rfl
  | cons s rest ih =>
    obtain ⟨h1, h2⟩ := h
    cases s with
    | arrive sid data =>
      have hq : ¬ queuedCount p.tasks ≥ P.qcap := by
        have : queuedCount p.tasks < P.qcap := h1
        omega
      simp [ticketsOf, arrivals, hq, ih _ h2]
    | pick => simpa [ticketsOf, arrivals] using ih _ h2
    | emit i => simpa [ticketsOf, arrivals] using ih _ h2

theorem proj_flattenTickets (sid : Nat) (ts : List (Nat × List Cmd)) :
    proj sid (flattenTickets ts) = (ts.filter (fun t => t.1 == sid)).flatMap (fun t => t.2) := by
  induction ts with
  | nil => rfl
  | cons t ts ih =>
    have ih' : proj sid (List.flatMap (fun t => tag t.1 t.2) ts) = _ := ih
    by_cases h : t.1 = sid
    · subst h
      simp [flattenTickets, proj_append, proj_tag_same, ih']
    · have hb : (t.1 == sid) = false := by simpa using h
      simp [flattenTickets, proj_append, proj_tag_ne sid t.1 t.2 h, ih', hb]

theorem proj_ledger (P : Params) (p : Pool) (steps : List Step) (hno : NoOverflow P p steps) (sid : Nat) :
    proj sid (runPool P p steps).ledger =
      proj sid p.ledger ++ ((arrivals steps).filter (fun a => a.1 == sid)).flatMap (fun a => P.respond a.1 a.2) := by
  rw [runPool_ledger_eq, ticketsOf_noOverflow P p steps hno, proj_append, proj_flattenTickets]
  simp [List.filter_map, List.flatMap_map, Function.comp_def]

theorem proj_pending_none (sid : Nat) (ts : List Task) (h : ∀ t ∈ ts, t.sid ≠ sid) : proj sid (pending ts) = [] := by
  induction ts with
  | nil => rfl
  | cons t ts ih =>
    simp [pending_cons, proj_append, Task.tagged, proj_tag_ne sid t.sid _ (h t (by simp)),
      ih (fun x hx => h x (by simp [hx]))]

theorem proj_tag_comm (s' sid : Nat) (cs : List Cmd) (l : List (Nat × Cmd)) (h : proj sid l = []) :
    proj s' (tag sid cs ++ l) = proj s' (l ++ tag sid cs) := by
  rw [proj_append, proj_append]
  by_cases hs : sid = s'
  · rw [← hs, h, List.append_nil, List.nil_append]
  · rw [proj_tag_ne s' sid cs hs, List.append_nil, List.nil_append]

def InOrder (p : Pool) : Prop := ∀ sid, proj sid (p.log ++ pending p.tasks) = proj sid p.ledger

theorem stepPool_inOrder (P : Params) (p : Pool) (s : Step)
    (hone : match s with | .arrive sid _ => ∀ t ∈ p.tasks, t.sid ≠ sid | _ => True)
    (hn : (p.tasks.map (·.sid)).Nodup) (h : InOrder p) :
    ((stepPool P p s).tasks.map (·.sid)).Nodup ∧ InOrder (stepPool P p s) := by
  constructor
  · refine stepPool_cases P p s (fun p' => (p'.tasks.map (·.sid)).Nodup) (fun _ _ _ _ => hn) ?_ ?_ hn ?_ ?_
    · intro sid data hs _
      subst hs
      simp only [List.map_append, List.map_cons, List.map_nil]
      refine List.nodup_append.2 ⟨hn, by simp, ?_⟩
      intro a ha b hb
      obtain ⟨t, ht, rfl⟩ := List.mem_map.1 ha
      rw [List.mem_singleton.1 hb]
      exact hone t ht
    · intro _; simpa [markFirstQueued_sids] using hn
    · intro pre t post hts _ _
      rw [hts] at hn
      exact hn.sublist (by simp)
    · intro pre t post c r hts _ _
      rw [hts] at hn
      exact hn.sublist (by split <;> simp)
  · refine stepPool_kept (R := fun a b => ∀ sid, proj sid a = proj sid b) (fun _ _ => rfl) (fun h1 h2 s' => (h1 s').trans (h2 s'))
      (fun h1 h2 s' => by rw [proj_append, proj_append, h1, h2]) P p s ?_ ?_ h
    · intro sid data hs _ s'
      subst hs
      exact proj_tag_comm s' sid _ _ (proj_pending_none sid _ hone)
    · intro pre t post c hts _ s'
      refine proj_tag_comm s' t.sid _ _ (proj_pending_none _ _ (fun x hx he => ?_))
      rw [hts, List.map_append, List.nodup_append] at hn
      exact hn.2.2 _ (List.mem_map.2 ⟨x, hx, he⟩) _ (by simp) rfl

theorem runPool_inOrder (P : Params) (p : Pool) (steps : List Step) (hone : OneInFlight P p steps)
    (hn : (p.tasks.map (·.sid)).Nodup) (h : InOrder p) : InOrder (runPool P p steps) := by
  induction steps generalizing p with
  | nil => exact h
  | cons s rest ih =>
    obtain ⟨h1, h2⟩ := hone
    have := stepPool_inOrder P p s (by cases s <;> simpa using h1) hn h
    exact ih _ h2 this.1 this.2

/-- only the head of the task list may be running (one worker), and the log followed by the owed commands is the ledger -/
def Fifo (p : Pool) : Prop := (∀ t ∈ p.tasks.tail, t.running = false) ∧ p.log ++ pending p.tasks = p.ledger

theorem stepPool_fifo (P : Params) (hw : P.w ≤ 1) (p : Pool) (s : Step)
    (hno : match s with | .arrive _ _ => queuedCount p.tasks < P.qcap | _ => True) (h : Fifo p) :
    Fifo (stepPool P p s) := by
  obtain ⟨htail, heq⟩ := h
  -- a running task is at the head of the queue
  have hhead : ∀ pre t post, p.tasks = pre ++ t :: post → t.running = true → pre = [] ∧ ∀ x ∈ post, x.running = false := by
    intro pre t post hts hr
    cases pre with
    | cons a pre => rw [htail t (by simp [hts])] at hr; cases hr
    | nil => exact ⟨rfl, fun x hx => htail x (by simp [hts, hx])⟩
  constructor
  · refine stepPool_cases P p s (fun p' => ∀ t ∈ p'.tasks.tail, t.running = false) (fun _ _ _ _ => htail) ?_ ?_ htail ?_ ?_
    · intro sid data _ _ t ht
      cases hts : p.tasks with
      | nil => simp [hts] at ht
      | cons a as =>
        simp only [hts, List.cons_append, List.tail_cons, List.mem_append, List.mem_singleton] at ht
        rcases ht with ht | ht
        · exact htail t (by simp [hts, ht])
        · subst ht; rfl
    · intro hlt
      cases hts : p.tasks with
      | nil => simp [markFirstQueued]
      | cons a as =>
        have ha : a.running = false := by
          cases hr : a.running with
          | false => rfl
          | true =>
            have : runningCount p.tasks ≥ 1 := by simp [hts, runningCount, hr]
            omega
        simp only [markFirstQueued, ha, Bool.false_eq_true, if_false, List.tail_cons]
        intro t ht
        exact htail t (by simp [hts, ht])
    · intro pre t post hts hr _ x hx
      obtain ⟨rfl, hpost⟩ := hhead pre t post hts hr
      exact hpost x (List.mem_of_mem_tail hx)
    · intro pre t post c r hts hr _ x hx
      obtain ⟨rfl, hpost⟩ := hhead pre t post hts hr
      dsimp only [List.nil_append] at hx
      split at hx
      · exact hpost x (List.mem_of_mem_tail hx)
      · exact hpost x hx
  · refine stepPool_kept (R := Eq) (fun _ => rfl) Eq.trans (by rintro _ _ _ _ rfl rfl; rfl) P p s ?_ ?_ heq
    · intro sid data hs hq
      subst hs
      exact absurd hno (by omega)
    · intro pre t post c hts hr
      rw [(hhead pre t post hts hr).1]
      simp [pending]

theorem runPool_fifo (P : Params) (hw : P.w ≤ 1) (p : Pool) (steps : List Step) (hno : NoOverflow P p steps)
    (h : Fifo p) : Fifo (runPool P p steps) := by
  induction steps generalizing p with
  | nil => exact h
  | cons s rest ih =>
    obtain ⟨h1, h2⟩ := hno
    exact ih _ h2 (stepPool_fifo P hw p s (by cases s <;> simpa using h1) h)

theorem runSock_cons (s : Sock) (e : EngEv) (rest : List EngEv) : runSock s (e :: rest) = runSock (sockStep s e) rest := rfl

theorem sockStep_closed (s : Sock) (e : EngEv) (h : s.isOpen = false) : sockStep s e = s := by
  cases e with
  | cmd c k => cases c <;> simp [sockStep, h]
  | writable n => simp [sockStep, h]

theorem runSock_closed (s : Sock) (evs : List EngEv) (h : s.isOpen = false) : runSock s evs = s := by
  induction evs with
  | nil => rfl
  | cons e rest ih => rw [runSock_cons, sockStep_closed s e h]; exact ih

theorem sockStep_send_open (s : Sock) (bs : Bytes) (k : Nat) (ho : s.isOpen = true) :
    (sockStep s (.cmd (.send bs) k)).isOpen = true ∧
    (sockStep s (.cmd (.send bs) k)).delivered ++ (sockStep s (.cmd (.send bs) k)).wq = s.delivered ++ s.wq ++ bs := by
  by_cases hw : s.wq.isEmpty = true
  · have : s.wq = [] := by simpa using hw
    simp [sockStep, ho, this, List.append_assoc]
  · simp [sockStep, ho, hw, List.append_assoc]

theorem sockStep_writable_open (s : Sock) (n : Nat) (ho : s.isOpen = true) :
    (sockStep s (.writable n)).isOpen = true ∧
    (sockStep s (.writable n)).delivered ++ (sockStep s (.writable n)).wq = s.delivered ++ s.wq := by
  simp [sockStep, ho, List.append_assoc]

theorem sockStep_close_open (s : Sock) (k : Nat) (ho : s.isOpen = true) :
    (sockStep s (.cmd .close k)).isOpen = false ∧ (sockStep s (.cmd .close k)).delivered = s.delivered := by
  simp [sockStep, ho]

/-- Where the bytes handed to an open session are: delivered, or `lost` — still in the write queue if the session is open at the
    end, dropped with it by the Close otherwise.  So the peer always reads a prefix, and everything if the kernel took every Send
    whole (the queue was empty when the Close came). -/
theorem runSock_split (s : Sock) (evs : List EngEv) (ho : s.isOpen = true) :
    ∃ lost, (runSock s evs).delivered ++ lost = s.delivered ++ s.wq ++ sentBeforeClose evs ∧
      ((runSock s evs).isOpen = true → lost = (runSock s evs).wq) ∧ (s.wq = [] → FitsBuffer evs → lost = []) := by
  induction evs generalizing s with
  | nil => exact ⟨s.wq, by simp [runSock, sentBeforeClose], fun _ => rfl, fun h _ => h⟩
  | cons e rest ih =>
    rw [runSock_cons]
    cases e with
    | writable n =>
      obtain ⟨hs, e1⟩ := sockStep_writable_open s n ho
      obtain ⟨lost, h1, h2, h3⟩ := ih _ hs
      refine ⟨lost, by rw [h1, e1]; rfl, h2, fun hq hf => h3 ?_ hf⟩
      simp [sockStep, ho, hq]
    | cmd c k =>
      cases c with
      | close =>
        obtain ⟨hc, hd⟩ := sockStep_close_open s k ho
        rw [runSock_closed _ rest hc]
        exact ⟨s.wq, by simp [hd, sentBeforeClose], fun h => (by rw [hc] at h; cases h), fun hq _ => hq⟩
      | send bs =>
        obtain ⟨hs, e1⟩ := sockStep_send_open s bs k ho
        obtain ⟨lost, h1, h2, h3⟩ := ih _ hs
        refine ⟨lost, by rw [h1, e1]; simp [sentBeforeClose], h2, fun hq hf => h3 ?_ hf.2⟩
        simp [sockStep, ho, hq, List.drop_eq_nil_of_le hf.1]

/-- the session's commands in the order the I/O thread processes them -/
def cmdsOf : List EngEv → List Cmd
  | [] => []
  | .cmd c _ :: rest => c :: cmdsOf rest
  | .writable _ :: rest => cmdsOf rest

/-- concatenated payloads of the Send commands before the first Close: the model's `sentBeforeClose` as a function of the command
    list (`sentBeforeClose_eq`), in which O2 and O5 speak of a session's commands and not of engine events -/
def payloadBeforeClose : List Cmd → Bytes
  | [] => []
  | .send w :: rest => w ++ payloadBeforeClose rest
  | .close :: _ => []

theorem sentBeforeClose_eq (evs : List EngEv) : sentBeforeClose evs = payloadBeforeClose (cmdsOf evs) := by
  induction evs with
  | nil => rfl
  | cons e rest ih =>
    cases e with
    | writable n => simpa [sentBeforeClose, cmdsOf] using ih
    | cmd c k => cases c <;> simp [sentBeforeClose, cmdsOf, payloadBeforeClose, ih]

theorem payloadBeforeClose_sends (ws : List Bytes) (tail : List Cmd) :
    payloadBeforeClose (ws.map Cmd.send ++ tail) = ws.flatten ++ payloadBeforeClose tail := by
  induction ws with
  | nil => rfl
  | cons w ws ih => simp [payloadBeforeClose, ih]

end Iora.HttpRespond
