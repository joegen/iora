import IoraModel.Lemmas.UdpEngine
/-!
Ghost tokens.  Every datagram handed to the kernel (`Out.sent … tok`) belongs to the `cmdSend` input
number `tok` of the history — same bytes, addressed to the peer the session had when that command ran, leaving from that session's
socket — and no two `sent` events carry the same token (at most one datagram per accepted send), whatever is queued on `EAGAIN`,
flushed later, dropped on overflow, or left behind by a session that closed meanwhile.
-/
namespace Iora.Udp
open List

/-- the `(socket, datagram)` pairs of the sent events, in order -/
def sentOf : List Out → List (Src × Item)
  | [] => []
  | .sent src d b t :: os => (src, ⟨t, d, b⟩) :: sentOf os
  | .accept _ _ :: os => sentOf os
  | .connected _ _ :: os => sentOf os
  | .data _ _ :: os => sentOf os
  | .closed _ _ :: os => sentOf os
  | .error :: os => sentOf os
  | .nullDeref :: os => sentOf os

@[simp] theorem sentOf_nil : sentOf [] = [] := rfl

@[simp] theorem sentOf_append (a b : List Out) : sentOf (a ++ b) = sentOf a ++ sentOf b := by
  induction a with
  | nil => rfl
  | cons x xs ih => cases x <;> simp [sentOf, ih]

theorem mem_sentOf {os : List Out} {src : Src} {it : Item} :
    (src, it) ∈ sentOf os ↔ Out.sent src it.dest it.payload it.tok ∈ os := by
  induction os with
  | nil => simp
  | cons x xs ih =>
    cases x with
    | sent s d b t =>
      simp only [sentOf, List.mem_cons, ih, Prod.mk.injEq, Out.sent.injEq]
      constructor
      · rintro (⟨rfl, rfl⟩ | h)
        · exact Or.inl ⟨rfl, rfl, rfl, rfl⟩
        · exact Or.inr h
      · rintro (⟨rfl, h1, h2, h3⟩ | h)
        · left; refine ⟨rfl, ?_⟩; cases it; simp_all
        · exact Or.inr h
    | _ => simp [sentOf, ih]

/-- the queue a socket drains: `Listener::wq` / `Session::wq` -/
def pending (st : State) : Src → List Item
  | .lst lid => lwqOf (st.listeners lid)
  | .cli sid => wqOf (st.sessions sid)

def QLe (st' st : State) : Prop :=
  (∀ sid : Nat, wqOf (st'.sessions sid) <+ wqOf (st.sessions sid)) ∧ (∀ lid : Nat, lwqOf (st'.listeners lid) <+ lwqOf (st.listeners lid))

theorem QLe.refl (st : State) : QLe st st := ⟨fun _ => List.Sublist.refl _, fun _ => List.Sublist.refl _⟩

theorem QLe.pending {st' st : State} (h : QLe st' st) (q : Src) : pending st' q <+ pending st q := by
  cases q with
  | lst lid => exact h.2 lid
  | cli sid => exact h.1 sid

theorem qle_sess {st' st : State} (sid : Nat) (v : Option Sess) (hs : st'.sessions = upd st.sessions sid v)
    (hl : st'.listeners = st.listeners) (hv : wqOf v <+ wqOf (st.sessions sid)) : QLe st' st := by
  refine ⟨fun x => ?_, fun _ => by rw [hl]; exact List.Sublist.refl _⟩
  rw [hs, apply_upd wqOf]
  split
  · rename_i e; exact e ▸ hv
  · exact List.Sublist.refl _

theorem sentOf_eq_nil {o : List Out} (h : ∀ src d b t, Out.sent src d b t ∉ o) : sentOf o = [] :=
  List.eq_nil_iff_forall_not_mem.mpr fun x hx => h _ _ _ _ (mem_sentOf (src := x.1) (it := x.2) |>.mp hx)

theorem QOp.shape {src : Src} {q left : List Item} {o : List Out} (h : QOp false src q left o) :
    ∃ popped rest, q = popped ++ rest ∧ (sentOf o).map (·.2) <+ popped ∧ left <+ rest ∧ ∀ x ∈ sentOf o, x.1 = src := by
  induction h with
  | keep h => exact ⟨[], _, rfl, Sublist.refl _, h, fun _ hx => nomatch hx⟩
  | push hl => cases hl
  | @sent it _ _ _ _ ih =>
    obtain ⟨pp, r, h1, h2, h3, h4⟩ := ih
    exact ⟨it :: pp, r, congrArg _ h1, Sublist.cons_cons _ h2, h3, fun x hx => (List.mem_cons.mp hx).elim (fun e => e ▸ rfl) (h4 x)⟩
  | @drop it _ _ _ _ ih =>
    obtain ⟨pp, r, h1, h2, h3, h4⟩ := ih
    exact ⟨it :: pp, r, congrArg _ h1, Sublist.cons _ h2, h3, h4⟩

/-- history `h` justifies datagram `it` on socket `q`: input number `it.tok` is a `cmdSend` of exactly these bytes on a session that
was open when the command ran, whose peer was `it.dest` and whose socket is `q` -/
def Origin (cfg : Cfg) (h : List In) (q : Src) (it : Item) : Prop :=
  ∃ (sid : Nat) (ans : Ans) (s : Sess), h[it.tok]? = some (In.cmdSend sid it.payload ans) ∧
    (run cfg (h.take it.tok)).1.sessions sid = some s ∧ s.peer = it.dest ∧ q = homeOf sid s

theorem Origin.lt {cfg : Cfg} {h : List In} {q : Src} {it : Item} (o : Origin cfg h q it) : it.tok < h.length := by
  obtain ⟨_, _, _, h1, _⟩ := o
  exact (List.getElem?_eq_some_iff.mp h1).1

theorem Origin.mono {cfg : Cfg} {h : List In} {q : Src} {it : Item} (o : Origin cfg h q it) (i : In) : Origin cfg (h ++ [i]) q it := by
  have hlt := o.lt
  obtain ⟨sid, ans, s, h1, h2, h3, h4⟩ := o
  refine ⟨sid, ans, s, ?_, ?_, h3, h4⟩
  · rw [List.getElem?_append_left hlt]; exact h1
  · rw [List.take_append_of_le_length (Nat.le_of_lt hlt)]; exact h2

theorem Origin.unique {cfg : Cfg} {h : List In} {q q' : Src} {it it' : Item} (o : Origin cfg h q it) (o' : Origin cfg h q' it')
    (ht : it.tok = it'.tok) : q = q' := by
  obtain ⟨sid, ans, s, h1, h2, _, h4⟩ := o
  obtain ⟨sid', ans', s', h1', h2', _, h4'⟩ := o'
  rw [ht] at h1 h2
  rw [h1] at h1'
  simp only [Option.some.injEq, In.cmdSend.injEq] at h1'
  obtain ⟨rfl, _, _⟩ := h1'
  rw [h2] at h2'
  cases h2'
  rw [h4, h4']

theorem Origin.new (cfg : Cfg) (h : List In) (sid : Nat) (p : Bytes) (ans : Ans) (s : Sess)
    (hs : (run cfg h).1.sessions sid = some s) :
    Origin cfg (h ++ [In.cmdSend sid p ans]) (homeOf sid s) ⟨h.length, s.peer, p⟩ :=
  ⟨sid, ans, s, by simp, by simp [hs], rfl, rfl⟩

/-- the token invariant of a history `h`, over the queues `P` and the datagrams sent `S`: every queued and every sent datagram has its
`Origin` in `h` (so its token is `< h.length`), queues are in token order, and no token occurs twice among `S` or in both `S` and a queue.
`T1_at_most_one` is `s_nodup`, `T1_faithful` is `s_origin`, of `ginv_run`; `q_sorted` is there for `GInv.pop`. -/
structure GInv (cfg : Cfg) (h : List In) (P : Src → List Item) (S : List (Src × Item)) : Prop where
  q_origin : ∀ q it, it ∈ P q → Origin cfg h q it
  q_sorted : ∀ q, (P q).Pairwise (fun x y => x.tok < y.tok)
  s_origin : ∀ x ∈ S, Origin cfg h x.1 x.2
  disj : ∀ x ∈ S, ∀ q it, it ∈ P q → it.tok ≠ x.2.tok
  s_nodup : S.Pairwise (fun x y => x.2.tok ≠ y.2.tok)

theorem GInv.mono {cfg : Cfg} {h : List In} {P : Src → List Item} {S : List (Src × Item)} (g : GInv cfg h P S) (i : In) :
    GInv cfg (h ++ [i]) P S where
  q_origin q it hit := (g.q_origin q it hit).mono i
  q_sorted := g.q_sorted
  s_origin x hx := (g.s_origin x hx).mono i
  disj := g.disj
  s_nodup := g.s_nodup

theorem GInv.shrink {cfg : Cfg} {h : List In} {st st' : State} {S : List (Src × Item)} {o : List Out} (g : GInv cfg h (pending st) S)
    (hq : QLe st' st) (ho : sentOf o = []) : GInv cfg h (pending st') (S ++ sentOf o) := by
  rw [ho, List.append_nil]
  exact {
    q_origin := fun q it hit => g.q_origin q it ((hq.pending q).subset hit)
    q_sorted := fun q => (g.q_sorted q).sublist (hq.pending q)
    s_origin := g.s_origin
    disj := fun x hx q it hit => g.disj x hx q it ((hq.pending q).subset hit)
    s_nodup := g.s_nodup }

/-- a datagram queued by the command being processed. `hsub` asks only for a sub-list of the queue with `it` appended: that covers the
overflow drop (`tail`). `ginv_step` applies it to the cases of `sendDo_cases`, a close afterwards being `Ops.close` on top; no `QOp.push` is read. -/
theorem GInv.enqueue {cfg : Cfg} {h : List In} {P P' : Src → List Item} {S : List (Src × Item)} (g : GInv cfg h P S) (i : In)
    (home : Src) (it : Item) (ho : Origin cfg (h ++ [i]) home it) (ht : it.tok = h.length)
    (hsub : ∀ q, P' q <+ P q ++ (if q = home then [it] else [])) : GInv cfg (h ++ [i]) P' S := by
  have hnew : ∀ q x, x ∈ (if q = home then [it] else []) → x = it ∧ q = home := by
    intro q x hx
    split at hx
    · exact ⟨mem_singleton.mp hx, ‹_›⟩
    · cases hx
  exact {
    q_origin := fun q it' hit => (mem_append.mp ((hsub q).subset hit)).elim (fun h1 => (g.q_origin q it' h1).mono i) fun h1 => by
      obtain ⟨rfl, rfl⟩ := hnew _ _ h1; exact ho
    q_sorted := fun q => by
      refine (pairwise_append.mpr ⟨g.q_sorted q, by split <;> simp, fun a ha b hb => ?_⟩).sublist (hsub q)
      obtain ⟨rfl, _⟩ := hnew _ _ hb
      exact ht ▸ (g.q_origin q a ha).lt
    s_origin := fun x hx => (g.s_origin x hx).mono i
    disj := fun x hx q it' hit => (mem_append.mp ((hsub q).subset hit)).elim (g.disj x hx q it') fun h1 => by
      obtain ⟨rfl, _⟩ := hnew _ _ h1
      exact Nat.ne_of_gt (ht ▸ (g.s_origin x hx).lt)
    s_nodup := g.s_nodup }

/-- datagrams leave queue `src`: `N` is what goes on the wire, `P'` what stays queued. `A ++ B` splits the queue so that `N` comes from one
part and what stays from the other, either way round (`hpart`): a flush sends from the front part `A`; a datagram sent at once has just
been put at the back, `B` -/
theorem GInv.pop {cfg : Cfg} {h : List In} {P P' : Src → List Item} {S : List (Src × Item)} (g : GInv cfg h P S) (src : Src)
    (A B : List Item) (N : List (Src × Item)) (hP : P src = A ++ B) (hsrc : ∀ x ∈ N, x.1 = src)
    (hpart : (N.map (·.2) <+ A ∧ P' src <+ B) ∨ (P' src <+ A ∧ N.map (·.2) <+ B)) (hoth : ∀ q, q ≠ src → P' q <+ P q) :
    GInv cfg h P' (S ++ N) := by
  -- tokens increase strictly along a queue, so its parts `A` and `B` share none: what is sent from one part is not queued in the other
  have hsorted := g.q_sorted src
  rw [hP, List.pairwise_append] at hsorted
  obtain ⟨hN, hP', hne, hNs⟩ : N.map (·.2) <+ P src ∧ P' src <+ P src ∧ (∀ x ∈ N, ∀ it ∈ P' src, it.tok ≠ x.2.tok) ∧
      (N.map (·.2)).Pairwise (fun x y => x.tok < y.tok) := by
    rw [hP]
    rcases hpart with ⟨h1, h2⟩ | ⟨h1, h2⟩
    · exact ⟨h1.trans (sublist_append_left ..), h2.trans (sublist_append_right ..),
        fun x hx it hit => Nat.ne_of_gt (hsorted.2.2 _ (h1.subset (mem_map_of_mem hx)) _ (h2.subset hit)), hsorted.1.sublist h1⟩
    · exact ⟨h2.trans (sublist_append_right ..), h1.trans (sublist_append_left ..),
        fun x hx it hit => Nat.ne_of_lt (hsorted.2.2 _ (h1.subset hit) _ (h2.subset (mem_map_of_mem hx))), hsorted.2.1.sublist h2⟩
  have hsub : ∀ q, P' q <+ P q := fun q => if e : q = src then e ▸ hP' else hoth q e
  have hNP : ∀ x ∈ N, x.2 ∈ P src := fun x hx => hN.subset (mem_map_of_mem hx)
  exact {
    q_origin := fun q it hit => g.q_origin q it ((hsub q).subset hit)
    q_sorted := fun q => (g.q_sorted q).sublist (hsub q)
    s_origin := fun x hx => (mem_append.mp hx).elim (g.s_origin x) fun hx => hsrc x hx ▸ g.q_origin src x.2 (hNP x hx)
    disj := fun x hx q it hit => (mem_append.mp hx).elim (fun hx => g.disj x hx q it ((hsub q).subset hit)) fun hx =>
      if e : q = src then hne x hx it (e ▸ hit)
      else fun heq => e (Origin.unique (g.q_origin q it ((hsub q).subset hit)) (g.q_origin src x.2 (hNP x hx)) heq)
    s_nodup := by
      rw [pairwise_append]
      refine ⟨g.s_nodup, ?_, fun a ha b hb => (g.disj a ha src b.2 (hNP b hb)).symm⟩
      rw [pairwise_map] at hNs
      exact hNs.imp Nat.ne_of_lt }

theorem pending_set_sess (st : State) (sid : Nat) (s' : Sess) (q : Src) :
    pending { st with sessions := upd st.sessions sid (some s') } q = if q = .cli sid then s'.wq else pending st q := by
  cases q with
  | lst lid => exact (if_neg Src.noConfusion).symm
  | cli x =>
    simp only [pending, apply_upd wqOf, Src.cli.injEq]
    split <;> rfl

theorem pending_set_lst (st : State) (lid : Nat) (l' : Lst) (q : Src) :
    pending { st with listeners := upd st.listeners lid (some l') } q = if q = .lst lid then l'.wq else pending st q := by
  cases q with
  | cli sid => exact (if_neg Src.noConfusion).symm
  | lst x =>
    simp only [pending, apply_upd lwqOf, Src.lst.injEq]
    split <;> rfl

theorem pending_push {st st' : State} {src : Src} {wq' : List Item} {it : Item}
    (hset : ∀ q, pending st' q = if q = src then wq' else pending st q) (hq : wq' <+ pending st src ++ [it]) (q : Src) :
    pending st' q <+ pending st q ++ (if q = src then [it] else []) := by
  rw [hset]
  by_cases e : q = src
  · rw [if_pos e, if_pos e, e]; exact hq
  · rw [if_neg e, if_neg e, List.append_nil]; exact List.Sublist.refl _

theorem GInv.qop {cfg : Cfg} {h : List In} {st st' : State} {S : List (Src × Item)} (g : GInv cfg h (pending st) S) {src : Src}
    {wq' : List Item} {o : List Out} (hq : QOp false src (pending st src) wq' o)
    (hset : ∀ q, pending st' q = if q = src then wq' else pending st q) : GInv cfg h (pending st') (S ++ sentOf o) := by
  obtain ⟨popped, rest, h1, h2, h3, h4⟩ := hq.shape
  exact g.pop src popped rest _ h1 h4 (Or.inl ⟨h2, by rw [hset, if_pos rfl]; exact h3⟩) fun q e => by
    rw [hset, if_neg e]; exact Sublist.refl _

theorem Ops.ginv {cfg : Cfg} {h : List In} {st : State} {r : State × List Out} (hops : Ops cfg false st r) {S : List (Src × Item)}
    (g : GInv cfg h (pending st) S) : GInv cfg h (pending r.1) (S ++ sentOf r.2) := by
  induction hops generalizing S with
  | emit o _ hq => exact g.shrink (QLe.refl _) (sentOf_eq_nil (hq rfl))
  | setSess sid s' hs _ _ hq => exact g.qop (by rw [pending, hs]; exact hq) (pending_set_sess _ sid s')
  | setLst lid l n _ hq => exact g.qop hq (pending_set_lst _ lid l)
  | opens s _ _ _ hwq => exact g.shrink (qle_sess _ (some s) rfl rfl (by show s.wq <+ _; rw [hwq]; exact nil_sublist _)) rfl
  | skipId | tick => exact g.shrink (QLe.refl _) rfl
  | drop sid => exact g.shrink (qle_sess sid none rfl rfl (nil_sublist _)) rfl
  | @restart st =>
    obtain ⟨ix, e, _⟩ := shutdownDrain_eq cfg st
    rw [e]
    refine g.shrink ?_ (sentOf_eq_nil fun _ _ _ _ hm => by obtain ⟨_, _, hx⟩ := List.mem_map.mp hm; cases hx)
    exact ⟨fun _ => nil_sublist _, fun _ => nil_sublist _⟩
  | seq _ _ ih1 ih2 => rw [sentOf_append, ← List.append_assoc]; exact ih2 (ih1 g)

theorem ginv_step (cfg : Cfg) (h : List In) (i : In) (g : GInv cfg h (pending (run cfg h).1) (sentOf (run cfg h).2)) :
    GInv cfg (h ++ [i]) (pending (step cfg h.length (run cfg h).1 i).1)
      (sentOf (run cfg h).2 ++ sentOf (step cfg h.length (run cfg h).1 i).2) := by
  generalize hst : (run cfg h).1 = st at *
  by_cases hl : i.loud = true
  case neg => exact (step_ops cfg false _ st i fun c => absurd c hl).ginv (g.mono i)
  cases i with
  | cmdSend sid p ans =>
    by_cases hp : p = []
    · have e : step cfg h.length st (.cmdSend sid p ans) = (st, []) := if_pos hp
      rw [e]; exact Ops.nil.ginv (g.mono _)
    · have e : step cfg h.length st (.cmdSend sid p ans) = sendDo cfg h.length st sid p ans := if_neg hp
      rw [e]
      have hc := sendDo_cases cfg h.length st sid p ans
      generalize sendDo cfg h.length st sid p ans = r at hc ⊢
      cases hc with
      | noSession => exact Ops.nil.ginv (g.mono _)
      | closes w => exact (Ops.close sid w).ginv (g.mono _)
      | @sentNow s hs =>
        -- put at the back of its home queue, then sent from there
        have ho := Origin.new cfg h sid p ans s (hst ▸ hs)
        have g1 := g.enqueue _ _ _ ho rfl (P' := fun q => pending st q ++ if q = homeOf sid s then [⟨h.length, s.peer, p⟩] else [])
          (fun _ => Sublist.refl _)
        have hq : QLe (st.setSess sid { s with lastActivity := st.now, lastWriteProgress := st.now }) st :=
          qle_sess sid (some _) rfl rfl (by rw [hs]; exact Sublist.refl _)
        exact g1.pop (homeOf sid s) (pending st _) [⟨h.length, s.peer, p⟩] [(homeOf sid s, ⟨h.length, s.peer, p⟩)]
          (congrArg (pending st _ ++ ·) (if_pos rfl)) (fun _ hx => (mem_singleton.mp hx) ▸ rfl)
          (Or.inr ⟨hq.pending _, Sublist.refl _⟩) (fun q _ => (hq.pending q).trans (sublist_append_left ..))
      | @queuedCli s hs t _ hhome hq =>
        rw [sentOf_nil, append_nil]
        exact g.enqueue _ _ _ (Origin.new cfg h sid p ans s (hst ▸ hs)) rfl
          (hhome ▸ pending_push (pending_set_sess st sid _) (by rw [pending, hs]; exact hq))
      | @queuedLst s l _ hs hl t hr hhome hq =>
        have g1 := g.enqueue _ _ _ (Origin.new cfg h sid p ans s (hst ▸ hs)) rfl
          (hhome ▸ pending_push (pending_set_lst st s.owner (updL cfg t)) (by rw [pending, hl]; exact hq))
        rcases hr with rfl | rfl
        · rw [sentOf_nil, append_nil]; exact g1
        · -- closed for back-pressure: the datagram stays queued
          exact (Ops.close sid .backpressure).ginv g1
  | _ => cases hl

theorem snoc_induction {α : Type} {P : List α → Prop} (nil : P []) (snoc : ∀ l a, P l → P (l ++ [a])) (l : List α) : P l := by
  rw [← List.reverse_reverse l]
  induction l.reverse with
  | nil => exact nil
  | cons a t ih => rw [List.reverse_cons]; exact snoc _ a ih

theorem runFrom_append (cfg : Cfg) : ∀ (a b : List In) (n : Nat) (st : State),
    runFrom cfg n st (a ++ b) =
      ((runFrom cfg (n + a.length) (runFrom cfg n st a).1 b).1,
       (runFrom cfg n st a).2 ++ (runFrom cfg (n + a.length) (runFrom cfg n st a).1 b).2)
  | [], b, n, st => rfl
  | i :: a, b, n, st => by
    simp only [List.cons_append, runFrom, runFrom_append cfg a b (n + 1), List.length_cons, List.append_assoc, Nat.add_assoc,
      Nat.add_comm 1]

theorem run_snoc (cfg : Cfg) (h : List In) (i : In) :
    run cfg (h ++ [i]) = ((step cfg h.length (run cfg h).1 i).1, (run cfg h).2 ++ (step cfg h.length (run cfg h).1 i).2) := by
  simp [run, runFrom_append, runFrom]

theorem ginv_run (cfg : Cfg) : ∀ h : List In, GInv cfg h (pending (run cfg h).1) (sentOf (run cfg h).2) := by
  apply snoc_induction
  · have hp : ∀ q, pending (run cfg []).1 q = [] := by intro q; cases q <;> rfl
    exact { q_origin := fun q it hit => by rw [hp] at hit; cases hit
            q_sorted := fun q => by rw [hp]; exact Pairwise.nil
            s_origin := fun x hx => by cases hx
            disj := fun x hx => by cases hx
            s_nodup := Pairwise.nil }
  · intro h i g
    rw [run_snoc]
    dsimp only
    rw [sentOf_append]
    exact ginv_step cfg h i g

end Iora.Udp
