import IoraModel.Model.DnsCache
/-! N5 for C19: every entry of the cache is justified by the latest store under its key, with the TTL computed by the code. -/
namespace Iora.DnsCache
open Iora Iora.Dns

variable {K V : Type} [DecidableEq K]

theorem eraseKey_eq_filter (k : K) (l : List (K × Entry V)) : eraseKey k l = l.filter (fun p => p.1 ≠ k) := by
  induction l with
  | nil => rfl
  | cons x xs ih =>
    obtain ⟨k', e⟩ := x
    by_cases h : k' = k <;> simp [eraseKey, h, ih]

theorem mem_eraseKey {k : K} {l : List (K × Entry V)} {p : K × Entry V} (h : p ∈ eraseKey k l) : p ∈ l ∧ p.1 ≠ k := by
  simpa [eraseKey_eq_filter] using h

theorem findKey_some {k : K} {l : List (K × Entry V)} {e : Entry V} (h : findKey k l = some e) : (k, e) ∈ l := by
  induction l with
  | nil => cases h
  | cons x xs ih =>
    obtain ⟨k', e'⟩ := x
    simp only [findKey] at h
    split at h
    · rename_i hk; cases h; subst hk; exact List.mem_cons_self
    · exact List.mem_cons_of_mem _ (ih h)

theorem findKey_none {k : K} {l : List (K × Entry V)} (h : findKey k l = none) : ∀ p ∈ l, p.1 ≠ k := by
  induction l with
  | nil => intro p hp; cases hp
  | cons x xs ih =>
    obtain ⟨k', e'⟩ := x
    simp only [findKey] at h
    split at h
    · cases h
    · rename_i hne
      exact List.forall_mem_cons.mpr ⟨hne, ih h⟩

/-- spec-level reading of an operation: (key, result, negative?, time of the store, TTL in seconds) it stores, given the
default TTL in force -/
def Op.stores (dflt : Nat) : Op → Option (Key × Result × Bool × Nat × Nat)
  | .put now q r => some (Key.fromQuestion q, r, false, now, resultTtl r dflt)
  | .putNeg now q r ttl _ => some (Key.fromQuestion q, r, true, now, ttl)
  | .putNegAuto now q r _ => some (Key.fromQuestion q, r, true, now, negativeTtl r dflt)
  | _ => none

/-- operations that replace or drop whatever is stored under `k` -/
def Op.touches (k : Key) : Op → Bool
  | .put _ q _ => decide (Key.fromQuestion q = k)
  | .putNeg _ q _ _ _ => decide (Key.fromQuestion q = k)
  | .putNegAuto _ q _ _ => decide (Key.fromQuestion q = k)
  | .remove q => decide (Key.fromQuestion q = k)
  | .clear _ => true
  | _ => false

/-- the entry `(k, e)` was written by an operation of the history `ops` that stores exactly this result under `k`, with a
positive TTL from which the expiration instant was computed, and nothing later touched `k` -/
def Justified (d0 : DC) (ops : List Op) (p : Key × Entry Cached) : Prop :=
  ∃ pre op post t ttl, ops = pre ++ op :: post ∧
    op.stores (d0.run pre).defaultTtl = some (p.1, p.2.value.result, p.2.value.isNegative, t, ttl) ∧
    0 < ttl ∧ p.2.expiration = t + ttl * nsPerSec ∧ ∀ o ∈ post, o.touches p.1 = false

theorem Op.untouched_of_stores {o : Op} {d : Nat} {k k' : Key} {x : Result × Bool × Nat × Nat} (h : o.stores d = some (k, x))
    (hk : k' ≠ k) : o.touches k' = false := by
  cases o <;> cases h <;> simp only [Op.touches, decide_eq_false_iff_not] <;> exact fun e => hk e.symm

theorem Justified.snoc {d0 : DC} {ops : List Op} {p : Key × Entry Cached} (h : Justified d0 ops p) (o : Op)
    (ho : o.touches p.1 = false) : Justified d0 (ops ++ [o]) p := by
  obtain ⟨pre, op, post, t, ttl, e, hs, hpos, hexp, hpost⟩ := h
  refine ⟨pre, op, post ++ [o], t, ttl, by rw [e]; simp, hs, hpos, hexp, ?_⟩
  exact List.forall_mem_append.mpr ⟨hpost, List.forall_mem_singleton.mpr ho⟩

theorem run_snoc (d : DC) (ops : List Op) (o : Op) : d.run (ops ++ [o]) = (d.run ops).step o := by
  simp [DC.run, List.foldl_append]

theorem EC.get_entries (c : EC K V) (k : K) (now : Nat) : ∀ p ∈ (c.get k now).2.1.entries, p ∈ c.entries := by
  intro p hp
  unfold EC.get at hp
  split at hp
  · exact hp
  · split at hp
    · exact hp
    · exact (mem_eraseKey hp).1

theorem EC.remove_entries (c : EC K V) (k : K) : ∀ p ∈ (c.remove k).1.entries, p ∈ c.entries ∧ p.1 ≠ k := by
  intro p hp
  unfold EC.remove at hp
  split at hp
  · rename_i hn
    exact ⟨hp, findKey_none hn p hp⟩
  · exact mem_eraseKey hp

theorem EC.set_entries (c : EC K V) (k : K) (v : V) (ttl now : Nat) : ∀ p ∈ (c.set k v ttl now).entries,
    p = (k, { value := v, expiration := now + (if ttl > 0 then ttl else c.ttl) * nsPerSec }) ∨ (p ∈ c.entries ∧ p.1 ≠ k) := by
  intro p hp
  unfold EC.set at hp
  cases hp with
  | head => left; rfl
  | tail _ hm => right; exact mem_eraseKey hm

omit [DecidableEq K] in
theorem EC.purge_entries (c : EC K V) (now : Nat) : ∀ p ∈ (c.purge now).1.entries, p ∈ c.entries := by
  intro p hp
  unfold EC.purge at hp
  exact (List.mem_filter.mp hp).1

theorem store_entries (d : DC) (q : Question) (v : Cached) (ttl : Nat) (now : Nat) :
    ∀ p ∈ (d.store q v ttl true now).cache.entries,
      (p ∈ d.cache.entries ∧ p.1 ≠ Key.fromQuestion q) ∨
      (0 < ttl ∧ p = (Key.fromQuestion q, { value := v, expiration := now + ttl * nsPerSec })) := by
  intro p hp
  unfold DC.store at hp
  have hsub := EC.get_entries d.cache (Key.fromQuestion q) now
  by_cases h0 : ttl = 0
  · simp only [h0, Bool.true_and, decide_true, ↓reduceIte] at hp
    obtain ⟨h1, h2⟩ := EC.remove_entries _ _ p hp
    exact Or.inl ⟨hsub p h1, h2⟩
  · have hpos : 0 < ttl := by omega
    simp only [h0, Bool.true_and, decide_false, Bool.false_eq_true, ↓reduceIte] at hp
    rcases EC.set_entries _ _ _ _ _ p hp with h1 | ⟨h1, h2⟩
    · right
      refine ⟨hpos, ?_⟩
      rw [h1]
      simp only [gt_iff_lt, hpos, ↓reduceIte]
    · exact Or.inl ⟨hsub p h1, h2⟩

theorem DC.get_eq (d : DC) (q : Question) (now : Nat) :
    (d.get q now).1 = (d.cache.get (Key.fromQuestion q) now).1 ∧
    (d.get q now).2.cache = (d.cache.get (Key.fromQuestion q) now).2.1 := by
  unfold DC.get
  split
  rename_i existing c1 ev heq
  rw [heq]
  dsimp only
  split <;> exact ⟨rfl, rfl⟩

theorem DC.get_some {d : DC} {q : Question} {now : Nat} {v : Cached} (h : (d.get q now).1 = some v) :
    ∃ e, findKey (Key.fromQuestion q) d.cache.entries = some e ∧ e.value = v ∧ live e.expiration now = true := by
  rw [(DC.get_eq d q now).1] at h
  unfold EC.get at h
  split at h
  · cases h
  · rename_i e hf
    split at h
    · exact ⟨e, hf, Option.some.inj h, ‹_›⟩
    · cases h

theorem step_justified (d0 : DC) (ops : List Op) (o : Op)
    (h : ∀ p ∈ (d0.run ops).cache.entries, Justified d0 ops p) :
    ∀ p ∈ (d0.run (ops ++ [o])).cache.entries, Justified d0 (ops ++ [o]) p := by
  intro p hp
  rw [run_snoc] at hp
  -- `0 < ttl` comes from the zero-TTL guard of the store; that the guard is on is the generated flag each put case below passes
  -- with `rfl` (with a flag off that `rfl` fails)
  have hstore : ∀ (q : Question) (v : Cached) (ttl now : Nat) (guard : Bool), guard = true →
      p ∈ ((d0.run ops).store q v ttl guard now).cache.entries →
      o.stores (d0.run ops).defaultTtl = some (Key.fromQuestion q, v.result, v.isNegative, now, ttl) →
      Justified d0 (ops ++ [o]) p := by
    intro q v ttl now guard hg hp hs
    subst hg
    rcases store_entries _ q v ttl now p hp with ⟨h1, h2⟩ | ⟨hpos, h2⟩
    · exact (h p h1).snoc o (Op.untouched_of_stores hs h2)
    · subst h2
      exact ⟨ops, o, [], now, ttl, rfl, hs, hpos, rfl, fun _ hx => nomatch hx⟩
  cases o with
  | put now q r => exact hstore q _ _ now Gen.Dns.zeroTtlNotCachedPut rfl hp rfl
  | putNeg now q r ttl msg => exact hstore q _ _ now Gen.Dns.zeroTtlNotCachedNeg rfl hp rfl
  | putNegAuto now q r msg => exact hstore q _ _ now Gen.Dns.zeroTtlNotCachedNeg rfl hp rfl
  | get now q =>
    simp only [DC.step] at hp
    rw [(DC.get_eq _ _ _).2] at hp
    exact (h p (EC.get_entries _ _ _ p hp)).snoc _ rfl
  | remove q =>
    simp only [DC.step, DC.remove] at hp
    obtain ⟨h1, h2⟩ := EC.remove_entries _ _ p hp
    refine (h p h1).snoc _ ?_
    simp only [Op.touches, decide_eq_false_iff_not]; exact fun e => h2 e.symm
  | clear reset =>
    simp only [DC.step, DC.clear] at hp
    cases hp
  | setDefault ttl =>
    simp only [DC.step, DC.setDefaultTtl] at hp
    exact (h p hp).snoc _ rfl
  | purge now =>
    simp only [DC.step, DC.purge] at hp
    exact (h p (EC.purge_entries _ _ p hp)).snoc _ rfl

theorem run_justified (d0 : DC) : ∀ (rest done : List Op),
    (∀ p ∈ (d0.run done).cache.entries, Justified d0 done p) →
    ∀ p ∈ (d0.run (done ++ rest)).cache.entries, Justified d0 (done ++ rest) p := by
  intro rest
  induction rest with
  | nil => intro done h; simpa using h
  | cons o rest ih =>
    intro done h
    have := ih (done ++ [o]) (step_justified _ done o h)
    simpa [List.append_assoc] using this

theorem all_justified (ttl0 : Nat) (ops : List Op) :
    ∀ p ∈ ((DC.new ttl0).run ops).cache.entries, Justified (DC.new ttl0) ops p := by
  have := run_justified (DC.new ttl0) ops [] (fun _ hp => nomatch hp)
  simpa using this

theorem foldl_min_le (l : List Nat) (a : Nat) : l.foldl min a ≤ a ∧ ∀ x ∈ l, l.foldl min a ≤ x := by
  induction l generalizing a with
  | nil => exact ⟨Nat.le_refl _, by intro x hx; cases hx⟩
  | cons y ys ih =>
    simp only [List.foldl]
    obtain ⟨h1, h2⟩ := ih (min a y)
    refine ⟨Nat.le_trans h1 (Nat.min_le_left _ _), ?_⟩
    exact List.forall_mem_cons.mpr ⟨Nat.le_trans h1 (Nat.min_le_right _ _), h2⟩

/-- the default stands in only when the minimum is `u32max`, and is itself reduced mod 2³² -/
theorem resultTtl_le (r : Result) (dflt : Nat) {x : Nat}
    (hx : x ∈ r.answers.map (·.ttl) ++ r.authority.map (·.ttl) ++ r.additional.map (·.ttl) ++ r.typed.map (·.ttl)) :
    resultTtl r dflt ≤ x := by
  have h := (foldl_min_le _ u32max).2 x hx
  unfold resultTtl
  dsimp only
  split
  · rename_i he
    rw [he] at h
    have : dflt % 4294967296 < 4294967296 := Nat.mod_lt _ (by decide)
    simp only [u32max] at h
    omega
  · exact h

end Iora.DnsCache
