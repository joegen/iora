import IoraModel.Lemmas.TimingWheel
/-!
The saturating deadline of `TimingWheel::schedule` / `reschedule` (repair FC08c): `deadlineAfter now delay`.
All statements are for every clock value `0 ≤ now ≤ tpMax` (what a `steady_clock::time_point` can hold; the epoch of
`steady_clock` is not later than the first read) and EVERY delay, including `milliseconds::max()` and `milliseconds::min()`.
-/
namespace Iora.Wheel

/-- for a clock value in range the stored deadline is `now + m` ms, `m` the delay clamped to `[-b, r]`, where `b` (`behind` in the C++)
and `r` (`ahead`) are `now` and `TimePoint::max() - now` in whole milliseconds: both divide a non-negative value, so the truncation of
`duration_cast` is the floor.  The theorems below use nothing else; in particular `m * nsPerMs`, the one intermediate value, lies
between `-now` and `tpMax - now`. -/
theorem deadlineAfter_clamp (now d : Int) (h0 : 0 ≤ now) (h1 : now ≤ tpMax) :
    ∃ m b r : Int, deadlineAfter now d = now + m * nsPerMs ∧ b * nsPerMs ≤ now ∧ now < (b + 1) * nsPerMs ∧
      r * nsPerMs ≤ tpMax - now ∧ tpMax - now < (r + 1) * nsPerMs ∧ -b ≤ m ∧ m ≤ r ∧ (m = d ∨ (d < -b ∧ m = -b) ∨ (r < d ∧ m = r)) := by
  refine ⟨_, Int.tdiv now nsPerMs, Int.tdiv (tpMax - now) nsPerMs, rfl, ?_⟩
  rw [Int.tdiv_eq_ediv_of_nonneg h0, Int.tdiv_eq_ediv_of_nonneg (by omega : 0 ≤ tpMax - now)]
  unfold nsPerMs
  split
  · omega
  · split <;> omega

/-- the stored deadline is a time point between the epoch and `TimePoint::max()`, and for every clock value `now'` in the clock's range
`deadline - now'` (what `collectFromBucket`/`cascadeDown` compute) is representable too -/
theorem deadlineAfter_bounds (now d : Int) (h0 : 0 ≤ now) (h1 : now ≤ tpMax) :
    0 ≤ deadlineAfter now d ∧ deadlineAfter now d ≤ tpMax ∧
    (∀ now', 0 ≤ now' → now' ≤ tpMax → -tpMax ≤ deadlineAfter now d - now' ∧ deadlineAfter now d - now' ≤ tpMax) := by
  obtain ⟨m, b, r, he, b1, _, r1, _, hm1, hm2, _⟩ := deadlineAfter_clamp now d h0 h1
  rw [he]
  unfold nsPerMs at *
  have lo : 0 ≤ now + m * 1000000 := by omega
  have hi : now + m * 1000000 ≤ tpMax := by omega
  exact ⟨lo, hi, fun n' _ _ => by omega⟩

theorem deadlineAfter_exact (now d : Int) (h0 : 0 ≤ now) (h1 : now ≤ tpMax)
    (hlo : 0 ≤ now + d * nsPerMs) (hhi : now + d * nsPerMs ≤ tpMax) : deadlineAfter now d = now + d * nsPerMs := by
  obtain ⟨m, b, r, he, _, b2, _, r2, _, _, hm⟩ := deadlineAfter_clamp now d h0 h1
  rw [he]
  unfold nsPerMs at *
  omega

/-- when `now + delay` is beyond `TimePoint::max()` the stored deadline is the last whole millisecond step below
`TimePoint::max()`: later than every clock value that is more than a millisecond before the end of the clock's range -/
theorem deadlineAfter_saturates (now d : Int) (h0 : 0 ≤ now) (h1 : now ≤ tpMax) (hhi : tpMax < now + d * nsPerMs) :
    tpMax - nsPerMs < deadlineAfter now d ∧ deadlineAfter now d ≤ tpMax := by
  obtain ⟨m, b, r, he, b1, _, r1, r2, hm1, hm2, hm⟩ := deadlineAfter_clamp now d h0 h1
  rw [he]
  unfold nsPerMs at *
  omega

theorem deadlineAfter_is_min (now d : Int) (h0 : 0 ≤ now) (h1 : now ≤ tpMax) (hd : 0 ≤ d) :
    deadlineAfter now d ≤ min (now + d * nsPerMs) tpMax ∧ min (now + d * nsPerMs) tpMax - nsPerMs < deadlineAfter now d := by
  by_cases h : now + d * nsPerMs ≤ tpMax
  · have hlo : 0 ≤ now + d * nsPerMs := by unfold nsPerMs at *; omega
    rw [deadlineAfter_exact now d h0 h1 hlo h]
    unfold nsPerMs at *
    omega
  · have := deadlineAfter_saturates now d h0 h1 (by omega)
    unfold nsPerMs at *
    omega

-- `now` = 30 days in ns; the delays are `milliseconds::max()`, `-max()`, 50 ms and -30 ms
example : deadlineAfter 2592000000000000 9223372036854775807 = 9223372036854000000 := by decide
example : deadlineAfter 2592000000000000 (-9223372036854775807) = 0 := by decide
example : deadlineAfter 2592000000000000 50 = 2592000050000000 := by decide
example : deadlineAfter 2592000000000000 (-30) = 2591999970000000 := by decide

end Iora.Wheel
