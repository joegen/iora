import IoraModel.Model.Xml
/-! The specification of entity decoding (X5) — `Dec`, `fiveEntities`, `numValue` — and the agreement of `decodeEntities`,
`appendCharRef` and `encodeUtf8` of the XML model with it.  `fiveEntities` and `numValue` do not look at the decoder; the numeric rule of `Dec`
is stated with the model's `charRefCode` and `encodeUtf8`, which `charRefCode_hex`/`_dec` tie to `numValue` and `encodeUtf8_char`/`_none` to
Lean's own UTF-8 encoder.  `Token::splitQName` looks for its colon with the decoder's `findByte` and is specified beside it. -/
namespace Iora.Xml
open Iora

/-- a statement about every byte from its 256 instances, which `decide +kernel` evaluates -/
theorem forall_u8 {P : UInt8 → Prop} (h : ∀ n, n < 256 → P (UInt8.ofNat n)) : ∀ z, P z := by
  intro z
  have := h z.toNat z.toNat_lt
  rwa [UInt8.ofNat_toNat] at this

theorem encodeUtf8_char (c : Char) : encodeUtf8 c.val = some (String.utf8EncodeChar c) := by
  rw [String.utf8EncodeChar_eq_utf8EncodeCharFast]
  have hv : c.val.toNat < 0xD800 ∨ (0xDFFF < c.val.toNat ∧ c.val.toNat < 0x110000) := c.valid
  unfold encodeUtf8 String.utf8EncodeCharFast
  dsimp only
  -- the two encoders test the same bounds in the same order
  by_cases h1 : c.val ≤ 0x7F
  · rw [if_pos h1, if_pos h1]
  rw [if_neg h1, if_neg h1]
  by_cases h2 : c.val ≤ 0x7FF
  · rw [if_pos h2, if_pos h2]; simp [u8, UInt8.or_comm]
  rw [if_neg h2, if_neg h2]
  by_cases h3 : c.val ≤ 0xFFFF
  · have : ¬ ((c.val ≥ 0xD800 && c.val ≤ 0xDFFF) = true) := by
      simp only [Bool.and_eq_true, decide_eq_true_eq, ge_iff_le, UInt32.le_iff_toNat_le, UInt32.reduceToNat, not_and]
      omega
    rw [if_pos h3, if_pos h3, if_neg this]; simp [u8, UInt8.or_comm]
  · have : c.val ≤ 0x10FFFF := by simp only [UInt32.le_iff_toNat_le, UInt32.reduceToNat]; omega
    rw [if_neg h3, if_neg h3, if_pos this]; simp [u8, UInt8.or_comm]

theorem encodeUtf8_none (cp : UInt32) :
    encodeUtf8 cp = none ↔ (0xD800 ≤ cp.toNat ∧ cp.toNat ≤ 0xDFFF) ∨ 0x10FFFF < cp.toNat := by
  unfold encodeUtf8
  simp only [UInt32.le_iff_toNat_le, UInt32.reduceToNat, ge_iff_le, Bool.and_eq_true, decide_eq_true_eq]
  by_cases h1 : cp.toNat ≤ 127
  · rw [if_pos h1]; exact ⟨nofun, fun h => by omega⟩
  rw [if_neg h1]
  by_cases h2 : cp.toNat ≤ 2047
  · rw [if_pos h2]; exact ⟨nofun, fun h => by omega⟩
  rw [if_neg h2]
  by_cases h3 : cp.toNat ≤ 65535
  · rw [if_pos h3]
    by_cases h4 : 55296 ≤ cp.toNat ∧ cp.toNat ≤ 57343
    · rw [if_pos h4]; exact ⟨fun _ => .inl h4, fun _ => rfl⟩
    · rw [if_neg h4]; exact ⟨nofun, fun h => by omega⟩
  rw [if_neg h3]
  by_cases h5 : cp.toNat ≤ 1114111
  · rw [if_pos h5]; exact ⟨nofun, fun h => by omega⟩
  · rw [if_neg h5]; exact ⟨fun _ => .inr (by omega), fun _ => rfl⟩

/-- the predefined entities of XML 1.0 §4.6, stated independently of the header's chain -/
def fiveEntities : List (Bytes × UInt8) :=
  [([0x6C, 0x74], 0x3C), ([0x67, 0x74], 0x3E), ([0x61, 0x6D, 0x70], 0x26), ([0x61, 0x70, 0x6F, 0x73], 0x27),
   ([0x71, 0x75, 0x6F, 0x74], 0x22)]

/-- `Dec inp out`: `out` is `inp` with every reference replaced — literal bytes copied, `&name;` for the five predefined names
replaced by their character, `&#…;` replaced by the UTF-8 encoding of the code point the digits denote.  Nothing else is a
reference: there is no rule for any other `&name;`. -/
inductive Dec : Bytes → Bytes → Prop where
  | nil : Dec [] []
  | lit (ch : UInt8) (r o : Bytes) : ch ≠ 0x26 → Dec r o → Dec (ch :: r) (ch :: o)
  | named (name : Bytes) (b : UInt8) (r o : Bytes) : (name, b) ∈ fiveEntities → Dec r o →
      Dec (0x26 :: name ++ 0x3B :: r) (b :: o)
  | numeric (body : Bytes) (cp : UInt32) (u r o : Bytes) : 0x3B ∉ body → charRefCode (0x23 :: body) = some cp →
      encodeUtf8 cp = some u → Dec r o → Dec (0x26 :: 0x23 :: body ++ 0x3B :: r) (u ++ o)

theorem findByte_eq (b : UInt8) : ∀ r : Bytes, findByte b r = r.findIdx? (· == b)
  | [] => rfl
  | ch :: r => by
    simp only [findByte, List.findIdx?_cons, findByte_eq b r, beq_iff_eq]
    split
    · rfl
    · cases r.findIdx? (· == b) <;> rfl

theorem findByte_split (b : UInt8) (r : Bytes) (k : Nat) (h : findByte b r = some k) :
    r = r.take k ++ b :: r.drop (k + 1) ∧ b ∉ r.take k ∧ k < r.length := by
  rw [findByte_eq, List.findIdx?_eq_some_iff_getElem] at h
  obtain ⟨hk, hb, hno⟩ := h
  refine ⟨?_, fun hm => ?_, hk⟩
  · rw [← beq_iff_eq.1 hb, List.getElem_cons_drop, List.take_append_drop]
  · obtain ⟨j, hj, rfl⟩ := List.mem_take_iff_getElem.1 hm
    exact hno j (by omega) (beq_self_eq_true _)

theorem findByte_none (b : UInt8) (r : Bytes) : findByte b r = none ↔ b ∉ r := by
  rw [findByte_eq, List.findIdx?_eq_none_iff]
  exact ⟨fun h hm => by simpa using h b hm, fun h x hx => beq_false_of_ne fun e => h (e ▸ hx)⟩

theorem findByte_append (b : UInt8) (name post : Bytes) (h : b ∉ name) : findByte b (name ++ b :: post) = some name.length := by
  rw [findByte_eq, List.findIdx?_append, ← findByte_eq, (findByte_none b name).2 h, List.findIdx?_cons, if_pos (beq_self_eq_true b)]
  simp

theorem splitQName_some (name : Bytes) (k l : Nat) (h : splitQName name = some (k, l)) :
    ∃ pre loc, name = pre ++ 0x3A :: loc ∧ pre.length = k ∧ loc.length = l ∧ 0x3A ∉ pre := by
  unfold splitQName at h
  split at h
  · cases h
  · rename_i k' hk
    simp only [Option.some.injEq, Prod.mk.injEq] at h
    obtain ⟨rfl, rfl⟩ := h
    obtain ⟨h1, h2, h3⟩ := findByte_split _ _ _ hk
    refine ⟨name.take k', name.drop (k' + 1), h1, ?_, ?_, h2⟩
    · simp; omega
    · simp

theorem splitQName_none (name : Bytes) (h : splitQName name = none) : 0x3A ∉ name := by
  unfold splitQName at h
  split at h
  · exact (findByte_none _ _).1 ‹_›
  · cases h

theorem splitQName_roundtrip (pre loc : Bytes) (h : 0x3A ∉ pre) :
    splitQName (pre ++ 0x3A :: loc) = some (pre.length, loc.length) := by
  unfold splitQName
  rw [findByte_append _ pre loc h]
  simp; omega

theorem predefined_mem (ent : Bytes) (b : UInt8) (h : predefined ent = some b) : (ent, b) ∈ fiveEntities := by
  unfold predefined at h
  simp only [Gen.Xml.entityBytes, List.find?] at h
  split at h
  · rename_i e heq
    cases h
    repeat' split at heq
    all_goals cases heq
    all_goals (rename_i hb; have := eq_of_beq hb; subst this; decide)
  · cases h

theorem predefined_none_of_not_five (ent : Bytes) (h : ∀ b, (ent, b) ∉ fiveEntities) : predefined ent = none := by
  cases hp : predefined ent with
  | none => rfl
  | some b => exact (h b (predefined_mem ent b hp)).elim

theorem predefined_of_five (ent : Bytes) (b : UInt8) (h : (ent, b) ∈ fiveEntities) : predefined ent = some b := by
  simp only [fiveEntities, List.mem_cons, Prod.mk.injEq, List.mem_nil_iff, or_false] at h
  rcases h with ⟨rfl, rfl⟩ | ⟨rfl, rfl⟩ | ⟨rfl, rfl⟩ | ⟨rfl, rfl⟩ | ⟨rfl, rfl⟩ <;> decide

/-- the three ways a value can fail to decode -/
def ErrKind.isDecode : ErrKind → Bool
  | .unterminatedEntity | .badCharRef | .unknownEntity => true
  | _ => false

theorem decodeLoop_spec : ∀ (fuel : Nat) (r : Bytes) (i : Nat) (acc : Bytes), r.length < fuel →
    (∃ o', decodeLoop fuel r i acc = .ok (acc ++ o') ∧ Dec r o') ∨
    (∃ e off, decodeLoop fuel r i acc = .err e off ∧ e.isDecode = true) := by
  intro fuel
  induction fuel with
  | zero => intro r i acc h; omega
  | succ fuel ih =>
    intro r i acc hlen
    -- one more round of the loop on `r'`, after `d` was appended for the consumed prefix: `Dec r' o' → Dec r (d ++ o')`
    have round : ∀ (r' : Bytes) (i' : Nat) (d : Bytes), r'.length < fuel → (∀ o', Dec r' o' → Dec r (d ++ o')) →
        (∃ o', decodeLoop fuel r' i' (acc ++ d) = .ok (acc ++ o') ∧ Dec r o') ∨
        (∃ e off, decodeLoop fuel r' i' (acc ++ d) = .err e off ∧ e.isDecode = true) := by
      intro r' i' d hl hdec
      rcases ih r' i' (acc ++ d) hl with ⟨o', h1, h2⟩ | h
      · exact .inl ⟨d ++ o', by rw [h1, List.append_assoc], hdec o' h2⟩
      · exact .inr h
    cases r with
    | nil => exact .inl ⟨[], by simp [decodeLoop], Dec.nil⟩
    | cons ch t =>
      rw [List.length_cons] at hlen
      unfold decodeLoop
      by_cases hch : ch ≠ 0x26
      · rw [if_pos hch]; exact round t _ [ch] (by omega) fun o' h => Dec.lit ch t o' hch h
      rw [if_neg hch]
      cases Decidable.not_not.1 hch
      cases hk : findByte 0x3B t with
      | none => exact .inr ⟨_, _, rfl, rfl⟩
      | some k =>
        obtain ⟨hsplit, hnot, hlt⟩ := findByte_split _ _ _ hk
        have hl : (t.drop (k + 1)).length < fuel := by rw [List.length_drop]; omega
        dsimp only
        cases hp : predefined (t.take k) with
        | some b =>
          refine round _ _ [b] hl fun o' h => ?_
          rw [hsplit]; exact Dec.named _ b _ o' (predefined_mem _ _ hp) h
        | none =>
          dsimp only
          split
          · rename_i body hbody
            cases hu : appendCharRef (t.take k) with
            | none => exact .inr ⟨_, _, rfl, rfl⟩
            | some u =>
              refine round _ _ u hl fun o' h => ?_
              rw [hbody] at hu hnot
              unfold appendCharRef at hu
              cases hcode : charRefCode (0x23 :: body) with
              | none => rw [hcode] at hu; cases hu
              | some code =>
                rw [hcode] at hu
                rw [hsplit, hbody]
                exact Dec.numeric body code u _ o' (fun hm => hnot (List.mem_cons_of_mem _ hm)) hcode hu h
          · exact .inr ⟨_, _, rfl, rfl⟩

theorem decodeEntities_spec (inp : Bytes) :
    (∃ out, decodeEntities inp = .ok out ∧ Dec inp out) ∨ (∃ e off, decodeEntities inp = .err e off ∧ e.isDecode = true) := by
  simpa [decodeEntities] using decodeLoop_spec (inp.length + 1) inp 0 [] (Nat.lt_succ_self _)

theorem decodeEntities_sound (inp out : Bytes) (h : decodeEntities inp = .ok out) : Dec inp out := by
  rcases decodeEntities_spec inp with ⟨o', h1, h2⟩ | ⟨e, off, h1, _⟩
  · cases h.symm.trans h1; exact h2
  · cases h.symm.trans h1

theorem decodeEntities_ne_fuel (inp : Bytes) : decodeEntities inp ≠ .fuel := by
  intro h
  rcases decodeEntities_spec inp with ⟨o', h1, _⟩ | ⟨e, off, h1, _⟩ <;> cases h.symm.trans h1

theorem decodeEntities_err_kind (inp : Bytes) (e : ErrKind) (off : Nat) (h : decodeEntities inp = .err e off) :
    e.isDecode = true := by
  rcases decodeEntities_spec inp with ⟨o', h1, _⟩ | ⟨e', off', h1, h2⟩
  · cases h.symm.trans h1
  · cases h.symm.trans h1; exact h2

theorem decodeLoop_literal : ∀ (pre r : Bytes) (fuel i : Nat) (acc : Bytes), 0x26 ∉ pre →
    decodeLoop (fuel + pre.length) (pre ++ r) i acc = decodeLoop fuel r (i + pre.length) (acc ++ pre) := by
  intro pre
  induction pre with
  | nil => intro r fuel i acc _; simp
  | cons ch p ih =>
    intro r fuel i acc h
    simp only [List.mem_cons, not_or] at h
    have : fuel + (ch :: p).length = (fuel + p.length) + 1 := by simp; omega
    rw [this]
    simp only [List.cons_append, decodeLoop]
    rw [if_pos (fun hh => h.1 hh.symm), ih r fuel (i + 1) (acc ++ [ch]) h.2]
    simp [Nat.add_assoc, Nat.add_comm 1]

theorem decode_unknown_entity (pre name post : Bytes) (hpre : 0x26 ∉ pre) (hname : 0x3B ∉ name)
    (hfive : ∀ b, (name, b) ∉ fiveEntities) (hnum : name.head? ≠ some 0x23) :
    decodeEntities (pre ++ 0x26 :: name ++ 0x3B :: post) = .err .unknownEntity pre.length := by
  unfold decodeEntities
  have hlen : (pre ++ 0x26 :: name ++ 0x3B :: post).length + 1 = (name.length + post.length + 2 + 1) + pre.length := by
    simp; omega
  rw [hlen]
  have : pre ++ 0x26 :: name ++ 0x3B :: post = pre ++ (0x26 :: (name ++ 0x3B :: post)) := by simp
  rw [this, decodeLoop_literal pre _ _ 0 [] hpre]
  simp only [decodeLoop, ne_eq, not_true_eq_false, ↓reduceIte, Nat.zero_add]
  rw [findByte_append _ name post hname]
  simp only [List.take_left']
  rw [predefined_none_of_not_five name hfive]
  simp only
  cases name with
  | nil => rfl
  | cons x xs =>
    simp only [List.head?_cons, ne_eq, Option.some.injEq] at hnum
    split
    · rename_i heq; cases heq; exact (hnum rfl).elim
    · rfl

theorem five_name_ok (name : Bytes) (b : UInt8) (h : (name, b) ∈ fiveEntities) : 0x3B ∉ name ∧ name.head? ≠ some 0x23 := by
  simp only [fiveEntities, List.mem_cons, Prod.mk.injEq, List.mem_nil_iff, or_false] at h
  rcases h with ⟨rfl, rfl⟩ | ⟨rfl, rfl⟩ | ⟨rfl, rfl⟩ | ⟨rfl, rfl⟩ | ⟨rfl, rfl⟩ <;> decide

theorem decodeLoop_complete : ∀ (r o : Bytes), Dec r o → ∀ (fuel i : Nat) (acc : Bytes), r.length < fuel →
    decodeLoop fuel r i acc = .ok (acc ++ o) := by
  intro r o h
  induction h with
  | nil =>
    intro fuel i acc hf
    cases fuel with
    | zero => omega
    | succ f => simp [decodeLoop]
  | lit ch r o hch _ ih =>
    intro fuel i acc hf
    cases fuel with
    | zero => omega
    | succ f =>
      simp only [decodeLoop, hch, ne_eq, not_false_eq_true, ↓reduceIte]
      rw [ih f (i + 1) (acc ++ [ch]) (by simp at hf; omega)]
      simp
  | named name b r o hmem _ ih =>
    intro fuel i acc hf
    cases fuel with
    | zero => omega
    | succ f =>
      obtain ⟨hsemi, _⟩ := five_name_ok name b hmem
      simp only [List.cons_append, decodeLoop, ne_eq, not_true_eq_false, ↓reduceIte]
      rw [findByte_append _ name r hsemi]
      simp only [List.take_left', predefined_of_five name b hmem]
      have hdrop : (name ++ 0x3B :: r).drop (name.length + 1) = r := by
        rw [← List.drop_drop]; simp
      rw [hdrop, ih f _ _ (by simp at hf; omega)]
      simp
  | numeric body cp u r o hsemi hcode henc _ ih =>
    intro fuel i acc hf
    cases fuel with
    | zero => omega
    | succ f =>
      have hs : (0x3B : UInt8) ∉ (0x23 : UInt8) :: body := by
        simp only [List.mem_cons, not_or]; exact ⟨by decide, hsemi⟩
      have hrw : (0x26 : UInt8) :: 0x23 :: body ++ 0x3B :: r = 0x26 :: ((0x23 :: body) ++ 0x3B :: r) := by simp
      rw [hrw]
      simp only [decodeLoop, ne_eq, not_true_eq_false, ↓reduceIte]
      rw [findByte_append _ (0x23 :: body) r hs]
      simp only [List.take_left']
      rw [predefined_none_of_not_five _ fun b h => by simpa using (five_name_ok _ b h).2]
      have happ : appendCharRef (0x23 :: body) = some u := by
        unfold appendCharRef; rw [hcode]; exact henc
      simp only [happ]
      have hdrop : ((0x23 :: body) ++ 0x3B :: r).drop ((0x23 :: body).length + 1) = r := by
        rw [← List.drop_drop]; simp
      rw [hdrop, ih f _ _ (by simp at hf; omega)]
      simp

theorem decodeEntities_complete (inp out : Bytes) (h : Dec inp out) : decodeEntities inp = .ok out := by
  have := decodeLoop_complete inp out h (inp.length + 1) 0 [] (by omega)
  simpa [decodeEntities] using this

/-- value of a decimal digit -/
def decDigit (c : UInt8) : Option Nat := if 0x30 ≤ c.toNat ∧ c.toNat ≤ 0x39 then some (c.toNat - 0x30) else none

/-- value of a hexadecimal digit, either case -/
def hexDigit? (c : UInt8) : Option Nat :=
  if 0x30 ≤ c.toNat ∧ c.toNat ≤ 0x39 then some (c.toNat - 0x30)
  else if 0x61 ≤ c.toNat ∧ c.toNat ≤ 0x66 then some (c.toNat - 0x61 + 10)
  else if 0x41 ≤ c.toNat ∧ c.toNat ≤ 0x46 then some (c.toNat - 0x41 + 10)
  else none

/-- the number a digit string denotes in base `b` (unbounded), continuing from `acc`; `none` if a byte is not a digit -/
def numValue (b : Nat) (dv : UInt8 → Option Nat) : Bytes → Nat → Option Nat
  | [], acc => some acc
  | c :: r, acc =>
    match dv c with
    | none => none
    | some d => numValue b dv r (acc * b + d)

theorem hexDigitVal_eq : ∀ c : UInt8, hexDigitVal c = (hexDigit? c).map UInt32.ofNat ∧ (∀ d, hexDigit? c = some d → d < 16) :=
  forall_u8 (by decide +kernel)

/-- the digit test of `decAcc` and the value it adds -/
theorem decDigit_eq : ∀ c : UInt8, (c < 0x30 || c > 0x39) = (decDigit c).isNone ∧
    (∀ d, decDigit c = some d → d < 10 ∧ (c - 0x30).toUInt32 = UInt32.ofNat d) :=
  forall_u8 (by decide +kernel)

theorem shl4_or (acc d : Nat) (hd : d < 16) : (UInt32.ofNat acc <<< 4) ||| UInt32.ofNat d = UInt32.ofNat (acc * 16 + d) := by
  apply UInt32.toNat_inj.mp
  simp only [UInt32.toNat_or, UInt32.toNat_shiftLeft, UInt32.toNat_ofNat', UInt32.reduceToNat, Nat.reduceMod, Nat.shiftLeft_eq]
  -- the shift leaves the low four bits zero, so `|||` with `d < 2 ^ 4` is `+`
  have h1 : acc % 4294967296 * 2 ^ 4 % 4294967296 = 2 ^ 4 * (acc % 268435456) := by omega
  have h2 : d % 4294967296 = d := by omega
  rw [h1, h2, ← Nat.two_pow_add_eq_or_of_lt (by omega : d < 2 ^ 4)]
  omega

theorem hexAcc_value : ∀ (r : Bytes) (acc : Nat), hexAcc r (UInt32.ofNat acc) = (numValue 16 hexDigit? r acc).map UInt32.ofNat := by
  intro r
  induction r with
  | nil => intro acc; simp [hexAcc, numValue]
  | cons c r ih =>
    intro acc
    obtain ⟨h1, h2⟩ := hexDigitVal_eq c
    simp only [hexAcc, numValue, h1]
    cases hd : hexDigit? c with
    | none => simp
    | some d =>
      simp only [Option.map_some]
      rw [shl4_or acc d (h2 d hd), ih]

theorem decAcc_value : ∀ (r : Bytes) (acc : Nat), decAcc r (UInt32.ofNat acc) = (numValue 10 decDigit r acc).map UInt32.ofNat := by
  intro r
  induction r with
  | nil => intro acc; simp [decAcc, numValue]
  | cons c r ih =>
    intro acc
    obtain ⟨h1, h2⟩ := decDigit_eq c
    simp only [decAcc, numValue, h1]
    cases hd : decDigit c with
    | none => simp
    | some d =>
      simp only [Option.isNone_some, Bool.false_eq_true, ↓reduceIte, (h2 d hd).2]
      rw [← ih]
      congr 1
      apply UInt32.toNat_inj.mp
      simp only [UInt32.toNat_add, UInt32.toNat_mul, UInt32.toNat_ofNat', UInt32.reduceToNat]
      omega

/-- **what a numeric reference denotes** (here `&#x…;`, in `charRefCode_dec` `&#…;`): the digits' value, reduced modulo 2^32 (the
`uint32_t` accumulator wraps) -/
theorem charRefCode_hex (x : UInt8) (ds : Bytes) (hx : x = 0x78 ∨ x = 0x58) :
    charRefCode (0x23 :: x :: ds) = (numValue 16 hexDigit? ds 0).map UInt32.ofNat := by
  have := hexAcc_value ds 0
  rcases hx with h | h <;> subst h <;> simpa [charRefCode] using this

theorem charRefCode_dec (x : UInt8) (ds : Bytes) (hx : x ≠ 0x78 ∧ x ≠ 0x58) :
    charRefCode (0x23 :: x :: ds) = (numValue 10 decDigit (x :: ds) 0).map UInt32.ofNat := by
  have := decAcc_value (x :: ds) 0
  simp only [charRefCode, hx.1, hx.2, decide_false, Bool.or_self, Bool.false_eq_true, ↓reduceIte]
  simpa using this

end Iora.Xml
