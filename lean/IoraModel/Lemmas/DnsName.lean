import IoraModel.Spec.DnsWire
import IoraModel.Lemmas.Dns
/-! N1 for C19: `decodeName` answers `ok` exactly on the well-formed names (`WellFormedName`: the RFC 1035 relation `DenotesH` with the
length limit and the bound on pointers), with exactly their labels (`decodeName_sound`, `decodeName_post`); for arbitrary bytes it
reads nothing out of range and its fuel suffices (`decodeName_post`); so a name without a derivation is an error (`decodeName_error`). -/
namespace Iora.Dns
open Iora

theorem Denotes.toH {m : Bytes} {off : Nat} {ls : List Bytes} {nx : Nat} (hd : Denotes m off ls nx) :
    ∃ h, DenotesH m off ls nx h := by
  induction hd with
  | root h0 => exact ⟨0, .root h0⟩
  | label hb h1 h63 hlen _ ih => obtain ⟨h, hh⟩ := ih; exact ⟨h, .label hb h1 h63 hlen hh⟩
  | ptr hb h192 hb2 _ ih => obtain ⟨h, hh⟩ := ih; exact ⟨h + 1, .ptr hb h192 hb2 hh⟩

theorem DenotesH.toDenotes {m : Bytes} {off : Nat} {ls : List Bytes} {nx h : Nat} (hd : DenotesH m off ls nx h) :
    Denotes m off ls nx := by
  induction hd with
  | root h0 => exact .root h0
  | label hb h1 h63 hlen _ ih => exact .label hb h1 h63 hlen ih
  | ptr hb h192 hb2 _ ih => exact .ptr hb h192 hb2 ih

/-- `Denotes` with the number of decoding steps `k` (labels + pointer hops) and of pointer hops `h` made explicit -/
inductive DenotesN (m : Bytes) : Nat → List Bytes → Nat → Nat → Nat → Prop
  | root {off : Nat} : m[off]? = some 0 → DenotesN m off [] (off + 1) 0 0
  | label {off : Nat} {b : UInt8} {ls : List Bytes} {next k h : Nat} :
      m[off]? = some b → 1 ≤ b.toNat → b.toNat ≤ 63 → off + 1 + b.toNat ≤ m.length →
      DenotesN m (off + (b.toNat + 1)) ls next k h →
      DenotesN m off (slice m (off + 1) b.toNat :: ls) next (k + 1) h
  | ptr {off : Nat} {b b2 : UInt8} {ls : List Bytes} {nx k h : Nat} :
      m[off]? = some b → 192 ≤ b.toNat → m[off + 1]? = some b2 →
      DenotesN m ((b.toNat % 64) * 256 + b2.toNat) ls nx k h →
      DenotesN m off ls (off + 2) (k + 1) (h + 1)

theorem DenotesN.toDenotes {m : Bytes} {off : Nat} {ls : List Bytes} {nx k h : Nat} (hd : DenotesN m off ls nx k h) :
    Denotes m off ls nx := by
  induction hd with
  | root h0 => exact .root h0
  | label hb h1 h63 hlen _ ih => exact .label hb h1 h63 hlen ih
  | ptr hb h192 hb2 _ ih => exact .ptr hb h192 hb2 ih

theorem Denotes.off_lt {m : Bytes} {off : Nat} {ls : List Bytes} {nx : Nat} (h : Denotes m off ls nx) : off < m.length := by
  cases h with
  | root hb | label hb | ptr hb => exact (List.getElem?_eq_some_iff.mp hb).1

theorem Denotes.lt_next {m : Bytes} {off : Nat} {ls : List Bytes} {nx : Nat} (h : Denotes m off ls nx) : off < nx := by
  induction h with
  | root _ => omega
  | label _ _ _ _ _ ih => omega
  | ptr _ _ _ _ _ => omega

theorem lt_next_of_wellFormed {m : Bytes} {off nx : Nat} {ls : List Bytes} (h : WellFormedName m off ls nx) : off < nx := by
  obtain ⟨_, hd, _, _⟩ := h
  exact hd.toDenotes.lt_next

/-- the walk from an offset is deterministic; what the decoder's visited set needs of that is the number of pointers followed -/
theorem DenotesH.hops_eq {m : Bytes} {off : Nat} {ls : List Bytes} {nx h : Nat} (hd : DenotesH m off ls nx h) :
    ∀ {ls' : List Bytes} {nx' h' : Nat}, DenotesH m off ls' nx' h' → h = h' := by
  induction hd with
  | root h0 =>
    intro ls' nx' h' hd'
    cases hd' with
    | root _ => rfl
    | label hb h1 _ _ _ => rw [h0] at hb; cases hb; simp at h1
    | ptr hb h192 _ _ => rw [h0] at hb; cases hb; simp at h192
  | label hb h1 h63 hlen _ ih =>
    intro ls' nx' h' hd'
    cases hd' with
    | root h0 => rw [hb] at h0; cases h0; simp at h1
    | label hb' _ _ _ hrest =>
      rw [hb] at hb'; cases hb'
      exact ih hrest
    | ptr hb' h192 _ _ => rw [hb] at hb'; cases hb'; omega
  | ptr hb h192 hb2 _ ih =>
    intro ls' nx' h' hd'
    cases hd' with
    | root h0 => rw [hb] at h0; cases h0; simp at h192
    | label hb' _ h63 _ _ => rw [hb] at hb'; cases hb'; omega
    | ptr hb' _ hb2' hrest =>
      rw [hb] at hb'; cases hb'
      rw [hb2] at hb2'; cases hb2'
      rw [ih hrest]

/-- soundness of the loop from any reachable state.  A pointer target on the way has not been visited: from every visited
target at least as many pointers remain to be followed as from the current offset, and from the target one fewer. -/
theorem decodeGo_sound (m : Bytes) {off : Nat} {ls : List Bytes} {nx hops : Nat} (h : DenotesH m off ls nx hops) :
    ∀ (s : NSt), s.off = off →
      (∀ v ∈ s.visited, ∀ ls' nx' h', DenotesH m v ls' nx' h' → hops ≤ h') →
      s.total + wire ls + 1 ≤ 255 → s.jumps + hops ≤ Gen.Dns.maxJumps →
      ∀ f, pot s ≤ f → decodeGo m f s = .ok (joinFrom s.name ls, if s.jumped then s.orig else nx) := by
  induction h with
  | root h0 =>
    intro s hs _ _ _ f hf
    subst hs
    obtain ⟨f, rfl⟩ := succ_of_pot_le hf
    exact decodeGo_root h0 f
  | @label _ b _ _ _ hb h1 h63 hlen _ ih =>
    intro s hs hv ht hj f hf
    subst hs
    obtain ⟨f, rfl⟩ := succ_of_pot_le hf
    simp only [wire, slice_length hlen] at ht
    have hstep := Step.label hb h1 h63 hlen (by omega)
    -- `pot s' < pot s ≤ f + 1`: the fuel is only asked to cover the potential, so the same `f` serves the rest of the walk
    have := hstep.pot_lt
    exact (decodeGo_step hstep f).trans (ih (s.push m b.toNat) rfl hv (by rw [NSt.push_total]; omega) hj f (by omega))
  | @ptr _ b b2 _ _ _ hb h192 hb2 hrest ih =>
    intro s hs hv ht hj f hf
    subst hs
    obtain ⟨f, rfl⟩ := succ_of_pot_le hf
    have hstep := Step.ptr hb h192 hb2 hrest.toDenotes.off_lt
      (fun hmem => by have := hv _ hmem _ _ _ hrest; omega) (by omega)
    have := hstep.pot_lt
    exact (decodeGo_step hstep f).trans (ih (s.jump _) rfl
      (fun v hv' ls' nx' h' hd => by
        cases hv' with
        | head => exact Nat.le_of_eq (hrest.hops_eq hd)
        | tail _ hm => exact Nat.le_of_succ_le (hv v hm ls' nx' h' hd))
      ht (by rw [NSt.jump_jumps]; omega) f (by omega))

theorem decodeName_sound (m : Bytes) (off : Nat) (ls : List Bytes) (nx : Nat) (h : WellFormedName m off ls nx) :
    decodeName m off = .ok (dottedName ls, nx) := by
  obtain ⟨hops, hh, hj, hw⟩ := h
  exact decodeGo_sound m hh { off := off, orig := off } rfl (fun _ hv => nomatch hv) (by simpa using hw) (by simpa using hj) _
    (pot_init m off [])

/-- the name loop from any state within the limits, for arbitrary bytes, walked like any other parser: no read is out of range, the
fuel suffices (every iteration that goes round again uses up potential), and an accepted name has a derivation within the limits,
of which each such iteration is one rule -/
theorem decodeGo_post (m : Bytes) : ∀ (f : Nat) (s : NSt), s.total + 1 ≤ 255 → s.jumps ≤ Gen.Dns.maxJumps → pot s ≤ f →
    Post (fun r => ∃ ls nx' hops, DenotesH m s.off ls nx' hops ∧ r.1 = joinFrom s.name ls ∧
      r.2 = (if s.jumped then s.orig else nx') ∧ s.total + wire ls + 1 ≤ 255 ∧ s.jumps + hops ≤ Gen.Dns.maxJumps) (decodeGo m f s) := by
  intro f
  induction f with
  | zero => intro s _ _ hp; exact nomatch succ_of_pot_le hp
  | succ f ih =>
    intro s hs hjs hp
    rw [decodeGo]
    refine .ite (fun hlt => ?_) fun _ => .err _
    have hb := List.getElem?_eq_getElem hlt
    rw [rd_ok hlt]
    refine .ite (fun hptr => .ite (fun _ => .err _) fun _ => ?_) fun _ => .ite (fun h0 => ?_) fun _ => .ite (fun _ => .err _) fun h63 =>
      .ite (fun _ => .err _) fun hlen => ?_
    · -- `isPtr m[s.off]`, two bytes there: a compression pointer
      have hb2 := List.getElem?_eq_getElem (show s.off + 1 < m.length by omega)
      rw [rd16_ok (by omega)]
      dsimp only
      rw [ptr_value]
      refine .ite (fun _ => .err _) fun _ => .ite (fun _ => .err _) fun _ => .ite (fun _ => .err _) fun hj => ?_
      have hjm : s.jumps < Gen.Dns.maxJumps := Nat.lt_of_succ_le (by simpa [Gen.Dns.hasJumpCap] using hj)
      refine (ih (s.jump _) hs (Nat.succ_le_of_lt hjm) (Nat.le_of_lt_succ (Nat.lt_of_lt_of_le (pot_jump_lt _ hjm) hp))).mono ?_
      rintro r ⟨ls, nx', hops, hd, hn, hnx, ht, hj'⟩
      rw [NSt.jump_jumps] at hj'
      exact ⟨ls, s.off + 2, hops + 1, .ptr hb ((isPtr_iff _).mp hptr) hb2 hd, hn, hnx, ht, by omega⟩
    · -- `m[s.off] = 0`: the root label
      rw [show m[s.off] = 0 from UInt8.toNat_inj.mp h0] at hb
      exact .ok ⟨[], s.off + 1, 0, .root hb, rfl, rfl, by simp only [wire]; omega, by omega⟩
    · -- a label of 1..63 octets that lies inside the message
      rw [copy_ok (by omega)]
      refine .ite (fun _ => .err _) fun htot => ?_
      have htot : s.total + (m[s.off].toNat + 1) + 1 ≤ 255 := by
        have : rootOctet = 1 := rfl
        simp only [this, Gen.Dns.maxName] at htot; omega
      refine (ih (s.push m _) (by rw [NSt.push_total]; omega) hjs
        (Nat.le_of_lt_succ (Nat.lt_of_lt_of_le (pot_push_lt m (by omega) htot) hp))).mono ?_
      rintro r ⟨ls, nx', hops, hd, hn, hnx, ht, hj'⟩
      refine ⟨_ :: ls, nx', hops, .label hb (by omega) (Nat.le_of_not_lt h63) (by omega) hd, hn, hnx, ?_, hj'⟩
      rw [NSt.push_total] at ht
      simp only [wire, slice_length (show s.off + 1 + m[s.off].toNat ≤ m.length by omega)]
      omega

theorem decodeNameVisited_post (m : Bytes) (off : Nat) (visited : List Nat) :
    Post (fun r => ∃ ls, WellFormedName m off ls r.2 ∧ r.1 = dottedName ls) (decodeNameVisited m off visited) :=
  (decodeGo_post m _ _ (by decide : (0 : Nat) + 1 ≤ 255) (Nat.zero_le _) (pot_init m off visited)).mono
    fun _ ⟨ls, _, hops, hd, hn, hnx, ht, hj⟩ => ⟨ls, ⟨hops, hnx ▸ hd, by simpa using hj, by simpa using ht⟩, hn⟩

theorem decodeName_post (m : Bytes) (off : Nat) :
    Post (fun r => ∃ ls, WellFormedName m off ls r.2 ∧ r.1 = dottedName ls) (decodeName m off) :=
  decodeNameVisited_post m off []

theorem decodeName_error {m : Bytes} {off : Nat} (h : ∀ ls nx, ¬ Denotes m off ls nx) : ∃ e, decodeName m off = .error e := by
  cases hr : decodeName m off with
  | error e => exact ⟨e, rfl⟩
  | ok r =>
    obtain ⟨ls, ⟨_, hd, _, _⟩, _⟩ := (decodeName_post m off).of_ok hr
    exact absurd hd.toDenotes (h ls r.2)

/-- a pointer that points at itself starts no finite chain: the chain behind it would start at the same offset with one hop fewer
(`DenotesH.hops_eq`) -/
theorem no_self_loop {m : Bytes} {n : Nat} {b b2 : UInt8} (h0 : m[n]? = some b) (hp : 192 ≤ b.toNat) (h1 : m[n + 1]? = some b2)
    (hs : (b.toNat % 64) * 256 + b2.toNat = n) (ls : List Bytes) (nx : Nat) : ¬ Denotes m n ls nx := by
  intro hd
  obtain ⟨h, hh⟩ := hd.toH
  cases hh with
  | root hz => rw [h0] at hz; cases hz; simp at hp
  | label hb _ h63 => rw [h0] at hb; cases hb; omega
  | ptr hb _ hb2 hrest =>
    rw [h0] at hb; cases hb
    rw [h1] at hb2; cases hb2
    have hn : DenotesH m n ls _ _ := hs ▸ hrest
    exact absurd (hn.hops_eq (.ptr h0 hp h1 hrest)) (by omega)

theorem no_far_pointer {m : Bytes} {off : Nat} {b b2 : UInt8} (h0 : m[off]? = some b) (hp : 192 ≤ b.toNat) (h1 : m[off + 1]? = some b2)
    (hr : m.length ≤ (b.toNat % 64) * 256 + b2.toNat) (ls : List Bytes) (nx : Nat) : ¬ Denotes m off ls nx := by
  intro hd
  cases hd with
  | root hz => rw [h0] at hz; cases hz; simp at hp
  | label hb _ h63 _ _ => rw [h0] at hb; cases hb; omega
  | ptr hb _ hb2 hrest =>
    rw [h0] at hb; cases hb
    rw [h1] at hb2; cases hb2
    exact absurd hrest.off_lt (by omega)

theorem joinFrom_nonempty (ls : List Bytes) : ∀ (n : Bytes), n ≠ [] →
    joinFrom n ls = n ++ (ls.map (fun x => (46 : UInt8) :: x)).flatten := by
  induction ls with
  | nil => intro n _; simp [joinFrom]
  | cons l ls ih =>
    intro n hn
    have : appendLabel n l = n ++ 46 :: l := by
      cases n with
      | nil => exact absurd rfl hn
      | cons _ _ => rfl
    show joinFrom (appendLabel n l) ls = _
    rw [this, ih _ (by simp)]
    simp [List.append_assoc]

end Iora.Dns
