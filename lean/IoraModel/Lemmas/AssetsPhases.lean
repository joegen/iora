import IoraModel.Lemmas.AssetsRoots
/-!
C20: one lookup whose system calls see different file-system snapshots (`Snaps`).  What the environment may do in between
(`LeafOnly`; a file system at rest, for a `..`-free candidate, and one directory-preserving change at any of the five points are
instances); what resolve → contain → open then delivers, by location; the filesystem-mode lookups case by case; embedded mode.
-/
namespace Iora.Assets
open Iora

/-! ### how two snapshots may differ: directories kept, or a few locations only -/

def DirsPreserved (fsR fsO : Fs) : Prop := ∀ l, fsR.get l = some .dir → fsO.get l = some .dir

theorem dirsPreserved_refl (fs : Fs) : DirsPreserved fs fs := fun _ h => h

def AgreeOff (S : List Loc) (fsA fsB : Fs) : Prop := fsA.cwd = fsB.cwd ∧ ∀ l, l ∉ S → fsA.get l = fsB.get l

theorem agreeOff_refl (S : List Loc) (fs : Fs) : AgreeOff S fs fs := ⟨rfl, fun _ _ => rfl⟩

def leafLocs (resolved : Bytes) : List Loc := [locOf resolved, locOf (resolved ++ Gen.Assets.gzSuffix)]

theorem get_child_none (fs : Fs) (n : Name) (up : Loc) (h : fs.get up ≠ some .dir) : fs.get (n :: up) = none := by
  cases hg : fs.get up with
  | none => simp [Fs.get, hg]
  | some e =>
    cases e with
    | dir => exact absurd hg h
    | file d => simp [Fs.get, hg]
    | link t => simp [Fs.get, hg]

theorem lookup_filter_ne {β} (l : List (Loc × β)) (k loc : Loc) (h : k ≠ loc) :
    (l.filter (fun x => x.1 != loc)).lookup k = l.lookup k := by
  induction l with
  | nil => simp
  | cons x xs ih =>
    obtain ⟨k', v⟩ := x
    by_cases hk : k' = loc
    · subst hk
      have h1 : ((k', v) :: xs).filter (fun x => x.1 != k') = xs.filter (fun x => x.1 != k') := by simp
      have h2 : (k == k') = false := by simpa using h
      rw [h1, ih, List.lookup_cons, h2]
    · have h1 : ((k', v) :: xs).filter (fun x => x.1 != loc) = (k', v) :: xs.filter (fun x => x.1 != loc) := by simp [hk]
      rw [h1, List.lookup_cons, List.lookup_cons, ih]

theorem set_preserves_dirs (fs : Fs) (loc : Loc) (e : Entry) (h : fs.get loc ≠ some .dir) :
    DirsPreserved fs (fs.set loc e) := by
  intro l
  induction l with
  | nil => intro _; simp [Fs.get]
  | cons n up ih =>
    intro hg
    have hup : fs.get up = some .dir := get_parent hg
    have hne : n :: up ≠ loc := fun e' => h (e' ▸ hg)
    have hraw : fs.raw (n :: up) = some .dir := by simpa [Fs.get, hup] using hg
    simp only [Fs.get, ih hup]
    have h2 : ((n :: up) == loc) = false := by simpa using hne
    simp only [Fs.raw, Fs.set, List.lookup_cons, h2]
    rw [lookup_filter_ne _ _ _ hne]
    exact hraw

theorem set_get_self_not_dir (fs : Fs) (X : Loc) (e : Entry) (h1 : fs.get X ≠ some .dir) (h2 : e ≠ .dir) :
    (fs.set X e).get X ≠ some .dir := by
  cases X with
  | nil => simp [Fs.get] at h1
  | cons m up =>
    simp only [Fs.get]
    split
    · have : (fs.set (m :: up) e).raw (m :: up) = some e := by
        simp [Fs.raw, Fs.set]
      rw [this]
      intro h; injection h with h; exact h2 h
    · simp

theorem set_agreeOff (fs : Fs) (X : Loc) (e : Entry) (S : List Loc) (hX : X ∈ S) (h1 : fs.get X ≠ some .dir) (h2 : e ≠ .dir) :
    AgreeOff S fs (fs.set X e) := by
  refine ⟨rfl, ?_⟩
  have key : ∀ l, l ≠ X → fs.get l = (fs.set X e).get l := by
    intro l
    induction l with
    | nil => intro _; simp [Fs.get]
    | cons n up ih =>
      intro hne
      have hraw : (fs.set X e).raw (n :: up) = fs.raw (n :: up) := by
        have h2' : ((n :: up) == X) = false := by simpa using hne
        simp only [Fs.raw, Fs.set, List.lookup_cons, h2']
        exact lookup_filter_ne _ _ _ hne
      by_cases hup : up = X
      · subst hup
        have hnew := set_get_self_not_dir fs up e h1 h2
        have hA : fs.get (n :: up) = none := get_child_none fs n up h1
        have hB : (fs.set up e).get (n :: up) = none := get_child_none _ n up hnew
        rw [hA, hB]
      · simp only [Fs.get, ← ih hup, hraw]
  intro l hl
  exact key l (fun e' => hl (e' ▸ hX))

/-! ### the two branches of `weakly_canonical`, each with the open in a later snapshot -/

theorem readFile_trail_none (fs : Fs) (r : Bytes) (h0 : (0 : UInt8) ∉ r) (ha : isAbs r = true) (ht : trailSlash r = true) :
    readFile fs r = none := by
  cases h : readFile fs r with
  | none => rfl
  | some d =>
    obtain ⟨l, hk⟩ := readFile_some fs r d h
    obtain ⟨_, _, _, hw⟩ := kwalk_abs_ok fs false r h0 ha l _ hk
    rw [ht] at hw
    exact (hw.trail_nofile l d rfl).elim

theorem wcAt_cases (fsS fsC : Fs) (p r : Bytes) (h : weaklyCanonicalAt fsS fsC p = .ok r) :
    (∃ L e, kwalk fsC true p = .ok (L, e) ∧ r = renderLoc L) ∨
    (status fsS p = .notFound ∧ weaklyCanonical fsS p = .ok r) := by
  unfold weaklyCanonicalAt at h
  split at h
  · obtain ⟨L, e, hk, hr⟩ := canonical_ok fsC p r h
    exact Or.inl ⟨L, e, hk, hr⟩
  · rename_i hnf
    rcases wc_cases fsS p r h with ⟨L, e, hk, _⟩ | hs
    · exact absurd ((status_found_iff fsS p L e).mpr hk) (hnf L e)
    · exact Or.inr ⟨hs, h⟩

theorem wcAt_const (fs : Fs) (p : Bytes) : weaklyCanonicalAt fs fs p = weaklyCanonical fs p := by
  unfold weaklyCanonicalAt
  split
  · rename_i L e hs
    simp [weaklyCanonical, hs]
  · rfl

/-- **Canonical branch.** The request existed when `realpath` ran (snapshot `fsC`); whatever later snapshot the `open` sees, as
long as the directories of `fsC` are still directories there, it reads exactly the location `realpath` named. -/
theorem canon_open (fsC : Fs) (p : Bytes) (bn : List Name) (L : Loc) (e : Entry)
    (hp : AbsOK p) (hk : kwalk fsC true p = .ok (L, e))
    (hbn : ∀ n ∈ bn, Plain n) (hc : isContained (renderAbs bn) (renderLoc L) = true) :
    LocOK L ∧ fsC.get L = some e ∧ bn <+: L.reverse ∧
    (∀ fsO d, DirsPreserved fsC fsO → readFile fsO (renderLoc L) = some d → fsO.get L = some (.file d)) ∧
    (∀ last up, L = last :: up → ∀ fsZ g, DirsPreserved fsC fsZ → readFile fsZ (renderLoc L ++ Gen.Assets.gzSuffix) = some g →
      fsZ.get ((last ++ Gen.Assets.gzSuffix) :: up) = some (.file g)) := by
  obtain ⟨hg, hL, _, _⟩ := kwalk_abs_ok fsC true p hp.no_nul hp.abs L e hk
  have hpre : bn <+: L.reverse := (isContained_canonical bn _ hbn hL.reverse.plain).mp hc
  refine ⟨hL, hg, hpre, ?_, ?_⟩
  · intro fsO d hd hrd
    exact readFile_at_loc fsO _ d hL (hd _ (get_tail hg)) hrd
  · intro last up hLe fsZ g hd hrg
    subst hLe
    exact readFile_sibling fsZ last up g hL (hd _ (get_parent hg)) hrg

theorem leafLocs_renderLoc {last : Name} {up : Loc} (hL : LocOK (last :: up)) :
    leafLocs (renderLoc (last :: up)) = [last :: up, (last ++ Gen.Assets.gzSuffix) :: up] := by
  have h : ∀ {M : Loc}, LocOK M → locOf (renderLoc M) = M := fun hM => by
    rw [locOf, renderLoc_eq, comps_renderAbs _ hM.todo.names, List.reverse_reverse]
  rw [leafLocs, renderLoc_gz, h hL, h (locOK_gz hL)]

/-- **Missing branch.** The request did not exist when `weakly_canonical` ran (snapshot `fsS`).  If a later snapshot differs from
`fsS` only at the leaf of the resolved path (and of its `.gz` sibling) — the leaf was created, as a file or as a link, while the
lookup ran — an `open` that returns bytes returns the bytes of a regular file AT that leaf location, inside the root. -/
theorem missing_open (fsS fsO : Fs) (p r : Bytes) (bn : List Name) (hp : AbsOK p)
    (hs : status fsS p = .notFound) (hw : weaklyCanonical fsS p = .ok r)
    (hbn : ∀ n ∈ bn, Plain n) (hc : isContained (renderAbs bn) r = true)
    (hag : AgreeOff (leafLocs r) fsS fsO) (d : Bytes) (hrd : readFile fsO r = some d) :
    ∃ last up, r = renderLoc (last :: up) ∧ LocOK (last :: up) ∧ bn <+: (last :: up).reverse ∧
      fsO.get (last :: up) = some (.file d) ∧ fsS.get up = some .dir ∧
      leafLocs r = [last :: up, (last ++ Gen.Assets.gzSuffix) :: up] := by
  obtain ⟨M, tsl, hM, hr, _⟩ := wc_missing_normal fsS p r hp hs hw
  cases tsl with
  | true =>
    rw [hr, readFile_trail_none fsO _ (npath_no_nul true hM.todo) (isAbs_npath _ _) (by simp [npath, trailSlash])] at hrd
    cases hrd
  | false =>
    rw [npath_false, ← renderLoc_eq] at hr
    subst hr
    cases M with
    | nil => cases readFile_at_loc fsO [] d locOK_nil rfl hrd
    | cons last up =>
      have hleaf := leafLocs_renderLoc hM
      have hupeq : fsS.get up = fsO.get up := hag.2 up (by rw [hleaf]; simp)
      have hpre : bn <+: (last :: up).reverse := (isContained_canonical bn _ hbn hM.reverse.plain).mp hc
      -- if the parent of the leaf is no directory in `fsO`, the two file systems answer every `get` alike, and `fsS` has no file there
      by_cases hpar : fsO.get up = some .dir
      · exact ⟨last, up, rfl, hM, hpre, readFile_at_loc fsO _ d hM hpar hrd, hupeq ▸ hpar, hleaf⟩
      · exfalso
        have hall : ∀ l, fsS.get l = fsO.get l := by
          intro l
          by_cases hl : l ∈ leafLocs (renderLoc (last :: up))
          · rw [hleaf] at hl
            simp at hl
            rcases hl with rfl | rfl <;>
              rw [get_child_none fsS _ up (by rw [hupeq]; exact hpar), get_child_none fsO _ up hpar]
          · exact hag.2 l hl
        obtain ⟨l, hk⟩ := readFile_some fsO _ d hrd
        rw [← kwalk_ext fsS fsO hall hag.1] at hk
        exact wcMissingNoFile fsS p _ hp.abs hp.no_nul hp.no_dotdot hs hw false l d hk

/-! ### what the environment may do while one lookup runs -/

/-- **The environment during one lookup** of candidate `p` below the root `bn`:
* if the request exists when `realpath` runs, later snapshots only have to keep the directories of that snapshot directories —
  files may be replaced by links (the leaf swap), links re-targeted, files created and removed, at ANY point;
* if the request does not exist when `weakly_canonical` runs and a later `open` nevertheless returns bytes, the snapshots of the
  two opens differ from the resolution snapshot only at the leaf of the resolved path and of its `.gz` sibling (the leaf was
  created — as a file or as a link — while the lookup ran) and the root is a directory.  The last clause is read by
  `resolve_phases_inside` alone: `realpath` has not seen this request, so that it resolves strictly below the root comes from
  the root being a directory where a file was opened. -/
structure LeafOnly (sn : Snaps) (p : Bytes) (bn : List Name) : Prop where
  dirsO : DirsPreserved sn.c sn.o
  dirsZ : DirsPreserved sn.c sn.z
  missing : status sn.s p = .notFound → ∀ r, weaklyCanonical sn.s p = .ok r → ∀ d, readFile sn.o r = some d →
    AgreeOff (leafLocs r) sn.s sn.o ∧ AgreeOff (leafLocs r) sn.s sn.z ∧ sn.o.get bn.reverse = some .dir

/-- a file system at rest: the `missing` clause holds for want of a case, since the missing branch names no file (`wcMissingNoFile`) -/
theorem leafOnly_const (fs : Fs) (p : Bytes) (bn : List Name) (ha : isAbs p = true) (h0 : (0 : UInt8) ∉ p)
    (hdd : dotdot ∉ comps p) : LeafOnly (Snaps.const fs) p bn := by
  refine ⟨dirsPreserved_refl fs, dirsPreserved_refl fs, ?_⟩
  intro hs r hw d hrd
  exfalso
  obtain ⟨l, hk⟩ := readFile_some fs r d hrd
  exact wcMissingNoFile fs p r ha h0 hdd hs hw false l d hk

/-- One change of the file system, from `fs` to `fs'` just before any of the five points, is an admissible environment if it keeps
directories directories and, where the request did not exist at resolution time, differs only at the two leaves below a root that
is a directory before and after. -/
theorem leafOnly_switchAt (fs fs' : Fs) (pt : Point) (p : Bytes) (bn : List Name) (hd : DirsPreserved fs fs')
    (hm : status fs p = .notFound → ∀ r, weaklyCanonical fs p = .ok r →
      AgreeOff (leafLocs r) fs fs' ∧ fs.get bn.reverse = some .dir ∧ fs'.get bn.reverse = some .dir) :
    LeafOnly (Snaps.switchAt fs fs' pt) p bn := by
  -- at each point the snapshots compared are the same file system (first alternative) or `fs` and `fs'` (second)
  cases pt <;>
  · refine ⟨?_, ?_, ?_⟩
    · first | exact dirsPreserved_refl _ | exact hd
    · first | exact dirsPreserved_refl _ | exact hd
    · intro hs r hw d _
      obtain ⟨hag, hr1, hr2⟩ := hm hs r hw
      refine ⟨?_, ?_, ?_⟩
      · first | exact agreeOff_refl _ _ | exact hag
      · first | exact agreeOff_refl _ _ | exact hag
      · first | exact hr1 | exact hr2

/-- **Resolve → contain → open, by location.**  The disjunction says where strictness below the root will come from:
`resolve_phases_inside` gets it from what `realpath` saw at the location (left), or from the root being a directory where a file
was opened (right; `LeafOnly.missing`); embedded mode does not read it. -/
theorem resolve_phases_loc (sn : Snaps) (pre : Bytes) (bn : List Name) (name resolved : Bytes)
    (hpre : AbsOK pre) (hbn : ∀ n ∈ bn, Plain n) (hn : lexicallyRejected name = false)
    (hw : weaklyCanonicalAt sn.s sn.c (pathAppend pre name) = .ok resolved)
    (hc : isContained (renderAbs bn) resolved = true) (hL : LeafOnly sn (pathAppend pre name) bn)
    (d : Bytes) (hrd : readFile sn.o resolved = some d) :
    ∃ last up, sn.o.get (last :: up) = some (.file d) ∧ bn <+: (last :: up).reverse ∧
      ((∃ e, kwalk sn.c true (pathAppend pre name) = .ok (last :: up, e) ∧ sn.c.get (last :: up) = some e) ∨
        sn.o.get bn.reverse = some .dir) ∧
      (∀ g, readFile sn.z (resolved ++ Gen.Assets.gzSuffix) = some g →
        sn.z.get ((last ++ Gen.Assets.gzSuffix) :: up) = some (.file g)) := by
  have hcand := hpre.candidate hn
  rcases wcAt_cases sn.s sn.c _ _ hw with ⟨L, e, hk, hres⟩ | ⟨hs, hwm⟩
  · subst hres
    obtain ⟨hLok, hg, hpre, hmain, hgz⟩ := canon_open sn.c _ bn L e hcand hk hbn hc
    have hget := hmain sn.o d hL.dirsO hrd
    cases L with
    | nil => simp [Fs.get] at hget
    | cons last up =>
      refine ⟨last, up, hget, hpre, Or.inl ⟨e, hk, hg⟩, ?_⟩
      intro g hrg
      exact hgz last up rfl sn.z g hL.dirsZ hrg
  · obtain ⟨hagO, hagZ, hrootdir⟩ := hL.missing hs resolved hwm d hrd
    obtain ⟨last, up, hr, hLok, hpre, hget, hup, hleaf⟩ :=
      missing_open sn.s sn.o _ resolved bn hcand hs hwm hbn hc hagO d hrd
    refine ⟨last, up, hget, hpre, Or.inr hrootdir, ?_⟩
    intro g hrg
    subst hr
    exact readFile_sibling sn.z last up g hLok (by rw [← hagZ.2 up (by rw [hleaf]; simp)]; exact hup) hrg

theorem prefix_of_prefix_snoc_ne {α} (a xs : List α) (x : α) (h : a <+: xs ++ [x]) (hne : xs ++ [x] ≠ a) : a <+: xs := by
  obtain ⟨t, ht⟩ := h
  rcases List.eq_nil_or_concat t with rfl | ⟨t', y, rfl⟩
  · simp at ht; exact absurd ht.symm hne
  · rw [List.concat_eq_append, ← List.append_assoc] at ht
    have := List.append_inj' ht (by simp)
    exact ⟨t', this.1⟩

theorem inside_sibling {fs : Fs} {bn : List Name} {last last' : Name} {up : Loc} {g : Bytes}
    (hpre : bn <+: (last :: up).reverse) (hne : (last :: up).reverse ≠ bn) (hg : fs.get (last' :: up) = some (.file g)) :
    Inside fs bn g := by
  have hp : bn <+: up.reverse := prefix_of_prefix_snoc_ne bn up.reverse last (by simpa using hpre) (by simpa using hne)
  refine ⟨last' :: up, hg, ?_, ?_⟩
  · simp only [List.reverse_cons]
    exact List.IsPrefix.trans hp (List.prefix_append _ _)
  · intro e
    have h1 := hp.length_le
    have h2 := congrArg List.length e
    simp at h1 h2
    omega

/-- filesystem mode: the root is also the candidate's prefix, so `strict_of_candidate` applies in the canonical branch -/
theorem resolve_phases_inside (sn : Snaps) (root : Bytes) (bn : List Name) (hroot : RootOK root bn)
    (name resolved : Bytes) (hn : lexicallyRejected name = false)
    (hw : weaklyCanonicalAt sn.s sn.c (pathAppend root name) = .ok resolved)
    (hc : isContained root resolved = true) (hL : LeafOnly sn (pathAppend root name) bn)
    (d : Bytes) (hrd : readFile sn.o resolved = some d) :
    Inside sn.o bn d ∧ ∀ g, readFile sn.z (resolved ++ Gen.Assets.gzSuffix) = some g → Inside sn.z bn g := by
  obtain ⟨last, up, hget, hpre, hwhy, hgz⟩ :=
    resolve_phases_loc sn root bn name resolved hroot.absOK hroot.locOK.plain hn hw (hroot.eq ▸ hc) hL d hrd
  have hstrict : (last :: up).reverse ≠ bn := by
    rcases hwhy with ⟨e, hk, hge⟩ | hdir
    · cases e with
      | dir =>
        intro _
        have := hL.dirsO _ hge
        rw [hget] at this; cases this
      | file d0 => exact strict_of_candidate sn.c root bn hroot name hn last up d0 hk
      | link t => exact absurd rfl ((hroot.absOK.candidate hn).kwalk_no_link hk t)
    · intro e'
      rw [← e', List.reverse_reverse, hget] at hdir
      cases hdir
  exact ⟨⟨last :: up, hget, hpre, hstrict⟩, fun g hrg => inside_sibling hpre hstrict (hgz g hrg)⟩

/-! ### file system at rest: the bytes are those of THE NAMED file -/

theorem resolve_named_const (fs : Fs) (root : Bytes) (bn : List Name) (hroot : RootOK root bn) (name resolved : Bytes)
    (hn : lexicallyRejected name = false) (hw : weaklyCanonicalAt fs fs (pathAppend root name) = .ok resolved)
    (hc : isContained root resolved = true) (hr : isRegularFile fs resolved = true) :
    ∃ last up d0, kwalk fs true (pathAppend root name) = .ok (last :: up, .file d0) ∧
      bn <+: (last :: up).reverse ∧ (last :: up).reverse ≠ bn ∧
      (∀ d, readFile fs resolved = some d → d = d0) ∧
      (∀ g, readFile fs (resolved ++ Gen.Assets.gzSuffix) = some g →
        fs.get ((last ++ Gen.Assets.gzSuffix) :: up) = some (.file g)) := by
  have hcand := hroot.absOK.candidate hn
  rcases wcAt_cases fs fs _ _ hw with ⟨L, e, hk, hres⟩ | ⟨hs, hwm⟩
  · subst hres
    obtain ⟨hLok, hg, hpre, hmain, hgz⟩ := canon_open fs _ bn L e hcand hk hroot.locOK.plain (hroot.eq ▸ hc)
    obtain ⟨d0, he⟩ := isRegularFile_canon fs L e hLok hg (hcand.kwalk_no_link hk) hr
    subst he
    cases L with
    | nil => simp [Fs.get] at hg
    | cons last up =>
      refine ⟨last, up, d0, hk, hpre, strict_of_candidate fs root bn hroot name hn last up d0 hk, ?_, ?_⟩
      · intro d hd
        have := hmain fs d (dirsPreserved_refl fs) hd
        rw [hg] at this
        injection this with this; injection this with this; exact this.symm
      · intro g hg'
        exact hgz last up rfl fs g (dirsPreserved_refl fs) hg'
  · exfalso
    obtain ⟨L, d, hk⟩ := (isRegularFile_iff fs resolved).mp hr
    exact wcMissingNoFile fs _ _ hcand.abs hcand.no_nul hcand.no_dotdot hs hwm true L d hk

/-! ### the two filesystem-mode lookups, case by case -/

theorem buildEntryAt_some {fsO fsG fsZ : Fs} {file : Bytes} {e : CacheEntry} (h : buildEntryAt fsO fsG fsZ file = some e) :
    readFile fsO file = some e.bytes ∧ ∀ g, e.gz = some g → readFile fsZ (file ++ Gen.Assets.gzSuffix) = some g := by
  unfold buildEntryAt at h
  split at h
  · cases h
  · cases h
    refine ⟨‹_›, fun g hg => ?_⟩
    split at hg
    · exact hg
    · cases hg

/-- **`getStaticFilesystem`, all of it.** No blob and the state as it was; or the request was validated (resolved, contained, a
regular file) and the blob is the cached entry of this name (state unchanged) or was built from the resolved path (and, in
cached mode, is now the entry of this name). -/
theorem getStaticFilesystemAt_cases (sn : Snaps) (st : FsState) (path : Bytes) :
    ((∀ b, (getStaticFilesystemAt sn st path).1 ≠ .found b) ∧ (getStaticFilesystemAt sn st path).2 = st) ∨
    ∃ resolved, weaklyCanonicalAt sn.s sn.c (pathAppend st.staticsRoot path) = .ok resolved ∧
      isContained st.staticsRoot resolved = true ∧ isRegularFile sn.r resolved = true ∧
      ((∃ e, st.staticCache.lookup path = some e ∧ getStaticFilesystemAt sn st path = (.found (blobOf e path), st)) ∨
       (∃ e, buildEntryAt sn.o sn.g sn.z resolved = some e ∧ (getStaticFilesystemAt sn st path).1 = .found (blobOf e path) ∧
         ((getStaticFilesystemAt sn st path).2 = st ∨
          (getStaticFilesystemAt sn st path).2 = { st with staticCache := (path, e) :: st.staticCache }))) := by
  cases hw : weaklyCanonicalAt sn.s sn.c (pathAppend st.staticsRoot path) with
  | error _ => simp [getStaticFilesystemAt, hw]
  | ok resolved =>
    cases hc : isContained st.staticsRoot resolved with
    | false => simp [getStaticFilesystemAt, hw, hc]
    | true =>
      cases hr : isRegularFile sn.r resolved with
      | false => simp [getStaticFilesystemAt, hw, hc, hr]
      | true =>
        cases hp : st.perRequest <;> cases hl : st.staticCache.lookup path <;>
          cases hb : buildEntryAt sn.o sn.g sn.z resolved <;> simp [getStaticFilesystemAt, hw, hc, hr, hp, hl, hb]

theorem getTemplateFilesystemAt_cases (sn : Snaps) (st : FsState) (name : Bytes) :
    ((getTemplateFilesystemAt sn st name).1 = none ∧ (getTemplateFilesystemAt sn st name).2 = st) ∨
    ∃ resolved, weaklyCanonicalAt sn.s sn.c (pathAppend st.templatesRoot name) = .ok resolved ∧
      isContained st.templatesRoot resolved = true ∧ isRegularFile sn.r resolved = true ∧
      ((∃ d, st.templateCache.lookup name = some d ∧ getTemplateFilesystemAt sn st name = (some d, st)) ∨
       (∃ d, readFile sn.o resolved = some d ∧
         getTemplateFilesystemAt sn st name = (some d, { st with templateCache := (name, d) :: st.templateCache }))) := by
  cases hw : weaklyCanonicalAt sn.s sn.c (pathAppend st.templatesRoot name) with
  | error _ => simp [getTemplateFilesystemAt, hw]
  | ok resolved =>
    cases hc : isContained st.templatesRoot resolved with
    | false => simp [getTemplateFilesystemAt, hw, hc]
    | true =>
      cases hr : isRegularFile sn.r resolved with
      | false => simp [getTemplateFilesystemAt, hw, hc, hr]
      | true =>
        cases hl : st.templateCache.lookup name <;> cases hb : readFile sn.o resolved <;>
          simp [getTemplateFilesystemAt, hw, hc, hr, hl, hb]

theorem getStaticAt_fresh {sn : Snaps} {st : FsState} {path : Bytes} {b : Blob} {a' : Assets} (hcache : st.staticCache = [])
    (h : getStaticAt sn (.filesystem st) path = (.found b, a')) :
    lexicallyRejected path = false ∧ ∃ resolved, weaklyCanonicalAt sn.s sn.c (pathAppend st.staticsRoot path) = .ok resolved ∧
      isContained st.staticsRoot resolved = true ∧ isRegularFile sn.r resolved = true ∧
      readFile sn.o resolved = some b.bytes ∧ ∀ g, b.gz = some g → readFile sn.z (resolved ++ Gen.Assets.gzSuffix) = some g := by
  unfold getStaticAt at h
  by_cases hn : lexicallyRejected path = true
  · simp [hn] at h
  simp only [hn, Bool.false_eq_true, ↓reduceIte] at h
  injection h with h _
  refine ⟨by simpa using hn, ?_⟩
  rcases getStaticFilesystemAt_cases sn st path with ⟨h0, _⟩ | ⟨resolved, hw, hc, hr, ⟨e, hl, _⟩ | ⟨e, he, h1, _⟩⟩
  · exact absurd h (h0 b)
  · rw [hcache] at hl; cases hl
  · rw [h1] at h; cases h
    exact ⟨resolved, hw, hc, hr, buildEntryAt_some he⟩

theorem getTemplateAt_fresh {sn : Snaps} {st : FsState} {name d : Bytes} {a' : Assets} (hcache : st.templateCache = [])
    (h : getTemplateAt sn (.filesystem st) name = (some d, a')) :
    lexicallyRejected name = false ∧ ∃ resolved, weaklyCanonicalAt sn.s sn.c (pathAppend st.templatesRoot name) = .ok resolved ∧
      isContained st.templatesRoot resolved = true ∧ isRegularFile sn.r resolved = true ∧ readFile sn.o resolved = some d := by
  unfold getTemplateAt at h
  by_cases hn : lexicallyRejected name = true
  · simp [hn] at h
  simp only [hn, Bool.false_eq_true, ↓reduceIte] at h
  injection h with h _
  refine ⟨by simpa using hn, ?_⟩
  rcases getTemplateFilesystemAt_cases sn st name with ⟨h0, _⟩ | ⟨resolved, hw, hc, hr, ⟨d', hl, _⟩ | ⟨d', hd, heq⟩⟩
  · rw [h0] at h; cases h
  · rw [hcache] at hl; cases hl
  · rw [heq] at h; cases h
    exact ⟨resolved, hw, hc, hr, hd⟩

/-! ### embedded mode -/

/-- the registry lookups (`lower_bound` + equality test) return an entry of the table with exactly the key asked for -/
theorem findStatic_some {r : Registry} {path : Bytes} {a : EmbStatic} (h : findStatic r path = some a) :
    a ∈ r.statics ∧ a.path = path := by
  unfold findStatic at h
  split at h
  · rename_i a' _ hdw
    split at h
    · cases h
      exact ⟨(List.dropWhile_sublist _).subset (hdw ▸ List.mem_cons_self ..), ‹_›⟩
    · cases h
  · cases h

theorem findTemplate_some {r : Registry} {name d : Bytes} (h : findTemplate r name = some d) : (name, d) ∈ r.templates := by
  unfold findTemplate at h
  split at h
  · rename_i a _ hdw
    split at h
    · cases h
      exact ‹a.1 = name› ▸ (List.dropWhile_sublist _).subset (hdw ▸ List.mem_cons_self ..)
    · cases h
  · cases h

/-- bytes from the snapshot of the first open, gzip bytes from the snapshot of the second -/
def BlobInside (sn : Snaps) (bn : List Name) (b : Blob) : Prop :=
  Inside sn.o bn b.bytes ∧ ∀ g, b.gz = some g → Inside sn.z bn g

theorem getStaticEmbeddedAt_good (sn : Snaps) (r : Registry) (path : Bytes) (b : Blob)
    (hn : lexicallyRejected path = false) (h : getStaticEmbeddedAt sn r path = .found b) :
    (∃ a ∈ r.statics, a.path = path ∧ b.bytes = a.bytes ∧ b.gz = a.gz) ∨
    (isExternalPath r path = true ∧
      ∀ bn, isAbs r.externalDir = true → (0 : UInt8) ∉ r.externalDir → dotdot ∉ comps r.externalDir →
        weaklyCanonical sn.s r.externalDir = .ok (renderAbs bn) → (∀ n ∈ bn, Plain n) →
        LeafOnly sn (pathAppend r.externalDir path) bn → sn.o.get bn.reverse = some .dir → BlobInside sn bn b) := by
  unfold getStaticEmbeddedAt at h
  split at h
  · rename_i a ha
    cases h
    exact .inl ⟨a, (findStatic_some ha).1, (findStatic_some ha).2, rfl, rfl⟩
  · right
    split at h
    · rename_i hext
      simp only [Bool.and_eq_true, Bool.not_eq_true', List.isEmpty_eq_false_iff] at hext
      refine ⟨hext.2, ?_⟩
      intro bn hea he0 hedd hbase hbn hL hdir
      rw [hbase] at h
      simp only at h
      split at h
      · cases h
      rename_i resolved hw
      split at h
      · cases h
      rename_i hc
      split at h
      · cases h
      simp only [Bool.not_eq_eq_eq_not] at hc
      split at h
      · cases h
      rename_i e he
      injection h with h; subst h
      obtain ⟨hd, hz⟩ := buildEntryAt_some he
      obtain ⟨last, up, hget, hpre, _, hgz⟩ :=
        resolve_phases_loc sn r.externalDir bn path resolved ⟨hea, he0, hedd⟩ hbn hn hw (by simpa using hc) hL _ hd
      -- EXTERNAL_DIR is the candidate's prefix as configured, not the canonical `bn`: `strict_of_candidate` does not apply, and
      -- strictness comes from `hdir` in both branches
      have hs : (last :: up).reverse ≠ bn := by
        intro e'
        rw [← e', List.reverse_reverse, hget] at hdir
        cases hdir
      exact ⟨⟨_, hget, hpre, hs⟩, fun g hg => inside_sibling hpre hs (hgz g (hz g hg))⟩
    · cases h

end Iora.Assets
