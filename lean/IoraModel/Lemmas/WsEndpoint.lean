import IoraModel.Lemmas.WsServer
import IoraModel.Lemmas.WsClient
/-! Every frame an endpoint hands to the transport is well-formed (W1 at the level of the send API). -/
namespace Iora.Ws
open Iora

/-- the application's text/binary payloads are shorter than 2^64 bytes (what a `size_t` can express). Nothing is asked of a ping
or a close: `sendPing` drops a payload above 125 bytes and `makeClose` cuts the reason. -/
def Send.Small : Send → Prop
  | .text bs => bs.length < 2 ^ 64
  | .binary bs => bs.length < 2 ^ 64
  | .ping _ => True
  | .close _ _ => True

def Cbs.Small (cb : Cbs) : Prop :=
  (∀ a ∈ cb.onText, a.Small) ∧ (∀ a ∈ cb.onBinary, a.Small) ∧ (∀ a ∈ cb.onClose, a.Small) ∧ (∀ a ∈ cb.onError, a.Small)

def CCbs.Small (cb : CCbs) : Prop :=
  (∀ a ∈ cb.onText, a.Small) ∧ (∀ a ∈ cb.onBinary, a.Small) ∧ (∀ a ∈ cb.onClose, a.Small) ∧ (∀ a ∈ cb.onError, a.Small)

def AppOp.Small : AppOp → Prop
  | .sendText bs => (Send.text bs).Small
  | .sendBinary bs => (Send.binary bs).Small
  | _ => True

def COp.Small : COp → Prop
  | .sendText bs => (Send.text bs).Small
  | .sendBinary bs => (Send.binary bs).Small
  | _ => True

/-- the forms in which `Steps.run` and `CSteps.run` take the conditions on callbacks and operations -/
theorem Cbs.Small.all {cb : Cbs} (h : cb.Small) : cb.All Send.Small := ⟨h.1, h.2.1, h.2.2.1, h.2.2.2⟩
theorem CCbs.Small.all {cb : CCbs} (h : cb.Small) : cb.All Send.Small := ⟨h.1, h.2.1, h.2.2.1, h.2.2.2⟩

theorem AppOp.Small.all {op : AppOp} (h : op.Small) : op.All Send.Small := by
  cases op <;> first | exact h | trivial

theorem COp.Small.all {op : COp} (h : op.Small) : op.All Send.Small := by
  cases op <;> first | exact h | trivial

theorem backoff_le (r : Bytes) : ∀ n, backoff r n ≤ n := by
  intro n
  induction n with
  | zero => simp [backoff]
  | succ n ih =>
    unfold backoff
    split
    · split
      · omega
      · omega
    · omega

theorem closeReasonLen_le (r : Bytes) : closeReasonLen r ≤ Gen.Ws.closeReasonMax := by
  unfold closeReasonLen
  split
  · exact backoff_le r _
  · omega

theorem lt_of_le_maxControl {n : Nat} (h : n ≤ Gen.Ws.maxControlPayload) : n < 2 ^ 64 := Nat.lt_of_le_of_lt h (by decide)

theorem closeBody_length (c : Nat) (r : Bytes) : (closeBody c r).length ≤ Gen.Ws.maxControlPayload := by
  simp only [closeBody, List.length_cons, List.length_take]
  have : Gen.Ws.closeReasonMax = 123 := rfl
  have : Gen.Ws.maxControlPayload = 125 := rfl
  have := closeReasonLen_le r
  omega

theorem makeClose_WF (c : Nat) (r : Bytes) : (makeClose c r).WF :=
  ⟨by simp [makeClose], by simp [makeClose, zeroKey], by intro; rfl,
   lt_of_le_maxControl (closeBody_length c r),
   by intro; exact ⟨rfl, closeBody_length c r⟩⟩

theorem mkFrame_WF (op : Nat) (pl : Bytes) (h16 : op < 16) (hl : pl.length < 2 ^ 64)
    (hc : isControl op = true → pl.length ≤ Gen.Ws.maxControlPayload) : (mkFrame op true pl).WF :=
  ⟨h16, by simp [mkFrame, zeroKey], by intro; rfl, hl, fun h => ⟨rfl, hc h⟩⟩

def SentWF (evs : List Ev) : Prop := ∀ w, Ev.sent w ∈ evs → ∃ f : Frame, f.WF ∧ w = serialize f

theorem SentWF_nil : SentWF [] := by intro w h; cases h
theorem SentWF_append {a b : List Ev} (ha : SentWF a) (hb : SentWF b) : SentWF (a ++ b) := by
  intro w h
  rcases List.mem_append.mp h with h | h
  · exact ha w h
  · exact hb w h
theorem SentWF_one (f : Frame) (h : f.WF) : SentWF [.sent (serialize f)] := by
  intro w hw
  simp only [List.mem_singleton, Ev.sent.injEq] at hw
  exact ⟨f, h, hw⟩
theorem SentWF_other (e : Ev) (h : ∀ w, e ≠ .sent w) : SentWF [e] := by
  intro w hw
  simp only [List.mem_singleton] at hw
  exact absurd hw.symm (h w)
theorem sendClose_sentWF (s : Sess) (c : Nat) (r : Bytes) : SentWF (sendClose s c r).2 :=
  SentWF_one _ (makeClose_WF c r)

theorem appSend_sentWF (s : Sess) (op : Nat) (pl : Bytes) (h16 : op < 16) (hl : pl.length < 2 ^ 64)
    (hc : isControl op = true → pl.length ≤ Gen.Ws.maxControlPayload) : SentWF (appSend s op pl).2 := by
  unfold appSend
  split
  · exact SentWF_nil
  · exact SentWF_one _ (mkFrame_WF op pl h16 hl hc)

theorem sendStep_sentWF (s : Sess) (a : Send) (h : a.Small) : SentWF (sendStep s a).2 := by
  cases a with
  | text bs => exact appSend_sentWF s 1 bs (by omega) h (fun hc => absurd hc (by decide))
  | binary bs => exact appSend_sentWF s 2 bs (by omega) h (fun hc => absurd hc (by decide))
  | ping bs =>
    simp only [sendStep, sendPing]
    split
    · exact SentWF_nil
    · rename_i hg
      -- `serverPingMax` is `maxControlPayload`
      have hle : bs.length ≤ Gen.Ws.maxControlPayload := Nat.le_of_not_lt hg
      exact appSend_sentWF s 9 bs (by omega) (lt_of_le_maxControl hle) (fun _ => hle)
  | close c r => exact sendClose_sentWF s c r

theorem Steps.sentWF {max : Nat} {s s' : Sess} {ev : List Ev}
    (h : Steps max Send.Small (fun pl => pl.length ≤ Gen.Ws.maxControlPayload) s ev s') : SentWF ev := by
  induction h with
  | quiet => exact SentWF_nil
  | comp _ _ i1 i2 => exact SentWF_append i1 i2
  | send s a ha => exact sendStep_sentWF s a ha
  | close s c r => exact sendClose_sentWF s c r
  | ev s e he => exact SentWF_other e he
  | pong s pl hq => exact SentWF_one _ (mkFrame_WF 10 pl (by omega) (lt_of_le_maxControl hq) (fun _ => hq))

/-- every frame the client sends would be well-formed under any 4-byte mask key -/
def CSentWF (evs : List CEv) : Prop :=
  ∀ op fin pl, CEv.sent op fin pl ∈ evs → ∀ key : Bytes, key.length = 4 → (Frame.mk fin op true key pl).WF

theorem CSentWF_nil : CSentWF [] := by intro op fin pl h; cases h
theorem CSentWF_append {a b : List CEv} (ha : CSentWF a) (hb : CSentWF b) : CSentWF (a ++ b) := by
  intro op fin pl h
  rcases List.mem_append.mp h with h | h
  · exact ha op fin pl h
  · exact hb op fin pl h
theorem CSentWF_one (op : Nat) (pl : Bytes) (h16 : op < 16) (hl : pl.length < 2 ^ 64)
    (hc : isControl op = true → pl.length ≤ Gen.Ws.maxControlPayload) : CSentWF [.sent op true pl] := by
  intro op' fin' pl' hm key hk
  simp only [List.mem_singleton, CEv.sent.injEq] at hm
  obtain ⟨rfl, rfl, rfl⟩ := hm
  exact ⟨h16, hk, (by intro h; cases h), hl, fun h => ⟨rfl, hc h⟩⟩
theorem CSentWF_other (e : CEv) (h : ∀ op fin pl, e ≠ .sent op fin pl) : CSentWF [e] := by
  intro op fin pl hm
  simp only [List.mem_singleton] at hm
  exact absurd hm.symm (h op fin pl)

theorem cSendClose_sentWF (s : CSess) (c : Nat) (r : Bytes) : CSentWF (cSendClose s c r).2 := by
  have := closeBody_length c r
  exact CSentWF_one 8 _ (by omega) (lt_of_le_maxControl this) (fun _ => this)

theorem cSend_sentWF (s : CSess) (op : Nat) (pl : Bytes) (h16 : op < 16) (hl : pl.length < 2 ^ 64)
    (hc : isControl op = true → pl.length ≤ Gen.Ws.maxControlPayload) : CSentWF (cSend s op pl).2 := by
  unfold cSend
  split
  · exact CSentWF_nil
  · split
    · exact CSentWF_nil
    · exact CSentWF_one op pl h16 hl hc

theorem cSendStep_sentWF (s : CSess) (a : Send) (h : a.Small) : CSentWF (cSendStep s a).2 := by
  cases a with
  | text bs => exact cSend_sentWF s 1 bs (by omega) h (fun hc => absurd hc (by decide))
  | binary bs => exact cSend_sentWF s 2 bs (by omega) h (fun hc => absurd hc (by decide))
  | ping bs =>
    simp only [cSendStep, cSendPing]
    split
    · exact CSentWF_nil
    · rename_i hg
      -- `clientPingMax` is `maxControlPayload`
      have hle : bs.length ≤ Gen.Ws.maxControlPayload := Nat.le_of_not_lt hg
      exact cSend_sentWF s 9 bs (by omega) (lt_of_le_maxControl hle) (fun _ => hle)
  | close c r => exact cSendClose_sentWF s c r

theorem CSteps.sentWF {cfg : CCfg} {s s' : CSess} {ev : List CEv}
    (h : CSteps cfg Send.Small (fun pl => pl.length ≤ Gen.Ws.maxControlPayload) s ev s') : CSentWF ev := by
  induction h with
  | quiet => exact CSentWF_nil
  | comp _ _ i1 i2 => exact CSentWF_append i1 i2
  | send s a ha => exact cSendStep_sentWF s a ha
  | close s c r => exact cSendClose_sentWF s c r
  | ev s e he => exact CSentWF_other e he
  | pong s pl hq => exact CSentWF_one 10 pl (by omega) (lt_of_le_maxControl hq) (fun _ => hq)

end Iora.Ws
