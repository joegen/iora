import IoraModel.Lemmas.XmlExplicit
import IoraModel.Lemmas.XmlDom
import IoraModel.Lemmas.XmlContent
/-! The closed-form specifications restated for the explicit tokenizer of `Model/Xml.lean` (primed names, by `next_eq` / `tokens_eq`),
and the layers above the tokenizer as functions of its token list: the SAX dispatch, the events a view list decodes to,
`DomBuilder::build` on the tokenizer's own output (`domBuild_spec`), and the public `next()` with its latches. -/
namespace Iora.Xml
open Iora

theorem next_sat' (bs : Bytes) (o : Options) (s : St) (hat : s.cur.At bs) : Step.Sat bs o s (next o s) := by
  rw [next_eq]; exact next_sat bs o s hat

theorem next_budget' (o : Options) (s : St) (t : Token) (s' : St) (h : next o s = .tok t s') :
    o.maxTokens ≠ 0 → s.produced < o.maxTokens := by
  rw [next_eq] at h; exact next_budget o s t s' h

theorem tokens_ok' (o : Options) (bs : Bytes) : RunOk bs o (St.init bs) (tokens o bs).1 (tokens o bs).2 := by
  rw [tokens_eq]; exact tokens_ok o bs

/-- is the member a token of this kind goes to registered -/
def Registered.wants (reg : Registered) (k : Kind) : Bool :=
  match slotOf k with
  | some sl => reg sl
  | none => false

theorem saxDispatch_eq (reg : Registered) (t : Token) :
    saxDispatch reg t = if reg.wants t.kind then (slotOf t.kind).map (fun sl => (sl, t)) else none := by
  unfold saxDispatch Registered.wants
  cases slotOf t.kind with
  | none => simp
  | some sl => by_cases h : reg sl = true <;> simp [h]

theorem filterMap_saxDispatch (reg : Registered) : ∀ ts : List Token,
    (ts.filterMap (saxDispatch reg)).map (·.2) = ts.filter (fun t => reg.wants t.kind) ∧
    ∀ e ∈ ts.filterMap (saxDispatch reg), slotOf e.2.kind = some e.1 ∧ reg e.1 = true := by
  intro ts
  induction ts with
  | nil => simp
  | cons t ts ih =>
    rw [List.filterMap_cons, List.filter_cons, saxDispatch_eq]
    by_cases hw : reg.wants t.kind = true
    · rw [if_pos hw, if_pos hw]
      -- a wanted kind has a member, and that member is registered
      obtain ⟨sl, hsl, hr⟩ : ∃ sl, slotOf t.kind = some sl ∧ reg sl = true := by
        unfold Registered.wants at hw
        cases h : slotOf t.kind with
        | none => rw [h] at hw; cases hw
        | some sl => rw [h] at hw; exact ⟨sl, rfl, hw⟩
      rw [hsl]
      refine ⟨by rw [Option.map_some, List.map_cons, ih.1], fun e he => ?_⟩
      rcases List.mem_cons.1 he with rfl | he
      · exact ⟨hsl, hr⟩
      · exact ih.2 e he
    · rw [if_neg hw, if_neg hw]; exact ih

theorem tokens_have_slot (o : Options) (bs : Bytes) : ∀ t ∈ (tokens o bs).1, (slotOf t.kind).isSome = true := by
  intro t ht
  have := (tokens_ok' o bs).kinds t ht
  cases hk : t.kind <;> simp_all [slotOf]

/-- decode every value of a list of (name, raw value) pairs; `none` when one does not decode -/
def decodePairs : List (Bytes × Bytes) → Option (List (Bytes × Bytes))
  | [] => some []
  | (n, v) :: r =>
    match decodeEntities v, decodePairs r with
    | .ok d, some ds => some ((n, d) :: ds)
    | _, _ => none

/-- the document-order events of one element-tag view, attribute values decoded -/
def viewEvs (v : View) : Option (List Ev) :=
  match v.kind with
  | .startElement => (decodePairs v.attrs).map fun as => [.open_ v.name as]
  | .emptyElement => (decodePairs v.attrs).map fun as => [.open_ v.name as, .close]
  | .endElement => some [.close]
  | _ => some []

def viewsEvs : List View → Option (List Ev)
  | [] => some []
  | v :: vs =>
    match viewEvs v, viewsEvs vs with
    | some a, some b => some (a ++ b)
    | _, _ => none

theorem decodeAttrs_pairs (bs : Bytes) : ∀ as : List Attr,
    (match decodeAttrs bs as with | .ok r => some r | .error _ => none) = decodePairs (as.map (Attr.view bs)) := by
  intro as
  induction as with
  | nil => simp [decodeAttrs, decodePairs]
  | cons a r ih =>
    simp only [decodeAttrs, List.map_cons, Attr.view, decodePairs]
    cases hd : decodeEntities (a.value.bytes bs) with
    | ok v =>
      simp only
      rw [← ih]
      cases decodeAttrs bs r with
      | ok vs => simp
      | error e => simp
    | err e off => simp
    | fuel => exact (decodeEntities_ne_fuel _ hd).elim

/-- the document-order events of one token view, attribute values and text decoded (DOCTYPE: none; a text whose decoded value
is empty: none) -/
def cviewEvs (v : CView) : Option (List Ev) :=
  match v.kind with
  | .startElement => (decodePairs v.attrs).map fun as => [.open_ v.name as]
  | .emptyElement => (decodePairs v.attrs).map fun as => [.open_ v.name as, .close]
  | .endElement => some [.close]
  | .text =>
    match decodeEntities v.text with
    | .ok d => some (if d.isEmpty then [] else [.text d])
    | _ => none
  | .cdata => some [.cdata v.text]
  | .comment => some [.comment v.text]
  | .pi => some [.pi v.name v.text]
  | _ => some []

def cviewsEvs : List CView → Option (List Ev)
  | [] => some []
  | v :: vs =>
    match cviewEvs v, cviewsEvs vs with
    | some a, some b => some (a ++ b)
    | _, _ => none

theorem tokEvs_cview (bs : Bytes) (t : Token) : tokEvs bs t = cviewEvs (t.cview bs) := by
  unfold tokEvs cviewEvs
  simp only [Token.cview]
  have := decodeAttrs_pairs bs t.attrs
  cases t.kind <;> simp only [Kind.hasName, Kind.hasText, ↓reduceIte]
  · rw [← this]; cases decodeAttrs bs t.attrs <;> simp
  · rw [← this]; cases decodeAttrs bs t.attrs <;> simp
  · cases decodeEntities (Slice.bytes bs t.text) <;> rfl

theorem tokEvs_view (bs : Bytes) (t : Token) (h : t.kind.isTag = true) : tokEvs bs t = viewEvs (t.view bs) := by
  rw [tokEvs_cview]
  unfold cviewEvs viewEvs Token.cview Token.view
  cases hk : t.kind <;> first | rfl | (rw [hk] at h; cases h)

theorem evsOf_views (bs : Bytes) : ∀ ts : List Token, (∀ v ∈ ts.map (Token.view bs), v.kind.isTag = true) →
    evsOf bs ts = viewsEvs (ts.map (Token.view bs)) := by
  intro ts
  induction ts with
  | nil => intro _; rfl
  | cons t ts ih =>
    intro h
    simp only [evsOf, List.map_cons, viewsEvs]
    rw [tokEvs_view bs t (h (t.view bs) (by simp)), ih (fun v hv => h v (by simp only [List.map_cons, List.mem_cons, hv, or_true]))]
    rfl

theorem evsOf_cviews (bs : Bytes) : ∀ ts : List Token, evsOf bs ts = cviewsEvs (ts.map (Token.cview bs)) := by
  intro ts
  induction ts with
  | nil => rfl
  | cons t ts ih =>
    simp only [evsOf, List.map_cons, cviewsEvs]
    rw [tokEvs_cview bs t, ih]
    cases cviewEvs (Token.cview bs t) <;> cases cviewsEvs (List.map (Token.cview bs) ts) <;> rfl

/-- **`DomBuilder::build` on the tokenizer's own output, in three cases**: a value that does not decode gives one of the three
decoding errors (which one, and at what offset, is not said); otherwise the tokenizer's error, if it has one, is passed on; otherwise
the document is built, and walking it in document order gives exactly the events of the token list.  There is no fourth case:
neither of the two DOM-only errors, no exhausted budget. -/
theorem domBuild_spec (o : Options) (bs : Bytes) :
    (∃ e off, evsOf bs (tokens o bs).1 = none ∧ domBuild o bs = .null e off 0 0 ∧ e.isDecode = true) ∨
    (∃ es e c s, evsOf bs (tokens o bs).1 = some es ∧ (tokens o bs).2 = .error e c s ∧
      domBuild o bs = .null e c.pos c.line c.col ∧ e.isDom = false) ∨
    (∃ es t s ch, evsOf bs (tokens o bs).1 = some es ∧ (tokens o bs).2 = .accepted t s ∧
      domBuild o bs = .doc ch ∧ flattenList ch = es) := by
  have hok := tokens_ok' o bs
  -- the names the run leaves open: none when it is accepted
  obtain ⟨fin, hfin, hacc⟩ : ∃ fin, sm bs [] (tokens o bs).1 = some fin ∧ ∀ t s, (tokens o bs).2 = .accepted t s → fin = [] := by
    have hst := hok.stack
    cases hout : (tokens o bs).2 with
    | accepted t s => rw [hout] at hst; exact ⟨[], hst, fun _ _ _ => rfl⟩
    | error e c s => rw [hout] at hst; exact ⟨s.stack, hst, fun _ _ h => Outcome.noConfusion h⟩
    | bad b => exact (hok.notBad b hout).elim
  have hf := domFold_spec bs (tokens o bs).1 [] fin {} hfin rfl
  unfold domBuild domOf
  cases hev : evsOf bs (tokens o bs).1 with
  | none =>
    rw [hev] at hf
    obtain ⟨e, off, h1, h2⟩ := hf
    rw [h1]
    exact .inl ⟨e, off, rfl, rfl, h2⟩
  | some es =>
    rw [hev] at hf
    obtain ⟨d', h1, hflat, hopen⟩ := hf
    rw [h1]
    have hfinal := hok.final
    cases hout : (tokens o bs).2 with
    | accepted t s =>
      cases hacc t s hout
      have hop : d'.open_ = [] := List.eq_nil_of_length_eq_zero hopen
      simp only [hop]
      refine .inr (.inr ⟨es, t, s, d'.top, rfl, rfl, rfl, ?_⟩)
      simpa [DomSt.flat, hop, flatOpen, flattenList] using hflat
    | error e c s => rw [hout] at hfinal; exact .inr (.inl ⟨es, e, c, s, rfl, rfl, rfl, hfinal.2.2.2⟩)
    | bad b => exact (hok.notBad b hout).elim

/-- once `_hasError` or `_emittedEof` is set, every further call returns false and changes nothing -/
theorem pnext_latched (o : Options) (p : PSt) (h : p.error.isSome = true ∨ p.emittedEof = true) : pnext o p = (none, p) := by
  unfold pnext
  rcases h with h | h
  · simp [h]
  · by_cases he : p.error.isSome = true
    · simp [he]
    · simp [he, h]

theorem pcalls_latched (o : Options) : ∀ (k : Nat) (p : PSt), (p.error.isSome = true ∨ p.emittedEof = true) →
    pcalls o k p = ([], p) := by
  intro k
  induction k with
  | zero => intro p _; rfl
  | succ k ih =>
    intro p h
    simp only [pcalls, pnext_latched o p h]
    exact ih p h

/-- calling the public `next()` at least as often as the run needs — and any number of times more — yields exactly the run:
the same tokens, the error recorded (state untouched by the failing call) or Eof latched -/
theorem pcalls_run (o : Options) : ∀ (fuel : Nat) (s : St) (extra : Nat),
    match (run o fuel s).2 with
    | .accepted _ s' => pcalls o (fuel + extra) ⟨s, none, false⟩ = ((run o fuel s).1, ⟨s', none, true⟩)
    | .error e c s' => pcalls o (fuel + extra) ⟨s, none, false⟩ = ((run o fuel s).1, ⟨s', some (e, c), false⟩)
    | .bad _ => True := by
  intro fuel
  induction fuel with
  | zero => intro s extra; simp [run]
  | succ fuel ih =>
    intro s extra
    have hfe : fuel + 1 + extra = (fuel + extra) + 1 := by omega
    rw [hfe]
    simp only [run, pcalls, pnext, Option.isSome_none, Bool.false_eq_true, ↓reduceIte]
    cases hn : next o s with
    | tok t s' =>
      simp only
      have := ih s' extra
      cases hout : (run o fuel s').2 with
      | accepted t' s'' => rw [hout] at this; simp only [this]
      | error e c s'' => rw [hout] at this; simp only [this]
      | bad b => trivial
    | eof t s' =>
      simp only
      exact pcalls_latched o _ _ (Or.inr rfl)
    | err e c =>
      simp only
      exact pcalls_latched o _ _ (Or.inl rfl)
    | bad b => trivial

end Iora.Xml
