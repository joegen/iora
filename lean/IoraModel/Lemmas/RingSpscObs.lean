import IoraModel.Lemmas.RingSpsc
/-!
# What `size()/empty()/full()` (two relaxed loads) can return under concurrency; the properties are `R2_size_*` in `Props/C10.lean`

`size()` loads `_head`, then `_tail` (both relaxed: any value between the newest one the caller has already seen and the
latest one — the same stale-read rule as `pLoad`/`qLoad` in `Model/RingSpsc.lean`), and returns `head - tail` in
`std::size_t`.  A call by the PRODUCER reads its own `_head` exactly (nobody else writes it; the producer itself is inside
`size()`, so `_head` does not move until the call returns) and a possibly stale `_tail`; a call by the CONSUMER reads a
possibly stale `_head` and its own `_tail` exactly.  A THIRD thread reads both counters stale, at two different moments.
-/
namespace Iora.Spsc

/-- value `size()` returns from the two loaded counter values (`std::size_t` subtraction: wraps when `tail > head`) -/
def sizeRet (h t : Nat) : Nat := (h + 2 ^ 64 - t) % 2 ^ 64

/-- what a `size()` call by the producer can return in state `s` (the state at its `_tail` load; `_head` is its own) -/
def ProducerSizeRet (s : S) (ret : Nat) : Prop := ∃ t, s.pSeen ≤ t ∧ t ≤ s.tail ∧ ret = sizeRet s.head t

/-- what a `size()` call by the consumer can return in state `s` (the state at its `_head` load; `_tail` is its own) -/
def ConsumerSizeRet (s : S) (ret : Nat) : Prop := ∃ h, s.qSeen ≤ h ∧ h ≤ s.head ∧ ret = sizeRet h s.tail

theorem sizeRet_of_le {h t : Nat} (hle : t ≤ h) (hb : h < 2 ^ 64) : sizeRet h t = h - t := by
  unfold sizeRet
  have : h + 2 ^ 64 - t = (h - t) + 2 ^ 64 := by omega
  rw [this, Nat.add_mod_right]
  exact Nat.mod_eq_of_lt (by omega)

/-- the producer's `_head` is exact and its `_tail` at most stale: it over-estimates, by no more than what `cap2` allows -/
theorem Inv.producer_size {c : Cfg} {s : S} (I : Inv c s) (hb : s.head < 2 ^ 64) {ret : Nat} (h : ProducerSizeRet s ret) :
    s.head - s.tail ≤ ret ∧ ret ≤ c.C := by
  obtain ⟨t, ht1, ht2, rfl⟩ := h
  have := I.ht; have := I.cap2
  rw [sizeRet_of_le (by omega) hb]
  omega

/-- the consumer's `_tail` is exact and its `_head` at most stale: it under-estimates -/
theorem Inv.consumer_size {c : Cfg} {s : S} (I : Inv c s) (hb : s.head < 2 ^ 64) {ret : Nat} (h : ConsumerSizeRet s ret) :
    ret ≤ s.head - s.tail ∧ ret ≤ c.C := by
  obtain ⟨hh, hh1, hh2, rfl⟩ := h
  have := I.tq; have := I.cap2; have := I.ps
  rw [sizeRet_of_le (by omega) (by omega)]
  omega

end Iora.Spsc
