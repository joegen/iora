import IoraModel.Lemmas.AssetsLookup
/-!
C20: analysis of `weakly_canonical` when the path does not exist — the loop over the leading elements that exist, the re-attached
tail, its lexical normal form — and the theorem that, for a path without `..`, the result never names a regular file (`WcMissingNoFile`).
-/
namespace Iora.Assets
open Iora

/-! ### building `/a/b/c` element by element (`path::operator/=`) -/

theorem isAbs_name (c : Bytes) (h : IsName c) : isAbs c = false := by
  cases c with
  | nil => simp [isAbs]
  | cons x xs =>
    simp [isAbs]
    intro e; exact h.2 (by simp [e])

theorem trailSlash_root : trailSlash [SLASH] = true := by simp [trailSlash]

theorem pathAppend_renderAbs_name (dn : List Bytes) (c : Bytes) (hdn : ∀ n ∈ dn, IsName n) (hc : IsName c) :
    pathAppend (renderAbs dn) c = renderAbs (dn ++ [c]) := by
  unfold pathAppend hasFilename
  simp only [isAbs_name c hc, renderAbs, List.isEmpty_cons, Bool.or_self, Bool.false_eq_true, ↓reduceIte, Bool.not_false,
    Bool.true_and]
  cases dn with
  | nil => simp [joinSlash, trailSlash]
  | cons a r =>
    have := trailSlash_renderAbs (a :: r) hdn (by simp)
    simp only [renderAbs] at this
    simp only [this, Bool.not_false, ↓reduceIte]
    simp [joinSlash_cons, List.flatMap_append]

theorem pathAppend_renderAbs_empty (dn : List Bytes) (hdn : ∀ n ∈ dn, IsName n) :
    pathAppend (renderAbs dn) [] = if dn.isEmpty then [SLASH] else renderAbs dn ++ [SLASH] := by
  unfold pathAppend hasFilename
  cases dn with
  | nil => simp [renderAbs, joinSlash, isAbs, trailSlash]
  | cons a r =>
    have := trailSlash_renderAbs (a :: r) hdn (by simp)
    simp only [renderAbs] at this
    simp [isAbs, this, renderAbs]

theorem foldl_pathAppend_names (ns dn : List Bytes) (hdn : ∀ n ∈ dn, IsName n) (hns : ∀ n ∈ ns, IsName n) :
    ns.foldl pathAppend (renderAbs dn) = renderAbs (dn ++ ns) := by
  induction ns generalizing dn with
  | nil => simp
  | cons c rest ih =>
    simp only [List.foldl_cons]
    rw [pathAppend_renderAbs_name dn c hdn (hns c (by simp)), ih (dn ++ [c])]
    · simp
    · intro n hn; simp at hn; rcases hn with hn | hn
      · exact hdn n hn
      · subst hn; exact hns _ (by simp)
    · intro n hn; exact hns n (by simp [hn])

/-! ### `/n1/…/nk` with an optional slash after it: the form of every path `weakly_canonical` handles here -/

def npath (N : List Bytes) (t : Bool) : Bytes := renderAbs N ++ (if t then [SLASH] else [])

theorem npath_false (N : List Bytes) : npath N false = renderAbs N := by simp [npath]

theorem isAbs_npath (N : List Bytes) (t : Bool) : isAbs (npath N t) = true := isAbs_append _ _ (isAbs_renderAbs N)

theorem npath_no_nul {N : List Bytes} (t : Bool) (hN : TodoOK N) : (0 : UInt8) ∉ npath N t := by
  intro hm
  rcases List.mem_append.mp hm with hm | hm
  · exact renderAbs_no_nul N (fun n hn => (hN n hn).2) hm
  · split at hm <;> simp [SLASH] at hm

theorem comps_npath {N : List Bytes} (t : Bool) (hN : TodoOK N) : comps (npath N t) = N := by
  cases t
  · rw [npath_false]; exact comps_renderAbs N hN.names
  · simp only [npath, ↓reduceIte]; rw [comps_append_trail]; exact comps_renderAbs N hN.names

theorem trailSlash_npath {N : List Bytes} (t : Bool) (hN : TodoOK N) (hne : N ≠ []) : trailSlash (npath N t) = t := by
  cases t
  · rw [npath_false]; exact trailSlash_renderAbs N hN.names hne
  · simp [npath, trailSlash]

theorem elems_npath {N : List Bytes} (t : Bool) (hN : TodoOK N) (hne : N ≠ []) :
    elems (npath N t) = [SLASH] :: (N ++ (if t then [[]] else [])) := by
  rw [elems_abs _ (isAbs_npath N t), comps_npath t hN, trailSlash_npath t hN hne]
  cases N with
  | nil => exact absurd rfl hne
  | cons a r => cases t <;> simp

theorem foldl_npath {ns dn : List Bytes} (t : Bool) (hdn : TodoOK dn) (hns : TodoOK ns) (hne : dn ++ ns ≠ []) :
    (ns ++ (if t then [[]] else [])).foldl pathAppend (renderAbs dn) = npath (dn ++ ns) t := by
  rw [List.foldl_append, foldl_pathAppend_names ns dn hdn.names hns.names]
  cases t
  · simp [npath]
  · simp only [↓reduceIte, List.foldl_cons, List.foldl_nil, npath]
    rw [pathAppend_renderAbs_empty _ (todoOK_append.mpr ⟨hdn, hns⟩).names]
    simp [hne]

theorem kwalk_npath (fs : Fs) (fol : Bool) {N : List Bytes} (t : Bool) (hN : TodoOK N) (hne : N ≠ []) :
    kwalk fs fol (npath N t) = .error .ENAMETOOLONG ∨ Walks fs fol SYMLOOP [] N t (kwalk fs fol (npath N t)) := by
  have := kwalk_abs fs fol _ (npath_no_nul t hN) (isAbs_npath N t)
  rwa [comps_npath t hN, trailSlash_npath t hN hne] at this

theorem kwalk_renderAbs_ok {fs : Fs} {fol : Bool} {N : List Bytes} {L : Loc} {e : Entry} (hN : TodoOK N)
    (h : kwalk fs fol (renderAbs N) = .ok (L, e)) :
    fs.get L = some e ∧ LocOK L ∧ (fol = true → ∀ t, e ≠ .link t) ∧
      ∃ tr, Walks fs fol SYMLOOP [] N tr (.ok (L, e)) := by
  have := kwalk_abs_ok fs fol _ (npath_false N ▸ npath_no_nul false hN) (isAbs_renderAbs N) L e h
  rw [comps_renderAbs N hN.names] at this
  exact ⟨this.1, this.2.1, this.2.2.1, _, this.2.2.2⟩

/-- the flag is the one `wc_value` gives; with no name at all the path is `/`, a directory -/
theorem nofile_npath (fs : Fs) (fol : Bool) {N : List Bytes} (T : Bool) (hN : TodoOK N)
    (h : N ≠ [] → ∀ r, Walks fs fol SYMLOOP [] N T r → NoFile r) : NoFile (kwalk fs fol (npath N (T && !N.isEmpty))) := by
  cases N with
  | nil => rw [show npath [] (T && ![].isEmpty) = [SLASH] by simp [npath, renderAbs, joinSlash], kwalk_root]; simp
  | cons a l =>
    rw [show (T && !(a :: l).isEmpty) = T by simp]
    rcases kwalk_npath fs fol T hN (List.cons_ne_nil _ _) with hk | hk
    · rw [hk]; simp
    · exact h (List.cons_ne_nil _ _) _ hk

/-! ### the lexical normal form of an absolute path without `..` -/

/-- `lexically_normal` keeps the elements other than `.` and the empty one -/
def keepName (e : Bytes) : Bool := !(decide (e = dot) || decide (e = []))

theorem normStep_abs (N : List Bytes) (f : Bool) (x : Bytes) (hx : x ≠ [SLASH] ∧ x ≠ dotdot) :
    normStep { abs := true, names := N, trail := f } x =
      if keepName x then { abs := true, names := x :: N, trail := false }
      else { abs := true, names := N, trail := f || !N.isEmpty } := by
  by_cases hk : keepName x = true
  · have : x ≠ dot ∧ x ≠ [] := by simpa [keepName] using hk
    simp [normStep, hx.1, hx.2, this.1, this.2, hk]
  · have hde : (x = dot || x.isEmpty) = true := by
      by_cases hd : x = dot <;> simp_all [keepName]
    simp only [normStep, hx.1, hx.2, ↓reduceIte, hde, hk]
    cases N <;> cases f <;> simp

/-- The loop of `lexically_normal` from a state with the root.  The elements are given last first, so that the induction adds
an element at the end of the path; `ht`: libstdc++ puts the trailing slash only after a name, and the flag of the result is up
iff the last element was dropped and there is a name to put the slash after. -/
theorem foldl_normStep (stk : List Bytes) (t : Bool) (ht : t = true → stk ≠ []) :
    ∀ l : List Bytes, (∀ e ∈ l, e ≠ [SLASH] ∧ e ≠ dotdot) →
    l.reverse.foldl normStep { abs := true, names := stk, trail := t } =
      { abs := true, names := l.filter keepName ++ stk,
        trail := match l.head? with
          | none => t
          | some x => !keepName x && !(l.filter keepName ++ stk).isEmpty } := by
  intro l
  induction l with
  | nil => intro _; rfl
  | cons x l ih =>
    intro h
    rw [List.reverse_cons, List.foldl_append, ih (fun e he => h e (List.mem_cons_of_mem _ he)), List.foldl_cons,
      List.foldl_nil, normStep_abs _ _ _ (h x (List.mem_cons_self ..))]
    by_cases hk : keepName x = true
    · simp [hk]
    · have hf : (match l.head? with
          | none => t
          | some y => !keepName y && !(l.filter keepName ++ stk).isEmpty) = true → l.filter keepName ++ stk ≠ [] := by
        cases l with
        | nil => simpa using ht
        | cons y l' => simp
      cases hN : l.filter keepName ++ stk <;> simp_all

/-- `lexically_normal` dropped the last element (`.`, or the empty one after a trailing slash): its result then ends in a slash -/
def dropsLast (es : List Bytes) : Bool := es.getLast?.any (fun x => !keepName x)

theorem dropsLast_of_dropped (A B : List Bytes) (hB : B ≠ []) (h : ∀ y ∈ B, keepName y = false) : dropsLast (A ++ B) = true := by
  rcases List.eq_nil_or_concat B with rfl | ⟨ys, x, rfl⟩
  · exact absurd rfl hB
  · rw [dropsLast, List.concat_eq_append, ← List.append_assoc, List.getLast?_concat]
    simp [h x (by simp)]

theorem lexicallyNormal_npath (ms : List Bytes) (tsl : Bool) (hms : TodoOK ms) (hdd : dotdot ∉ ms) (hne : ms ≠ []) :
    lexicallyNormal (npath ms tsl) =
      npath (ms.filter keepName)
        (dropsLast (ms ++ (if tsl then [[]] else [])) && !(ms.filter keepName).isEmpty) := by
  have hes : ∀ e ∈ (ms ++ (if tsl then [[]] else [])).reverse, e ≠ [SLASH] ∧ e ≠ dotdot := by
    intro e he
    rcases List.mem_append.mp (List.mem_reverse.mp he) with he | he
    · exact ⟨fun h => (hms e he).1.2 (by simp [h]), fun h => hdd (h ▸ he)⟩
    · split at he <;> simp at he
      subst he; simp [dotdot]
  have hfil : (ms ++ (if tsl then [[]] else [])).filter keepName = ms.filter keepName := by
    cases tsl <;> simp [keepName]
  have hfold : (ms ++ (if tsl then [[]] else [])).foldl normStep { abs := true, names := [], trail := false } =
      { abs := true, names := (ms.filter keepName).reverse,
        trail := dropsLast (ms ++ (if tsl then [[]] else [])) && !(ms.filter keepName).isEmpty } := by
    have := foldl_normStep [] false nofun _ hes
    rw [List.reverse_reverse, List.filter_reverse, hfil, List.head?_reverse, List.append_nil] at this
    rw [this, dropsLast]
    cases (ms ++ (if tsl then [[]] else [])).getLast? <;> simp
  have hx : (npath ms tsl).isEmpty = false := by simp [npath, renderAbs]
  have hce : (comps (npath ms tsl)).isEmpty = false := by rw [comps_npath tsl hms]; simpa using hne
  have h0 : normStep {} [SLASH] = { abs := true, names := [], trail := false } := by simp [normStep]
  have hnodd : ((ms.filter keepName).reverse).head? ≠ some dotdot :=
    fun h => hdd (List.mem_filter.mp (List.mem_reverse.mp (List.mem_of_mem_head? h))).1
  unfold lexicallyNormal
  simp only [hx, hce, Bool.false_eq_true, ↓reduceIte, Bool.false_and, elems_npath tsl hms hne, List.foldl_cons, h0, hfold,
    eq_false hnodd]
  simp [NPath.render, npath, renderAbs]

theorem filter_keep_loc {L : Loc} (hL : LocOK L) : L.reverse.filter keepName = L.reverse :=
  List.filter_eq_self.mpr fun n hn => by
    have := hL.reverse n hn
    simp [keepName, this.1.ne_nil, this.1.ne_dot]

theorem keepName_plain (n : Bytes) (h1 : IsName n) (h2 : n ≠ dotdot) (h3 : keepName n = true) : Plain n := by
  refine ⟨h1, ?_, h2⟩
  intro e; subst e; simp [keepName] at h3

/-- **Value of the non-existing-tail branch**: the location the existing part resolved to, the kept names of the tail, and a
slash after them iff the last element was dropped and there is a name to put it after. -/
theorem wc_value (post : List Bytes) (tsl : Bool) (hpost : TodoOK post) (hdd : dotdot ∉ post) (L : Loc) (hL : LocOK L) :
    lexicallyNormal ((post ++ (if tsl then [[]] else [])).foldl pathAppend (renderLoc L)) =
      npath (L.reverse ++ post.filter keepName)
        (dropsLast (L.reverse ++ post ++ (if tsl then [[]] else [])) && !(L.reverse ++ post.filter keepName).isEmpty) := by
  by_cases hM : L.reverse ++ post = []
  · obtain ⟨rfl, rfl⟩ : L = [] ∧ post = [] := by simpa using hM
    cases tsl <;> decide
  · have hdd' : dotdot ∉ L.reverse ++ post := fun h => (List.mem_append.mp h).elim
      (fun h => (hL.reverse.plain _ h).ne_dotdot rfl) hdd
    rw [renderLoc_eq, foldl_npath tsl hL.todo hpost hM, lexicallyNormal_npath _ tsl (todoOK_append.mpr ⟨hL.todo, hpost⟩) hdd' hM,
      List.filter_append, filter_keep_loc hL]

theorem wcLoop_spec (fs : Fs) : ∀ (es : List Bytes) (result res : Bytes) (rest : List Bytes),
    wcLoop fs result es = .ok (res, rest) →
    ∃ pre, es = pre ++ rest ∧ res = pre.foldl pathAppend result ∧
      (∀ e es', rest = e :: es' → status fs (pathAppend res e) = .notFound) ∧
      (rest = [] → pre ≠ [] → ∃ l e, status fs res = .found l e) := by
  intro es
  induction es with
  | nil => intro result res rest h; cases h; exact ⟨[], rfl, rfl, nofun, nofun⟩
  | cons x es ih =>
    intro result res rest h
    rw [wcLoop] at h
    split at h
    · rename_i l e hs
      obtain ⟨pre, h1, h2, h3, h4⟩ := ih _ _ _ h
      refine ⟨x :: pre, by rw [h1]; rfl, h2, h3, fun hr _ => ?_⟩
      cases pre with
      | nil => exact ⟨l, e, h2 ▸ hs⟩
      | cons _ _ => exact h4 hr nofun
    · cases h; exact ⟨[], rfl, rfl, fun e es' he => by cases he; assumption, nofun⟩
    · cases h

theorem status_notFound_walk (fs : Fs) (q : Bytes) (h0 : (0 : UInt8) ∉ q) (ha : isAbs q = true) (h : status fs q = .notFound) :
    ∃ e, (e = .ENOENT ∨ e = .ENOTDIR) ∧ Walks fs true SYMLOOP [] (comps q) (trailSlash q) (.error e) := by
  rcases (status_notFound_iff fs q).mp h with hk | hk <;> rcases kwalk_abs fs true q h0 ha with hw | hw <;> rw [hk] at hw
  · cases hw
  · exact ⟨_, Or.inl rfl, hw⟩
  · cases hw
  · exact ⟨_, Or.inr rfl, hw⟩

theorem append_split {α} {C tl pre rest : List α} (h : C ++ tl = pre ++ rest) (hr : rest ≠ []) (ht : tl.length ≤ 1) :
    ∃ post, C = pre ++ post ∧ rest = post ++ tl := by
  rcases List.append_eq_append_iff.mp h with ⟨a, h1, h2⟩ | ⟨c, h1, h2⟩
  · have ha : a = [] := by
      cases a with
      | nil => rfl
      | cons y ys => cases rest <;> simp_all
    subst ha
    exact ⟨[], by simpa using h1.symm, by simpa using h2.symm⟩
  · exact ⟨c, h1, h2⟩

/-- **Shape of the non-existing-tail branch**: the names of `p` split into those the loop consumed (`pre`, their path exists and
`realpath` resolves it to `L`) and the rest (`post`; the path of the first of them does not exist; if there is none the loop
stopped at the trailing empty element); the case in which every element exists contradicts `status p = notFound`. -/
theorem wc_missing_shape (fs : Fs) (p r : Bytes) (ha : isAbs p = true) (h0 : (0 : UInt8) ∉ p)
    (hs : status fs p = .notFound) (hw : weaklyCanonical fs p = .ok r) :
    ∃ pre post L e, comps p = pre ++ post ∧ (post = [] → trailSlash p = true) ∧ kwalk fs true (renderAbs pre) = .ok (L, e) ∧
      r = lexicallyNormal ((post ++ (if trailSlash p then [[]] else [])).foldl pathAppend (renderLoc L)) ∧
      ∀ c post', post = c :: post' → status fs (renderAbs (pre ++ [c])) = .notFound := by
  have hC : TodoOK (comps p) := comps_todoOK p h0
  have hCne : comps p ≠ [] := by
    intro hc0
    obtain ⟨er, _, hwalk⟩ := status_notFound_walk fs p h0 ha hs
    rw [hc0] at hwalk
    cases walks_nil hwalk
  have hemp : (comps p).isEmpty = false := by simpa using hCne
  unfold weaklyCanonical at hw
  rw [hs] at hw
  simp only at hw
  rw [elems_abs p ha, hemp, Bool.not_false, Bool.and_true,
    show ∀ E, wcLoop fs [] ([SLASH] :: E) = wcLoop fs (renderAbs []) E from fun E => by
      simp [wcLoop, pathAppend, isAbs, status_root, renderAbs, joinSlash]] at hw
  split at hw
  · cases hw
  rename_i res rest hloop
  obtain ⟨pre, hsplit, hres, hstop, hall⟩ := wcLoop_spec fs _ _ _ _ hloop
  by_cases hrest : rest = []
  · -- every element exists, so the path itself exists
    exfalso
    subst hrest
    rw [List.append_nil] at hsplit
    obtain ⟨l, e, hf⟩ := hall rfl (by rw [← hsplit]; simp [hCne])
    rw [hres, ← hsplit, foldl_npath _ todoOK_nil hC (by simpa using hCne), List.nil_append] at hf
    obtain ⟨er, _, hwalk⟩ := status_notFound_walk fs p h0 ha hs
    have := (kwalk_abs_ok fs true _ (npath_no_nul _ hC) (isAbs_npath _ _) l e ((status_found_iff fs _ l e).mp hf)).2.2.2
    rw [comps_npath _ hC, trailSlash_npath _ hC hCne] at this
    cases hwalk.det this
  · -- the elements are the names and at most one empty element after them (the trailing slash), so the split falls among the names
    obtain ⟨post, h1, h2⟩ := append_split hsplit hrest (by split <;> simp)
    have hpre : TodoOK pre := (todoOK_append.mp (h1 ▸ hC)).1
    rw [hres, foldl_pathAppend_names pre [] todoOK_nil.names hpre.names, List.nil_append] at hw hstop
    simp only [show (renderAbs pre).isEmpty = false by simp [renderAbs], Bool.false_eq_true, ↓reduceIte] at hw
    split at hw
    · cases hw
    rename_i x hcan
    obtain ⟨L, e, hk, rfl⟩ := canonical_ok fs _ _ hcan
    cases hw
    refine ⟨pre, post, L, e, h1, fun hp => ?_, hk, by rw [h2], fun c post' hp => ?_⟩
    · subst hp
      cases htp : trailSlash p
      · simp [htp] at h2; exact absurd h2 hrest
      · rfl
    · subst hp
      have := hstop c _ h2
      rwa [pathAppend_renderAbs_name pre c hpre.names ((todoOK_append.mp (h1 ▸ hC)).2 c (List.mem_cons_self ..)).1] at this

/-- The last conjunct is read by `subroot_ok` alone (a root keeps its form `/n1/…/nk`); `missing_open` reads the first two. -/
theorem wc_missing_normal (fs : Fs) (p r : Bytes) (hp : AbsOK p)
    (hs : status fs p = .notFound) (hw : weaklyCanonical fs p = .ok r) :
    ∃ (M : Loc) (tsl : Bool), LocOK M ∧ r = npath M.reverse tsl ∧
      (trailSlash p = false → (∀ x, (comps p).getLast? = some x → x ≠ dot) → tsl = false) := by
  obtain ⟨ha, h0, hdd⟩ := hp
  have hC : TodoOK (comps p) := comps_todoOK p h0
  obtain ⟨pre, post, L, e, hsplit, hpost0, hk, rfl, -⟩ := wc_missing_shape fs p r ha h0 hs hw
  rw [hsplit] at hC hdd
  obtain ⟨hpre, hpost⟩ := todoOK_append.mp hC
  obtain ⟨-, hL, -, -⟩ := kwalk_renderAbs_ok hpre hk
  have hddp : dotdot ∉ post := fun h => hdd (List.mem_append_right _ h)
  refine ⟨(post.filter keepName).reverse ++ L, _, ?_,
    (wc_value post _ hpost hddp L hL).trans (by rw [List.reverse_append, List.reverse_reverse]), ?_⟩
  · intro n hn
    rcases List.mem_append.mp hn with hn | hn
    · have hm := List.mem_filter.mp (List.mem_reverse.mp hn)
      exact ⟨keepName_plain n (hpost n hm.1).1 (fun e => hddp (e ▸ hm.1)) hm.2, (hpost n hm.1).2⟩
    · exact hL n hn
  · intro htr hlast
    rcases List.eq_nil_or_concat post with rfl | ⟨D, x, rfl⟩
    · rw [hpost0 rfl] at htr; cases htr
    · have hx := hlast x (by rw [hsplit, List.concat_eq_append, ← List.append_assoc, List.getLast?_concat])
      rw [htr, List.concat_eq_append, dropsLast, if_neg (by simp), List.append_nil, ← List.append_assoc, List.getLast?_concat]
      simp [keepName, hx, (hpost x (by simp)).1.1]

/-- **The non-existing-tail branch never yields a regular file**: for an absolute NUL-free path without `..` that does not exist,
the result of `weakly_canonical` does not name a regular file in the same file system — whether a final link is followed or not. -/
def WcMissingNoFile : Prop :=
  ∀ (fs : Fs) (p r : Bytes), isAbs p = true → (0 : UInt8) ∉ p → dotdot ∉ comps p → status fs p = .notFound →
    weaklyCanonical fs p = .ok r → ∀ fol, NoFile (kwalk fs fol r)

theorem wcMissingNoFile : WcMissingNoFile := by
  intro fs p r ha h0 hdd hs hw fol
  have hC : TodoOK (comps p) := comps_todoOK p h0
  obtain ⟨pre, post, L, e, hsplit, hpost0, hk, rfl, hnf⟩ := wc_missing_shape fs p r ha h0 hs hw
  rw [hsplit] at hC hdd
  obtain ⟨hpre, hpost⟩ := todoOK_append.mp hC
  obtain ⟨hget, hL, hnl, tr0, hwalk0⟩ := kwalk_renderAbs_ok hpre hk
  rw [wc_value post _ hpost (fun h => hdd (List.mem_append_right _ h)) L hL]
  refine nofile_npath fs fol _ (todoOK_append.mpr ⟨hL.todo, fun n hn => hpost n (List.mem_filter.mp hn).1⟩) ?_
  -- the result is `L` followed by the kept names of `post`: to answer a file its walk has to get past `L`, which fails in each of
  -- the three shapes of what `pre` resolved to
  intro _ r hwalk l d hr
  subst hr
  have hp := hL.reverse.plain
  cases post with
  | nil =>
    -- the loop stopped at the trailing empty element: the result ends in a slash
    rw [hpost0 rfl, if_pos rfl, dropsLast_of_dropped _ [[]] nofun (by simp [keepName])] at hwalk
    exact hwalk.trail_nofile l d rfl
  | cons c post' =>
    cases e with
    | link t => exact hnl rfl t rfl
    | file d0 =>
      -- what exists is a regular file: only dropped elements may follow it, and then the result ends in a slash
      cases L with
      | nil => cases hget
      | cons last up =>
        rw [List.reverse_cons, List.append_assoc, List.singleton_append] at hwalk
        have hX := hwalk.over_file hL.tail.reverse.plain hL.head (by simpa using hget)
        have hdrop : ∀ y ∈ c :: post' ++ (if trailSlash p = true then [[]] else []), keepName y = false := by
          intro y hy
          rcases List.mem_append.mp hy with hy | hy
          · exact Bool.not_eq_true _ ▸ fun hk' => by
              have := List.mem_filter.mpr ⟨hy, hk'⟩
              rw [hX.1] at this; cases this
          · split at hy <;> simp at hy
            subst hy; simp [keepName]
        rw [List.append_assoc, dropsLast_of_dropped _ _ (by simp) hdrop] at hX
        exact absurd hX.2 (by simp)
    | dir =>
      -- what exists is a directory `L` in which `c` is missing: the walk of the result reaches `L` and then fails like that of `pre ++ [c]`
      have hc : NameOK c := hpost c (List.mem_cons_self ..)
      have hpc : TodoOK (pre ++ [c]) := todoOK_append.mpr ⟨hpre, todoOK_cons.mpr ⟨hc, todoOK_nil⟩⟩
      obtain ⟨e1, he1, hw1⟩ := status_notFound_walk fs _ (npath_no_nul false hpc) (isAbs_npath _ _)
        (by rw [npath_false]; exact hnf c post' rfl)
      rw [comps_npath false hpc, trailSlash_npath false hpc (by simp)] at hw1
      obtain ⟨b', hb', hw1⟩ := hwalk0.prefix (by simp) hw1
      have hkc : keepName c = true := by
        have hcdot : c ≠ dot := fun h => walk_dot_no_error (h ▸ hw1)
        simp [keepName, hcdot, hc.1.1]
      rw [List.filter_cons, if_pos hkc] at hwalk
      have hf := Walks.through_dirs L.reverse hp (by simpa using hget) hwalk
      rw [List.reverse_reverse, List.append_nil] at hf
      exact hw1.fail_extend he1 hb' (by simp) hf l d rfl

end Iora.Assets
