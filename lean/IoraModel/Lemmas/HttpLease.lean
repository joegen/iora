import IoraModel.Lemmas.HttpRetryCache
import IoraModel.Common.Pool
/-! Invariants of the concurrent-callers model (C17, lease part): mutual exclusion, cache/trace invariant, per-thread retry
discipline (`ThreadOK`, kept by `afterAttempt_ok`: both in `Lemmas/HttpRetry`, where the sequential loop reads them too) — preserved by
every step of every thread, hence for every schedule. -/
namespace Iora.HttpRetry
open Iora

def traceOf (w : World) : List Ev := w.evs.map (·.2)

/-- what holds in every reachable state of the concurrent model: `lease` is mutual exclusion, `cache`/`trace` are the sequential
cache and trace invariants on the merged trace, `threads` the retry discipline of each caller -/
structure WorldInv (w : World) : Prop where
  /-- for every host: number of threads inside an exchange = number of lease entries ≤ 1 -/
  lease : ∀ h, holders w.threads h = w.client.leased.count h ∧ w.client.leased.count h ≤ 1
  cache : Inv (closedAfter [] (traceOf w)) w.client
  trace : wellUsed [] (traceOf w)
  threads : ∀ t ∈ w.threads, ThreadOK t

theorem holds_afterAttempt (t : Thread) (n : Nat) (lg : AttemptLog) (h : Host) : (afterAttempt t n lg).holds h = false := by
  unfold afterAttempt Thread.holds
  simp only
  cases nextAttempt t.rq.method t.rq.retries n lg.result <;> rfl

theorem holders_set {ts : List Thread} {i : Nat} {t : Thread} (t' : Thread) (hi : ts[i]? = some t) (h : Host) :
    holders (ts.set i t') h + (if t.holds h then 1 else 0) = holders ts h + (if t'.holds h then 1 else 0) :=
  Pool.sum_set (fun t => if t.holds h then 1 else 0) t' hi

/-- the lease count of one host when thread `i` changes from `t` to `t'` and the lease list from `L` to `L'` in step: the list follows
the thread's holding, and a thread that starts to hold found the host free -/
theorem lease_set {ts : List Thread} {L L' : List Host} {i : Nat} {t t' : Thread} (hti : ts[i]? = some t) {h : Host}
    (hL : holders ts h = L.count h ∧ L.count h ≤ 1)
    (hd : L'.count h = L.count h + (if t'.holds h then 1 else 0) - (if t.holds h then 1 else 0))
    (hf : t'.holds h = true → L.count h = 0) :
    holders (ts.set i t') h = L'.count h ∧ L'.count h ≤ 1 := by
  have hs := holders_set t' hti h
  cases ht' : t'.holds h with
  | true =>
    have := hf ht'
    simp only [ht', if_true] at hd hs
    omega
  | false =>
    simp only [ht', Bool.false_eq_true, if_false] at hd hs
    -- the subtraction in `hd` is exact: by `hs`, a `t` that holds `h` is counted in `holders ts h`, which is `L.count h`
    omega

theorem traceOf_append (w : World) (c : Client) (ts : List Thread) (i : Nat) (ev : List Ev) :
    traceOf { client := c, threads := ts, evs := w.evs ++ ev.map (fun e => (i, e)) } = traceOf w ++ ev := by
  simp [traceOf, Function.comp_def]

theorem threads_set {ts : List Thread} (h : ∀ t ∈ ts, ThreadOK t) {t' : Thread} (h' : ThreadOK t') (i : Nat) :
    ∀ t ∈ ts.set i t', ThreadOK t := fun t ht =>
  (List.mem_or_eq_of_mem_set ht).elim (h t) (fun e => e ▸ h')

/-- a caller is blocked when it waits, inside `acquireLease`, for a host that is leased -/
def blocked (w : World) (t : Thread) : Prop :=
  ∃ n, t.pc = .start n ∧ t.rq.urlOk = true ∧ (t.rq.script n).lease = .granted ∧ t.rq.host ∈ w.client.leased

/-- what a step of thread `i` can do: nothing (no such thread, a finished one, a blocked one), or one of three world updates — an
attempt that fails before the lease is recorded, the lease is taken, or the exchange under the lease is made and recorded -/
theorem stepThread_cases (cfg : Cfg) (w : World) (i : Nat) {P : World → Prop}
    (stutter : (∀ t, w.threads[i]? = some t → t.finished = true ∨ blocked w t) → P w)
    (fail : ∀ t n lg, w.threads[i]? = some t → t.pc = .start n → LogOK lg →
      P { w with threads := w.threads.set i (afterAttempt t n lg) })
    (acquire : ∀ t n, w.threads[i]? = some t → t.pc = .start n → t.rq.host ∉ w.client.leased →
      P { w with client := { w.client with leased := t.rq.host :: w.client.leased },
                 threads := w.threads.set i { t with pc := .holding n },
                 evs := w.evs ++ [Ev.acquire t.rq.host].map (fun e => (i, e)) })
    (exchange : ∀ t n c1 lg ev, w.threads[i]? = some t → t.pc = .holding n →
      underLease cfg w.client t.rq.host (t.rq.script n) = (c1, lg, ev) →
      P { client := { c1 with leased := c1.leased.erase t.rq.host },
          threads := w.threads.set i (afterAttempt t n lg),
          evs := w.evs ++ (ev ++ [Ev.release t.rq.host]).map (fun e => (i, e)) }) :
    P (stepThread cfg w i) := by
  unfold stepThread
  cases hti : w.threads[i]? with
  | none => exact stutter fun _ ht' => by rw [hti] at ht'; cases ht'
  | some t =>
    simp only
    cases hpc : t.pc with
    | done res => exact stutter fun t' ht' => .inl (by cases hti.symm.trans ht'; simp [Thread.finished, hpc])
    | start n =>
      simp only
      cases hu : t.rq.urlOk with
      | false => exact fail t n _ hti hpc (by intro he; simp [urlFail_exn] at he)
      | true =>
        simp only [Bool.not_true, Bool.false_eq_true, if_false]
        cases hl : (t.rq.script n).lease with
        | timedOut | closing => exact fail t n _ hti hpc (by intro he; simp [leaseFail_exn] at he)
        | granted =>
          simp only
          cases hc : w.client.leased.contains t.rq.host with
          | true => exact stutter fun t' ht' => .inr (by cases hti.symm.trans ht'; exact ⟨n, hpc, hu, hl, by simpa using hc⟩)
          | false => exact acquire t n hti hpc (by simpa using hc)
    | holding n =>
      simp only
      generalize hx : underLease cfg w.client t.rq.host (t.rq.script n) = x
      obtain ⟨c1, lg, ev⟩ := x
      exact exchange t n c1 lg ev hti hpc hx

theorem WorldInv.step (cfg : Cfg) {w : World} (hw : WorldInv w) (i : Nat) : WorldInv (stepThread cfg w i) := by
  refine stepThread_cases cfg w i (fun _ => hw) (fun t n lg hti hpc hlg => ?fail) (fun t n hti hpc hfree => ?acquire)
    fun t n c1 lg ev hti hpc hx => ?exchange
  all_goals
    have hto := hw.threads t (List.mem_of_getElem? hti)
    rw [ThreadOK, hpc] at hto
  case fail =>
    -- nothing but the thread's own record changes
    refine { lease := fun h => ?_, cache := hw.cache, trace := hw.trace,
             threads := threads_set hw.threads (afterAttempt_ok hlg hto.1 hto.2.1 hto.2.2) i }
    exact lease_set hti (hw.lease h) (by rw [holds_afterAttempt]; simp [Thread.holds, hpc]) (by simp [holds_afterAttempt])
  case acquire =>
    refine { lease := fun h => ?_, cache := ?_, trace := ?_, threads := threads_set hw.threads (by rw [ThreadOK]; exact hto) i }
    · refine lease_set hti (hw.lease h) (by simp [Thread.holds, hpc, List.count_cons]) fun hh => ?_
      rw [← beq_iff_eq.1 (show (t.rq.host == h) = true from hh)]
      exact List.count_eq_zero.2 hfree
    · rw [traceOf_append, closedAfter_append]
      exact hw.cache.setLeased _
    · rw [traceOf_append, wellUsed_append]
      exact ⟨hw.trace, trivial⟩
  case exchange =>
    have hso : StepOK (closedAfter [] (traceOf w)) w.client c1 ev := by
      have := step_underLease cfg hw.cache t.rq.host (t.rq.script n)
      rwa [hx] at this
    have hlg : LogOK lg := by
      have := underLease_logOK cfg w.client t.rq.host (t.rq.script n)
      rwa [hx] at this
    refine { lease := fun h => ?_, cache := ?_, trace := ?_,
             threads := threads_set hw.threads (afterAttempt_ok hlg hto.1 hto.2.1 hto.2.2) i }
    · exact lease_set hti (hw.lease h) (by rw [holds_afterAttempt]; simp [Thread.holds, hpc, hso.leased, List.count_erase])
        (by simp [holds_afterAttempt])
    · rw [traceOf_append, closedAfter_append, closedAfter_append]
      exact hso.inv.setLeased _
    · rw [traceOf_append, wellUsed_append, wellUsed_append]
      exact ⟨hw.trace, hso.used, trivial⟩

theorem WorldInv.run (cfg : Cfg) {w : World} (hw : WorldInv w) (sched : List Nat) : WorldInv (runSched cfg w sched) := by
  unfold runSched
  induction sched generalizing w with
  | nil => exact hw
  | cons i is ih => exact ih (hw.step cfg i)

theorem holders_init (rqs : List Request) (h : Host) : holders (World.init rqs).threads h = 0 := by
  unfold holders World.init
  induction rqs with
  | nil => rfl
  | cons r rs ih => simpa [Thread.holds] using ih

theorem WorldInv.init (rqs : List Request) : WorldInv (World.init rqs) where
  lease := fun h => by rw [holders_init]; simp [World.init]
  cache := by simpa [traceOf, World.init, closedAfter] using Inv.init
  trace := by simp [traceOf, World.init, wellUsed]
  threads := by
    intro t ht
    simp only [World.init, List.mem_map] at ht
    obtain ⟨rq, _, rfl⟩ := ht
    simp [ThreadOK]

/-- work done so far: events emitted + attempts logged -/
def World.work (w : World) : Nat := w.evs.length + (w.threads.map fun t => t.log.length).sum

theorem work_set_log {ts : List Thread} {i : Nat} {t : Thread} (hi : ts[i]? = some t) (n : Nat) (lg : AttemptLog) :
    ((ts.set i (afterAttempt t n lg)).map fun t => t.log.length).sum = (ts.map fun t => t.log.length).sum + 1 := by
  have := Pool.sum_set (fun t => t.log.length) (afterAttempt t n lg) hi
  have e : (afterAttempt t n lg).log.length = t.log.length + 1 := by simp [afterAttempt]
  simp only [e] at this
  omega

theorem step_works (cfg : Cfg) {w : World} {i : Nat} {t : Thread} (hi : w.threads[i]? = some t) (hf : t.finished = false)
    (hnb : ¬ blocked w t) : w.work < (stepThread cfg w i).work := by
  refine stepThread_cases cfg w i (P := fun w' => w.work < w'.work) (fun h => ?_) (fun _ _ _ hti _ _ => ?_)
    (fun t' n hti _ _ => ?_) fun _ _ _ _ _ hti _ _ => ?_
  · exact ((h t hi).elim (by simp [hf]) hnb).elim
  · simp only [World.work]; rw [work_set_log hti]; omega
  · have := Pool.sum_set (fun t => t.log.length) { t' with pc := .holding n } hti
    simp only [World.work, List.length_append, List.length_map, List.length_singleton] at this ⊢
    omega
  · simp only [World.work, List.length_append, List.length_map, List.length_singleton]
    rw [work_set_log hti]
    omega

/-- stated as `C17.R4_no_deadlock`: the host a blocked caller waits for has a holder (`lease`), and a holder is never blocked -/
theorem WorldInv.progress (cfg : Cfg) {w : World} (hw : WorldInv w) (hun : ∃ t ∈ w.threads, t.finished = false) :
    ∃ i, w.work < (stepThread cfg w i).work := by
  obtain ⟨t, htm, hf⟩ := hun
  obtain ⟨i, hi⟩ := List.getElem?_of_mem htm
  by_cases hb : blocked w t
  · obtain ⟨n, _, _, _, hin⟩ := hb
    have hh : 1 ≤ holders w.threads t.rq.host := by
      rw [(hw.lease t.rq.host).1]; exact List.count_pos_iff.2 hin
    obtain ⟨j, t', hj, ht'⟩ := Pool.exists_of_sum_pos _ hh
    obtain ⟨m, hpc⟩ : ∃ m, t'.pc = .holding m := by
      cases hp : t'.pc <;> simp [Thread.holds, hp] at ht'
      exact ⟨_, rfl⟩
    exact ⟨j, step_works cfg hj (by simp [Thread.finished, hpc]) fun ⟨_, h, _⟩ => by rw [hpc] at h; cases h⟩
  · exact ⟨i, step_works cfg hi hf hb⟩

end Iora.HttpRetry
