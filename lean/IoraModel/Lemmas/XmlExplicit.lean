import IoraModel.Lemmas.Xml
import IoraModel.Common.Window
/-!
The explicit tokenizer of `Model/Xml.lean` (every read a partial function, every guard the C++ comparison) equals its closed
form (`Lemmas/XmlClosed.lean`), function by function.  A guard dropped from an explicit function makes its read return `none`
at the end of the input, hence `bad oob`, and the corresponding equation here stops being provable.
-/
namespace Iora.Xml
open Iora

theorem Cur.at_eq_get {bs : Bytes} {c : Cur} (h : c.At bs) (i : Nat) : c.at i = bs[c.pos + i]? := by
  simp [Cur.at, h.2]

theorem Cur.beyond_iff {bs : Bytes} {c : Cur} (h : c.At bs) (i : Nat) : c.beyond i = true ↔ bs.length ≤ c.pos + i := by
  have := h.total
  simp only [Cur.beyond, List.isEmpty_iff, List.drop_eq_nil_iff]
  omega

theorem Cur.eof_iff {bs : Bytes} {c : Cur} (h : c.At bs) : c.eof = true ↔ bs.length ≤ c.pos :=
  Cur.beyond_iff h 0

theorem advR_zero (c : Cur) : advR 0 c = .ok () c := by simp [advR, advN]

theorem advR_succ {c : Cur} {ch : UInt8} {r : Bytes} (h : c.rest = ch :: r) (k : Nat) :
    advR (k + 1) c = advR k (c.over [ch] r) := by
  simp [advR, advN, Cur.adv_cons h]

theorem advR_nil {c : Cur} (h : c.rest = []) (k : Nat) : advR (k + 1) c = .bad .oob := by
  simp [advR, advN, Cur.adv, h]

theorem advWhile_eq (p : UInt8 → Bool) : ∀ (fuel : Bytes) (c : Cur), c.rest.length ≤ fuel.length →
    advWhile p fuel c = advR (spanLen p c.rest) c := by
  intro fuel
  induction fuel with
  | nil =>
    intro c h
    have : c.rest = [] := List.eq_nil_of_length_eq_zero (by simpa using h)
    unfold advWhile
    simp [Cur.eof, this, spanLen, advR_zero]
  | cons f fuel ih =>
    intro c h
    unfold advWhile
    cases hr : c.rest with
    | nil => simp [Cur.eof, hr, spanLen, advR_zero]
    | cons ch r =>
      simp only [Cur.eof, hr, List.isEmpty_cons, Bool.false_eq_true, ↓reduceIte, Cur.peek, List.head?_cons, spanLen]
      by_cases hp : p ch = true
      · simp only [hp, ↓reduceIte, Cur.adv_cons hr]
        rw [ih _ (by rw [hr] at h; simpa using h), advR_succ hr]
        simp
      · simp only [hp, Bool.false_eq_true, ↓reduceIte, advR_zero]

theorem advWhile_self (p : UInt8 → Bool) (c : Cur) : advWhile p c.rest c = advR (spanLen p c.rest) c :=
  advWhile_eq p c.rest c (Nat.le_refl _)

theorem skipSpaces_eq (c : Cur) : skipSpaces c = skipSpacesC c := by
  unfold skipSpaces skipSpacesC; exact advWhile_self _ c

theorem wsScan_eq : ∀ (fuel : Bytes) (l : Look), l.rest.length ≤ fuel.length →
    wsScan fuel l = .ok ⟨l.off + spanLen isSpace l.rest, l.rest.drop (spanLen isSpace l.rest)⟩ := by
  intro fuel
  induction fuel with
  | nil =>
    intro l h
    have : l.rest = [] := List.eq_nil_of_length_eq_zero (by simpa using h)
    unfold wsScan
    obtain ⟨off, rest⟩ := l
    simp only at this
    subst this
    simp [Look.atEnd, spanLen]
  | cons f fuel ih =>
    intro l h
    unfold wsScan
    obtain ⟨off, rest⟩ := l
    cases rest with
    | nil => simp [Look.atEnd, spanLen]
    | cons ch r =>
      simp only [Look.atEnd, List.isEmpty_cons, Bool.false_eq_true, ↓reduceIte, Look.read, List.head?_cons, spanLen]
      by_cases hp : isSpace ch = true
      · simp only [hp, ↓reduceIte, Look.next, List.tail_cons]
        rw [ih _ (by simpa using h)]
        simp [Nat.add_assoc, Nat.add_comm 1]
      · simp [hp]

theorem skipWs_eq (c : Cur) : skipWhitespaceOutsideText c = skipWhitespaceOutsideTextC c := by
  unfold skipWhitespaceOutsideText skipWhitespaceOutsideTextC
  rw [wsScan_eq c.rest (Look.start c) (Nat.le_refl _)]
  simp only [Look.start, Nat.zero_add, Look.atEnd, Look.read]
  cases hk : c.rest[spanLen isSpace c.rest]? with
  | none =>
    have : c.rest.drop (spanLen isSpace c.rest) = [] := by
      rw [List.drop_eq_nil_iff]; exact List.getElem?_eq_none_iff.mp hk
    simp [this]
  | some ch =>
    have : (c.rest.drop (spanLen isSpace c.rest)).head? = some ch := by rw [List.head?_drop]; exact hk
    cases hd : c.rest.drop (spanLen isSpace c.rest) with
    | nil => rw [hd] at this; simp at this
    | cons y ys =>
      rw [hd] at this
      simp only [List.head?_cons, Option.some.injEq] at this
      subst this
      simp

/-- `cases h : l` abstracts `l` in the goal, and in most of the proofs below the abstracted goal does not type-check (`generalize` fails); this
splits without abstracting -/
theorem list_cases (l : Bytes) : l = [] ∨ ∃ y ys, l = y :: ys := by cases l <;> simp

theorem drop_cons_at {r : Bytes} {i : Nat} {y : UInt8} {ys : Bytes} (h : r.drop i = y :: ys) :
    r[i]? = some y ∧ r.drop (i + 1) = ys :=
  ⟨getElem?_after (x := []) h, drop_at (x := [y]) h⟩

theorem matchLoop_eq (c : Cur) : ∀ (s : Bytes) (i : Nat), matchLoop c s i = .ok (startsWith s (c.rest.drop i)) := by
  intro s
  induction s with
  | nil => intro i; simp [matchLoop, startsWith]
  | cons x xs ih =>
    intro i
    simp only [matchLoop, Cur.beyond, Cur.at]
    rcases list_cases (c.rest.drop i) with hd | ⟨y, ys, hd⟩
    · simp [hd, startsWith]
    · obtain ⟨h1, h2⟩ := drop_cons_at hd
      simp only [hd, List.isEmpty_cons, Bool.false_eq_true, ↓reduceIte, h1, startsWith]
      by_cases hxy : y = x
      · subst hxy; simp [ih, h2]
      · have : ¬ (x = y) := fun h => hxy h.symm
        simp [hxy, this]

theorem matchString_eq (s : Bytes) (c : Cur) : matchString s c = matchStringC s c := by
  unfold matchString matchStringC
  rw [matchLoop_eq]
  simp only [List.drop_zero]
  cases startsWith s c.rest <;> simp

theorem matchLoopCI_eq (c : Cur) : ∀ (s : Bytes) (i : Nat), matchLoopCI c s i = .ok (startsWithCI s (c.rest.drop i)) := by
  intro s
  induction s with
  | nil => intro i; simp [matchLoopCI, startsWithCI]
  | cons x xs ih =>
    intro i
    simp only [matchLoopCI, Cur.beyond, Cur.at]
    rcases list_cases (c.rest.drop i) with hd | ⟨y, ys, hd⟩
    · simp [hd, startsWithCI]
    · obtain ⟨h1, h2⟩ := drop_cons_at hd
      simp only [hd, List.isEmpty_cons, Bool.false_eq_true, ↓reduceIte, h1, startsWithCI]
      by_cases hxy : lowerAscii y = lowerAscii x
      · simp [hxy, ih, h2]
      · simp [hxy]

theorem matchWordCI_eq (w : Bytes) (c : Cur) : matchWordCI w c = matchWordCIC w c := by
  unfold matchWordCI matchWordCIC
  rw [matchLoopCI_eq]
  simp only [List.drop_zero]
  cases startsWithCI w c.rest with
  | false => simp
  | true =>
    simp only [↓reduceIte, Cur.beyond, Cur.at]
    cases hk : c.rest[w.length]? with
    | none =>
      have : c.rest.drop w.length = [] := by
        rw [List.drop_eq_nil_iff]; exact List.getElem?_eq_none_iff.mp hk
      simp only [this, List.isEmpty_nil, ↓reduceIte]
      have e1 : isSpace 0 = false := by decide
      simp [e1]
    | some x =>
      have : c.rest.drop w.length ≠ [] := by
        intro h
        rw [List.drop_eq_nil_iff] at h
        have := List.getElem?_eq_none_iff.mpr h
        rw [this] at hk; cases hk
      rcases list_cases (c.rest.drop w.length) with hd | ⟨y, ys, hd⟩
      · exact (this hd).elim
      · simp [hd]

theorem advR_one_bind {α : Type} {c : Cur} {ch : UInt8} {r : Bytes} (h : c.rest = ch :: r) (f : Bytes → Nat)
    (K : Unit → Cur → Res α) :
    ((advR 1 c).bind fun _ c0 => (advR (f c0.rest) c0).bind K) = (advR (1 + f r) c).bind K := by
  rw [Nat.add_comm, advR_succ h, advR_succ h, advR_zero]
  simp [Res.bind]

theorem readName_eq (o : Options) (c : Cur) : readName o c = readNameC o c := by
  unfold readName readNameC
  cases hr : c.rest with
  | nil => simp [Cur.eof, hr]
  | cons ch r =>
    simp only [Cur.eof, hr, List.isEmpty_cons, Bool.false_eq_true, ↓reduceIte, Cur.peek, List.head?_cons, advWhile_self]
    exact ite_congr rfl (fun _ => rfl) (fun _ => advR_one_bind hr (fun r => spanLen isNameChar r) _)

theorem untilScan_eq (e : Bytes) : ∀ (fuel : Bytes) (l : Look), l.rest.length ≤ fuel.length →
    untilScan e fuel l = .ok ((findSub e l.rest).map fun k => ⟨l.off + k, l.rest.drop k⟩) := by
  intro fuel
  induction fuel with
  | nil =>
    intro l h
    obtain ⟨off, rest⟩ := l
    have : rest = [] := List.eq_nil_of_length_eq_zero (by simpa using h)
    subst this
    unfold untilScan
    simp [Look.atEnd, findSub]
  | cons f fuel ih =>
    intro l h
    obtain ⟨off, rest⟩ := l
    unfold untilScan
    cases rest with
    | nil => simp [Look.atEnd, findSub]
    | cons ch r =>
      simp only [Look.atEnd, List.isEmpty_cons, Bool.false_eq_true, ↓reduceIte, Look.read, List.head?_cons, findSub]
      by_cases hs : startsWith e (ch :: r) = true
      · simp [hs]
      · simp only [hs, Bool.false_eq_true, ↓reduceIte, Look.next, List.tail_cons]
        rw [ih _ (by simpa using h)]
        cases findSub e r with
        | none => simp
        | some k => simp [Nat.add_assoc, Nat.add_comm 1]

theorem readUntil_eq (e : Bytes) (c : Cur) : readUntil e c = readUntilC e c := by
  unfold readUntil readUntilC
  rw [untilScan_eq e c.rest (Look.start c) (Nat.le_refl _)]
  simp only [Look.start, Nat.zero_add]
  cases findSub e c.rest <;> simp

theorem readQuotedValue_eq (o : Options) (c : Cur) : readQuotedValue o c = readQuotedValueC o c := by
  unfold readQuotedValue readQuotedValueC
  cases hr : c.rest with
  | nil => simp [Cur.eof, hr]
  | cons q r =>
    simp only [Cur.eof, hr, List.isEmpty_cons, Bool.false_eq_true, ↓reduceIte, Cur.peek, List.head?_cons, advWhile_self]

theorem readAttributes_eq (o : Options) : ∀ (fuel : Bytes) (acc : List Attr) (c : Cur),
    readAttributes o fuel acc c = readAttributesC o fuel.length acc c := by
  intro fuel
  induction fuel with
  | nil => intro acc c; simp [readAttributes, readAttributesC]
  | cons f fuel ih =>
    intro acc c
    simp only [readAttributes, readAttributesC, List.length_cons, skipSpaces_eq]
    congr 1
    funext _ c1
    cases hr1 : c1.rest with
    | nil => simp [Cur.eof, hr1]
    | cons ch r =>
      simp only [Cur.eof, hr1, List.isEmpty_cons, Bool.false_eq_true, ↓reduceIte, Cur.peek, List.head?_cons, readName_eq]
      refine ite_congr rfl (fun _ => rfl) (fun _ => ?_)
      · congr 1
        funext name c2
        cases name with
        | none => rfl
        | some nm =>
          simp only
          congr 1
          funext _ c3
          rcases list_cases c3.rest with hr3 | ⟨e, r3, hr3⟩
          · simp [hr3]
          · simp only [hr3, List.isEmpty_cons, Bool.false_eq_true, ↓reduceIte, List.head?_cons, readQuotedValue_eq, ih]

theorem findFrom_eq (pat : Bytes) : ∀ (r : Bytes) (i : Nat), findFrom pat i r = (findSub pat r).map (· + i)
  | [], i => rfl
  | ch :: r, i => by
    simp only [findFrom, findSub]
    split
    · simp
    · rw [findFrom_eq pat r (i + 1)]; cases findSub pat r <;> simp; omega

theorem toStep_congr {α : Type} (r : Res α) (k k' : α → Cur → Step) (h : ∀ a c, k a c = k' a c) :
    r.toStep k = r.toStep k' := by
  have : k = k' := by funext a c; exact h a c
  rw [this]

theorem readPI_eq (o : Options) (s : St) (start c : Cur) : readPI o s start c = readPIC o s start c := by
  unfold readPI readPIC
  rw [readName_eq]
  apply toStep_congr
  intro target c1
  cases target with
  | none => rfl
  | some tg =>
    simp only [findFrom_eq]
    cases findSub [0x3F, 0x3E] c1.rest <;> simp

theorem readComment_eq (s : St) (start c : Cur) : readComment s start c = readCommentC s start c := by
  unfold readComment readCommentC; rw [readUntil_eq]; rfl

theorem readCData_eq (s : St) (start c : Cur) : readCData s start c = readCDataC s start c := by
  unfold readCData readCDataC; rw [readUntil_eq]; rfl

theorem doctypeLoop_eq : ∀ (fuel : Bytes) (l : Look) (b : Nat), l.rest.length ≤ fuel.length →
    doctypeLoop fuel l b = .ok (match doctypeScan l.rest b with
      | some k => ⟨l.off + k, l.rest.drop k⟩
      | none => ⟨l.off + l.rest.length, []⟩)
  | _, ⟨off, []⟩, b, _ => by unfold doctypeLoop; simp [Look.atEnd, doctypeScan]
  | [], ⟨off, ch :: r⟩, b, h => by simp at h
  | f :: fuel, ⟨off, ch :: r⟩, b, h => by
    -- every branch but `break` goes on behind `ch` with some bracket count
    have step : ∀ b', doctypeLoop fuel ⟨off + 1, r⟩ b' = .ok (match (doctypeScan r b').map (· + 1) with
        | some k => ⟨off + k, (ch :: r).drop k⟩
        | none => ⟨off + (ch :: r).length, []⟩) := by
      intro b'
      rw [doctypeLoop_eq fuel ⟨off + 1, r⟩ b' (by simpa using h)]
      cases doctypeScan r b' <;> simp [Nat.add_assoc, Nat.add_comm 1]
    unfold doctypeLoop
    simp only [Look.atEnd, List.isEmpty_cons, Bool.false_eq_true, ↓reduceIte, Look.read, List.head?_cons, doctypeScan,
      Look.next, List.tail_cons]
    by_cases h1 : ch = 0x5B
    · simp only [if_pos h1]; exact step _
    simp only [if_neg h1]
    by_cases h2 : ch = 0x5D
    · have hb : (if b > 0 then b - 1 else b) = b - 1 := by
        by_cases hb : b > 0
        · rw [if_pos hb]
        · rw [if_neg hb]; omega
      simp only [if_pos h2, hb]; exact step _
    simp only [if_neg h2]
    by_cases h3 : (ch = 0x3E && b = 0) = true
    · rw [if_pos h3, if_pos h3]; simp
    · simp only [if_neg h3]; exact step _

theorem readDoctype_eq (s : St) (start c : Cur) : readDoctype s start c = readDoctypeC s start c := by
  unfold readDoctype readDoctypeC
  rw [doctypeLoop_eq c.rest (Look.start c) 0 (Nat.le_refl _)]
  simp only [Look.start, Nat.zero_add]
  cases hk : doctypeScan c.rest 0 with
  | none => simp [Look.atEnd]
  | some k =>
    have := doctypeScan_bound _ _ _ hk
    have hne : c.rest.drop k ≠ [] := by
      intro h; rw [List.drop_eq_nil_iff] at h; omega
    rcases list_cases (c.rest.drop k) with hd | ⟨y, ys, hd⟩
    · exact (hne hd).elim
    · simp [Look.atEnd, hd]

theorem readEndTag_eq (o : Options) (s : St) (start c : Cur) : readEndTag o s start c = readEndTagC o s start c := by
  unfold readEndTag readEndTagC
  rw [readName_eq]
  apply toStep_congr
  intro name c1
  cases name with
  | none => rfl
  | some nm =>
    simp only [skipSpaces_eq]
    apply toStep_congr
    intro _ c2
    rcases list_cases c2.rest with hr | ⟨g, r, hr⟩
    · simp [Cur.eof, hr]
    · simp only [Cur.eof, Cur.peek, hr, List.isEmpty_cons, Bool.false_eq_true, ↓reduceIte, List.head?_cons]
      rfl

theorem readStartOrEmptyTag_eq (o : Options) (s : St) (start c : Cur) :
    readStartOrEmptyTag o s start c = readStartOrEmptyTagC o s start c := by
  unfold readStartOrEmptyTag readStartOrEmptyTagC
  rw [readName_eq]
  apply toStep_congr
  intro name c1
  cases name with
  | none => rfl
  | some nm =>
    simp only [readAttributes_eq, List.length_cons]
    apply toStep_congr
    intro attrs c2
    rcases list_cases c2.rest with hr | ⟨p, r, hr⟩
    · simp [Cur.peek, hr]
    · simp only [Cur.peek, hr, List.head?_cons]
      apply toStep_congr
      intro _ c3
      rcases list_cases c3.rest with hr3 | ⟨g, r3, hr3⟩
      · simp [Cur.eof, hr3]
      · simp only [Cur.eof, hr3, List.isEmpty_cons, Bool.false_eq_true, ↓reduceIte, List.head?_cons]

/-- the C++ tests `_cur - start >= maxTextSpan` before each byte, so from `c` the loop may take `maxTextSpan - (_cur - start)` more bytes:
the bound is stated relative to the moving cursor for the induction to go through -/
theorem textLoop_eq (o : Options) (start : Nat) : ∀ (fuel : Bytes) (c : Cur), c.rest.length ≤ fuel.length → start ≤ c.pos →
    textLoop o start fuel c =
      if spanLen notLt c.rest > o.maxText - (c.pos - start) then
        (advR (o.maxText - (c.pos - start)) c).bind fun _ c' => .fail .textTooLarge c'
      else advR (spanLen notLt c.rest) c := by
  intro fuel
  induction fuel with
  | nil =>
    intro c h _
    have : c.rest = [] := List.eq_nil_of_length_eq_zero (by simpa using h)
    unfold textLoop
    simp [Cur.eof, this, spanLen, advR_zero]
  | cons f fuel ih =>
    intro c h hpos
    unfold textLoop
    rcases list_cases c.rest with hr | ⟨ch, r, hr⟩
    · simp [Cur.eof, hr, spanLen, advR_zero]
    · simp only [Cur.eof, hr, List.isEmpty_cons, Bool.false_eq_true, ↓reduceIte, Cur.peek, List.head?_cons, spanLen]
      by_cases hlt : ch = 0x3C
      · subst hlt
        have : notLt 0x3C = false := by decide
        simp [this, advR_zero]
      · have hn : notLt ch = true := by simp [notLt, hlt]
        simp only [hlt, ↓reduceIte, hn]
        by_cases hmax : c.pos - start ≥ o.maxText
        · have h0 : o.maxText - (c.pos - start) = 0 := by omega
          simp [hmax, h0, advR_zero, Res.bind]
        · have hp' : (c.over [ch] r).pos = c.pos + 1 := rfl
          have hm : o.maxText - (c.pos - start) = (o.maxText - (c.pos + 1 - start)) + 1 := by omega
          simp only [hmax, ↓reduceIte, Cur.adv_cons hr]
          rw [ih (c.over [ch] r) (by rw [hr] at h; simpa using h) (by omega), Cur.over_rest, hp', hm, advR_succ hr,
            advR_succ hr]
          simp only [gt_iff_lt, Nat.add_lt_add_iff_right]

theorem readText_eq (o : Options) (s : St) (c : Cur) (ch : UInt8) (r : Bytes) (hr : c.rest = ch :: r) (hch : ch ≠ 0x3C) :
    readText o s c = readTextC o s c r := by
  unfold readText readTextC
  rw [textLoop_eq o c.pos c.rest c (Nat.le_refl _) (Nat.le_refl _)]
  have hn : notLt ch = true := by simp [notLt, hch]
  have hsp : spanLen notLt c.rest = 1 + spanLen notLt r := by rw [hr]; simp [spanLen, hn]; omega
  simp only [hsp, Nat.sub_self, Nat.sub_zero]
  by_cases hk : 1 + spanLen notLt r > o.maxText
  · rw [if_pos hk, if_pos hk]
    cases advR o.maxText c <;> rfl
  · rw [if_neg hk, if_neg hk]
    -- the cursor has moved by at least the byte `ch`, so the `sv.empty()` re-entry of `readText` (`bad dead`) is not taken
    have hsat := advR_sat (k := 1 + spanLen notLt r) (c := c) (by rw [hr]; have := spanLen_le notLt r; simp; omega)
    cases hres : advR (1 + spanLen notLt r) c with
    | ok a c1 =>
      rw [hres] at hsat
      have : ¬ (c1.pos - c.pos = 0) := by have := hsat.2.1; omega
      simp [Res.toStep, this]
    | fail e c1 => rfl
    | bad b => rfl

theorem next_eq (o : Options) (s : St) : next o s = nextC o s := by
  unfold next nextC
  refine ite_congr rfl (fun _ => rfl) (fun _ => ?_)
  rw [skipWs_eq]
  apply toStep_congr
  intro _ c
  rcases list_cases c.rest with hr | ⟨ch, r, hr⟩
  · simp [Cur.eof, hr]
  · simp only [Cur.eof, Cur.peek, hr, List.isEmpty_cons, Bool.false_eq_true, ↓reduceIte, List.head?_cons]
    refine ite_congr rfl (fun _ => ?_) (fun hch => readText_eq o s c ch r hr hch)
    apply toStep_congr
    intro _ c1
    rcases list_cases c1.rest with hr1 | ⟨n, r1, hr1⟩
    · simp [hr1]
    · simp only [hr1, List.isEmpty_cons, Bool.false_eq_true, ↓reduceIte, List.head?_cons, readPI_eq, readEndTag_eq,
        readStartOrEmptyTag_eq, matchString_eq, matchWordCI_eq, readComment_eq, readCData_eq, readDoctype_eq]

theorem run_eq (o : Options) : ∀ (fuel : Nat) (s : St), run o fuel s = runC o fuel s := by
  intro fuel
  induction fuel with
  | zero => intro s; rfl
  | succ fuel ih =>
    intro s
    simp only [run, runC, next_eq]
    cases nextC o s with
    | tok t s' => simp only [ih]
    | eof t s' => rfl
    | err e c => rfl
    | bad b => rfl

theorem tokens_eq (o : Options) (bs : Bytes) : tokens o bs = tokensC o bs := by
  unfold tokens tokensC; exact run_eq o _ _

end Iora.Xml
