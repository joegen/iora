import IoraModel.Model.Xml
/-! `Node::~Node` (FC14a): the work-list loop visits every node of the subtree exactly once, each with no children left. -/
namespace Iora.Xml
open Iora

mutual
  /-- every node of a subtree, children stripped, in pre-order -/
  def Node.labels : Node → List Node
    | .elem n as ch => .elem n as [] :: labelsList ch
    | .text v => [.text v]
    | .cdata v => [.cdata v]
    | .comment v => [.comment v]
    | .pi n v => [.pi n v]
  def labelsList : List Node → List Node
    | [] => []
    | n :: r => n.labels ++ labelsList r
end

theorem Node.labels_eq (n : Node) : n.labels = n.shallow :: labelsList n.kids := by
  cases n <;> simp [Node.labels, Node.shallow, Node.kids, labelsList]

theorem Node.size_eq (n : Node) : n.size = 1 + sizeList n.kids := by
  cases n <;> simp [Node.size, Node.kids, sizeList]

theorem labelsList_eq : ∀ l : List Node, labelsList l = l.flatMap Node.labels
  | [] => rfl
  | n :: r => by rw [labelsList, labelsList_eq r, List.flatMap_cons]

theorem sizeList_eq : ∀ l : List Node, sizeList l = (l.map Node.size).sum
  | [] => rfl
  | n :: r => by rw [sizeList, sizeList_eq r, List.map_cons, List.sum_cons]

theorem Node.labels_length (n : Node) : n.labels.length = n.size :=
  Node.rec (motive_1 := fun m => m.labels.length = m.size) (motive_2 := fun l => (labelsList l).length = sizeList l)
    (by intro nm as ch ihc; simp [Node.labels, Node.size, ihc]; omega)
    (by intro v; rfl) (by intro v; rfl) (by intro v; rfl) (by intro nm v; rfl)
    (by rfl) (by intro h t ih1 ih2; simp [labelsList, sizeList, ih1, ih2]) n

theorem destroyLoop_perm : ∀ (fuel : Nat) (pending : List Node), sizeList pending ≤ fuel →
    ((destroyLoop fuel pending).map (·.node)).Perm (labelsList pending) := by
  intro fuel
  induction fuel with
  | zero =>
    intro pending h
    cases pending with
    | nil => exact List.Perm.refl _
    | cons n r => have := Node.size_eq n; simp [sizeList] at h; omega
  | succ f ih =>
    intro pending h
    cases pending with
    | nil => exact List.Perm.refl _
    | cons n rest =>
      simp only [destroyLoop, List.map_cons, labelsList, Node.labels_eq n, List.cons_append]
      apply List.Perm.cons
      have hsz : sizeList (n.kids.reverse ++ rest) ≤ f := by
        have := Node.size_eq n
        simp only [sizeList_eq, List.map_append, List.map_reverse, List.sum_append, List.sum_reverse, List.map_cons,
          List.sum_cons] at h this ⊢
        omega
      refine (ih _ hsz).trans ?_
      simp only [labelsList_eq, List.flatMap_append]
      exact List.Perm.append_right _ ((List.reverse_perm _).flatMap_right _)

theorem destroyLoop_childless : ∀ (fuel : Nat) (pending : List Node), ∀ d ∈ destroyLoop fuel pending,
    d.kidsLeft = 0 ∧ d.node.kids = [] := by
  intro fuel
  induction fuel with
  | zero => intro pending d hd; simp [destroyLoop] at hd
  | succ f ih =>
    intro pending d hd
    cases pending with
    | nil => simp [destroyLoop] at hd
    | cons n rest =>
      simp only [destroyLoop, List.mem_cons] at hd
      rcases hd with rfl | hd
      · exact ⟨rfl, by cases n <;> rfl⟩
      · exact ih _ d hd

end Iora.Xml
