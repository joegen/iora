import IoraModel.Lemmas.HttpClient
/-
Exactness of the client framing model on rendered messages of the reference syntax (`Model/Http1Spec.lean`).  Proofs about
the bytes of a message are stated on a window of the buffer (`buf.drop pos = piece ++ rest`); the layout of rendered chunks and
of header sections is shared with the server (`Lemmas/HttpServerExact.lean`).
-/
namespace Iora.Http
open Iora Iora.Http.Spec

theorem tokValue16_facts (tok : Bytes) (n : Nat) (h : tokValue 16 tok = some n) :
    tok ≠ [] ∧ ∀ c ∈ tok, isHexDigit c = true ∧ c ≠ 10 ∧ c ≠ 13 := by
  obtain ⟨hne, _, hd⟩ := tokValue_some 16 tok n h
  exact ⟨hne, fun c hc => by obtain ⟨v, hv⟩ := hd c hc; exact digitVal16_hex c v hv⟩

theorem ext_facts (ext : Bytes) (h : ExtOK ext) :
    (∀ c ∈ ext, c ≠ 10 ∧ c ≠ 13) ∧ HeadNot isHexDigit ext ∧ chunkExtOk ext = true := by
  rcases h with rfl | ⟨bws, rest, rfl, hb, hr⟩
  · exact ⟨by simp, .nil, rfl⟩
  · have hws : (bws ++ 59 :: rest).takeWhile isOWS = bws := takeWhile_append_stop hb (.cons _ (by decide))
    refine ⟨?_, ?_, ?_⟩
    · intro c hc
      rcases List.mem_append.mp hc with hc | hc
      · rcases isOWS_cases c (hb c hc) with rfl | rfl <;> decide
      · rcases List.mem_cons.mp hc with rfl | hc
        · decide
        · exact ⟨(hr c hc).2, (hr c hc).1⟩
    · intro c r e
      cases bws with
      | nil => cases e; decide
      | cons b bs => cases e; rcases isOWS_cases c (hb c (by simp)) with rfl | rfl <;> decide
    · unfold chunkExtOk; rw [hws]; simp

theorem tokExt_noCRLF (tok ext : Bytes) (n : Nat) (ht : tokValue 16 tok = some n) (he : ExtOK ext) :
    ∀ c ∈ tok ++ ext, c ≠ 10 ∧ c ≠ 13 := by
  intro c hc
  rcases List.mem_append.mp hc with hc | hc
  · exact ((tokValue16_facts tok n ht).2 c hc).2
  · exact (ext_facts ext he).1 c hc

theorem findAux_lf_line (l rest : Bytes) (h : ∀ c ∈ l, c ≠ 10) :
    findAux [10] (l ++ 13 :: 10 :: rest) 0 = some (l.length + 1) := by
  have e : l ++ 13 :: 10 :: rest = (l ++ [13]) ++ 10 :: rest := by simp
  rw [e, findAux_skip 10 [] _ _ 0 (by
    intro c hc
    rcases List.mem_append.mp hc with hc | hc
    · exact h c hc
    · rw [List.mem_singleton.mp hc]; decide)]
  simp [findAux]

theorem sizeLine_exact (buf : Bytes) (pos : Nat) (tok ext rest : Bytes) (cap n : Nat)
    (hw : buf.drop pos = (tok ++ ext) ++ 13 :: 10 :: rest)
    (ht : tokValue 16 tok = some n) (hn : n < 2 ^ 64) (hcap : n ≤ cap) (he : ExtOK ext) :
    sizeLine buf cap pos = .ok n (pos + (tok ++ ext).length + 2) := by
  obtain ⟨htne, hthex⟩ := tokValue16_facts tok n ht
  obtain ⟨_, hehead, hetail⟩ := ext_facts ext he
  have hfind := findAux_lf_line (tok ++ ext) rest (fun c hc => (tokExt_noCRLF tok ext n ht he c hc).1)
  have hget : buf[pos + (tok ++ ext).length]? = some 13 := getElem?_after hw
  have hrun : (tok ++ ext).takeWhile isHexDigit = tok := takeWhile_append_stop (fun c hc => (hthex c hc).1) hehead
  have htne' : tok.isEmpty = false := by cases tok with | nil => exact absurd rfl htne | cons _ _ => rfl
  unfold sizeLine
  rw [hw, hfind]
  simp only [← Nat.add_assoc, Nat.add_sub_cancel, hget, ne_eq, ↓reduceIte, Nat.add_sub_cancel_left,
    List.take_left' rfl, hrun, htne', Bool.false_eq_true, (parseFullUInt_iff 16 tok n).2 ⟨ht, hn⟩,
    Nat.not_lt.mpr hcap, List.drop_left' rfl, hetail]
  -- what is left is the lone-LF test: the LF is not at offset 0, and the byte before it is the CR (`hget`)
  rw [if_neg (by simp)]

theorem chunk_layout {buf rest : Bytes} {pos : Nat} (c : Chunk) (hw : buf.drop pos = c.render ++ rest) :
    buf.drop pos = (c.tok ++ c.ext) ++ 13 :: 10 :: (c.data ++ crlf ++ rest) ∧
    c.render.length = c.tok.length + c.ext.length + 2 + c.data.length + 2 ∧
    buf.length = pos + c.tok.length + c.ext.length + 2 + c.data.length + 2 + rest.length ∧
    buf[pos + c.tok.length + c.ext.length + 2 + c.data.length]? = some 13 ∧
    buf[pos + c.tok.length + c.ext.length + 2 + c.data.length + 1]? = some 10 ∧
    buf.drop (pos + c.tok.length + c.ext.length + 2) = c.data ++ 13 :: 10 :: rest := by
  have w2 : buf.drop pos = ((c.tok ++ c.ext) ++ crlf) ++ (c.data ++ 13 :: 10 :: rest) := by
    rw [hw]; simp [Chunk.render, crlf]
  have w3 : buf.drop pos = ((c.tok ++ c.ext) ++ crlf ++ c.data) ++ 13 :: 10 :: rest := by
    rw [hw]; simp [Chunk.render, crlf]
  have w4 : buf.drop pos = ((c.tok ++ c.ext) ++ crlf ++ c.data ++ [13]) ++ 10 :: rest := by
    rw [hw]; simp [Chunk.render, crlf]
  have hlen := length_at w3 (Nat.le_of_lt (lt_length_at w3))
  have hg1 := getElem?_after w3
  have hg2 := getElem?_after w4
  have hd := drop_at w2
  simp only [List.length_append, List.length_cons, List.length_nil, crlf, ← Nat.add_assoc] at hlen hg1 hg2 hd
  refine ⟨by rw [hw]; simp [Chunk.render, crlf], by simp [Chunk.render, crlf]; omega, by omega, hg1, hg2, hd⟩

theorem lastChunk_layout {buf rest : Bytes} {pos : Nat} (l : LastChunk) (hw : buf.drop pos = l.render ++ rest) :
    buf.drop pos = (l.tok ++ l.ext) ++ 13 :: 10 :: ((l.trailers.map (· ++ crlf)).flatten ++ crlf ++ rest) ∧
    buf.drop (pos + l.tok.length + l.ext.length + 2) = (l.trailers.map (· ++ crlf)).flatten ++ crlf ++ rest ∧
    l.render.length = l.tok.length + l.ext.length + 2 + ((l.trailers.map (· ++ crlf)).flatten).length + 2 := by
  have w2 : buf.drop pos = ((l.tok ++ l.ext) ++ crlf) ++ ((l.trailers.map (· ++ crlf)).flatten ++ crlf ++ rest) := by
    rw [hw]; simp [LastChunk.render, crlf]
  have hd := drop_at w2
  simp only [List.length_append, List.length_cons, List.length_nil, crlf, ← Nat.add_assoc] at hd
  exact ⟨by rw [hw]; simp [LastChunk.render, crlf], hd, by simp [LastChunk.render, crlf]; omega⟩

theorem chunkStep_data (buf rest : Bytes) (cap : Nat) (c : Chunk) (hc : c.WF cap) (st : ChunkState)
    (hw : buf.drop st.pos = c.render ++ rest) :
    chunkStep buf cap st =
      .next { pos := st.pos + c.render.length, decoded := st.decoded ++ c.data, messageEnd := st.messageEnd } := by
  have hn0 : c.data.length ≠ 0 := fun h => hc.nonempty (List.eq_nil_of_length_eq_zero h)
  obtain ⟨w1, hr, hlen, hg1, hg2, hd⟩ := chunk_layout c hw
  unfold chunkStep
  rw [sizeLine_exact buf st.pos c.tok c.ext _ cap _ w1 hc.size hc.small64 hc.small hc.ext_ok, hr]
  simp only [List.length_append, ← Nat.add_assoc, hn0, ↓reduceIte, hg1, hg2, hd, List.take_left' rfl, ne_eq,
    not_true_eq_false, or_self]
  rw [if_neg (by omega)]

theorem trailerLoop_exact : ∀ (ts : List Bytes) (buf rest : Bytes) (tp : Nat), (∀ t ∈ ts, t ≠ [] ∧ NoCRLF t) →
    buf.drop tp = (ts.map (· ++ crlf)).flatten ++ crlf ++ rest →
    trailerLoop buf tp = .complete (tp + ((ts.map (· ++ crlf)).flatten).length + 2) := by
  intro ts
  induction ts with
  | nil =>
    intro buf rest tp _ hw
    have hw' : buf.drop tp = [] ++ 13 :: 10 :: rest := hw
    rw [trailerLoop, dif_pos (lt_length_at hw'), hw']
    have hg : buf[tp]? = some 13 := by simpa using getElem?_after hw'
    simp [findAux, hg]
  | cons t ts ih =>
    intro buf rest tp h hw
    obtain ⟨hne, ht⟩ := h t (by simp)
    have hw' : buf.drop tp = t ++ 13 :: 10 :: ((ts.map (· ++ crlf)).flatten ++ crlf ++ rest) := by
      rw [hw]; simp [crlf]
    have hw2 : buf.drop tp = (t ++ crlf) ++ ((ts.map (· ++ crlf)).flatten ++ crlf ++ rest) := by rw [hw']; simp [crlf]
    have htl : 0 < t.length := List.length_pos_iff.mpr hne
    have hfind := findAux_lf_line t ((ts.map (· ++ crlf)).flatten ++ crlf ++ rest) (fun c hc => (ht c hc).2)
    have hrec := ih buf rest (tp + (t ++ crlf).length) (fun t' ht' => h t' (by simp [ht'])) (drop_at hw2)
    rw [trailerLoop, dif_pos (lt_length_at hw'), hw', hfind]
    simp only [← Nat.add_assoc, Nat.add_sub_cancel, getElem?_after hw', ne_eq, not_true_eq_false, or_false]
    rw [if_neg (by omega), if_neg (by omega)]
    simp only [List.length_append, crlf, List.length_cons, List.length_nil, ← Nat.add_assoc] at hrec
    rw [hrec]
    simp [crlf]; omega

theorem chunkStep_last (buf rest : Bytes) (cap : Nat) (l : LastChunk) (hl : l.WF) (st : ChunkState)
    (hw : buf.drop st.pos = l.render ++ rest) :
    chunkStep buf cap st = .complete (st.pos + l.render.length) := by
  obtain ⟨w1, hd, hr⟩ := lastChunk_layout l hw
  unfold chunkStep
  rw [sizeLine_exact buf st.pos l.tok l.ext _ cap 0 w1 hl.size (by decide) (Nat.zero_le _) hl.ext_ok, hr]
  simp only [↓reduceIte, List.length_append, ← Nat.add_assoc, trailerLoop_exact l.trailers buf rest _ hl.trailers_ok hd]

theorem advanceChunked_exact (cap : Nat) (l : LastChunk) (hl : l.WF) (rest : Bytes) :
    ∀ (cs : List Chunk) (buf : Bytes) (st : ChunkState), (∀ c ∈ cs, c.WF cap) →
    buf.drop st.pos = renderChunks cs ++ l.render ++ rest →
    advanceChunked buf cap st =
      (.complete, { pos := st.pos + (renderChunks cs).length, decoded := st.decoded ++ chunksData cs,
                    messageEnd := st.pos + (renderChunks cs).length + l.render.length }) := by
  have hlne : l.render ≠ [] := by simp [LastChunk.render, crlf]
  intro cs
  induction cs with
  | nil =>
    intro buf st _ hw
    have hw' : buf.drop st.pos = l.render ++ rest := by simpa [renderChunks] using hw
    rw [advanceChunked_step _ cap st (lt_length_at hw' (by simp [hlne])), chunkStep_last buf rest cap l hl st hw']
    simp [renderChunks, chunksData]
  | cons c cs ih =>
    intro buf st hcs hw
    have hw' : buf.drop st.pos = c.render ++ (renderChunks cs ++ l.render ++ rest) := by simpa [renderChunks] using hw
    rw [advanceChunked_step _ cap st (lt_length_at hw' (by simp [hlne])), chunkStep_data buf _ cap c (hcs c (by simp)) st hw']
    dsimp only
    rw [ih buf _ (fun c' hc' => hcs c' (by simp [hc'])) (drop_at hw')]
    simp [renderChunks, chunksData]
    omega

theorem findAux_crlf2_skip (l r : Bytes) (i : Nat) (h : ∀ c ∈ l, c ≠ 13) :
    findAux crlf2 (l ++ r) i = findAux crlf2 r (i + l.length) :=
  findAux_skip 13 [10, 13, 10] l r i h

theorem findAux_crlf2_sep (r : Bytes) (i : Nat) (hr : ∀ c, r.head? = some c → c ≠ 13) :
    findAux crlf2 (13 :: 10 :: r) i = findAux crlf2 r (i + 2) := by
  have h1 : crlf2.isPrefixOf (13 :: 10 :: r) = false := by
    cases r with
    | nil => rfl
    | cons c cs =>
      have : c ≠ 13 := hr c rfl
      have hne : ((13 : UInt8) == c) = false := by simpa using fun h => this h.symm
      simp [crlf2, List.isPrefixOf_cons_cons, hne]
  have h2 : crlf2.isPrefixOf (10 :: r) = false := rfl
  simp only [findAux, h1, h2, Bool.false_eq_true, ↓reduceIte]

def LineOK (l : Bytes) : Prop := l ≠ [] ∧ ∀ c ∈ l, c ≠ 13

theorem joinCRLF_head (l : Bytes) (ls : List Bytes) (hl : LineOK l) (rest : Bytes) :
    ∀ c, (joinCRLF (l :: ls) ++ rest).head? = some c → c ≠ 13 := by
  intro c hc
  cases l with
  | nil => exact absurd rfl hl.1
  | cons a as =>
    cases ls with
    | nil => simp [joinCRLF] at hc; subst hc; exact hl.2 a (by simp)
    | cons b bs => simp [joinCRLF] at hc; subst hc; exact hl.2 a (by simp)

theorem find_header_end : ∀ (ls : List Bytes) (rest : Bytes) (i : Nat), ls ≠ [] → (∀ l ∈ ls, LineOK l) →
    findAux crlf2 (joinCRLF ls ++ crlf2 ++ rest) i = some (i + (joinCRLF ls).length) := by
  intro ls
  induction ls with
  | nil => intro rest i h; exact absurd rfl h
  | cons l ls ih =>
    intro rest i _ hall
    have hl := hall l (by simp)
    cases ls with
    | nil =>
      simp only [joinCRLF, List.append_assoc]
      rw [findAux_crlf2_skip l _ i hl.2]
      simp [findAux, crlf2]
    | cons l2 ls2 =>
      have e : joinCRLF (l :: l2 :: ls2) ++ crlf2 ++ rest = l ++ (13 :: 10 :: (joinCRLF (l2 :: ls2) ++ crlf2 ++ rest)) := by
        simp [joinCRLF, crlf]
      rw [e, findAux_crlf2_skip l _ i hl.2]
      have hl2 := hall l2 (by simp)
      rw [findAux_crlf2_sep _ _ (by
        intro c hc
        have : (joinCRLF (l2 :: ls2) ++ (crlf2 ++ rest)).head? = some c := by simpa using hc
        exact joinCRLF_head l2 ls2 hl2 _ c this)]
      rw [ih rest _ (by simp) (fun l' hl' => hall l' (by simp [hl']))]
      simp [joinCRLF, crlf]; omega

theorem splitCRLF_noCR : ∀ (l : Bytes), (∀ c ∈ l, c ≠ 13) → splitCRLF l = [l] := by
  intro l
  induction l with
  | nil => intro _; rfl
  | cons c cs ih =>
    intro h
    cases cs with
    | nil => rfl
    | cons d ds =>
      have hc : c ≠ 13 := h c (by simp)
      have := ih (fun c hc => h c (by simp [hc]))
      simp only [splitCRLF, hc, false_and, ↓reduceIte, this]

theorem splitCRLF_line : ∀ (l r : Bytes), (∀ c ∈ l, c ≠ 13) → splitCRLF (l ++ 13 :: 10 :: r) = l :: splitCRLF r := by
  intro l
  induction l with
  | nil => intro r _; simp [splitCRLF]
  | cons c cs ih =>
    intro r h
    have hc : c ≠ 13 := h c (by simp)
    have := ih r (fun c hc => h c (by simp [hc]))
    cases cs with
    | nil =>
      simp only [List.nil_append] at this
      show splitCRLF (c :: 13 :: 10 :: r) = [c] :: splitCRLF r
      rw [splitCRLF, this]
      simp [hc]
    | cons d ds =>
      simp only [List.cons_append] at this
      show splitCRLF (c :: d :: (ds ++ 13 :: 10 :: r)) = (c :: d :: ds) :: splitCRLF r
      rw [splitCRLF, this]
      simp [hc]

theorem splitCRLF_join : ∀ (ls : List Bytes), ls ≠ [] → (∀ l ∈ ls, LineOK l) → splitCRLF (joinCRLF ls) = ls := by
  intro ls
  induction ls with
  | nil => intro h; exact absurd rfl h
  | cons l ls ih =>
    intro _ hall
    have hl := hall l (by simp)
    cases ls with
    | nil => simpa [joinCRLF] using splitCRLF_noCR l hl.2
    | cons l2 ls2 =>
      have e : joinCRLF (l :: l2 :: ls2) = l ++ 13 :: 10 :: joinCRLF (l2 :: ls2) := by simp [joinCRLF, crlf]
      rw [e, splitCRLF_line l _ hl.2, ih (by simp) (fun l' hl' => hall l' (by simp [hl']))]

theorem fieldLine_parse (f : Field) (hf : f.WF) :
    f.line ≠ [] ∧ (∀ c, f.line.head? = some c → ¬ (c = 32 ∨ c = 9)) ∧
    indexOf? (· == 58) f.line = some f.name.length ∧
    trim (f.line.take f.name.length) = f.name ∧ trim (f.line.drop (f.name.length + 1)) = f.value := by
  have hn0 : ∀ c ∈ f.name, ((c == 58) = false) := by
    intro c hc; simpa using (hf.name_tok c hc).1
  refine ⟨?_, ?_, ?_, ?_, ?_⟩
  · unfold Field.line; cases hnm : f.name with
    | nil => exact absurd hnm hf.name_ne
    | cons a b => simp
  · intro c hc
    unfold Field.line at hc
    cases hnm : f.name with
    | nil => exact absurd hnm hf.name_ne
    | cons a b =>
      rw [hnm] at hc
      simp at hc; subst hc
      have := (hf.name_tok a (by rw [hnm]; simp)).2.2.2
      intro h
      rcases h with h | h <;> (subst h; simp [isOWS] at this)
  · unfold Field.line
    exact indexOf_skip _ f.name 58 _ hn0 (by decide)
  · unfold Field.line
    rw [List.take_left']
    · exact trim_self f.name (trimmed_of_noOWS _ (fun c hc => (hf.name_tok c hc).2.2.2))
    · rfl
  · unfold Field.line
    have : (f.name ++ 58 :: (f.ows1 ++ f.value ++ f.ows2)).drop (f.name.length + 1) = f.ows1 ++ f.value ++ f.ows2 := by
      have e : f.name ++ 58 :: (f.ows1 ++ f.value ++ f.ows2) = (f.name ++ [58]) ++ (f.ows1 ++ f.value ++ f.ows2) := by simp
      rw [e, List.drop_left']
      simp
    rw [this]
    exact trim_padded _ _ _ hf.ows1_ok hf.ows2_ok hf.value_trim

/-- Content-Length lines seen so far agree with those to come -/
def CLcons (cl : Option Bytes) (fs : List Field) : Prop :=
  ∃ v, (cl = none ∨ cl = some v) ∧ ∀ f ∈ fs, ciEq f.name clName = true → f.value = v

theorem parseFieldLines_exact : ∀ (fs : List Field) (cl : Option Bytes) (h : Headers), (∀ f ∈ fs, f.WF) → CLcons cl fs →
    parseFieldLines (fs.map Field.line) cl h = .ok (fs.foldl (fun h f => hdrAdd h f.name f.value) h) := by
  intro fs
  induction fs with
  | nil => intro cl h _ _; rfl
  | cons f fs ih =>
    intro cl h hwf hcl
    obtain ⟨hne, hhead, hidx, hname, hval⟩ := fieldLine_parse f (hwf f (by simp))
    obtain ⟨v, hv, hall⟩ := hcl
    simp only [List.map_cons, List.foldl_cons]
    cases hl : f.line with
    | nil => exact absurd hl hne
    | cons c0 tl =>
      rw [hl] at hidx hname hval
      have h0 : ¬ (c0 = 32 ∨ c0 = 9) := hhead c0 (by rw [hl]; rfl)
      unfold parseFieldLines
      simp only [h0, ↓reduceIte, hidx, hname, hval]
      by_cases hci : ciEq f.name (ascii "Content-Length") = true
      · have hfv : f.value = v := hall f (by simp) hci
        simp only [hci, ↓reduceIte]
        rcases hv with hv | hv
        · subst hv
          simp only
          exact ih _ _ (fun g hg => hwf g (by simp [hg])) ⟨v, Or.inr (by rw [hfv]), fun g hg => hall g (by simp [hg])⟩
        · subst hv
          simp only [hfv, ne_eq, not_true_eq_false, ↓reduceIte]
          have := ih (some v) (hdrAdd h f.name v) (fun g hg => hwf g (by simp [hg])) ⟨v, Or.inr rfl, fun g hg => hall g (by simp [hg])⟩
          exact this
      · simp only [hci, Bool.false_eq_true, ↓reduceIte]
        exact ih _ _ (fun g hg => hwf g (by simp [hg])) ⟨v, hv, fun g hg => hall g (by simp [hg])⟩

theorem b8_digit_ne (d : Nat) (hd : d < 10) (x : UInt8) (hx : x.toNat < 48 ∨ 57 < x.toNat) : b8 (48 + d) ≠ x := by
  intro h
  have := congrArg UInt8.toNat h
  rw [b8_digit hd] at this
  omega

theorem digit_byte (d : Nat) (hd : d < 10) :
    digitVal 10 (b8 (48 + d)) = some d ∧ ((b8 (48 + d) == 32) = false) ∧ b8 (48 + d) ≠ 13 := by
  have ht := b8_digit hd
  refine ⟨?_, by simpa using b8_digit_ne d hd 32 (by decide), b8_digit_ne d hd 13 (by decide)⟩
  unfold digitVal
  simp only [ht]
  have h1 : 48 ≤ 48 + d ∧ 48 + d ≤ 57 := by omega
  simp only [h1, and_self, ↓reduceIte, Nat.add_sub_cancel_left, hd]

theorem parse_digits3 (s : Nat) (hs : s < 1000) : parseFullUInt 10 (digits3 s) = some s := by
  refine (parseFullUInt_iff 10 _ s).2 ⟨?_, by omega⟩
  simp only [tokValue, digits3, List.isEmpty_cons, Bool.false_eq_true, ↓reduceIte, tokFold,
    (digit_byte _ (Nat.mod_lt _ (by decide : 0 < 10))).1]
  congr 1; omega

theorem digits3_digit (s : Nat) : ∀ c ∈ digits3 s, ∃ d, d < 10 ∧ c = b8 (48 + d) := by
  intro c hc
  simp only [digits3, List.mem_cons, List.not_mem_nil, or_false] at hc
  rcases hc with rfl | rfl | rfl <;> exact ⟨_, Nat.mod_lt _ (by decide), rfl⟩

theorem digits3_noSpace (s : Nat) : ∀ c ∈ digits3 s, (c == 32) = false := by
  intro c hc
  obtain ⟨d, hd, rfl⟩ := digits3_digit s c hc
  exact (digit_byte d hd).2.1

theorem httpSlash : ascii "HTTP/" = [72, 84, 84, 80, 47] := by rw [ascii_ofList]; rfl

theorem parseStatusLine_exact (sl : StatusLine) (h : sl.WF) :
    parseStatusLine sl.render = .ok (sl.version, sl.status, sl.reason.getD []) := by
  have hver : (Gen.Http.clientVersions.map ascii).contains [49, 46, b8 (48 + sl.minor)] = true := by
    have := h.minor_ok
    rcases Nat.lt_or_ge sl.minor 1 with h0 | h1
    · rw [show sl.minor = 0 by omega]; decide
    · rw [show sl.minor = 1 by omega]; decide
  have hm32 : (b8 (48 + sl.minor) == 32) = false := (digit_byte sl.minor (by have := h.minor_ok; omega)).2.1
  have hcode := parse_digits3 sl.status h.status_ok
  have hsp := digits3_noSpace sl.status
  have hlen : (digits3 sl.status).length = 3 := rfl
  have hmax : ¬ (sl.status > Gen.Http.clientMaxStatusCode) := by
    have := h.status_ok; simp only [Gen.Http.clientMaxStatusCode]; omega
  unfold parseStatusLine StatusLine.render StatusLine.version
  rw [httpSlash]
  -- the prefix test; the first space, behind the eight bytes of `HTTP/1.<minor>`; the version cut out and found in the table
  simp only [List.cons_append, List.nil_append, List.isPrefixOf_cons_cons, beq_self_eq_true, Bool.true_and,
    List.isPrefixOf_nil_left, not_true_eq_false, ↓reduceIte]
  simp only [indexOf?, hm32]
  simp (config := { decide := true }) only [↓reduceIte, Option.map_some, Nat.reduceAdd, List.take, List.drop, hver]
  -- the status code: up to the second space if a reason phrase follows, else the rest of the line
  cases hr : sl.reason with
  | none => simp only [List.append_nil, indexOf_none _ _ hsp, hcode, hmax, ↓reduceIte, Option.getD_none]
  | some r =>
    have e1 : (digits3 sl.status ++ 32 :: r).take 3 = digits3 sl.status := by rw [← hlen, List.take_left' rfl]
    have e2 : (digits3 sl.status ++ 32 :: r).drop (3 + 1) = r := by
      rw [show digits3 sl.status ++ 32 :: r = (digits3 sl.status ++ [32]) ++ r by simp]
      exact List.drop_left' rfl
    simp only [indexOf_skip _ (digits3 sl.status) 32 r hsp (by decide), hlen, e1, e2, hcode, hmax, ↓reduceIte,
      Option.getD_some]

theorem statusLine_lineOK (sl : StatusLine) (h : sl.WF) : LineOK sl.render := by
  constructor
  · simp [StatusLine.render]
  · intro c hc
    simp only [StatusLine.render, StatusLine.version, List.cons_append, List.nil_append, List.mem_cons,
      List.mem_append] at hc
    have hm : b8 (48 + sl.minor) ≠ 13 := by
      have := h.minor_ok
      exact (digit_byte sl.minor (by omega)).2.2
    rcases hc with rfl | rfl | rfl | rfl | rfl | rfl | rfl | rfl | rfl | hc
    any_goals decide
    · exact hm
    · rcases hc with hc | hc
      · obtain ⟨d, hd, rfl⟩ := digits3_digit sl.status c hc
        exact (digit_byte d hd).2.2
      · cases hr : sl.reason with
        | none => rw [hr] at hc; cases hc
        | some r =>
          rw [hr] at hc
          rcases List.mem_cons.mp hc with rfl | hc
          · decide
          · exact (h.reason_ok r hr c hc).1

theorem fieldLine_noCRLF (f : Field) (hf : f.WF) : NoCRLF f.line := by
  intro c hc
  simp only [Field.line, List.mem_append, List.mem_cons] at hc
  rcases hc with hc | rfl | (hc | hc) | hc
  · exact ⟨(hf.name_tok c hc).2.1, (hf.name_tok c hc).2.2.1⟩
  · decide
  · rcases isOWS_cases c (hf.ows1_ok c hc) with rfl | rfl <;> decide
  · exact hf.value_ok c hc
  · rcases isOWS_cases c (hf.ows2_ok c hc) with rfl | rfl <;> decide

theorem fieldLine_lineOK (f : Field) (hf : f.WF) : LineOK f.line :=
  ⟨(fieldLine_parse f hf).1, fun c hc => (fieldLine_noCRLF f hf c hc).1⟩

theorem headLines_ok (sl : StatusLine) (hsl : sl.WF) (fs : List Field) (hfs : ∀ f ∈ fs, f.WF) :
    ∀ l ∈ sl.render :: fs.map Field.line, LineOK l := by
  intro l hl
  rcases List.mem_cons.mp hl with rfl | hl
  · exact statusLine_lineOK sl hsl
  · obtain ⟨f, hf, rfl⟩ := List.mem_map.mp hl
    exact fieldLine_lineOK f (hfs f hf)

/-- the parsed header block of status line `sl` and field lines `fs` -/
def respOf (sl : StatusLine) (fs : List Field) : Resp :=
  { status := sl.status, text := sl.reason.getD [], version := sl.version, headers := headerMap fs, body := [] }

theorem parseHeaderBlock_exact (sl : StatusLine) (hsl : sl.WF) (fs : List Field) (hfs : ∀ f ∈ fs, f.WF)
    (hcl : CLcons none fs) :
    parseHeaderBlock (joinCRLF (sl.render :: fs.map Field.line)) = .ok (respOf sl fs) := by
  unfold parseHeaderBlock
  rw [splitCRLF_join _ (by simp) (headLines_ok sl hsl fs hfs)]
  simp only [parseStatusLine_exact sl hsl, parseFieldLines_exact fs none [] hfs hcl]
  rfl

theorem hdrFind_foldl_none : ∀ (fs : List Field) (h : Headers) (k : Bytes), ciEq (ascii "Connection") k = false →
    (∀ f ∈ fs, ciEq f.name k = false) →
    hdrFind (fs.foldl (fun h f => hdrAdd h f.name f.value) h) k = hdrFind h k := by
  intro fs
  induction fs with
  | nil => intro h k _ _; rfl
  | cons f fs ih =>
    intro h k hk hall
    simp only [List.foldl_cons]
    rw [ih _ k hk (fun g hg => hall g (by simp [hg])), hdrFind_hdrAdd _ _ _ _ hk, hall f (by simp)]
    simp

/-- lookup of a name that only the framing field `mid` may carry, in the header map of `before ++ mid ++ after` -/
theorem hdrFind_framed (before after : List Field) (mid : Option Field) (k : Bytes)
    (hk : ciEq (ascii "Connection") k = false)
    (hb : ∀ g ∈ before, ciEq g.name k = false) (ha : ∀ g ∈ after, ciEq g.name k = false) :
    hdrFind (headerMap (before ++ (match mid with | none => [] | some f => [f]) ++ after)) k =
      match mid with
      | some f => if ciEq f.name k then some f.value else none
      | none => none := by
  unfold headerMap
  rw [List.foldl_append, List.foldl_append, hdrFind_foldl_none after _ k hk ha]
  cases mid with
  | none => exact hdrFind_foldl_none before [] k hk hb
  | some f =>
    simp only [List.foldl_cons, List.foldl_nil]
    rw [hdrFind_hdrAdd _ _ _ _ hk, hdrFind_foldl_none before [] k hk hb]
    rfl

/-- a body follows the header section (RFC 9112 §6.3 rule 1 does not apply) -/
def HasBody (method : Bytes) (status : Nat) : Prop := method ≠ ascii "HEAD" ∧ status ≠ 204 ∧ status ≠ 304
instance (method : Bytes) (status : Nat) : Decidable (HasBody method status) :=
  inferInstanceAs (Decidable (method ≠ ascii "HEAD" ∧ status ≠ 204 ∧ status ≠ 304))

/-- The final responses `F1_exact` speaks of: a well-formed status line and plain fields around the framing field of `m.body`, where
the body is of the kind RFC 9112 §6.3 assigns to `method` and status (`HasBody` or not).  Declared lengths and chunk sizes are
within `cap`, beyond which the client answers with a framing error; `CONNECT` is left out because `determineFraming` refuses it. -/
structure RespWF (method : Bytes) (cap : Nat) (m : Response) : Prop where
  sl_ok : m.sl.WF
  final : isInterim m.sl.status = false
  before_ok : ∀ f ∈ m.before, PlainField f
  after_ok : ∀ f ∈ m.after, PlainField f
  not_connect : method ≠ ascii "CONNECT"
  body_ok :
    match m.body with
    | .empty => method = ascii "HEAD" ∨ m.sl.status = 204 ∨ m.sl.status = 304
    | .sized tok b => HasBody method m.sl.status ∧ tokValue 10 tok = some b.length ∧ b.length ≤ cap ∧ b.length < 2 ^ 64
    | .chunked te cs l =>
      HasBody method m.sl.status ∧ transferEncodingFinalIsChunked te = true ∧ NoCRLF te ∧ Trimmed te ∧
        (∀ c ∈ cs, c.WF cap) ∧ l.WF
    | .untilClose _ => HasBody method m.sl.status

theorem decTok_facts (tok : Bytes) (n : Nat) (h : tokValue 10 tok = some n) :
    NoCRLF tok ∧ Trimmed tok ∧ (∀ c ∈ tok, c ≠ 44) := by
  obtain ⟨_, _, hd⟩ := tokValue_some 10 tok n h
  have hf : ∀ c ∈ tok, c ≠ 13 ∧ c ≠ 10 ∧ isOWS c = false ∧ c ≠ 44 := fun c hc => by
    obtain ⟨v, hv⟩ := hd c hc; exact digitVal10_facts c v hv
  exact ⟨fun c hc => ⟨(hf c hc).1, (hf c hc).2.1⟩, trimmed_of_noOWS _ fun c hc => (hf c hc).2.2.1, fun c hc => (hf c hc).2.2.2⟩

theorem parseContentLength_tok (tok : Bytes) (n : Nat) (h : tokValue 10 tok = some n) (hn : n < 2 ^ 64) :
    parseContentLength tok = .ok n := by
  obtain ⟨_, htrim, hcomma⟩ := decTok_facts tok n h
  unfold parseContentLength
  rw [splitOn_none 44 tok hcomma]
  simp only [parseCLElems, trim_self tok htrim, (parseFullUInt_iff 10 tok n).2 ⟨h, hn⟩]

theorem sp_ows : AllOWS [32] := by intro c hc; simp at hc; subst hc; rfl

theorem clName_wf (tok : Bytes) (n : Nat) (h : tokValue 10 tok = some n) :
    ({ name := clName, value := tok } : Field).WF := by
  obtain ⟨hcr, htrim, _⟩ := decTok_facts tok n h
  exact { name_ne := clName_tok.1, name_tok := clName_tok.2, value_ok := hcr, value_trim := htrim,
          ows1_ok := sp_ows, ows2_ok := by intro c hc; cases hc }

theorem teName_wf (te : Bytes) (h1 : NoCRLF te) (h2 : Trimmed te) : ({ name := teName, value := te } : Field).WF :=
  { name_ne := teName_tok.1, name_tok := teName_tok.2, value_ok := h1, value_trim := h2,
    ows1_ok := sp_ows, ows2_ok := by intro c hc; cases hc }

/-- `(generalizing := false)`: otherwise the `match` abstracts `hmid` as well, and is no longer the one in `Response.fields` and
`Srv.reqFields` -/
theorem framed_fields (before after : List Field) (mid : Option Field) (hb : ∀ f ∈ before, PlainField f)
    (ha : ∀ f ∈ after, PlainField f) (hmid : ∀ f, mid = some f → f.WF) :
    (∀ f ∈ before ++ (match (generalizing := false) mid with | none => [] | some f => [f]) ++ after, f.WF) ∧
    CLcons none (before ++ (match (generalizing := false) mid with | none => [] | some f => [f]) ++ after) := by
  refine ⟨?_, (match mid with | some g => g.value | none => []), Or.inl rfl, ?_⟩
  · intro f hf
    rcases List.mem_append.mp hf with hf | hf
    · rcases List.mem_append.mp hf with hf | hf
      · exact (hb f hf).1
      · cases mid with
        | none => cases hf
        | some g => rw [List.mem_singleton.mp hf]; exact hmid g rfl
    · exact (ha f hf).1
  · intro f hf hci
    rcases List.mem_append.mp hf with hf | hf
    · rcases List.mem_append.mp hf with hf | hf
      · have := (hb f hf).2.1; rw [hci] at this; cases this
      · cases mid with
        | none => cases hf
        | some g => rw [List.mem_singleton.mp hf]
    · have := (ha f hf).2.1; rw [hci] at this; cases this

theorem fields_facts (method : Bytes) (cap : Nat) (m : Response) (hm : RespWF method cap m) :
    (∀ f ∈ m.fields, f.WF) ∧ CLcons none m.fields := by
  refine framed_fields m.before m.after m.body.field hm.before_ok hm.after_ok ?_
  have hbody := hm.body_ok
  intro f hf
  cases hbd : m.body with
  | empty => rw [hbd] at hf; cases hf
  | untilClose b => rw [hbd] at hf; cases hf
  | sized tok b => rw [hbd] at hf hbody; cases hf; exact clName_wf tok _ hbody.2.1
  | chunked te cs l =>
    rw [hbd] at hf hbody
    obtain ⟨_, _, hte, htrim, _⟩ := hbody
    cases hf; exact teName_wf te hte htrim

/-- the framing mode the spec assigns to a body -/
def bodyFraming : Body → Framing
  | .empty => { mode := .noBody, contentLength := 0 }
  | .sized _ b => { mode := .contentLength, contentLength := b.length }
  | .chunked _ _ _ => { mode := .chunked, contentLength := 0 }
  | .untilClose _ => { mode := .closeDelimited, contentLength := 0 }

theorem noBody_iff (method : Bytes) (status : Nat) (hni : isInterim status = false) :
    (method = ascii "HEAD" ∨ Gen.Http.clientNoBodyStatuses.contains status = true ∨ isInterim status = true) ↔
    (method = ascii "HEAD" ∨ status = 204 ∨ status = 304) := by
  simp [Gen.Http.clientNoBodyStatuses, hni]

theorem determineFraming_noBody (method : Bytes) (resp : Resp) (cap : Nat) (hm : method ≠ ascii "CONNECT")
    (hfin : isInterim resp.status = false) (hnb : method = ascii "HEAD" ∨ resp.status = 204 ∨ resp.status = 304) :
    determineFraming method resp cap = .ok { mode := .noBody, contentLength := 0 } := by
  unfold determineFraming
  simp only [hm, ↓reduceIte, (noBody_iff method resp.status hfin).mpr hnb]

theorem determineFraming_exact (method : Bytes) (cap : Nat) (m : Response) (hm : RespWF method cap m) :
    determineFraming method (respOf m.sl m.fields) cap = .ok (bodyFraming m.body) := by
  have hnb := noBody_iff method (respOf m.sl m.fields).status hm.final
  -- what the two framing field names look up in the header map: only the framing field of the body can carry them
  have hte : hdrFind (respOf m.sl m.fields).headers teName = _ := hdrFind_framed m.before m.after m.body.field teName
    conn_ne_framing.2 (fun g hg => (hm.before_ok g hg).2.2) (fun g hg => (hm.after_ok g hg).2.2)
  have hcl : hdrFind (respOf m.sl m.fields).headers clName = _ := hdrFind_framed m.before m.after m.body.field clName
    conn_ne_framing.1 (fun g hg => (hm.before_ok g hg).2.1) (fun g hg => (hm.after_ok g hg).2.1)
  have hbody := hm.body_ok
  have hno : HasBody method m.sl.status → ¬ (method = ascii "HEAD" ∨
      Gen.Http.clientNoBodyStatuses.contains (respOf m.sl m.fields).status = true ∨ isInterim (respOf m.sl m.fields).status = true) :=
    fun h hn => (hnb.mp hn).elim h.1 (fun hn => hn.elim h.2.1 h.2.2)
  unfold determineFraming
  rw [show ascii "Transfer-Encoding" = teName from rfl, show ascii "Content-Length" = clName from rfl, hte, hcl]
  simp only [hm.not_connect, ↓reduceIte]
  cases hbd : m.body with
  | empty =>
    rw [hbd] at hbody
    simp only [hnb.mpr hbody, ↓reduceIte, bodyFraming]
  | untilClose b =>
    rw [hbd] at hbody
    simp only [hno hbody, ↓reduceIte, Body.field, bodyFraming]
  | sized tok b =>
    rw [hbd] at hbody
    obtain ⟨hhas, hval, hle, h64⟩ := hbody
    simp only [hno hhas, ↓reduceIte, Body.field, cl_te_distinct.1, ciEq_refl, Bool.false_eq_true,
      parseContentLength_tok tok b.length hval h64, Nat.not_lt.mpr hle, bodyFraming]
  | chunked te cs l =>
    rw [hbd] at hbody
    obtain ⟨hhas, hfinal, _⟩ := hbody
    simp only [hno hhas, ↓reduceIte, Body.field, cl_te_distinct.2, ciEq_refl, Bool.false_eq_true, hfinal, bodyFraming]

theorem head_found (ls : List Bytes) (hne : ls ≠ []) (hok : ∀ l ∈ ls, LineOK l) (rest : Bytes) :
    find crlf2 (joinCRLF ls ++ crlf2 ++ rest) 0 = some (joinCRLF ls).length ∧
    (joinCRLF ls ++ crlf2 ++ rest).take (joinCRLF ls).length = joinCRLF ls ∧
    (joinCRLF ls ++ crlf2 ++ rest).drop ((joinCRLF ls).length + 4) = rest ∧
    (joinCRLF ls ++ crlf2 ++ rest).take ((joinCRLF ls).length + 4) = joinCRLF ls ++ crlf2 := by
  have l4 : (joinCRLF ls).length + 4 = (joinCRLF ls ++ crlf2).length := by simp [crlf2]
  refine ⟨?_, ?_, ?_, ?_⟩
  · simpa [find] using find_header_end ls rest 0 hne hok
  · rw [List.append_assoc, List.take_left' rfl]
  · rw [l4, List.drop_left' rfl]
  · rw [l4, List.take_left' rfl]

/-- for ANY well-formed field list, given its framing decision `fr`: `F1_exact_nobody` admits framing fields that `RespWF` excludes -/
theorem FR_head (method : Bytes) (cap : Nat) (sl : StatusLine) (hsl : sl.WF) (fs : List Field) (hfs : ∀ f ∈ fs, f.WF)
    (hcl : CLcons none fs) (hfin : isInterim sl.status = false) (fr : Framing)
    (hdf : determineFraming method (respOf sl fs) cap = .ok fr) (rest : Bytes) (st : St)
    (hd : st.headersDone = false) (hs : st.headerScanPos = 0)
    (hdat : st.data = joinCRLF (sl.render :: fs.map Field.line) ++ crlf2 ++ rest) :
    frameResponse method cap st =
      bodyPhase cap { st with headersDone := true, bodyStart := (joinCRLF (sl.render :: fs.map Field.line)).length + 4,
                              resp := respOf sl fs, framing := fr,
                              chunk := { pos := (joinCRLF (sl.render :: fs.map Field.line)).length + 4, decoded := [],
                                         messageEnd := 0 } } := by
  obtain ⟨hf, ht, _, _⟩ := head_found _ (by simp) (headLines_ok sl hsl fs hfs) rest
  exact FR_final method cap st _ _ fr hd (by rw [hdat]; simp [crlf2]) (by rw [hdat, hs]; exact hf)
    (by rw [hdat, ht]; exact parseHeaderBlock_exact sl hsl fs hfs hcl) hfin hdf

/-- the state `frameResponse` enters the body phase with -/
def bodySt (st : St) (m : Response) : St :=
  { st with headersDone := true, bodyStart := m.head.length + 4, resp := respOf m.sl m.fields, framing := bodyFraming m.body,
            chunk := { pos := m.head.length + 4, decoded := [], messageEnd := 0 } }

theorem FR_head_response (method : Bytes) (cap : Nat) (m : Response) (hm : RespWF method cap m) (rest : Bytes) (st : St)
    (hd : st.headersDone = false) (hs : st.headerScanPos = 0) (hdat : st.data = m.head ++ crlf2 ++ rest) :
    frameResponse method cap st = bodyPhase cap (bodySt st m) :=
  FR_head method cap m.sl hm.sl_ok m.fields (fields_facts method cap m hm).1 (fields_facts method cap m hm).2 hm.final _
    (determineFraming_exact method cap m hm) rest st hd hs hdat

/-- an interim (1xx) response of the reference syntax; it carries no framing field -/
structure InterimWF (i : Interim) : Prop where
  sl_ok : i.sl.WF
  interim : isInterim i.sl.status = true
  fields_ok : ∀ f ∈ i.fields, PlainField f

theorem FR_skip_interim (method : Bytes) (cap : Nat) (i : Interim) (hi : InterimWF i) (rest : Bytes) (st : St)
    (hd : st.headersDone = false) (hs : st.headerScanPos = 0) (hdat : st.data = i.render ++ rest) :
    ∃ r, frameResponse method cap st = frameResponse method cap { st with data := rest, headerScanPos := 0, resp := r } := by
  have hwf : ∀ f ∈ i.fields, f.WF := fun f hf => (hi.fields_ok f hf).1
  have hcl : CLcons none i.fields := ⟨[], Or.inl rfl, by
    intro f hf hci; have := (hi.fields_ok f hf).2.1; rw [hci] at this; cases this⟩
  have hdat' : st.data = joinCRLF (i.sl.render :: i.fields.map Field.line) ++ crlf2 ++ rest := by
    rw [hdat]; rfl
  obtain ⟨hf, ht, hdr, _⟩ := head_found _ (by simp) (headLines_ok i.sl hi.sl_ok i.fields hwf) rest
  have hp := parseHeaderBlock_exact i.sl hi.sl_ok i.fields hwf hcl
  refine ⟨respOf i.sl i.fields, ?_⟩
  rw [FR_interim method cap st _ _ hd (by rw [hdat']; simp [crlf2]) (by rw [hdat', hs]; exact hf)
    (by rw [hdat', ht]; exact hp) hi.interim]
  rw [hdat', hdr]

theorem FR_skip_interims (method : Bytes) (cap : Nat) : ∀ (is : List Interim), (∀ i ∈ is, InterimWF i) →
    ∀ (rest : Bytes) (st : St), st.headersDone = false → st.headerScanPos = 0 → st.data = renderInterims is ++ rest →
    ∃ r, frameResponse method cap st = frameResponse method cap { st with data := rest, headerScanPos := 0, resp := r } := by
  intro is
  induction is with
  | nil =>
    intro _ rest st hd hs hdat
    refine ⟨st.resp, ?_⟩
    have : st = { st with data := rest, headerScanPos := 0, resp := st.resp } := by
      cases st; simp only [renderInterims, List.map_nil, List.flatten_nil, List.nil_append] at hdat hs ⊢
      subst hdat; subst hs; rfl
    rw [← this]
  | cons i is ih =>
    intro hall rest st hd hs hdat
    have hdat' : st.data = i.render ++ (renderInterims is ++ rest) := by
      rw [hdat]; simp [renderInterims]
    obtain ⟨r1, h1⟩ := FR_skip_interim method cap i (hall i (by simp)) _ st hd hs hdat'
    obtain ⟨r2, h2⟩ := ih (fun j hj => hall j (by simp [hj])) rest
      { st with data := renderInterims is ++ rest, headerScanPos := 0, resp := r1 } hd rfl rfl
    exact ⟨r2, by rw [h1, h2]⟩

theorem decide_ne_nil (x : Bytes) (n : Nat) : decide (n + x.length > n) = decide (x ≠ []) := by
  cases x with
  | nil => simp
  | cons a b => simp

theorem FR_exact (method : Bytes) (cap : Nat) (m : Response) (hm : RespWF method cap m) (x : Bytes) (st : St)
    (hd : st.headersDone = false) (hs : st.headerScanPos = 0) (hfe : st.forceEvict = false)
    (hdat : st.data = m.render ++ x) (hnc : ∀ b, m.body ≠ .untilClose b) :
    ∃ st', frameResponse method cap st = (st', .complete) ∧
      st'.resp = { respOf m.sl m.fields with body := m.body.content } ∧ st'.forceEvict = decide (x ≠ []) := by
  have hdat' : st.data = m.head ++ crlf2 ++ (m.body.wire ++ x) := by rw [hdat]; simp [Response.render]
  rw [FR_head_response method cap m hm _ st hd hs hdat']
  have hbody := hm.body_ok
  have hlen : st.data.length = m.head.length + 4 + (m.body.wire ++ x).length := by rw [hdat']; simp [crlf2]; omega
  cases hbd : m.body with
  | untilClose b => exact absurd hbd (hnc b)
  | empty =>
    rw [bodyPhase_noBody cap _ (by simp only [bodySt, bodyFraming, hbd])]
    refine ⟨_, rfl, by simp [bodySt, Body.content, respOf], ?_⟩
    simp only [bodySt, hfe, Bool.false_or, hlen, hbd, Body.wire, List.nil_append]
    exact decide_ne_nil x _
  | sized tok b =>
    rw [hbd] at hbody; simp only at hbody
    have hnot : ¬ (st.data.length - (m.head.length + 4) < b.length) := by
      rw [hlen, hbd]; simp [Body.wire]
    have htake : (st.data.drop (m.head.length + 4)).take b.length = b := by
      have e : st.data = (m.head ++ crlf2) ++ (b ++ x) := by rw [hdat', hbd]; simp [Body.wire]
      have l : m.head.length + 4 = (m.head ++ crlf2).length := by simp [crlf2]
      rw [e, l, List.drop_left', List.take_left'] <;> rfl
    rw [bodyPhase_cl cap _ (by simp only [bodySt, bodyFraming, hbd]),
      if_neg (by simpa only [bodySt, bodyFraming, hbd] using hnot)]
    refine ⟨_, rfl, ?_, ?_⟩
    · simp [bodySt, bodyFraming, hbd, Body.content, respOf, htake]
    · simp only [bodySt, bodyFraming, hfe, Bool.false_or, hlen, hbd, Body.wire, List.length_append]
      have : m.head.length + 4 + (b.length + x.length) = (m.head.length + 4 + b.length) + x.length := by omega
      rw [this]
      exact decide_ne_nil x _
  | chunked te cs l =>
    rw [hbd] at hbody
    obtain ⟨_, _, _, _, hcs, hl⟩ := hbody
    have e : st.data = (m.head ++ crlf2) ++ (renderChunks cs ++ l.render ++ x) := by rw [hdat', hbd]; simp [Body.wire]
    have hw : st.data.drop (m.head.length + 4) = renderChunks cs ++ l.render ++ x := by
      rw [e, show m.head.length + 4 = (m.head ++ crlf2).length by simp [crlf2], List.drop_left' rfl]
    have hadv := advanceChunked_exact cap l hl x cs st.data { pos := m.head.length + 4, decoded := [], messageEnd := 0 } hcs hw
    rw [bodyPhase_chunked cap _ (by simp only [bodySt, bodyFraming, hbd]) _ _ hadv]
    refine ⟨_, rfl, ?_, ?_⟩
    · simp [bodySt, Body.content, respOf]
    · simp only [bodySt, hfe, Bool.false_or, hlen, hbd, Body.wire, List.length_append, ← Nat.add_assoc]
      exact decide_ne_nil x _

theorem FR_exact_close (method : Bytes) (cap : Nat) (m : Response) (hm : RespWF method cap m) (b x : Bytes) (st : St)
    (hd : st.headersDone = false) (hs : st.headerScanPos = 0)
    (hdat : st.data = m.render ++ x) (hb : m.body = .untilClose b) :
    frameResponse method cap st = (bodySt st m, .needMore) ∧ (bodySt st m).framing.mode = .closeDelimited ∧
      st.data.drop (m.head.length + 4) = b ++ x := by
  have hdat' : st.data = m.head ++ crlf2 ++ (m.body.wire ++ x) := by rw [hdat]; simp [Response.render]
  have hmode : (bodySt st m).framing.mode = .closeDelimited := by simp only [bodySt, bodyFraming, hb]
  rw [FR_head_response method cap m hm _ st hd hs hdat', bodyPhase_close cap _ hmode]
  refine ⟨rfl, hmode, ?_⟩
  rw [hdat', hb, show m.head.length + 4 = (m.head ++ crlf2).length by simp [crlf2], List.drop_left' rfl]
  rfl

theorem recv_skip_interims (method : Bytes) (cap : Nat) (is : List Interim) (his : ∀ i ∈ is, InterimWF i) (tail : Bytes)
    (hne : tail ≠ []) (hcap : (renderInterims is ++ tail).length ≤ cap) :
    ∃ r, recvStep method cap {} (.data (renderInterims is ++ tail)) =
      match frameResponse method cap { data := tail, resp := r } with
      | (st2, .needMore) => (st2, .more)
      | (st2, .complete) => (st2, .response st2.resp st2.forceEvict)
      | (st2, .malformed k) => (st2, .framingError k) := by
  obtain ⟨r, hr⟩ := FR_skip_interims method cap is his tail (St.app {} (renderInterims is ++ tail)) rfl rfl rfl
  refine ⟨r, ?_⟩
  rw [recvStep_data method cap {} _ (by simp [hne]) (by simpa using hcap), hr]
  rfl

theorem render_ne (m : Response) (x : Bytes) : m.render ++ x ≠ [] := by
  simp [Response.render, crlf2]

end Iora.Http
