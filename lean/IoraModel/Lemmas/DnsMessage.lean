import IoraModel.Lemmas.DnsRoundtrip
import IoraModel.Lemmas.DnsSafe
/-! N2 for C19 at message level: a response laid out per RFC 1035 §4.1 — every name compressed in any way — in which no record
trips the A rule of `validateRdata` (`hval`) parses to exactly its questions and resource records; a query written by `buildQuery`
parses back to its questions, the empty labels of their names dropped (`normQ`). -/
namespace Iora.Dns
open Iora

/-- a question stands at `off`: a name (any compression) followed by QTYPE and QCLASS.  `pre` is the message up to the
continuation offset of the name (`WellFormedName … pre.length`), so that the fixed fields can be stated without offsets, as what follows
`pre` in a concatenation; the proofs turn it into a window first (`parseQuestion_exact`).  `RecordAt` likewise. -/
def QuestionAt (m : Bytes) (off : Nat) (q : Question) (next : Nat) : Prop :=
  ∃ (ls : List Bytes) (pre post : Bytes), WellFormedName m off ls pre.length ∧ q.qname = dottedName ls ∧
    m = pre ++ (be16 q.qtype ++ be16 q.qclass) ++ post ∧ q.qtype < 65536 ∧ q.qclass < 65536 ∧ next = pre.length + 4

/-- a resource record stands at `off`: owner name (any compression), TYPE, CLASS, TTL, RDLENGTH, RDATA -/
def RecordAt (m : Bytes) (off : Nat) (rr : RR) (rdOff next : Nat) : Prop :=
  ∃ (ls : List Bytes) (pre post : Bytes), WellFormedName m off ls pre.length ∧ rr.name = dottedName ls ∧
    m = pre ++ (be16 rr.type ++ be16 rr.cls ++ be32 rr.ttl ++ be16 rr.rdlength ++ rr.rdata) ++ post ∧
    rr.type < 65536 ∧ rr.cls < 65536 ∧ rr.ttl < 4294967296 ∧ rr.rdlength = rr.rdata.length ∧ rr.rdata.length < 65536 ∧
    rdOff = pre.length + 10 ∧ next = pre.length + 10 + rr.rdata.length

inductive QuestionsAt (m : Bytes) : Nat → List Question → Nat → Prop
  | nil (off : Nat) : QuestionsAt m off [] off
  | cons {off nx next : Nat} {q : Question} {qs : List Question} :
      QuestionAt m off q nx → QuestionsAt m nx qs next → QuestionsAt m off (q :: qs) next

inductive RecordsAt (m : Bytes) : Nat → List (RR × Nat) → Nat → Prop
  | nil (off : Nat) : RecordsAt m off [] off
  | cons {off nx next rdOff : Nat} {rr : RR} {rs : List (RR × Nat)} :
      RecordAt m off rr rdOff nx → RecordsAt m nx rs next → RecordsAt m off ((rr, rdOff) :: rs) next

/-- header fields as `parseHeader` extracts them from the flags word -/
def mkHeader (id flags qd an ns ar : Nat) : Header :=
  { id := id, qr := bitOf flags 32768, opcode := flags / 2048 % 16, aa := bitOf flags 1024, tc := bitOf flags 512,
    rd := bitOf flags 256, ra := bitOf flags 128, z := flags / 16 % 8, rcode := flags % 16, qd := qd, an := an, ns := ns, ar := ar }

theorem parseHeader_exact (id flags qd an ns ar : Nat) (rest : Bytes) (h1 : id < 65536) (h2 : flags < 65536) (h3 : qd < 65536)
    (h4 : an < 65536) (h5 : ns < 65536) (h6 : ar < 65536) :
    parseHeader (be16 id ++ be16 flags ++ be16 qd ++ be16 an ++ be16 ns ++ be16 ar ++ rest) 0 =
      .ok (mkHeader id flags qd an ns ar, 12) := by
  generalize hm : be16 id ++ be16 flags ++ be16 qd ++ be16 an ++ be16 ns ++ be16 ar ++ rest = m
  have r0 : m.drop 0 = be16 id ++ (be16 flags ++ (be16 qd ++ (be16 an ++ (be16 ns ++ (be16 ar ++ rest))))) := by
    rw [← hm]; simp only [List.drop_zero, List.append_assoc]
  have r2 : m.drop 2 = _ := drop_at r0
  have r4 : m.drop 4 = _ := drop_at r2
  have r6 : m.drop 6 = _ := drop_at r4
  have r8 : m.drop 8 = _ := drop_at r6
  have r10 : m.drop 10 = _ := drop_at r8
  have hlen := length_at_be16 r10
  unfold parseHeader
  simp only [bind, Except.bind, checkBounds_of_le (show 0 + Gen.Dns.headerSize ≤ m.length by show 0 + 12 ≤ _; omega), Nat.zero_add,
    rd16_at r0 h1, rd16_at r2 h2, rd16_at r4 h3, rd16_at r6 h4, rd16_at r8 h5, rd16_at r10 h6]
  rfl

theorem parseQuestion_at {m r : Bytes} {off o t c : Nat} {ls : List Bytes} (hd : WellFormedName m off ls o)
    (h : m.drop o = be16 t ++ (be16 c ++ r)) (ht : t < 65536) (hc : c < 65536) :
    parseQuestion m off = .ok ({ qname := dottedName ls, qtype := t, qclass := c }, o + 4) := by
  have h2 : m.drop (o + 2) = be16 c ++ r := drop_at h
  have hlen := length_at_be16 h2
  unfold parseQuestion
  rw [decodeName_sound m off ls o hd]
  simp only [bind, Except.bind, checkBounds_of_le (show o + 2 ≤ m.length by omega), rd16_at h ht,
    checkBounds_of_le (show o + 2 + 2 ≤ m.length by omega), rd16_at h2 hc]
  rfl

theorem parseQuestion_exact {m : Bytes} {off : Nat} {q : Question} {next : Nat} (h : QuestionAt m off q next) :
    parseQuestion m off = .ok (q, next) := by
  obtain ⟨ls, pre, post, hd, hn, hm, ht, hc, hnx⟩ := h
  rw [hnx, parseQuestion_at hd (r := post) (by rw [hm, List.append_assoc, List.drop_left, List.append_assoc]) ht hc, ← hn]

theorem parseRR_exact {m : Bytes} {off : Nat} {rr : RR} {rdOff next : Nat} (h : RecordAt m off rr rdOff next)
    (hval : validateRdata rr = .ok ()) : parseRR m off = .ok (rr, rdOff, next) := by
  obtain ⟨ls, pre, post, hd, hn, hm, ht, hc, httl, hrl, hrlen, hrd, hnx⟩ := h
  have h0 : m.drop pre.length = be16 rr.type ++ (be16 rr.cls ++ (be32 rr.ttl ++ (be16 rr.rdlength ++ (rr.rdata ++ post)))) := by
    rw [hm, List.append_assoc, List.drop_left]
    simp only [List.append_assoc]
  have h2 : m.drop (pre.length + 2) = _ := drop_at h0
  have h4 : m.drop (pre.length + 4) = _ := drop_at h2
  have h8 : m.drop (pre.length + 8) = _ := drop_at h4
  have h10 : m.drop (pre.length + 10) = _ := drop_at h8
  have hlen := length_at_be16 h8
  rw [List.length_append] at hlen
  unfold parseRR
  rw [decodeName_sound m off ls pre.length hd]
  simp only [bind, Except.bind, checkBounds_of_le (show pre.length + 2 ≤ m.length by omega), rd16_at h0 ht,
    checkBounds_of_le (show pre.length + 2 + 2 ≤ m.length by omega), rd16_at h2 hc,
    checkBounds_of_le (show pre.length + 4 + 4 ≤ m.length by omega), rd32_at h4 httl,
    checkBounds_of_le (show pre.length + 8 + 2 ≤ m.length by omega), rd16_at h8 (show rr.rdlength < 65536 by omega),
    hrl, checkBounds_of_le (show pre.length + 10 + rr.rdata.length ≤ m.length by omega), copy_at h10 (by omega)]
  rw [show ({ name := dottedName ls, type := rr.type, cls := rr.cls, ttl := rr.ttl, rdlength := rr.rdata.length, rdata := rr.rdata } : RR) = rr
    by rw [← hn, ← hrl], hval, hrd, hnx]
  rfl

theorem parseQuestions_exact {m : Bytes} {off : Nat} {qs : List Question} {next : Nat} (h : QuestionsAt m off qs next) :
    ∀ acc, parseQuestions m qs.length off acc = .ok (acc ++ qs, next) := by
  induction h with
  | nil off => intro acc; rw [List.append_nil]; rfl
  | cons hq _ ih =>
    intro acc
    simp only [List.length_cons, parseQuestions, parseQuestion_exact hq]
    rw [ih, List.append_assoc]
    rfl

theorem parseSection_exact {m : Bytes} {off : Nat} {rs : List (RR × Nat)} {next : Nat} (h : RecordsAt m off rs next)
    (hval : ∀ p ∈ rs, validateRdata p.1 = .ok ()) :
    ∀ (acc : List RR) (tacc : List Typed),
      parseSection m rs.length off acc tacc = .ok (acc ++ rs.map (·.1), tacc ++ rs.filterMap (typedSpec m), next) := by
  induction h with
  | nil off => intro acc tacc; simp [parseSection]
  | @cons off nx next rdOff rr rs hr _ ih =>
    intro acc tacc
    have hv := hval (rr, rdOff) List.mem_cons_self
    simp only [List.length_cons, parseSection, parseRR_exact hr hv, parseTypedRecord_eq]
    rw [ih (fun p hp => hval p (List.mem_cons_of_mem _ hp))]
    cases ht : typedSpec m (rr, rdOff) <;> simp [ht, List.append_assoc]

theorem encodeQuestions_cons {q : Question} {qs : List Question} {body : Bytes} (h : encodeQuestions (q :: qs) = .ok body) :
    ∃ n rest, encodeName q.qname = .ok n ∧ encodeQuestions qs = .ok rest ∧ body = n ++ be16 q.qtype ++ be16 q.qclass ++ rest := by
  simp only [encodeQuestions] at h
  split at h
  · cases h
  · rename_i n hn
    split at h
    · cases h
    · rename_i rest hr
      cases h
      exact ⟨n, rest, hn, hr, rfl⟩

theorem parseQuestions_encoded {m : Bytes} : ∀ (qs : List Question) {body post : Bytes} {o : Nat} (acc : List Question),
    encodeQuestions qs = .ok body → (∀ q ∈ qs, q.qtype < 65536 ∧ q.qclass < 65536) → m.drop o = body ++ post →
    parseQuestions m qs.length o acc = .ok (acc ++ qs.map normQ, o + body.length)
  | [], _, _, _, acc, h, _, _ => by cases h; rw [List.map_nil, List.append_nil]; rfl
  | q :: qs, body, post, o, acc, h, hq, hm => by
    obtain ⟨n, rest, hn, hr, rfl⟩ := encodeQuestions_cons h
    have ht := hq q List.mem_cons_self
    have h0 : m.drop o = n ++ (be16 q.qtype ++ (be16 q.qclass ++ (rest ++ post))) := by rw [hm]; simp only [List.append_assoc]
    have h1 := drop_at h0
    have hd := wellFormed_encodeName hn h0
    have h4 : m.drop (o + n.length + 4) = rest ++ post := drop_at (drop_at h1)
    simp only [List.length_cons, parseQuestions, parseQuestion_at hd h1 ht.1 ht.2]
    rw [parseQuestions_encoded qs _ hr (fun x hx => hq x (List.mem_cons_of_mem _ hx)) h4]
    have e2 : o + n.length + 4 + rest.length = o + (n ++ be16 q.qtype ++ be16 q.qclass ++ rest).length := by
      simp only [List.length_append, be16_length]; omega
    rw [e2, List.append_assoc]
    rfl

end Iora.Dns
