import IoraModel.Model.UdpEngine
/-!
Lemmas about `Model/UdpEngine.lean` (property C06). Every step of the I/O thread is a short sequence of elementary operations on its
tables (`Ops`, `step_ops`), so an invariant is ONE induction over `Ops` and not a case analysis of every model function; a restart is one
such operation, known through the equation `shutdownDrain_eq`. The file ends with what `Props/C06.lean` says of one received datagram and
of one `recvfrom` loop.
-/
namespace Iora.Udp

theorem upd_all {α : Type} {P : Nat → α → Prop} {m : Nat → Option α} {k : Nat} {v : Option α} (hm : ∀ x a, m x = some a → P x a)
    (hv : ∀ a, v = some a → P k a) (x : Nat) (a : α) (hx : upd m k v x = some a) : P x a := by
  by_cases e : x = k
  · subst e; exact hv a ((upd_same ..).symm.trans hx)
  · exact hm x a ((upd_other _ _ _ _ e).symm.trans hx)

theorem upd_none_sub {m : Nat → Option Nat} {k a x : Nat} (h : upd m k none a = some x) : m a = some x ∧ a ≠ k := by
  by_cases e : a = k
  · subst e; rw [upd_same] at h; cases h
  · exact ⟨(upd_other _ _ _ _ e).symm.trans h, e⟩

theorem apply_upd {α β : Type} (f : Option α → β) (m : Nat → Option α) (k : Nat) (v : Option α) (x : Nat) :
    f (upd m k v x) = if x = k then f v else f (m x) := by
  unfold upd; split <;> rfl

/-- the invariant, stated over the three fields it reads, so that `InvC.touch/insert/close` apply to a record update as it stands -/
structure InvC (K : Nat → Nat) (sessions : Nat → Option Sess) (peerIndex : Nat → Option Nat) (nextSid : Nat) : Prop where
  /-- an index entry under key `a` points to an open ServerPeer session whose peer has exactly that key -/
  idx : ∀ (a sid : Nat), peerIndex a = some sid → ∃ s, sessions sid = some s ∧ K s.peer = a ∧ s.role = .serverPeer
  fresh : ∀ (sid : Nat) s, sessions sid = some s → sid < nextSid

def Inv (cfg : Cfg) (st : State) : Prop := InvC cfg.key st.sessions st.peerIndex st.nextSid

theorem inv_init (cfg : Cfg) : Inv cfg {} := ⟨fun _ _ h => (nomatch h), fun _ _ h => (nomatch h)⟩

section
variable {K : Nat → Nat} {ss : Nat → Option Sess} {ix : Nat → Option Nat} {n : Nat}

theorem InvC.key (h : InvC K ss ix n) {sid : Nat} {s : Sess} (hs : ss sid = some s) {a : Nat} (ha : ix a = some sid) :
    a = K s.peer ∧ s.role = .serverPeer := by
  obtain ⟨s', h1, h2, h3⟩ := h.idx a sid ha
  rw [hs] at h1; cases h1; exact ⟨h2.symm, h3⟩

theorem InvC.touch (h : InvC K ss ix n) {sid : Nat} {s s' : Sess} (hs : ss sid = some s) (hp : s'.peer = s.peer) (hr : s'.role = s.role) :
    InvC K (upd ss sid (some s')) ix n := by
  constructor
  · intro a sid' ha
    obtain ⟨t, h1, h2, h3⟩ := h.idx a sid' ha
    by_cases e : sid' = sid
    · subst e; rw [hs] at h1; cases h1
      exact ⟨s', upd_same .., hp ▸ h2, hr ▸ h3⟩
    · exact ⟨t, (upd_other _ _ _ _ e).trans h1, h2, h3⟩
  · exact upd_all h.fresh fun _ _ => h.fresh _ _ hs

theorem InvC.insert {K : Nat → Nat} {ss : Nat → Option Sess} {ix : Nat → Option Nat} {n : Nat} (h : InvC K ss ix n) (s : Sess) :
    InvC K (upd ss n (some s)) ix (n + 1) := by
  constructor
  · intro a sid' ha
    obtain ⟨t, h1, h2, h3⟩ := h.idx a sid' ha
    exact ⟨t, (upd_other _ _ _ _ (Nat.ne_of_lt (h.fresh _ _ h1))).trans h1, h2, h3⟩
  · exact upd_all (fun x a hx => Nat.lt_succ_of_lt (h.fresh x a hx)) fun _ _ => Nat.lt_succ_self n

theorem InvC.insertIdx (h : InvC K ss ix n) (s : Sess) (hr : s.role = .serverPeer) :
    InvC K (upd ss n (some s)) (upd ix (K s.peer) (some n)) (n + 1) := by
  refine ⟨fun a sid' ha => ?_, (h.insert s).fresh⟩
  by_cases e : a = K s.peer
  · subst e; rw [upd_same] at ha; cases ha; exact ⟨s, upd_same .., rfl, hr⟩
  · exact (h.insert s).idx a sid' ((upd_other _ _ _ _ e).symm.trans ha)

theorem InvC.bump (h : InvC K ss ix n) : InvC K ss ix (n + 1) :=
  ⟨h.idx, fun sid s hs => Nat.lt_succ_of_lt (h.fresh sid s hs)⟩

theorem InvC.sub (h : InvC K ss ix n) {ix' : Nat → Option Nat} (hsub : ∀ a x, ix' a = some x → ix a = some x) : InvC K ss ix' n :=
  ⟨fun a x hx => h.idx a x (hsub a x hx), h.fresh⟩

/-- the index after session `sid` (= `s`) has taken its entry out: the expression `closeNow` (`g` = `eraseGuarded`) and `drainOne`
(`g` = `drainGuarded`) share -/
def erased (g : Bool) (K : Nat → Nat) (ix : Nat → Option Nat) (sid : Nat) (s : Sess) : Nat → Option Nat :=
  match s.role with
  | .client => ix
  | .serverPeer => if g then (if ix (K s.peer) = some sid then upd ix (K s.peer) none else ix) else upd ix (K s.peer) none

variable {g : Bool} {sid : Nat} {s : Sess} {a x : Nat}

theorem erased_sub (h : erased g K ix sid s a = some x) : ix a = some x ∧ (s.role = .serverPeer → a = K s.peer → x ≠ sid) := by
  unfold erased at h
  cases hr : s.role with
  | client => rw [hr] at h; exact ⟨h, fun c => nomatch c⟩
  | serverPeer =>
    rw [hr] at h
    dsimp only at h
    split at h
    · split at h
      · exact ⟨(upd_none_sub h).1, fun _ e => absurd e (upd_none_sub h).2⟩
      · rename_i hm
        exact ⟨h, fun _ e hx => hm (by rw [← e, h, hx])⟩
    · exact ⟨(upd_none_sub h).1, fun _ e => absurd e (upd_none_sub h).2⟩

theorem erased_keep (hix : ix a = some x) (hne : x ≠ sid) : erased true K ix sid s a = some x := by
  unfold erased
  cases s.role with
  | client => exact hix
  | serverPeer =>
    dsimp only
    rw [if_pos rfl]
    split
    · rename_i hm
      have : a ≠ K s.peer := fun e => hne (Option.some.inj ((e ▸ hix).symm.trans hm))
      exact (upd_other _ _ _ _ this).trans hix
    · exact hix

theorem InvC.close (h : InvC K ss ix n) (hs : ss sid = some s) : InvC K (upd ss sid none) (erased g K ix sid s) n := by
  constructor
  · intro a x hx
    obtain ⟨h1, h2⟩ := erased_sub hx
    obtain ⟨t, ht, hp, hr⟩ := h.idx a x h1
    have hne : x ≠ sid := fun e => by
      subst e
      obtain ⟨ha, hrs⟩ := h.key hs h1
      exact h2 hrs ha rfl
    exact ⟨t, (upd_other _ _ _ _ hne).trans ht, hp, hr⟩
  · exact upd_all h.fresh fun _ e => nomatch e

end

theorem closeNow_none {cfg : Cfg} {st : State} {sid : Nat} {why : Why} (hs : st.sessions sid = none) : closeNow cfg st sid why = (st, []) := by
  unfold closeNow; rw [hs]

theorem closeNow_some {cfg : Cfg} {st : State} {sid : Nat} {s : Sess} {why : Why} (hs : st.sessions sid = some s) :
    closeNow cfg st sid why =
      ({ st with sessions := upd st.sessions sid none, peerIndex := erased cfg.eraseGuarded cfg.key st.peerIndex sid s,
                 sessionsCurrent := st.sessionsCurrent - 1 }, [.closed sid why]) := by
  unfold closeNow; rw [hs]; rfl

theorem drainOne_none {cfg : Cfg} {st : State} {sid : Nat} (hs : st.sessions sid = none) : drainOne cfg st sid = (st, []) := by
  unfold drainOne; rw [hs]

theorem drainOne_some {cfg : Cfg} {st : State} {sid : Nat} {s : Sess} (hs : st.sessions sid = some s) :
    drainOne cfg st sid =
      ({ st with peerIndex := erased cfg.drainGuarded cfg.key st.peerIndex sid s, sessionsCurrent := st.sessionsCurrent - 1 },
       [.closed sid .unknown]) := by
  unfold drainOne; rw [hs]; rfl

/-- the loop of `shutdownDrain` in closed form: it changes index and counter only, and under the invariant — for either form of the
erase — no entry it leaves points to an id of `l`. `Inv` is asked for inside the conclusion, here and in
`shutdownDrain_eq`, so that the equation is there without it: `Ops.nextSid_le`, `Ops.arm`, `Ops.ginv` and `shutdownDrain_cinv` read
`restart` off `shutdownDrain_eq` with no invariant at hand. -/
theorem drainAll_eq (cfg : Cfg) : ∀ (l : List Nat) (st : State), ∃ ix,
    drainAll cfg st l = ({ st with peerIndex := ix, sessionsCurrent := st.sessionsCurrent - (l.filter fun x => (st.sessions x).isSome).length },
                         (l.filter fun x => (st.sessions x).isSome).map (.closed · .unknown)) ∧
    ∀ a x, ix a = some x → st.peerIndex a = some x ∧ (Inv cfg st → x ∉ l)
  | [], st => ⟨st.peerIndex, rfl, fun _ _ hx => ⟨hx, fun _ => List.not_mem_nil⟩⟩
  | y :: rest, st => by
    rw [drainAll]
    cases hs : st.sessions y with
    | none =>
      obtain ⟨ix, e, hix⟩ := drainAll_eq cfg rest st
      refine ⟨ix, ?_, fun a x hx => ⟨(hix a x hx).1, fun h hm => ?_⟩⟩
      · rw [drainOne_none hs, e, List.filter_cons_of_neg (by simp [hs])]; rfl
      · rcases List.mem_cons.mp hm with rfl | hm
        · obtain ⟨t, ht, _⟩ := h.idx a x (hix a x hx).1
          exact nomatch hs.symm.trans ht
        · exact (hix a x hx).2 h hm
    | some s =>
      rw [drainOne_some hs]
      obtain ⟨ix, e, hix⟩ := drainAll_eq cfg rest { st with peerIndex := erased cfg.drainGuarded cfg.key st.peerIndex y s,
                                                            sessionsCurrent := st.sessionsCurrent - 1 }
      refine ⟨ix, ?_, fun a x hx => ?_⟩
      · rw [e, List.filter_cons_of_pos (by simp [hs])]
        simp only [List.length_cons, List.map_cons, Nat.sub_sub, Nat.add_comm 1, List.singleton_append]
      · obtain ⟨h1, h2⟩ := hix a x hx
        obtain ⟨h3, h4⟩ := erased_sub h1
        refine ⟨h3, fun h hm => ?_⟩
        rcases List.mem_cons.mp hm with rfl | hm
        · -- an entry for the drained session itself could only stand under its own peer's key, where `erased` has just taken it out
          obtain ⟨ha, hr⟩ := h.key hs h3
          exact h4 hr ha rfl
        · exact h2 (InvC.sub h fun _ _ hx => (erased_sub hx).1) hm

theorem drainAll_inv (cfg : Cfg) : ∀ (l : List Nat) (st : State), Inv cfg st → Inv cfg (drainAll cfg st l).1 :=
  fun l st h => by
    obtain ⟨ix, e, hix⟩ := drainAll_eq cfg l st
    rw [e]
    exact InvC.sub h fun a x hx => (hix a x hx).1

/-- `shutdownDrain` in one equation. The index is EMPTY afterwards, whether its erase is guarded or unconditional: under the invariant
every entry points to an open session, and all of them are drained -/
theorem shutdownDrain_eq (cfg : Cfg) (st : State) : ∃ ix,
    shutdownDrain cfg st =
      ({ st with sessions := fun _ => none, listeners := fun _ => none, peerIndex := ix,
                 sessionsCurrent := st.sessionsCurrent - ((List.range st.nextSid).filter fun x => (st.sessions x).isSome).length },
       ((List.range st.nextSid).filter fun x => (st.sessions x).isSome).map (.closed · .unknown)) ∧
    (Inv cfg st → ∀ a, ix a = none) := by
  obtain ⟨ix, e, hix⟩ := drainAll_eq cfg (List.range st.nextSid) st
  refine ⟨ix, by unfold shutdownDrain; rw [e], fun h a => ?_⟩
  cases hx : ix a with
  | none => rfl
  | some x =>
    obtain ⟨s, hs, _⟩ := h.idx a x (hix a x hx).1
    exact absurd (List.mem_range.mpr (h.fresh x s hs)) ((hix a x hx).2 h)

theorem shutdownDrain_index_empty (cfg : Cfg) (st : State) (h : Inv cfg st) (a : Nat) : (shutdownDrain cfg st).1.peerIndex a = none := by
  obtain ⟨ix, e, hix⟩ := shutdownDrain_eq cfg st
  rw [e]; exact hix h a

theorem shutdownDrain_inv (cfg : Cfg) (st : State) (h : Inv cfg st) : Inv cfg (shutdownDrain cfg st).1 := by
  obtain ⟨ix, e, hix⟩ := shutdownDrain_eq cfg st
  rw [e]
  exact ⟨fun a _ hx => (nomatch (hix h a).symm.trans hx), fun _ _ hx => (nomatch hx)⟩

theorem shutdownDrain_closes (cfg : Cfg) (st : State) (h : Inv cfg st) {sid : Nat} {s : Sess} (hs : st.sessions sid = some s) :
    Out.closed sid .unknown ∈ (shutdownDrain cfg st).2 := by
  obtain ⟨ix, e, _⟩ := shutdownDrain_eq cfg st
  rw [e]
  exact List.mem_map.mpr ⟨sid, List.mem_filter.mpr ⟨List.mem_range.mpr (h.fresh sid s hs), by simp [hs]⟩, rfl⟩

/-! What the constructors of `Ops` (below) carry beside the tables, and who reads it: `hok`, in terms of `LstOk`/`SessOk`, is for `Ops.arm`
(`UdpArm`); `hsame` (`Same`) for `Ops.inv` and `Ops.stays`; `hq`/`hwq` (`QOp`) for `Ops.ginv` (`UdpTokens`) and, as "reports no accept", for `Ops.keeps_idx`. -/

/-- the translated facts the interest invariant needs: `addEpoll` arms `EPOLLIN`, the rebuilt masks keep it -/
def ArmFacts (cfg : Cfg) : Prop :=
  cfg.listenerAddIn = true ∧ cfg.listenerUpdIn = true ∧ cfg.clientAddIn = true ∧ cfg.clientUpdIn = true

/-- the interest mask of a listener is what `updateListener` would make it -/
def LstOk (l : Lst) : Prop := l.armIn = true ∧ l.armOut = (l.wantWrite && !l.wq.isEmpty)

/-- likewise `updateClient` for a client session; a ServerPeer session has no socket of its own, and nothing is asked of it -/
def SessOk (s : Sess) : Prop := s.role = .client → s.armIn = true ∧ s.armOut = (s.wantWrite && !s.wq.isEmpty)

theorem updL_ok (cfg : Cfg) (hf : ArmFacts cfg) (l : Lst) : LstOk (updL cfg l) := ⟨hf.2.1, rfl⟩
theorem updC_ok (cfg : Cfg) (hf : ArmFacts cfg) (s : Sess) : SessOk (updC cfg s) := fun _ => ⟨hf.2.2.2, rfl⟩

structure Same (s s' : Sess) : Prop where
  peer : s'.peer = s.peer
  role : s'.role = s.role
  owner : s'.owner = s.owner

theorem Same.refl (s : Sess) : Same s s := ⟨rfl, rfl, rfl⟩

theorem Same.trans {s s1 s2 : Sess} (h1 : Same s s1) (h2 : Same s1 s2) : Same s s2 :=
  ⟨h2.peer.trans h1.peer, h2.role.trans h1.role, h2.owner.trans h1.owner⟩

abbrev State.setSess (st : State) (sid : Nat) (s : Sess) : State := { st with sessions := upd st.sessions sid (some s) }
abbrev State.setLst (st : State) (lid : Nat) (l : Lst) : State := { st with listeners := upd st.listeners lid (some l) }

/-- neither `sent` nor `accept`: the events `Ops.emit` lets through without a side condition -/
def Out.plain : Out → Bool
  | .sent .. | .accept .. => false
  | _ => true

/-- the one input that puts a new datagram in play -/
def In.loud : In → Bool
  | .cmdSend .. => true
  | _ => false

/-- the write queue under a listener id, empty where there is no listener (`Ops.setLst` may fill an empty slot) -/
def lwqOf : Option Lst → List Item
  | some l => l.wq
  | none => []

/-- likewise under a session id; with `lwqOf` the two halves of `pending` (`UdpTokens`) -/
def wqOf : Option Sess → List Item
  | some s => s.wq
  | none => []

/-- what one operation makes of the write queue `q` of socket `src`, and what it reports: datagrams are popped from the front, one
`sent` from `src` or one `error` each, in order; of the rest a sub-list `left` stays queued. Only with `loud` may a new datagram be
appended first. A sub-list and not the rest itself: an overflow drops the oldest entry, and `listen` puts an empty queue in place of
whatever stood under the new id. -/
inductive QOp (loud : Bool) (src : Src) : List Item → List Item → List Out → Prop
  | keep {q left : List Item} (h : left.Sublist q) : QOp loud src q left []
  /-- what `sendDo` does to a queue. It reports nothing, and that is all that is ever read of it (`QOp.no_accept`): `Ops.ginv` has
  `loud = false`, and an enqueue is proved by `GInv.enqueue` off `sendDo_cases` -/
  | push {q left : List Item} (hl : loud = true) (it : Item) (h : left.Sublist (q ++ [it])) : QOp loud src q left []
  | sent {it : Item} {rest left : List Item} {o : List Out} : QOp loud src rest left o →
      QOp loud src (it :: rest) left (.sent src it.dest it.payload it.tok :: o)
  | drop {it : Item} {rest left : List Item} {o : List Out} : QOp loud src rest left o → QOp loud src (it :: rest) left (.error :: o)

theorem QOp.no_accept {loud : Bool} {src : Src} {q left : List Item} {o : List Out} (h : QOp loud src q left o) (s a : Nat) :
    Out.accept s a ∉ o := by
  induction h with
  | keep | push => exact List.not_mem_nil
  | sent _ ih | drop _ ih => exact fun hm => (List.mem_cons.mp hm).elim (fun e => nomatch e) ih

/-- `Ops cfg loud st r`: the result `r` (state and events) is reached from `st` by a sequence of the elementary things the I/O thread
does to its tables. Every model function is such a sequence (`step_ops`).
With `loud = false` no operation puts a new datagram in play: what goes on the wire comes off the front of a queue (`QOp`). -/
inductive Ops (cfg : Cfg) (loud : Bool) : State → State × List Out → Prop
  /-- events are reported; an accept only for a peer that has no index entry. With `loud` ANY `sent` event may be among them: `Ops … true`
  says nothing about the wire, and `ginv_step` (`UdpTokens`) treats `cmdSend` through `sendDo_cases` instead -/
  | emit {st : State} (o : List Out) (ho : ∀ s a, Out.accept s a ∈ o → st.peerIndex (cfg.key a) = none)
      (hq : loud = false → ∀ src d b t, Out.sent src d b t ∉ o) : Ops cfg loud st (st, o)
  /-- a session is replaced, peer, role and owner kept; `o` is what leaves its write queue on the way -/
  | setSess {st : State} (sid : Nat) {s : Sess} (s' : Sess) {o : List Out} (hs : st.sessions sid = some s) (hsame : Same s s')
      (hok : ArmFacts cfg → SessOk s → SessOk s') (hq : QOp loud (.cli sid) s.wq s'.wq o) : Ops cfg loud st (st.setSess sid s', o)
  /-- a listener is put in place (a new one, or an old one replaced), likewise. The listener-id counter may become anything: only `listen`
  moves it, and no invariant reads it -/
  | setLst {st : State} (lid : Nat) (l : Lst) (n : Nat) {o : List Out} (hok : ArmFacts cfg → LstOk l)
      (hq : QOp loud (.lst lid) (lwqOf (st.listeners lid)) l.wq o) :
      Ops cfg loud st ({ st with listeners := upd st.listeners lid (some l), nextLid := n }, o)
  /-- a session is opened under the fresh id; a ServerPeer session may enter the index under its own key if that slot is free -/
  | opens {st : State} (s : Sess) (ix : Nat → Option Nat) (hix : ix = st.peerIndex ∨
        (s.role = .serverPeer ∧ st.peerIndex (cfg.key s.peer) = none ∧ ix = upd st.peerIndex (cfg.key s.peer) (some st.nextSid)))
      (hok : ArmFacts cfg → SessOk s) (hwq : s.wq = []) :
      Ops cfg loud st ({ st with sessions := upd st.sessions st.nextSid (some s), peerIndex := ix, nextSid := st.nextSid + 1,
                                 sessionsCurrent := st.sessionsCurrent + 1 }, [])
  | skipId {st : State} : Ops cfg loud st ({ st with nextSid := st.nextSid + 1 }, [])
  | tick {st : State} (t : Nat) : Ops cfg loud st ({ st with now := t }, [])
  /-- an open session is closed: what `closeNow` does when it finds the session -/
  | drop {st : State} (sid : Nat) {s : Sess} (hs : st.sessions sid = some s) (why : Why) :
      Ops cfg loud st ({ st with sessions := upd st.sessions sid none, peerIndex := erased cfg.eraseGuarded cfg.key st.peerIndex sid s,
                                 sessionsCurrent := st.sessionsCurrent - 1 }, [.closed sid why])
  | restart {st : State} : Ops cfg loud st (shutdownDrain cfg st)
  | seq {st : State} {r1 r2 : State × List Out} : Ops cfg loud st r1 → Ops cfg loud r1.1 r2 → Ops cfg loud st (r2.1, r1.2 ++ r2.2)

section
variable {cfg : Cfg} {loud : Bool} {st : State}

/-- `h` is found by `rfl` when the events of `o` are given by their constructors: `.say [.data sid b]` needs no proof -/
theorem Ops.say (o : List Out) (h : o.all Out.plain = true := by rfl) : Ops cfg loud st (st, o) :=
  .emit o (fun _ _ hm => absurd (List.all_eq_true.mp h _ hm) Bool.false_ne_true)
    (fun _ _ _ _ _ hm => Bool.false_ne_true (List.all_eq_true.mp h _ hm))

theorem Ops.nil : Ops cfg loud st (st, []) := .say []

theorem Ops.close (sid : Nat) (why : Why) : Ops cfg loud st (closeNow cfg st sid why) := by
  cases hs : st.sessions sid with
  | none => rw [closeNow_none hs]; exact .nil
  | some s => rw [closeNow_some hs]; exact .drop sid hs why

/-- `seq` after a part that reports nothing, so that the result is `r` itself and not `(r.1, [] ++ r.2)` -/
theorem Ops.andThen {st' : State} {r : State × List Out} (h : Ops cfg loud st (st', [])) (h2 : Ops cfg loud st' r) : Ops cfg loud st r :=
  .seq h h2

theorem Ops.touch (sid : Nat) {s : Sess} (s' : Sess) (hs : st.sessions sid = some s) (hsame : Same s s') (h1 : s'.armIn = s.armIn)
    (h2 : s'.armOut = s.armOut) (h3 : s'.wantWrite = s.wantWrite) (h4 : s'.wq = s.wq) : Ops cfg loud st (st.setSess sid s', []) :=
  .setSess sid s' hs hsame (fun _ h hc => by rw [h1, h2, h3, h4]; exact h (hsame.role ▸ hc)) (.keep (h4 ▸ List.Sublist.refl _))

end

/-- what `recvOne` does, by outcome: nothing (empty read, cap reached), a new indexed session with its accept, the unreachable null
dereference, or data on the indexed session. It speaks of a variable `r` with `hr : recvOne … = r`, so that the function body is
unfolded and split once, in `hr`, and not in every disjunct of the goal. -/
theorem recvOne_cases (cfg : Cfg) (lid : Lid) (st : State) (d : Addr × Bytes) (r : State × List Out) (hr : recvOne cfg lid st d = r) :
    ((d.2.take cfg.ioReadChunk = [] ∨ (st.peerIndex (cfg.key d.1) = none ∧ capReached cfg st = true)) ∧ r = (st, [])) ∨
    (st.peerIndex (cfg.key d.1) = none ∧ capReached cfg st = false ∧ r =
      ({ st with sessions := upd st.sessions st.nextSid (some { role := .serverPeer, peer := d.1, owner := lid, created := st.now,
                                                                lastActivity := st.now, lastWriteProgress := st.now }),
                 peerIndex := upd st.peerIndex (cfg.key d.1) (some st.nextSid), nextSid := st.nextSid + 1,
                 sessionsCurrent := st.sessionsCurrent + 1 },
       [.accept st.nextSid d.1, .data st.nextSid (d.2.take cfg.ioReadChunk)])) ∨
    (∃ sid, st.peerIndex (cfg.key d.1) = some sid ∧ st.sessions sid = none ∧ r = (st, [.nullDeref])) ∨
    (∃ sid s, st.peerIndex (cfg.key d.1) = some sid ∧ st.sessions sid = some s ∧
      r = (st.setSess sid { s with lastActivity := st.now }, [.data sid (d.2.take cfg.ioReadChunk)])) := by
  unfold recvOne at hr
  dsimp only at hr
  split at hr
  · rename_i h0
    exact Or.inl ⟨Or.inl h0, hr.symm⟩
  · split at hr
    · rename_i hn
      split at hr
      · rename_i hc
        exact Or.inl ⟨Or.inr ⟨hn, hc⟩, hr.symm⟩
      · rename_i hc
        exact Or.inr (Or.inl ⟨hn, Bool.eq_false_iff.mpr hc, hr.symm⟩)
    · rename_i sid hix
      split at hr
      · rename_i hs
        exact Or.inr (Or.inr (Or.inl ⟨sid, hix, hs, hr.symm⟩))
      · rename_i s hs
        exact Or.inr (Or.inr (Or.inr ⟨sid, s, hix, hs, hr.symm⟩))

theorem recvOne_ops {loud : Bool} (cfg : Cfg) (lid : Lid) (st : State) (d : Addr × Bytes) : Ops cfg loud st (recvOne cfg lid st d) := by
  rcases recvOne_cases cfg lid st d _ rfl with ⟨_, e⟩ | ⟨hn, _, e⟩ | ⟨sid, _, _, e⟩ | ⟨sid, s, _, hs, e⟩ <;> rw [e]
  · exact .nil
  · have h1 : Ops cfg loud st (st, [.accept st.nextSid d.1, .data st.nextSid (d.2.take cfg.ioReadChunk)]) := by
      refine .emit _ (fun s a hm => ?_) (fun _ _ _ _ _ hm => ?_)
      · rcases List.mem_cons.mp hm with e | hm
        · cases e; exact hn
        · cases List.mem_singleton.mp hm
      · rcases List.mem_cons.mp hm with e | hm
        · cases e
        · cases List.mem_singleton.mp hm
    exact .seq h1 (.opens _ _ (Or.inr ⟨rfl, hn, rfl⟩) (fun _ c => Role.noConfusion c) rfl)
  · exact .say _
  · exact .andThen (.touch sid { s with lastActivity := st.now } hs ⟨rfl, rfl, rfl⟩ rfl rfl rfl rfl) (.say _)

theorem recvMany_ops {loud : Bool} (cfg : Cfg) (lid : Lid) : ∀ (ds : List (Addr × Bytes)) (st : State), Ops cfg loud st (recvMany cfg lid st ds)
  | [], _ => .nil
  | d :: ds, st => .seq (recvOne_ops cfg lid st d) (recvMany_ops cfg lid ds _)

theorem clientRecvMany_ops {loud : Bool} (cfg : Cfg) (sid : Sid) : ∀ (ds : List Bytes) (st : State), Ops cfg loud st (clientRecvMany cfg sid st ds)
  | [], _ => .nil
  | d :: ds, st => by
    have h1 : Ops cfg loud st (if d.take cfg.ioReadChunk = [] then st else touchClient st sid, [.data sid (d.take cfg.ioReadChunk)]) := by
      split
      · exact .say _
      · unfold touchClient
        split
        · exact .say _
        · rename_i s hs
          exact .andThen (.touch sid { s with lastActivity := st.now } hs ⟨rfl, rfl, rfl⟩ rfl rfl rfl rfl) (.say _)
    exact .seq h1 (clientRecvMany_ops cfg sid ds _)

theorem closeAll_ops {loud : Bool} (cfg : Cfg) (why : Why) : ∀ (l : List Sid) (st : State), Ops cfg loud st (closeAll cfg why st l)
  | [], _ => .nil
  | sid :: rest, _ => .seq (.close sid why) (closeAll_ops cfg why rest _)

/-- the socket a datagram of session `sid` leaves from -/
def homeOf (sid : Nat) (s : Sess) : Src :=
  match s.role with
  | .client => .cli sid
  | .serverPeer => .lst s.owner

/-- what `sendDo` does, by outcome; the new queue of `queuedCli`/`queuedLst` is the old one with the datagram appended, or that without
its oldest entry. On a listener's queue an overflow may also close the session: the datagram stays queued. -/
inductive SendDo (cfg : Cfg) (tok : Nat) (st : State) (sid : Nat) (p : Bytes) : State × List Out → Prop
  | noSession : SendDo cfg tok st sid p (st, [])
  | closes (w : Why) : SendDo cfg tok st sid p (closeNow cfg st sid w)
  | sentNow {s : Sess} (hs : st.sessions sid = some s) :
      SendDo cfg tok st sid p
        (st.setSess sid { s with lastActivity := st.now, lastWriteProgress := st.now }, [.sent (homeOf sid s) s.peer p tok])
  | queuedCli {s : Sess} (hs : st.sessions sid = some s) (t : Sess) (hsame : Same s (updC cfg t)) (hhome : homeOf sid s = .cli sid)
      (hq : (updC cfg t).wq.Sublist (s.wq ++ [⟨tok, s.peer, p⟩])) : SendDo cfg tok st sid p (st.setSess sid (updC cfg t), [])
  | queuedLst {s : Sess} {l : Lst} {r : State × List Out} (hs : st.sessions sid = some s) (hl : st.listeners s.owner = some l) (t : Lst)
      (hr : r = (st.setLst s.owner (updL cfg t), []) ∨ r = closeNow cfg (st.setLst s.owner (updL cfg t)) sid .backpressure)
      (hhome : homeOf sid s = .lst s.owner) (hq : (updL cfg t).wq.Sublist (l.wq ++ [⟨tok, s.peer, p⟩])) : SendDo cfg tok st sid p r

theorem sendDo_cases (cfg : Cfg) (tok : Nat) (st : State) (sid : Nat) (p : Bytes) (ans : Ans) :
    SendDo cfg tok st sid p (sendDo cfg tok st sid p ans) := by
  unfold sendDo
  split
  · exact .noSession
  · rename_i s hs
    dsimp only
    split
    · rename_i hrole
      have hhome : homeOf sid s = .cli sid := by unfold homeOf; rw [hrole]
      split
      · exact hhome ▸ .sentNow hs
      · split
        · split
          · exact .closes _
          · exact .queuedCli hs _ ⟨rfl, rfl, rfl⟩ hhome (List.tail_sublist _)
        · exact .queuedCli hs _ ⟨rfl, rfl, rfl⟩ hhome (List.Sublist.refl _)
      · exact .closes _
    · rename_i hrole
      have hhome : homeOf sid s = .lst s.owner := by unfold homeOf; rw [hrole]
      split
      · exact .closes _
      · rename_i l hl
        split
        · exact hhome ▸ .sentNow hs
        · split
          · split
            · exact .queuedLst hs hl _ (Or.inr rfl) hhome (List.Sublist.refl _)
            · exact .queuedLst hs hl _ (Or.inl rfl) hhome (List.tail_sublist _)
          · exact .queuedLst hs hl _ (Or.inl rfl) hhome (List.Sublist.refl _)
        · exact .closes _

theorem sendDo_ops (cfg : Cfg) (tok : Nat) (st : State) (sid : Nat) (p : Bytes) (ans : Ans) : Ops cfg true st (sendDo cfg tok st sid p ans) := by
  have hc := sendDo_cases cfg tok st sid p ans
  generalize sendDo cfg tok st sid p ans = r at hc ⊢
  cases hc with
  | noSession => exact .nil
  | closes w => exact .close sid w
  | @sentNow s hs =>
    exact .andThen (.touch sid { s with lastActivity := st.now, lastWriteProgress := st.now } hs ⟨rfl, rfl, rfl⟩ rfl rfl rfl rfl)
      (.emit _ (fun _ _ hm => nomatch List.mem_singleton.mp hm) fun c => nomatch c)
  | queuedCli hs t hsame _ hq => exact .setSess sid _ hs hsame (fun hf _ => updC_ok cfg hf t) (.push rfl _ hq)
  | queuedLst _ hl t hr _ hq =>
    have h1 := Ops.setLst (cfg := cfg) (st := st) _ (updL cfg t) st.nextLid (fun hf => updL_ok cfg hf t) (.push rfl _ (by rw [hl]; exact hq))
    rcases hr with rfl | rfl
    · exact h1
    · exact .seq h1 (.close sid .backpressure)

theorem flushLoopL_qop (loud : Bool) (lid : Lid) (v6 : Nat → Bool) : ∀ (q : List Item) (as : List Ans),
    QOp loud (.lst lid) q (flushLoopL lid v6 q as).1 (flushLoopL lid v6 q as).2
  | [], _ => .keep (.refl _)
  | it :: rest, as => by
    unfold flushLoopL
    split
    · exact .sent (flushLoopL_qop loud lid v6 rest _)
    · exact .keep (.refl _)
    · exact .drop (flushLoopL_qop loud lid v6 rest _)

theorem flushLoopC_qop (loud : Bool) (sid : Sid) (v6 : Nat → Bool) : ∀ (q : List Item) (as : List Ans),
    QOp loud (.cli sid) q (flushLoopC sid v6 q as).1 (flushLoopC sid v6 q as).2.1
  | [], _ => .keep (.refl _)
  | it :: rest, as => by
    unfold flushLoopC
    split
    · exact .sent (flushLoopC_qop loud sid v6 rest _)
    · exact .keep (.refl _)
    · exact .keep (.refl _)

theorem writeClient_ops {loud : Bool} (cfg : Cfg) (st : State) (sid : Sid) (as : List Ans) : Ops cfg loud st (writeClient cfg st sid as) := by
  unfold writeClient
  split
  · exact .nil
  · rename_i s hs
    split
    · exact .nil
    · split
      · have hq := flushLoopC_qop loud sid (overV6 cfg s.v6) s.wq as
        dsimp only
        split
        · -- `by exact`: elaborated once the goal has fixed the new session; `⟨rfl, rfl, rfl⟩` as it stands would take it to be `s`
          exact .seq (.setSess sid _ hs (by exact ⟨rfl, rfl, rfl⟩) (fun hf _ => updC_ok cfg hf _) hq) (.close sid .socket)
        · exact .setSess sid _ hs ⟨rfl, rfl, rfl⟩ (fun hf _ => updC_ok cfg hf _) hq
      · exact .nil

theorem flushListener_ops {loud : Bool} (cfg : Cfg) (st : State) (lid : Lid) (as : List Ans) : Ops cfg loud st (flushListener cfg st lid as) := by
  unfold flushListener
  split
  · exact .nil
  · rename_i l hl
    split
    · exact .setLst lid _ _ (fun hf => updL_ok cfg hf _) (hl ▸ flushLoopL_qop loud lid (overV6 cfg l.v6) l.wq as)
    · exact .nil

theorem step_recvKeyFail (cfg : Cfg) (tok : Nat) (st : State) (lid n : Nat) :
    ∃ k, step cfg tok st (.recvKeyFail lid n) = (st, List.replicate k .error) := by
  simp only [step]; split
  · exact ⟨0, rfl⟩
  · split
    · exact ⟨n, rfl⟩
    · exact ⟨0, rfl⟩

theorem step_ops (cfg : Cfg) (loud : Bool) (tok : Nat) (st : State) (i : In) (hl : i.loud = true → loud = true) :
    Ops cfg loud st (step cfg tok st i) := by
  cases i with
  | listen v6 => exact .setLst _ _ _ (fun hf => ⟨hf.1, rfl⟩) (.keep (List.nil_sublist _))
  | recvFrom lid dgs =>
    simp only [step]; split
    · exact .nil
    · split
      · exact recvMany_ops cfg lid dgs st
      · exact .nil
  | clientRecv sid dgs =>
    simp only [step]; split
    · exact .nil
    · split
      · exact .nil
      · split
        · exact clientRecvMany_ops cfg sid dgs st
        · exact .nil
  | recvKeyFail lid n =>
    obtain ⟨k, e⟩ := step_recvKeyFail cfg tok st lid n
    rw [e]; exact .say _ (List.all_eq_true.mpr fun _ hm => (List.mem_replicate.mp hm).2 ▸ rfl)
  | viaKeyFail lid => exact .seq (.say [.closed st.nextSid .config]) .skipId
  | connect a v6 => exact .seq (.say [.connected st.nextSid a]) (.opens _ _ (Or.inl rfl) (fun hf _ => ⟨hf.2.2.1, rfl⟩) rfl)
  | via lid a v6 =>
    have hfail : Ops cfg loud st ({ st with nextSid := st.nextSid + 1 }, [.closed st.nextSid .config]) :=
      .seq (.say [.closed st.nextSid .config]) .skipId
    simp only [step, viaDo]
    split
    · exact hfail
    · split
      · exact hfail
      · split
        · exact hfail
        · refine .seq (.say [.connected st.nextSid a]) (.opens _ _ ?_ (fun _ c => Role.noConfusion c) rfl)
          cases hix : st.peerIndex (cfg.key a) with
          | none => exact Or.inr ⟨rfl, rfl, rfl⟩
          | some x => exact Or.inl rfl
  | cmdSend sid p a =>
    obtain rfl := hl rfl
    simp only [step]; split
    · exact .nil
    · exact sendDo_ops cfg tok st sid p a
  | writableL lid as => exact flushListener_ops cfg st lid as
  | writableC sid as => exact writeClient_ops cfg st sid as
  | close sid => exact .close sid .unknown
  | advance ms => exact .tick _
  | gc => exact closeAll_ops cfg .gc _ st
  | restart => exact .restart

theorem step_ops_loud (cfg : Cfg) (tok : Nat) (st : State) (i : In) : Ops cfg true st (step cfg tok st i) :=
  step_ops cfg true tok st i fun _ => rfl

theorem runFrom_ops (cfg : Cfg) : ∀ (is : List In) (n : Nat) (st : State), Ops cfg true st (runFrom cfg n st is)
  | [], _, _ => .nil
  | i :: is, n, st => .seq (step_ops_loud cfg n st i) (runFrom_ops cfg is _ _)

theorem Ops.inv {cfg : Cfg} {loud : Bool} {st : State} {r : State × List Out} (hops : Ops cfg loud st r) (h : Inv cfg st) : Inv cfg r.1 := by
  induction hops with
  | emit | setLst | tick => exact h
  | setSess _ _ hs hsame => exact InvC.touch h hs hsame.peer hsame.role
  | opens s _ hix =>
    rcases hix with rfl | ⟨hr, _, rfl⟩
    · exact InvC.insert h s
    · exact InvC.insertIdx h s hr
  | skipId => exact InvC.bump h
  | drop _ hs => exact InvC.close h hs
  | restart => exact shutdownDrain_inv cfg _ h
  | seq _ _ ih1 ih2 => exact ih2 (ih1 h)

theorem Ops.nextSid_le {cfg : Cfg} {loud : Bool} {st : State} {r : State × List Out} (hops : Ops cfg loud st r) : st.nextSid ≤ r.1.nextSid := by
  induction hops with
  | emit | setSess | setLst | tick | drop => exact Nat.le_refl _
  | opens | skipId => exact Nat.le_succ _
  | @restart st =>
    obtain ⟨_, e, _⟩ := shutdownDrain_eq cfg st
    rw [e]; exact Nat.le_refl _
  | seq _ _ ih1 ih2 => exact Nat.le_trans ih1 ih2

theorem recvOne_inv (cfg : Cfg) (lid : Lid) (st : State) (d : Addr × Bytes) (h : Inv cfg st) : Inv cfg (recvOne cfg lid st d).1 :=
  (recvOne_ops (loud := false) cfg lid st d).inv h

theorem recvMany_inv (cfg : Cfg) (lid : Lid) (dgs : List (Addr × Bytes)) (st : State) (h : Inv cfg st) : Inv cfg (recvMany cfg lid st dgs).1 :=
  (recvMany_ops (loud := false) cfg lid dgs st).inv h

theorem runFrom_inv (cfg : Cfg) (is : List In) (n : Nat) (st : State) (h : Inv cfg st) : Inv cfg (runFrom cfg n st is).1 :=
  (runFrom_ops cfg is n st).inv h

theorem run_inv (cfg : Cfg) (is : List In) : Inv cfg (run cfg is).1 := runFrom_inv cfg is 0 {} (inv_init cfg)

theorem Ops.keeps_idx {cfg : Cfg} {loud : Bool} (hg : cfg.eraseGuarded = true) {st : State} {r : State × List Out} (hops : Ops cfg loud st r)
    (h : Inv cfg st) {k sid : Nat} (hix : st.peerIndex k = some sid) :
    (r.1.peerIndex k = some sid ∧ ∀ s' a, cfg.key a = k → Out.accept s' a ∉ r.2) ∨ ∃ w, Out.closed sid w ∈ r.2 := by
  induction hops with
  | emit o ho _ =>
    -- `ho` is where "an accept only under an index miss" comes in: `k` has an entry
    exact Or.inl ⟨hix, fun s' a ha hm => nomatch (ha ▸ ho s' a hm).symm.trans hix⟩
  | setSess _ _ _ _ _ hq | setLst _ _ _ _ hq => exact Or.inl ⟨hix, fun s' a _ => hq.no_accept s' a⟩
  | skipId | tick => exact Or.inl ⟨hix, fun _ _ _ => List.not_mem_nil⟩
  | opens s _ hix' =>
    refine Or.inl ⟨?_, fun _ _ _ => List.not_mem_nil⟩
    rcases hix' with rfl | ⟨_, hn, rfl⟩
    · exact hix
    · exact (upd_other _ _ _ _ (fun e => nomatch (e ▸ hix).symm.trans hn)).trans hix
  | drop sid' _ why =>
    by_cases e : sid = sid'
    · exact Or.inr ⟨why, e ▸ List.mem_singleton_self _⟩
    · exact Or.inl ⟨hg ▸ erased_keep hix e, fun _ _ _ hm => nomatch List.mem_singleton.mp hm⟩
  | restart =>
    obtain ⟨s, hs, _⟩ := h.idx k sid hix
    exact Or.inr ⟨_, shutdownDrain_closes cfg _ h hs⟩
  | seq h1 _ ih1 ih2 =>
    rcases ih1 h hix with ⟨hk, hn⟩ | ⟨w, hw⟩
    · rcases ih2 (h1.inv h) hk with ⟨hk2, hn2⟩ | ⟨w, hw⟩
      · exact Or.inl ⟨hk2, fun s' a ha hm => (List.mem_append.mp hm).elim (hn s' a ha) (hn2 s' a ha)⟩
      · exact Or.inr ⟨w, List.mem_append_right _ hw⟩
    · exact Or.inr ⟨w, List.mem_append_left _ hw⟩

theorem Ops.stays {cfg : Cfg} {loud : Bool} {st : State} {r : State × List Out} (hops : Ops cfg loud st r) (h : Inv cfg st) {sid : Nat} {s : Sess}
    (hs : st.sessions sid = some s) : (∃ s', r.1.sessions sid = some s' ∧ Same s s') ∨ ∃ w, Out.closed sid w ∈ r.2 := by
  induction hops generalizing s with
  | emit | setLst | skipId | tick => exact Or.inl ⟨s, hs, Same.refl s⟩
  | setSess x sx' hx hsame =>
    by_cases e : sid = x
    · subst e; cases hs.symm.trans hx
      exact Or.inl ⟨sx', upd_same .., hsame⟩
    · exact Or.inl ⟨s, (upd_other _ _ _ _ e).trans hs, Same.refl s⟩
  | opens => exact Or.inl ⟨s, (upd_other _ _ _ _ (Nat.ne_of_lt (h.fresh sid s hs))).trans hs, Same.refl s⟩
  | drop x _ why =>
    by_cases e : sid = x
    · exact Or.inr ⟨why, e ▸ List.mem_singleton_self _⟩
    · exact Or.inl ⟨s, (upd_other _ _ _ _ e).trans hs, Same.refl s⟩
  | restart => exact Or.inr ⟨_, shutdownDrain_closes cfg _ h hs⟩
  | seq h1 _ ih1 ih2 =>
    rcases ih1 h hs with ⟨s1, hs1, e1⟩ | ⟨w, hw⟩
    · rcases ih2 (h1.inv h) hs1 with ⟨s2, hs2, e2⟩ | ⟨w, hw⟩
      · exact Or.inl ⟨s2, hs2, e1.trans e2⟩
      · exact Or.inr ⟨w, List.mem_append_right _ hw⟩
    · exact Or.inr ⟨w, List.mem_append_left _ hw⟩

/-- `key()` maps distinct socket addresses to distinct index keys (what getnameinfo's numeric form is assumed to do) -/
def KeyInjective (K : Nat → Nat) : Prop := ∀ a b, K a = K b → a = b

/-- the cap does not refuse this datagram: no cap, a known peer, or room left -/
def Admitted (cfg : Cfg) (st : State) (a : Nat) : Prop := capReached cfg st = false ∨ (st.peerIndex (cfg.key a)).isSome = true

theorem recvOne_spec (cfg : Cfg) (hK : KeyInjective cfg.key) (lid : Lid) (st : State) (a : Nat) (dg : Bytes) (h : Inv cfg st) (hne : dg ≠ [])
    (hlen : dg.length ≤ cfg.ioReadChunk) (hadm : Admitted cfg st a) :
    ∃ (sid : Nat) (s : Sess), (recvOne cfg lid st (a, dg)).1.sessions sid = some s ∧ s.peer = a ∧ s.role = .serverPeer ∧
      (recvOne cfg lid st (a, dg)).1.peerIndex (cfg.key a) = some sid ∧
      ((st.peerIndex (cfg.key a) = some sid ∧ (recvOne cfg lid st (a, dg)).2 = [.data sid dg]) ∨
       (st.peerIndex (cfg.key a) = none ∧ sid = st.nextSid ∧ (recvOne cfg lid st (a, dg)).2 = [.accept sid a, .data sid dg])) := by
  have htake : dg.take cfg.ioReadChunk = dg := List.take_of_length_le hlen
  rcases recvOne_cases cfg lid st (a, dg) _ rfl with ⟨hno, _⟩ | ⟨hn, _, e⟩ | ⟨sid, hix, hs, _⟩ | ⟨sid, s, hix, hs, e⟩
  · rcases hno with h0 | ⟨hn, hc⟩
    · exact absurd (htake.symm.trans h0) hne
    · rcases hadm with h1 | h1
      · exact nomatch hc.symm.trans h1
      · exact nomatch (congrArg Option.isSome hn).symm.trans h1
  · rw [htake] at e; rw [e]
    exact ⟨st.nextSid, _, upd_same .., rfl, rfl, upd_same .., Or.inr ⟨hn, rfl, rfl⟩⟩
  · obtain ⟨t, ht, _⟩ := h.idx _ sid hix
    exact nomatch hs.symm.trans ht
  · rw [htake] at e; rw [e]
    obtain ⟨hp, hr⟩ := h.key hs hix
    exact ⟨sid, { s with lastActivity := st.now }, upd_same .., hK _ _ hp.symm, hr, hix, Or.inl ⟨hix, rfl⟩⟩

theorem recvOne_known (cfg : Cfg) (hK : KeyInjective cfg.key) (lid : Lid) (st : State) (a sid : Nat) (dg : Bytes) (h : Inv cfg st) (hne : dg ≠ [])
    (hlen : dg.length ≤ cfg.ioReadChunk) (hix : st.peerIndex (cfg.key a) = some sid) :
    (recvOne cfg lid st (a, dg)).2 = [.data sid dg] ∧ (recvOne cfg lid st (a, dg)).1.peerIndex (cfg.key a) = some sid := by
  obtain ⟨sid', _, _, _, _, hpost, hout⟩ := recvOne_spec cfg hK lid st a dg h hne hlen (Or.inr (by rw [hix]; rfl))
  rcases hout with ⟨h1, h2⟩ | ⟨h1, _, _⟩
  · cases hix.symm.trans h1; exact ⟨h2, hpost⟩
  · cases hix.symm.trans h1

theorem recvOne_refused (cfg : Cfg) (lid : Lid) (st : State) (a : Nat) (dg : Bytes) (hnot : ¬ Admitted cfg st a) :
    recvOne cfg lid st (a, dg) = (st, []) := by
  rcases recvOne_cases cfg lid st (a, dg) _ rfl with ⟨_, e⟩ | ⟨_, hc, _⟩ | ⟨_, hix, _⟩ | ⟨_, _, hix, _⟩
  · exact e
  · exact absurd (Or.inl hc) hnot
  · exact absurd (Or.inr (by rw [hix]; rfl)) hnot
  · exact absurd (Or.inr (by rw [hix]; rfl)) hnot

theorem capReached_no_cap {cfg : Cfg} (hc : cfg.maxSessions = 0) (st : State) : capReached cfg st = false := by
  simp [capReached, hc]

theorem recvOne_sessionsCurrent_cap (cfg : Cfg) (lid : Lid) (st : State) (d : Nat × Bytes) (hc : cfg.maxSessions = 0) :
    capReached cfg (recvOne cfg lid st d).1 = false :=
  capReached_no_cap hc _

theorem recvMany_append (cfg : Cfg) (lid : Lid) : ∀ (a b : List (Nat × Bytes)) (st : State),
    recvMany cfg lid st (a ++ b) =
      ((recvMany cfg lid (recvMany cfg lid st a).1 b).1, (recvMany cfg lid st a).2 ++ (recvMany cfg lid (recvMany cfg lid st a).1 b).2)
  | [], _, _ => rfl
  | x :: a, b, st => by simp only [List.cons_append, recvMany, recvMany_append cfg lid a b, List.append_assoc]

theorem recvMany_no_closed (cfg : Cfg) (lid : Lid) (sid : Nat) (w : Why) : ∀ (ds : List (Nat × Bytes)) (st : State),
    Out.closed sid w ∉ (recvMany cfg lid st ds).2
  | [], _ => List.not_mem_nil
  | d :: ds, st => fun hm => (List.mem_append.mp hm).elim
      (fun h1 => by rcases recvOne_cases cfg lid st d _ rfl with ⟨_, e⟩ | ⟨_, _, e⟩ | ⟨_, _, _, e⟩ | ⟨_, _, _, _, e⟩ <;> rw [e] at h1 <;> simp at h1)
      (recvMany_no_closed cfg lid sid w ds _)

theorem recvMany_keeps_sess (cfg : Cfg) (lid : Lid) (ds : List (Nat × Bytes)) (st : State) (h : Inv cfg st) {sid : Nat} {s : Sess}
    (hs : st.sessions sid = some s) : ∃ s', (recvMany cfg lid st ds).1.sessions sid = some s' ∧ Same s s' :=
  ((recvMany_ops (loud := false) cfg lid ds st).stays h hs).resolve_right fun ⟨w, hw⟩ => recvMany_no_closed cfg lid sid w ds st hw

theorem recvMany_keeps_idx (cfg : Cfg) (lid : Lid) {k sid : Nat} : ∀ (ds : List (Nat × Bytes)) (st : State),
    st.peerIndex k = some sid → (recvMany cfg lid st ds).1.peerIndex k = some sid
  | [], _, hix => hix
  | d :: ds, st, hix => by
    refine recvMany_keeps_idx cfg lid ds _ ?_
    rcases recvOne_cases cfg lid st d _ rfl with ⟨_, e⟩ | ⟨hn, _, e⟩ | ⟨_, _, _, e⟩ | ⟨_, _, _, _, e⟩ <;> rw [e]
    · exact hix
    · -- the one entry a receive writes stands under a key that had none
      exact (upd_other _ _ _ _ (fun e => nomatch (e ▸ hix).symm.trans hn)).trans hix
    · exact hix
    · exact hix

/-- the `(session, payload)` pairs of the data events, in order -/
def dataOf : List Out → List (Nat × Bytes)
  | [] => []
  | .data sid b :: os => (sid, b) :: dataOf os
  | _ :: os => dataOf os

@[simp] theorem dataOf_append (a b : List Out) : dataOf (a ++ b) = dataOf a ++ dataOf b := by
  induction a with
  | nil => rfl
  | cons x xs ih => cases x <;> simp [dataOf, ih]

/-- pointwise relation between two lists of the same length (core Lean has no `Forall₂`) -/
inductive Pairwise2 {α β : Type} (R : α → β → Prop) : List α → List β → Prop
  | nil : Pairwise2 R [] []
  | cons {a b as bs} : R a b → Pairwise2 R as bs → Pairwise2 R (a :: as) (b :: bs)

theorem Pairwise2.length_eq {α β : Type} {R : α → β → Prop} {as : List α} {bs : List β} (h : Pairwise2 R as bs) :
    as.length = bs.length := by
  induction h with
  | nil => rfl
  | cons _ _ ih => exact congrArg Nat.succ ih

end Iora.Udp
