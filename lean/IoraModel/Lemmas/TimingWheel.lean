import IoraModel.Model.TimingWheel
/-!
Lemmas about `Model/TimingWheel.lean` (property C08).

The central notion is the multiset of `(id, deadline)` pairs of the linked entries (`key`, `keysOf`): every internal wheel
operation (`insertEntry`, the detach/re-insert loops of `collectFromBucket` and `cascadeDown`, the tick loop of
`advance`) only moves entries between buckets or hands them to `toFire`, so `keysOf (wheel, toFire)` is preserved
up to permutation.  Conservation (W1), cancel semantics (W2) and the deadline guards (W3, W5) are read off from that.
-/
namespace Iora.Wheel

def key (e : Entry) : Nat × Int := (e.id, e.deadline)

/-- `(id, deadline)` of everything a loop state `(wheel, toFire)` holds -/
def keysOf (s : Wheel × List Entry) : List (Nat × Int) := (s.1.entries ++ s.2).map key

def ids (w : Wheel) : List Nat := w.entries.map (·.id)

/-- the fields no internal wheel operation touches -/
structure SameCtl (w w' : Wheel) : Prop where
  nextId : w'.nextId = w.nextId
  accepting : w'.accepting = w.accepting
  state : w'.state = w.state
  curLen : w'.cur.length = w.cur.length

theorem SameCtl.refl (w : Wheel) : SameCtl w w := ⟨rfl, rfl, rfl, rfl⟩
theorem SameCtl.trans {a b c : Wheel} (h1 : SameCtl a b) (h2 : SameCtl b c) : SameCtl a c :=
  ⟨h2.nextId.trans h1.nextId, h2.accepting.trans h1.accepting, h2.state.trans h1.state, h2.curLen.trans h1.curLen⟩

/-- an entry may be handed to `fireCallback` at `now`: level 0 at most one tick early (the guard of `collectOne`, from
`collectFromBucket`), higher levels not early at all (the guard of `cascadeOne`, from `cascadeDown`) -/
def Due (c : Cfg) (now : Int) (e : Entry) : Prop :=
  (e.level = 0 ∧ e.deadline - now ≤ c.tick * nsPerMs) ∨ (0 < e.level ∧ e.deadline ≤ now)

theorem Due.not_early {c : Cfg} {now : Int} {e : Entry} (h0 : 0 ≤ c.tick) (h : Due c now e) :
    e.deadline - now ≤ c.tick * nsPerMs := by
  rcases h with ⟨_, h⟩ | ⟨_, h⟩
  · exact h
  · have : 0 ≤ c.tick * nsPerMs := Int.mul_nonneg h0 (by decide)
    omega

theorem climb_lt (c : Cfg) : ∀ (f lvl t : Nat), lvl < c.levels → (climb c f lvl t).1 < c.levels
  | 0, _, _, h => h
  | f + 1, lvl, t, h => by
    unfold climb
    split
    · rename_i hc
      exact climb_lt c f (lvl + 1) (t / c.slots) hc.1
    · exact h

theorem insertEntry_spec (c : Cfg) (w : Wheel) (id : Nat) (dl d : Int) :
    ∃ l b, insertEntry c w id dl d = { w with entries := w.entries ++ [⟨id, dl, l, b⟩] } ∧ (0 < c.levels → l < c.levels) := by
  unfold insertEntry
  simp only
  split
  · exact ⟨0, _, rfl, fun h => h⟩
  · exact ⟨_, _, rfl, fun h => climb_lt c _ _ _ h⟩

theorem insertEntry_ctl (c : Cfg) (w : Wheel) (id : Nat) (dl d : Int) : SameCtl w (insertEntry c w id dl d) := by
  obtain ⟨l, b, h, _⟩ := insertEntry_spec c w id dl d
  rw [h]; exact ⟨rfl, rfl, rfl, rfl⟩

theorem unlink_some {id : Nat} : ∀ {l : List Entry} {x : Entry} {r : List Entry},
    unlink id l = some (x, r) → x.id = id ∧ l.Perm (x :: r) ∧ r.Sublist l
  | [], _, _, h => by simp [unlink] at h
  | e :: es, x, r, h => by
    unfold unlink at h
    split at h
    · rename_i he
      cases h
      exact ⟨he, List.Perm.refl _, List.sublist_cons_self _ _⟩
    · split at h
      · cases h
      · rename_i x' r' hu
        cases h
        obtain ⟨h1, h3, h4⟩ := unlink_some hu
        exact ⟨h1, (List.Perm.cons e h3).trans (List.Perm.swap _ _ _), h4.cons_cons e⟩

theorem unlink_none {id : Nat} : ∀ {l : List Entry}, unlink id l = none ↔ id ∉ l.map (·.id)
  | [] => by simp [unlink]
  | e :: es => by
    unfold unlink
    split
    · rename_i he
      simp [he]
    · rename_i he
      have ih := @unlink_none id es
      split
      · rename_i hu
        simp only [List.map_cons, List.mem_cons, not_or, true_iff]
        exact ⟨fun h => he h.symm, ih.mp hu⟩
      · rename_i x r hu
        simp only [List.map_cons, List.mem_cons, not_or, false_iff, reduceCtorEq]
        intro h
        rw [ih.mpr h.2] at hu
        cases hu

theorem unlink_isSome {id : Nat} {l : List Entry} : (unlink id l).isSome = true ↔ id ∈ l.map (·.id) := by
  rw [← Option.ne_none_iff_isSome, Ne, unlink_none, Classical.not_not]

theorem cancel_true_iff (w : Wheel) (id : Nat) : (cancel w id).2 = true ↔ id ∈ ids w := by
  rw [ids, ← unlink_isSome, cancel]
  split <;> simp [*]

theorem resched_true_iff (c : Cfg) (w : Wheel) (now : Int) (id : Nat) (d : Int) : (reschedule c w now id d).2 = true ↔ id ∈ ids w := by
  rw [ids, ← unlink_isSome, reschedule]
  split <;> simp [*]

/-- what one piece of `advance` may do to the loop state `(wheel, toFire)` -/
structure Tr (c : Cfg) (now : Int) (s s' : Wheel × List Entry) : Prop where
  perm : (keysOf s').Perm (keysOf s)
  due : ∀ e ∈ s'.2, e ∈ s.2 ∨ Due c now e
  ctl : SameCtl s.1 s'.1
  lvl : 0 < c.levels → (∀ e ∈ s.1.entries, e.level < c.levels) → ∀ e ∈ s'.1.entries, e.level < c.levels

theorem Tr.refl (c : Cfg) (now : Int) (s : Wheel × List Entry) : Tr c now s s :=
  ⟨List.Perm.refl _, fun _ h => Or.inl h, SameCtl.refl _, fun _ h => h⟩

theorem Tr.trans {c : Cfg} {now : Int} {a b d : Wheel × List Entry} (h1 : Tr c now a b) (h2 : Tr c now b d) : Tr c now a d :=
  ⟨h2.perm.trans h1.perm,
   fun e he => (h2.due e he).elim (fun h => h1.due e h) Or.inr,
   h1.ctl.trans h2.ctl,
   fun hl h => h2.lvl hl (h1.lvl hl h)⟩

theorem Tr.keys {c : Cfg} {now : Int} {w : Wheel} {s' : Wheel × List Entry} (t : Tr c now (w, []) s') :
    ((s'.1.entries ++ s'.2).map key).Perm (w.entries.map key) := by
  simpa [keysOf] using t.perm

theorem Tr.fired_due {c : Cfg} {now : Int} {w : Wheel} {s' : Wheel × List Entry} (t : Tr c now (w, []) s') : ∀ e ∈ s'.2, Due c now e :=
  fun e he => (t.due e he).resolve_left nofun

/-- what one iteration of the second loop of `collectFromBucket` / `cascadeDown` does with an entry of level `l`: it hands it to
`toFire`, and then the entry is `Due`, or re-inserts it -/
def Sifts (c : Cfg) (now : Int) (l : Nat) (one : Wheel × List Entry → Entry → Wheel × List Entry) : Prop :=
  ∀ s e, e.level = l → (one s e = (s.1, s.2 ++ [e]) ∧ Due c now e) ∨ (∃ d, one s e = (insertEntry c s.1 e.id e.deadline d, s.2))

/-- the second loop over a detached list `P`, seen from the state in which `P` is still linked -/
theorem fold_tr (c : Cfg) (now : Int) (one : Wheel × List Entry → Entry → Wheel × List Entry) (l : Nat) (hone : Sifts c now l one) :
    ∀ (P : List Entry) (s : Wheel × List Entry), (∀ e ∈ P, e.level = l) →
      Tr c now ({ s.1 with entries := s.1.entries ++ P }, s.2) (P.foldl one s)
  | [], s, _ => ⟨by simp [keysOf], fun _ h => Or.inl h, ⟨rfl, rfl, rfl, rfl⟩, fun _ h e he => h e (List.mem_append_left _ he)⟩
  | e :: P, s, hQ => by
    have hQ' : ∀ x ∈ P, x.level = l := fun x hx => hQ x (List.mem_cons_of_mem _ hx)
    rw [List.foldl_cons]
    rcases hone s e (hQ e List.mem_cons_self) with ⟨h, hd⟩ | ⟨d, h⟩
    · rw [h]
      have h1 : Tr c now ({ s.1 with entries := s.1.entries ++ e :: P }, s.2) ({ s.1 with entries := s.1.entries ++ P }, s.2 ++ [e]) := by
        refine ⟨?_, ?_, ⟨rfl, rfl, rfl, rfl⟩, fun _ hs x hx => hs x ?_⟩
        · rw [List.perm_iff_count]
          intro a
          simp only [keysOf, List.map_append, List.map_cons, List.map_nil, List.count_append, List.count_cons, List.count_nil]
          omega
        · intro x hx
          rcases List.mem_append.mp hx with hx | hx
          · exact Or.inl hx
          · cases List.mem_singleton.mp hx; exact Or.inr hd
        · rcases List.mem_append.mp hx with hx | hx
          · exact List.mem_append_left _ hx
          · exact List.mem_append_right _ (List.mem_cons_of_mem _ hx)
      exact h1.trans (fold_tr c now one l hone P (s.1, s.2 ++ [e]) hQ')
    · obtain ⟨l', b, he, hl⟩ := insertEntry_spec c s.1 e.id e.deadline d
      rw [h, he]
      have h1 : Tr c now ({ s.1 with entries := s.1.entries ++ e :: P }, s.2)
          ({ s.1 with entries := s.1.entries ++ [⟨e.id, e.deadline, l', b⟩] ++ P }, s.2) := by
        refine ⟨?_, fun _ hx => Or.inl hx, ⟨rfl, rfl, rfl, rfl⟩, fun hlv hs x hx => ?_⟩
        · rw [List.perm_iff_count]
          intro a
          simp only [keysOf, List.map_append, List.map_cons, List.map_nil, List.count_append, List.count_cons, List.count_nil, key]
          omega
        · rcases List.mem_append.mp hx with hx | hx
          · rcases List.mem_append.mp hx with hx | hx
            · exact hs x (List.mem_append_left _ hx)
            · cases List.mem_singleton.mp hx; exact hl hlv
          · exact hs x (List.mem_append_right _ (List.mem_cons_of_mem _ hx))
      exact h1.trans (fold_tr c now one l hone P ({ s.1 with entries := s.1.entries ++ [⟨e.id, e.deadline, l', b⟩] }, s.2) hQ')

theorem collectOne_sifts (c : Cfg) (now : Int) : Sifts c now 0 (collectOne c now) := by
  intro s e h0
  unfold collectOne
  split
  · exact Or.inr ⟨_, rfl⟩
  · exact Or.inl ⟨rfl, Or.inl ⟨h0, by omega⟩⟩

theorem cascadeOne_sifts (c : Cfg) (now : Int) {l : Nat} (hl : 0 < l) : Sifts c now l (cascadeOne c now) := by
  intro s e h0
  unfold cascadeOne
  split
  · rename_i h; exact Or.inl ⟨rfl, Or.inr ⟨h0 ▸ hl, h⟩⟩
  · exact Or.inr ⟨_, rfl⟩

theorem bucket_tr (c : Cfg) (now : Int) (one : Wheel × List Entry → Entry → Wheel × List Entry) (l b : Nat) (hone : Sifts c now l one)
    (s : Wheel × List Entry) :
    Tr c now s ((detach s.1 l b).1.foldl one ((detach s.1 l b).2, s.2)) := by
  have h1 : Tr c now s ({ (detach s.1 l b).2 with entries := (detach s.1 l b).2.entries ++ (detach s.1 l b).1 }, s.2) := by
    refine ⟨?_, fun _ h => Or.inl h, ⟨rfl, rfl, rfl, rfl⟩, fun _ hs x hx => hs x ?_⟩
    · -- detaching and re-attaching a bucket permutes the entries
      exact ((List.perm_append_comm.trans (List.filter_append_perm (inBucket l b) s.1.entries)).append_right s.2).map key
    · rcases List.mem_append.mp hx with hx | hx <;> exact (List.mem_filter.mp hx).1
  refine h1.trans (fold_tr c now one l hone (detach s.1 l b).1 ((detach s.1 l b).2, s.2) fun e he => ?_)
  simp only [detach, List.mem_filter, inBucket, Bool.and_eq_true, beq_iff_eq] at he
  exact he.2.1

theorem setCur_tr (c : Cfg) (now : Int) (w : Wheel) (f : List Entry) (l v : Nat) : Tr c now (w, f) (setCur w l v, f) :=
  ⟨List.Perm.refl _, fun _ h => Or.inl h, ⟨rfl, rfl, rfl, by simp [setCur]⟩, fun _ h => h⟩

theorem cascadeDown_tr (c : Cfg) (now : Int) : ∀ (fuel lvl : Nat) (s : Wheel × List Entry), 0 < lvl → Tr c now s (cascadeDown c now fuel lvl s)
  | 0, _, s, _ => Tr.refl c now s
  | fuel + 1, lvl, s, hl => by
    unfold cascadeDown
    split
    · exact Tr.refl c now s
    · have h1 := bucket_tr c now (cascadeOne c now) lvl (curAt s.1 lvl % c.slots) (cascadeOne_sifts c now hl) s
      simp only
      generalize (List.foldl (cascadeOne c now) ((detach s.1 lvl (curAt s.1 lvl % c.slots)).2, s.2)
        (detach s.1 lvl (curAt s.1 lvl % c.slots)).1) = s1 at h1 ⊢
      have h2 := h1.trans (setCur_tr c now s1.1 s1.2 lvl (curAt s1.1 lvl + 1))
      split
      · exact h2.trans (cascadeDown_tr c now fuel (lvl + 1) _ (by omega))
      · exact h2

theorem tickOnce_tr (c : Cfg) (now : Int) (s : Wheel × List Entry) : Tr c now s (tickOnce c now s) := by
  unfold tickOnce
  have h1 : Tr c now s (collectFromBucket c now s) := bucket_tr c now (collectOne c now) 0 _ (collectOne_sifts c now) s
  simp only
  generalize collectFromBucket c now s = s1 at h1 ⊢
  have h2 := h1.trans (setCur_tr c now s1.1 s1.2 0 (curAt s1.1 0 + 1))
  split
  · exact h2.trans (cascadeDown_tr c now c.levels 1 _ (by omega))
  · exact h2

theorem tickLoop_tr (c : Cfg) (now : Int) : ∀ (n : Nat) (s : Wheel × List Entry), Tr c now s (tickLoop c now n s)
  | 0, s => Tr.refl c now s
  | n + 1, s => (tickOnce_tr c now s).trans (tickLoop_tr c now n _)

theorem advance_tr (c : Cfg) (w : Wheel) (now : Int) : Tr c now (w, []) (advance c w now) :=
  (⟨List.Perm.refl _, fun _ h => Or.inl h, ⟨rfl, rfl, rfl, rfl⟩, fun _ h => h⟩ : Tr c now (w, []) ({ w with lastAdvance := some now }, [])).trans
    (tickLoop_tr c now (ticksToProcess c w now) _)

theorem insertSorted_perm (e : Entry) : ∀ l : List Entry, (insertSorted e l).Perm (e :: l)
  | [] => List.Perm.refl _
  | x :: xs => by
    unfold insertSorted
    split
    · exact List.Perm.refl _
    · exact ((insertSorted_perm e xs).cons x).trans (List.Perm.swap _ _ _)

theorem sortByDeadline_perm : ∀ l : List Entry, (sortByDeadline l).Perm l
  | [] => List.Perm.refl _
  | x :: xs => by
    show (insertSorted x (sortByDeadline xs)).Perm (x :: xs)
    exact (insertSorted_perm x _).trans ((sortByDeadline_perm xs).cons x)

theorem drain_perm (w : Wheel) (now : Int) (b : Nat) :
    ((drain w now b).2.fired ++ (drain w now b).2.remaining ++ (drain w now b).2.cancelled).Perm w.entries := by
  simp only [drain, List.take_append_drop]
  exact (List.filter_append_perm _ _).trans (sortByDeadline_perm _)

theorem drain_fired_due (w : Wheel) (now : Int) (b : Nat) : ∀ e ∈ (drain w now b).2.fired, e ∈ w.entries ∧ e.deadline ≤ now := by
  intro e he
  simp only [drain] at he
  have h1 := (List.take_sublist b _).subset he
  simp only [List.mem_filter, decide_eq_true_eq] at h1
  exact ⟨(sortByDeadline_perm _).subset h1.1, h1.2⟩

theorem issued_snoc (h : Hist) (x : Op × Out) : issued (h ++ [x]) = issued h ++ issuedOf x := by simp [issued]
theorem left_snoc (h : Hist) (x : Op × Out) : left (h ++ [x]) = left h ++ leftOf x := by simp [left]
theorem fired_snoc (h : Hist) (x : Op × Out) : fired (h ++ [x]) = fired h ++ firedOf x := by simp [fired]
theorem lastDeadline_snoc (h : Hist) (x : Op × Out) : lastDeadline (h ++ [x]) = deadlineUpd (lastDeadline h) x := by
  simp [lastDeadline, List.foldl_append]

theorem runFrom_trace (c : Cfg) : ∀ (ops : List Op) (w : Wheel) (h : Hist), (runFrom c w h ops).2 = h ++ trace c w ops
  | [], _, _ => by simp [runFrom, trace]
  | op :: ops, w, h => by
    simp only [runFrom, trace]
    rw [runFrom_trace c ops]
    simp

theorem runFrom_append (c : Cfg) : ∀ (a b : List Op) (w : Wheel) (h : Hist),
    runFrom c w h (a ++ b) = runFrom c (runFrom c w h a).1 (runFrom c w h a).2 b
  | [], _, _, _ => rfl
  | op :: a, b, w, h => by
    simp only [List.cons_append, runFrom]
    exact runFrom_append c a b _ _

theorem run_append (c : Cfg) (a b : List Op) : run c (a ++ b) = runFrom c (run c a).1 (run c a).2 b := runFrom_append c a b _ _

structure Inv (c : Cfg) (w : Wheel) (h : Hist) : Prop where
  /-- conservation: pending ids and ids that left are exactly the issued ids -/
  perm : (ids w ++ left h).Perm (issued h)
  nodup : (issued h).Nodup
  /-- ids start at 1 (0 is `InvalidTimerId`, the answer of a refused `schedule`, which `issuedOf` does not count) and `_nextId` is
  above every id handed out, so the next one is new -/
  fresh : ∀ i ∈ issued h, 0 < i ∧ i < w.nextId
  pos : 0 < w.nextId
  /-- every linked entry carries the deadline its latest successful (re)schedule asked for -/
  dl : ∀ e ∈ w.entries, lastDeadline h e.id = some e.deadline
  curLen : w.cur.length = c.levels
  lvl : 0 < c.levels → ∀ e ∈ w.entries, e.level < c.levels
  /-- what makes `idle` survive `schedule`: a wheel that accepts is not STOPPED -/
  acc : w.accepting = true → w.state = .running
  /-- a STOPPED wheel holds nothing: `stop()`/`drain()` unlink everything, and nothing is linked afterwards -/
  idle : w.state = .stopped → w.entries = []

theorem Inv.init (c : Cfg) : Inv c (Wheel.init c) [] :=
  ⟨by simp [ids, Wheel.init, left, issued], by simp [issued], by simp [issued], by simp [Wheel.init],
   by simp [Wheel.init], by simp [Wheel.init], by simp [Wheel.init], by simp [Wheel.init], by simp [Wheel.init]⟩

theorem Inv.ids_nodup {c : Cfg} {w : Wheel} {h : Hist} (i : Inv c w h) : (ids w ++ left h).Nodup :=
  i.perm.nodup_iff.mpr i.nodup

theorem Inv.left_final {c : Cfg} {w : Wheel} {h t : Hist} (i : Inv c w (h ++ t)) {id : Nat} (hl : id ∈ left h) :
    id ∉ ids w ∧ id ∉ left t := by
  have hnd := i.ids_nodup
  rw [show left (h ++ t) = left h ++ left t by simp [left]] at hnd
  obtain ⟨_, h2, h3⟩ := List.nodup_append.mp hnd
  exact ⟨fun hp => h3 id hp id (List.mem_append_left _ hl) rfl, fun ht => (List.nodup_append.mp h2).2.2 id hl id ht rfl⟩

theorem Inv.ids_lt {c : Cfg} {w : Wheel} {h : Hist} (i : Inv c w h) : ∀ x ∈ ids w, x < w.nextId :=
  fun x hx => (i.fresh x (i.perm.subset (List.mem_append_left _ hx))).2

theorem deadlineUpd_other (d : Nat → Option Int) (x : Op × Out)
    (h1 : ∀ n, x.2 ≠ .id n) (h2 : x.2 ≠ .bool true) : deadlineUpd d x = d := by
  obtain ⟨op, out⟩ := x
  cases out with
  | id n => exact absurd rfl (h1 n)
  | bool b =>
    cases b
    · cases op <;> rfl
    · exact absurd rfl h2
  | ok => cases op <;> rfl
  | fired es => cases op <;> rfl
  | drained d => cases op <;> rfl
  | cleared es => cases op <;> rfl

theorem mem_of_keys {A B : List Entry} (h : (A.map key).Perm (B.map key)) {e : Entry} (he : e ∈ A) :
    ∃ e0 ∈ B, e0.id = e.id ∧ e0.deadline = e.deadline := by
  have : key e ∈ B.map key := h.subset (List.mem_map_of_mem he)
  obtain ⟨e0, h0, hk⟩ := List.mem_map.mp this
  simp only [key, Prod.mk.injEq] at hk
  exact ⟨e0, h0, hk.1, hk.2⟩

/-- one step: it hands out no id, or `_nextId`; the linked ids and those that leave are the linked ids before and the one handed
out; every linked entry carries the deadline last asked for -/
theorem Inv.next {c : Cfg} {w w' : Wheel} {h : Hist} {x : Op × Out} (i : Inv c w h)
    (hiss : (issuedOf x = [] ∧ w'.nextId = w.nextId) ∨ (issuedOf x = [w.nextId] ∧ w'.nextId = w.nextId + 1))
    (hperm : (leftOf x ++ ids w').Perm (issuedOf x ++ ids w))
    (hdl : ∀ e ∈ w'.entries, deadlineUpd (lastDeadline h) x e.id = some e.deadline)
    (hcur : w'.cur.length = w.cur.length)
    (hlvl : 0 < c.levels → ∀ e ∈ w'.entries, e.level < c.levels)
    (hacc : w'.accepting = true → w'.state = .running) (hidle : w'.state = .stopped → w'.entries = []) : Inv c w' (h ++ [x]) := by
  have hpos := i.pos
  refine ⟨?_, ?_, ?_, ?_, by rw [lastDeadline_snoc]; exact hdl, hcur.trans i.curLen, hlvl, hacc, hidle⟩
  · rw [left_snoc, issued_snoc]
    have h1 := i.perm
    rw [List.perm_iff_count] at h1 hperm ⊢
    intro a
    have := h1 a
    have := hperm a
    simp only [List.count_append] at *
    omega
  · rw [issued_snoc]
    rcases hiss with ⟨h1, _⟩ | ⟨h1, _⟩ <;> rw [h1]
    · rw [List.append_nil]; exact i.nodup
    · exact List.nodup_append.mpr ⟨i.nodup, by simp,
        fun a ha b hb => by cases List.mem_singleton.mp hb; exact Nat.ne_of_lt (i.fresh a ha).2⟩
  · intro a ha
    rw [issued_snoc] at ha
    rcases hiss with ⟨h1, h2⟩ | ⟨h1, h2⟩ <;> rw [h1] at ha <;> rw [h2]
    · rw [List.append_nil] at ha; exact i.fresh a ha
    · rcases List.mem_append.mp ha with ha | ha
      · exact ⟨(i.fresh a ha).1, Nat.lt_succ_of_lt (i.fresh a ha).2⟩
      · cases List.mem_singleton.mp ha; exact ⟨hpos, Nat.lt_succ_self _⟩
  · rcases hiss with ⟨_, h2⟩ | ⟨_, h2⟩ <;> rw [h2]
    · exact hpos
    · exact Nat.succ_pos _

theorem inv_step (c : Cfg) (w : Wheel) (h : Hist) (op : Op) (i : Inv c w h) :
    Inv c (step c w op).1 (h ++ [(op, (step c w op).2)]) := by
  -- the history entries that neither hand out an id nor are a successful reschedule leave `lastDeadline` alone
  have dl_same : ∀ {w' : Wheel} {x : Op × Out}, (∀ e ∈ w'.entries, ∃ e0 ∈ w.entries, e0.id = e.id ∧ e0.deadline = e.deadline) →
      (∀ n, x.2 ≠ .id n) → x.2 ≠ .bool true → ∀ e ∈ w'.entries, deadlineUpd (lastDeadline h) x e.id = some e.deadline := by
    intro w' x hsub h1 h2 e he
    obtain ⟨e0, h0, hid, hd⟩ := hsub e he
    rw [deadlineUpd_other _ _ h1 h2, ← hid, ← hd]
    exact i.dl e0 h0
  have self : ∀ e ∈ w.entries, ∃ e0 ∈ w.entries, e0.id = e.id ∧ e0.deadline = e.deadline := fun e he => ⟨e, he, rfl, rfl⟩
  -- a refused call: the wheel is as before and the answer hands out, unlinks and re-schedules nothing
  have refused : ∀ {x : Op × Out}, issuedOf x = [] → leftOf x = [] → deadlineUpd (lastDeadline h) x = lastDeadline h → Inv c w (h ++ [x]) :=
    fun h1 h2 h3 => i.next (hiss := Or.inl ⟨h1, rfl⟩) (hperm := by rw [h1, h2])
      (hdl := fun e he => by rw [h3]; exact i.dl e he) (hcur := rfl) (hlvl := i.lvl) (hacc := i.acc) (hidle := i.idle)
  cases op with
  | start now =>
    simp only [step, start]
    split
    · exact i.next (hiss := Or.inl ⟨rfl, rfl⟩) (hperm := List.Perm.refl _) (hdl := dl_same self nofun nofun) (hcur := rfl) (hlvl := i.lvl)
        (hacc := fun _ => rfl) (hidle := nofun)
    · exact i.next (hiss := Or.inl ⟨rfl, rfl⟩) (hperm := List.Perm.refl _) (hdl := dl_same self nofun nofun) (hcur := rfl) (hlvl := i.lvl)
        (hacc := i.acc) (hidle := i.idle)
  | sched now d =>
    simp only [step, schedule]
    split
    · exact refused rfl rfl rfl
    · rename_i ha
      have hne : w.nextId ≠ 0 := Nat.ne_of_gt i.pos
      obtain ⟨l, b, he, hl⟩ := insertEntry_spec c { w with nextId := w.nextId + 1 } w.nextId (deadlineAfter now d) d
      rw [he]
      refine i.next (hiss := Or.inr ⟨by simp only [issuedOf, hne, if_false], rfl⟩) (hperm := ?_) (hdl := ?_) (hcur := rfl) (hlvl := ?_)
        (hacc := i.acc) (hidle := fun hs => by have := i.acc (by simpa using ha); rw [hs] at this; cases this)
      · simp only [ids, issuedOf, hne, if_false, List.map_append, List.map_cons, List.map_nil]
        exact List.perm_append_comm (l₁ := w.entries.map (·.id)) (l₂ := [w.nextId])
      · intro e hm
        simp only [deadlineUpd]
        rcases List.mem_append.mp hm with hm | hm
        · have hlt := i.ids_lt e.id (List.mem_map_of_mem hm)
          rw [if_neg (fun hh => Nat.ne_of_lt hlt hh.2)]
          exact i.dl e hm
        · cases List.mem_singleton.mp hm
          rw [if_pos ⟨hne, rfl⟩]
      · intro hlv e hm
        rcases List.mem_append.mp hm with hm | hm
        · exact i.lvl hlv e hm
        · cases List.mem_singleton.mp hm; exact hl hlv
  | cancel id =>
    simp only [step, cancel]
    split
    · exact refused rfl rfl rfl
    · rename_i x rest hu
      obtain ⟨hx, hp, hsub⟩ := unlink_some hu
      refine i.next (hiss := Or.inl ⟨rfl, rfl⟩) (hperm := ?_) (hdl := fun e hm => i.dl e (hsub.subset hm)) (hcur := rfl)
        (hlvl := fun hlv e hm => i.lvl hlv e (hsub.subset hm)) (hacc := i.acc) (hidle := fun hs => by rw [i.idle hs] at hu; cases hu)
      have := (hp.map (·.id)).symm
      rw [List.map_cons, hx] at this
      exact this
  | resched now id d =>
    simp only [step, reschedule]
    split
    · exact refused rfl rfl rfl
    · rename_i x rest hu
      obtain ⟨hx, hp, hsub⟩ := unlink_some hu
      obtain ⟨l, b, he, hl⟩ := insertEntry_spec c { w with entries := rest } id (deadlineAfter now d) d
      rw [he]
      have hp2 := hp.map (·.id)
      rw [List.map_cons, hx] at hp2
      have hnotin : id ∉ rest.map (·.id) :=
        (List.nodup_cons.mp (hp2.nodup_iff.mp (List.nodup_append.mp i.ids_nodup).1)).1
      refine i.next (hiss := Or.inl ⟨rfl, rfl⟩) (hperm := ?_) (hdl := ?_) (hcur := rfl) (hlvl := ?_) (hacc := i.acc)
        (hidle := fun hs => by rw [i.idle hs] at hu; cases hu)
      · simp only [ids, List.map_append, List.map_cons, List.map_nil]
        have h3 : (rest.map (·.id) ++ [id]).Perm (w.entries.map (·.id)) := List.perm_append_comm.trans hp2.symm
        exact h3
      · intro e hm
        simp only [deadlineUpd]
        rcases List.mem_append.mp hm with hm | hm
        · rw [if_neg (fun heq : e.id = id => hnotin (heq ▸ List.mem_map_of_mem hm))]
          exact i.dl e (hsub.subset hm)
        · cases List.mem_singleton.mp hm; rw [if_pos rfl]
      · intro hlv e hm
        rcases List.mem_append.mp hm with hm | hm
        · exact i.lvl hlv e (hsub.subset hm)
        · cases List.mem_singleton.mp hm; exact hl hlv
  | adv now =>
    simp only [step]
    have t := advance_tr c w now
    have hk := t.keys
    refine i.next (hiss := Or.inl ⟨rfl, t.ctl.nextId⟩) (hperm := ?_)
      (hdl := dl_same (fun e hm => mem_of_keys hk (List.mem_append_left _ hm)) nofun nofun)
      (hcur := t.ctl.curLen) (hlvl := fun hl => t.lvl hl (i.lvl hl)) (hacc := by rw [t.ctl.accepting, t.ctl.state]; exact i.acc) (hidle := ?_)
    · have := hk.map Prod.fst
      simp only [List.map_map, Function.comp_def, key, List.map_append] at this
      exact List.perm_append_comm.trans this
    · intro hs
      have := hk.length_eq
      rw [i.idle (t.ctl.state ▸ hs), List.map_nil, List.length_nil, List.length_map, List.length_append] at this
      exact List.eq_nil_of_length_eq_zero (Nat.eq_zero_of_add_eq_zero_right this)
  | drain now b =>
    simp only [step]
    refine i.next (hiss := Or.inl ⟨rfl, rfl⟩) (hperm := ?_) (hdl := fun e hm => nomatch hm) (hcur := rfl) (hlvl := fun _ e hm => nomatch hm)
      (hacc := nofun) (hidle := fun _ => rfl)
    rw [show ids (drain w now b).1 = [] from rfl, List.append_nil]
    exact (drain_perm w now b).map (·.id)
  | stop =>
    simp only [step, stop]
    exact i.next (hiss := Or.inl ⟨rfl, rfl⟩) (hperm := List.perm_append_comm) (hdl := fun e hm => nomatch hm) (hcur := rfl)
      (hlvl := fun _ e hm => nomatch hm) (hacc := nofun) (hidle := fun _ => rfl)

theorem runFrom_ind (c : Cfg) (P : Wheel → Hist → Prop) (hstep : ∀ w h op, P w h → P (step c w op).1 (h ++ [(op, (step c w op).2)])) :
    ∀ (ops : List Op) (w : Wheel) (h : Hist), P w h → P (runFrom c w h ops).1 (runFrom c w h ops).2
  | [], _, _, p => p
  | op :: ops, w, h, p => runFrom_ind c P hstep ops _ _ (hstep w h op p)

theorem inv_run (c : Cfg) (ops : List Op) : Inv c (run c ops).1 (run c ops).2 := runFrom_ind c (Inv c) (inv_step c) ops _ _ (Inv.init c)

theorem run_cons_trace (c : Cfg) (ops : List Op) (op : Op) (rest : List Op) :
    (run c (ops ++ op :: rest)).2 =
      (run c ops).2 ++ [(op, (step c (run c ops).1 op).2)] ++ trace c (step c (run c ops).1 op).1 rest := by
  rw [run_append, runFrom, runFrom_trace]

theorem left_for_good (c : Cfg) (ops : List Op) (op : Op) (rest : List Op) {id : Nat} (hl : id ∈ leftOf (op, (step c (run c ops).1 op).2)) :
    id ∉ ids (run c (ops ++ op :: rest)).1 ∧ id ∉ left (trace c (step c (run c ops).1 op).1 rest) := by
  have i := inv_run c (ops ++ op :: rest)
  rw [run_cons_trace] at i
  exact i.left_final (by rw [left_snoc]; exact List.mem_append_right _ hl)

theorem firedOf_sublist (x : Op × Out) : (firedOf x).Sublist (leftOf x) := by
  obtain ⟨op, out⟩ := x
  cases out with
  | fired es => cases op <;> exact List.Sublist.refl _
  | drained d =>
    cases op <;> (simp only [firedOf, leftOf, List.map_append, List.append_assoc]; exact List.sublist_append_left _ _)
  | _ => cases op <;> exact List.nil_sublist _

theorem fired_sublist : ∀ h : Hist, (fired h).Sublist (left h)
  | [] => List.Sublist.refl _
  | x :: h => (firedOf_sublist x).append (fired_sublist h)

theorem Inv.fired_nodup {c : Cfg} {w : Wheel} {h : Hist} (i : Inv c w h) :
    (fired h).Nodup ∧ ∀ a ∈ fired h, a ∈ issued h ∧ a ∉ ids w := by
  have hnd := List.nodup_append.mp i.ids_nodup
  refine ⟨(fired_sublist h).nodup hnd.2.1, fun a ha => ?_⟩
  have hal := (fired_sublist h).subset ha
  exact ⟨i.perm.subset (List.mem_append_right _ hal), fun hp => hnd.2.2 a hp a hal rfl⟩

theorem Inv.not_early {c : Cfg} {w : Wheel} {h : Hist} (i : Inv c w h) (hc : 0 ≤ c.tick) (now : Int) :
    ∀ e ∈ (advance c w now).2, lastDeadline h e.id = some e.deadline ∧ e.deadline - now ≤ c.tick * nsPerMs := by
  intro e he
  obtain ⟨e0, h0, hid, hdl⟩ := mem_of_keys (advance_tr c w now).keys (List.mem_append_right _ he)
  exact ⟨hid ▸ hdl ▸ i.dl e0 h0, ((advance_tr c w now).fired_due e he).not_early hc⟩

theorem Inv.cancel_false {c : Cfg} {w : Wheel} {h : Hist} (i : Inv c w h) {id : Nat} (hc : (cancel w id).2 = false) :
    id ∉ issued h ∨ id ∈ left h := by
  have hn : id ∉ ids w := fun hp => by rw [(cancel_true_iff w id).mpr hp] at hc; cases hc
  by_cases hi : id ∈ issued h
  · exact Or.inr ((List.mem_append.mp (i.perm.symm.subset hi)).resolve_left hn)
  · exact Or.inl hi

theorem Inv.not_accepting_of_stopped {c : Cfg} {w : Wheel} {h : Hist} (i : Inv c w h) (hs : w.state = .stopped) : w.accepting = false := by
  cases ha : w.accepting
  · rfl
  · have := i.acc ha; rw [hs] at this; cases this

theorem stopped_step (c : Cfg) (w : Wheel) (op : Op) (h : w.state = .stopped) : (step c w op).1.state = .stopped := by
  cases op with
  | start now => simp [step, start, h]
  | sched now d =>
    simp only [step, schedule]
    split
    · exact h
    · rw [(insertEntry_ctl c _ _ _ _).state]; exact h
  | cancel id =>
    simp only [step, cancel]
    split <;> exact h
  | resched now id d =>
    simp only [step, reschedule]
    split
    · exact h
    · rw [(insertEntry_ctl c _ _ _ _).state]; exact h
  | adv now => simp only [step]; rw [(advance_tr c w now).ctl.state]; exact h
  | drain now b => rfl
  | stop => rfl

theorem stopped_runFrom (c : Cfg) : ∀ (ops : List Op) (w : Wheel) (h : Hist), w.state = .stopped → (runFrom c w h ops).1.state = .stopped :=
  runFrom_ind c (fun w _ => w.state = .stopped) (fun w _ op hs => stopped_step c w op hs)

/-- the fuel-0 exit is the `level >= _numWheels` exit -/
theorem cascadeDown_fuel (c : Cfg) (now : Int) : ∀ (fuel lvl : Nat) (s : Wheel × List Entry), c.levels ≤ fuel + lvl →
    cascadeDown c now (fuel + 1) lvl s = cascadeDown c now fuel lvl s
  | 0, lvl, s, h => by
    have : c.levels ≤ lvl := by omega
    simp [cascadeDown, this]
  | fuel + 1, lvl, s, h => by
    conv => lhs; rw [cascadeDown]
    conv => rhs; rw [cascadeDown]
    split
    · rfl
    · simp only
      split
      · exact cascadeDown_fuel c now fuel (lvl + 1) _ (by omega)
      · rfl

theorem cascadeDown_levels (c : Cfg) (now : Int) (lvl : Nat) (s : Wheel × List Entry) :
    ∀ k, cascadeDown c now (c.levels + k) lvl s = cascadeDown c now c.levels lvl s
  | 0 => rfl
  | k + 1 => (cascadeDown_fuel c now (c.levels + k) lvl s (by omega)).trans (cascadeDown_levels c now lvl s k)

theorem climb_fuel (c : Cfg) : ∀ (f lvl t : Nat), c.levels ≤ f + lvl + 1 → climb c (f + 1) lvl t = climb c f lvl t
  | 0, lvl, t, h => by
    have : ¬ (lvl + 1 < c.levels ∧ c.slots ≤ t) := by omega
    simp [climb, this]
  | f + 1, lvl, t, h => by
    conv => lhs; rw [climb]
    conv => rhs; rw [climb]
    split
    · exact climb_fuel c f (lvl + 1) _ (by omega)
    · rfl

namespace Race

/-- invariant of the two-thread program when the flag is re-tested under the lock: each thread owns `_wheelMutex` exactly at its
pcs inside the locked section; `stop()` has cleared the flag once it is past `flag`; the scheduler reaches `insert` only if it saw
the flag set under the lock, i.e. before `stop()` got the lock — so the clear comes after the insert -/
structure Good (x : St) : Prop where
  ownS : x.owner = some false ↔ (x.s = .retest ∨ x.s = .insert)
  ownT : x.owner = some true ↔ x.t = .clear
  flag : x.t = .flag ∨ x.accepting = false
  ins : x.s = .insert → x.t = .flag ∨ x.t = .lock
  st : x.stored = true → x.t ≠ .done

theorem good_init : Good {} := ⟨by decide, by decide, Or.inl rfl, by decide, by decide⟩

theorem good_stepS (x : St) (g : Good x) : Good (stepS true x) := by
  obtain ⟨s, t, a, o, st⟩ := x
  obtain ⟨g1, g2, g3, g4, g5⟩ := g
  simp only at g1 g2 g3 g4 g5
  cases s <;> simp only [stepS]
  case test =>
    have : ¬ o = some false := by simpa using g1
    cases a <;> exact ⟨by simpa using this, g2, g3, by simp, g5⟩
  case lock =>
    split
    · rename_i ho
      subst ho
      exact ⟨by simp, by simpa using g2, g3, by simp, g5⟩
    · exact ⟨g1, g2, g3, g4, g5⟩
  case retest =>
    have ho : o = some false := g1.mpr (Or.inl rfl)
    subst ho
    have ht : t ≠ .clear := by simpa using g2
    cases a
    · exact ⟨by simp, by simpa using ht, g3, by simp, g5⟩
    · -- the flag is still set under the lock: `stop()` has not started
      have hf : t = .flag := by simpa using g3
      exact ⟨by simp, g2, g3, fun _ => Or.inl hf, g5⟩
  case insert =>
    have ht := g4 rfl
    have : t ≠ .clear := by rcases ht with h | h <;> simp [h]
    exact ⟨by simp, by simpa using this, g3, by simp, fun _ => by rcases ht with h | h <;> simp [h]⟩
  case refused => exact ⟨g1, g2, g3, g4, g5⟩
  case accepted => exact ⟨g1, g2, g3, g4, g5⟩

theorem good_stepT (x : St) (g : Good x) : Good (stepT x) := by
  obtain ⟨s, t, a, o, st⟩ := x
  obtain ⟨g1, g2, g3, g4, g5⟩ := g
  simp only at g1 g2 g3 g4 g5
  cases t <;> simp only [stepT]
  case flag => exact ⟨g1, by simpa using g2, Or.inr rfl, fun _ => Or.inr rfl, by simp⟩
  case lock =>
    split
    · rename_i ho
      subst ho
      have hs : ¬ (s = .retest ∨ s = .insert) := by simpa using g1
      exact ⟨by simpa using hs, by simp, Or.inr (by simpa using g3), fun h => absurd (Or.inr h) hs, by simp⟩
    · exact ⟨g1, g2, g3, g4, g5⟩
  case clear =>
    have ho : o = some true := g2.mpr rfl
    subst ho
    have hs : ¬ (s = .retest ∨ s = .insert) := by simpa using g1
    exact ⟨by simpa using hs, by simp, Or.inr (by simpa using g3), fun h => absurd (Or.inr h) hs, by simp⟩
  case done => exact ⟨g1, g2, g3, g4, g5⟩

theorem good_run : ∀ (sched : List Bool) (x : St), Good x → Good (runSched true x sched)
  | [], _, h => h
  | false :: bs, x, h => good_run bs _ (good_stepS x h)
  | true :: bs, x, h => good_run bs _ (good_stepT x h)

theorem good_safe (x : St) (g : Good x) (h : x.t = .done) : x.stored = false := by
  cases hs : x.stored
  · rfl
  · exact absurd h (g.st hs)

end Race

def legacyCfg : Cfg := ⟨20, 8, 2⟩
def legacyE1 : Entry := ⟨1, 1500000000, 1, 0⟩
def legacyE2 : Entry := ⟨2, 1500000000, 1, 0⟩
/-- 20 ms x 8 x 2 wheel after 8 ticks, two timers due 1.5 s after start (beyond the 1.28 s span) in the level-1 bucket being walked -/
def legacyA : Wheel := { entries := [legacyE1, legacyE2], cur := [8, 0], accepting := true, state := .running }
def legacyB : Wheel := { entries := [legacyE2, legacyE1], cur := [8, 0], accepting := true, state := .running }

/-- the walk of level 1, slot 0 at `now` = 8 ticks × 20 ms = 160 ms, the first wrap of level 0 (`cur = [8, 0]`): re-inserting the entry
under the cursor puts it behind the other one in the same bucket, so one iteration turns the `A` configuration into the `B` one and back -/
theorem legacy_livelock : ∀ f : Nat, legacyWalk legacyCfg 160000000 1 0 f legacyA (some 1) [] = none ∧
                                     legacyWalk legacyCfg 160000000 1 0 f legacyB (some 2) [] = none
  | 0 => ⟨rfl, rfl⟩
  | f + 1 =>
    have hA : legacyWalk legacyCfg 160000000 1 0 (f + 1) legacyA (some 1) [] = legacyWalk legacyCfg 160000000 1 0 f legacyB (some 2) [] := rfl
    have hB : legacyWalk legacyCfg 160000000 1 0 (f + 1) legacyB (some 2) [] = legacyWalk legacyCfg 160000000 1 0 f legacyA (some 1) [] := rfl
    ⟨hA.trans (legacy_livelock f).2, hB.trans (legacy_livelock f).1⟩

end Iora.Wheel
