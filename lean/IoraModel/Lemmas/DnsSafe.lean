import IoraModel.Lemmas.DnsName
/-! N3 for C19: no read of the model is ever out of range (`Err.oob`) and no fuel is ever exhausted, for arbitrary bytes.
Each parser is walked once along its `do` block with the combinators of `Post`.  Where something else rests on what an accepted
answer tells (a question takes five bytes, a record eleven, the id of a message is its first two bytes), the same walk carries it.
Since the typed parser of a record therefore cannot fail (`parseTypedRecord_eq`), what it yields is a function of the record: `typedSpec`,
in which `N2_response` states the typed records of a message. -/
namespace Iora.Dns
open Iora

theorem parseQuestion_post (m : Bytes) (off : Nat) : Post (fun r => off + 5 ≤ r.2 ∧ r.2 ≤ m.length) (parseQuestion m off) :=
  .bind (decodeName_post m off) fun _ ⟨_, hw, _⟩ =>
  have := lt_next_of_wellFormed hw
  .checkBounds fun _ => .rd16 (by omega) fun _ =>
  .checkBounds fun _ => .rd16 (by omega) fun _ => .ok (by dsimp only; omega)

theorem parseHeader_post (m : Bytes) (off : Nat) :
    Post (fun r => off + 12 ≤ m.length ∧ r.2 = off + 12 ∧ rd16 m off = .ok r.1.id) (parseHeader m off) :=
  .checkBounds fun (h : off + 12 ≤ m.length) =>
  .rd16_eq (by omega) fun _ hid => .rd16 (by omega) fun _ => .rd16 (by omega) fun _ =>
  .rd16 (by omega) fun _ => .rd16 (by omega) fun _ => .rd16 (by omega) fun _ => .ok ⟨h, rfl, hid⟩

theorem parseHeader_ok_inv {m : Bytes} {off o : Nat} {h : Header} (hh : parseHeader m off = .ok (h, o)) :
    off + 12 ≤ m.length ∧ o = off + 12 ∧ rd16 m off = .ok h.id :=
  (parseHeader_post m off).of_ok hh

theorem validateRdata_safe (rr : RR) : Safe (validateRdata rr) := by
  refine .ite (fun _ => .ite (fun _ => .ite (fun (h : rr.rdata.length ≥ 2) => ?_) fun _ => .ok trivial) fun h => ?_) fun _ => .ok trivial
  · exact .bind (.rd (by omega) fun _ => .ok trivial : Safe (firstIsPtr _)) fun _ _ => .ite (fun _ => .err _) fun _ => .ok trivial
  · have h : rr.rdata.length = 4 := Decidable.of_not_not h
    exact .rd (by omega) fun _ => .ite
      (fun _ => .rd (by omega) fun _ => .rd (by omega) fun _ => .rd (by omega) fun _ => .ite (fun _ => .err _) fun _ => .ok trivial)
      fun _ => .ok trivial

theorem parseRR_post (m : Bytes) (off : Nat) : Post (fun r => off + 11 ≤ r.2.2 ∧ r.2.2 ≤ m.length) (parseRR m off) :=
  .bind (decodeName_post m off) fun _ ⟨_, hw, _⟩ =>
  have := lt_next_of_wellFormed hw
  .checkBounds fun _ => .rd16 (by omega) fun _ =>
  .checkBounds fun _ => .rd16 (by omega) fun _ =>
  .checkBounds fun _ => .rd32 (by omega) fun _ =>
  .checkBounds fun _ => .rd16 (by omega) fun _ =>
  .checkBounds fun _ => .copy (by omega) fun _ =>
  .bind (validateRdata_safe _) fun _ _ => .ok (by dsimp only; omega)

theorem scanRdata_safe (r : Bytes) (c : Nat) : Safe (scanRdata r c) := by
  fun_induction scanRdata r c with
  | case1 _ hlt e he => rw [rd_ok hlt] at he; cases he
  | case2 => exact .ok trivial
  | case3 => exact .err _
  | case4 => exact .err _
  | case5 _ _ _ _ _ _ _ ih => exact ih
  | case6 => exact .ok trivial

theorem rdataName_safe (m : Bytes) (rdStart rdOff : Nat) (r : Bytes) : Safe (rdataName m rdStart rdOff r) := by
  refine .ite (fun _ => .ok trivial) fun hne => .bind (.ite (fun h1 => ?_) fun _ => .ok trivial : Safe _) fun direct _ => ?_
  · exact .rd (by omega) fun _ => .ite (fun _ => .ite (fun _ => .err _) fun _ => .rd16 h1 fun _ => .ok trivial) fun _ => .ok trivial
  · cases direct with
    | some p => exact .ite (fun _ => .bind (decodeName_post _ _) fun _ _ => .ok trivial) fun _ => .err _
    | none =>
      refine .ite (fun _ => .err _) fun _ => .bind (decodeName_post _ _) fun _ _ => .ite (fun _ => .ok trivial) fun _ =>
        .bind (scanRdata_safe _ _) fun c _ => .ite (fun hc => .rd hc fun _ => ?_) fun _ => .ok trivial
      exact .ite (fun _ => .ok trivial) fun _ => .ite (fun _ => .ok trivial) fun _ => .ok trivial

theorem parseA_safe (rr : RR) : Safe (parseA rr) :=
  .ite (fun _ => .err _) fun h =>
    have h : rr.rdata.length = 4 := Decidable.of_not_not h
    .rd (by omega) fun _ => .rd (by omega) fun _ => .rd (by omega) fun _ => .rd (by omega) fun _ => .ok trivial

theorem parseAAAA_safe (rr : RR) : Safe (parseAAAA rr) :=
  .ite (fun _ => .err _) fun h =>
    have h : rr.rdata.length = 16 := Decidable.of_not_not h
    .copy (by omega) fun _ => .ok trivial

/-- the name at `rdOff` if there is room for one, else the empty name: the last field of SRV, NAPTR and MX -/
theorem rdataNameFst_safe (m : Bytes) (rdStart rdOff : Nat) (r : Bytes) (c : Prop) [Decidable c] :
    Safe (if c then (do let (n, _) ← rdataName m rdStart rdOff r; pure n) else pure [] : R Bytes) :=
  .ite (fun _ => .bind (rdataName_safe _ _ _ _) fun _ _ => .ok trivial) fun _ => .ok trivial

theorem parseSrv_safe (rr : RR) (m : Bytes) (rdStart : Nat) : Safe (parseSrv rr m rdStart) :=
  .ite (fun _ => .err _) fun (h : ¬ rr.rdata.length < 6) =>
    .rd16 (by omega) fun _ => .rd16 (by omega) fun _ => .rd16 (by omega) fun _ =>
    .bind (rdataNameFst_safe _ _ _ _ _) fun _ _ => .ok trivial

theorem naptrString_safe (r : Bytes) (off : Nat) : Safe (naptrString r off) :=
  .ite (fun _ => .ok trivial) fun _ => .rd (by omega) fun _ => .ite (fun _ => .ok trivial) fun _ => .copy (by omega) fun _ => .ok trivial

theorem parseNaptr_safe (rr : RR) (m : Bytes) (rdStart : Nat) : Safe (parseNaptr rr m rdStart) :=
  .ite (fun _ => .err _) fun (h : ¬ rr.rdata.length < 4) =>
    .rd16 (by omega) fun _ => .rd16 (by omega) fun _ =>
    .bind (naptrString_safe _ _) fun _ _ => .bind (naptrString_safe _ _) fun _ _ => .bind (naptrString_safe _ _) fun _ _ =>
    .bind (rdataNameFst_safe _ _ _ _ _) fun _ _ => .ok trivial

theorem parseMx_safe (rr : RR) (m : Bytes) (rdStart : Nat) : Safe (parseMx rr m rdStart) :=
  .ite (fun _ => .err _) fun (h : ¬ rr.rdata.length < 2) =>
    .rd16 (by omega) fun _ => .bind (rdataNameFst_safe _ _ _ _ _) fun _ _ => .ok trivial

theorem txtGo_safe (r : Bytes) (off : Nat) (acc : List Bytes) : Safe (txtGo r off acc) := by
  fun_induction txtGo r off acc with
  | case1 _ _ hlt e he => rw [rd_ok hlt] at he; cases he
  | case2 => exact .ok trivial
  | case3 _ _ hlt l hl hfit e he => rw [copy_ok (by omega)] at he; cases he
  | case4 _ _ _ _ _ _ _ _ ih => exact ih
  | case5 => exact .ok trivial

theorem parseCname_safe (rr : RR) (m : Bytes) (rdStart : Nat) : Safe (parseCname rr m rdStart) :=
  .ite (fun _ => .bind (rdataName_safe _ _ _ _) fun _ _ => .ok trivial) fun _ => .ok trivial

theorem parsePtr_safe (rr : RR) (m : Bytes) (rdStart : Nat) : Safe (parsePtr rr m rdStart) :=
  .ite (fun _ => .bind (rdataName_safe _ _ _ _) fun _ _ => .ok trivial) fun _ => .ok trivial

theorem parseTxt_safe (rr : RR) : Safe (parseTxt rr) :=
  .bind (txtGo_safe _ _ _) fun _ _ => .ok trivial

theorem parseSoa_safe (rr : RR) (m : Bytes) (rdStart : Nat) : Safe (parseSoa rr m rdStart) :=
  .ite (fun _ => .err _) fun _ =>
    .bind (rdataName_safe _ _ _ _) fun _ _ =>
    .bind (.ite (fun _ => rdataName_safe _ _ _ _) fun _ => .ok trivial) fun _ _ =>
    .ite (fun _ => .err _) fun (h : ¬ _ + 20 > rr.rdata.length) =>
      .rd32 (by omega) fun _ => .rd32 (by omega) fun _ => .rd32 (by omega) fun _ => .rd32 (by omega) fun _ =>
      .rd32 (by omega) fun _ => .ok trivial

theorem typedOf_safe (rr : RR) (m : Bytes) (rdStart : Nat) : Safe (typedOf rr m rdStart) :=
  .ite (fun _ => .ok trivial) fun _ =>
  .ite (fun _ => .map _ (parseA_safe _)) fun _ =>
  .ite (fun _ => .map _ (parseAAAA_safe _)) fun _ =>
  .ite (fun _ => .map _ (parseSrv_safe _ _ _)) fun _ =>
  .ite (fun _ => .map _ (parseNaptr_safe _ _ _)) fun _ =>
  .ite (fun _ => .map _ (parseCname_safe _ _ _)) fun _ =>
  .ite (fun _ => .map _ (parseMx_safe _ _ _)) fun _ =>
  .ite (fun _ => .map _ (parseTxt_safe _)) fun _ =>
  .ite (fun _ => .map _ (parsePtr_safe _ _ _)) fun _ =>
  .ite (fun _ => .map _ (parseSoa_safe _ _ _)) fun _ => .ok trivial

/-- what `parseTypedRecord` yields for a record (it cannot fail: N3).  The argument is a record paired with the offset of its RDATA in
the message, as `RecordsAt` lists the records of a section. -/
def typedSpec (m : Bytes) (p : RR × Nat) : Option Typed :=
  match parseTypedRecord p.1 m p.2 with
  | .ok t => t
  | .error _ => none

theorem parseTypedRecord_eq (rr : RR) (m : Bytes) (rdStart : Nat) : parseTypedRecord rr m rdStart = .ok (typedSpec m (rr, rdStart)) := by
  unfold typedSpec
  cases h : parseTypedRecord rr m rdStart with
  | ok t => rfl
  | error e =>
    have hs := typedOf_safe rr m rdStart
    unfold parseTypedRecord at h
    split at h
    · cases h
    · exact absurd ‹_› hs.no_oob
    · exact absurd ‹_› hs.no_fuel
    · cases h

theorem parseQuestions_safe (m : Bytes) : ∀ (n off : Nat) (acc : List Question), Safe (parseQuestions m n off acc)
  | 0, _, _ => .ok trivial
  | n + 1, off, acc => by
    have h := parseQuestion_post m off
    -- the model writes this loop (and `parseSection`) with `match`, not `>>=`, so `Post.bind` does not apply
    simp only [parseQuestions]
    split
    · rename_i he; rw [he] at h; exact h.err_cast
    · exact parseQuestions_safe m n _ _

theorem parseSection_safe (m : Bytes) : ∀ (n off : Nat) (rs : List RR) (ts : List Typed), Safe (parseSection m n off rs ts)
  | 0, _, _, _ => .ok trivial
  | n + 1, off, rs, ts => by
    have h := parseRR_post m off
    simp only [parseSection]
    split
    · rename_i he; rw [he] at h; exact h.err_cast
    · rw [parseTypedRecord_eq]
      exact parseSection_safe m n _ _ _

theorem parse_post (m : Bytes) : Post (fun r => rd16 m 0 = .ok r.header.id) (parse m) :=
  .ite (fun _ => .err _) fun _ =>
    .bind (parseHeader_post _ _) fun _ hh => .bind (parseQuestions_safe _ _ _ _) fun _ _ =>
    .bind (parseSection_safe _ _ _ _ _) fun _ _ => .bind (parseSection_safe _ _ _ _ _) fun _ _ =>
    .bind (parseSection_safe _ _ _ _ _) fun _ _ => .ok hh.2.2

end Iora.Dns
