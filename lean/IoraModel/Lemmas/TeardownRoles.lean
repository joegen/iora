import IoraModel.Model.TeardownRoles
/-!
The role model (C05). What a step logs, and on whose thread, is read off `step` once (`StepEff`), together with the lifecycle invariant and
the freshness of session ids; that nothing is logged once `stop()` has returned is a second reading of `step`, in the states where the
queue is closed and the I/O thread gone (`quiet_step_silent`); a timer handler that reports a refused enqueue through a user callback
refutes it (`witness_late_callback`, seed C05-d).
-/
namespace Iora.TeardownRoles

/-- the lifecycle fields the invariant speaks about -/
structure Life where
  running : Bool
  ioAlive : Bool
  closed : Bool
  joining : Bool
  quiet : Bool
  deriving DecidableEq

def life (s : State) : Life := ⟨s.running, s.ioAlive, s.closed, s.joining, s.quiet⟩

/-- a conjunction and not a structure: `Inv s'` then reduces to `Inv s` for an `s'` that differs from `s` in the fields it does not read
(the queue, the sessions, the log), and `id` carries it over -/
def Inv (s : State) : Prop :=
  -- `stop()` has returned: the I/O thread is gone, its drain has closed the queue, nobody is joining
  (s.quiet = true → s.ioAlive = false ∧ s.closed = true ∧ s.running = false ∧ s.joining = false) ∧
  -- the joiner is the one that won the CAS on `_running`
  (s.joining = true → s.running = false) ∧
  -- `shutdownDrain` closes the queue before the I/O thread terminates
  (s.joining = true → s.ioAlive = false → s.closed = true) ∧
  -- only `start()` sets `_running`, together with the thread
  (s.running = true → s.ioAlive = true)

theorem inv_init : Inv {} := by simp [Inv]

theorem Inv.afterStop {s : State} (h : Inv s) (hq : s.quiet = true) :
    s.ioAlive = false ∧ s.closed = true ∧ s.running = false ∧ s.joining = false := h.1 hq
theorem Inv.joiner {s : State} (h : Inv s) (hj : s.joining = true) : s.running = false := h.2.1 hj
theorem Inv.drained {s : State} (h : Inv s) (hj : s.joining = true) (hio : s.ioAlive = false) : s.closed = true := h.2.2.1 hj hio

theorem cb_life (s : State) (r : Role) (c : Cb) : life (cb s r c) = life s := rfl

/-- the three outcomes of `enqueue`: refused by the closed queue; the push throws (reported on the caller's thread or not);
the command is queued -/
theorem enqueue_cases (cfg : Cfg) (s : State) (r : Role) (c : Cmd) (oom : Bool) :
    enqueue cfg s r c oom = (s, false) ∨
    (s.closed = false ∧ (enqueue cfg s r c oom = (cb s r .error, false) ∨ enqueue cfg s r c oom = ({ s with q := s.q ++ [c] }, true))) := by
  unfold enqueue
  split
  · exact .inl rfl
  · rename_i hc
    split
    · split
      · exact .inr ⟨eq_false_of_ne_true hc, .inl rfl⟩
      · exact .inl rfl
    · exact .inr ⟨eq_false_of_ne_true hc, .inr rfl⟩

theorem enqueue_life (cfg : Cfg) (s : State) (r : Role) (c : Cmd) (oom : Bool) : life (enqueue cfg s r c oom).1 = life s := by
  rcases enqueue_cases cfg s r c oom with e | ⟨_, e | e⟩ <;> rw [e] <;> rfl

theorem enqueue_closed (cfg : Cfg) (s : State) (r : Role) (c : Cmd) (oom : Bool) (h : s.closed = true) :
    enqueue cfg s r c oom = (s, false) := by
  rcases enqueue_cases cfg s r c oom with e | ⟨hc, _⟩
  · exact e
  · rw [h] at hc; cases hc

theorem closeNow_life (s : State) (sid : Nat) : life (closeNow s sid) = life s := rfl

theorem setSess_sids (s : State) (x' : Sess) : (setSess s x').map (·.sid) = s.sessions.map (·.sid) := by
  unfold setSess
  induction s.sessions with
  | nil => rfl
  | cons y r ih =>
    simp only [List.map_cons, ih]
    by_cases h : y.sid == x'.sid
    · simp [h]; exact (beq_iff_eq.mp h).symm
    · simp [h]

def connectSids : List Cmd → List Nat
  | [] => []
  | .connect sid _ :: r => sid :: connectSids r
  | _ :: r => connectSids r

/-- ids handed out and still alive: open sessions and queued Connect commands -/
def ids (s : State) : List Nat := s.sessions.map (·.sid) ++ connectSids s.q

def Fresh (s : State) : Prop := (ids s).Nodup ∧ ∀ i ∈ ids s, i < s.nextSid

theorem connectSids_append (a b : List Cmd) : connectSids (a ++ b) = connectSids a ++ connectSids b := by
  induction a with
  | nil => rfl
  | cons c r ih => cases c <;> simp [connectSids, ih]

theorem fresh_sub (s s' : State) (h : Fresh s) (hsub : (ids s').Sublist (ids s)) (hn : s.nextSid ≤ s'.nextSid) : Fresh s' :=
  ⟨h.1.sublist hsub, fun i hi => Nat.lt_of_lt_of_le (h.2 i (hsub.subset hi)) hn⟩

/-- what a handler of the I/O thread may do to the lifecycle flags: clear `_running` -/
def IoLife (s s' : State) : Prop :=
  s'.ioAlive = s.ioAlive ∧ s'.closed = s.closed ∧ s'.joining = s.joining ∧ s'.quiet = s.quiet ∧ (s'.running = true → s.running = true)

/-- everything a handler of the I/O thread may do: sessions go or change in place (no id alive is new), timers change, callbacks of
role `io` are logged, `_running` may be cleared; the other lifecycle flags and `_nextSessionId` stay -/
structure IoEff (s s' : State) : Prop where
  life : IoLife s s'
  ids : (ids s').Sublist (ids s) ∧ s'.nextSid = s.nextSid
  log : ∃ l, s'.log = s.log ++ l ∧ ∀ e ∈ l, e.1 = Role.io

theorem io_silent {s s' : State} (e : s'.log = s.log := by rfl) : ∃ l, s'.log = s.log ++ l ∧ ∀ e ∈ l, e.1 = Role.io :=
  ⟨[], e.trans (List.append_nil _).symm, nofun⟩

theorem IoEff.of_sessions (s : State) (ss : List Sess) (ts : List (Nat × TimerKind))
    (h : (ss.map (·.sid)).Sublist (s.sessions.map (·.sid))) : IoEff s { s with sessions := ss, timers := ts } :=
  ⟨⟨rfl, rfl, rfl, rfl, id⟩, ⟨h.append (.refl _), rfl⟩, io_silent⟩

theorem IoEff.refl (s : State) : IoEff s s := .of_sessions s _ _ (.refl _)

theorem IoEff.set (s : State) (x : Sess) (ts : List (Nat × TimerKind)) : IoEff s { s with sessions := setSess s x, timers := ts } :=
  .of_sessions s _ _ (by rw [setSess_sids]; exact .refl _)

theorem IoEff.cb {s s' : State} (h : IoEff s s') (c : Cb) : IoEff s (cb s' .io c) := by
  obtain ⟨l, hl, hr⟩ := h.log
  refine ⟨h.life, h.ids, ⟨l ++ [(.io, c)], by show s'.log ++ _ = _; rw [hl, List.append_assoc], fun e he => ?_⟩⟩
  rcases List.mem_append.mp he with he | he
  · exact hr e he
  · rw [List.mem_singleton.mp he]

theorem closeNow_eff (s : State) (sid : Nat) : IoEff s (closeNow s sid) :=
  (IoEff.of_sessions s _ _ ((List.filter_sublist).map _)).cb _

/-- `notConnect` says that `c` is not a Connect in the form the freshness half of `enqueue_eff` rewrites with -/
theorem dispatch_eff (s : State) (c : Cmd) (arm : Bool) (notConnect : connectSids [c] = []) : IoEff s (dispatch s c arm) := by
  cases c with
  | connect sid tls => cases notConnect
  | send sid =>
    simp only [dispatch]
    split
    · split
      · exact .set s _ _
      · exact .refl s
    · exact .refl s
  | close sid origin =>
    simp only [dispatch]
    split
    · split
      · exact .refl s
      · exact closeNow_eff s sid
    · exact .refl s
  | shutdown => exact ⟨⟨rfl, rfl, rfl, rfl, nofun⟩, ⟨.refl _, rfl⟩, io_silent⟩

theorem doIoEvent_eff (s : State) (sid : Nat) (ev : IoEv) (arm : Bool) : IoEff s (doIoEvent s sid ev arm) := by
  unfold doIoEvent
  split
  · exact .refl s
  · cases ev <;> simp only <;> (repeat' split) <;>
      first
      | exact .refl s
      | exact .set s _ _
      | exact (IoEff.set s _ _).cb _
      | exact (IoEff.refl s).cb _
      | exact closeNow_eff s sid

/-- `process()` takes the first queued command off and dispatches it: a Connect moves its id from the queue to the sessions -/
theorem process_eff {s : State} {c : Cmd} {rest : List Cmd} (hq : s.q = c :: rest) (arm : Bool) :
    IoEff s (dispatch { s with q := rest } c arm) := by
  cases c with
  | connect sid tls =>
    exact ⟨⟨rfl, rfl, rfl, rfl, id⟩, ⟨by simp [dispatch, ids, hq, connectSids], rfl⟩, io_silent⟩
  | _ =>
    -- any other command goes from the queue, then `dispatch_eff`
    exact let e := dispatch_eff { s with q := rest } _ arm rfl
      ⟨e.life, ⟨e.ids.1.trans (by simp [ids, hq, connectSids]), e.ids.2⟩, e.log⟩

theorem IoLife.inv {s s' : State} (d : IoLife s s') (hio : s.ioAlive = true) (h : Inv s) : Inv s' := by
  obtain ⟨h1, h2, h3, h4⟩ := h
  obtain ⟨d1, d2, d3, d4, d5⟩ := d
  refine ⟨?_, ?_, ?_, ?_⟩
  · intro hqq; rw [d4] at hqq; have := (h1 hqq).1; simp [hio] at this
  · intro hjj; rw [d3] at hjj
    cases hrr : s'.running with
    | false => rfl
    | true => have := d5 hrr; have := h2 hjj; simp_all
  · intro hjj hii; rw [d1] at hii; simp [hio] at hii
  · intro hrr; rw [d1]; exact hio

theorem residualCloses_io (q : List Cmd) : ∀ e ∈ residualCloses q, e.1 = Role.io := by
  induction q with
  | nil => simp [residualCloses]
  | cons c rest ih =>
    cases c <;> simp only [residualCloses] <;> (try exact ih)
    intro e he
    simp only [List.mem_cons] at he
    rcases he with rfl | he
    · rfl
    · exact ih e he

def roleOf : Step → Role
  | .apiStart _ | .apiConnect _ _ | .apiSend _ _ | .apiClose _ _ | .apiStop _ | .apiStopJoin => .api
  | .ioProcess _ | .ioEvent _ _ _ | .ioDrainClose _ | .ioDrainFinish => .io
  | .timerFire _ _ => .timer

/-- what a step of a thread of role `r` does: it logs callbacks of that role only (the I/O thread none once it has terminated), it
keeps the session ids fresh, it keeps the lifecycle invariant -/
structure StepEff (s : State) (r : Role) (s' : State) : Prop where
  log : ∃ l, s'.log = s.log ++ l ∧ (∀ e ∈ l, e.1 = r) ∧ (r = .io → s.ioAlive = false → l = [])
  fresh : Fresh s → Fresh s'
  inv : Inv s → Inv s'

theorem silent {s s' : State} {r : Role} (e : s'.log = s.log := by rfl) :
    ∃ l, s'.log = s.log ++ l ∧ (∀ e ∈ l, e.1 = r) ∧ (r = .io → s.ioAlive = false → l = []) :=
  ⟨[], e.trans (List.append_nil _).symm, nofun, fun _ _ => rfl⟩

theorem StepEff.same {s : State} {r : Role} : StepEff s r s := ⟨silent, id, id⟩

theorem StepEff.flags {s s' : State} {r : Role} (inv : Inv s → Inv s')
    (e : (s'.log, s'.sessions, s'.q, s'.nextSid) = (s.log, s.sessions, s.q, s.nextSid) := by rfl) : StepEff s r s' := by
  simp only [Prod.mk.injEq] at e
  obtain ⟨elog, esess, eq, enext⟩ := e
  refine ⟨silent elog, fun h => ?_, inv⟩
  unfold Fresh ids at h ⊢
  rw [esess, eq, enext]; exact h

theorem StepEff.of_io {s s' : State} (hio : s.ioAlive = true) (e : IoEff s s') : StepEff s .io s' :=
  ⟨e.log.imp fun _ h => ⟨h.1, h.2, fun _ h' => absurd hio (by rw [h']; nofun)⟩, (fresh_sub s s' · e.ids.1 (Nat.le_of_eq e.ids.2.symm)), e.life.inv hio⟩

theorem StepEff.cb {s s' : State} {r : Role} (e : StepEff s r s') (hr : r ≠ .io) (c : Cb) : StepEff s r (cb s' r c) := by
  obtain ⟨l, h1, h2, _⟩ := e.log
  refine ⟨⟨l ++ [(r, c)], by show s'.log ++ _ = _; rw [h1, List.append_assoc], fun x hx => ?_, fun h => absurd h hr⟩, e.fresh, e.inv⟩
  rcases List.mem_append.mp hx with hx | hx
  · exact h2 x hx
  · rw [List.mem_singleton.mp hx]

theorem enqueue_eff (cfg : Cfg) (s : State) (r : Role) (c : Cmd) (oom : Bool) (hr : r ≠ .io) (notConnect : connectSids [c] = []) :
    StepEff s r (enqueue cfg s r c oom).1 := by
  rcases enqueue_cases cfg s r c oom with e | ⟨_, e | e⟩ <;> rw [e]
  · exact .same
  · exact StepEff.same.cb hr _
  · exact ⟨silent,
      fun h => fresh_sub s _ h (by show (_ ++ connectSids (s.q ++ [c])).Sublist _; rw [connectSids_append, notConnect, List.append_nil]; exact .refl _)
        (Nat.le_refl _), id⟩

theorem step_eff (cfg : Cfg) (s : State) (st : Step) : StepEff s (roleOf st) (step cfg s st) := by
  cases st with
  | apiStart fail =>
    simp only [step, roleOf]
    split
    · exact .same
    · rename_i hg
      simp only [Bool.or_eq_true, not_or, Bool.not_eq_true] at hg
      split
      · have e : StepEff s .api { s with quiet := false, closed := false } := .flags fun _ => by simp [Inv, hg.1.1, hg.1.2, hg.2]
        exact e.cb nofun _
      · exact .flags fun _ => by simp [Inv, hg.2]
  | apiConnect tls oom =>
    -- the id handed out is `nextSid`, above every id alive
    simp only [step, roleOf]
    rcases enqueue_cases cfg { s with nextSid := s.nextSid + 1 } .api (.connect s.nextSid tls) oom with e | ⟨_, e | e⟩ <;> rw [e]
    · exact ⟨silent, fun h => fresh_sub s _ h (.refl _) (Nat.le_succ _), id⟩
    · exact ⟨⟨_, rfl, by simp, nofun⟩, fun h => fresh_sub s _ h (.refl _) (Nat.le_succ _), id⟩
    · refine ⟨silent, fun h => ?_, id⟩
      have e : ids { s with nextSid := s.nextSid + 1, q := s.q ++ [.connect s.nextSid tls] } = ids s ++ [s.nextSid] := by
        simp only [ids, connectSids_append, connectSids, List.append_assoc]
      refine ⟨?_, fun i hi => ?_⟩
      · rw [e, List.nodup_append]
        exact ⟨h.1, by simp, fun a ha b hb => by rw [List.mem_singleton.mp hb]; exact Nat.ne_of_lt (h.2 a ha)⟩
      · rw [e] at hi
        rcases List.mem_append.mp hi with hi | hi
        · exact Nat.lt_succ_of_lt (h.2 i hi)
        · rw [List.mem_singleton.mp hi]; exact Nat.lt_succ_self _
  | apiSend sid oom => exact enqueue_eff cfg s .api _ oom nofun rfl
  | apiClose sid oom => exact enqueue_eff cfg s .api _ oom nofun rfl
  | apiStop oom =>
    simp only [step, roleOf]
    split
    · exact .same
    · rename_i hj
      split
      · -- the CAS succeeded: Shutdown is enqueued, the caller goes on to join
        rename_i hr
        have e := enqueue_eff cfg { s with running := false } .api .shutdown oom nofun rfl
        -- `e` is about `{ s with running := false }`; its log and freshness halves are, as they stand, about `s`, since neither reads `running`
        refine ⟨e.log, e.fresh, fun h => ?_⟩
        obtain ⟨h1, h2, h3, h4⟩ := h
        have el := enqueue_life cfg { s with running := false } .api .shutdown oom
        simp only [life, Life.mk.injEq] at el
        have hio := h4 hr
        have hq : s.quiet = false := by
          cases hqq : s.quiet with
          | false => rfl
          | true => have := (h1 hqq).2.2.1; simp [hr] at this
        -- `running` was set, so the I/O thread exists (`hio`) and `stop()` has not returned (`hq`); `joining` is set with `running` cleared
        simp only [Inv]
        refine ⟨?_, ?_, ?_, ?_⟩ <;> intro hh <;> simp_all
      · split
        · exact .same
        · rename_i hr hio
          simp only [Bool.not_eq_true] at hj hr hio
          refine .flags fun h => ?_
          simp only [Inv]
          refine ⟨?_, ?_, ?_, ?_⟩ <;> intro hh <;> simp_all [Inv]
  | apiStopJoin =>
    simp only [step, roleOf]
    split
    · rename_i hg
      simp only [Bool.and_eq_true, Bool.not_eq_true'] at hg
      exact .flags fun h => by simp [Inv, hg.2, h.drained hg.1 hg.2, h.joiner hg.1]
    · exact .same
  | ioProcess arm =>
    simp only [step, roleOf]
    split
    · rename_i hio
      split
      · exact .same
      · rename_i c rest hq
        exact .of_io hio (process_eff hq arm)
    · exact .same
  | ioEvent sid ev arm =>
    simp only [step, roleOf]
    split
    · rename_i hg
      simp only [Bool.and_eq_true] at hg
      exact .of_io hg.1 (doIoEvent_eff s sid ev arm)
    · exact .same
  | ioDrainClose sid =>
    simp only [step, roleOf]
    split
    · rename_i hg
      simp only [Bool.and_eq_true] at hg
      split
      · exact .of_io hg.1 ((IoEff.of_sessions s _ _ ((List.filter_sublist).map _)).cb _)
      · exact .same
    · exact .same
  | ioDrainFinish =>
    simp only [step, roleOf]
    split
    · rename_i hg
      simp only [Bool.and_eq_true, Bool.not_eq_true'] at hg
      refine ⟨⟨residualCloses s.q, rfl, residualCloses_io s.q, fun _ h => absurd hg.1.1 (by rw [h]; nofun)⟩,
        fun h => fresh_sub s _ h (by simp [ids, connectSids]) (Nat.le_refl _), fun h => ?_⟩
      have hq : s.quiet = false := by
        cases hqq : s.quiet with
        | false => rfl
        | true => have := (h.afterStop hqq).1; simp [hg.1.1] at this
      simp [Inv, hq, hg.1.2]
    · exact .same
  | timerFire k oom =>
    simp only [step, roleOf]
    split
    · exact .same
    · rename_i sid kind hk
      have e := enqueue_eff cfg { s with timers := s.timers.eraseIdx k } .timer (.close sid (some kind)) oom nofun rfl
      -- as for `apiStop`: no half of `e` reads `timers`
      have e : StepEff s .timer _ := ⟨e.log, e.fresh, e.inv⟩
      split
      · exact e.cb nofun _
      · exact e

theorem inv_step (cfg : Cfg) (s : State) (st : Step) (h : Inv s) : Inv (step cfg s st) := (step_eff cfg s st).inv h

theorem run_ind (cfg : Cfg) {P : State → Prop} (hP : ∀ s st, P s → P (step cfg s st)) :
    ∀ (steps : List Step) (s : State), P s → P (run cfg s steps)
  | [], _, h => h
  | st :: rest, s, h => run_ind cfg hP rest _ (hP s st h)

/-- states reachable from a freshly constructed engine under any schedule of the three roles -/
def Reach (cfg : Cfg) (s : State) : Prop := ∃ steps, s = run cfg {} steps

theorem inv_reach (cfg : Cfg) (s : State) (h : Reach cfg s) : Inv s := by
  obtain ⟨steps, rfl⟩ := h
  exact run_ind cfg (inv_step cfg) steps {} inv_init

def isStart : Step → Bool
  | .apiStart _ => true
  | _ => false

theorem quiet_step_silent (cfg : Cfg) (hT : cfg.timerCbOnRefusal = false) (s : State) (h : Inv s) (hq : s.quiet = true)
    (st : Step) (hs : isStart st = false) :
    (step cfg s st).log = s.log ∧ (step cfg s st).quiet = true := by
  obtain ⟨hio, hc, hr, hj⟩ := h.afterStop hq
  cases st with
  | apiStart fail => simp [isStart] at hs
  | apiConnect _ oom | apiSend _ oom | apiClose _ oom =>
    simp only [step]
    -- `by exact`: the state is read off the goal first; it is `s` with another field changed, and its `closed` reduces to `s.closed`
    rw [enqueue_closed cfg _ .api _ oom (by exact hc)]
    exact ⟨rfl, hq⟩
  | apiStop oom => simp [step, hj, hr, hio, hc]
  | apiStopJoin => simp [step, hj, hq]
  | ioProcess arm => simp [step, hio, hq]
  | ioEvent sid ev arm => simp [step, hio, hq]
  | ioDrainClose sid => simp [step, hio, hq]
  | ioDrainFinish => simp [step, hio, hq]
  | timerFire k oom =>
    simp only [step]
    split
    · exact ⟨rfl, hq⟩
    · rename_i sid kind hk
      rw [enqueue_closed cfg _ .timer _ oom (by exact hc)]  -- `by exact` as above
      simp [hT, hq]

theorem quiet_run_silent (cfg : Cfg) (hT : cfg.timerCbOnRefusal = false) (steps : List Step) (s : State) (h : Inv s)
    (hq : s.quiet = true) (hs : steps.all (fun st => !isStart st) = true) :
    (run cfg s steps).log = s.log ∧ (run cfg s steps).quiet = true := by
  induction steps generalizing s with
  | nil => exact ⟨rfl, hq⟩
  | cons st rest ih =>
    simp only [List.all_cons, Bool.and_eq_true, Bool.not_eq_true'] at hs
    have a := quiet_step_silent cfg hT s h hq st hs.1
    have b := ih (step cfg s st) (inv_step cfg s st h) a.2 hs.2
    exact ⟨by simp only [run]; rw [b.1, a.1], by simp only [run]; exact b.2⟩

/-- start; connect (TLS); the Connect command runs and leaves the connect-timeout timer armed; stop(): CAS + Shutdown, the I/O thread
processes it, the drain closes the session (its timer stays armed), closes the queue, terminates; the join returns -/
def witnessPrefix : List Step :=
  [.apiStart false, .apiConnect true false, .ioProcess true, .apiStop false, .ioProcess false, .ioDrainClose 1, .ioDrainFinish, .apiStopJoin]

theorem witness_prefix_quiet (cfg : Cfg) (hd : cfg.drainCancelsTimers = false) :
    (run cfg {} witnessPrefix).quiet = true ∧ (run cfg {} witnessPrefix).log = [(.io, .close)] := by
  obtain ⟨a, b, c⟩ := cfg
  simp only at hd
  subst hd
  cases a <;> cases b <;> decide

theorem witness_late_callback (cfg : Cfg) (hd : cfg.drainCancelsTimers = false) (hT : cfg.timerCbOnRefusal = true) :
    (step cfg (run cfg {} witnessPrefix) (.timerFire 0 false)).log = [(.io, .close), (.timer, .error)] := by
  obtain ⟨a, b, c⟩ := cfg
  simp only at hd hT
  subst hd; subst hT
  cases b <;> decide

end Iora.TeardownRoles
