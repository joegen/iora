import IoraModel.Model.TimerService
/-!
The array heap `TimerService::_heap` (property C08, theorem S5), by itself: `swap`, `siftUp`, `siftDown`, `heapPush`, `heapPop` only
permute the array (what `Core.hk`, heap items ↔ records, rests on) and keep it in heap order w.r.t. `less` (lexicographic on
`(tp, id)`), hence the root is a minimum and the `break` of `collectDueLocked` (`top.tp > now`) leaves no due item behind.
-/
namespace Iora.Tsvc

theorem swap_perm (h : List HeapItem) (i j : Nat) : (swap h i j).Perm h := by
  unfold swap
  split
  · rename_i a b hi hj
    obtain ⟨hi', rfl⟩ := List.getElem?_eq_some_iff.mp hi
    obtain ⟨hj', rfl⟩ := List.getElem?_eq_some_iff.mp hj
    exact List.set_set_perm hi' hj'
  · exact List.Perm.refl _

theorem swap_length (h : List HeapItem) (i j : Nat) : (swap h i j).length = h.length := (swap_perm h i j).length_eq

theorem swap_get {h : List HeapItem} {i j : Nat} (hi : i < h.length) (hj : j < h.length) (t : Nat) :
    (swap h i j)[t]? = if t = i then h[j]? else if t = j then h[i]? else h[t]? := by
  unfold swap
  rw [List.getElem?_eq_getElem hi, List.getElem?_eq_getElem hj]
  simp only [List.getElem?_set, List.length_set]
  by_cases h1 : t = i
  · subst h1
    by_cases h2 : j = t
    · subst h2; simp [hj]
    · simp [h2, hi]
  · by_cases h2 : t = j
    · subst h2; simp [hj, h1]
    · simp [Ne.symm h1, Ne.symm h2, h1, h2]

theorem siftUp_perm : ∀ (f : Nat) (h : List HeapItem) (idx : Nat), (siftUp f h idx).Perm h
  | 0, h, _ => List.Perm.refl _
  | f + 1, h, idx => by
    unfold siftUp
    split
    · exact List.Perm.refl _
    · simp only
      split
      · split
        · exact (siftUp_perm f _ _).trans (swap_perm h _ _)
        · exact List.Perm.refl _
      · exact List.Perm.refl _

theorem siftDown_perm : ∀ (f : Nat) (h : List HeapItem) (idx : Nat), (siftDown f h idx).Perm h
  | 0, h, _ => List.Perm.refl _
  | f + 1, h, idx => by
    unfold siftDown
    split
    · exact List.Perm.refl _
    · split
      · exact List.Perm.refl _
      · exact (siftDown_perm f _ _).trans (swap_perm h _ _)

theorem heapPush_perm (h : List HeapItem) (x : HeapItem) : (heapPush h x).Perm (x :: h) := by
  unfold heapPush
  exact (siftUp_perm _ _ _).trans (List.perm_append_comm (l₁ := h) (l₂ := [x]))

theorem heapPop_perm (top : HeapItem) (rest : List HeapItem) : (top :: heapPop (top :: rest)).Perm (top :: rest) := by
  have h0 : 0 < (top :: rest).length := Nat.succ_pos _
  have hne : swap (top :: rest) 0 ((top :: rest).length - 1) ≠ [] :=
    List.ne_nil_of_length_pos (by rw [swap_length]; exact h0)
  -- after the swap the old root is last
  have hlast : (swap (top :: rest) 0 ((top :: rest).length - 1)).getLast? = some top := by
    rw [List.getLast?_eq_getElem?, swap_length, swap_get h0 (Nat.sub_lt h0 Nat.one_pos)]
    split
    · rename_i hn; rw [hn]; rfl
    · rw [if_pos rfl]; rfl
  have hp : (top :: (swap (top :: rest) 0 ((top :: rest).length - 1)).dropLast).Perm (top :: rest) := by
    have := List.dropLast_concat_getLast hne
    rw [Option.some.inj ((List.getLast?_eq_some_getLast hne).symm.trans hlast)] at this
    have hs := swap_perm (top :: rest) 0 ((top :: rest).length - 1)
    rw [← this] at hs
    exact (List.perm_append_comm (l₁ := [top])).trans hs
  unfold heapPop
  simp only [List.isEmpty_cons, Bool.false_eq_true, if_false]
  split
  · exact hp
  · exact ((siftDown_perm _ _ _).cons top).trans hp

theorem less_irrefl (a : HeapItem) : less a a = false := by simp [less]

theorem less_asymm {a b : HeapItem} (h : less a b = true) : less b a = false := by
  simp only [less, Bool.or_eq_true, Bool.and_eq_true, decide_eq_true_eq, beq_iff_eq, Bool.or_eq_false_iff, Bool.and_eq_false_iff,
    decide_eq_false_iff_not, beq_eq_false_iff_ne] at h ⊢
  omega

theorem notLess_trans {a b c : HeapItem} (h1 : less b a = false) (h2 : less c b = false) : less c a = false := by
  simp only [less, Bool.or_eq_false_iff, Bool.and_eq_false_iff, decide_eq_false_iff_not, beq_eq_false_iff_ne] at h1 h2 ⊢
  omega

theorem notLess_of_less {x p c : HeapItem} (h1 : less x p = true) (h2 : less c p = false) : less c x = false := by
  simp only [less, Bool.or_eq_true, Bool.and_eq_true, decide_eq_true_eq, beq_iff_eq, Bool.or_eq_false_iff, Bool.and_eq_false_iff,
    decide_eq_false_iff_not, beq_eq_false_iff_ne] at h1 h2 ⊢
  omega

theorem less_trans {a b c : HeapItem} (h1 : less a b = true) (h2 : less b c = true) : less a c = true := by
  simp only [less, Bool.or_eq_true, Bool.and_eq_true, decide_eq_true_eq, beq_iff_eq] at h1 h2 ⊢
  omega

theorem not_less_tp {a b : HeapItem} (h : less a b = false) : b.tp ≤ a.tp := by
  simp only [less, Bool.or_eq_false_iff, Bool.and_eq_false_iff, decide_eq_false_iff_not, beq_eq_false_iff_ne] at h
  omega

def parent (i : Nat) : Nat := (i - 1) / 2

/-- array-heap order: no element is less than its parent -/
def HeapOk (h : List HeapItem) : Prop := ∀ i c p, 0 < i → h[i]? = some c → h[parent i]? = some p → less c p = false

theorem parent_lt {i : Nat} (h : 0 < i) : parent i < i := by unfold parent; omega
theorem parent_le (i : Nat) : parent i ≤ i := by unfold parent; omega

theorem child_iff (i k : Nat) : (0 < i ∧ parent i = k) ↔ (i = k * 2 + 1 ∨ i = k * 2 + 1 + 1) := by
  unfold parent; omega

theorem get_some_lt {α : Type} {h : List α} {i : Nat} {x : α} (hx : h[i]? = some x) : i < h.length := by
  obtain ⟨hl, _⟩ := List.getElem?_eq_some_iff.mp hx
  exact hl

theorem get_of_lt {α : Type} {h : List α} {i : Nat} (hl : i < h.length) : ∃ x, h[i]? = some x := ⟨h[i], List.getElem?_eq_getElem hl⟩

/-- the root is a minimum: every item is not less than its parent, and so on up to the root -/
theorem HeapOk.root_min {h : List HeapItem} (ok : HeapOk h) {t : HeapItem} (ht : h[0]? = some t) :
    ∀ (i : Nat) (x : HeapItem), h[i]? = some x → less x t = false
  | 0, x, hx => by rw [ht] at hx; cases hx; exact less_irrefl _
  | i + 1, x, hx => by
    obtain ⟨p, hpp⟩ := get_of_lt (Nat.lt_trans (parent_lt (Nat.succ_pos i)) (get_some_lt hx))
    exact notLess_trans (ok.root_min ht (parent (i + 1)) p hpp) (ok (i + 1) x p (Nat.succ_pos i) hx hpp)
termination_by i => i
decreasing_by exact parent_lt (Nat.succ_pos i)

theorem HeapOk.head_le {h : List HeapItem} (ok : HeapOk h) : ∀ t ∈ h.head?, ∀ x ∈ h, t.tp ≤ x.tp := by
  intro t ht x hx
  obtain ⟨i, hi⟩ := List.getElem?_of_mem hx
  have h0 : h[0]? = some t := by rw [← List.head?_eq_getElem?]; exact ht
  exact not_less_tp (ok.root_min h0 i x hi)

/-- the children of `k` are not less than `k`'s parent: what lets the item at `k` be exchanged with either neighbour -/
def GrandOk (h : List HeapItem) (k : Nat) : Prop :=
  ∀ i c g, 0 < i → 0 < k → parent i = k → h[i]? = some c → h[parent k]? = some g → less c g = false

/-- heap order holds except possibly between `k` and its parent -/
def UpOk (h : List HeapItem) (k : Nat) : Prop :=
  (∀ i c p, 0 < i → i ≠ k → h[i]? = some c → h[parent i]? = some p → less c p = false) ∧ GrandOk h k

/-- `k < f`: every call moves to the parent, so `k + 1` calls reach the root; `heapPush` passes `length + 1` for the last index -/
theorem siftUp_ok : ∀ (f : Nat) (h : List HeapItem) (k : Nat), k < f → k < h.length → UpOk h k → HeapOk (siftUp f h k)
  | 0, _, _, hf, _, _ => absurd hf (Nat.not_lt_zero _)
  | f + 1, h, k, hf, hk, up => by
    unfold siftUp
    split
    · -- k = 0: nothing is excepted
      rename_i hk0
      intro i c p hi hc hp
      exact up.1 i c p hi (hk0 ▸ Nat.ne_of_gt hi) hc hp
    · rename_i hk0
      have hk0 : 0 < k := Nat.pos_of_ne_zero hk0
      have hq : parent k < h.length := Nat.lt_trans (parent_lt hk0) hk
      have hqk : parent k ≠ k := Nat.ne_of_lt (parent_lt hk0)
      obtain ⟨x, hx⟩ := get_of_lt hk
      obtain ⟨p, hp⟩ := get_of_lt hq
      simp only
      -- the body with `parent k` for its `let`: the cases below rewrite along `hp` and `swap_get` at `parent k`
      change (match h[k]?, h[parent k]? with
        | some x, some p => if less x p = true then siftUp f (swap h k (parent k)) (parent k) else h
        | _, _ => h) |> HeapOk
      rw [hx, hp]
      simp only
      split
      · rename_i hlt
        -- swap and continue at the parent
        apply siftUp_ok f _ (parent k) (Nat.lt_of_lt_of_le (parent_lt hk0) (Nat.le_of_lt_succ hf)) (by rw [swap_length]; exact hq)
        have hg := fun t => swap_get hk hq t
        constructor
        · intro i c p' hi hiq hc hp'
          rw [hg] at hc hp'
          by_cases hik : i = k
          · -- the old parent now sits at k, under x
            subst hik
            rw [if_pos rfl, hp] at hc; cases hc
            rw [if_neg hqk, if_pos rfl, hx] at hp'; cases hp'
            exact less_asymm hlt
          · rw [if_neg hik, if_neg hiq] at hc
            by_cases hpk : parent i = k
            · -- a child of k: now under the old parent of k
              rw [if_pos hpk, hp] at hp'; cases hp'
              exact up.2 i c p hi hk0 hpk hc hp
            · by_cases hpq : parent i = parent k
              · -- a sibling of k: now under x
                rw [if_neg hpk, if_pos hpq, hx] at hp'; cases hp'
                exact notLess_of_less hlt (up.1 i c p hi hik hc (hpq ▸ hp))
              · rw [if_neg hpk, if_neg hpq] at hp'
                exact up.1 i c p' hi hik hc hp'
        · intro i c g hi hq0 hpi hc hgp
          rw [hg] at hc hgp
          rw [if_neg (Nat.ne_of_lt (Nat.lt_of_le_of_lt (parent_le _) (parent_lt hk0))), if_neg (Nat.ne_of_lt (parent_lt hq0))] at hgp
          have hqg := up.1 (parent k) p g hq0 hqk hp hgp
          by_cases hik : i = k
          · subst hik
            rw [if_pos rfl, hp] at hc; cases hc
            exact hqg
          · rw [if_neg hik, if_neg (Nat.ne_of_gt (hpi ▸ parent_lt hi))] at hc
            exact notLess_trans hqg (up.1 i c p hi hik hc (hpi ▸ hp))
      · rename_i hnlt
        intro i c p' hi hc hp'
        by_cases hik : i = k
        · subst hik
          rw [hx] at hc; cases hc
          rw [hp] at hp'; cases hp'
          simpa using hnlt
        · exact up.1 i c p' hi hik hc hp'

/-- `smallestOf` is `pick` twice, at the left child and then at the right: one comparison of the candidate `b` (position and item)
against the item at `i` -/
def pick (h : List HeapItem) (b : Nat × HeapItem) (i : Nat) : Nat × HeapItem :=
  match h[i]? with
  | some c => if less c b.2 then (i, c) else b
  | none => b

theorem pick_spec (h : List HeapItem) (b : Nat × HeapItem) (i : Nat) :
    (pick h b i = b ∨ ∃ c, h[i]? = some c ∧ pick h b i = (i, c) ∧ less c b.2 = true) ∧
    ∀ c, h[i]? = some c → less c (pick h b i).2 = false := by
  unfold pick
  cases h[i]? with
  | none => exact ⟨Or.inl rfl, nofun⟩
  | some c =>
    by_cases hlt : less c b.2 = true
    · dsimp only
      rw [if_pos hlt]
      exact ⟨Or.inr ⟨c, rfl, rfl, hlt⟩, fun c' hc' => by cases hc'; exact less_irrefl _⟩
    · dsimp only
      rw [if_neg hlt]
      exact ⟨Or.inl rfl, fun c' hc' => by cases hc'; simpa using hlt⟩

theorem smallestOf_spec (h : List HeapItem) (k : Nat) (x : HeapItem) :
    ∃ m cm, smallestOf h k x = m ∧ (m = k ∧ cm = x ∨ (0 < m ∧ parent m = k) ∧ h[m]? = some cm ∧ less cm x = true) ∧
      ∀ i c, 0 < i → parent i = k → h[i]? = some c → less c cm = false := by
  obtain ⟨h1, hL⟩ := pick_spec h (k, x) (k * 2 + 1)
  obtain ⟨h2, hR⟩ := pick_spec h (pick h (k, x) (k * 2 + 1)) (k * 2 + 1 + 1)
  have hs : smallestOf h k x = (pick h (pick h (k, x) (k * 2 + 1)) (k * 2 + 1 + 1)).1 := rfl
  rw [hs]
  generalize pick h (pick h (k, x) (k * 2 + 1)) (k * 2 + 1 + 1) = b2 at h2 hR ⊢
  generalize pick h (k, x) (k * 2 + 1) = b1 at h1 hL h2
  refine ⟨b2.1, b2.2, rfl, ?_, ?_⟩
  · rcases h2 with rfl | ⟨r, hr, rfl, hlt2⟩
    · rcases h1 with rfl | ⟨l, hl, rfl, hlt1⟩
      · exact Or.inl ⟨rfl, rfl⟩
      · exact Or.inr ⟨(child_iff _ k).mpr (Or.inl rfl), hl, hlt1⟩
    · refine Or.inr ⟨(child_iff _ k).mpr (Or.inr rfl), hr, ?_⟩
      rcases h1 with rfl | ⟨l, hl, rfl, hlt1⟩
      · exact hlt2
      · exact less_trans hlt2 hlt1
  · intro i c hi hpk hc
    rcases (child_iff i k).mp ⟨hi, hpk⟩ with rfl | rfl
    · rcases h2 with rfl | ⟨r, hr, rfl, hlt2⟩
      · exact hL c hc
      · exact notLess_of_less hlt2 (hL c hc)
    · exact hR c hc

/-- heap order holds except possibly between `k` and its children -/
def DownOk (h : List HeapItem) (k : Nat) : Prop :=
  (∀ i c p, 0 < i → parent i ≠ k → h[i]? = some c → h[parent i]? = some p → less c p = false) ∧ GrandOk h k

/-- `h.length ≤ f + k`: every call moves to a child, a larger index, so the fuel lasts to the end of the array; `heapPop` passes `length`
for index 0 -/
theorem siftDown_ok : ∀ (f : Nat) (h : List HeapItem) (k : Nat), h.length ≤ f + k → DownOk h k → HeapOk (siftDown f h k)
  | 0, h, k, hf, dn => by
    -- k is past the end: it has no children
    unfold siftDown
    intro i c p hi hc hp
    by_cases hpk : parent i = k
    · have := get_some_lt hc
      have := parent_le i
      omega
    · exact dn.1 i c p hi hpk hc hp
  | f + 1, h, k, hf, dn => by
    unfold siftDown
    cases hx : h[k]? with
    | none =>
      simp only
      intro i c p hi hc hp
      by_cases hpk : parent i = k
      · rw [hpk, hx] at hp; cases hp
      · exact dn.1 i c p hi hpk hc hp
    | some x =>
      simp only
      have hk := get_some_lt hx
      obtain ⟨m, cm, hm, hcase, hmin⟩ := smallestOf_spec h k x
      rcases hcase with ⟨rfl, rfl⟩ | ⟨⟨hm0, hpm⟩, hcm, hlt⟩
      · -- no child is less: done
        simp only [hm, if_true]
        intro i c p hi hc hp
        by_cases hpk : parent i = m
        · rw [hpk, hx] at hp; cases hp
          exact hmin i c hi hpk hc
        · exact dn.1 i c p hi hpk hc hp
      · -- swap with the smaller child `m` and continue there
        have hkm : k < m := hpm ▸ parent_lt hm0
        have hmk : m ≠ k := Nat.ne_of_gt hkm
        have hml := get_some_lt hcm
        rw [hm, if_neg hmk]
        apply siftDown_ok f _ m (by rw [swap_length]; omega)
        have hg := fun t => swap_get hk hml t
        constructor
        · intro i c p hi hpi hc hp
          rw [hg] at hc hp
          by_cases him : i = m
          · -- x now sits at m, under the old child
            subst him
            rw [if_neg hmk, if_pos rfl, hx] at hc; cases hc
            rw [hpm, if_pos rfl, hcm] at hp; cases hp
            exact less_asymm hlt
          · by_cases hik : i = k
            · -- the old child now sits at k, under k's parent (unchanged)
              subst hik
              rw [if_pos rfl, hcm] at hc; cases hc
              rw [if_neg (Nat.ne_of_lt (parent_lt hi)), if_neg (Nat.ne_of_lt (Nat.lt_trans (parent_lt hi) hkm))] at hp
              exact dn.2 m cm p hm0 hi hpm hcm hp
            · rw [if_neg hik, if_neg him] at hc
              by_cases hpk : parent i = k
              · -- the other child of k: now under the old child, which was not greater
                rw [hpk, if_pos rfl, hcm] at hp; cases hp
                exact hmin i c hi hpk hc
              · rw [if_neg hpk, if_neg hpi] at hp
                exact dn.1 i c p hi hpk hc hp
        · intro i c g hi _ hpi hc hgp
          rw [hg] at hc hgp
          have hmi : m < i := hpi ▸ parent_lt hi
          rw [if_neg (Nat.ne_of_gt (Nat.lt_trans hkm hmi)), if_neg (Nat.ne_of_gt hmi)] at hc
          rw [hpm, if_pos rfl, hcm] at hgp; cases hgp
          exact dn.1 i c cm hi (hpi ▸ hmk) hc (hpi ▸ hcm)

theorem HeapOk.nil : HeapOk [] := by intro i c p _ hc; simp at hc

theorem heapPush_ok (h : List HeapItem) (x : HeapItem) (ok : HeapOk h) : HeapOk (heapPush h x) := by
  unfold heapPush
  apply siftUp_ok _ _ _ (Nat.lt_succ_self _) (by simp)
  constructor
  · intro i c p hi hik hc hp
    have hil := get_some_lt hc
    rw [List.length_append, List.length_singleton] at hil
    have hi' : i < h.length := Nat.lt_of_le_of_ne (Nat.le_of_lt_succ hil) hik
    rw [List.getElem?_append_left hi'] at hc
    rw [List.getElem?_append_left (Nat.lt_of_le_of_lt (parent_le i) hi')] at hp
    exact ok i c p hi hc hp
  · -- a child of the last position would be past the end
    intro i c g hi _ hpi hc _
    have hil := get_some_lt hc
    rw [List.length_append, List.length_singleton] at hil
    exact absurd hil (Nat.not_lt.mpr (Nat.succ_le_of_lt (hpi ▸ parent_lt hi)))

theorem heapPop_ok (h : List HeapItem) (ok : HeapOk h) : HeapOk (heapPop h) := by
  unfold heapPop
  split
  · exact ok
  · rename_i hne
    have hlen : 0 < h.length := by
      cases h with
      | nil => simp at hne
      | cons a t => simp
    simp only
    split
    · rename_i hemp
      have : (swap h 0 (h.length - 1)).dropLast = [] := by simpa using hemp
      rw [this]; exact HeapOk.nil
    · apply siftDown_ok _ _ 0 (Nat.le_refl _)
      constructor
      · -- away from the root the list is `h` without its last item
        intro i c p hi hpi hc hp
        rw [List.getElem?_dropLast, swap_length] at hc hp
        split at hc
        · rename_i hil
          have hpl : parent i < h.length - 1 := Nat.lt_of_le_of_lt (parent_le i) hil
          rw [if_pos hpl, swap_get hlen (Nat.sub_lt hlen Nat.one_pos), if_neg hpi, if_neg (Nat.ne_of_lt hpl)] at hp
          rw [swap_get hlen (Nat.sub_lt hlen Nat.one_pos), if_neg (Nat.ne_of_gt hi), if_neg (Nat.ne_of_lt hil)] at hc
          exact ok i c p hi hc hp
        · cases hc
      · intro i c g _ h0; exact absurd h0 (Nat.lt_irrefl 0)

end Iora.Tsvc
