import IoraModel.Model.DnsTransport
import IoraModel.Lemmas.DnsSafe
/-! N6 for C19: `processResponse` as two equations, one for an accepted and one for a rejected message; a third outcome of `parse`
there is not (N3/N4), so it ends normally whatever the bytes. -/
namespace Iora.DnsTransport
open Iora Iora.Dns

theorem processResponse_ok (pending : List Nat) {data : Bytes} {r : Result} (h : parse data = .ok r) :
    processResponse pending data =
      .ok (if pending.contains r.header.id then some (.result r.header.id r) else none, pending.filter (· ≠ r.header.id)) := by
  unfold processResponse
  rw [h]
  rfl

/-- the `catch` arm: the id is read from the first two bytes if they are there.  `oob` and `fuel`, which the model passes on, are not
outcomes of `parse` (`parse_post`). -/
theorem processResponse_error (pending : List Nat) {data : Bytes} {e : Err} (he : parse data = .error e) :
    processResponse pending data =
      .ok (if h : 2 ≤ data.length then
            (if pending.contains (data[0].toNat * 256 + data[1].toNat) then some (.parseError (data[0].toNat * 256 + data[1].toNat)) else none,
             pending.filter (· ≠ data[0].toNat * 256 + data[1].toNat))
          else (none, pending)) := by
  have hs := parse_post data
  rw [he] at hs
  unfold processResponse
  rw [he]
  split
  · rename_i h; cases h
  · rename_i h; exact absurd h hs.no_oob
  · rename_i h; exact absurd h hs.no_fuel
  · by_cases h2 : 2 ≤ data.length
    · simp only [Gen.Dns.respMinIdBytes, ge_iff_le, h2, ↓reduceIte, ↓reduceDIte, rd_ok (show 0 < data.length by omega),
        rd_ok (show 1 < data.length by omega), complete]
      rfl
    · simp only [Gen.Dns.respMinIdBytes, ge_iff_le, h2, ↓reduceIte, ↓reduceDIte]

theorem processResponse_total (pending : List Nat) (data : Bytes) : ∃ out, processResponse pending data = .ok out := by
  cases h : parse data with
  | ok r => exact ⟨_, processResponse_ok pending h⟩
  | error e => exact ⟨_, processResponse_error pending h⟩

end Iora.DnsTransport
