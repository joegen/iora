import IoraModel.Model.HttpServerConn
import IoraModel.Lemmas.HttpServerExact
/-
The connection-level server model (`Model/HttpServerConn.lean`).  The request loop is `drainRaw`: `drainLoop` is it before `dispatch`, and
`drainRawU`, with the `break` behind an Upgrade request, is it on less fuel, so facts about a pass are proved for `drainRaw`.  What is
extracted is a greedy chain (`chainTo`), cut out of the true stream at consecutive offsets: for the I/O thread alone, and for every
schedule of reads, pool answers, workers, close callbacks and upgrade holds.  Pipelines of well-formed requests are dispatched exactly
under the per-read cap `fits`, which bounded requests in bounded reads meet whatever the total length.
-/
namespace Iora.Http.Srv
open Iora Iora.Http

theorem drainLoop_raw (f : Nat) : ∀ buf : Bytes,
    drainLoop f buf = ((drainRaw f buf).1.map dispatch, (drainRaw f buf).2.1, (drainRaw f buf).2.2) := by
  induction f with
  | zero => intro buf; rfl
  | succ f ih =>
    intro buf
    simp only [drainLoop, drainRaw]
    cases he : extractOne buf with
    | needMore => rfl
    | close => rfl
    | request raw n =>
      by_cases hn : n = 0
      · simp [hn]
      · simp only [hn, ↓reduceIte]
        rw [ih (buf.drop n)]
        simp

theorem hid_ioStep (s : Sess) (seg : Bytes) :
    handleIncomingData s seg = ((ioStep s seg).1, (ioStep s seg).2.1.map dispatch, (ioStep s seg).2.2) := by
  unfold handleIncomingData ioStep
  split
  · rfl
  · split
    · rfl
    · simp only [drainLoop_raw]

theorem srvFeed_raw : ∀ (ss : List Bytes) (s : Sess),
    srvFeed s ss = ((srvFeedRaw s ss).1.map dispatch, (srvFeedRaw s ss).2) := by
  intro ss
  induction ss with
  | nil => intro s; rfl
  | cons seg ss ih =>
    intro s
    simp only [srvFeed, srvFeedRaw, hid_ioStep, ih, List.map_append]

theorem ioStep_dead (s : Sess) (seg : Bytes) (h : s.alive = false) : ioStep s seg = (s, [], false) := by
  simp [ioStep, h]

theorem ioStep_over (s : Sess) (seg : Bytes) (ha : s.alive = true)
    (hlim : s.buffer.length + seg.length > Gen.Http.serverMaxBufferSize) :
    ioStep s seg = ({ s with alive := false }, [], true) := by
  simp [ioStep, ha, hlim]

theorem ioStep_pass (s : Sess) (seg : Bytes) (ha : s.alive = true)
    (hlim : ¬ s.buffer.length + seg.length > Gen.Http.serverMaxBufferSize) :
    ioStep s seg =
      ({ buffer := (drainRaw ((s.buffer ++ seg).length + 1) (s.buffer ++ seg)).2.2,
         alive := !(drainRaw ((s.buffer ++ seg).length + 1) (s.buffer ++ seg)).2.1 },
       (drainRaw ((s.buffer ++ seg).length + 1) (s.buffer ++ seg)).1,
       (drainRaw ((s.buffer ++ seg).length + 1) (s.buffer ++ seg)).2.1) := by
  simp [ioStep, ha, hlim]

theorem srvFeedRaw_dead : ∀ (ss : List Bytes) (s : Sess), s.alive = false → srvFeedRaw s ss = ([], s) := by
  intro ss
  induction ss with
  | nil => intro s _; rfl
  | cons seg ss ih =>
    intro s hs
    simp only [srvFeedRaw, ioStep_dead s seg hs, ih s hs, List.append_nil]

theorem chainTo_shift : ∀ (raws : List Bytes) (d : Bytes) (o a b : Nat),
    chainTo (d.drop o) a raws b → chainTo d (o + a) raws (o + b) := by
  intro raws
  induction raws with
  | nil => intro d o a b h; simp only [chainTo] at h ⊢; omega
  | cons raw t ih =>
    intro d o a b h
    obtain ⟨n, hn, hle, hx, hrest⟩ := h
    simp only [List.length_drop] at hle
    refine ⟨n, hn, by omega, by rw [List.drop_drop] at hx; exact hx, ?_⟩
    have := ih d o (a + n) b hrest
    rw [← Nat.add_assoc] at this
    exact this

theorem chainTo_ext : ∀ (raws : List Bytes) (d x : Bytes) (o o' : Nat),
    chainTo d o raws o' → chainTo (d ++ x) o raws o' := by
  intro raws
  induction raws with
  | nil => intro d x o o' h; exact h
  | cons raw t ih =>
    intro d x o o' h
    obtain ⟨n, hn, hle, hx, hrest⟩ := h
    refine ⟨n, hn, by simp only [List.length_append]; omega, ?_, ih d x _ _ hrest⟩
    rw [List.drop_append_of_le_length (by omega)]
    exact (extractOne_append _ x _ hx (by simp)).1

theorem chainTo_append : ∀ (a b : List Bytes) (d : Bytes) (o m o' : Nat),
    chainTo d o a m → chainTo d m b o' → chainTo d o (a ++ b) o' := by
  intro a
  induction a with
  | nil => intro b d o m o' h1 h2; simp only [chainTo] at h1; subst h1; exact h2
  | cons raw t ih =>
    intro b d o m o' h1 h2
    obtain ⟨n, hn, hle, hx, hrest⟩ := h1
    exact ⟨n, hn, hle, hx, ih b d _ m o' hrest h2⟩

theorem chainTo_mem : ∀ (raws : List Bytes) (d : Bytes) (o o' : Nat), chainTo d o raws o' →
    ∀ raw ∈ raws, ∃ off n, off + n ≤ d.length ∧ extractOne (d.drop off) = .request raw n := by
  intro raws
  induction raws with
  | nil => intro d o o' _ raw h; cases h
  | cons r t ih =>
    intro d o o' h raw hraw
    obtain ⟨n, _, hle, hx, hrest⟩ := h
    rcases List.mem_cons.mp hraw with rfl | hm
    · exact ⟨o, n, hle, hx⟩
    · exact ih d _ o' hrest raw hm

/-- One pass, seen in the stream.  The session buffer `b` is the tail `pre.drop o` of what has been received; the pass runs over
`b ++ seg`, cuts the chain `raws` of `k` bytes off its front and keeps `rest`.  Then `rest` is the tail of `pre ++ seg` from `o + k`, and
`raws` is a chain from `o` to `o + k` of the stream, whatever comes later. -/
theorem chainTo_pass {pre seg b rest : Bytes} {raws : List Bytes} {o k : Nat} (ho : o ≤ pre.length) (hb : b = pre.drop o)
    (hk : k ≤ (b ++ seg).length) (hrest : rest = (b ++ seg).drop k) (hch : chainTo (b ++ seg) 0 raws k) :
    o + k ≤ (pre ++ seg).length ∧ rest = (pre ++ seg).drop (o + k) ∧
      ∀ later, chainTo (pre ++ seg ++ later) o raws (o + k) := by
  have hb2 : b ++ seg = (pre ++ seg).drop o := by rw [hb, List.drop_append_of_le_length ho]
  rw [hb2] at hk hrest hch
  simp only [List.length_drop, List.length_append] at hk
  refine ⟨by simp only [List.length_append]; omega, by rw [hrest, List.drop_drop], fun later => ?_⟩
  exact chainTo_ext _ _ later _ _ (by simpa using chainTo_shift _ (pre ++ seg) o 0 k hch)

theorem drainRaw_chain (f : Nat) : ∀ buf : Bytes,
    ∃ k, k ≤ buf.length ∧ (drainRaw f buf).2.2 = buf.drop k ∧ chainTo buf 0 (drainRaw f buf).1 k := by
  induction f with
  | zero => intro buf; exact ⟨0, Nat.zero_le _, by simp [drainRaw], by simp [drainRaw, chainTo]⟩
  | succ f ih =>
    intro buf
    simp only [drainRaw]
    cases he : extractOne buf with
    | needMore => exact ⟨0, Nat.zero_le _, by simp, by simp [chainTo]⟩
    | close => exact ⟨0, Nat.zero_le _, by simp, by simp [chainTo]⟩
    | request raw0 n0 =>
      by_cases hn : n0 = 0
      · simp only [hn, ↓reduceIte]; exact ⟨0, Nat.zero_le _, by simp, by simp [chainTo]⟩
      · simp only [hn, ↓reduceIte]
        have hle := (extractOne_request_le he).2
        obtain ⟨k, hk, hrest, hch⟩ := ih (buf.drop n0)
        simp only [List.length_drop] at hk
        refine ⟨n0 + k, by omega, by rw [hrest, List.drop_drop], n0, by omega, by omega, by simpa using he, ?_⟩
        simpa using chainTo_shift _ buf n0 0 k hch

theorem drainLoop_rest_le (f : Nat) (buf : Bytes) : (drainLoop f buf).2.2.length ≤ buf.length := by
  obtain ⟨k, _, hr, _⟩ := drainRaw_chain f buf
  rw [drainLoop_raw, hr, List.length_drop]
  omega

theorem hid_buffer_le (s : Sess) (seg : Bytes) :
    (handleIncomingData s seg).1.buffer.length ≤ s.buffer.length + seg.length := by
  by_cases ha : s.alive = true
  · by_cases hlim : s.buffer.length + seg.length > Gen.Http.serverMaxBufferSize
    · rw [hid_over s seg ha hlim]; exact Nat.le_add_right _ _
    · rw [hid_pass s seg ha hlim]
      have := drainLoop_rest_le ((s.buffer ++ seg).length + 1) (s.buffer ++ seg)
      simpa only [List.length_append] using this
  · rw [hid_dead s seg (by simpa using ha)]; exact Nat.le_add_right _ _

theorem fits_of_total : ∀ (ss : List Bytes) (s : Sess),
    s.buffer.length + ss.flatten.length ≤ Gen.Http.serverMaxBufferSize → fits s ss := by
  intro ss
  induction ss with
  | nil => intro s _; trivial
  | cons seg ss ih =>
    intro s hb
    simp only [List.flatten_cons, List.length_append] at hb
    refine ⟨fun _ => by omega, ?_⟩
    apply ih
    have := hid_buffer_le s seg
    omega

/-- generalised over the start state: the session buffer is the tail `pre.drop o` of what has been received (a session that is gone
satisfies this for every `o`, and extracts nothing); a pass moves `o` by what it cuts (`chainTo_pass`) -/
theorem srvFeedRaw_chain : ∀ (ss : List Bytes) (s : Sess) (pre : Bytes) (o : Nat), o ≤ pre.length →
    (s.alive = true → s.buffer = pre.drop o) → ∃ o', chainTo (pre ++ ss.flatten) o (srvFeedRaw s ss).1 o' := by
  intro ss
  induction ss with
  | nil => intro s pre o _ _; exact ⟨o, rfl⟩
  | cons seg ss ih =>
    intro s pre o ho hbuf
    rw [show pre ++ (seg :: ss).flatten = (pre ++ seg) ++ ss.flatten by simp]
    simp only [srvFeedRaw]
    by_cases hal : s.alive = true
    · by_cases hlim : s.buffer.length + seg.length > Gen.Http.serverMaxBufferSize
      · rw [ioStep_over s seg hal hlim, srvFeedRaw_dead ss _ rfl]
        exact ⟨o, rfl⟩
      · obtain ⟨k, hk, hrest, hch⟩ := drainRaw_chain ((s.buffer ++ seg).length + 1) (s.buffer ++ seg)
        obtain ⟨hle, hdrop, hchain⟩ := chainTo_pass ho (hbuf hal) hk hrest hch
        rw [ioStep_pass s seg hal hlim]
        generalize drainRaw ((s.buffer ++ seg).length + 1) (s.buffer ++ seg) = D at hdrop hchain ⊢
        obtain ⟨o', hrec⟩ := ih { buffer := D.2.2, alive := !D.2.1 } (pre ++ seg) (o + k) hle (fun _ => hdrop)
        exact ⟨o', chainTo_append _ _ _ _ _ _ (hchain _) hrec⟩
    · have hd : s.alive = false := by simpa using hal
      rw [ioStep_dead s seg hd, srvFeedRaw_dead ss s hd]
      exact ⟨o, rfl⟩

/-- what the extraction loop leaves of a pipeline: nothing, or a proper prefix of its first request -/
def Partial (b : Bytes) (rs : List ReqSpec) : Prop :=
  b = [] ∨ ∃ r rest, rs = r :: rest ∧ b.length < r.render.length

theorem extract_proper_prefix (r : ReqSpec) (hr : r.OK) (b x y : Bytes) (h : b ++ x = r.render ++ y)
    (hlt : b.length < r.render.length) : extractOne b = .needMore := by
  -- any other answer on `b` would stay on `b ++ x = r.render ++ y`, where the answer is the whole of `r`, longer than `b`
  have hx : extractOne (r.render ++ y) = .request r.raw r.render.length :=
    extract_exact r.line r.before r.after r.body hr.1 hr.2 y
  cases he : extractOne b with
  | needMore => rfl
  | close =>
    have := (extractOne_append b x _ he (by simp)).1
    rw [h, hx] at this; cases this
  | request raw n =>
    have h1 := (extractOne_append b x _ he (by simp)).1
    rw [h, hx] at h1
    cases h1
    have := (extractOne_request_le he).2
    omega

theorem render_pos (r : ReqSpec) : 0 < r.render.length := by
  simp [ReqSpec.render, reqRender, crlf2]; omega

/-- the extraction loop on ANY prefix `buf` of a pipeline of well-formed requests: it extracts the requests that are complete
in `buf`, does not close, and leaves a proper prefix of the next request -/
theorem drain_pipeline_prefix : ∀ (rs : List ReqSpec) (f : Nat) (buf tail : Bytes), (∀ r ∈ rs, r.OK) →
    buf.length < f → buf ++ tail = renderAll rs →
    ∃ m b', drainRaw f buf = ((rs.take m).map ReqSpec.raw, false, b') ∧ b' ++ tail = renderAll (rs.drop m) ∧
      Partial b' (rs.drop m) := by
  intro rs
  induction rs with
  | nil =>
    intro f buf tail _ hf h
    have hb : buf = [] := by
      have : (buf ++ tail).length = 0 := by rw [h]; rfl
      simp only [List.length_append] at this
      exact List.eq_nil_of_length_eq_zero (by omega)
    subst hb
    cases f with
    | zero => omega
    | succ f =>
      refine ⟨0, [], ?_, by simpa using h, Or.inl rfl⟩
      simp [drainRaw, extractOne_noHead (buf := []) rfl]
  | cons r rs ih =>
    intro f buf tail hall hf h
    have hr := hall r (by simp)
    have e : renderAll (r :: rs) = r.render ++ renderAll rs := by simp [renderAll]
    rw [e] at h
    cases f with
    | zero => omega
    | succ f =>
      by_cases hlt : buf.length < r.render.length
      · have hn := extract_proper_prefix r hr buf tail (renderAll rs) h hlt
        refine ⟨0, buf, ?_, by simpa [e] using h, Or.inr ⟨r, rs, rfl, hlt⟩⟩
        simp [drainRaw, hn]
      · have hle : r.render.length ≤ buf.length := by omega
        have ht : buf.take r.render.length = r.render := by
          have h1 : (buf ++ tail).take r.render.length = buf.take r.render.length :=
            List.take_append_of_le_length hle
          rw [← h1, h, List.take_left']
          rfl
        have hdt : buf.drop r.render.length ++ tail = renderAll rs := by
          have h1 : (buf ++ tail).drop r.render.length = buf.drop r.render.length ++ tail :=
            List.drop_append_of_le_length hle
          rw [← h1, h, List.drop_left']
          rfl
        have hbuf : buf = r.render ++ buf.drop r.render.length := by
          conv => lhs; rw [← List.take_append_drop r.render.length buf, ht]
        have hx : extractOne buf = .request r.raw r.render.length := by
          rw [hbuf]
          exact extract_exact r.line r.before r.after r.body hr.1 hr.2 _
        have hpos := render_pos r
        have hne : r.render.length ≠ 0 := by omega
        obtain ⟨m, b', h1, h2, h3⟩ := ih f (buf.drop r.render.length) tail (fun r' hr' => hall r' (by simp [hr']))
          (by simp only [List.length_drop]; omega) hdt
        refine ⟨m + 1, b', ?_, by simpa using h2, by simpa using h3⟩
        simp only [drainRaw, hx, hne, ↓reduceIte, h1, List.take_succ_cons, List.map_cons]

/-- long keep-alive connections: requests of at most `R` bytes in reads of at most `L` bytes with `R + L ≤ MAX_BUFFER_SIZE`,
started with what an earlier pass left (`Partial`), with more of the pipeline still to come (`tail`): every read fits the cap when it
arrives, because what a pass leaves is less than one request -/
theorem keepalive_fits : ∀ (ss : List Bytes) (rs : List ReqSpec) (b tail : Bytes) (R L : Nat),
    (∀ r ∈ rs, r.OK ∧ r.render.length ≤ R) → (∀ seg ∈ ss, seg.length ≤ L) → R + L ≤ Gen.Http.serverMaxBufferSize →
    Partial b rs → b ++ ss.flatten ++ tail = renderAll rs → fits { buffer := b, alive := true } ss := by
  intro ss
  induction ss with
  | nil => intros; trivial
  | cons seg ss ih =>
    intro rs b tail R L hall hseg hRL hp h
    have hsl : seg.length ≤ L := hseg seg (by simp)
    have hbl : b.length + seg.length ≤ Gen.Http.serverMaxBufferSize := by
      rcases hp with hb | ⟨r, rest, hrs, hlt⟩
      · subst hb; simp only [List.length_nil]; omega
      · have := (hall r (by rw [hrs]; simp)).2
        omega
    have hlim : ¬ (b.length + seg.length > Gen.Http.serverMaxBufferSize) := by omega
    obtain ⟨m1, b1, hd, ht1, hp1⟩ := drain_pipeline_prefix rs ((b ++ seg).length + 1) (b ++ seg) (ss.flatten ++ tail)
      (fun r hr => (hall r hr).1) (by omega) (by rw [← h]; simp [List.append_assoc])
    have hio : (handleIncomingData { buffer := b, alive := true } seg).1 = { buffer := b1, alive := true } := by
      rw [hid_ioStep, ioStep_pass { buffer := b, alive := true } seg rfl hlim, hd]
      rfl
    refine ⟨fun _ => hbl, ?_⟩
    rw [hio]
    exact ih (rs.drop m1) b1 tail R L (fun r hr => hall r (List.mem_of_mem_drop hr)) (fun s hs => hseg s (by simp [hs])) hRL hp1
      (by rw [List.append_assoc]; exact ht1)

/-- the general form of S1: `S1_pipeline_exact`, `S3b_header_cap_per_request` and `S1_keepalive_exact` differ in how they meet `fits` -/
theorem pipeline_fits_exact (rs : List ReqSpec) (hall : ∀ r ∈ rs, r.OK) (ss : List Bytes) (hss : ss.flatten = renderAll rs)
    (hf : fits {} ss) :
    (srvFeed {} ss).1 = rs.map (fun r => dispatch r.raw) ∧ (srvFeed {} ss).2 = { buffer := [], alive := true } := by
  -- reads that fit the cap are one pass over their concatenation (the generic theorem, through `Corr`), and a pass over the
  -- renderings hands out the requests, since the extractor reads each rendering back whatever follows it
  have hd : Framing.drain stableParser (renderAll rs) = (rs.map fun r => some (dispatch r.raw), .alive []) :=
    Framing.drain_encoded stableParser rfl ReqSpec.render _ rs fun r hr rest =>
      stableParser_request (extract_exact r.line r.before r.after r.body (hall r hr).1 (hall r hr).2 rest)
  obtain ⟨a1, a2⟩ := srvFeed_eq_feed_fits ss {} (.alive []) rfl hf
  rw [feed_stableParser, hss, hd] at a1 a2
  exact ⟨by rw [a1, List.filterMap_map]; exact congrFun List.filterMap_eq_map rs, a2⟩

theorem extracted_append (a b : List Out) : extracted (a ++ b) = extracted a ++ extracted b := by
  induction a with
  | nil => rfl
  | cons o t ih => cases o <;> simp [extracted, ih]

theorem accepted_append (a b : List Out) : accepted (a ++ b) = accepted a ++ accepted b := by
  induction a with
  | nil => rfl
  | cons o t ih => cases o <;> simp [accepted, ih]

theorem workerEvs_append (a b : List Out) : workerEvs (a ++ b) = workerEvs a ++ workerEvs b := by
  induction a with
  | nil => rfl
  | cons o t ih => cases o <;> simp [workerEvs, ih]

theorem route_extracted : ∀ (raws : List Bytes) (k : Nat), extracted (route raws k).1 = raws := by
  intro raws
  induction raws with
  | nil => intro k; rfl
  | cons raw t ih =>
    intro k
    cases k with
    | zero => simp [route, extracted, ih]
    | succ k => simp [route, extracted, ih]

theorem route_accepted : ∀ (raws : List Bytes) (k : Nat),
    accepted (route raws k).1 = (route raws k).2.1 ∧ workerEvs (route raws k).1 = [] := by
  intro raws
  induction raws with
  | nil => intro k; exact ⟨rfl, rfl⟩
  | cons raw t ih =>
    intro k
    cases k with
    | zero => simp [route, accepted, workerEvs, ih]
    | succ k => simp [route, accepted, workerEvs, ih]

theorem route_all_accepted : ∀ (raws : List Bytes) (k : Nat), raws.length ≤ k →
    (route raws k).1 = raws.map Out.enqueued ∧ (route raws k).2.1 = raws ∧ (route raws k).2.2.2 = false := by
  intro raws
  induction raws with
  | nil => intro k _; exact ⟨rfl, rfl, rfl⟩
  | cons raw t ih =>
    intro k hk
    cases k with
    | zero => simp at hk
    | succ k =>
      obtain ⟨a, b, c⟩ := ih k (by simpa using hk)
      simp [route, a, b, c]

theorem connData_extracted (c : Conn) (seg : Bytes) (slots : Nat) :
    extracted (connData c seg slots).2.1 = (ioStep c.sess seg).2.1 := by
  simp only [connData, extracted_append, route_extracted]
  split <;> simp [extracted]

theorem crun_extracted : ∀ (ops : List COp) (c : Conn),
    ∃ j, j ≤ (segsOf ops).length ∧ extracted (crun c ops).1 = (srvFeedRaw c.sess ((segsOf ops).take j)).1 := by
  intro ops
  induction ops with
  | nil => intro c; exact ⟨0, Nat.le_refl _, rfl⟩
  | cons op ops ih =>
    intro c
    cases op with
    | data seg slots =>
      obtain ⟨j, hj, hje⟩ := ih (connData c seg slots).1
      simp only [crun, cstep, segsOf, extracted_append]
      rw [connData_extracted, hje]
      cases hr : (route (ioStep c.sess seg).2.1 slots).2.2.2 with
      | true =>
        refine ⟨1, by simp, ?_⟩
        have hs : (connData c seg slots).1.sess.alive = false := by simp [connData, hr]
        rw [srvFeedRaw_dead _ _ hs]
        simp [srvFeedRaw]
      | false =>
        refine ⟨j + 1, by simp; omega, ?_⟩
        have hs : (connData c seg slots).1.sess = (ioStep c.sess seg).1 := by simp [connData, hr]
        simp only [List.take_succ_cons, srvFeedRaw, hs]
    | work =>
      obtain ⟨j, hj, hje⟩ := ih (connWork c).1
      simp only [crun, cstep, segsOf, extracted_append]
      have hx : extracted (connWork c).2 = [] ∧ (connWork c).1.sess = c.sess := by
        unfold connWork; split <;> simp [extracted]
      rw [hx.1, hje, List.nil_append, hx.2]
      exact ⟨j, hj, rfl⟩
    | closed =>
      obtain ⟨j, hj, hje⟩ := ih (connClosed c)
      simp only [crun, cstep, segsOf, List.nil_append]
      refine ⟨0, Nat.zero_le _, ?_⟩
      rw [hje, srvFeedRaw_dead _ _ (by simp [connClosed])]
      simp [srvFeedRaw]

theorem crun_workers : ∀ (ops : List COp) (c : Conn),
    workerEvs (crun c ops).1 ++ (crun c ops).2.pending.map dispatch =
      (c.pending ++ accepted (crun c ops).1).map dispatch := by
  intro ops
  induction ops with
  | nil => intro c; simp [crun, workerEvs, accepted]
  | cons op ops ih =>
    intro c
    cases op with
    | data seg slots =>
      have := ih (connData c seg slots).1
      simp only [crun, cstep, workerEvs_append, accepted_append]
      have ha : accepted (connData c seg slots).2.1 = (route (ioStep c.sess seg).2.1 slots).2.1 ∧
          workerEvs (connData c seg slots).2.1 = [] := by
        simp only [connData, accepted_append, workerEvs_append, route_accepted]
        split <;> simp [accepted, workerEvs]
      rw [ha.1, ha.2, List.nil_append, this]
      simp [connData, List.append_assoc]
    | work =>
      have := ih (connWork c).1
      simp only [crun, cstep, workerEvs_append, accepted_append]
      cases hp : c.pending with
      | nil =>
        have h1 : connWork c = (c, []) := by simp [connWork, hp]
        rw [h1] at this ⊢
        simpa [workerEvs, accepted, hp] using this
      | cons raw t =>
        have h2 : (connWork c).2 = [.worker (dispatch raw)] ∧ (connWork c).1.pending = t := by
          simp [connWork, hp]
        rw [h2.1, List.append_assoc, this, h2.2]
        simp [workerEvs, accepted]
    | closed =>
      have := ih (connClosed c)
      simpa [crun, cstep, workerEvs, accepted, connClosed] using this

/-- the request loop with the `break` behind an Upgrade request is the HTTP-only loop on less fuel: it stops where that one stops
when its fuel runs out -/
theorem drainRawU_fuel (f : Nat) : ∀ buf : Bytes, ∃ g, g ≤ f ∧ ((drainRawU f buf).2.2.2 = false → g = f) ∧
    drainRaw g buf = ((drainRawU f buf).1, (drainRawU f buf).2.1, (drainRawU f buf).2.2.1) := by
  induction f with
  | zero => intro buf; exact ⟨0, Nat.le_refl _, fun _ => rfl, rfl⟩
  | succ f ih =>
    intro buf
    simp only [drainRawU]
    cases he : extractOne buf with
    | needMore => exact ⟨f + 1, Nat.le_refl _, fun _ => rfl, by simp [drainRaw, he]⟩
    | close => exact ⟨f + 1, Nat.le_refl _, fun _ => rfl, by simp [drainRaw, he]⟩
    | request raw n =>
      by_cases hn : n = 0
      · exact ⟨f + 1, Nat.le_refl _, fun _ => rfl, by simp [drainRaw, he, hn]⟩
      · by_cases hu : hasUpgrade buf = true
        · exact ⟨1, by omega, by simp [hn, hu], by simp [drainRaw, he, hn, hu]⟩
        · obtain ⟨g, hg, hstop, hd⟩ := ih (buf.drop n)
          exact ⟨g + 1, by omega, by simpa [hn, hu] using hstop, by simp [drainRaw, he, hn, hu, hd]⟩

theorem drainRawU_chain (f : Nat) (buf : Bytes) :
    ∃ k, k ≤ buf.length ∧ (drainRawU f buf).2.2.1 = buf.drop k ∧ chainTo buf 0 (drainRawU f buf).1 k := by
  obtain ⟨g, _, _, hd⟩ := drainRawU_fuel f buf
  have := drainRaw_chain g buf
  rwa [hd] at this

theorem drainRawU_no_stop (f : Nat) (buf : Bytes) (h : (drainRawU f buf).2.2.2 = false) :
    drainRaw f buf = ((drainRawU f buf).1, (drainRawU f buf).2.1, (drainRawU f buf).2.2.1) := by
  obtain ⟨g, _, hg, hd⟩ := drainRawU_fuel f buf
  rwa [hg h] at hd

theorem tagLast_fst : ∀ (raws : List Bytes) (stop : Bool), (tagLast raws stop).map Prod.fst = raws := by
  intro raws
  induction raws with
  | nil => intro _; rfl
  | cons raw t ih =>
    intro stop
    cases t with
    | nil => rfl
    | cons r2 t2 => simp only [tagLast, List.map_cons]; rw [ih stop]

theorem routeU_extracted : ∀ (l : List (Bytes × Bool)) (k : Nat), extracted (routeU l k).1 = l.map Prod.fst := by
  intro l
  induction l with
  | nil => intro k; rfl
  | cons p t ih =>
    intro k
    obtain ⟨raw, f⟩ := p
    cases k with
    | zero => simp [routeU, extracted, ih]
    | succ k => simp [routeU, extracted, ih]

theorem connDataU_dead (c : ConnU) (seg : Bytes) (slots : Nat) (hd : c.sess.alive = false) :
    connDataU c seg slots = (c, [], slots) := by
  unfold connDataU; simp only [hd, Bool.not_false, ↓reduceIte, ite_self]

theorem connDataU_over (c : ConnU) (seg : Bytes) (slots : Nat) (ha : c.sess.alive = true)
    (hlim : c.sess.buffer.length + seg.length > Gen.Http.serverMaxBufferSize) :
    connDataU c seg slots = ({ c with sess := { c.sess with alive := false } }, [.ioClose], slots) := by
  unfold connDataU; simp [ha, hlim]

theorem connDataU_held (c : ConnU) (seg : Bytes) (slots : Nat) (hh : c.hold = true) (ha : c.sess.alive = true)
    (hlim : ¬ c.sess.buffer.length + seg.length > Gen.Http.serverMaxBufferSize) :
    connDataU c seg slots = ({ c with sess := { c.sess with buffer := c.sess.buffer ++ seg } }, [], slots) := by
  unfold connDataU; simp [hh, ha, hlim]

theorem connDataU_scan (c : ConnU) (seg : Bytes) (slots : Nat) (hh : c.hold = false) (ha : c.sess.alive = true)
    (hlim : ¬ c.sess.buffer.length + seg.length > Gen.Http.serverMaxBufferSize) :
    connDataU c seg slots =
      (let r := drainRawU ((c.sess.buffer ++ seg).length + 1) (c.sess.buffer ++ seg)
       let rt := routeU (tagLast r.1 r.2.2.2) slots
       ({ sess := { buffer := r.2.2.1, alive := !(r.2.1 || rt.2.2.2) }, hold := r.2.2.2 && !rt.2.2.2,
          pending := c.pending ++ rt.2.1 },
        rt.1 ++ (if r.2.1 then [.ioClose] else []), rt.2.2.1)) := by
  unfold connDataU
  simp only [hh, ha, hlim, Bool.false_eq_true, ↓reduceIte, Bool.not_true]

/-- a scanning pass: what is extracted and what is kept are the request loop's, whatever the pool answers -/
theorem connDataU_pass (c : ConnU) (seg : Bytes) (slots : Nat) (hh : c.hold = false) (ha : c.sess.alive = true)
    (hlim : ¬ c.sess.buffer.length + seg.length > Gen.Http.serverMaxBufferSize) :
    extracted (connDataU c seg slots).2.1 = (drainRawU ((c.sess.buffer ++ seg).length + 1) (c.sess.buffer ++ seg)).1 ∧
    (connDataU c seg slots).1.sess.buffer =
      (drainRawU ((c.sess.buffer ++ seg).length + 1) (c.sess.buffer ++ seg)).2.2.1 := by
  rw [connDataU_scan c seg slots hh ha hlim]
  simp only [extracted_append, routeU_extracted, tagLast_fst, and_true]
  split <;> simp [extracted]

/-- `srvFeedRaw_chain` for every interleaving of reads, pool answers, worker runs, close callbacks and upgrade holds, generalised in
the same way -/
theorem crunU_chain : ∀ (ops : List COp) (c : ConnU) (pre : Bytes) (o : Nat), o ≤ pre.length →
    (c.sess.alive = true → c.sess.buffer = pre.drop o) →
    ∃ o', chainTo (pre ++ (segsOf ops).flatten) o (extracted (crunU c ops).1) o' := by
  intro ops
  induction ops with
  | nil => intro c pre o _ _; exact ⟨o, rfl⟩
  | cons op ops ih =>
    intro c pre o ho hbuf
    cases op with
    | work =>
      have hx : extracted (connWorkU c).2 = [] ∧ (connWorkU c).1.sess = c.sess := by
        unfold connWorkU; split <;> simp [extracted]
      simp only [crunU, cstepU, segsOf, extracted_append, hx.1, List.nil_append]
      exact ih _ pre o ho (by rw [hx.2]; exact hbuf)
    | closed => exact ih (connClosedU c) pre o ho (fun h => by simp [connClosedU] at h)
    | data seg slots =>
      rw [show pre ++ (segsOf (COp.data seg slots :: ops)).flatten = (pre ++ seg) ++ (segsOf ops).flatten by
        simp [segsOf, List.append_assoc]]
      simp only [crunU, cstepU, extracted_append]
      have hpl : o ≤ (pre ++ seg).length := by simp only [List.length_append]; omega
      by_cases hal : c.sess.alive = true
      · by_cases hlim : c.sess.buffer.length + seg.length > Gen.Http.serverMaxBufferSize
        · rw [connDataU_over c seg slots hal hlim]
          exact ih _ (pre ++ seg) o hpl (fun h => by simp at h)
        · by_cases hh : c.hold = true
          · rw [connDataU_held c seg slots hh hal hlim]
            exact ih _ (pre ++ seg) o hpl
              (fun _ => (by rw [hbuf hal, List.drop_append_of_le_length ho] : c.sess.buffer ++ seg = (pre ++ seg).drop o))
          · obtain ⟨hx, hs⟩ := connDataU_pass c seg slots (by simpa using hh) hal hlim
            obtain ⟨k, hk, hrest, hch⟩ := drainRawU_chain ((c.sess.buffer ++ seg).length + 1) (c.sess.buffer ++ seg)
            obtain ⟨hle, hdrop, hchain⟩ := chainTo_pass ho (hbuf hal) hk hrest hch
            obtain ⟨o', hrec⟩ := ih (connDataU c seg slots).1 (pre ++ seg) (o + k) hle (fun _ => hs.trans hdrop)
            rw [hx]
            exact ⟨o', chainTo_append _ _ _ _ _ _ (hchain _) hrec⟩
      · rw [connDataU_dead c seg slots (by simpa using hal)]
        exact ih c (pre ++ seg) o hpl (fun h => absurd h hal)

end Iora.Http.Srv
