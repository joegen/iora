import IoraModel.Model.KvLog
import IoraModel.Lemmas.KvMap
/-! Lemmas about the on-disk format of `Model/KvLog.lean`: codec round trip, torn tails, the offset at which `load` cuts a log
(`framesLen`), snapshots, per-key replay algebra; crash images of a trace of file operations. -/
namespace Iora.Kv
open Iora

@[simp] theorem i64le_length (e : Int) : (i64le e).length = 8 := rfl

theorem i64_roundtrip (e : Int) (h1 : -9223372036854775808 ≤ e) (h2 : e < 9223372036854775808) :
    i64of (leNat (i64le e)) = e := by
  -- two's complement: the residue fits 64 bits; its sign bit is the sign of `e`
  unfold i64le i64of
  rw [leNat_le64 _ (by omega)]
  split <;> omega

theorem plausible_range {l : Lim} (hl : l.OK) {e : Int} (h : plausible l e = true) :
    0 < e ∧ e ≤ l.maxPlausible ∧ e < 9223372036854775808 ∧ e ≠ sentinel := by
  unfold plausible at h
  simp only [Bool.and_eq_true, bne_iff_ne, ne_eq, decide_eq_true_eq] at h
  have := hl.plaus
  refine ⟨h.1.2, h.2, by omega, h.1.1⟩

theorem exp_range {l : Lim} (hl : l.OK) {e : Int} (h : e = sentinel ∨ plausible l e = true) :
    -9223372036854775808 ≤ e ∧ e < 9223372036854775808 := by
  rcases h with h | h
  · subst h; unfold sentinel; omega
  · obtain ⟨p1, p2, p3, p4⟩ := plausible_range hl h; omega

theorem plausible_of {l : Lim} {e : Int} (h0 : 0 < e) (h1 : e ≤ l.maxPlausible) : plausible l e = true := by
  unfold plausible sentinel
  simp only [Bool.and_eq_true, bne_iff_ne, ne_eq, decide_eq_true_eq]
  omega

theorem plausible_le {l : Lim} {e : Int} (h : plausible l e = true) : e ≤ l.maxPlausible := by
  unfold plausible at h
  simp only [Bool.and_eq_true, decide_eq_true_eq] at h
  exact h.2

theorem sentinel_roundtrip : i64of (leNat (i64le sentinel)) = sentinel :=
  i64_roundtrip sentinel (by unfold sentinel; omega) (by unfold sentinel; omega)

/-- `List.take_left'` and `List.drop_left'` with the width explicit, so that `rw` finds where to split -/
theorem take_append_len {α : Type} (a b : List α) (n : Nat) (h : a.length = n) : (a ++ b).take n = a := by
  rw [List.take_left' h]
theorem drop_append_len {α : Type} (a b : List α) (n : Nat) (h : a.length = n) : (a ++ b).drop n = b := by
  rw [List.drop_left' h]

theorem WF_key {l : Lim} {r : Rec} (h : r.WF l) : 1 ≤ r.key.length ∧ r.key.length ≤ l.maxKey := by
  cases r <;> simp only [Rec.WF, Rec.key] at * <;> omega

theorem parseS_ok (l : Lim) (hl : l.OK) (k : Key) (v c : Bytes) (hv : v.length ≤ l.maxVal) (hc : c.length = 4) :
    parseS l k (le32 v.length ++ (v ++ c)) = some (.set k v) := by
  unfold parseS
  have h32 : v.length < 2 ^ 32 := by have := hl.val; have := hl.max; have := hl.u32; omega
  have h1 : ¬ (le32 v.length ++ (v ++ c)).length < 4 := by simp
  simp only [h1, ↓reduceIte]
  rw [take_append_len _ _ 4 rfl, drop_append_len _ _ 4 rfl, leNat_le32 _ h32]
  have h2 : ¬ (v.length > l.ldVal ∨ (v ++ c).length < v.length + 4) := by
    have := hl.val; simp [hc]; omega
  simp only [h2, ↓reduceIte]
  rw [take_append_len _ _ _ rfl]

theorem parseE_ok (l : Lim) (hl : l.OK) (k : Key) (v c : Bytes) (e : Int) (hv : v.length ≤ l.maxVal) (hc : c.length = 4)
    (he : plausible l e = true) :
    parseE l k (i64le e ++ (le32 v.length ++ (v ++ c))) = some (.setE k v e) := by
  unfold parseE
  have h32 : v.length < 2 ^ 32 := by have := hl.val; have := hl.max; have := hl.u32; omega
  have h1 : ¬ (i64le e ++ (le32 v.length ++ (v ++ c))).length < 12 := by simp; omega
  simp only [h1, ↓reduceIte]
  rw [take_append_len _ _ 8 rfl, drop_append_len _ _ 8 rfl, take_append_len _ _ 4 rfl, drop_append_len _ _ 4 rfl,
    leNat_le32 _ h32]
  obtain ⟨p1, p2, p3, p4⟩ := plausible_range hl he
  rw [i64_roundtrip e (by omega) p3]
  have h2 : ¬ (v.length > l.ldVal ∨ (v ++ c).length < v.length + 4) := by
    have := hl.val; simp [hc]; omega
  simp only [h2, ↓reduceIte, he, Bool.not_true, Bool.false_eq_true]
  rw [take_append_len _ _ _ rfl]

theorem parseX_ok (k : Key) (c : Bytes) (e : Int) (hc : c.length = 4)
    (h1 : -9223372036854775808 ≤ e) (h2 : e < 9223372036854775808) :
    parseX k (i64le e ++ c) = some (.exp k e) := by
  unfold parseX
  have h0 : ¬ (i64le e ++ c).length < 12 := by simp [hc]
  simp only [h0, ↓reduceIte]
  rw [take_append_len _ _ 8 rfl, i64_roundtrip e h1 h2]

theorem parseFields_hdr (l : Lim) (hl : l.OK) (op : UInt8) (k : Key) (rest : Bytes)
    (hop : op = opS ∨ op = opD ∨ op = opE ∨ op = opX) (hk1 : 1 ≤ k.length) (hk2 : k.length ≤ l.maxKey) :
    parseFields l (op :: (le32 k.length ++ (k ++ rest))) =
      (if op = opS then parseS l k rest else if op = opE then parseE l k rest
       else if op = opX then parseX k rest else some (.del k)) := by
  unfold parseFields
  have h32 : k.length < 2 ^ 32 := by have := hl.key; have := hl.max; have := hl.u32; omega
  have h0 : ¬ (op ≠ opS ∧ op ≠ opD ∧ op ≠ opE ∧ op ≠ opX) := by
    rcases hop with h | h | h | h <;> simp [h]
  have h1 : ¬ (le32 k.length ++ (k ++ rest)).length < 4 := by simp
  simp only [h0, h1, ↓reduceIte]
  rw [take_append_len _ _ 4 rfl, drop_append_len _ _ 4 rfl, leNat_le32 _ h32]
  have h2 : ¬ (k.length = 0 ∨ k.length > l.ldKey ∨ (k ++ rest).length < k.length) := by
    have := hl.key; simp only [List.length_append]; omega
  simp only [h2, ↓reduceIte]
  rw [take_append_len _ _ _ rfl, drop_append_len _ _ _ rfl]

theorem parseFields_ok (l : Lim) (hl : l.OK) (r : Rec) (h : r.WF l) (c : Bytes) (hc : c.length = 4) :
    parseFields l (r.body ++ c) = some r := by
  cases r with
  | set k v =>
    obtain ⟨h1, h2, h3⟩ := h
    simp only [Rec.body, List.cons_append, List.append_assoc]
    rw [parseFields_hdr l hl opS k _ (.inl rfl) h1 h2]
    simp only [↓reduceIte]
    exact parseS_ok l hl k v c h3 hc
  | setE k v e =>
    obtain ⟨h1, h2, h3, h4⟩ := h
    simp only [Rec.body, List.cons_append, List.append_assoc]
    rw [parseFields_hdr l hl opE k _ (.inr (.inr (.inl rfl))) h1 h2]
    have : opE ≠ opS := by decide
    simp only [this, ↓reduceIte]
    exact parseE_ok l hl k v c e h3 hc h4
  | exp k e =>
    obtain ⟨h1, h2, h3⟩ := h
    simp only [Rec.body, List.cons_append, List.append_assoc]
    rw [parseFields_hdr l hl opX k _ (.inr (.inr (.inr rfl))) h1 h2]
    have a : opX ≠ opS := by decide
    have b : opX ≠ opE := by decide
    simp only [a, b, ↓reduceIte]
    obtain ⟨r1, r2⟩ := exp_range hl h3
    exact parseX_ok k c e hc r1 r2
  | del k =>
    obtain ⟨h1, h2⟩ := h
    simp only [Rec.body, List.cons_append, List.append_assoc]
    have := parseFields_hdr l hl opD k c (.inr (.inl rfl)) h1 h2
    have a : opD ≠ opS := by decide
    have b : opD ≠ opE := by decide
    have d : opD ≠ opX := by decide
    simp only [a, b, d, ↓reduceIte] at this
    exact this

theorem body_length_ge (r : Rec) : 5 + r.key.length ≤ r.body.length := by
  cases r <;> simp [Rec.body, Rec.key] <;> omega

theorem body_length_le (l : Lim) (r : Rec) (h : r.WF l) : r.body.length ≤ 1 + 4 + l.maxKey + 8 + 4 + l.maxVal := by
  cases r <;> simp only [Rec.WF] at h <;> simp [Rec.body] <;> omega

/-- a record written by `writeLogEntry` is read back by the replay loop, whatever `crc` is -/
theorem parseBuf_ok (l : Lim) (hl : l.OK) (crc : Bytes → UInt32) (r : Rec) (h : r.WF l) :
    parseBuf l crc (r.body ++ le32 (crc r.body).toNat) = some r := by
  unfold parseBuf
  have hlen : (r.body ++ le32 (crc r.body).toNat).length = r.body.length + 4 := by simp
  have hk := WF_key h
  have hb := body_length_ge r
  simp only [hlen]
  have h1 : ¬ r.body.length + 4 < 10 := by omega
  simp only [h1, ↓reduceIte, Nat.add_sub_cancel]
  rw [take_append_len _ _ _ rfl, drop_append_len _ _ _ rfl]
  have hcrc : leNat (le32 (crc r.body).toNat) = (crc r.body).toNat :=
    leNat_le32 _ (crc r.body).toNat_lt
  simp only [hcrc, ne_eq, not_true_eq_false, ↓reduceIte]
  exact parseFields_ok l hl r h _ rfl

/-- `[totalLen:4][totalLen bytes]`, whatever the bytes are -/
def frame (b : Bytes) : Bytes := le32 b.length ++ b

theorem encode_eq_frame (crc : Bytes → UInt32) (r : Rec) : encode crc r = frame (r.body ++ le32 (crc r.body).toNat) := by
  simp [encode, frame]

/-- the bounds `load` puts on `totalLen` admit every record `writeLogEntry` produces -/
theorem encode_bounds (l : Lim) (hl : l.OK) (crc : Bytes → UInt32) (r : Rec) (h : r.WF l) :
    l.ldMin ≤ (r.body ++ le32 (crc r.body).toNat).length ∧ (r.body ++ le32 (crc r.body).toNat).length ≤ l.ldMax := by
  have hk := WF_key h
  have hb := body_length_ge r
  have hb2 := body_length_le l r h
  have hmax := hl.max
  have hmin := hl.min
  simp only [List.length_append, le32_length]
  omega

/-- the loop reads one complete frame of admissible length, whatever it holds -/
theorem replayLoop_frame (l : Lim) (hl : l.OK) (crc : Bytes → UInt32) (b rest : Bytes) (h1 : l.ldMin ≤ b.length)
    (h2 : b.length ≤ l.ldMax) (st : LState) (off : Nat) :
    replayLoop l crc (frame b ++ rest) st off
      = replayLoop l crc rest (match parseBuf l crc b with | some r => applyRec l st r | none => st) (off + 4 + b.length) := by
  rw [replayLoop]
  have h32 : b.length < 2 ^ 32 := by have := hl.u32; omega
  have hlen : ¬ (frame b ++ rest).length < 4 := by simp [frame]
  simp only [hlen, ↓reduceDIte]
  have htake : (frame b ++ rest).take 4 = le32 b.length := by
    simp only [frame, List.append_assoc]; exact take_append_len _ _ 4 rfl
  have hdrop : (frame b ++ rest).drop 4 = b ++ rest := by
    simp only [frame, List.append_assoc]; exact drop_append_len _ _ 4 rfl
  rw [htake, hdrop, leNat_le32 _ h32]
  have c1 : ¬ (b.length < l.ldMin ∨ b.length > l.ldMax) := by omega
  have c2 : ¬ (b ++ rest).length < b.length := by simp
  simp only [c1, c2, ↓reduceIte]
  rw [take_append_len _ _ _ rfl, drop_append_len _ _ _ rfl]
  rfl

theorem replayLoop_encode (l : Lim) (hl : l.OK) (crc : Bytes → UInt32) (r : Rec) (h : r.WF l) (rest : Bytes)
    (st : LState) (off : Nat) :
    replayLoop l crc (encode crc r ++ rest) st off
      = replayLoop l crc rest (applyRec l st r) (off + (encode crc r).length) := by
  obtain ⟨h1, h2⟩ := encode_bounds l hl crc r h
  rw [encode_eq_frame, replayLoop_frame l hl crc _ rest h1 h2, parseBuf_ok l hl crc r h]
  congr 1
  simp [frame]
  omega

/-- **D1** in continuation form: a sequence of written records is replayed record by record, whatever follows -/
theorem replayLoop_records (l : Lim) (hl : l.OK) (crc : Bytes → UInt32) (rs : List Rec) (h : ∀ r ∈ rs, r.WF l) :
    ∀ (rest : Bytes) (st : LState) (off : Nat),
      replayLoop l crc (rs.flatMap (encode crc) ++ rest) st off
        = replayLoop l crc rest (rs.foldl (applyRec l) st) (off + (rs.flatMap (encode crc)).length) := by
  induction rs with
  | nil => intro rest st off; simp
  | cons r rs ih =>
    intro rest st off
    simp only [List.flatMap_cons, List.append_assoc, List.foldl_cons]
    rw [replayLoop_encode l hl crc r (h r (by simp)), ih (fun x hx => h x (by simp [hx]))]
    simp only [List.length_append]
    congr 1
    omega

theorem replayLoop_nil (l : Lim) (crc : Bytes → UInt32) (st : LState) (off : Nat) :
    replayLoop l crc [] st off = (st, off) := by
  rw [replayLoop]; simp

/-- a strict prefix of one more frame stops the loop — by the length prefix alone -/
theorem replayLoop_torn_frame (l : Lim) (hl : l.OK) (crc : Bytes → UInt32) (b p q : Bytes) (h1 : l.ldMin ≤ b.length)
    (h2 : b.length ≤ l.ldMax) (hpq : p ++ q = frame b) (hq : q ≠ []) (st : LState) (off : Nat) :
    replayLoop l crc p st off = (st, off) := by
  rw [replayLoop]
  by_cases h4 : p.length < 4
  · simp [h4]
  · simp only [h4, ↓reduceDIte]
    have h32 : b.length < 2 ^ 32 := by have := hl.u32; omega
    have hlen : p.length + q.length = 4 + b.length := by
      have := congrArg List.length hpq
      simpa [frame] using this
    have hqpos : 0 < q.length := List.length_pos_iff.mpr hq
    have htake : p.take 4 = le32 b.length := by
      have : (p ++ q).take 4 = p.take 4 := by rw [List.take_append_of_le_length (by omega)]
      rw [← this, hpq]
      simp only [frame]; exact take_append_len _ _ 4 rfl
    rw [htake, leNat_le32 _ h32]
    have c1 : ¬ (b.length < l.ldMin ∨ b.length > l.ldMax) := by omega
    have c2 : (p.drop 4).length < b.length := by simp only [List.length_drop]; omega
    simp only [c1, c2, ↓reduceIte]

/-- **D2**: a strict prefix of one more written record stops the loop, whatever `crc` is -/
theorem replayLoop_torn (l : Lim) (hl : l.OK) (crc : Bytes → UInt32) (r : Rec) (h : r.WF l) (p q : Bytes)
    (hpq : p ++ q = encode crc r) (hq : q ≠ []) (st : LState) (off : Nat) :
    replayLoop l crc p st off = (st, off) :=
  replayLoop_torn_frame l hl crc _ p q (encode_bounds l hl crc r h).1 (encode_bounds l hl crc r h).2
    (hpq.trans (encode_eq_frame crc r)) hq st off

theorem replayLoop_records_torn (l : Lim) (hl : l.OK) (crc : Bytes → UInt32) (rs : List Rec) (h : ∀ r ∈ rs, r.WF l)
    (r : Rec) (hr : r.WF l) (p q : Bytes) (hpq : p ++ q = encode crc r) (hq : q ≠ []) (st : LState) (off : Nat) :
    replayLoop l crc (rs.flatMap (encode crc) ++ p) st off
      = (rs.foldl (applyRec l) st, off + (rs.flatMap (encode crc)).length) := by
  rw [replayLoop_records l hl crc rs h, replayLoop_torn l hl crc r hr p q hpq hq]

theorem replayLoop_records_all (l : Lim) (hl : l.OK) (crc : Bytes → UInt32) (rs : List Rec) (h : ∀ r ∈ rs, r.WF l)
    (st : LState) (off : Nat) :
    replayLoop l crc (rs.flatMap (encode crc)) st off
      = (rs.foldl (applyRec l) st, off + (rs.flatMap (encode crc)).length) := by
  have := replayLoop_records l hl crc rs h [] st off
  rw [List.append_nil] at this
  rw [this, replayLoop_nil]

/-- the length of the longest prefix of `d` made of complete frames `[totalLen:4][totalLen bytes]` with an admissible
`totalLen` — defined without looking at CRCs, op letters, keys or the replayed state -/
def framesLen (l : Lim) (d : Bytes) : Nat :=
  if h4 : d.length < 4 then 0
  else
    let total := leNat (d.take 4)
    if total < l.ldMin ∨ total > l.ldMax then 0
    else if (d.drop 4).length < total then 0
    else 4 + total + framesLen l ((d.drop 4).drop total)
termination_by d.length
decreasing_by simp only [List.length_drop]; omega

/-- `goodEnd` is advanced by every record that was read completely — also by one the replay then skips (CRC mismatch, unknown
op letter, bad inner lengths, orphan 'X', implausible expiry): it does not depend on `crc`, on the parse or on the state -/
theorem replayLoop_goodEnd (l : Lim) (crc : Bytes → UInt32) (d : Bytes) (st : LState) (off : Nat) :
    (replayLoop l crc d st off).2 = off + framesLen l d := by
  fun_induction replayLoop l crc d st off with
  | case1 d st off h4 => rw [framesLen]; simp [h4]
  | case2 d st off h4 total hb => rw [framesLen]; simp [h4, hb, total]
  | case3 d st off h4 total hb r hs => rw [framesLen]; simp only [h4, ↓reduceDIte]; rw [if_neg hb, if_pos hs]; rfl
  | case4 d st off h4 total hb r hs st' ih =>
    rw [ih, framesLen.eq_1 l d]
    simp only [h4, ↓reduceDIte]
    rw [if_neg hb, if_neg hs]
    simp only [total, r]
    omega

theorem framesLen_frame (l : Lim) (hl : l.OK) (b rest : Bytes) (h1 : l.ldMin ≤ b.length) (h2 : b.length ≤ l.ldMax) :
    framesLen l (frame b ++ rest) = 4 + b.length + framesLen l rest := by
  -- `framesLen` is the second component of `replayLoop` for any `crc` and any state, so what is known of the loop carries over
  have g := replayLoop_goodEnd l (fun _ => 0) (frame b ++ rest) {} 0
  rw [replayLoop_frame l hl _ b rest h1 h2, replayLoop_goodEnd] at g
  omega

theorem framesLen_frames (l : Lim) (hl : l.OK) (bs : List Bytes) (h : ∀ b ∈ bs, l.ldMin ≤ b.length ∧ b.length ≤ l.ldMax) (rest : Bytes) :
    framesLen l (bs.flatMap frame ++ rest) = (bs.flatMap frame).length + framesLen l rest := by
  induction bs with
  | nil => simp
  | cons b r ih =>
    simp only [List.flatMap_cons, List.append_assoc]
    rw [framesLen_frame l hl b _ (h b (by simp)).1 (h b (by simp)).2, ih (fun x hx => h x (by simp [hx]))]
    simp [frame]; omega

theorem framesLen_torn (l : Lim) (hl : l.OK) (b p q : Bytes) (h1 : l.ldMin ≤ b.length) (h2 : b.length ≤ l.ldMax)
    (hpq : p ++ q = frame b) (hq : q ≠ []) : framesLen l p = 0 := by
  have g := replayLoop_goodEnd l (fun _ => 0) p {} 0
  rw [replayLoop_torn_frame l hl _ b p q h1 h2 hpq hq] at g
  omega

theorem framesLen_le (l : Lim) (d : Bytes) : framesLen l d ≤ d.length := by
  fun_induction framesLen l d with
  | case1 d h4 => omega
  | case2 d h4 total hb => omega
  | case3 d h4 total hb hs => omega
  | case4 d h4 total hb hs ih => simp only [List.length_drop] at ih hs; omega

theorem framesLen_drop (l : Lim) (d : Bytes) : framesLen l (d.drop (framesLen l d)) = 0 := by
  fun_induction framesLen l d with
  | case1 d h4 => rw [List.drop_zero, framesLen]; simp [h4]
  | case2 d h4 total hb => rw [List.drop_zero, framesLen]; simp [h4, hb, total]
  | case3 d h4 total hb hs => rw [List.drop_zero, framesLen]; simp only [h4, ↓reduceDIte]; rw [if_neg hb, if_pos hs]
  | case4 d h4 total hb hs ih => rw [← List.drop_drop, ← List.drop_drop]; exact ih

/-- what the constructor leaves of ANY log it finds: the counted prefix -/
theorem openStore_log (l : Lim) (crc : Bytes → UInt32) (fs : Fs) (lg : Bytes) (hlog : fs.log = some lg)
    (now : Int) (st : LState) (ops : List FsOp) (h : openStore l crc fs now = .ok (st, ops)) :
    (applyAll fs ops).log = some (lg.take (framesLen l lg)) := by
  unfold openStore at h
  cases hs : loadSnapOpt l fs.snap with
  | error e => rw [hs] at h; cases h
  | ok st0 =>
    rw [hs, hlog] at h
    simp only [Except.ok.injEq, Prod.mk.injEq] at h
    obtain ⟨_, hops⟩ := h
    have hg := replayLoop_goodEnd l crc lg st0 0
    simp only [Nat.zero_add] at hg
    rw [hg] at hops
    have hle := framesLen_le l lg
    by_cases hlt : framesLen l lg < lg.length
    · simp only [hlt, ↓reduceIte] at hops
      subst hops
      simp [applyAll, FsOp.apply, Fs.set, Fs.get, hlog]
    · simp only [hlt, ↓reduceIte] at hops
      subst hops
      have : framesLen l lg = lg.length := by omega
      simp [applyAll, hlog, this]

/-- one snapshot entry as `load` applies it -/
def snapApply (st : LState) (x : Key × Val × Option Int) : LState :=
  match x.2.2 with
  | none => { st with kv := st.kv.put x.1 x.2.1 }
  | some e => { kv := st.kv.put x.1 x.2.1, exp := st.exp.put x.1 e }

def snapState (ents : List (Key × Val × Option Int)) : LState := ents.foldl snapApply {}

/-- what `compactLocked` writes: valid keys and values, plausible expiries -/
def EntWF (l : Lim) (x : Key × Val × Option Int) : Prop :=
  1 ≤ x.1.length ∧ x.1.length ≤ l.maxKey ∧ x.2.1.length ≤ l.maxVal ∧ ∀ e, x.2.2 = some e → plausible l e = true

theorem snapEntries_ok (l : Lim) (hl : l.OK) (ents : List (Key × Val × Option Int)) (h : ∀ x ∈ ents, EntWF l x) :
    ∀ (rest : Bytes) (st : LState),
      snapEntries l 2 ents.length (ents.flatMap snapEntry ++ rest) st = .ok (ents.foldl snapApply st) := by
  induction ents with
  | nil => intro rest st; rfl
  | cons x r ih =>
    intro rest st
    obtain ⟨k, v, eo⟩ := x
    obtain ⟨h1, h2, h3, h4⟩ := h (k, v, eo) (by simp)
    simp only at h1 h2 h3 h4
    have hk32 : k.length < 2 ^ 32 := by have := hl.key; have := hl.max; have := hl.u32; omega
    have hv32 : v.length < 2 ^ 32 := by have := hl.val; have := hl.max; have := hl.u32; omega
    simp only [List.length_cons, List.flatMap_cons, snapEntry, List.append_assoc, snapEntries, List.foldl_cons]
    rw [takeN_left (n := 4) _ _ rfl]  -- keyLen
    simp only [leNat_le32 _ hk32]
    have c1 : ¬ (k.length = 0 ∨ k.length > l.ldKey) := by have := hl.key; omega
    simp only [c1, ↓reduceIte]
    rw [takeN_left _ _ rfl]  -- key
    simp only
    rw [takeN_left (n := 8) _ _ rfl]  -- expiry
    simp only [Option.map_some]
    rw [takeN_left (n := 4) _ _ rfl]  -- valLen
    simp only [leNat_le32 _ hv32]
    have c2 : ¬ v.length > l.ldVal := by have := hl.val; omega
    simp only [c2, ↓reduceIte]
    rw [takeN_left _ _ rfl]  -- value
    simp only
    cases eo with
    | none =>
      simp only [Option.getD_none, sentinel_roundtrip, ↓reduceIte]
      exact ih (fun y hy => h y (by simp [hy])) rest _
    | some e =>
      have hp := h4 e rfl
      obtain ⟨p1, p2, p3, p4⟩ := plausible_range hl hp
      simp only [Option.getD_some]
      rw [i64_roundtrip e (by omega) p3]
      simp only [p4, ↓reduceIte, hp]
      exact ih (fun y hy => h y (by simp [hy])) rest _

/-- every entry `compactLocked` writes takes at least 17 bytes (keyLen:4, a non-empty key, expiry:8, valLen:4) -/
theorem snapEntries_length (l : Lim) (ents : List (Key × Val × Option Int)) (h : ∀ x ∈ ents, EntWF l x) :
    17 * ents.length ≤ (ents.flatMap snapEntry).length := by
  induction ents with
  | nil => simp
  | cons x r ih =>
    have h1 := (h x (by simp)).1
    have := ih (fun y hy => h y (by simp [hy]))
    simp only [List.flatMap_cons, List.length_append, List.length_cons, snapEntry, le32_length, i64le_length]
    omega

theorem loadSnap_ok (l : Lim) (hl : l.OK) (ents : List (Key × Val × Option Int)) (h : ∀ x ∈ ents, EntWF l x)
    (hc : ents.length ≤ l.snapCountMax) : loadSnap l (encodeSnap l ents) = .ok (snapState ents) := by
  unfold loadSnap encodeSnap
  have hm := hl.magic
  have hcount : ents.length < 2 ^ 32 := by have := hl.count; omega
  rw [takeN_left (n := 4) _ _ rfl]
  simp only [leNat_le32 _ hm, ne_eq, not_true_eq_false, ↓reduceIte]
  rw [takeN_left (n := 4) _ _ rfl]
  have h2 : leNat (le32 2) = 2 := leNat_le32 2 (by omega)
  simp only [h2]
  have c0 : ¬ (¬ (2 : Nat) = 1 ∧ ¬ True) := by simp
  simp only [c0, ↓reduceIte]
  rw [takeN_left (n := 4) _ _ rfl]
  simp only [leNat_le32 _ hcount]
  have c1 : ¬ ents.length > (ents.flatMap snapEntry).length / l.snapMinEntry := by
    have h17 := snapEntries_length l ents h
    have hp := hl.minEntryPos
    have hm := hl.minEntry
    have : ents.length * l.snapMinEntry ≤ (ents.flatMap snapEntry).length :=
      Nat.le_trans (Nat.mul_le_mul_left _ hm) (by omega)
    have := (Nat.le_div_iff_mul_le hp).2 this
    omega
  simp only [c1, ↓reduceIte]
  have := snapEntries_ok l hl ents h [] {}
  rw [List.append_nil] at this
  exact this

/-- what one record does to the entry of its own key -/
def applyKey (l : Lim) (r : Rec) (x : Option (Val × Option Int)) : Option (Val × Option Int) :=
  match r with
  | .set _ v => some (v, none)
  | .setE _ v e => some (v, some e)
  | .exp _ e =>
    match x with
    | none => none
    | some (v, old) =>
      if e = sentinel then some (v, none) else if plausible l e then some (v, some e) else some (v, old)
  | .del _ => none

theorem look_applyRec (l : Lim) (st : LState) (r : Rec) (k : Key) :
    (applyRec l st r).look k = if r.key = k then applyKey l r (st.look k) else st.look k := by
  cases r with
  | set a v | setE a v e | del a =>
    simp only [applyRec, LState.look, Rec.key, applyKey, Map.get?_put, Map.get?_erase]
    by_cases h : a = k <;> simp [h]
  | exp a e =>
    simp only [applyRec, Rec.key, applyKey]
    by_cases h : a = k
    · subst h
      cases hv : st.kv.get? a with
      | none => simp [Map.has, hv, LState.look]
      | some v =>
        by_cases hs : e = sentinel
        · simp [Map.has, hv, hs, LState.look]
        · cases plausible l e <;> simp [Map.has, hv, hs, LState.look]
    · cases st.kv.has a
      · simp [h]
      by_cases hs : e = sentinel
      · simp [h, hs, LState.look, Map.get?_erase]
      · cases plausible l e <;> simp [h, hs, LState.look, Map.get?_put]

def foldKey (l : Lim) (k : Key) (rs : List Rec) (x : Option (Val × Option Int)) : Option (Val × Option Int) :=
  rs.foldl (fun x r => if r.key = k then applyKey l r x else x) x

theorem foldKey_cons (l : Lim) (k : Key) (r : Rec) (rs : List Rec) (x : Option (Val × Option Int)) :
    foldKey l k (r :: rs) x = foldKey l k rs (if r.key = k then applyKey l r x else x) := rfl

theorem look_foldl_applyRec (l : Lim) (rs : List Rec) (k : Key) :
    ∀ st : LState, (rs.foldl (applyRec l) st).look k = foldKey l k rs (st.look k) := by
  induction rs with
  | nil => intro st; rfl
  | cons r rs ih => intro st; rw [List.foldl_cons, ih, look_applyRec, foldKey_cons]

theorem foldKey_append (l : Lim) (k : Key) (a b : List Rec) (x : Option (Val × Option Int)) :
    foldKey l k (a ++ b) x = foldKey l k b (foldKey l k a x) := by
  simp [foldKey, List.foldl_append]

/-- a fold of written records acts on one key as a constant, as "replace the expiry", or as the identity (no record for the key: `expiry`
cannot say "leave the expiry"); so replaying it twice shows every reader what replaying it once shows (`foldKey_idem`,
`Lemmas/KvCrash.lean`) -/
inductive KeyClass (F : Option (Val × Option Int) → Option (Val × Option Int)) : Prop
  | const (c : Option (Val × Option Int)) (h : ∀ x, F x = c)
  | expiry (E : Option Int) (h : ∀ x, F x = x.map (fun p => (p.1, E)))
  | ident (h : ∀ x, F x = x)

theorem foldKey_class (l : Lim) (k : Key) (rs : List Rec) (h : ∀ r ∈ rs, r.WF l) : KeyClass (foldKey l k rs) := by
  induction rs with
  | nil => exact .ident (fun x => rfl)
  | cons r rs ih =>
    have ih := ih (fun x hx => h x (by simp [hx]))
    have hr := h r (by simp)
    have hstep := foldKey_cons l k r rs
    -- the three classes are closed under composition: anything after a constant is constant, `expiry E` after `expiry E'` is
    -- `expiry E`, the identity changes nothing
    by_cases hk : r.key = k
    · simp only [hk, ↓reduceIte] at hstep
      have hfirst : KeyClass (applyKey l r) := by
        cases r with
        | set a v => exact .const _ (fun x => rfl)
        | setE a v e => exact .const _ (fun x => rfl)
        | del a => exact .const _ (fun x => rfl)
        | exp a e =>
          obtain ⟨_, _, he⟩ := hr
          by_cases hs : e = sentinel
          · refine .expiry none (fun x => ?_)
            cases x with
            | none => rfl
            | some p => simp [applyKey, hs]
          · have hp : plausible l e = true := by rcases he with he | he; exact absurd he hs; exact he
            refine .expiry (some e) (fun x => ?_)
            cases x with
            | none => rfl
            | some p => simp [applyKey, hs, hp]
      cases ih with
      | const c hc => exact .const c (fun x => by rw [hstep, hc])
      | ident hi =>
        cases hfirst with
        | const c hc => exact .const c (fun x => by rw [hstep, hi, hc])
        | expiry E hE => exact .expiry E (fun x => by rw [hstep, hi, hE])
        | ident h0 => exact .ident (fun x => by rw [hstep, hi, h0])
      | expiry E hE =>
        cases hfirst with
        | const c hc => exact .const (c.map (fun p => (p.1, E))) (fun x => by rw [hstep, hE, hc])
        | expiry E' hE' =>
          refine .expiry E (fun x => ?_)
          rw [hstep, hE, hE']
          cases x <;> rfl
        | ident h0 => exact .expiry E (fun x => by rw [hstep, hE, h0])
    · simp only [hk, ↓reduceIte] at hstep
      cases ih with
      | const c hc => exact .const c (fun x => by rw [hstep, hc])
      | expiry E hE => exact .expiry E (fun x => by rw [hstep, hE])
      | ident hi => exact .ident (fun x => by rw [hstep, hi])

theorem isCrashImage_nil (fs img : Fs) (h : IsCrashImage fs [] img) : img = fs := by
  obtain ⟨pre, post, he, h⟩ := h
  have hh := List.append_eq_nil_iff.mp he.symm
  obtain ⟨h1, h2⟩ := hh
  subst h1 h2
  rcases h with h | ⟨f, bs, rest, p, q, hp, _, _⟩
  · simpa [applyAll] using h
  · cases hp

/-- crash images by recursion on the trace: nothing of the first operation has happened, or a part of it (a write), or all of it and
the rest of the trace is cut -/
theorem isCrashImage_cons (fs : Fs) (o : FsOp) (ops : List FsOp) (img : Fs) (h : IsCrashImage fs (o :: ops) img) :
    img = fs ∨ (∃ f bs p q, o = .append f bs ∧ bs = p ++ q ∧ img = (FsOp.append f p).apply fs) ∨
      IsCrashImage (o.apply fs) ops img := by
  obtain ⟨pre, post, he, h⟩ := h
  cases pre with
  | nil =>
    rcases h with h | ⟨f, bs, rest, p, q, hp, hb, hi⟩
    · exact .inl h
    · rw [hp] at he
      exact .inr (.inl ⟨f, bs, p, q, (List.cons.inj he).1, hb, hi⟩)
  | cons x pre =>
    obtain ⟨rfl, rfl⟩ := List.cons.inj he
    exact .inr (.inr ⟨pre, post, rfl, h⟩)

/-- a file replaced through a temporary file and `rename(2)`: the I/O of `JsonFileStore::saveToFile` and, before the log is reset, of
`compactLocked` -/
def replaceOps (data : Bytes) : List FsOp := [.trunc .tmp 0, .append .tmp data, .rename .tmp .snap]

theorem applyAll_append (fs : Fs) (a b : List FsOp) : applyAll fs (a ++ b) = applyAll (applyAll fs a) b := by
  simp [applyAll, List.foldl_append]

theorem applyAll_replaceOps (fs : Fs) (data : Bytes) :
    applyAll fs (replaceOps data) = { snap := some data, log := fs.log, tmp := none } := by
  simp [replaceOps, applyAll, FsOp.apply, Fs.set, Fs.get]

/-- crashed anywhere, the replacement leaves the directory as it was up to `<path>.tmp`, or the new file complete -/
theorem isCrashImage_replaceOps (fs : Fs) (data : Bytes) (img : Fs) (h : IsCrashImage fs (replaceOps data) img) :
    (∃ t, img = fs.set .tmp t) ∨ img = { snap := some data, log := fs.log, tmp := none } := by
  rcases isCrashImage_cons _ _ _ _ h with rfl | ⟨_, _, _, _, ho, -, -⟩ | h
  · exact .inl ⟨img.tmp, rfl⟩
  · cases ho
  rcases isCrashImage_cons _ _ _ _ h with rfl | ⟨_, _, p, _, ho, -, rfl⟩ | h
  · exact .inl ⟨some [], by simp [FsOp.apply, Fs.set]⟩
  · cases ho; exact .inl ⟨some p, by simp [FsOp.apply, Fs.set, Fs.get]⟩
  rcases isCrashImage_cons _ _ _ _ h with rfl | ⟨_, _, _, _, ho, -, -⟩ | h
  · exact .inl ⟨some data, by simp [FsOp.apply, Fs.set, Fs.get]⟩
  · cases ho
  · rw [isCrashImage_nil _ _ h, ← applyAll_replaceOps]; exact .inr rfl

end Iora.Kv
