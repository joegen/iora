import IoraModel.Lemmas.DnsMessage
/-! N2 for C19, typed records: the A rule of the validation as one equation, A, AAAA and TXT exactly, names inside RDATA (CNAME, PTR, MX,
SRV, SOA, NAPTR) for every layout of compression pointers, the character strings of NAPTR, the `switch` of `typedOf` per type, and what `typedSpec`
is once the typed parser of the record has answered. -/
namespace Iora.Dns
open Iora

/-- the recorded rule of `validateRdataSecurity` for 4-byte A RDATA: first byte `0xC0`, second `< 64`, last two zero
(the addresses 192.0.0.0 … 192.63.0.0).  Hypothesis of `N2_A_partial`; mirrored by `a_rule_fires` in props/c19.py. -/
def aRuleFires (a : Bytes) : Bool :=
  match a with
  | [b0, b1, b2, b3] => isPtr b0 && decide ((b0.toNat % 64) * 256 + b1.toNat < 64) && decide (b2.toNat = 0) && decide (b3.toNat = 0)
  | _ => false

theorem validateRdata_a (rr : RR) (ht : rr.type = 1) (hl : rr.rdata.length = 4) :
    validateRdata rr = if aRuleFires rr.rdata then .error .malicious else .ok () := by
  obtain ⟨name, type, cls, ttl, rdl, rdata⟩ := rr
  match rdata, hl with
  | [b0, b1, b2, b3], _ =>
    cases ht
    have hr0 : rd [b0, b1, b2, b3] 0 = .ok b0 := rfl
    have hr1 : rd [b0, b1, b2, b3] 1 = .ok b1 := rfl
    have hr2 : rd [b0, b1, b2, b3] 2 = .ok b2 := rfl
    have hr3 : rd [b0, b1, b2, b3] 3 = .ok b3 := rfl
    unfold validateRdata
    dsimp only
    rw [if_pos ⟨rfl, by decide⟩, if_neg (fun h => h rfl)]
    simp only [hr0, hr1, hr2, hr3, bind, Except.bind, aRuleFires, Bool.and_eq_true, decide_eq_true_eq, and_assoc]
    by_cases hp : isPtr b0 = true <;> simp only [hp, true_and, false_and, Bool.false_eq_true, ↓reduceIte] <;> rfl

theorem parseA_exact (rr : RR) (hl : rr.rdata.length = 4) : parseA rr = .ok (.a rr.name rr.rdata rr.ttl) := by
  obtain ⟨name, type, cls, ttl, rdl, rdata⟩ := rr
  match rdata, hl with
  | [b0, b1, b2, b3], _ => rfl

theorem parseAAAA_exact (rr : RR) (hl : rr.rdata.length = 16) : parseAAAA rr = .ok (.aaaa rr.name rr.rdata rr.ttl) := by
  have hc : copy rr.rdata 0 16 = .ok rr.rdata := by
    rw [← hl]; exact copy_at (r := []) (by rw [List.drop_zero, List.append_nil]) (Nat.zero_le _)
  unfold parseAAAA
  rw [if_neg (fun h => h hl), hc]
  rfl

/-- RDATA of a TXT record: a sequence of character strings -/
def encodeTxt : List Bytes → Bytes
  | [] => []
  | t :: ts => b8 t.length :: t ++ encodeTxt ts

theorem txtGo_exact {r : Bytes} : ∀ (ts : List Bytes), (∀ t ∈ ts, t.length < 256) → ∀ (o : Nat) (acc : List Bytes),
    r.drop o = encodeTxt ts → txtGo r o acc = .ok (acc ++ ts)
  | [], _, o, acc, h => by
    have : ¬ o < r.length := fun hlt => List.drop_eq_nil_iff.mp h |> Nat.not_le_of_lt hlt
    rw [txtGo, if_neg this, List.append_nil]
  | t :: ts, hts, o, acc, h => by
    have hb : (b8 t.length).toNat = t.length := b8_toNat_small (hts t List.mem_cons_self)
    have h0 : r.drop o = b8 t.length :: (t ++ encodeTxt ts) := h
    have h1 : r.drop (o + 1) = t ++ encodeTxt ts := drop_at (x := [_]) h0
    have hlen := length_at h1 (lt_length_at h0)
    rw [txtGo, if_pos (lt_length_at h0), rd_at h0]
    dsimp only
    rw [hb, if_neg (by omega), copy_at h1 (lt_length_at h0)]
    dsimp only
    rw [txtGo_exact ts (fun x hx => hts x (List.mem_cons_of_mem _ hx)) _ _ (drop_at h1), List.append_assoc]
    rfl

theorem parseTxt_exact (rr : RR) (ts : List Bytes) (h : ∀ t ∈ ts, t.length < 256) (hr : rr.rdata = encodeTxt ts) :
    parseTxt rr = .ok (.txt rr.name ts rr.ttl) := by
  unfold parseTxt
  rw [txtGo_exact ts h 0 [] hr]
  rfl

theorem slice_length_le (m : Bytes) (s n : Nat) : (slice m s n).length ≤ n := by
  unfold slice; simp [List.length_take]; omega

theorem rd_slice {m r : Bytes} {s : Nat} (hr : r = slice m s r.length) {i : Nat} (hi : i < r.length) : rd r i = rd m (s + i) := by
  unfold rd
  rw [hr, slice, List.getElem?_take_of_lt hi, List.getElem?_drop]

theorem rdataName_exact (m r : Bytes) (rdStart rdOff nx : Nat) (ls : List Bytes)
    (hr : r = slice m rdStart r.length)
    (hwf : WellFormedName m (rdStart + rdOff) ls (rdStart + nx)) (hnx : nx ≤ r.length) :
    rdataName m rdStart rdOff r = .ok (dottedName ls, nx) := by
  have hoff : rdOff < r.length := by have := lt_next_of_wellFormed hwf; omega
  unfold rdataName
  rw [if_neg (by omega : ¬ (r.length = 0 ∨ rdOff ≥ r.length))]
  have hdec := decodeName_sound m _ ls _ hwf
  obtain ⟨hops, hd, hj, hw⟩ := hwf
  -- the two offsets of `hd` become variables, so that `cases hd` can match them against the rules (`off + 2` of the pointer rule
  -- does not unify with `rdStart + nx`)
  generalize hA : rdStart + rdOff = A at hd hdec
  generalize hB : rdStart + nx = B at hd hdec
  have habs : A < m.length := hd.toDenotes.off_lt
  have hrd0 : rd r rdOff = .ok m[A] := by rw [rd_slice hr hoff, hA, rd_ok habs]
  by_cases hp : isPtr m[A] = true
  · -- the name starts with a pointer: the direct-pointer branch decodes at its target
    have h192 := (isPtr_iff _).mp hp
    cases hd with
    | root h0 => rw [(List.getElem?_eq_some_iff.mp h0).2] at h192; simp at h192
    | label hb _ h63 _ _ => rw [(List.getElem?_eq_some_iff.mp hb).2] at h192; omega
    | @ptr _ b b2 _ nx' hops' hb _ hb2 hrest =>
      have hlt2 : rdOff + 1 < r.length := by omega
      have eb : m[A] = b := (List.getElem?_eq_some_iff.mp hb).2
      have h16 : rd16 r rdOff = .ok (b.toNat * 256 + b2.toNat) := by
        unfold rd16
        rw [hrd0, rd_slice hr hlt2, show rdStart + (rdOff + 1) = A + 1 by omega, rd_ok_iff.mpr hb2, eb]
        rfl
      have htgt : (b.toNat % 64) * 256 + b2.toNat + Gen.Dns.rdataPointerMargin < m.length := by
        rw [show Gen.Dns.rdataPointerMargin = 0 from rfl, Nat.add_zero]; exact hrest.toDenotes.off_lt
      rw [eb] at hrd0 hp
      simp only [hlt2, ↓reduceIte, hrd0, bind, Except.bind, hp, show ¬ rdOff + 2 > r.length by omega, h16, pure, Except.pure,
        ptr_value b b2, htgt, decodeName_sound m _ ls nx' ⟨hops', hrest, by omega, hw⟩,
        show nx = rdOff + 2 by omega]
  · -- labels first: no direct pointer, decode at the absolute offset; by `hnx` the name ends inside the RDATA, so the
    -- `scanRdata` fallback is not taken
    simp only [hrd0, bind, Except.bind, hp, Bool.false_eq_true, ↓reduceIte, ite_self, pure, Except.pure, show ¬ A ≥ m.length by omega,
      hdec, show B ≥ rdStart ∧ B ≤ rdStart + r.length from ⟨by omega, by omega⟩, and_self]
    congr 2
    omega

/-- the body `parseCname` and `parsePtr` share (`mk` is the constructor with owner and TTL filled in): the RDATA is one name from its
first to its last octet -/
theorem nameRecord_exact {m : Bytes} {rr : RR} {o : Nat} {ls : List Bytes} (mk : Bytes → Typed) (hr : rr.rdata = slice m o rr.rdata.length)
    (hd : WellFormedName m o ls (o + rr.rdata.length)) :
    (if rr.rdata.length ≠ 0 then do let (n, _) ← rdataName m o 0 rr.rdata; pure (mk n) else pure (mk []) : R Typed) =
      .ok (mk (dottedName ls)) := by
  have hpos : 0 < rr.rdata.length := Nat.pos_of_lt_add_right (lt_next_of_wellFormed hd)
  rw [if_pos (Nat.ne_of_gt hpos), rdataName_exact m rr.rdata o 0 rr.rdata.length ls hr hd (Nat.le_refl _)]
  rfl

/-- the RDATA of a record that stands in the message is a slice of it: the hypothesis `hr` of `rdataName_exact` and of the
`N2_typed_*` theorems holds of every record `N2_response` speaks of -/
theorem RecordAt.rdata_slice {m : Bytes} {off : Nat} {rr : RR} {rdOff next : Nat} (h : RecordAt m off rr rdOff next) :
    rr.rdata = slice m rdOff rr.rdata.length := by
  obtain ⟨ls, pre, post, _, _, hm, _, _, _, _, _, hrd, _⟩ := h
  have e5 : m = (pre ++ be16 rr.type ++ be16 rr.cls ++ be32 rr.ttl ++ be16 rr.rdlength) ++ rr.rdata ++ post := by
    rw [hm]; simp [List.append_assoc]
  have hl : (pre ++ be16 rr.type ++ be16 rr.cls ++ be32 rr.ttl ++ be16 rr.rdlength).length = rdOff := by rw [hrd]; simp
  exact (slice_at (r := post) (by rw [e5, ← hl, List.append_assoc _ rr.rdata, List.drop_left])).symm

/-- one character string (`<length octet> <octets>`) read by the `parseString` lambda of `parseNaptrRecord` -/
theorem naptrString_exact {r s rest : Bytes} {o : Nat} (h : r.drop o = b8 s.length :: (s ++ rest)) (hs : s.length < 256) :
    naptrString r o = .ok (s, o + 1 + s.length) := by
  have h1 : r.drop (o + 1) = s ++ rest := drop_at (x := [_]) h
  have hlen := length_at h1 (lt_length_at h)
  unfold naptrString
  rw [if_neg (Nat.not_le.mpr (lt_length_at h))]
  simp only [bind, Except.bind, rd_at h, b8_toNat_small hs, if_neg (show ¬ o + 1 + s.length > r.length by omega),
    copy_at h1 (lt_length_at h)]
  rfl

theorem typedOf_a {rr : RR} (m : Bytes) (o : Nat) (ht : rr.type = 1) : typedOf rr m o = (parseA rr).map some := by
  unfold typedOf; simp [ht, Gen.Dns.typedTypes]

theorem typedOf_aaaa {rr : RR} (m : Bytes) (o : Nat) (ht : rr.type = 28) : typedOf rr m o = (parseAAAA rr).map some := by
  unfold typedOf; simp [ht, Gen.Dns.typedTypes]

theorem typedOf_srv {rr : RR} (m : Bytes) (o : Nat) (ht : rr.type = 33) : typedOf rr m o = (parseSrv rr m o).map some := by
  unfold typedOf; simp [ht, Gen.Dns.typedTypes]

theorem typedOf_naptr {rr : RR} (m : Bytes) (o : Nat) (ht : rr.type = 35) : typedOf rr m o = (parseNaptr rr m o).map some := by
  unfold typedOf; simp [ht, Gen.Dns.typedTypes]

theorem typedOf_cname {rr : RR} (m : Bytes) (o : Nat) (ht : rr.type = 5) : typedOf rr m o = (parseCname rr m o).map some := by
  unfold typedOf; simp [ht, Gen.Dns.typedTypes]

theorem typedOf_mx {rr : RR} (m : Bytes) (o : Nat) (ht : rr.type = 15) : typedOf rr m o = (parseMx rr m o).map some := by
  unfold typedOf; simp [ht, Gen.Dns.typedTypes]

theorem typedOf_txt {rr : RR} (m : Bytes) (o : Nat) (ht : rr.type = 16) : typedOf rr m o = (parseTxt rr).map some := by
  unfold typedOf; simp [ht, Gen.Dns.typedTypes]

theorem typedOf_ptr {rr : RR} (m : Bytes) (o : Nat) (ht : rr.type = 12) : typedOf rr m o = (parsePtr rr m o).map some := by
  unfold typedOf; simp [ht, Gen.Dns.typedTypes]

theorem typedOf_soa {rr : RR} (m : Bytes) (o : Nat) (ht : rr.type = 6) : typedOf rr m o = (parseSoa rr m o).map some := by
  unfold typedOf; simp [ht, Gen.Dns.typedTypes]

theorem typedSpec_of {m : Bytes} {rr : RR} {o : Nat} {t : Option Typed} (h : typedOf rr m o = .ok t) : typedSpec m (rr, o) = t := by
  unfold typedSpec parseTypedRecord
  simp only [h]

theorem typedSpec_of_error {m : Bytes} {rr : RR} {o : Nat} {e : Err} (h : typedOf rr m o = .error e) : typedSpec m (rr, o) = none := by
  unfold typedSpec parseTypedRecord
  rw [h]
  cases e <;> rfl

/-- the model on a NAPTR record: flags "S", empty SERVICES and REGEXP, REPLACEMENT = root (the same record as a reading of
`N2_typed_naptr` stands in `Props/C19.lean`) -/
example :
    typedSpec (be16 10 ++ be16 20 ++ [1, 83] ++ [0] ++ [0] ++ [0])
      ({ name := [], type := 35, cls := 1, ttl := 9, rdlength := 9,
         rdata := be16 10 ++ be16 20 ++ [1, 83] ++ [0] ++ [0] ++ [0] }, 0) =
      some (.naptr [] 10 20 [83] [] [] (dottedName []) 9) := by decide +kernel

end Iora.Dns
