import IoraModel.Model.HttpRespondRestart
/-
C16 across `stop()` / `start()`: one step invariant behind both `O1_restart` (epoch captured at dispatch) and its partial form
(starts only when drained).
-/
namespace Iora.HttpRespond
open Iora

/-- frame rule for a worker taking a task: what holds of every task holds again if marking (and restamping) a task keeps it -/
theorem rmarkFirst_forall {Q : RTask → Prop} (o : Option Nat) (ts : List RTask)
    (hq : ∀ t, Q t → Q { t with running := true, stamp := (match o with | some g => g | none => t.stamp) })
    (h : ∀ t ∈ ts, Q t) : ∀ t ∈ rmarkFirst o ts, Q t := by
  fun_induction rmarkFirst o ts with
  | case1 => exact h
  | case2 a as _ ih => exact List.forall_mem_cons.2 ⟨h a List.mem_cons_self, ih fun t ht => h t (List.mem_cons_of_mem _ ht)⟩
  | case3 a as _ => exact List.forall_mem_cons.2 ⟨hq a (h a List.mem_cons_self), fun t ht => h t (List.mem_cons_of_mem _ ht)⟩

/-- frame rule for an emit, for a property that does not read the commands a task still owes: it holds of the tasks that remain and
    of the task that issued the command -/
theorem remitAt_forall {Q : RTask → Prop} (ts : List RTask) (i : Nat) (hq : ∀ t r, Q t → Q { t with cmds := r })
    (h : ∀ t ∈ ts, Q t) : (∀ t ∈ (remitAt ts i).2, Q t) ∧ ∀ t c, (remitAt ts i).1 = some (t, c) → Q t := by
  have tl : ∀ {a : RTask} {as : List RTask}, (∀ t ∈ a :: as, Q t) → ∀ t ∈ as, Q t := fun h t ht => h t (List.mem_cons_of_mem _ ht)
  fun_induction remitAt ts i with
  | case1 => exact ⟨h, fun _ _ he => nomatch he⟩
  | case2 a as => exact ⟨h, fun _ _ he => nomatch he⟩
  | case3 a as => exact ⟨tl h, fun _ _ he => nomatch he⟩
  | case4 a as _ c => exact ⟨tl h, fun t c he => by cases he; exact h a List.mem_cons_self⟩
  | case5 a as _ c r =>
    exact ⟨List.forall_mem_cons.2 ⟨hq a r (h a List.mem_cons_self), tl h⟩, fun t c he => by cases he; exact h a List.mem_cons_self⟩
  | case6 a as i r ih => exact ⟨List.forall_mem_cons.2 ⟨h a List.mem_cons_self, (ih (tl h)).1⟩, (ih (tl h)).2⟩

/-- Why a command that passes the worker's guard reaches the transport its request arrived on.  With the epoch captured at
    dispatch the stamp the guard compares IS the request's generation, whatever `start()` does meanwhile; a worker that checks
    nothing (or a stamp read later) is right only as long as every live task belongs to the current generation. -/
def TasksSafe (k : EpochCheck) (p : RPool) : Prop :=
  ∀ t ∈ p.tasks, if k = .atDispatch then t.stamp = t.gen else t.gen = p.gen

/-- One step keeps the tasks safe and the log clean.  The only step that can break it is a `start()` over live tasks of a worker
    that does not compare the dispatch epoch — the two witnesses of `Props/C16`. -/
theorem stepR_safe (k : EpochCheck) (P : Params) (p : RPool) (s : RStep)
    (hstart : s = .start → k = .atDispatch ∨ p.tasks = [])
    (hs : TasksSafe k p) (hl : LogSameGen p.log) :
    TasksSafe k (stepR k P p s) ∧ LogSameGen (stepR k P p s).log := by
  cases s with
  | arrive sid data =>
    simp only [stepR]
    split
    · exact ⟨hs, hl⟩
    · split
      · refine ⟨hs, List.forall_mem_append.2 ⟨hl, fun e he => ?_⟩⟩
        obtain ⟨c, _, rfl⟩ := List.mem_map.1 he
        rfl
      · refine ⟨fun t htm => ?_, hl⟩
        rcases List.mem_append.1 htm with h | h
        · exact hs t h
        · rw [List.mem_singleton.1 h]; split <;> rfl
  | pick =>
    simp only [stepR]
    split
    · -- the stamp is rewritten only by the worker that reads the epoch when it starts a task, and for that worker only `gen` counts
      refine ⟨rmarkFirst_forall _ _ (fun t ht => ?_) hs, hl⟩
      by_cases hk : k = .atDispatch
      · subst hk; exact ht
      · rw [if_neg hk] at ht ⊢; exact ht
    · exact ⟨hs, hl⟩
  | emit i =>
    obtain ⟨hkeep, hemit⟩ := remitAt_forall p.tasks i (fun _ _ h => h) hs
    simp only [stepR]
    split
    · exact ⟨hkeep, hl⟩
    · rename_i t c he
      split
      · rename_i hg
        refine ⟨hkeep, List.forall_mem_append.2 ⟨hl, fun e hem => ?_⟩⟩
        rw [List.mem_singleton.1 hem]
        show p.gen = t.gen
        have := hemit t c he
        split at this
        · rename_i hk
          -- the guard compared the stamp, and the stamp is the generation
          subst hk
          simp only [Bool.and_eq_true, Bool.or_eq_true, beq_iff_eq] at hg
          rcases hg.2 with h | h
          · cases h
          · rw [← this]; exact h.symm
        · exact this.symm
      · exact ⟨hkeep, hl⟩
  | stop => exact ⟨hs, hl⟩
  | start =>
    refine ⟨fun t htm => ?_, hl⟩
    rcases hstart rfl with hk | hk
    · have := hs t htm
      rw [if_pos hk] at this ⊢
      exact this
    · rw [show (stepR k P p .start).tasks = p.tasks from rfl, hk] at htm
      cases htm

theorem runR_log (k : EpochCheck) (P : Params) (p : RPool) (steps : List RStep)
    (hd : k = .atDispatch ∨ StartsDrained k P p steps) (hs : TasksSafe k p) (hl : LogSameGen p.log) :
    LogSameGen (runR k P p steps).log := by
  induction steps generalizing p with
  | nil => exact hl
  | cons s rest ih =>
    obtain ⟨a, b⟩ := stepR_safe k P p s (fun e => hd.imp_right (fun h => by subst e; exact h.1)) hs hl
    exact ih _ (hd.imp_right (·.2)) a b

theorem runR_init_log (k : EpochCheck) (P : Params) (steps : List RStep) (hd : k = .atDispatch ∨ StartsDrained k P {} steps) :
    LogSameGen (runR k P {} steps).log :=
  runR_log k P {} steps hd (fun _ h => nomatch h) (fun _ h => nomatch h)

end Iora.HttpRespond
