import IoraModel.Model.WsClient
import IoraModel.Lemmas.WsFraming
/-! The client session. Up to `cRun_steps` on the scheme of `Lemmas/WsServer.lean`: close discipline (`CTr`), bounds (`CBounded`),
runs as compositions of atomic steps (`CSteps`). From `cInterp1` on, on the scheme of `Lemmas/WsStream.lean`: the frame loop as a
fold, segmentation, reassembly, exactness. What differs from the server is the liveness condition (`protocolFailed = false`
for `alive = true`) and that the fold itself stops at a failed connection (`cInterp_cons_ok`), so W3 needs no side condition. -/
namespace Iora.Ws
open Iora Iora.Framing

def isDataSendC : CEv → Bool
  | .sent op _ _ => op = 0 || op = 1 || op = 2
  | _ => false

def isCloseSendC : CEv → Bool
  | .sent op _ _ => op = 8
  | _ => false

def NoDataC (evs : List CEv) : Prop := ∀ e ∈ evs, isDataSendC e = false

def NoDataAfterCloseC : List CEv → Prop
  | [] => True
  | e :: rest => (isCloseSendC e = true → NoDataC rest) ∧ NoDataAfterCloseC rest

theorem NoDataC_iff (evs : List CEv) : NoDataC evs ↔ evs.all (fun e => !isDataSendC e) = true := by
  simp [NoDataC]

theorem NoDataC_nil : NoDataC [] := by intro e h; cases h
theorem NoDataC_cons {e : CEv} {a : List CEv} (he : isDataSendC e = false) (ha : NoDataC a) : NoDataC (e :: a) :=
  fun e' h => (List.mem_cons.mp h).elim (fun h => h ▸ he) (ha e')
theorem NoDataC_append {a b : List CEv} (ha : NoDataC a) (hb : NoDataC b) : NoDataC (a ++ b) :=
  fun e h => (List.mem_append.mp h).elim (ha e) (hb e)

theorem ndacC_iff_pairwise : ∀ evs : List CEv,
    NoDataAfterCloseC evs ↔ evs.Pairwise (fun a b => isCloseSendC a = true → isDataSendC b = false)
  | [] => by simp [NoDataAfterCloseC]
  | e :: rest => by
    rw [NoDataAfterCloseC, List.pairwise_cons, ndacC_iff_pairwise rest]
    exact and_congr_left' ⟨fun h a ha hc => h hc a ha, fun h hc a ha => h a ha hc⟩

theorem NoDataAfterCloseC_of_NoData : ∀ evs : List CEv, NoDataC evs → NoDataAfterCloseC evs :=
  fun evs h => (ndacC_iff_pairwise evs).mpr (List.pairwise_of_forall_mem_list fun _ _ b hb _ => h b hb)

/-- the fields a send can not change -/
structure CSame (s s' : CSess) : Prop where
  buffer : s'.buffer = s.buffer
  fragBuf : s'.fragBuf = s.fragBuf
  fragOp : s'.fragOp = s.fragOp
  closeEchoed : s'.closeEchoed = s.closeEchoed
  protocolFailed : s'.protocolFailed = s.protocolFailed
  connected : s'.connected = s.connected
  upgraded : s'.upgraded = s.upgraded

theorem CSame.refl (s : CSess) : CSame s s := ⟨rfl, rfl, rfl, rfl, rfl, rfl, rfl⟩
theorem CSame.trans {a b c : CSess} (h1 : CSame a b) (h2 : CSame b c) : CSame a c :=
  ⟨h2.buffer.trans h1.buffer, h2.fragBuf.trans h1.fragBuf, h2.fragOp.trans h1.fragOp, h2.closeEchoed.trans h1.closeEchoed,
   h2.protocolFailed.trans h1.protocolFailed, h2.connected.trans h1.connected, h2.upgraded.trans h1.upgraded⟩

@[simp] theorem cSend_state (s : CSess) (op : Nat) (pl : Bytes) : (cSend s op pl).1 = s := by
  unfold cSend; repeat' split
  all_goals rfl
@[simp] theorem cSendPing_state (s : CSess) (pl : Bytes) : (cSendPing s pl).1 = s := by
  unfold cSendPing; split <;> simp

theorem cSendClose_same (s : CSess) (c : Nat) (r : Bytes) : CSame s (cSendClose s c r).1 := ⟨rfl, rfl, rfl, rfl, rfl, rfl, rfl⟩

theorem cSendStep_same (s : CSess) (a : Send) : CSame s (cSendStep s a).1 := by
  cases a with
  | text bs => simp only [cSendStep, cSend_state]; exact CSame.refl s
  | binary bs => simp only [cSendStep, cSend_state]; exact CSame.refl s
  | ping bs => simp only [cSendStep, cSendPing_state]; exact CSame.refl s
  | close c r => exact cSendClose_same s c r

theorem cRunSends_same : ∀ (as : List Send) (s : CSess), CSame s (cRunSends s as).1 := by
  intro as
  induction as with
  | nil => intro s; exact CSame.refl s
  | cons a as ih => intro s; simp only [cRunSends]; exact (cSendStep_same s a).trans (ih _)

theorem cFire_same (s : CSess) (e : CEv) (sc : List Send) : CSame s (cFire s e sc).1 := by
  simp only [cFire]; exact cRunSends_same sc s

theorem cDeliver_same (cb : CCbs) (s : CSess) (op : Nat) (pl : Bytes) : CSame s (cDeliver cb s op pl).1 := by
  unfold cDeliver
  split
  · split
    · exact cSendClose_same ..
    · exact cFire_same ..
  · split
    · exact cFire_same ..
    · exact CSame.refl s

/-- the client's close discipline; "closed" is `closeSent` alone (the server's `Tr` also counts an erased session) -/
structure CTr (s : CSess) (ev : List CEv) (s' : CSess) : Prop where
  nodata : s.closeSent = true → NoDataC ev
  mono : s.closeSent = true → s'.closeSent = true
  close : ev.any isCloseSendC = true → s'.closeSent = true
  ndac : NoDataAfterCloseC ev

theorem CTr.comp {s s1 s2 : CSess} {e1 e2 : List CEv} (h1 : CTr s e1 s1) (h2 : CTr s1 e2 s2) : CTr s (e1 ++ e2) s2 where
  nodata h := NoDataC_append (h1.nodata h) (h2.nodata (h1.mono h))
  mono h := h2.mono (h1.mono h)
  close h := by
    simp only [List.any_append, Bool.or_eq_true] at h
    rcases h with h | h
    · exact h2.mono (h1.close h)
    · exact h2.close h
  ndac := (ndacC_iff_pairwise _).mpr (List.pairwise_append.mpr ⟨(ndacC_iff_pairwise _).mp h1.ndac, (ndacC_iff_pairwise _).mp h2.ndac,
    fun e he b hb hce => h2.nodata (h1.close (List.any_eq_true.mpr ⟨e, he, hce⟩)) b hb⟩)

theorem CTr.state {s s' : CSess} (h : s.closeSent = true → s'.closeSent = true) : CTr s [] s' where
  nodata _ := NoDataC_nil
  mono := h
  close h := by simp at h
  ndac := trivial

theorem CTr.refl (s : CSess) : CTr s [] s := CTr.state id

theorem CTr.ev (s : CSess) (e : CEv) (hd : isDataSendC e = false) (hc : isCloseSendC e = false) : CTr s [e] s where
  nodata _ := NoDataC_cons hd NoDataC_nil
  mono := id
  close h := by simp [hc] at h
  ndac := ⟨fun _ => NoDataC_nil, trivial⟩

theorem notSendC_flags {e : CEv} (he : ∀ op fin pl, e ≠ .sent op fin pl) : isDataSendC e = false ∧ isCloseSendC e = false := by
  cases e <;> first | exact ⟨rfl, rfl⟩ | exact absurd rfl (he _ _ _)

theorem CTr.cSendClose (s : CSess) (c : Nat) (r : Bytes) : CTr s (cSendClose s c r).2 (cSendClose s c r).1 where
  nodata _ := NoDataC_cons rfl NoDataC_nil
  mono _ := rfl
  close _ := rfl
  ndac := ⟨fun _ => NoDataC_nil, trivial⟩

theorem CTr.cSend (s : CSess) (op : Nat) (pl : Bytes) (h8 : op ≠ 8) : CTr s (cSend s op pl).2 (cSend s op pl).1 := by
  rw [cSend_state]
  unfold Iora.Ws.cSend
  split
  · exact CTr.refl s
  · split
    · exact CTr.refl s
    · rename_i hc
      refine ⟨fun h => absurd h hc, id, ?_, ⟨fun _ => NoDataC_nil, trivial⟩⟩
      intro h; simp [isCloseSendC, h8] at h

theorem CTr.cSendStep (s : CSess) (a : Send) : CTr s (cSendStep s a).2 (cSendStep s a).1 := by
  cases a with
  | text bs => exact CTr.cSend s 1 bs (by omega)
  | binary bs => exact CTr.cSend s 2 bs (by omega)
  | ping bs =>
    simp only [Iora.Ws.cSendStep, cSendPing]
    split
    · exact CTr.refl s
    · exact CTr.cSend s 9 bs (by omega)
  | close c r => exact CTr.cSendClose s c r

theorem cAccumulate_keeps (s : CSess) (f : Frame) :
    (cAccumulate s f).closeSent = s.closeSent ∧ (cAccumulate s f).buffer = s.buffer ∧
    (cAccumulate s f).upgraded = s.upgraded ∧ (cAccumulate s f).protocolFailed = s.protocolFailed := by
  unfold cAccumulate; split
  · exact ⟨rfl, rfl, rfl, rfl⟩
  · split <;> exact ⟨rfl, rfl, rfl, rfl⟩
@[simp] theorem cAccumulate_closeSent (s : CSess) (f : Frame) : (cAccumulate s f).closeSent = s.closeSent :=
  (cAccumulate_keeps s f).1
@[simp] theorem cAccumulate_buffer (s : CSess) (f : Frame) : (cAccumulate s f).buffer = s.buffer := (cAccumulate_keeps s f).2.1
@[simp] theorem cAccumulate_upgraded (s : CSess) (f : Frame) : (cAccumulate s f).upgraded = s.upgraded :=
  (cAccumulate_keeps s f).2.2.1
@[simp] theorem cAccumulate_protocolFailed (s : CSess) (f : Frame) : (cAccumulate s f).protocolFailed = s.protocolFailed :=
  (cAccumulate_keeps s f).2.2.2

theorem cHandleDataFrame_cases {motive : CSess × List CEv → Prop} (cfg : CCfg) (s : CSess) (f : Frame)
    (big : cfg.max < (cAccumulate s f).fragBuf.length → motive (cFail cfg.cb { cAccumulate s f with fragBuf := [], fragOp := 0 } true))
    (fin : (cAccumulate s f).fragBuf.length ≤ cfg.max → f.fin = true →
      motive (cDeliver cfg.cb { cAccumulate s f with fragBuf := [], fragOp := 0 } (cAccumulate s f).fragOp (cAccumulate s f).fragBuf))
    (more : (cAccumulate s f).fragBuf.length ≤ cfg.max → f.fin = false → motive (cAccumulate s f, [])) :
    motive (cHandleDataFrame cfg s f) := by
  unfold cHandleDataFrame
  by_cases hb : cfg.max < (cAccumulate s f).fragBuf.length
  · rw [if_pos hb]; exact big hb
  · rw [if_neg hb]
    by_cases hf : f.fin = true
    · rw [if_pos hf]; exact fin (Nat.le_of_not_lt hb) hf
    · rw [if_neg hf]; exact more (Nat.le_of_not_lt hb) (Bool.eq_false_iff.mpr hf)

/-- `code`, `reason` stand for `closePayload f.payload`, `E` for the echo (flag and CLOSE frame, at most once) -/
theorem cHandleFrame_cases {motive : CSess × List CEv → Prop} (cfg : CCfg) (s : CSess) (f : Frame)
    (data : (f.opcode = 1 ∨ f.opcode = 2) ∨ f.opcode = 0 → motive (cHandleDataFrame cfg s f))
    (ping : f.opcode = 9 → motive (s, [.sent 10 true f.payload]))
    (pong : f.opcode = 10 → motive (s, []))
    (close : f.opcode = 8 → ∀ code reason (E : CSess × List CEv),
      E = cSendClose { s with closeEchoed := true } code reason ∨ E = (s, []) →
      motive ((cFire { E.1 with connected := false } (.onClose code reason) cfg.cb.onClose).1,
        E.2 ++ (cFire { E.1 with connected := false } (.onClose code reason) cfg.cb.onClose).2))
    (other : motive (s, [])) :
    motive (cHandleFrame cfg s f) := by
  unfold cHandleFrame
  by_cases hd : (f.opcode = 1 || f.opcode = 2 || f.opcode = 0) = true
  · rw [if_pos hd]; exact data (by simpa using hd)
  rw [if_neg hd]
  by_cases h9 : f.opcode = 9
  · rw [if_pos h9]; exact ping h9
  rw [if_neg h9]
  by_cases h10 : f.opcode = 10
  · rw [if_pos h10]; exact pong h10
  rw [if_neg h10]
  by_cases h8 : f.opcode = 8
  · rw [if_pos h8]
    refine close h8 (closePayload f.payload).1 (closePayload f.payload).2
      (if !s.closeEchoed then cSendClose { s with closeEchoed := true } (closePayload f.payload).1 (closePayload f.payload).2
        else (s, [])) ?_
    by_cases he : (!s.closeEchoed) = true
    · exact .inl (if_pos he)
    · exact .inr (if_neg he)
  rw [if_neg h8]; exact other

theorem cHandshake_spec (cfg : CCfg) (s : CSess) (d : Bytes) :
    match cHandshake cfg s d with
    | .wait s1 => s1 = { s with buffer := d } ∧ d.length ≤ Gen.Ws.clientMaxUpgradeResponse
    | .failed s1 ev => s1 = { s with connected := false } ∧ ev = [.onError]
    | .ok s1 ev _ => s1 = { s with upgraded := true, connected := true } ∧ ev = [.connected] := by
  unfold cHandshake
  cases findSub crlf2 d with
  | none =>
    by_cases hl : d.length > Gen.Ws.clientMaxUpgradeResponse
    · simp [hl]
    · simp [hl]; omega
  | some he =>
    by_cases h1 : statusOk.isPrefixOf d = true
    · by_cases h2 : acceptValue d he = cfg.accept
      · simp [h1, h2]
      · simp [h1, h2]
    · simp [h1]

theorem cLoop_rest (cfg : CCfg) : ∀ (fuel : Nat) (s : CSess) (d : Bytes), d.length < fuel →
    ∀ r, (cLoop cfg fuel s d).2.2 = some r → r.length < 14 + cfg.max := by
  intro fuel
  induction fuel with
  | zero => intro s d h; omega
  | succ fuel ih =>
    intro s d hf
    unfold cLoop
    split
    · rename_i he
      intro r hr; cases hr
      rw [List.isEmpty_iff.mp he]; exact nil_short _
    · split
      · rename_i hp
        intro r hr; cases hr
        exact parse_incomplete_short cfg.max d hp
      · intro r hr; cases hr
      · intro r hr; cases hr
      · rename_i f n hp
        simp only
        split
        · intro r hr; cases hr
        · obtain ⟨h2 : 2 ≤ n, hnl : n ≤ d.length, _⟩ := parse_frame_bounds cfg.max d f n hp
          exact ih _ (d.drop n) (by rw [List.length_drop]; omega)

/-- the client's invariant: a client whose upgrade has completed retains fewer than `14 + max` unparsed bytes, one still waiting for
the upgrade response at most `kMaxUpgradeResponse`; the fragment buffer never exceeds `max` -/
def CBounded (cfg : CCfg) (s : CSess) : Prop :=
  (s.upgraded = true → s.buffer.length < 14 + cfg.max) ∧
  (s.upgraded = false → s.buffer.length ≤ Gen.Ws.clientMaxUpgradeResponse) ∧
  s.fragBuf.length ≤ cfg.max

theorem cBounded_fresh (cfg : CCfg) : CBounded cfg {} := ⟨fun _ => nil_short _, nofun, Nat.zero_le _⟩
theorem cBounded_preUpgrade (cfg : CCfg) : CBounded cfg preUpgrade := ⟨nofun, fun _ => Nat.zero_le _, Nat.zero_le _⟩

theorem cSendStep_bounded (cfg : CCfg) (s : CSess) (a : Send) (h : CBounded cfg s) : CBounded cfg (cSendStep s a).1 := by
  have hs := cSendStep_same s a
  unfold CBounded
  rw [hs.buffer, hs.fragBuf, hs.upgraded]; exact h

/-- as the server's `Steps`; a silent step (`quiet`) keeps a sent CLOSE sent, the bounds, and a completed upgrade completed -/
inductive CSteps (cfg : CCfg) (G : Send → Prop) (Q : Bytes → Prop) : CSess → List CEv → CSess → Prop where
  | quiet {s s' : CSess} : (s.closeSent = true → s'.closeSent = true) → (CBounded cfg s → CBounded cfg s') →
      (s.upgraded = true → s'.upgraded = true) → CSteps cfg G Q s [] s'
  | comp {s s1 s2 : CSess} {e1 e2 : List CEv} : CSteps cfg G Q s e1 s1 → CSteps cfg G Q s1 e2 s2 → CSteps cfg G Q s (e1 ++ e2) s2
  | send (s : CSess) (a : Send) : G a → CSteps cfg G Q s (cSendStep s a).2 (cSendStep s a).1
  | close (s : CSess) (c : Nat) (r : Bytes) : CSteps cfg G Q s (cSendClose s c r).2 (cSendClose s c r).1
  | ev (s : CSess) (e : CEv) : (∀ op fin pl, e ≠ .sent op fin pl) → CSteps cfg G Q s [e] s
  | pong (s : CSess) (pl : Bytes) : Q pl → CSteps cfg G Q s [.sent 10 true pl] s

structure CCbs.All (G : Send → Prop) (cb : CCbs) : Prop where
  onText : ∀ a ∈ cb.onText, G a
  onBinary : ∀ a ∈ cb.onBinary, G a
  onClose : ∀ a ∈ cb.onClose, G a
  onError : ∀ a ∈ cb.onError, G a

def COp.All (G : Send → Prop) : COp → Prop
  | .sendText bs => G (.text bs)
  | .sendBinary bs => G (.binary bs)
  | .sendPing bs => G (.ping bs)
  | _ => True

namespace CSteps
variable {cfg : CCfg} {G : Send → Prop} {Q : Bytes → Prop}

theorem refl (s : CSess) : CSteps cfg G Q s [] s := .quiet id id id

/-- `after` and `andThen` put a step between states that differ from its own in fields a silent step is not asked about
(`closeEchoed`, `protocolFailed`, `connected`): where all three obligations are `id`, the two states agree on `closeSent`,
`buffer`, `fragBuf` and `upgraded` by unfolding. -/
theorem after {s s' s'' : CSess} {ev : List CEv} (h : CSteps cfg G Q s' ev s'') (h1 : s.closeSent = true → s'.closeSent = true)
    (h2 : CBounded cfg s → CBounded cfg s') (h3 : s.upgraded = true → s'.upgraded = true) :
    CSteps cfg G Q s ev s'' := (CSteps.quiet h1 h2 h3).comp h

theorem andThen {s s' s'' : CSess} {ev : List CEv} (h : CSteps cfg G Q s ev s') (h1 : s'.closeSent = true → s''.closeSent = true)
    (h2 : CBounded cfg s' → CBounded cfg s'') (h3 : s'.upgraded = true → s''.upgraded = true) : CSteps cfg G Q s ev s'' := by
  have := h.comp (CSteps.quiet h1 h2 h3)
  rwa [List.append_nil] at this

theorem upgraded {s s' : CSess} {ev : List CEv} (h : CSteps cfg G Q s ev s') : s.upgraded = true → s'.upgraded = true := by
  induction h with
  | quiet _ _ h3 => exact h3
  | comp _ _ i1 i2 => exact i2 ∘ i1
  | send s a _ => exact fun h => (cSendStep_same s a).upgraded.trans h
  | close => exact id
  | ev => exact id
  | pong => exact id

theorem frag {s s' : CSess} (h2 : s'.closeSent = s.closeSent) (h3 : s'.buffer = s.buffer) (hu : s'.upgraded = s.upgraded)
    (h4 : s'.fragBuf.length ≤ cfg.max) : CSteps cfg G Q s [] s' :=
  .quiet (by rw [h2]; exact id) (fun h => by unfold CBounded; rw [h3, hu]; exact ⟨h.1, h.2.1, h4⟩) (by rw [hu]; exact id)

theorem runSends : ∀ (as : List Send) (s : CSess), (∀ a ∈ as, G a) → CSteps cfg G Q s (cRunSends s as).2 (cRunSends s as).1 := by
  intro as
  induction as with
  | nil => intro s _; exact refl s
  | cons a as ih =>
    intro s h
    exact (CSteps.send s a (h a (List.mem_cons_self ..))).comp (ih _ (fun b hb => h b (List.mem_cons_of_mem _ hb)))

theorem fire (s : CSess) (e : CEv) (sc : List Send) (he : ∀ op fin pl, e ≠ .sent op fin pl) (h : ∀ a ∈ sc, G a) :
    CSteps cfg G Q s (cFire s e sc).2 (cFire s e sc).1 :=
  (CSteps.ev s e he).comp (runSends sc s h)

theorem deliver {cb : CCbs} (hcb : cb.All G) (s : CSess) (op : Nat) (pl : Bytes) :
    CSteps cfg G Q s (cDeliver cb s op pl).2 (cDeliver cb s op pl).1 := by
  unfold cDeliver
  split
  · split
    · exact .close ..
    · exact fire _ _ _ nofun hcb.onText
  · split
    · exact fire _ _ _ nofun hcb.onBinary
    · exact refl s

theorem fail {cb : CCbs} (hcb : cb.All G) (s : CSess) (tl : Bool) : CSteps cfg G Q s (cFail cb s tl).2 (cFail cb s tl).1 := by
  simp only [cFail]
  exact .after ((CSteps.close { s with protocolFailed := true } _ _).comp
    (.after (fire _ .onError cb.onError nofun hcb.onError) id id id)) id id id

theorem handleDataFrame (hcb : cfg.cb.All G) (s : CSess) (f : Frame) :
    CSteps cfg G Q s (cHandleDataFrame cfg s f).2 (cHandleDataFrame cfg s f).1 := by
  have hclr : CSteps cfg G Q s [] { cAccumulate s f with fragBuf := [], fragOp := 0 } :=
    frag (cAccumulate_closeSent s f) (cAccumulate_buffer s f) (cAccumulate_upgraded s f) (Nat.zero_le _)
  refine cHandleDataFrame_cases (motive := fun r => CSteps cfg G Q s r.2 r.1) cfg s f ?_ ?_ ?_
  · intro _; exact hclr.comp (fail hcb _ true)
  · intro _ _; exact hclr.comp (deliver hcb _ _ _)
  · intro hle _; exact frag (cAccumulate_closeSent s f) (cAccumulate_buffer s f) (cAccumulate_upgraded s f) hle

theorem handleFrame (hcb : cfg.cb.All G) (s : CSess) (f : Frame) (hp : f.opcode = 9 → Q f.payload) :
    CSteps cfg G Q s (cHandleFrame cfg s f).2 (cHandleFrame cfg s f).1 := by
  refine cHandleFrame_cases (motive := fun r => CSteps cfg G Q s r.2 r.1) cfg s f ?_ ?_ ?_ ?_ ?_
  · intro _; exact handleDataFrame hcb s f
  · intro h9; exact .pong s _ (hp h9)
  · intro _; exact refl s
  · intro _ code reason E hE
    have hecho : CSteps cfg G Q s E.2 E.1 := by
      rcases hE with rfl | rfl
      · exact .after (.close { s with closeEchoed := true } _ _) id id id
      · exact refl s
    exact hecho.comp (.after (fire _ (.onClose code reason) cfg.cb.onClose nofun hcb.onClose) id id id)
  · exact refl s

theorem loop (hcb : cfg.cb.All G) (hq : PingsSatisfy cfg.max Q) :
    ∀ (fuel : Nat) (s : CSess) (d : Bytes), CSteps cfg G Q s (cLoop cfg fuel s d).2.1 (cLoop cfg fuel s d).1 := by
  intro fuel
  induction fuel with
  | zero => intro s d; exact refl s
  | succ fuel ih =>
    intro s d
    unfold cLoop
    split
    · exact refl s
    · split
      · exact refl s
      · exact fail hcb s false
      · exact fail hcb s true
      · rename_i f n hp
        simp only
        split
        · exact handleFrame hcb s f (hq d f n hp)
        · exact (handleFrame hcb s f (hq d f n hp)).comp (ih _ _)

theorem frames (hcb : cfg.cb.All G) (hq : PingsSatisfy cfg.max Q)
    (s : CSess) (d : Bytes) (hu : s.upgraded = true) : CSteps cfg G Q s (cFrames cfg s d).2 (cFrames cfg s d).1 := by
  unfold cFrames
  split
  · exact refl s
  · have h := loop hcb hq (d.length + 1) s d
    have hr := cLoop_rest cfg (d.length + 1) s d (Nat.lt_succ_self _)
    rcases hL : cLoop cfg (d.length + 1) s d with ⟨s1, ev, r⟩
    rw [hL] at h hr
    cases r with
    | none => exact h
    | some rest =>
      have hu1 : s1.upgraded = true := h.upgraded hu
      show CSteps cfg G Q s ev { s1 with buffer := rest }
      exact h.andThen id (fun hb => ⟨fun _ => hr rest rfl, fun h0 => Bool.noConfusion (hu1.symm.trans h0), hb.2.2⟩) id

theorem onData (hcb : cfg.cb.All G) (hq : PingsSatisfy cfg.max Q)
    (s : CSess) (data : Bytes) : CSteps cfg G Q s (cOnData cfg s data).2 (cOnData cfg s data).1 := by
  have h14 : ([] : Bytes).length < 14 + cfg.max := nil_short _
  unfold cOnData
  by_cases hu : s.upgraded = true
  · rw [if_pos hu]
    exact .after (frames hcb hq { s with buffer := [] } _ hu) id (fun hb => ⟨fun _ => h14, fun _ => Nat.zero_le _, hb.2.2⟩) id
  · rw [if_neg hu]
    have hs := cHandshake_spec cfg { s with buffer := [] } (s.buffer ++ data)
    cases hh : cHandshake cfg { s with buffer := [] } (s.buffer ++ data) with
    | wait s1 =>
      rw [hh] at hs
      rw [hs.1]
      exact .quiet id (fun hb => ⟨fun h => absurd h hu, fun _ => hs.2, hb.2.2⟩) id
    | failed s1 ev =>
      rw [hh] at hs
      obtain ⟨rfl, rfl⟩ := hs
      exact .after ((CSteps.ev { s with buffer := [] } .onError nofun).andThen id id id) id
        (fun hb => ⟨fun _ => h14, fun _ => Nat.zero_le _, hb.2.2⟩) id
    | ok s1 ev rest =>
      rw [hh] at hs
      obtain ⟨rfl, rfl⟩ := hs
      exact .after ((CSteps.ev { { s with buffer := [] } with upgraded := true, connected := true } .connected nofun).comp
        (frames hcb hq _ rest rfl)) id (fun hb => ⟨fun _ => h14, fun _ => Nat.zero_le _, hb.2.2⟩) (fun _ => rfl)

theorem step (hcb : cfg.cb.All G) (hq : PingsSatisfy cfg.max Q)
    (s : CSess) (op : COp) (h : op.All G) : CSteps cfg G Q s (cStep cfg s op).2 (cStep cfg s op).1 := by
  cases op with
  | data bs => exact onData hcb hq s bs
  | sendClose c r => exact .close s c r
  | sendText bs => exact .send s _ h
  | sendBinary bs => exact .send s _ h
  | sendPing bs => exact .send s _ h
  | disconnect c r =>
    simp only [cStep, cDisconnect]
    split
    · exact (CSteps.close s c r).andThen id id id
    · exact .quiet id id id

theorem run (hcb : cfg.cb.All G) (hq : PingsSatisfy cfg.max Q) :
    ∀ (ops : List COp) (s : CSess), (∀ op ∈ ops, op.All G) → CSteps cfg G Q s (cRun cfg s ops).2 (cRun cfg s ops).1 := by
  intro ops
  induction ops with
  | nil => intro s _; exact refl s
  | cons op ops ih =>
    intro s h
    exact (step hcb hq s op (h op (List.mem_cons_self ..))).comp (ih _ (fun o ho => h o (List.mem_cons_of_mem _ ho)))

theorem tr {s s' : CSess} {ev : List CEv} (h : CSteps cfg G Q s ev s') : CTr s ev s' := by
  induction h with
  | quiet h1 _ _ => exact CTr.state h1
  | comp _ _ i1 i2 => exact i1.comp i2
  | send s a _ => exact CTr.cSendStep s a
  | close s c r => exact CTr.cSendClose s c r
  | ev s e he => exact CTr.ev s e (notSendC_flags he).1 (notSendC_flags he).2
  | pong s pl _ => exact CTr.ev s _ rfl rfl

theorem bounded {s s' : CSess} {ev : List CEv} (h : CSteps cfg G Q s ev s') : CBounded cfg s → CBounded cfg s' := by
  induction h with
  | quiet _ h2 _ => exact h2
  | comp _ _ i1 i2 => exact i2 ∘ i1
  | send s a _ => exact cSendStep_bounded cfg s a
  | close s c r => exact cSendStep_bounded cfg s (.close c r)
  | ev => exact id
  | pong => exact id

end CSteps

theorem CCbs.all_true (cb : CCbs) : cb.All (fun _ => True) :=
  ⟨fun _ _ => trivial, fun _ _ => trivial, fun _ _ => trivial, fun _ _ => trivial⟩

theorem cRun_steps (cfg : CCfg) (ops : List COp) (s : CSess) :
    CSteps cfg (fun _ => True) (fun _ => True) s (cRun cfg s ops).2 (cRun cfg s ops).1 :=
  CSteps.run cfg.cb.all_true (fun _ _ _ _ _ => trivial) ops s (fun op _ => by cases op <;> trivial)

def cInterp1 (cfg : CCfg) (s : CSess) : PRes → CSess × List CEv
  | .frame f _ => cHandleFrame cfg s f
  | .protocolError => cFail cfg.cb s false
  | .tooLarge => cFail cfg.cb s true
  | .incomplete => (s, [])

/-- the per-frame handler folded over parse outcomes; whatever reaches a connection that has been failed is ignored -/
def cInterp (cfg : CCfg) : CSess → List PRes → CSess × List CEv
  | s, [] => (s, [])
  | s, r :: rs =>
    if s.protocolFailed then (s, []) else
    let (s1, e1) := cInterp1 cfg s r
    let (s2, e2) := cInterp cfg s1 rs
    (s2, e1 ++ e2)

theorem cInterp_failed (cfg : CCfg) (s : CSess) (rs : List PRes) (h : s.protocolFailed = true) : cInterp cfg s rs = (s, []) := by
  cases rs <;> simp [cInterp, h]

theorem cInterp_cons_ok (cfg : CCfg) (s : CSess) (r : PRes) (rs : List PRes) (h : s.protocolFailed = false) :
    cInterp cfg s (r :: rs) =
      ((cInterp cfg (cInterp1 cfg s r).1 rs).1, (cInterp1 cfg s r).2 ++ (cInterp cfg (cInterp1 cfg s r).1 rs).2) := by
  rw [cInterp, if_neg (by rw [h]; exact Bool.false_ne_true)]

theorem cFail_failed (cb : CCbs) (s : CSess) (tl : Bool) : (cFail cb s tl).1.protocolFailed = true := by
  simp only [cFail]
  rw [(cFire_same _ _ _).protocolFailed]
  rfl

/-- The remainder is kept unless the connection has been failed. The second conjunct goes through the same induction: a framer
that ends `dead` has made the handler fail the connection; `cRun_feed` needs it to rule out a dropped buffer on a connection
that has not failed. -/
theorem cLoop_eq_interp (cfg : CCfg) : ∀ (fuel : Nat) (s : CSess) (d : Bytes), s.protocolFailed = false →
    cLoop cfg fuel s d =
      ((cInterp cfg s (drainF (wsStable cfg.max) fuel d).1).1, (cInterp cfg s (drainF (wsStable cfg.max) fuel d).1).2,
        if (cInterp cfg s (drainF (wsStable cfg.max) fuel d).1).1.protocolFailed then none
        else carryOpt (drainF (wsStable cfg.max) fuel d).2) ∧
    ((drainF (wsStable cfg.max) fuel d).2 = .dead →
      (cInterp cfg s (drainF (wsStable cfg.max) fuel d).1).1.protocolFailed = true) := by
  intro fuel
  induction fuel with
  | zero => intro s d hpf; simp [cLoop, drainF, cInterp, carryOpt, hpf]
  | succ fuel ih =>
    intro s d hpf
    by_cases he : d.isEmpty = true
    · have : d = [] := by simpa using he
      subst this
      simp [cLoop, drainF, wsStable, pws, parse, cInterp, carryOpt, hpf]
    · cases hp : parse cfg.max d with
      | incomplete => simp [cLoop, drainF, wsStable, pws, hp, cInterp, carryOpt, hpf]
      | protocolError => simp [cLoop, drainF, wsStable, pws, hp, he, cInterp, cInterp1, hpf, cFail_failed]
      | tooLarge => simp [cLoop, drainF, wsStable, pws, hp, he, cInterp, cInterp1, hpf, cFail_failed]
      | frame f n =>
        simp only [cLoop, drainF, wsStable, pws, hp, he, Bool.false_eq_true, ↓reduceIte, cInterp_cons_ok cfg s _ _ hpf, cInterp1]
        by_cases hf : (cHandleFrame cfg s f).1.protocolFailed = true
        · simp [hf, cInterp_failed cfg _ _ hf]
        · have hf' : (cHandleFrame cfg s f).1.protocolFailed = false := by simpa using hf
          obtain ⟨i1, i2⟩ := ih (cHandleFrame cfg s f).1 (d.drop n) hf'
          simp only [hf', Bool.false_eq_true, ↓reduceIte, i1]
          exact ⟨rfl, i2⟩

theorem cInterp_append (cfg : CCfg) : ∀ (a b : List PRes) (s : CSess),
    cInterp cfg s (a ++ b) =
      ((cInterp cfg (cInterp cfg s a).1 b).1, (cInterp cfg s a).2 ++ (cInterp cfg (cInterp cfg s a).1 b).2) := by
  intro a
  induction a with
  | nil => intro b s; simp [cInterp]
  | cons r rs ih =>
    intro b s
    by_cases hpf : s.protocolFailed = true
    · simp [cInterp, hpf, cInterp_failed cfg s b hpf]
    · simp [cInterp, hpf, ih, List.append_assoc]

theorem cHandleFrame_buffer (cfg : CCfg) (s : CSess) (f : Frame) : (cHandleFrame cfg s f).1.buffer = s.buffer := by
  refine cHandleFrame_cases (motive := fun r => r.1.buffer = s.buffer) cfg s f ?_ (fun _ => rfl) (fun _ => rfl) ?_ rfl
  · intro _
    refine cHandleDataFrame_cases (motive := fun r => r.1.buffer = s.buffer) cfg s f ?_ ?_ ?_
    · intro _; simp only [cFail]; exact (cFire_same _ _ _).buffer.trans (cAccumulate_buffer s f)
    · intro _ _; exact (cDeliver_same _ _ _ _).buffer.trans (cAccumulate_buffer s f)
    · intro _ _; exact cAccumulate_buffer s f
  · intro _ code reason E hE
    refine (cFire_same _ (.onClose code reason) cfg.cb.onClose).buffer.trans ?_
    rcases hE with rfl | rfl <;> rfl

theorem cInterp1_buffer (cfg : CCfg) (s : CSess) (r : PRes) : (cInterp1 cfg s r).1.buffer = s.buffer := by
  cases r with
  | frame f n => exact cHandleFrame_buffer cfg s f
  | incomplete => rfl
  | protocolError => simp only [cInterp1, cFail]; exact (cFire_same _ _ _).buffer
  | tooLarge => simp only [cInterp1, cFail]; exact (cFire_same _ _ _).buffer

theorem cInterp_buffer (cfg : CCfg) : ∀ (rs : List PRes) (s : CSess), (cInterp cfg s rs).1.buffer = s.buffer := by
  intro rs
  induction rs with
  | nil => intro s; rfl
  | cons r rs ih =>
    intro s
    simp only [cInterp]
    split
    · rfl
    · exact (ih _).trans (cInterp1_buffer cfg s r)

theorem cInterp1_steps (cfg : CCfg) (s : CSess) (r : PRes) :
    CSteps cfg (fun _ => True) (fun _ => True) s (cInterp1 cfg s r).2 (cInterp1 cfg s r).1 := by
  cases r with
  | frame f n => exact CSteps.handleFrame cfg.cb.all_true s f (fun _ => trivial)
  | incomplete => exact .refl s
  | protocolError => exact CSteps.fail cfg.cb.all_true s false
  | tooLarge => exact CSteps.fail cfg.cb.all_true s true

theorem cInterp_upgraded (cfg : CCfg) : ∀ (rs : List PRes) (s : CSess), s.upgraded = true →
    (cInterp cfg s rs).1.upgraded = true := by
  intro rs
  induction rs with
  | nil => intro s h; exact h
  | cons r rs ih =>
    intro s h
    simp only [cInterp]
    split
    · exact h
    · exact ih _ ((cInterp1_steps cfg s r).upgraded h)

theorem cOnData_upgraded (cfg : CCfg) (s : CSess) (data : Bytes) (hu : s.upgraded = true) :
    cOnData cfg s data = cFrames cfg { s with buffer := [] } (s.buffer ++ data) := by
  simp [cOnData, hu]

theorem cRun_failed (cfg : CCfg) : ∀ (ss : List Bytes) (s : CSess), s.protocolFailed = true → s.upgraded = true →
    (cRun cfg s (ss.map COp.data)).2 = [] := by
  intro ss
  induction ss with
  | nil => intro s _ _; rfl
  | cons x xs ih =>
    intro s h hu
    simp only [List.map_cons, cRun, cStep, cOnData_upgraded cfg s x hu]
    have : cFrames cfg { s with buffer := [] } (s.buffer ++ x) = ({ s with buffer := [] }, []) := by
      simp [cFrames, h]
    rw [this]
    exact ih _ h hu

/-- For arbitrary bytes. Nothing about the parser is used: `feed` is unfolded next to `cRun`. Unlike the server's `run_feed`
this folds ALL of the framer's output: the client's fold stops by itself at a failed connection. -/
theorem cRun_feed (cfg : CCfg) : ∀ (ss : List Bytes) (s : CSess), s.protocolFailed = false → s.upgraded = true →
    (cRun cfg s (ss.map COp.data)).2 =
      (cInterp cfg { s with buffer := [] } (feed (wsStable cfg.max) (.alive s.buffer) ss).1).2 := by
  intro ss
  induction ss with
  | nil => intro s _ _; rfl
  | cons seg ss ih =>
    intro s hpf hu
    have hd : drain (wsStable cfg.max) (s.buffer ++ seg) = drainF (wsStable cfg.max) ((s.buffer ++ seg).length + 1) (s.buffer ++ seg) := rfl
    obtain ⟨hL, hdead⟩ := cLoop_eq_interp cfg ((s.buffer ++ seg).length + 1) { s with buffer := [] } (s.buffer ++ seg) hpf
    rw [← hd] at hL hdead
    have hbuf := cInterp_buffer cfg (drain (wsStable cfg.max) (s.buffer ++ seg)).1 { s with buffer := [] }
    have hup := cInterp_upgraded cfg (drain (wsStable cfg.max) (s.buffer ++ seg)).1 { s with buffer := [] } hu
    have hnf : ¬ ({ s with buffer := [] } : CSess).protocolFailed = true := by rw [hpf]; decide
    simp only [List.map_cons, cRun, cStep, cOnData_upgraded cfg s seg hu, feed, resume, cInterp_append]
    rw [cFrames, if_neg hnf, hL]
    generalize drain (wsStable cfg.max) (s.buffer ++ seg) = D at hdead hbuf hup ⊢
    obtain ⟨rs1, c⟩ := D
    generalize cInterp cfg { s with buffer := [] } rs1 = I at hdead hbuf hup ⊢
    obtain ⟨s1, ev1⟩ := I
    by_cases hpf1 : s1.protocolFailed = true
    · -- failed in this read: the later reads and the later frames are both ignored
      simp only [hpf1, ↓reduceIte]
      rw [cRun_failed cfg ss s1 hpf1 hup, cInterp_failed cfg s1 _ hpf1]
    · have hpf1' : s1.protocolFailed = false := by simpa using hpf1
      cases c with
      | dead => exact absurd (hdead rfl) hpf1
      | alive rest =>
        rw [if_neg hpf1]
        simp only [carryOpt]
        rw [ih { s1 with buffer := rest } hpf1' hup]
        -- the fold left the emptied read buffer alone (`hbuf`), so emptying it again gives `s1` back
        have hs1 : ({ { s1 with buffer := rest } with buffer := [] } : CSess) = s1 := by
          obtain ⟨bf, fb, fo, ce, pf, cs, cn, up⟩ := s1
          simp only at hbuf
          simp [hbuf]
        rw [hs1]

/-- W3 for the client. No restriction on where CLOSE frames are or on message sizes: the client keeps parsing after a CLOSE, and
once it has failed the connection nothing is dispatched any more, in the same read or later. -/
theorem cRun_data_eq (cfg : CCfg) : ∀ (ss : List Bytes) (s : CSess) (fs : List Frame),
    ValidFrames cfg.max fs → s.protocolFailed = false → s.upgraded = true → s.fragBuf.length ≤ cfg.max →
    s.buffer ++ ss.flatten = stream fs → parse cfg.max s.buffer = .incomplete →
    (cRun cfg s (ss.map COp.data)).2 = (cInterp cfg { s with buffer := [] } (fs.map toP)).2 := by
  intro ss s fs hv hpf hu _ hb hinc
  rw [cRun_feed cfg ss s hpf hu, feed_stream cfg.max fs hv ss s.buffer hb hinc]

def cIsDelivery : CEv → Bool
  | .text _ => true
  | .binary _ => true
  | _ => false

/-- the messages handed to the application, in order -/
def cMsgs (evs : List CEv) : List CEv := evs.filter cIsDelivery

@[simp] theorem cMsgs_nil : cMsgs [] = [] := rfl
@[simp] theorem cMsgs_append (a b : List CEv) : cMsgs (a ++ b) = cMsgs a ++ cMsgs b := by simp [cMsgs]

theorem cSendStep_msgs (s : CSess) (a : Send) : cMsgs (cSendStep s a).2 = [] := by
  have hsend : ∀ op pl, cMsgs (cSend s op pl).2 = [] := by
    intro op pl; unfold cSend; split
    · rfl
    · split <;> rfl
  cases a with
  | text bs => exact hsend 1 bs
  | binary bs => exact hsend 2 bs
  | ping bs =>
    show cMsgs (cSendPing s bs).2 = []
    unfold cSendPing; split
    · rfl
    · exact hsend 9 bs
  | close c r => rfl

theorem cRunSends_msgs : ∀ (as : List Send) (s : CSess), cMsgs (cRunSends s as).2 = [] := by
  intro as
  induction as with
  | nil => intro s; rfl
  | cons a as ih => intro s; simp [cRunSends, cSendStep_msgs, ih]

theorem cFire_msgs (s : CSess) (e : CEv) (sc : List Send) : cMsgs (cFire s e sc).2 = cMsgs [e] := by
  simp only [cFire]
  have : e :: (cRunSends s sc).2 = [e] ++ (cRunSends s sc).2 := rfl
  rw [this, cMsgs_append, cRunSends_msgs]; simp

@[simp] theorem cSendClose_msgs (s : CSess) (c : Nat) (r : Bytes) : cMsgs (cSendClose s c r).2 = [] := by
  simp [cSendClose, cMsgs, cIsDelivery]

def cPongsOf : List Frame → List CEv
  | [] => []
  | c :: cs => (if c.opcode = 9 then [CEv.sent 10 true c.payload] else []) ++ cPongsOf cs

def cCleared (s : CSess) : CSess := { s with fragBuf := [], fragOp := 0 }

theorem cHandleFrame_cont (cfg : CCfg) (s : CSess) (f : Frame) (h0 : f.opcode = 0)
    (hl : (s.fragBuf ++ f.payload).length ≤ cfg.max) :
    cHandleFrame cfg s f =
      if f.fin then cDeliver cfg.cb (cCleared s) s.fragOp (s.fragBuf ++ f.payload)
      else ({ s with fragBuf := s.fragBuf ++ f.payload }, []) := by
  have hgt : ¬ cfg.max < s.fragBuf.length + f.payload.length := by simp at hl; omega
  simp [cHandleFrame, cHandleDataFrame, cAccumulate, h0, hgt, cCleared]

theorem cHandleFrame_start (cfg : CCfg) (s : CSess) (f : Frame)
    (hop : f.opcode = 1 ∨ f.opcode = 2) (hl : f.payload.length ≤ cfg.max) :
    cHandleFrame cfg s f =
      if f.fin then cDeliver cfg.cb (cCleared s) f.opcode f.payload
      else ({ s with fragOp := f.opcode, fragBuf := f.payload }, []) := by
  have hgt : ¬ cfg.max < f.payload.length := by omega
  rcases hop with h | h <;> simp [cHandleFrame, cHandleDataFrame, cAccumulate, h, hgt, cCleared]

theorem cHandleFrame_ping (cfg : CCfg) (s : CSess) (f : Frame) (h : f.opcode = 9) :
    cHandleFrame cfg s f = (s, [.sent 10 true f.payload]) := by
  simp [cHandleFrame, h]

theorem cHandleFrame_pong (cfg : CCfg) (s : CSess) (f : Frame) (h : f.opcode = 10) :
    cHandleFrame cfg s f = (s, []) := by
  simp [cHandleFrame, h]

theorem cPongsOf_msgs : ∀ cs : List Frame, cMsgs (cPongsOf cs) = []
  | [] => rfl
  | c :: cs => by simp only [cPongsOf, cMsgs_append, cPongsOf_msgs cs, List.append_nil]; split <;> simp [cMsgs, cIsDelivery]

theorem cReassembly_tail (cfg : CCfg) :
    ∀ (fs : List Frame) (acc : Bytes), Tail acc fs → ∀ (s : CSess), s.protocolFailed = false →
      (s.fragBuf ++ acc).length ≤ cfg.max →
      cInterp cfg s (fs.map toP) =
        ((cDeliver cfg.cb (cCleared s) s.fragOp (s.fragBuf ++ acc)).1,
         cPongsOf fs ++ (cDeliver cfg.cb (cCleared s) s.fragOp (s.fragBuf ++ acc)).2) := by
  intro fs acc ht
  induction ht with
  | last f h0 hfin =>
    intro s hpf hlen
    rw [List.map_cons, cInterp_cons_ok cfg s _ _ hpf]
    simp [cInterp, cInterp1, toP, cHandleFrame_cont cfg s f h0 hlen, hfin, cPongsOf, h0]
  | cont f acc rest h0 hfin _ ih =>
    intro s hpf hlen
    have hlen' : (s.fragBuf ++ f.payload).length ≤ cfg.max := by simp at hlen ⊢; omega
    have := ih { s with fragBuf := s.fragBuf ++ f.payload } hpf (by simpa [List.append_assoc] using hlen)
    rw [List.map_cons, cInterp_cons_ok cfg s _ _ hpf]
    simp only [toP, cInterp1, cHandleFrame_cont cfg s f h0 hlen', hfin]
    simp [this, cPongsOf, h0, cCleared, List.append_assoc]
  | ctl c acc rest hc _ ih =>
    intro s hpf hlen
    have := ih s hpf hlen
    rw [List.map_cons, cInterp_cons_ok cfg s _ _ hpf]
    rcases hc with hc | hc
    · simp only [toP, cInterp1, cHandleFrame_ping cfg s c hc, cPongsOf]
      simp [this, hc]
    · simp only [toP, cInterp1, cHandleFrame_pong cfg s c hc, cPongsOf]
      simp [this, hc]

def cDeliveryOf : Nat × Bytes → Option CEv
  | (op, pl) => if op = 1 then (if isValidUtf8 pl then some (.text pl) else none) else some (.binary pl)

theorem cDeliver_msgs (cb : CCbs) (s : CSess) (op : Nat) (pl : Bytes) (hop : op = 1 ∨ op = 2) :
    cMsgs (cDeliver cb s op pl).2 = (cDeliveryOf (op, pl)).toList := by
  unfold cDeliver cDeliveryOf
  rcases hop with h | h <;> subst h
  · by_cases hu : isValidUtf8 pl = true
    · simp only [hu, Bool.not_true, Bool.false_eq_true, ↓reduceIte, cFire_msgs]
      simp [cMsgs, cIsDelivery]
    · simp [hu]
  · simp only [show ¬ (2 : Nat) = 1 by omega, ↓reduceIte, cFire_msgs]
    simp [cMsgs, cIsDelivery]

theorem cIsMsg_exact (cfg : CCfg) (op : Nat) (pl : Bytes) (fsm : List Frame) (hm : IsMsg op pl fsm)
    (hfit : pl.length ≤ cfg.max) (s : CSess) (hpf : s.protocolFailed = false) :
    cMsgs (cInterp cfg s (fsm.map toP)).2 = (cDeliveryOf (op, pl)).toList ∧
    (cInterp cfg s (fsm.map toP)).1.protocolFailed = false := by
  cases hm with
  | single f hop hfin =>
    rw [List.map_cons, List.map_nil, cInterp_cons_ok cfg s _ _ hpf]
    simp only [cInterp, toP, cInterp1, cHandleFrame_start cfg s f hop hfit, hfin, ↓reduceIte, List.append_nil]
    exact ⟨cDeliver_msgs cfg.cb _ _ _ hop, (cDeliver_same cfg.cb (cCleared s) f.opcode f.payload).protocolFailed.trans hpf⟩
  | frag f acc rest hop hfin ht =>
    have hfl : f.payload.length ≤ cfg.max := by simp at hfit; omega
    have hr := cReassembly_tail cfg rest acc ht { s with fragOp := f.opcode, fragBuf := f.payload } hpf hfit
    rw [List.map_cons, cInterp_cons_ok cfg s _ _ hpf]
    simp only [toP, cInterp1, cHandleFrame_start cfg s f hop hfl, hfin, Bool.false_eq_true, ↓reduceIte, List.nil_append]
    rw [hr]
    have hc : cCleared { s with fragOp := f.opcode, fragBuf := f.payload } = cCleared s := rfl
    simp only [hc]
    refine ⟨?_, (cDeliver_same cfg.cb (cCleared s) f.opcode (f.payload ++ acc)).protocolFailed.trans hpf⟩
    rw [cMsgs_append, cDeliver_msgs cfg.cb _ _ _ hop, cPongsOf_msgs]; rfl

theorem cHandleFrame_close_msgs (cfg : CCfg) (s : CSess) (f : Frame) (h : f.opcode = 8) :
    cMsgs (cHandleFrame cfg s f).2 = [] := by
  refine cHandleFrame_cases (motive := fun r => cMsgs r.2 = []) cfg s f ?_ ?_ ?_ ?_ rfl
  · intro hd; omega
  · intro h9; omega
  · intro h10; omega
  · intro _ code reason E hE
    rcases hE with rfl | rfl <;> simp only [cMsgs_append, cFire_msgs, cSendClose_msgs] <;> simp [cMsgs, cIsDelivery]

theorem cMsgs_exact (cfg : CCfg) : ∀ (ms : List (Nat × Bytes)) (fs : List Frame), Msgs ms fs →
    (∀ m ∈ ms, m.2.length ≤ cfg.max) → ∀ (s : CSess), s.protocolFailed = false →
    cMsgs (cInterp cfg s (fs.map toP)).2 = ms.filterMap cDeliveryOf := by
  intro ms fs h
  induction h with
  | nil => intro _ s _; rfl
  | close c h8 =>
    intro _ s hpf
    rw [List.map_cons, List.map_nil, cInterp_cons_ok cfg s _ _ hpf]
    simp only [cInterp, toP, cInterp1, List.append_nil]
    exact cHandleFrame_close_msgs cfg s c h8
  | ctl c ms fs hc _ ih =>
    intro hfit s hpf
    have := ih hfit s hpf
    rw [List.map_cons, cInterp_cons_ok cfg s _ _ hpf]
    rcases hc with hc | hc
    · simp only [toP, cInterp1, cHandleFrame_ping cfg s c hc, cMsgs_append, this]
      simp [cMsgs, cIsDelivery]
    · simp only [toP, cInterp1, cHandleFrame_pong cfg s c hc, cMsgs_append, this]
      simp
  | msg op pl fsm ms fs hm _ ih =>
    intro hfit s hpf
    obtain ⟨e1, e2⟩ := cIsMsg_exact cfg op pl fsm hm (hfit (op, pl) (List.mem_cons_self ..)) s hpf
    rw [List.map_append, cInterp_append]
    simp only [cMsgs_append, e1]
    rw [ih (fun m hm' => hfit m (List.mem_cons_of_mem _ hm')) _ e2]
    simp only [List.filterMap_cons]
    cases cDeliveryOf (op, pl) <;> simp

end Iora.Ws
