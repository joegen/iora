import IoraModel.Common.Bytes
import IoraModel.Gen.Udp
/-!
# Model of `iora::network::UdpEngine` bookkeeping (include/iora/network/detail/udp_engine.hpp) — property C06

What is mirrored: the session table `_sessions`, the listener table `_listeners` with the per-listener out-queue
(`Listener::wq`, `OutDg` = destination + payload), the per-client-session out-queue (`Session::wq`), the peer index
`_peerIndex` (source address → the ONE session that receives that peer's datagrams on listener sockets), the
`sessionsCurrent` counter, the idle/age/write-stall garbage collector, and every function of the I/O thread that reads or
writes them: `readFromListener`, `onClient`, `connectDo`, `viaDo`, `sendDo`, `flushListener`, `writeClient`, `closeNow`, `runGc`.

The I/O thread is single-threaded; one model step = one thing that thread does between two `epoll_wait` calls for ONE event
(a command taken from the queue, `EPOLLIN` on one socket, `EPOLLOUT` on one socket, the GC timer).  Everything the kernel
decides is an INPUT of the step (DESIGN §6.2): which datagrams a `recvfrom` loop returns and from whom, and what every single
`send`/`sendto` answers (`ok` / `EAGAIN` / another error).  Quantifying over input lists therefore quantifies over all peers,
sizes, contents, interleavings and fault sequences.

Modelled, not verified (assumed behaviour of the environment, stated here once):
* kernel UDP: one successful `send`/`sendto` = one datagram with exactly these bytes to exactly this destination, a datagram
  longer than `maxDatagram` (65507, IPv4) is refused with an error; a connected client socket only returns datagrams of its peer;
* `key()` (getnameinfo numeric host:port) is the function `Cfg.key : Addr → Nat` from socket addresses to index keys; the model does
  NOT assume it injective — the theorems that need "distinct peers have distinct keys" carry the explicit hypothesis `KeyInjective`
  (and `Props/C06.lean` shows what breaks without it). A `getnameinfo` FAILURE (empty key) is a separate input: the datagram is dropped /
  the connect-via-listener refused (the FC06a repair), nothing is indexed under the empty key;
* name resolution in `connectDo`/`viaDo` succeeds and address families match (the failure arms fire a close for the id and create
  nothing; they belong to the lifecycle property C02).

Ghost data: every step is told its position `tok` in the history, and a datagram queued or sent by `sendDo` carries the position
of the `cmdSend` input that created it.  It is never read by the model's control flow (nor printed by the driver); it lets the
theorems say "this `sent` belongs to that `send`".
-/
namespace Iora.Udp

abbrev Addr := Nat
abbrev Sid := Nat
abbrev Lid := Nat
abbrev Tok := Nat

/-- `enum class Role` as used by the UDP engine: `ClientConnected` (own connected socket) / `ServerPeer` (shares a listener socket) -/
inductive Role | client | serverPeer
  deriving DecidableEq, Repr

/-- what the kernel answers to one `send`/`sendto` -/
inductive Ans | ok | eagain | err
  deriving DecidableEq, Repr

/-- `TransportError` passed to the close callback -/
inductive Why | unknown | gc | backpressure | socket | config
  deriving DecidableEq, Repr

/-- the socket a datagram leaves from -/
inductive Src | lst (lid : Lid) | cli (sid : Sid)
  deriving DecidableEq, Repr

/-- largest UDP payload over IPv4 (65535 − 20 − 8); a kernel fact, not a constant of the repository -/
def maxDatagram : Nat := 65507

/-- largest UDP payload for a datagram that travels over IPv6 (`v6`) or IPv4: IPv6 does not count its own header (65535 − 8) -/
def maxDatagramFor (v6 : Bool) : Nat := if v6 then 65527 else maxDatagram


/-- the part of `TransportConfig` the UDP engine consults, plus the translated facts about the source (`Gen/Udp.lean`) -/
structure Cfg where
  ioReadChunk : Nat := Gen.Udp.ioReadChunk
  maxSessions : Nat := Gen.Udp.maxSessions
  maxWriteQueue : Nat := Gen.Udp.maxWriteQueue
  closeOnBackpressure : Bool := Gen.Udp.closeOnBackpressure
  idleTimeoutMs : Nat := Gen.Udp.idleTimeoutS * 1000
  maxConnAgeMs : Nat := Gen.Udp.maxConnAgeS * 1000
  writeStallTimeoutMs : Nat := Gen.Udp.writeStallTimeoutMs
  /-- `closeNow` removes `_peerIndex[pkey]` only when it maps to the closing session (translated from the source) -/
  eraseGuarded : Bool := Gen.Udp.closeNowEraseGuarded
  /-- the same fact for the erase in `shutdownDrain` (either form empties the index there: `Lemmas` prove it) -/
  drainGuarded : Bool := Gen.Udp.shutdownDrainEraseGuarded
  clientOverflowStrict : Bool := Gen.Udp.clientOverflowStrict
  /-- `key()`: the index key of a socket address (canonical numeric "host:port" string, here a number). Default: the address itself. -/
  key : Addr → Nat := fun a => a
  /-- which addresses are IPv4-mapped IPv6 addresses (`::ffff:a.b.c.d`): a datagram to one of them travels over IPv4 even from an IPv6
  socket, so the IPv4 size limit applies (a kernel fact the environment supplies) -/
  mapped : Addr → Bool := fun _ => false
  /-- translated facts about the epoll interest masks: does `addEpoll` in `addListenerDo`/`connectDo` arm `EPOLLIN`, does the mask
  rebuilt by `updateListener`/`updateClient` keep it -/
  listenerAddIn : Bool := Gen.Udp.listenerAddArmsIn
  listenerUpdIn : Bool := Gen.Udp.listenerUpdateKeepsIn
  clientAddIn : Bool := Gen.Udp.clientAddArmsIn
  clientUpdIn : Bool := Gen.Udp.clientUpdateKeepsIn
  listenerOverflowStrict : Bool := Gen.Udp.listenerOverflowStrict

/-- queued datagram: `OutDg{to, payload}` (listener queue) or `ByteBuffer` (client queue; `dest` = the connected peer).
`tok` is ghost: the index of the `cmdSend` input that queued it. -/
structure Item where
  tok : Nat
  dest : Addr
  payload : Bytes
  deriving DecidableEq, Repr

/-- `struct Session` -/
structure Sess where
  role : Role
  peer : Addr
  owner : Lid := 0
  wq : List Item := []
  wantWrite : Bool := false
  created : Nat := 0
  lastActivity : Nat := 0
  lastWriteProgress : Nat := 0
  /-- the interest mask last handed to epoll for the session's own socket (client sessions only): `EPOLLIN` / `EPOLLOUT` armed -/
  armIn : Bool := false
  armOut : Bool := false
  /-- address family of the session's own socket (client sessions) -/
  v6 : Bool := false
  deriving Repr

/-- `struct Listener` (+ the address family of its socket and the interest mask last handed to epoll for it) -/
structure Lst where
  wq : List Item := []
  wantWrite : Bool := false
  v6 : Bool := false
  armIn : Bool := false
  armOut : Bool := false
  deriving Repr

/-- finite map as a function; `upd m k v` sets (`some`) or erases (`none`) key `k` -/
def upd {α : Type} (m : Nat → Option α) (k : Nat) (v : Option α) : Nat → Option α :=
  fun x => if x = k then v else m x

@[simp] theorem upd_same {α : Type} (m : Nat → Option α) (k : Nat) (v : Option α) : upd m k v k = v := by simp [upd]
theorem upd_other {α : Type} (m : Nat → Option α) (k : Nat) (v : Option α) (x : Nat) (h : x ≠ k) : upd m k v x = m x := by
  simp [upd, h]

structure State where
  sessions : Sid → Option Sess := fun _ => none
  listeners : Lid → Option Lst := fun _ => none
  /-- `_peerIndex`: index KEY (`Cfg.key` of a source address) → session -/
  peerIndex : Nat → Option Sid := fun _ => none
  nextSid : Nat := Gen.Udp.nextSessionIdInit
  nextLid : Nat := Gen.Udp.nextListenerIdInit
  sessionsCurrent : Nat := 0
  /-- `MonoClock::now()` in ms; moves only by `advance` -/
  now : Nat := 0

inductive In
  /-- `addListenerDo` succeeded: a new bound listener socket (IPv6 or IPv4) -/
  | listen (v6 : Bool)
  /-- `EPOLLIN` on listener `lid`: the `recvfrom` loop returns these datagrams (source, bytes) in this order, then `EAGAIN` -/
  | recvFrom (lid : Lid) (dgs : List (Addr × Bytes))
  /-- `EPOLLIN` on listener `lid` returning `n` datagrams for each of which `key()` failed (getnameinfo error → empty key) -/
  | recvKeyFail (lid : Lid) (n : Nat)
  /-- `connectViaListener()` + `viaDo` where `key()` of the target failed -/
  | viaKeyFail (lid : Lid)
  /-- `EPOLLIN` on the socket of client session `sid`: the `recv` loop returns these datagrams, then `EAGAIN` -/
  | clientRecv (sid : Sid) (dgs : List Bytes)
  /-- `connect()` + `connectDo`: a connected client socket to `addr` (`v6` = the family `addr` resolves to) -/
  | connect (addr : Addr) (v6 : Bool)
  /-- `connectViaListener()` + `viaDo`; `v6` = the address family the target resolves to -/
  | via (lid : Lid) (addr : Addr) (v6 : Bool)
  /-- `send()` accepted + `sendDo`; `ans` = what the kernel answers to the ONE `send`/`sendto` it makes -/
  | cmdSend (sid : Sid) (p : Bytes) (ans : Ans)
  /-- `EPOLLOUT` on listener `lid`; `answers` = kernel answers to the successive `sendto` calls of `flushListener` -/
  | writableL (lid : Lid) (answers : List Ans)
  /-- `EPOLLOUT` on client session `sid`; `answers` for `writeClient` -/
  | writableC (sid : Sid) (answers : List Ans)
  /-- `close()` + the `Close` arm of `process()` -/
  | close (sid : Sid)
  /-- the monotonic clock moves forward -/
  | advance (ms : Nat)
  /-- the GC timer fires: `runGc` -/
  | gc
  /-- `stop()` (the `Shutdown` command, then `shutdownDrain`) followed by `start()`: id counters, clock and `_peerIndex` are members
  that survive; sessions and listeners do not -/
  | restart

inductive Out
  /-- the kernel accepted ONE datagram `bytes` for `dest` from socket `src` (`tok`: ghost, the `cmdSend` it belongs to) -/
  | sent (src : Src) (dest : Addr) (bytes : Bytes) (tok : Nat)
  | accept (sid : Sid) (addr : Addr)
  | connected (sid : Sid) (addr : Addr)
  | data (sid : Sid) (bytes : Bytes)
  | closed (sid : Sid) (why : Why)
  /-- `error(TransportError::Socket, …)` callback (a queued datagram dropped by `flushListener`) -/
  | error
  /-- `_sessions[sid]` on an index entry without session: a null `unique_ptr` is dereferenced (theorem: unreachable) -/
  | nullDeref
  deriving DecidableEq, Repr

/-- does a datagram from a socket of family `sockV6` to `dest` travel over IPv6? (not if `dest` is v4-mapped) -/
def overV6 (cfg : Cfg) (sockV6 : Bool) (dest : Addr) : Bool := sockV6 && !cfg.mapped dest

/-- the kernel refuses a datagram above the maximum of the socket's family (EMSGSIZE) whatever else happens -/
def kernelAns (v6 : Bool) (p : Bytes) (a : Ans) : Ans := if p.length > maxDatagramFor v6 then .err else a

/-- `wq.size() > maxWriteQueue` (or `>=` if the source says so), tested after the push -/
def over (strict : Bool) (len cap : Nat) : Bool := if strict then decide (len > cap) else decide (len ≥ cap)

/-- `maxSessions && sessionsCurrent >= maxSessions` -/
def capReached (cfg : Cfg) (st : State) : Bool := cfg.maxSessions != 0 && decide (st.sessionsCurrent ≥ cfg.maxSessions)

/-- mirrors udp_engine.hpp::updateListener: the mask is rebuilt from scratch — `EPOLLIN` (if the source says so) and `EPOLLOUT`
exactly when `wantWrite && !wq.empty()` -/
def updL (cfg : Cfg) (l : Lst) : Lst := { l with armIn := cfg.listenerUpdIn, armOut := l.wantWrite && !l.wq.isEmpty }

/-- mirrors udp_engine.hpp::updateClient -/
def updC (cfg : Cfg) (s : Sess) : Sess := { s with armIn := cfg.clientUpdIn, armOut := s.wantWrite && !s.wq.isEmpty }

@[simp] theorem updC_role (cfg : Cfg) (s : Sess) : (updC cfg s).role = s.role := rfl
@[simp] theorem updC_peer (cfg : Cfg) (s : Sess) : (updC cfg s).peer = s.peer := rfl
@[simp] theorem updC_owner (cfg : Cfg) (s : Sess) : (updC cfg s).owner = s.owner := rfl
@[simp] theorem updC_wq (cfg : Cfg) (s : Sess) : (updC cfg s).wq = s.wq := rfl
@[simp] theorem updC_wantWrite (cfg : Cfg) (s : Sess) : (updC cfg s).wantWrite = s.wantWrite := rfl
@[simp] theorem updL_wq (cfg : Cfg) (l : Lst) : (updL cfg l).wq = l.wq := rfl
@[simp] theorem updL_wantWrite (cfg : Cfg) (l : Lst) : (updL cfg l).wantWrite = l.wantWrite := rfl
@[simp] theorem updL_v6 (cfg : Cfg) (l : Lst) : (updL cfg l).v6 = l.v6 := rfl

/-- mirrors udp_engine.hpp::closeNow (callers have looked the session up; `closed` sessions never stay in the table) -/
def closeNow (cfg : Cfg) (st : State) (sid : Sid) (why : Why) : State × List Out :=
  match st.sessions sid with
  | none => (st, [])
  | some s =>
    let idx : Nat → Option Sid :=
      match s.role with
      | .client => st.peerIndex
      | .serverPeer =>
        if cfg.eraseGuarded then
          (if st.peerIndex (cfg.key s.peer) = some sid then upd st.peerIndex (cfg.key s.peer) none else st.peerIndex)
        else upd st.peerIndex (cfg.key s.peer) none
    ({ st with sessions := upd st.sessions sid none, peerIndex := idx, sessionsCurrent := st.sessionsCurrent - 1 },
     [.closed sid why])

/-- mirrors udp_engine.hpp::readFromListener — the body of the loop for ONE datagram returned by `recvfrom` -/
def recvOne (cfg : Cfg) (lid : Lid) (st : State) (d : Addr × Bytes) : State × List Out :=
  let got := d.2.take cfg.ioReadChunk          -- recvfrom(buf of ioReadChunk bytes, flags 0): the excess is discarded
  if got = [] then (st, [])                    -- `n == 0 acceptable`: consumed, no event
  else
    match st.peerIndex (cfg.key d.1) with
    | none =>
      if capReached cfg st then (st, [])       -- `continue`: dropped, no session, no event
      else
        let sid := st.nextSid
        let s : Sess := { role := .serverPeer, peer := d.1, owner := lid, created := st.now, lastActivity := st.now,
                          lastWriteProgress := st.now }
        ({ st with sessions := upd st.sessions sid (some s), peerIndex := upd st.peerIndex (cfg.key d.1) (some sid),
                   nextSid := sid + 1, sessionsCurrent := st.sessionsCurrent + 1 },
         [.accept sid d.1, .data sid got])
    | some sid =>
      match st.sessions sid with
      | none => (st, [.nullDeref])
      | some s =>
        ({ st with sessions := upd st.sessions sid (some { s with lastActivity := st.now }) }, [.data sid got])

/-- mirrors udp_engine.hpp::readFromListener — the `for (;;)` loop over what the kernel has queued -/
def recvMany (cfg : Cfg) (lid : Lid) : State → List (Addr × Bytes) → State × List Out
  | st, [] => (st, [])
  | st, d :: ds =>
    let r1 := recvOne cfg lid st d
    let r2 := recvMany cfg lid r1.1 ds
    (r2.1, r1.2 ++ r2.2)

/-- `s->lastActivity = MonoClock::now()` in the `n > 0` branch of onClient -/
def touchClient (st : State) (sid : Sid) : State :=
  match st.sessions sid with
  | none => st
  | some s => { st with sessions := upd st.sessions sid (some { s with lastActivity := st.now }) }

/-- mirrors udp_engine.hpp::onClient (EPOLLIN part), the loop body for the datagrams ONE wake-up reads (which ones those are — all that
is queued, for the loop as written — is decided by `Model/UdpWake.lean` from the translated loop shape). A zero-length read
(`n == 0`) delivers an empty view, does not touch `lastActivity`, and the loop goes on (`continue`, the FC06b repair; with the
unrepaired `break` the wake-up simply ends there: `UdpWake.takeLoop` hands this function nothing behind a zero-length datagram). -/
def clientRecvMany (cfg : Cfg) (sid : Sid) : State → List Bytes → State × List Out
  | st, [] => (st, [])
  | st, d :: ds =>
    let got := d.take cfg.ioReadChunk
    let r2 := clientRecvMany cfg sid (if got = [] then st else touchClient st sid) ds
    (r2.1, .data sid got :: r2.2)

/-- mirrors udp_engine.hpp::connectDo (resolution and `::connect` succeed) -/
def connectDo (cfg : Cfg) (st : State) (addr : Addr) (v6 : Bool) : State × List Out :=
  let sid := st.nextSid
  let s : Sess := { role := .client, peer := addr, created := st.now, lastActivity := st.now, lastWriteProgress := st.now,
                    armIn := cfg.clientAddIn, v6 := v6 }
  ({ st with sessions := upd st.sessions sid (some s), nextSid := sid + 1, sessionsCurrent := st.sessionsCurrent + 1 },
   [.connected sid addr])

/-- mirrors udp_engine.hpp::viaDo -/
def viaDo (cfg : Cfg) (st : State) (lid : Lid) (addr : Addr) (v6 : Bool) : State × List Out :=
  let sid := st.nextSid
  let st0 := { st with nextSid := sid + 1 }    -- connectViaListener() has already handed the id out
  match st.listeners lid with
  | none => (st0, [.closed sid .config])
  | some l =>
    if l.v6 != v6 then (st0, [.closed sid .config])        -- "AF mismatch": no address of the listener's family
    else if capReached cfg st then (st0, [.closed sid .config])
    else
      let s : Sess := { role := .serverPeer, peer := addr, owner := lid, created := st.now, lastActivity := st.now,
                        lastWriteProgress := st.now }
      let idx := match st.peerIndex (cfg.key addr) with
        | none => upd st.peerIndex (cfg.key addr) (some sid)
        | some _ => st.peerIndex                 -- `if (!peerExists)`: an existing mapping is kept
      ({ st0 with sessions := upd st.sessions sid (some s), peerIndex := idx, sessionsCurrent := st.sessionsCurrent + 1 },
       [.connected sid addr])

/-- mirrors udp_engine.hpp::sendDo -/
def sendDo (cfg : Cfg) (tok : Nat) (st : State) (sid : Sid) (p : Bytes) (ans0 : Ans) : State × List Out :=
  match st.sessions sid with
  | none => (st, [])
  | some s =>
    let it : Item := { tok := tok, dest := s.peer, payload := p }
    match s.role with
    | .client =>
      match kernelAns (overV6 cfg s.v6 s.peer) p ans0 with
      | .ok =>
        ({ st with sessions := upd st.sessions sid (some { s with lastActivity := st.now, lastWriteProgress := st.now }) },
         [.sent (.cli sid) s.peer p tok])
      | .eagain =>
        let wq' := s.wq ++ [it]
        if over cfg.clientOverflowStrict wq'.length cfg.maxWriteQueue then
          if cfg.closeOnBackpressure then closeNow cfg st sid .backpressure
          else ({ st with sessions := upd st.sessions sid (some (updC cfg { s with wq := wq'.tail, wantWrite := true })) }, [])
        else ({ st with sessions := upd st.sessions sid (some (updC cfg { s with wq := wq', wantWrite := true })) }, [])
      | .err => closeNow cfg st sid .socket
    | .serverPeer =>
      match st.listeners s.owner with
      | none => closeNow cfg st sid .unknown
      | some l =>
        match kernelAns (overV6 cfg l.v6 s.peer) p ans0 with
        | .ok =>
          ({ st with sessions := upd st.sessions sid (some { s with lastActivity := st.now, lastWriteProgress := st.now }) },
           [.sent (.lst s.owner) s.peer p tok])
        | .eagain =>
          let wq' := l.wq ++ [it]
          if over cfg.listenerOverflowStrict wq'.length cfg.maxWriteQueue then
            if cfg.closeOnBackpressure then
              -- the datagram STAYS in the listener queue; the session is closed
              closeNow cfg { st with listeners := upd st.listeners s.owner (some (updL cfg { l with wq := wq', wantWrite := true })) } sid .backpressure
            else ({ st with listeners := upd st.listeners s.owner (some (updL cfg { l with wq := wq'.tail, wantWrite := true })) }, [])
          else ({ st with listeners := upd st.listeners s.owner (some (updL cfg { l with wq := wq', wantWrite := true })) }, [])
        | .err => closeNow cfg st sid .socket

/-- next scripted kernel answer (an exhausted script answers `ok`) -/
def nextAns : List Ans → Ans × List Ans
  | [] => (.ok, [])
  | a :: as => (a, as)

/-- mirrors udp_engine.hpp::flushListener — the `while (!wq.empty())` loop: (what stays queued, what happened) -/
def flushLoopL (lid : Lid) (v6 : Addr → Bool) : List Item → List Ans → List Item × List Out
  | [], _ => ([], [])
  | it :: rest, as =>
    match kernelAns (v6 it.dest) it.payload (nextAns as).1 with
    | .ok => let r := flushLoopL lid v6 rest (nextAns as).2; (r.1, .sent (.lst lid) it.dest it.payload it.tok :: r.2)
    | .eagain => (it :: rest, [])
    | .err => let r := flushLoopL lid v6 rest (nextAns as).2; (r.1, .error :: r.2)   -- dropped, loop goes on

/-- mirrors udp_engine.hpp::flushListener; the kernel reports `EPOLLOUT` only while it is in the interest mask (`armOut`) -/
def flushListener (cfg : Cfg) (st : State) (lid : Lid) (answers : List Ans) : State × List Out :=
  match st.listeners lid with
  | none => (st, [])
  | some l =>
    if l.armOut then
      let r := flushLoopL lid (overV6 cfg l.v6) l.wq answers
      ({ st with listeners := upd st.listeners lid (some (updL cfg { l with wq := r.1, wantWrite := !r.1.isEmpty })) }, r.2)
    else (st, [])

/-- mirrors udp_engine.hpp::writeClient — the loop: (what stays queued, datagrams sent, `true` if a hard error ended it) -/
def flushLoopC (sid : Sid) (v6 : Addr → Bool) : List Item → List Ans → List Item × List Out × Bool
  | [], _ => ([], [], false)
  | it :: rest, as =>
    match kernelAns (v6 it.dest) it.payload (nextAns as).1 with
    | .ok => let r := flushLoopC sid v6 rest (nextAns as).2; (r.1, .sent (.cli sid) it.dest it.payload it.tok :: r.2.1, r.2.2)
    | .eagain => (it :: rest, [], false)
    | .err => (it :: rest, [], true)

/-- mirrors udp_engine.hpp::writeClient (`EPOLLOUT` on a client socket, reported only while armed by updateClient) -/
def writeClient (cfg : Cfg) (st : State) (sid : Sid) (answers : List Ans) : State × List Out :=
  match st.sessions sid with
  | none => (st, [])
  | some s =>
    match s.role with
    | .serverPeer => (st, [])
    | .client =>
      if s.armOut then
        let r := flushLoopC sid (overV6 cfg s.v6) s.wq answers
        let lwp := if r.2.1.isEmpty then s.lastWriteProgress else st.now
        let s1 : Sess := updC cfg { s with wq := r.1, wantWrite := !r.1.isEmpty, lastWriteProgress := lwp }
        let st1 := { st with sessions := upd st.sessions sid (some s1) }
        if r.2.2 then
          let c := closeNow cfg st1 sid .socket
          (c.1, r.2.1 ++ c.2)
        else (st1, r.2.1)
      else (st, [])

/-- the four tests of `runGc` (`connectPending` is never set by the UDP engine) -/
def gcExpired (cfg : Cfg) (now : Nat) (s : Sess) : Bool :=
  (decide (cfg.idleTimeoutMs > 0) && decide (now - s.lastActivity > cfg.idleTimeoutMs)) ||
  (decide (cfg.maxConnAgeMs > 0) && decide (now - s.created > cfg.maxConnAgeMs)) ||
  (decide (cfg.writeStallTimeoutMs > 0) && !s.wq.isEmpty && decide (now - s.lastWriteProgress > cfg.writeStallTimeoutMs))

/-- the second loop of `runGc`: close what was collected -/
def closeAll (cfg : Cfg) (why : Why) : State → List Sid → State × List Out
  | st, [] => (st, [])
  | st, sid :: rest =>
    let r1 := closeNow cfg st sid why
    let r2 := closeAll cfg why r1.1 rest
    (r2.1, r1.2 ++ r2.2)

/-- mirrors udp_engine.hpp::runGc (hash-map iteration order is unspecified in C++; the model closes in ascending id order and
the harness sorts the close events of one GC run) -/
def runGc (cfg : Cfg) (st : State) : State × List Out :=
  let due := (List.range st.nextSid).filter (fun sid =>
    match st.sessions sid with
    | some s => gcExpired cfg st.now s
    | none => false)
  closeAll cfg .gc st due

/-- mirrors udp_engine.hpp::shutdownDrain — the body of the session loop: the close callback fires ("shutdown"), a ServerPeer session
removes its peer key from the index; the session object stays in `_sessions` until the `clear()` after the loop -/
def drainOne (cfg : Cfg) (st : State) (sid : Sid) : State × List Out :=
  match st.sessions sid with
  | none => (st, [])
  | some s =>
    let idx : Nat → Option Sid :=
      match s.role with
      | .client => st.peerIndex
      | .serverPeer =>
        if cfg.drainGuarded then
          (if st.peerIndex (cfg.key s.peer) = some sid then upd st.peerIndex (cfg.key s.peer) none else st.peerIndex)
        else upd st.peerIndex (cfg.key s.peer) none
    ({ st with peerIndex := idx, sessionsCurrent := st.sessionsCurrent - 1 }, [.closed sid .unknown])

def drainAll (cfg : Cfg) : State → List Sid → State × List Out
  | st, [] => (st, [])
  | st, sid :: rest =>
    let r1 := drainOne cfg st sid
    let r2 := drainAll cfg r1.1 rest
    (r2.1, r1.2 ++ r2.2)

/-- mirrors udp_engine.hpp::shutdownDrain (no command is pending: the harness serialises) -/
def shutdownDrain (cfg : Cfg) (st : State) : State × List Out :=
  let r := drainAll cfg st (List.range st.nextSid)
  ({ r.1 with sessions := fun _ => none, listeners := fun _ => none }, r.2)

/-- one event of the I/O thread; `tok` (ghost) = the position of this input in the history -/
def step (cfg : Cfg) (tok : Nat) (st : State) : In → State × List Out
  | .listen v6 =>
    ({ st with listeners := upd st.listeners st.nextLid (some ({ v6 := v6, armIn := cfg.listenerAddIn } : Lst)),
               nextLid := st.nextLid + 1 }, [])
  | .recvFrom lid dgs =>
    match st.listeners lid with
    | none => (st, [])
    | some l => if l.armIn then recvMany cfg lid st dgs else (st, [])     -- not armed: the datagrams stay in the kernel, unseen
  | .recvKeyFail lid n =>
    -- mirrors readFromListener with `k.empty()`: each such datagram is reported (`error`) and dropped; no session, no index entry
    match st.listeners lid with
    | none => (st, [])
    | some l => if l.armIn then (st, List.replicate n .error) else (st, [])
  | .viaKeyFail _ =>
    -- mirrors viaDo with `k.empty()` (and every earlier refusal): the id handed out by connectViaListener() is closed, nothing is created
    ({ st with nextSid := st.nextSid + 1 }, [.closed st.nextSid .config])
  | .clientRecv sid dgs =>
    match st.sessions sid with
    | none => (st, [])
    | some s =>
      match s.role with
      | .serverPeer => (st, [])
      | .client => if s.armIn then clientRecvMany cfg sid st dgs else (st, [])
  | .connect addr v6 => connectDo cfg st addr v6
  | .via lid addr v6 => viaDo cfg st lid addr v6
  | .cmdSend sid p ans => if p = [] then (st, []) else sendDo cfg tok st sid p ans     -- `send()` with n == 0 queues nothing
  | .writableL lid answers => flushListener cfg st lid answers
  | .writableC sid answers => writeClient cfg st sid answers
  | .close sid => closeNow cfg st sid .unknown
  | .advance ms => ({ st with now := st.now + ms }, [])
  | .gc => runGc cfg st
  | .restart => shutdownDrain cfg st

/-- the order in which one `epoll_wait` batch is handled: `loopUnbatched` takes the events as they come; `loopBatched`
(EventBatchProcessor::processBatch) handles the special descriptors (command eventfd, GC timer) first, in place, and every socket
event afterwards -/
def batchOrder {α : Type} (special : α → Bool) (batched : Bool) (evs : List α) : List α :=
  if batched then evs.filter special ++ evs.filter (fun e => !special e) else evs

/-- run a history from a state, the first input being number `n`; returns the final state and everything that happened -/
def runFrom (cfg : Cfg) : Nat → State → List In → State × List Out
  | _, st, [] => (st, [])
  | n, st, i :: is =>
    let r1 := step cfg n st i
    let r2 := runFrom cfg (n + 1) r1.1 is
    (r2.1, r1.2 ++ r2.2)

/-- the I/O thread on history `h` from a fresh engine -/
def run (cfg : Cfg) (h : List In) : State × List Out := runFrom cfg 0 {} h

end Iora.Udp
