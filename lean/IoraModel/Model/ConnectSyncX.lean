import IoraModel.Model.ConnectSync
/-!
# C04 model, argument layer

`Model/ConnectSync.lean` decides *which* session a call gets and which callbacks fire.  This layer carries the two pieces of
data the property also talks about, without touching the control model: the TLS mode a call REQUESTED versus the mode the
engine was asked for when the session was created ("completed its (TCP and, if requested, TLS) handshake"), and the reason
class the engine's onClose reported for a session (refused / unresolved / engine-side connect timeout / TLS failure / closed by
application / peer), which is what a failed connectSync returns ("a definite error (refused, unresolved, timed out …)").

An `XStep` is a control step plus one number: the requested TLS mode for `call`, the reason class for the steps that begin a
close handler (`ioPop` of a failing Connect or of a Close, `ioFail`, `ioPeerClose`); it is ignored elsewhere.
-/
namespace Iora.ConnectSync

structure XState where
  core : State := {}
  reqTls : Nat → Nat := fun _ => 0     -- per application thread: the TLS mode its current call requested
  sessTls : Nat → Nat := fun _ => 0    -- per session id: the mode `engine->connect` was called with
  reason : Nat → Nat := fun _ => 0     -- per session id: reason class of the engine's onClose (0 = none yet)

def setN (f : Nat → Nat) (i v : Nat) : Nat → Nat := fun j => if j = i then v else f j

/-- session whose close handler the step begins, if any -/
def closeBegins (s : State) : Step → Option Nat
  | .ioPop succeeds =>
    (match s.io, s.fifo with
     | .idle, .connect sid :: _ => if s.eng sid == .none && !succeeds then some sid else none
     | .idle, .close sid :: _ => if s.eng sid == .connecting || s.eng sid == .established then some sid else none
     | _, _ => none)
  | .ioFail sid => if s.io == .idle && s.eng sid == .connecting then some sid else none
  | .ioPeerClose sid => if s.io == .idle && s.eng sid == .established then some sid else none
  | .timerClose sid => if s.io == .idle && s.eng sid == .connecting then some sid else none
  | _ => none

def xstep (cfg : Cfg) (x : XState) (st : Step) (n : Nat) : XState :=
  let core' := stepC cfg x.core st
  match st with
  | .call c _ =>
    if (x.core.callers c).pc == .idle || (x.core.callers c).pc == .finished then { x with core := core', reqTls := setN x.reqTls c n }
    else { x with core := core' }
  | .cConnect c =>
    -- mirrors `engine->connect(host, port, tls)`: the requested mode is passed on (skeleton fact `connectPassesArgs`)
    -- `Cfg.args` is load-bearing here: were the arguments not passed on unchanged, the engine would be asked for mode 0
    if (x.core.callers c).pc == .haveLock then
      { x with core := core', sessTls := setN x.sessTls x.core.nextSid (if cfg.args then x.reqTls c else 0) }
    else { x with core := core' }
  | _ =>
    match closeBegins x.core st with
    | some sid => { x with core := core', reason := setN x.reason sid n }
    | none => { x with core := core' }

def xrun (cfg : Cfg) (x : XState) : List (Step × Nat) → XState
  | [] => x
  | (st, n) :: rest => xrun cfg (xstep cfg x st n) rest

theorem xstep_core (cfg : Cfg) (x : XState) (st : Step) (n : Nat) : (xstep cfg x st n).core = stepC cfg x.core st := by
  unfold xstep
  cases st <;> dsimp only <;> (repeat' split) <;> rfl

theorem xrun_core (cfg : Cfg) : ∀ (steps : List (Step × Nat)) (x : XState),
    (xrun cfg x steps).core = runC cfg x.core (steps.map (·.1)) := by
  intro steps
  induction steps with
  | nil => intro x; rfl
  | cons p rest ih => intro x; obtain ⟨st, n⟩ := p; simp only [xrun, List.map, runC, ih, xstep_core]

def xinit : XState := {}

end Iora.ConnectSync
