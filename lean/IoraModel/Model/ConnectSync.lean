import IoraModel.Model.ConnectSyncFacts
/-!
# Model of `Transport::connectSync` / `ITransport::connectSyncCancellable` (C04)

Mirrors `include/iora/network/transport_impl.hpp`: the caller program of `Transport::connectSync` (lock → entry fence →
`engine->connect` (enqueue only, `detail/engine_base.hpp` contract) → register in `pendingConnects` → `ParkGuard` → `wait_for`
→ three exits; the timeout exit = unlock, `engine->close(sid)`, relock), the I/O-thread `onConnect` / `onClose` handlers of
`Transport::Impl::setupEngineCallbacks`, `Impl::setTeardownFence`, and the sub-timeout loop of
`ITransport::connectSyncCancellable`.  The engine is the abstract FIFO the contract describes: commands are processed in
order (Connect before Close), a started connect later completes, fails or stays pending — environment choices.

`syncMutex` is explicit (`lock`): a caller holds it across several steps (from its entry section until it parks), handler
critical sections and the fence are atomic steps that are only enabled while it is free.  `wait_for` is park /
wake-and-reacquire; a timeout is a scheduler choice (`cWake c true`).  Modelled as REPAIRED (fixes/F16-…): every exit of
`connectSync` that does not return the handler's result marks the pending record `abandoned`, and the `onConnect` handler
leaves an abandoned record in place.

Every step appends what it did to `log`; the theorems are statements about `log` for ALL step sequences.
-/
namespace Iora.ConnectSync

/-- `timeout` = connectSync's OWN timeout exit; `closed` = the error the engine's onClose delivered to the waiter (its reason class —
refused, unresolved, engine-side connect timeout, TLS failure, … — is carried per session by `ConnectSyncX.reason`);
`refused` = `engine->connect` itself returned an error (e.g. the queue is closed) -/
inductive Err | timeout | shuttingDown | cancelled | closed | refused
  deriving DecidableEq, Repr

inductive Res | ok (sid : Nat) | err (e : Err)
  deriving DecidableEq, Repr

/-- program counter of an application thread inside connectSync (or between sub-attempts of the cancellable wrapper) -/
inductive Pc
  | idle
  | start                              -- connectSync entered, `syncMutex` not yet acquired
  | haveLock                           -- lock held, fence passed, about to call `engine->connect`
  | connected (sid : Nat)              -- `engine->connect` returned `sid` (command enqueued), not yet registered
  | registered (sid : Nat)             -- `pendingConnects[sid] = op`, ParkGuard constructed, about to wait
  | parked (sid : Nat) (awake : Bool)  -- asleep in `op->cv.wait_for` (lock released)
  | closing (sid : Nat)                -- timeout exit: lock released, about to call `engine->close(sid)`
  | relock (sid : Nat)                 -- `engine->close(sid)` issued, about to re-acquire the lock
  | wloop                              -- cancellable wrapper: a sub-attempt timed out, loop condition not yet evaluated
  | finished
  deriving DecidableEq, Repr

structure Caller where
  pc : Pc := .idle
  done : Option Res := none            -- `op->done` / `op->result` of the current attempt
  wrapped : Bool := false              -- inside connectSyncCancellable
  cancelled : Bool := false            -- the CancellationToken
  deriving Repr

inductive Cmd | connect (sid : Nat) | close (sid : Nat)
  deriving DecidableEq, Repr

/-- the engine's view of a session id -/
inductive ES | none | connecting | established | closed
  deriving DecidableEq, Repr

/-- program counter of the I/O thread inside one of the Transport's handlers -/
inductive IoPc
  | idle
  | connCS (sid : Nat)        -- onConnect fired, `syncMutex` section not yet run
  | connNotify (c sid : Nat)  -- waiter completed under the lock; `op->cv.notify_one()` pending (outside the lock)
  | connGlobal (sid : Nat)    -- no pending record: global onConnect callback pending
  | closeCS (sid : Nat)
  | closeNotify (c sid : Nat)
  | closeGlobal (sid : Nat)
  deriving DecidableEq, Repr

/-- `pendingConnects` entry -/
structure Pend where
  owner : Nat
  abandoned : Bool := false
  deriving DecidableEq, Repr

inductive Ev
  | created (c sid : Nat)                    -- `engine->connect` returned `sid` to caller `c`
  | registered (c sid : Nat)
  | engineClose (c sid : Nat)                -- caller `c` issued `engine->close(sid)` (timeout exit)
  | hConnect (sid : Nat)                     -- the onConnect handler's critical section ran
  | hClose (sid : Nat)
  | delivered (sid : Nat) (ok : Bool)        -- a handler completed the waiter of `sid` (ok = by onConnect)
  | reaped (sid : Nat)                       -- onClose erased an abandoned record (its op object is dead; global close suppressed)
  | globalConnect (sid : Nat)
  | globalClose (sid : Nat)
  | attemptRet (c : Nat) (sid : Option Nat) (r : Res)   -- one connectSync call returned
  | wrapRet (c : Nat) (r : Res)              -- connectSyncCancellable returned
  | fenceSet
  deriving DecidableEq, Repr

structure State where
  callers : Nat → Caller := fun _ => {}
  lock : Option Nat := none            -- caller holding `syncMutex` across steps
  pend : Nat → Option Pend := fun _ => none
  activeConnects : Nat := 0
  shuttingDown : Bool := false
  nextSid : Nat := 1
  fifo : List Cmd := []
  eng : Nat → ES := fun _ => .none
  io : IoPc := .idle
  log : List Ev := []

inductive Step
  | call (c : Nat) (wrapped : Bool)
  | cancel (c : Nat)
  | cEnter (c : Nat)
  | cConnect (c : Nat)
  | cRefuse (c : Nat)                  -- `engine->connect` returns an error synchronously (no id, nothing enqueued)
  | cRegister (c : Nat)
  | cPark (c : Nat)
  | cWake (c : Nat) (timedOut : Bool)
  | cClose (c : Nat)
  | cRelock (c : Nat)
  | wLoop (c : Nat) (deadlinePassed : Bool)
  | ioPop (succeeds : Bool)            -- the I/O thread processes the head command (a Connect starts, or fails at once)
  | ioComplete (sid : Nat)             -- handshake of a connecting session completed
  | ioFail (sid : Nat)                 -- a connecting session failed (refused, reset, TLS failure, …)
  | ioPeerClose (sid : Nat)            -- an established session was closed by the peer
  | timerClose (sid : Nat)             -- the I/O thread processes the Close the engine's CONNECT-TIMEOUT timer enqueued for `sid`
  | ioStep                             -- the I/O thread advances inside the current handler
  | fence                              -- `setTeardownFence` / first half of `teardownWaitOut`
  deriving Repr

def setC (f : Nat → Caller) (c : Nat) (x : Caller) : Nat → Caller := fun j => if j = c then x else f j
def setP (f : Nat → Option Pend) (sid : Nat) (p : Option Pend) : Nat → Option Pend := fun j => if j = sid then p else f j
def setE (f : Nat → ES) (sid : Nat) (e : ES) : Nat → ES := fun j => if j = sid then e else f j

/-- where a connectSync call that returns `r` leaves its thread: a plain call is over; under the cancellable wrapper only a
Timeout goes back to the loop condition -/
def retPc (wrapped : Bool) (r : Res) : Pc := if wrapped && r == .err .timeout then .wloop else .finished

def retEvs (c : Nat) (sid : Option Nat) (wrapped : Bool) (r : Res) : List Ev :=
  if wrapped && r != .err .timeout then [.attemptRet c sid r, .wrapRet c r] else [.attemptRet c sid r]

/-- a connectSync call of caller `c` returns `r` (attempt id `sid`) -/
def ret (s : State) (c : Nat) (sid : Option Nat) (r : Res) : State :=
  { s with callers := setC s.callers c { s.callers c with pc := retPc (s.callers c).wrapped r, done := none },
           log := s.log ++ retEvs c sid (s.callers c).wrapped r }

/-- `op->cv.notify_one()` for the op of attempt `sid`: wakes caller `c` only if it is asleep on that very op -/
def notify (s : State) (c sid : Nat) : State :=
  match (s.callers c).pc with
  | .parked sid' _ =>
    if sid' = sid then { s with callers := setC s.callers c { s.callers c with pc := .parked sid' true } } else s
  | _ => s

/-- `for (auto &kv : pendingConnects) kv.second->cv.notify_all()` -/
def notifyPending (s : State) : Nat → Caller := fun j =>
  match (s.callers j).pc with
  | .parked sid _ =>
    (match s.pend sid with
     | some p => if p.owner = j then { s.callers j with pc := .parked sid true } else s.callers j
     | none => s.callers j)
  | _ => s.callers j

/-- mirrors transport_impl.hpp::Transport::Impl::setupEngineCallbacks — the `onConnect` handler -/
def connHandler (s : State) (sid : Nat) : State :=
  match s.pend sid with
  | some p =>
    if p.abandoned then { s with io := .idle, log := s.log ++ [.hConnect sid] }
    else
      { s with pend := setP s.pend sid none,
               callers := setC s.callers p.owner { s.callers p.owner with done := some (.ok sid) },
               io := .connNotify p.owner sid, log := s.log ++ [.hConnect sid, .delivered sid true] }
  | none => { s with io := .connGlobal sid, log := s.log ++ [.hConnect sid] }

/-- mirrors transport_impl.hpp::Transport::Impl::setupEngineCallbacks — the `onClose` handler, step 1 -/
def closeHandler (s : State) (sid : Nat) : State :=
  match s.pend sid with
  | some p =>
    if p.abandoned then
      -- the record's op object is no longer looked at by anybody: completing it has no effect; the global close is suppressed
      { s with pend := setP s.pend sid none, io := .closeNotify p.owner sid, log := s.log ++ [.hClose sid, .reaped sid] }
    else
      { s with pend := setP s.pend sid none,
               callers := setC s.callers p.owner { s.callers p.owner with done := some (.err .closed) },
               io := .closeNotify p.owner sid, log := s.log ++ [.hClose sid, .delivered sid false] }
  | none => { s with io := .closeGlobal sid, log := s.log ++ [.hClose sid] }

/-- mirrors transport_impl.hpp::Transport::connectSync — everything after `wait_for` returned with the lock re-acquired -/
def afterWait (s : State) (c sid : Nat) : State :=
  let x := s.callers c
  match x.done with
  | some r => ret { s with activeConnects := s.activeConnects - 1 } c (some sid) r
  | none =>
    let pend' := match s.pend sid with
      | some p => setP s.pend sid (some { p with abandoned := true })
      | none => s.pend
    if s.shuttingDown then
      ret { s with pend := pend', activeConnects := s.activeConnects - 1 } c (some sid) (.err .shuttingDown)
    else
      { s with pend := pend', callers := setC s.callers c { x with pc := .closing sid } }

def doCall (s : State) (c : Nat) (wrapped : Bool) : State :=
  let x := s.callers c
  match x.pc with
  | .idle | .finished =>
    if wrapped && x.cancelled then
      { s with callers := setC s.callers c { x with pc := .finished, wrapped := true },
               log := s.log ++ [.wrapRet c (.err .cancelled)] }
    else { s with callers := setC s.callers c { x with pc := .start, wrapped := wrapped, done := none } }
  | _ => s

def doCancel (s : State) (c : Nat) : State :=
  { s with callers := setC s.callers c { s.callers c with cancelled := true } }

def doEnter (s : State) (c : Nat) : State :=
  match (s.callers c).pc, s.lock with
  | .start, none =>
    if s.shuttingDown then ret s c none (.err .shuttingDown)
    else { s with lock := some c, callers := setC s.callers c { s.callers c with pc := .haveLock } }
  | _, _ => s

def doConnect (s : State) (c : Nat) : State :=
  match (s.callers c).pc with
  | .haveLock =>
    { s with nextSid := s.nextSid + 1, fifo := s.fifo ++ [.connect s.nextSid],
             callers := setC s.callers c { s.callers c with pc := .connected s.nextSid },
             log := s.log ++ [.created c s.nextSid] }
  | _ => s

/-- mirrors transport_impl.hpp::Transport::connectSync — the `result.isErr()` branch: the engine's error is returned as is, the
lock is released by the `unique_lock` destructor, nothing was registered and the connect guard was never constructed -/
def doRefuse (s : State) (c : Nat) : State :=
  match (s.callers c).pc with
  | .haveLock => ret { s with lock := none } c none (.err .refused)
  | _ => s

def doRegister (s : State) (c : Nat) : State :=
  match (s.callers c).pc with
  | .connected sid =>
    { s with pend := setP s.pend sid (some { owner := c }), activeConnects := s.activeConnects + 1,
             callers := setC s.callers c { s.callers c with pc := .registered sid, done := none },
             log := s.log ++ [.registered c sid] }
  | _ => s

def doPark (s : State) (c : Nat) : State :=
  match (s.callers c).pc with
  | .registered sid =>
    { s with lock := none, callers := setC s.callers c { s.callers c with pc := .parked sid false } }
  | _ => s

def doWake (s : State) (c : Nat) (timedOut : Bool) : State :=
  match (s.callers c).pc, s.lock with
  | .parked sid _, none =>
    if (s.callers c).done.isSome || s.shuttingDown || timedOut then afterWait s c sid
    else { s with callers := setC s.callers c { s.callers c with pc := .parked sid false } }
  | _, _ => s

def doClose (s : State) (c : Nat) : State :=
  match (s.callers c).pc with
  | .closing sid =>
    { s with fifo := s.fifo ++ [.close sid], callers := setC s.callers c { s.callers c with pc := .relock sid },
             log := s.log ++ [.engineClose c sid] }
  | _ => s

def doRelock (s : State) (c : Nat) : State :=
  match (s.callers c).pc, s.lock with
  | .relock sid, none =>
    ret { s with activeConnects := s.activeConnects - 1 } c (some sid)
      (.err (if s.shuttingDown then .shuttingDown else .timeout))
  | _, _ => s

def doWLoop (s : State) (c : Nat) (deadlinePassed : Bool) : State :=
  let x := s.callers c
  match x.pc with
  | .wloop =>
    if deadlinePassed then
      { s with callers := setC s.callers c { x with pc := .finished }, log := s.log ++ [.wrapRet c (.err .timeout)] }
    else if x.cancelled then
      { s with callers := setC s.callers c { x with pc := .finished }, log := s.log ++ [.wrapRet c (.err .cancelled)] }
    else { s with callers := setC s.callers c { x with pc := .start, done := none } }
  | _ => s

def doPop (s : State) (succeeds : Bool) : State :=
  match s.io, s.fifo with
  | .idle, .connect sid :: rest =>
    (match s.eng sid with
     | .none =>
       if succeeds then { s with fifo := rest, eng := setE s.eng sid .connecting }
       else { s with fifo := rest, eng := setE s.eng sid .closed, io := .closeCS sid }
     | _ => { s with fifo := rest })     -- ids are never reused by the engine
  | .idle, .close sid :: rest =>
    (match s.eng sid with
     | .connecting | .established => { s with fifo := rest, eng := setE s.eng sid .closed, io := .closeCS sid }
     | _ => { s with fifo := rest })
  | _, _ => s

def doComplete (s : State) (sid : Nat) : State :=
  match s.io, s.eng sid with
  | .idle, .connecting => { s with eng := setE s.eng sid .established, io := .connCS sid }
  | _, _ => s

def doFail (s : State) (sid : Nat) : State :=
  match s.io, s.eng sid with
  | .idle, .connecting => { s with eng := setE s.eng sid .closed, io := .closeCS sid }
  | _, _ => s

def doPeerClose (s : State) (sid : Nat) : State :=
  match s.io, s.eng sid with
  | .idle, .established => { s with eng := setE s.eng sid .closed, io := .closeCS sid }
  | _, _ => s

def doIoStep (s : State)  : State :=
  match s.io, s.lock with
  | .connCS sid, none => connHandler s sid
  | .closeCS sid, none => closeHandler s sid
  | .connNotify c sid, _ => { notify s c sid with io := .idle }
  | .closeNotify c sid, _ => { notify s c sid with io := .idle }
  | .connGlobal sid, _ => { s with io := .idle, log := s.log ++ [.globalConnect sid] }
  | .closeGlobal sid, _ => { s with io := .idle, log := s.log ++ [.globalClose sid] }
  | _, _ => s

def doFence (s : State)  : State :=
  match s.lock with
  | none => { s with shuttingDown := true, callers := notifyPending s, log := s.log ++ [.fenceSet] }
  | some _ => s

def step (s : State) : Step → State
  | .call c wrapped => doCall s c wrapped
  | .cancel c => doCancel s c
  | .cEnter c => doEnter s c
  | .cConnect c => doConnect s c
  | .cRefuse c => doRefuse s c
  | .cRegister c => doRegister s c
  | .cPark c => doPark s c
  | .cWake c timedOut => doWake s c timedOut
  | .cClose c => doClose s c
  | .cRelock c => doRelock s c
  | .wLoop c deadlinePassed => doWLoop s c deadlinePassed
  | .ioPop succeeds => doPop s succeeds
  | .ioComplete sid => doComplete s sid
  | .ioFail sid => doFail s sid
  | .ioPeerClose sid => doPeerClose s sid
  -- mirrors tcp_engine.hpp::process(), Close arm, origin ConnectTimeout (`if (!s->connectPending) break;`): the close is executed
  -- only while the connect is still pending — exactly `doFail`; once the connect completed it is a stale timer and ignored
  | .timerClose sid => doFail s sid
  | .ioStep  => doIoStep s 
  | .fence  => doFence s 

def run (s : State) : List Step → State
  | [] => s
  | st :: rest => run (step s st) rest

def init : State := {}

/-! ## instantiation from the regenerated skeleton (DESIGN §2.1, §6.3)

`step` above is the model of the code AS THE SKELETON FACTS DESCRIBE IT.  `stepC cfg` is what runs (driver) and what the
theorems of `Props/C04.lean` quantify over: where a fact does not hold of the working tree it takes the corresponding
*other* behaviour (lock released between `engine->connect` and the registration; no `abandoned` mark / no `engine->close` in
the window; an `onConnect` handler that erases an abandoned record), for which the theorems are NOT claimed — they carry the
hypothesis `cfg.Good`, discharged for `genCfg` by kernel evaluation of the source facts (`Props/C04.skeleton_conforms`). -/

structure Cfg where
  /-- `syncMutex` is held from before `engine->connect` through registration and guard into `wait_for` -/
  lockHeld : Bool
  /-- after the wait: `abandoned` is set under the lock, then exactly one unlock window containing only `engine->close` -/
  closeWindow : Bool
  /-- both handlers complete the waiter under the lock and notify outside; `onConnect` checks `abandoned` before erasing -/
  handlers : Bool
  /-- `wait_for` waits for the caller's timeout; the cancellable wrapper's sub-interval, deadline and sub-timeouts are the
  documented expressions (the "in time" tie: durations themselves are not modelled, a timeout is a scheduler choice); the wrapper
  looks at a sub-attempt's RESULT before the token (`wrapperOrderExact`; otherwise `doWakeTokenFirst` runs) -/
  timing : Bool
  /-- the requested host/port/TLS mode are passed to `engine->connect` unchanged and an engine error is returned as is -/
  args : Bool
  /-- the engine side of the EngineBase contract, regenerated from tcp_engine.hpp / udp_engine.hpp (`ConnectSyncFacts.genEngine`):
  `close()` and `connect()` of both engines only enqueue, the Close arm of `process()` closes what it finds -/
  engine : Bool
  /-- `connectSync` has no protocol-dependent bypass that returns `engine->connect(...)` directly (repair FC04b) -/
  noBypass : Bool

def Cfg.Good (cfg : Cfg) : Prop :=
  cfg.lockHeld = true ∧ cfg.closeWindow = true ∧ cfg.handlers = true ∧ cfg.timing = true ∧ cfg.args = true ∧
  cfg.engine = true ∧ cfg.noBypass = true

/-- every flag is computed from regenerated source facts: the order predicates of `Model/TsyncFacts.lean` AND the exact-equality
pins of `Model/ConnectSyncFacts.lean` (second review, item C) -/
def genCfg : Cfg :=
  { lockHeld := TsyncFacts.connectLockHeld && ConnectSyncFacts.connectHeadExact,
    closeWindow := TsyncFacts.connectCloseWindow && ConnectSyncFacts.connectTailExact,
    handlers := TsyncFacts.handlersCompleteUnderLock && ConnectSyncFacts.onConnectPendingExact &&
                ConnectSyncFacts.onClosePendingExact,
    timing := TsyncFacts.connectTimingArgs && ConnectSyncFacts.timeoutOnlyClamped && ConnectSyncFacts.wrapperOrderExact,
    args := ConnectSyncFacts.connectPassesArgsR,
    engine := ConnectSyncFacts.genEngine.holds,
    noBypass := ConnectSyncFacts.noProtocolBypass }

/-- the timeout exit WITHOUT the `abandoned` mark (the tree before fix F16) -/
def afterWaitU (s : State) (c sid : Nat) : State :=
  match (s.callers c).done with
  | some r => ret { s with activeConnects := s.activeConnects - 1 } c (some sid) r
  | none =>
    if s.shuttingDown then ret { s with activeConnects := s.activeConnects - 1 } c (some sid) (.err .shuttingDown)
    else { s with callers := setC s.callers c { s.callers c with pc := .closing sid } }

/-- an `onConnect` handler that does not look at `abandoned` (the tree before fix F16) -/
def connHandlerU (s : State) (sid : Nat) : State :=
  match s.pend sid with
  | some p =>
    { s with pend := setP s.pend sid none,
             callers := setC s.callers p.owner { s.callers p.owner with done := some (.ok sid) },
             io := .connNotify p.owner sid, log := s.log ++ [.hConnect sid, .delivered sid true] }
  | none => { s with io := .connGlobal sid, log := s.log ++ [.hConnect sid] }

/-- `engine->close(sid)` of an engine that does NOT honour the contract: it returns `true` without queueing a Close when `sid`
is not in its session table — which is also the case while the Connect of `sid` is still queued (seed C04-d) -/
def doCloseDrop (s : State) (c : Nat) : State :=
  match (s.callers c).pc with
  | .closing sid =>
    if s.eng sid == .none || s.eng sid == .closed then
      { s with callers := setC s.callers c { s.callers c with pc := .relock sid }, log := s.log ++ [.engineClose c sid] }
    else doClose s c
  | _ => s

/-- the protocol bypass of the tree before repair FC04b (`if (protocol == UDP) return engine->connect(host, port, tls);`):
no lock, no fence check, no registration — the engine's `ok sid` is handed out at once -/
def doEnterBypass (s : State) (c : Nat) : State :=
  match (s.callers c).pc with
  | .start =>
    let sid := s.nextSid
    ret { s with nextSid := sid + 1, fifo := s.fifo ++ [.connect sid], log := s.log ++ [.created c sid] } c (some sid) (.ok sid)
  | _ => s

/-- a cancellable wrapper that looks at the TOKEN before it looks at the sub-attempt's result (the statement order pinned by
`ConnectSyncFacts.wrapperOrderExact`, part of `Cfg.timing`, is result first; seed C04-b swapped it): a sub-attempt that returns
`ok sid` to a wrapper whose token is cancelled is reported as Cancelled — and nobody closes `sid` -/
def doWakeTokenFirst (s : State) (c : Nat) (t : Bool) : State :=
  let s' := doWake s c t
  match (s.callers c).pc, (s.callers c).done, s.lock with
  | .parked sid _, some (.ok sid'), none =>
    if (s.callers c).wrapped && (s.callers c).cancelled then
      { s' with log := s.log ++ [.attemptRet c (some sid) (.ok sid'), .wrapRet c (.err .cancelled)] }
    else s'
  | _, _, _ => s'

/-- the Close of a timer handler that does NOT tag its origin (seed C04-e: `handleConnectTimeout` enqueues a plain close, origin
App): `process()` executes it like an application close, whatever the state of the connect -/
def doTimerCloseUntagged (s : State) (sid : Nat) : State :=
  match s.io, s.eng sid with
  | .idle, .connecting | .idle, .established => { s with eng := setE s.eng sid .closed, io := .closeCS sid }
  | _, _ => s

def stepC (cfg : Cfg) (s : State) : Step → State
  | .timerClose sid => if cfg.engine then doFail s sid else doTimerCloseUntagged s sid
  | .cEnter c => if cfg.noBypass then doEnter s c else doEnterBypass s c
  | .cClose c => if cfg.engine then doClose s c else doCloseDrop s c
  | .cConnect c => if cfg.lockHeld then doConnect s c else { doConnect s c with lock := none }
  | .cWake c t =>
    if cfg.closeWindow then (if cfg.timing then doWake s c t else doWakeTokenFirst s c t)
    else
      (match (s.callers c).pc, s.lock with
       | .parked sid _, none =>
         if (s.callers c).done.isSome || s.shuttingDown || t then afterWaitU s c sid
         else { s with callers := setC s.callers c { s.callers c with pc := .parked sid false } }
       | _, _ => s)
  | .ioStep =>
    if cfg.handlers then doIoStep s
    else (match s.io, s.lock with | .connCS sid, none => connHandlerU s sid | _, _ => doIoStep s)
  | st => step s st

def runC (cfg : Cfg) (s : State) : List Step → State
  | [] => s
  | st :: rest => runC cfg (stepC cfg s st) rest

theorem stepC_good {cfg : Cfg} (hg : cfg.Good) (s : State) (st : Step) : stepC cfg s st = step s st := by
  obtain ⟨h1, h2, h3, h4, _, h6, h7⟩ := hg
  cases st <;> simp [stepC, step, h1, h2, h3, h4, h6, h7]

theorem runC_good {cfg : Cfg} (hg : cfg.Good) : ∀ (steps : List Step) (s : State), runC cfg s steps = run s steps := by
  intro steps
  induction steps with
  | nil => intro s; rfl
  | cons st rest ih => intro s; simp only [runC, run, stepC_good hg, ih]

/-- is the step enabled (does the thread it belongs to stand at this instruction, and is the mutex available if it needs it)?
A step that is not enabled is a stutter of `step`; the acceptor answers `disabled` for it instead of silently accepting. -/
def enabled (s : State) : Step → Bool
  | .call c _ => (s.callers c).pc == .idle || (s.callers c).pc == .finished
  | .cancel _ => true
  | .cEnter c => (s.callers c).pc == .start && s.lock.isNone
  | .cConnect c | .cRefuse c => (s.callers c).pc == .haveLock
  | .cRegister c => (match (s.callers c).pc with | .connected _ => true | _ => false)
  | .cPark c => (match (s.callers c).pc with | .registered _ => true | _ => false)
  | .cWake c _ => (match (s.callers c).pc with | .parked _ _ => s.lock.isNone | _ => false)
  | .cClose c => (match (s.callers c).pc with | .closing _ => true | _ => false)
  | .cRelock c => (match (s.callers c).pc with | .relock _ => s.lock.isNone | _ => false)
  | .wLoop c _ => (s.callers c).pc == .wloop
  | .ioPop _ => s.io == .idle && !s.fifo.isEmpty
  | .ioComplete sid => s.io == .idle && s.eng sid == .connecting
  | .ioFail sid => s.io == .idle && s.eng sid == .connecting
  | .ioPeerClose sid => s.io == .idle && s.eng sid == .established
  | .timerClose _ => s.io == .idle        -- a stale timer close is processed too (and ignored)
  | .ioStep => (match s.io with | .idle => false | .connCS _ | .closeCS _ => s.lock.isNone | _ => true)
  | .fence => s.lock.isNone

end Iora.ConnectSync
