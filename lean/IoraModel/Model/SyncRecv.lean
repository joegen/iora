import IoraModel.Common.Bytes
/-!
# Model of the Transport synchronous-receive layer (C03)

Mirrors, function by function, the parts of `include/iora/network/transport_impl.hpp` that implement the per-session
read mode and the synchronous receive buffer:

* `Transport::Impl::setupEngineCallbacks` — the `onData` handler and the `onClose` handler (I/O thread): its `syncMutex` section that
  marks the session closed (`ioClose`; REPAIRED order, fixes/FC03c-…: it runs BEFORE the close callbacks) and the invocation of the
  global close callback / observers (`ioCloseCb`, emitting `Ev.closeCb`),
* `Transport::receiveSync`, `Transport::setReadMode` (incl. the ordered flush loop), `Impl::setTeardownFence`.

Granularity: **one step = one `syncMutex` critical section** (or one user-callback invocation made outside the lock), which
is exactly the granularity at which DetSched schedules the real class (DESIGN §3.4, §6.3).  A condition wait is split into
*park* (release-and-sleep, the end of `recvEnter`) and *wake-and-reacquire* (`recvWake`); whether a timed wait times out is
a scheduler choice (`recvWake sid true`), time itself is not modelled.

Ghost fields (`arrived`, `accepted`, `out`, `gap`, `lateSync`, `lateAsync`, `dead`, `eof`, `ovfSeen`; of the state: `gcRan`, `closeGrace`) record the history the theorems talk about;
no modelled decision reads them.

Modelled as REPAIRED (fixes/F15-…, fixes/F15b-…, fixes/FC03a-…, fixes/FC02a-…, fixes/FC03c-…, fixes/FC03d-…): `setReadMode` is a no-op (vacuous `true`) for a closed
tombstone (FC02a), the `onData` handler drops every chunk once `overflow` is set,
`setReadMode(…, Async)` takes the ordered-flush path from `Disabled` as well as from `Sync`, and `hasData` is computed from the
buffer after the append (a zero-length chunk — legal input, UdpEngine delivers empty datagrams — cannot mark an empty buffer readable).

Environment assumptions are *not* built into `step`; they are the decidable predicate `ok` (see `Disciplined`):
the engine delivers no data / second close for a closed session (C02's contract; EMPTY chunks are legal arrivals), the I/O thread is
ONE thread (it does not deliver the next chunk or a close while it is between reading "Async" under the lock and invoking the data
callback - `ioPend`; `step` leaves the state unchanged for such a step, `ok` excludes it, so no arrival is silently uncounted), and one application
thread drives a session's blocking calls (the property's quantifier: "an application thread parked in receive or flushing
a mode switch") — no `receiveSync` overlaps a `setReadMode(…, Async)` of the same session.
-/
namespace Iora.SyncRecv
open Iora

inductive Mode | async | sync | disabled
  deriving DecidableEq, Repr, Inhabited

/-- `Impl::SyncReceiveBuffer` (`waiters` and `flushing` are derived from the parked receiver / flusher of the session). -/
structure Buf where
  data : Bytes := []
  hasData : Bool := false
  closed : Bool := false
  overflow : Bool := false
  reported : Bool := false      -- `overflowReported`: a receive has answered BufferOverflow for this buffer (FC03d: GC gate)
  deriving Repr

/-- program counter of a `setReadMode(sid, Async)` call that took the flush path -/
inductive Flush
  | begin                 -- step 1 decided "flush"; buffer not fetched yet, FlushGuard not constructed
  | loop                  -- FlushGuard alive, between two critical sections, holding no bytes
  | holding (d : Bytes)   -- took `d` out of the buffer under the lock; the data callback has not been invoked yet
  | ending (ret : Bool)   -- loop left (`break` or teardown bail); FlushGuard destructor pending
  deriving Repr

/-- a `receiveSync` caller asleep on `buf->cv` -/
structure Parked where
  len : Nat            -- caller's buffer length
  awake : Bool         -- a notify has reached it (it will re-acquire the lock without needing its timeout)
  deriving Repr

inductive RecvRes | ok (bs : Bytes) | timeout | peerClosed | overflow | shuttingDown | cancelled
  deriving Repr, DecidableEq

structure Sess where
  mode : Option Mode := none         -- `readModes` entry (absent = Async)
  buf : Option Buf := none           -- `receiveBuffers` entry
  parked : Option Parked := none
  flush : Option Flush := none
  -- ghost history
  arrived : Bytes := []              -- every byte the engine delivered while the mode was not Disabled
  accepted : Bytes := []             -- the bytes among them that were not dropped (buffered or handed to the callback path)
  out : Bytes := []                  -- bytes returned by receives and delivered to the data callback, in real-time order
  gap : Bool := false                -- some chunk has been dropped
  lateSync : Bool := false           -- a chunk was appended to the sync buffer after a gap (F15)
  lateAsync : Bool := false          -- a chunk took the Async callback path after a gap (mode switched to Async after an overflow)
  dead : Bool := false               -- the engine has reported the close
  eof : Bool := false                -- a receive has returned PeerClosed
  ovfSeen : Bool := false            -- ghost: a receive has returned BufferOverflow
  deriving Repr

structure Cfg where
  maxBuf : Nat                        -- `TransportConfig::maxSyncReceiveBuffer`
  gcThreshold : Nat                   -- `TransportConfig::syncBufferGcThreshold`
  allowSwitch : Bool := true          -- `TransportConfig::allowReadModeSwitch`
  /-- skeleton facts (Gen/TsyncSkel): the handler notifies `buf->cv` under the lock after the write -/
  notifyOnData : Bool := true
  notifyOnOverflow : Bool := true
  notifyOnClose : Bool := true

structure State where
  sess : Nat → Sess := fun _ => {}
  dom : List Nat := []                -- session ids touched so far (finite support of `sess`)
  shuttingDown : Bool := false
  ioPend : Option (Nat × Bytes) := none   -- the I/O thread read "Async" under the lock and has not yet invoked the callback
  gcRan : Bool := false               -- ghost: a tombstone GC pass has run
  closePend : Option Nat := none      -- the I/O thread has marked this session closed (close handler step 2) and has not yet invoked the close callbacks
  closeGrace : Bool := false          -- ghost: a setReadMode(…, Async) flush of that session was in progress when its close was processed

inductive Step
  | ioData (sid : Nat) (chunk : Bytes)
  | ioDeliver
  | ioClose (sid : Nat)
  | ioCloseCb (sid : Nat)
  | recvEnter (sid len : Nat)
  | recvWake (sid : Nat) (timedOut : Bool)
  | setMode (sid : Nat) (m : Mode)
  | flushStep (sid : Nat)
  | fence (notifyRecv : Bool)
  deriving Repr

inductive Ev
  | recvRet (sid : Nat) (r : RecvRes)
  | cbData (sid : Nat) (d : Bytes)
  | modeRet (sid : Nat) (ok : Bool)
  | closeCb (sid : Nat)             -- the global close callback (and then the session's observers) is invoked for `sid`
  deriving Repr, DecidableEq

/-! ## derived fields -/

def effMode (x : Sess) : Mode := match x.mode with | some m => m | none => .async

def waiters (x : Sess) : Nat := match x.parked with | some _ => 1 | none => 0

def flushing (x : Sess) : Bool :=
  match x.flush with
  | some .loop | some (.holding _) | some (.ending _) => true
  | _ => false

def bufData (x : Sess) : Bytes := match x.buf with | some b => b.data | none => []

def inflight (x : Sess) : Bytes := match x.flush with | some (.holding d) => d | _ => []

def upd (f : Nat → Sess) (i : Nat) (x : Sess) : Nat → Sess := fun j => if j = i then x else f j

def touch (dom : List Nat) (sid : Nat) : List Nat := if sid ∈ dom then dom else sid :: dom

def wake (x : Sess) (really : Bool) : Sess :=
  match x.parked with
  | some p => { x with parked := some { p with awake := p.awake || really } }
  | none => x

/-- wait predicate of `receiveSync` -/
def pred (sh : Bool) (b : Buf) : Bool := b.hasData || b.closed || b.overflow || sh

/-! ## `receiveSync` -/

/-- mirrors transport_impl.hpp::Transport::receiveSync — the tail after a signalled wait (drain, then overflow, then closed) -/
def drain (x : Sess) (b : Buf) (len : Nat) : Sess × RecvRes :=
  if b.data ≠ [] then
    let n := min len b.data.length
    let rest := b.data.drop n
    ({ x with buf := some { b with data := rest, hasData := !rest.isEmpty }, out := x.out ++ b.data.take n, parked := none },
     .ok (b.data.take n))
  else if b.overflow then ({ x with buf := some { b with reported := true }, parked := none, ovfSeen := true }, .overflow)
  else if b.closed then ({ x with buf := none, mode := none, parked := none, eof := true }, .peerClosed)
  else ({ x with parked := none }, .shuttingDown)

/-- mirrors transport_impl.hpp::Transport::receiveSync — entry critical section up to the first evaluation of the wait predicate -/
def recvEnterS (sh : Bool) (x : Sess) (len : Nat) : Sess × Option RecvRes :=
  if sh then (x, some .shuttingDown)
  else
    let b : Buf := match x.buf with | some b => b | none => {}
    let x := { x with buf := some b }
    if waiters x > 0 || flushing x then (x, some .cancelled)
    else if pred sh b then ((drain x b len).1, some (drain x b len).2)
    else ({ x with parked := some { len := len, awake := false } }, none)

/-- mirrors transport_impl.hpp::Transport::receiveSync — wake-and-reacquire of `wait_until(lk, deadline, pred)` -/
def recvWakeS (sh : Bool) (x : Sess) (timedOut : Bool) : Sess × Option RecvRes :=
  match x.parked, x.buf with
  | some p, some b =>
    if pred sh b then ((drain x b p.len).1, some (drain x b p.len).2)
    else if timedOut then ({ x with parked := none }, some .timeout)
    else ({ x with parked := some { p with awake := false } }, none)
  | _, _ => (x, none)

/-! ## I/O thread -/

/-- what the `onData` handler decided under the lock -/
inductive DataAct | dropped | buffered | toCallback | ignored
  deriving Repr, DecidableEq

/-- mirrors transport_impl.hpp::Transport::Impl::setupEngineCallbacks — the `onData` handler's `syncMutex` section -/
def ioDataS (cfg : Cfg) (sh : Bool) (x : Sess) (chunk : Bytes) : Sess × DataAct :=
  match effMode x with
  | .sync =>
    match x.buf with
    | none => ({ x with arrived := x.arrived ++ chunk, gap := true }, .dropped)
    | some b =>
      if sh && waiters x == 0 then ({ x with arrived := x.arrived ++ chunk, gap := true }, .dropped)
      else if b.overflow then ({ x with arrived := x.arrived ++ chunk, gap := true }, .dropped)
      else if b.data.length + chunk.length > cfg.maxBuf then
        (wake { x with buf := some { b with overflow := true }, arrived := x.arrived ++ chunk, gap := true } cfg.notifyOnOverflow,
         .dropped)
      else
        (wake { x with buf := some { b with data := b.data ++ chunk, hasData := !(b.data ++ chunk).isEmpty },
                       arrived := x.arrived ++ chunk, accepted := x.accepted ++ chunk,
                       lateSync := x.lateSync || x.gap } cfg.notifyOnData,
         .buffered)
  | .disabled => (x, .ignored)
  | .async => ({ x with arrived := x.arrived ++ chunk, accepted := x.accepted ++ chunk, lateAsync := x.lateAsync || x.gap }, .toCallback)

/-- mirrors transport_impl.hpp::Transport::Impl::setupEngineCallbacks — `onClose` handler step 2 (before the
callbacks, FC03c), the session's own entry -/
def ioCloseS (cfg : Cfg) (x : Sess) : Sess :=
  let x1 : Sess := match x.buf with
    | some b => wake { x with buf := some { b with closed := true } } cfg.notifyOnClose
    | none => { x with buf := some { closed := true } }
  { x1 with mode := none, dead := true }

/-- GC gate of `onClose` step 2 -/
def reclaimable (y : Sess) : Bool :=
  match y.buf with
  | some b => b.closed && !b.hasData && waiters y == 0 && !flushing y && (!b.overflow || b.reported)
  | none => false

def bufCount (sess : Nat → Sess) (dom : List Nat) : Nat := (dom.filter (fun j => (sess j).buf.isSome)).length

/-! ## `setReadMode` -/

/-- does `setReadMode(sid, m)` take the ordered-flush path? (repaired: from Sync *and* from Disabled) -/
def flushPath (x : Sess) (m : Mode) : Bool := effMode x != .async && m == .async

/-- the session's `receiveBuffers` entry is a closed tombstone (the close handler has run; the tail is for `receiveSync` only) -/
def tomb (x : Sess) : Bool := match x.buf with | some b => b.closed | none => false

/-- mirrors transport_impl.hpp::Transport::setReadMode — step 1 (first critical section). Repaired (FC02a): a closed tombstone has no
read mode any more — the call is vacuous: it answers `true`, registers nothing and flushes nothing, so no later switch to Async can
hand the tail to the data callback after the close callback. -/
def setModeS (cfg : Cfg) (x : Sess) (m : Mode) : Sess × Option Bool :=
  if !cfg.allowSwitch then (x, some false)
  else if tomb x then (x, some true)
  else if flushPath x m then ({ x with flush := some .begin }, none)
  else
    let x := { x with mode := some m }
    let x := if m == .sync then (match x.buf with | none => { x with buf := some {} } | some _ => x) else x
    (x, some true)

inductive FlushOut | none | cb (d : Bytes) | ret (ok : Bool)

/-- mirrors transport_impl.hpp::Transport::setReadMode — step 2: fetch + FlushGuard, the flush loop, the guard's destructor -/
def flushStepS (sh : Bool) (x : Sess) : Sess × FlushOut :=
  match x.flush with
  | none => (x, .none)
  | some .begin =>
    if sh then ({ x with flush := none }, .ret false)
    else match x.buf with
      | none => ({ x with mode := some .async, flush := none }, .ret true)
      | some _ => ({ x with flush := some .loop }, .none)
  | some .loop =>
    if sh then ({ x with flush := some (.ending false) }, .none)
    else match x.buf with
      | some b =>
        if b.data ≠ [] then ({ x with buf := some { b with data := [], hasData := false }, flush := some (.holding b.data) }, .none)
        else ({ x with mode := some .async, flush := some (.ending true) }, .none)
      | none => ({ x with mode := some .async, flush := some (.ending true) }, .none)
  | some (.holding d) => ({ x with out := x.out ++ d, flush := some .loop }, .cb d)
  | some (.ending r) => ({ x with flush := none }, .ret r)

/-! ## global step -/

def evRecv (sid : Nat) : Option RecvRes → List Ev
  | some r => [.recvRet sid r]
  | none => []

def evMode (sid : Nat) : Option Bool → List Ev
  | some r => [.modeRet sid r]
  | none => []

def evFlush (sid : Nat) : FlushOut → List Ev
  | .none => []
  | .cb d => [.cbData sid d]
  | .ret r => [.modeRet sid r]

/-- sessions after the `onClose` handler's step 2 for `sid` (own entry + tombstone GC of the others) -/
def closeSess (cfg : Cfg) (s : State) (sid : Nat) : Bool × (Nat → Sess) :=
  let x' := ioCloseS cfg (s.sess sid)
  let gc := decide (bufCount (upd s.sess sid x') (touch s.dom sid) > cfg.gcThreshold)
  (gc, fun j => if j = sid then x'
                else if gc && reclaimable (s.sess j) then { s.sess j with buf := none } else s.sess j)

def step (cfg : Cfg) (s : State) : Step → State × List Ev
  | .ioData sid chunk =>
    match s.ioPend with
    | some _ => (s, [])
    | none =>
      let r := ioDataS cfg s.shuttingDown (s.sess sid) chunk
      ({ s with sess := upd s.sess sid r.1, dom := touch s.dom sid,
                ioPend := if r.2 = .toCallback then some (sid, chunk) else none }, [])
  | .ioDeliver =>
    match s.ioPend with
    | some (sid, d) =>
      ({ s with sess := upd s.sess sid { s.sess sid with out := (s.sess sid).out ++ d }, ioPend := none }, [.cbData sid d])
    | none => (s, [])
  | .ioClose sid =>
    match s.ioPend with
    | some _ => (s, [])
    | none =>
      ({ s with sess := (closeSess cfg s sid).2, dom := touch s.dom sid, gcRan := s.gcRan || (closeSess cfg s sid).1,
                closePend := some sid, closeGrace := (s.sess sid).flush.isSome }, [])
  | .ioCloseCb sid =>
    -- mirrors transport_impl.hpp::Transport::Impl::setupEngineCallbacks — `onClose` handler steps 3-6 (REPAIRED order, FC03c): the
    -- global close callback and the observers run AFTER the session was marked closed (`ioClose`), with no Transport mutex held
    if s.closePend = some sid then ({ s with closePend := none }, [.closeCb sid]) else (s, [])
  | .recvEnter sid len =>
    let r := recvEnterS s.shuttingDown (s.sess sid) len
    ({ s with sess := upd s.sess sid r.1, dom := touch s.dom sid }, evRecv sid r.2)
  | .recvWake sid timedOut =>
    let r := recvWakeS s.shuttingDown (s.sess sid) timedOut
    ({ s with sess := upd s.sess sid r.1 }, evRecv sid r.2)
  | .setMode sid m =>
    let r := setModeS cfg (s.sess sid) m
    ({ s with sess := upd s.sess sid r.1, dom := touch s.dom sid }, evMode sid r.2)
  | .flushStep sid =>
    let r := flushStepS s.shuttingDown (s.sess sid)
    ({ s with sess := upd s.sess sid r.1 }, evFlush sid r.2)
  | .fence notifyRecv =>
    ({ s with shuttingDown := true, sess := fun j => wake (s.sess j) notifyRecv }, [])

def run (cfg : Cfg) (s : State) : List Step → State × List Ev
  | [] => (s, [])
  | st :: rest => ((run cfg (step cfg s st).1 rest).1, (step cfg s st).2 ++ (run cfg (step cfg s st).1 rest).2)

/-! ## environment discipline (decidable; evaluated by the driver on every lockstep case) -/

/-- `ok s st`: step `st` respects the engine contract and the one-application-thread-per-session contract in state `s`. -/
def ok (s : State) : Step → Bool
  | .ioData sid _ => !(s.sess sid).dead && s.ioPend.isNone
  | .ioClose sid => !(s.sess sid).dead && s.ioPend.isNone
  | .recvEnter sid _ => (s.sess sid).flush.isNone
  | .setMode sid m => (s.sess sid).flush.isNone && (!flushPath (s.sess sid) m || (s.sess sid).parked.isNone)
  | _ => true

def Disciplined (cfg : Cfg) : State → List Step → Prop
  | _, [] => True
  | s, st :: rest => ok s st = true ∧ Disciplined cfg (step cfg s st).1 rest

def disciplinedB (cfg : Cfg) : State → List Step → Bool
  | _, [] => true
  | s, st :: rest => ok s st && disciplinedB cfg (step cfg s st).1 rest

def init : State := {}

/-! ## what an observer of the emitted events sees -/

/-- the bytes the events hand to the application for session `sid`: successful receives and data-callback deliveries, in order -/
def evBytes (sid : Nat) : List Ev → Bytes
  | [] => []
  | .recvRet j (.ok bs) :: r => (if j = sid then bs else []) ++ evBytes sid r
  | .cbData j d :: r => (if j = sid then d else []) ++ evBytes sid r
  | _ :: r => evBytes sid r

end Iora.SyncRecv
