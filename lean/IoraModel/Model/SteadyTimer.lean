import IoraModel.Model.TimerService
import IoraModel.Gen.Timer
/-
Model of `class SteadyTimer` (`include/iora/core/timer.hpp`), property C08: a handle that owns at most one armed one-shot timer of a
`TimerService`.  Every `asyncWait` creates a fresh `Shared` object ("arm") whose `state` leaves `Armed` exactly once, by a
compare-and-swap: in the wrapper around the user's handler (`Armed → Started`, then the handler is called) or in `cancel()`
(`Armed → Canceled`).  The model follows the code AS REPAIRED by FC08b; the unrepaired `cancel()` (flag stored first, answer = the
service-level answer) is `cancelWith false`, kept for the witness theorem.  Which of the two the working tree has is read from the source
(`Gen.Timer.steadyCancelReportsSuppressed`).

A thin layer over the first-layer service model: the service steps are `Tsvc.step` unchanged; only the START of a collected handler
goes through the wrapper.  Arms are keyed by the service id of their record (ids are unique within an epoch of the service).
-/
namespace Iora.Steady
open Iora.Tsvc

/-- `SteadyTimer::Shared::state` -/
inductive Sh where
  | armed | started | cancelled
  deriving DecidableEq, Repr

structure Lay where
  s : Svc := {}
  /-- the `Shared` object of the arm whose record has this service id -/
  arms : List (Nat × Sh) := []
  /-- `SteadyTimer[i]._token` -/
  tokens : Nat → Option Nat := fun _ => none

def armState (arms : List (Nat × Sh)) (tok : Nat) : Option Sh := (arms.find? (·.1 == tok)).map (·.2)

def setArm (arms : List (Nat × Sh)) (tok : Nat) (v : Sh) : List (Nat × Sh) :=
  arms.map (fun a => if a.1 == tok then (a.1, v) else a)

/-- the wrapper when the loop thread starts the record's handler: `w.lock()` and CAS `Armed → Started`; `true` = the user's handler is
called.  A record that is not a SteadyTimer arm is an ordinary handler. -/
def wrapperStart (arms : List (Nat × Sh)) (tok : Nat) : List (Nat × Sh) × Bool :=
  match armState arms tok with
  | some .armed => (setArm arms tok .started, true)
  | some _ => (arms, false)
  | none => (arms, true)

def getTok (l : Lay) (i : Nat) : Option Nat := l.tokens i

def setTok (ts : Nat → Option Nat) (i : Nat) (t : Option Nat) : Nat → Option Nat :=
  fun j => if j = i then t else ts j

/-- mirrors `SteadyTimer::cancel()`.  Repaired: `suppressed = CAS(Armed → Canceled)`; with a token: `ok = _svc.cancel(token)`, token
reset, answer `ok || suppressed`; without: `false`.  Legacy (`reportsSuppressed = false`): the flag is set all the same, the answer is
`ok` alone. -/
def cancelWith (reportsSuppressed : Bool) (l : Lay) (i : Nat) : Lay × Bool :=
  match getTok l i with
  | none => (l, false)
  | some tok =>
    ({ s := (Tsvc.cancel l.s tok).1,
       arms := if armState l.arms tok == some .armed then setArm l.arms tok .cancelled else l.arms,
       tokens := setTok l.tokens i none },
     if reportsSuppressed then (Tsvc.cancel l.s tok).2 || (armState l.arms tok == some .armed) else (Tsvc.cancel l.s tok).2)

def cancel (l : Lay) (i : Nat) : Lay × Bool := cancelWith Gen.Timer.steadyCancelReportsSuppressed l i

/-- `asyncWait` after its `cancel()`: a fresh `Shared`, `scheduleAt(tp, wrapper)`; a refused arm (id 0) resets the token -/
def armAfter (L : Limits) (l1 : Lay) (i : Nat) (now tp : Int) : Lay × Nat :=
  if (scheduleAt L l1.s now tp).2 = 0 then ({ l1 with s := (scheduleAt L l1.s now tp).1, tokens := setTok l1.tokens i none }, 0)
  else ({ s := (scheduleAt L l1.s now tp).1, arms := ((scheduleAt L l1.s now tp).2, .armed) :: l1.arms,
          tokens := setTok l1.tokens i (some (scheduleAt L l1.s now tp).2) }, (scheduleAt L l1.s now tp).2)

/-- mirrors `expiresAt(tp); asyncWait(h)`: `cancel()`, then `armAfter` -/
def asyncWait (L : Limits) (l : Lay) (i : Nat) (now tp : Int) : Lay × Nat := armAfter L (cancel l i).1 i now tp

inductive Op where
  | svc (op : Tsvc.Op)
  | sat (i : Nat) (now tp : Int)
  | scancel (i : Nat)
  deriving Repr

inductive Out where
  | svc (o : Tsvc.Out)
  /-- a service-level `hstart` whose record is started: did the wrapper call the user's handler? -/
  | hstart (id : Nat) (user : Bool)
  | id (n : Nat)
  | bool (b : Bool)
  deriving Repr

/-- the service id whose (stored) handler a first-layer step starts -/
def startedId : Tsvc.Out → Option Nat
  | .start (.started h) => some h.id
  | _ => none

def step (L : Limits) (l : Lay) : Op → Lay × Out
  | .svc op =>
    let r := Tsvc.step L l.s op
    match startedId r.2 with
    | some id => ({ l with s := r.1, arms := (wrapperStart l.arms id).1 }, .hstart id (wrapperStart l.arms id).2)
    | none => ({ l with s := r.1 }, .svc r.2)
  | .sat i now tp => let r := asyncWait L l i now tp; (r.1, .id r.2)
  | .scancel i => let r := cancel l i; (r.1, .bool r.2)

def runFrom (L : Limits) : Lay → List Op → Lay
  | l, [] => l
  | l, op :: ops => runFrom L (step L l op).1 ops

def run (L : Limits) (ops : List Op) : Lay := runFrom L {} ops

def trace (L : Limits) : Lay → List Op → List (Op × Out)
  | _, [] => []
  | l, op :: ops => (op, (step L l op).2) :: trace L (step L l op).1 ops

/-- service ids whose USER handler a step started -/
def userStartedOf : Op × Out → List Nat
  | (_, .hstart id true) => [id]
  | _ => []

def userStarted (t : List (Op × Out)) : List Nat := t.flatMap userStartedOf

end Iora.Steady
