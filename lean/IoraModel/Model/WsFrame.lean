import IoraModel.Common.Bytes
import IoraModel.Gen.Ws
/-
Model of `include/iora/network/websocket_frame.hpp` (frame codec, UTF-8 validator).
Every definition mirrors one C++ function; constants come from the regenerated `Gen/Ws.lean`.
-/
namespace Iora.Ws
open Iora

structure Frame where
  fin : Bool
  opcode : Nat          -- low nibble of byte 0 (0..15)
  masked : Bool
  key : Bytes           -- `maskKey[4]`
  payload : Bytes
  deriving DecidableEq, Repr

/-- mirrors `isControlFrame` (table from the source) -/
def isControl (op : Nat) : Bool := Gen.Ws.controlOpcodes.contains op

/-- result of `WebSocketFrame::parse(data, consumed, status, maxPayload)` -/
inductive PRes where
  | frame (f : Frame) (consumed : Nat)
  | incomplete
  | protocolError
  | tooLarge
  deriving DecidableEq, Repr

/-- mirrors the un/masking loops `payload[i] ^= maskKey[i % 4]`: the key is rotated as we go -/
def xorMask : Bytes → Bytes → Bytes
  | k0 :: ks, x :: xs => (x ^^^ k0) :: xorMask (ks ++ [k0]) xs
  | _, xs => xs

def zeroKey : Bytes := [0, 0, 0, 0]

/-- extended payload length (`readU16BE` / `readU64BE`): (declared length, header bytes used, rest) -/
def readExt (l7 : Nat) (rest : Bytes) : Option (Nat × Nat × Bytes) :=
  if l7 = Gen.Ws.len16Marker then
    match takeN 2 rest with
    | none => none
    | some (a, r) => some (beNat a, 2, r)
  else if l7 = Gen.Ws.len64Marker then
    match takeN 8 rest with
    | none => none
    | some (a, r) => some (beNat a, 8, r)
  else some (l7, 0, rest)

/-- the 4 mask-key bytes, present iff the MASK bit is set -/
def readKey (masked : Bool) (r1 : Bytes) : Option (Bytes × Nat × Bytes) :=
  if masked then
    match takeN 4 r1 with
    | none => none
    | some (k, r) => some (k, 4, r)
  else some (zeroKey, 0, r1)

/-- mirrors `WebSocketFrame::parse` (4-argument overload; the 2-argument one passes `maxPayload = 2^64-1`).
`allocation` is not a separate output: the only allocation is `payload.resize(payloadLen)`, reached
only in the `frame` outcome, where it equals `payload.length`. -/
def parse (maxPayload : Nat) (d : Bytes) : PRes :=
  match d with
  | b0 :: b1 :: rest =>
    let fin := decide (b0.toNat ≥ 128)
    let rsv := (b0.toNat / 16) % 8
    let op := b0.toNat % 16
    if rsv ≠ 0 then
      .frame { fin := fin, opcode := op, masked := false, key := zeroKey, payload := [] } d.length
    else
      let masked := decide (b1.toNat ≥ 128)
      let l7 := b1.toNat % 128
      if isControl op && (decide (l7 > Gen.Ws.maxControlPayload) || !fin) then .protocolError
      else
        match readExt l7 rest with
        | none => .incomplete
        | some (len, extBytes, r1) =>
          if len > maxPayload then .tooLarge
          else
            match readKey masked r1 with
            | none => .incomplete
            | some (key, keyBytes, r2) =>
              match takeN len r2 with
              | none => .incomplete
              | some (pl, _) =>
                .frame { fin := fin, opcode := op, masked := masked, key := key,
                         payload := if masked then xorMask key pl else pl }
                       (2 + extBytes + keyBytes + len)
  | _ => .incomplete

/-- mirrors `WebSocketFrame::serialize(applyMask)` with `applyMask = f.masked` -/
def serialize (f : Frame) : Bytes :=
  let b0 := b8 (f.opcode + (if f.fin then 128 else 0))
  let m := if f.masked then 128 else 0
  let n := f.payload.length
  let hdr : Bytes :=
    if n ≤ Gen.Ws.serMax7 then [b0, b8 (m + n)]
    else if n ≤ Gen.Ws.serMax16 then b0 :: b8 (m + 126) :: be16 n
    else b0 :: b8 (m + 127) :: be64 n
  if f.masked then hdr ++ f.key ++ xorMask f.key f.payload else hdr ++ f.payload

/-- mirrors `closePayload()` : (code, reason) -/
def closePayload (pl : Bytes) : Nat × Bytes :=
  match pl with
  | a :: b :: r => (a.toNat * 256 + b.toNat, r)
  | _ => (1005, [])

/-- `(x & 0xC0) == 0x80`: a UTF-8 continuation byte -/
def isCont (x : UInt8) : Bool := x.toNat / 64 = 2

/-- mirrors `while (n > 0 && (reason[n] & 0xC0) == 0x80) --n;` in `makeClose` -/
def backoff (r : Bytes) : Nat → Nat
  | 0 => 0
  | n + 1 =>
    match r[n + 1]? with
    | some x => if isCont x then backoff r n else n + 1
    | none => n + 1

/-- number of reason bytes `makeClose` keeps: all of them up to `closeReasonMax`, else cut on a UTF-8 character boundary -/
def closeReasonLen (r : Bytes) : Nat :=
  if r.length > Gen.Ws.closeReasonMax then backoff r Gen.Ws.closeReasonMax else r.length

/-- the payload `makeClose(code, reason)` builds (the code is a `uint16_t`) -/
def closeBody (code : Nat) (reason : Bytes) : Bytes :=
  b8 (code / 256) :: b8 code :: reason.take (closeReasonLen reason)

/-- mirrors `makeClose(code, reason)` -/
def makeClose (code : Nat) (reason : Bytes) : Frame :=
  { fin := true, opcode := 8, masked := false, key := zeroKey, payload := closeBody code reason }

def mkFrame (op : Nat) (fin : Bool) (pl : Bytes) : Frame :=
  { fin := fin, opcode := op, masked := false, key := zeroKey, payload := pl }

/-- one application send call -/
inductive Send where
  | text (bs : Bytes)
  | binary (bs : Bytes)
  | ping (bs : Bytes)
  | close (code : Nat) (reason : Bytes)
  deriving DecidableEq, Repr

/-! ### UTF-8 validator, mirrors `isValidUtf8` -/

/-- one iteration of the `while` loop: `none` = return false, `some rest` = `i += seqLen` -/
def utf8Step : Bytes → Option Bytes
  | [] => some []
  | c :: t =>
    let c' := c.toNat
    if c' ≤ 0x7F then some t
    else if c' / 32 = 6 then        -- (c & 0xE0) == 0xC0
      match t with
      | x1 :: r => if !isCont x1 then none else if c' < 0xC2 then none else some r
      | _ => none
    else if c' / 16 = 14 then       -- (c & 0xF0) == 0xE0
      match t with
      | x1 :: x2 :: r =>
        if !isCont x1 || !isCont x2 then none
        else if c' = 0xE0 && x1.toNat < 0xA0 then none
        else if c' = 0xED && x1.toNat ≥ 0xA0 then none
        else some r
      | _ => none
    else if c' / 8 = 30 then        -- (c & 0xF8) == 0xF0
      match t with
      | x1 :: x2 :: x3 :: r =>
        if !isCont x1 || !isCont x2 || !isCont x3 then none
        else if c' = 0xF0 && x1.toNat < 0x90 then none
        else if c' > 0xF4 || (c' = 0xF4 && x1.toNat > 0x8F) then none
        else some r
      | _ => none
    else none

theorem utf8Step_length : ∀ (d r : Bytes), d ≠ [] → utf8Step d = some r → r.length < d.length := by
  intro d r hne
  -- in each branch the answer is `none` or a tail of the input that drops at least the lead byte
  fun_cases utf8Step d
  case case1 => exact absurd rfl hne
  all_goals
    intro h
    cases h <;> simp only [List.length_cons] <;> omega

def isValidUtf8 (d : Bytes) : Bool :=
  match hd : d with
  | [] => true
  | c :: t =>
    match h : utf8Step (c :: t) with
    | none => false
    | some r => isValidUtf8 r
termination_by d.length
decreasing_by
  have := utf8Step_length (c :: t) r (by simp) h
  simp_all

end Iora.Ws
