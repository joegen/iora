/-!
# Monitors: threads over one or more mutexes and condition variables, "for every schedule" (DESIGN §6.3)

Vocabulary shared by the lock/condvar protocols (C10 blocking queue; reusable by C03 C04 C05 C08 C09 C18).

A *thread* is a program counter over the alphabet of pthread operations (`Op`).  Its behaviour is a `Prog`:
`op loc` is the pthread operation the thread is about to perform in local state `loc`, and `after loc data late`
is the user code that runs once that operation has taken effect, up to (not including) the next pthread operation:
it may read and write the shared data and yields the next local state.  This is exactly the step granularity of
DetSched (harness/detsched): one scheduler step = the effect of the pending operation + the code up to the next
interposed call; code between two pthread calls is atomic (atomics are not preemption points).

`wait cv m` is two steps of the waiting thread — *release-and-sleep* (atomic, as POSIX guarantees) and, after a
wake-up, *re-acquire* — plus the wake-up itself, which is performed by a notifier (`notifyOne` wakes ONE sleeper,
chosen by the schedule; `notifyAll` all), by the scheduler action `timeout` (timed waits only) or by `spurious`.
"Every interleaving" is `∀ sched : List Choice`; a choice that is not enabled is a stutter.

A *lost wake-up* is a reachable state in which a thread is asleep, its wait condition holds, and nothing is left
that will wake it; for a concrete class this is stated over its data (see `Model/BlockingQueue.lean`).
-/
namespace Iora.Monitor

abbrev Tid := Nat
abbrev MutexId := Nat
abbrev CvId := Nat

/-- pthread operation a thread is about to perform -/
inductive Op
  | start
  | lock (m : MutexId)
  | unlock (m : MutexId)
  | wait (cv : CvId) (m : MutexId) (timed : Bool)
  | notifyOne (cv : CvId)
  | notifyAll (cv : CvId)
  | yield
  | done
  deriving DecidableEq, Repr

/-- scheduling status of a thread -/
inductive Status
  /-- runs when scheduled; its pending operation is `prog.op loc` -/
  | ready
  /-- inside `wait cv m`: mutex released, sleeping -/
  | asleep (cv : CvId) (m : MutexId) (timed : Bool)
  /-- woken (by notify / time-out / spuriously), must re-acquire `m`; `to` = woken by time-out -/
  | woken (m : MutexId) (timed : Bool) (to : Bool)
  deriving DecidableEq, Repr

structure TState (L : Type) where
  status : Status
  loc : L

/-- behaviour of the threads: `D` shared data, `L` thread-local state -/
structure Prog (D L : Type) where
  op : L → Op
  /-- user code after the pending operation took effect; `late` is only meaningful after a timed wait: the wait
  returned because its deadline passed -/
  after : L → D → Bool → L × D

structure State (D L : Type) where
  /-- number of threads; thread ids are `0 … n-1` -/
  n : Nat
  data : D
  owner : MutexId → Option Tid
  thr : Tid → TState L

/-- scheduler choices -/
inductive Choice
  /-- thread `t` performs its pending operation; `alt` selects the sleeper a `notifyOne` wakes (a thread id), and for
  the re-acquisition after a timed wait `alt ≠ 0` says that the deadline has passed meanwhile -/
  | run (t : Tid) (alt : Nat)
  /-- the timed wait of sleeping thread `t` times out -/
  | timeout (t : Tid)
  /-- sleeping thread `t` wakes up spuriously -/
  | spurious (t : Tid)
  deriving DecidableEq, Repr

def updT {α : Type} (f : Nat → α) (k : Nat) (x : α) : Nat → α := fun i => if i = k then x else f i

def isAsleepOn {L : Type} (cv : CvId) (ts : TState L) : Bool :=
  match ts.status with
  | .asleep c _ _ => c == cv
  | _ => false

/-- is some thread asleep on `cv`? -/
def anyAsleep {D L : Type} (s : State D L) (cv : CvId) : Bool :=
  (List.range s.n).any (fun t => isAsleepOn cv (s.thr t))

/-- wake one thread (it keeps its local state; it still has to re-acquire its mutex) -/
def wakeT {L : Type} (ts : TState L) (to : Bool) : TState L :=
  match ts.status with
  | .asleep _ m timed => { ts with status := .woken m timed to }
  | _ => ts

def wakeAll {L : Type} (cv : CvId) (thr : Tid → TState L) : Tid → TState L :=
  fun t => if isAsleepOn cv (thr t) then wakeT (thr t) false else thr t

/-- thread `t` (status `ready`) has performed its pending operation: run its user code -/
def runAfter {D L : Type} (P : Prog D L) (s : State D L) (t : Tid) (late : Bool) : State D L :=
  let ts := s.thr t
  let (l', d') := P.after ts.loc s.data late
  { s with data := d', thr := updT s.thr t { status := .ready, loc := l' } }

def step {D L : Type} (P : Prog D L) (s : State D L) : Choice → State D L
  | .timeout t =>
    if t < s.n then
      match (s.thr t).status with
      | .asleep _ _ true => { s with thr := updT s.thr t (wakeT (s.thr t) true) }
      | _ => s
    else s
  | .spurious t =>
    if t < s.n then
      match (s.thr t).status with
      | .asleep _ _ _ => { s with thr := updT s.thr t (wakeT (s.thr t) false) }
      | _ => s
    else s
  | .run t alt =>
    if t < s.n then
      match (s.thr t).status with
      | .asleep _ _ _ => s
      | .woken m timed to =>
        if s.owner m = none then
          runAfter P { s with owner := updT s.owner m (some t) } t (timed && (to || alt != 0))
        else s
      | .ready =>
        match P.op (s.thr t).loc with
        | .start => runAfter P s t false
        | .yield => runAfter P s t false
        | .lock m => if s.owner m = none then runAfter P { s with owner := updT s.owner m (some t) } t false else s
        | .unlock m => runAfter P { s with owner := updT s.owner m none } t false
        | .wait cv m timed =>
          { s with owner := updT s.owner m none, thr := updT s.thr t { (s.thr t) with status := .asleep cv m timed } }
        | .notifyOne cv =>
          if anyAsleep s cv then
            if alt < s.n ∧ isAsleepOn cv (s.thr alt) then
              runAfter P { s with thr := updT s.thr alt (wakeT (s.thr alt) false) } t false
            else s
          else runAfter P s t false
        | .notifyAll cv => runAfter P { s with thr := wakeAll cv s.thr } t false
        | .done => s
    else s

/-- the state reached by a schedule -/
def run {D L : Type} (P : Prog D L) (s : State D L) (sched : List Choice) : State D L := sched.foldl (step P) s

theorem run_nil {D L : Type} (P : Prog D L) (s : State D L) : run P s [] = s := rfl
theorem run_cons {D L : Type} (P : Prog D L) (s : State D L) (c : Choice) (cs : List Choice) :
    run P s (c :: cs) = run P (step P s c) cs := rfl

/-- thread `t` can take a step when scheduled -/
def enabled {D L : Type} (P : Prog D L) (s : State D L) (t : Tid) : Bool :=
  match (s.thr t).status with
  | .asleep _ _ _ => false
  | .woken m _ _ => (s.owner m).isNone
  | .ready =>
    match P.op (s.thr t).loc with
    | .lock m => (s.owner m).isNone
    | .done => false
    | _ => true

/-- no thread can run: every thread is finished, asleep, or waiting for a mutex that will never be released.  (Sleepers
of timed waits could still time out; DetSched reports a dead-lock only when there is no timed sleeper either.) -/
def Deadlocked {D L : Type} (P : Prog D L) (s : State D L) : Prop := ∀ t, t < s.n → enabled P s t = false

instance {D L : Type} (P : Prog D L) (s : State D L) : Decidable (Deadlocked P s) :=
  inferInstanceAs (Decidable (∀ t, t < s.n → enabled P s t = false))

/-! ## Counting threads -/

/-- number of threads `< n` whose state satisfies `p` -/
def cnt {L : Type} (p : TState L → Bool) (thr : Tid → TState L) : Nat → Nat
  | 0 => 0
  | n + 1 => cnt p thr n + (if p (thr n) then 1 else 0)

theorem cnt_congr {L : Type} (p : TState L → Bool) (f g : Tid → TState L) (n : Nat)
    (h : ∀ t, t < n → p (f t) = p (g t)) : cnt p f n = cnt p g n := by
  induction n with
  | zero => rfl
  | succ n ih =>
    simp only [cnt]
    rw [ih (fun t ht => h t (by omega)), h n (by omega)]

theorem cnt_upd {L : Type} (p : TState L → Bool) (f : Tid → TState L) (n t : Nat) (x : TState L) (ht : t < n) :
    cnt p (updT f t x) n + (if p (f t) then 1 else 0) = cnt p f n + (if p x then 1 else 0) := by
  induction n with
  | zero => omega
  | succ n ih =>
    simp only [cnt]
    by_cases e : n = t
    · subst e
      have : cnt p (updT f n x) n = cnt p f n := cnt_congr p _ _ n (fun u hu => by have : u ≠ n := by omega
                                                                                   simp [updT, this])
      rw [this]
      simp [updT]
      omega
    · have := ih (by omega)
      have e2 : updT f t x n = f n := by simp [updT, e]
      rw [e2]
      omega

theorem cnt_upd_ge {L : Type} (p : TState L → Bool) (f : Tid → TState L) (n t : Nat) (x : TState L) (ht : n ≤ t) :
    cnt p (updT f t x) n = cnt p f n :=
  cnt_congr p _ _ n (fun u hu => by have : u ≠ t := by omega
                                    simp [updT, this])

theorem cnt_pos_of {L : Type} (p : TState L → Bool) (f : Tid → TState L) (n t : Nat) (ht : t < n) (h : p (f t) = true) :
    0 < cnt p f n := by
  induction n with
  | zero => omega
  | succ n ih =>
    simp only [cnt]
    by_cases e : t = n
    · subst e; simp [h]
    · have := ih (by omega); omega

theorem exists_of_cnt_pos {L : Type} (p : TState L → Bool) (f : Tid → TState L) (n : Nat) (h : 0 < cnt p f n) :
    ∃ t, t < n ∧ p (f t) = true := by
  induction n with
  | zero => simp [cnt] at h
  | succ n ih =>
    simp only [cnt] at h
    by_cases e : p (f n) = true
    · exact ⟨n, by omega, e⟩
    · simp [e] at h
      obtain ⟨t, ht, hp⟩ := ih h
      exact ⟨t, by omega, hp⟩

theorem cnt_zero {L : Type} (p : TState L → Bool) (f : Tid → TState L) (n : Nat) (h : ∀ t, t < n → p (f t) = false) :
    cnt p f n = 0 := by
  induction n with
  | zero => rfl
  | succ n ih => simp only [cnt]; rw [ih (fun t ht => h t (by omega)), h n (by omega)]; rfl

theorem anyAsleep_iff {D L : Type} (s : State D L) (cv : CvId) :
    anyAsleep s cv = true ↔ ∃ t, t < s.n ∧ isAsleepOn cv (s.thr t) = true := by
  simp [anyAsleep, List.any_eq_true]

/-! ## What one enabled step does (case analysis, once and for all) -/

/-- the enabled transitions of the monitor system, as explicit state updates -/
inductive Tr {D L : Type} (P : Prog D L) (s : State D L) : State D L → Prop
  /-- time-out or spurious wake-up of a sleeper -/
  | wake (t : Tid) (cv : CvId) (m : MutexId) (timed to : Bool) (ht : t < s.n)
      (hs : (s.thr t).status = .asleep cv m timed) :
      Tr P s { s with thr := updT s.thr t { (s.thr t) with status := .woken m timed to } }
  /-- a woken thread re-acquires its mutex and runs on -/
  | reacquire (t : Tid) (m : MutexId) (timed to late : Bool) (ht : t < s.n)
      (hs : (s.thr t).status = .woken m timed to) (hfree : s.owner m = none) :
      Tr P s (runAfter P { s with owner := updT s.owner m (some t) } t late)
  /-- `lock m` succeeds -/
  | lock (t : Tid) (m : MutexId) (ht : t < s.n) (hs : (s.thr t).status = .ready)
      (hop : P.op (s.thr t).loc = .lock m) (hfree : s.owner m = none) :
      Tr P s (runAfter P { s with owner := updT s.owner m (some t) } t false)
  | unlock (t : Tid) (m : MutexId) (ht : t < s.n) (hs : (s.thr t).status = .ready)
      (hop : P.op (s.thr t).loc = .unlock m) :
      Tr P s (runAfter P { s with owner := updT s.owner m none } t false)
  /-- release-and-sleep -/
  | sleep (t : Tid) (cv : CvId) (m : MutexId) (timed : Bool) (ht : t < s.n) (hs : (s.thr t).status = .ready)
      (hop : P.op (s.thr t).loc = .wait cv m timed) :
      Tr P s { s with owner := updT s.owner m none, thr := updT s.thr t { (s.thr t) with status := .asleep cv m timed } }
  /-- `notifyOne` with a sleeper to wake -/
  | notifyWake (t : Tid) (cv : CvId) (u : Tid) (ht : t < s.n) (hs : (s.thr t).status = .ready)
      (hop : P.op (s.thr t).loc = .notifyOne cv) (hu : u < s.n) (hsl : isAsleepOn cv (s.thr u) = true) :
      Tr P s (runAfter P { s with thr := updT s.thr u (wakeT (s.thr u) false) } t false)
  /-- `notifyOne` with nobody asleep on the condition variable -/
  | notifyNone (t : Tid) (cv : CvId) (ht : t < s.n) (hs : (s.thr t).status = .ready)
      (hop : P.op (s.thr t).loc = .notifyOne cv) (hno : ∀ u, u < s.n → isAsleepOn cv (s.thr u) = false) :
      Tr P s (runAfter P s t false)
  | notifyAll (t : Tid) (cv : CvId) (ht : t < s.n) (hs : (s.thr t).status = .ready)
      (hop : P.op (s.thr t).loc = .notifyAll cv) :
      Tr P s (runAfter P { s with thr := wakeAll cv s.thr } t false)
  /-- `start` / `yield`: no effect on mutexes or sleepers -/
  | plain (t : Tid) (ht : t < s.n) (hs : (s.thr t).status = .ready)
      (hop : P.op (s.thr t).loc = .start ∨ P.op (s.thr t).loc = .yield) :
      Tr P s (runAfter P s t false)

theorem wakeT_asleep {L : Type} (ts : TState L) (cv : CvId) (m : MutexId) (timed to : Bool)
    (h : ts.status = .asleep cv m timed) : wakeT ts to = { ts with status := .woken m timed to } := by
  simp [wakeT, h]

/-- every choice either stutters or performs one of the transitions of `Tr` -/
theorem step_tr {D L : Type} (P : Prog D L) (s : State D L) (c : Choice) : step P s c = s ∨ Tr P s (step P s c) := by
  cases c with
  | timeout t =>
    simp only [step]
    split
    · rename_i ht
      split
      · rename_i cv m hst
        right
        rw [wakeT_asleep _ cv m true true hst]
        exact Tr.wake t cv m true true ht hst
      · left; rfl
    · left; rfl
  | spurious t =>
    simp only [step]
    split
    · rename_i ht
      split
      · rename_i cv m timed hst
        right
        rw [wakeT_asleep _ cv m timed false hst]
        exact Tr.wake t cv m timed false ht hst
      · left; rfl
    · left; rfl
  | run t alt =>
    simp only [step]
    split
    · rename_i ht
      split
      · left; rfl
      · rename_i m timed to hst
        split
        · rename_i hfree
          right; exact Tr.reacquire t m timed to _ ht hst hfree
        · left; rfl
      · rename_i hst
        split
        · rename_i hop; right; exact Tr.plain t ht hst (Or.inl hop)
        · rename_i hop; right; exact Tr.plain t ht hst (Or.inr hop)
        · rename_i m hop
          split
          · rename_i hfree; right; exact Tr.lock t m ht hst hop hfree
          · left; rfl
        · rename_i m hop; right; exact Tr.unlock t m ht hst hop
        · rename_i cv m timed hop; right; exact Tr.sleep t cv m timed ht hst hop
        · rename_i cv hop
          split
          · split
            · rename_i hany hpick
              right; exact Tr.notifyWake t cv alt ht hst hop hpick.1 hpick.2
            · left; rfl
          · rename_i hany
            right
            refine Tr.notifyNone t cv ht hst hop ?_
            intro u hu
            cases hsl : isAsleepOn cv (s.thr u) with
            | false => rfl
            | true => exact absurd ((anyAsleep_iff s cv).mpr ⟨u, hu, hsl⟩) hany
        · rename_i cv hop; right; exact Tr.notifyAll t cv ht hst hop
        · left; rfl
    · left; rfl

/-- an invariant preserved by every transition holds after every schedule -/
theorem inv_of_tr {D L : Type} (P : Prog D L) (Inv : State D L → Prop)
    (h : ∀ s s', Inv s → Tr P s s' → Inv s') (sched : List Choice) (s : State D L) (h0 : Inv s) : Inv (run P s sched) :=
  sched.foldlRecOn (step P) h0 fun s hi c _ => (step_tr P s c).elim (fun e => e.symm ▸ hi) (h s _ hi)

end Iora.Monitor
