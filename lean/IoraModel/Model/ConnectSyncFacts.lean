import IoraModel.Model.TsyncFacts
import IoraModel.Gen.EngineContract
/-!
# C04: the source facts the connectSync model is instantiated with (extension round)

`Model/TsyncFacts.lean` (shared with C03/C05) states the C04 facts as order predicates (`before`, `contains`) over the lock/notify
skeleton.  The second review showed four mutated skeletons that still satisfy them.  This file pins the same pieces of code by
EXACT list equality (as `teardownOrder` does) and adds the engine side of the tie, regenerated by `tools/tr_enginecontract.py`:
`close()` / `connect()` of both engines only enqueue, the Close arm of `process()` closes what it finds, `connectSync` has no
protocol-dependent bypass (repair FC04b) and no assignment to `timeout` other than the saturation clamp.

`Model/ConnectSync.lean` builds `genCfg` from these booleans; `Props/C04.skeleton_conforms` proves `genCfg.Good` by kernel evaluation of these facts,
so a flipped fact breaks the build of every C04 theorem.
-/
namespace Iora.ConnectSyncFacts
open Iora.TsyncFacts

/-- `connectSync` from its first statement up to and including `wait_for`: I/O-thread guard, lock, entry fence, ONE
`engine->connect` under the lock, error branch, registration, guard, wait — and nothing else (in particular no `return` that
hands out `engine->connect(...)` directly: the UDP bypass removed by repair FC04b) -/
def connectHeadExact : Bool :=
  (fn "connectSync").takeWhile (· != ("wait_for", "op.cv", "syncMutex")) ==
    [("call", "engine.getIoThreadId", ""), ("throw", "logic_error", ""), ("lock", "syncMutex", ""),
     ("read", "shuttingDown", "syncMutex"), ("return", "err:ShuttingDown", "syncMutex"), ("call", "engine.connect", "syncMutex"),
     ("return", "result", "syncMutex"), ("write", "pendingConnects", "syncMutex"), ("guard", "ParkGuard:activeConnects", "syncMutex")]

/-- everything after `wait_for`: `done` → return the handler's result; else `abandoned = true` UNDER the lock, the teardown
return, then exactly one unlock window containing only `engine->close`, relock, and the two error returns (never `op->result`
after the relock: seed C04-a; never the `abandoned` mark below the teardown return: seed C04-c) -/
def connectTailExact : Bool :=
  ((fn "connectSync").dropWhile (· != ("wait_for", "op.cv", "syncMutex"))).drop 1 ==
    [("return", "op->done||_impl->shuttin", "syncMutex"), ("read", "done", "syncMutex"), ("read", "shuttingDown", "syncMutex"),
     ("read", "done", "syncMutex"), ("return", "op->result", "syncMutex"), ("write", "abandoned=true", "syncMutex"),
     ("read", "shuttingDown", "syncMutex"), ("return", "err:ShuttingDown", "syncMutex"), ("unlock", "syncMutex", "syncMutex"),
     ("call", "engine.close", ""), ("lock", "syncMutex", ""), ("read", "shuttingDown", "syncMutex"),
     ("return", "err:ShuttingDown", "syncMutex"), ("return", "err:Timeout", "syncMutex"), ("unlock", "syncMutex", "syncMutex")]

/-- the pending branch of the `onConnect` handler, up to the return that precedes the global callback: abandoned check and its
`return` BEFORE the completion, result/done written and the record erased under the lock, notify outside, return -/
def onConnectPendingExact : Bool :=
  (fn "onConnect").take 11 ==
    [("lock", "syncMutex", ""), ("read", "pendingConnects", "syncMutex"), ("read", "pendingConnects", "syncMutex"),
     ("read", "abandoned", "syncMutex"), ("return", "void", "syncMutex"), ("write", "result=ok", "syncMutex"),
     ("write", "done=true", "syncMutex"), ("erase", "pendingConnects", "syncMutex"), ("unlock", "syncMutex", "syncMutex"),
     ("notify_one", "op.cv", ""), ("return", "void", "")] &&
  (fn "onConnect").drop 11 == [("lock", "callbackMutex", ""), ("unlock", "callbackMutex", "callbackMutex"), ("call", "user:cb", "")]

/-- the pending branch of the `onClose` handler: result/done written and the record ERASED under the lock, notify outside, and the
`return` that keeps the global close callback and the observers from running for a connectSync-created session -/
def onClosePendingExact : Bool :=
  (fn "onClose").take 9 ==
    [("lock", "syncMutex", ""), ("read", "pendingConnects", "syncMutex"), ("read", "pendingConnects", "syncMutex"),
     ("write", "result=err", "syncMutex"), ("write", "done=true", "syncMutex"), ("erase", "pendingConnects", "syncMutex"),
     ("unlock", "syncMutex", "syncMutex"), ("notify_one", "op.cv", ""), ("return", "void", "")] &&
  -- what follows that `return` (tombstone section, global callback, observers: their order is C03's subject) still calls the
  -- global close callback exactly once and never touches `pendingConnects` again
  count ((fn "onClose").drop 9) (fun e => e == ("call", "user:closeCb", "")) == 1 &&
  !((fn "onClose").drop 9).any (fun e => e.2.1 == "pendingConnects")

/-- `connectSyncCancellable`: pre-cancel check; first sub-attempt, its RESULT is looked at before the token (ok → return, other
error → return: seed C04-b moved the token check above); in the loop: token, `remaining <= 0 → break`, sub-attempt, result;
Timeout after the loop -/
def wrapperOrderExact : Bool :=
  fn "connectSyncCancellable" ==
    [("read", "token.isCancelled", ""), ("return", "err:Cancelled", ""), ("const", "subInterval=100", ""),
     ("call", "connectSync", ""), ("return", "result", ""), ("return", "result", ""),
     ("read", "token.isCancelled", ""), ("return", "err:Cancelled", ""), ("break", "", ""),
     ("call", "connectSync", ""), ("return", "result", ""), ("return", "err:Timeout", "")]

/-- the arguments: ONE `engine->connect(host, port, tls)` (no second, protocol-dependent call), one `engine->close(sid)`, the
engine's error returned as is, the id is the engine's, the success return is the handler's result -/
def connectPassesArgsR : Bool :=
  let a := fn "connectSync.args"
  count a (fun e => e.2.1 == "engine.connect.args") == 1 &&
  a.contains ("expr", "engine.connect.args", "host,port,tls") &&
  count a (fun e => e.2.1 == "engine.close.args") == 1 && a.contains ("expr", "engine.close.args", "sid") &&
  a.contains ("expr", "connect.errbranch", "returnresult;") && a.contains ("expr", "sid", "result.value()") &&
  a.contains ("expr", "return.done", "std::move(op->result)") && count a (fun e => e.2.1 == "return.ok") == 0 &&
  Iora.Gen.EngineContract.connectSyncEngineConnectCalls == 1 && Iora.Gen.EngineContract.connectSyncEngineCloseCalls == 1

/-- no assignment to `timeout` before `wait_for` other than the saturation clamp (FC03b) -/
def timeoutOnlyClamped : Bool :=
  Iora.Gen.EngineContract.connectSyncTimeoutAssignments == ["timeout=detail::clampSyncTimeout(timeout);"]

/-- repair FC04b: `connectSync` takes the same path for every protocol — no `return engine->connect(...)`, no test of
`config.protocol` (the unrepaired UDP bypass returned `ok sid` before the host was even resolved) -/
def noProtocolBypass : Bool :=
  Iora.Gen.EngineContract.connectSyncBypassReturns == 0 && Iora.Gen.EngineContract.connectSyncProtocolTests == 0

def body (name : String) : String :=
  match Iora.Gen.EngineContract.bodies.find? (fun p => p.1 == name) with
  | some p => p.2
  | none => ""

/-- `close(sid)` of BOTH engines is exactly `return enqueue(<Cmd>::close(sid));` — it never looks at the session table, so the
Close of an id whose Connect the I/O thread has not executed yet is queued behind that Connect (seed C04-d dropped it) -/
def closeOnlyEnqueues : Bool :=
  body "tcpClose" == "returnenqueue(Command::close(sid));" && body "udpClose" == "returnenqueue(Cmd::close(sid));"

/-- `connect()` of both engines: take the next id, enqueue the Connect, `ShuttingDown` iff the queue refused, `ok(sid)` otherwise
(UDP additionally rejects a TLS mode up front) — nothing is resolved, connected or called back on the caller's thread -/
def connectOnlyEnqueues : Bool :=
  body "tcpConnect" ==
    "SessionIdsid=_nextSessionId++;ConnectReqcr{sid,host,port,tls};if(!enqueue(Command::connect(cr))){returnConnectResult::err(TransportErrorInfo{TransportError::ShuttingDown,\"\"});}returnConnectResult::ok(sid);" &&
  body "udpConnect" ==
    "if(tls!=TlsMode::None){returnConnectResult::err(TransportErrorInfo{TransportError::Config,\"\"});}SessionIdsid=_nextSessionId++;ConnectReqcr;cr.sid=sid;cr.host=host;cr.port=port;if(!enqueue(Cmd::connect(cr))){returnConnectResult::err(TransportErrorInfo{TransportError::ShuttingDown,\"\"});}returnConnectResult::ok(sid);"

/-- the Close arm of `process()`: a session found in the table is closed (`closeNow`) unless the close is TIMER-originated and
stale; the Connect arm runs `doConnect` at once (Connect before Close, FIFO) -/
def processClosesWhatItFinds : Bool :=
  body "tcpProcessClose" ==
    "{autoit=_sessions.find(c.closeSid);if(it!=_sessions.end()){auto*s=it->second.get();if(c.closeOrigin==CloseOrigin::ConnectTimeout){if(!s->connectPending)break;}elseif(c.closeOrigin==CloseOrigin::HandshakeTimeout){if(s->tlsState!=TlsState::Handshake)break;}elseif(c.closeOrigin==CloseOrigin::WriteStall){if(s->wq.empty())break;}closeNow(s,c.closeReason,c.closeMsg,0);}break;}" &&
  body "tcpProcessConnect" == "doConnect(c.c);break;" &&
  body "udpProcessClose" ==
    "{autoit=_sessions.find(c.closeSid);if(it!=_sessions.end())closeNow(it->second.get(),TransportError::Unknown,\"\",0);}break;"

/-- every safety-net timer handler (TimerService thread) only enqueues a Close TAGGED with its own origin; together with
`processClosesWhatItFinds` (the Close arm meets each origin with its guard: ConnectTimeout ↦ `if (!s->connectPending) break;`,
HandshakeTimeout ↦ `tlsState != Handshake`, WriteStall ↦ `wq.empty()`) a timer close that lost its race is IGNORED. An untagged
close (origin App) is executed whatever happened meanwhile (seed C04-e) -/
def timerClosesTagged : Bool :=
  body "tcp.handleConnectTimeout" == "enqueue(Command::close(sid,TransportError::Timeout,\"\",CloseOrigin::ConnectTimeout));" &&
  body "tcp.handleHandshakeTimeout" ==
    "enqueue(Command::close(sid,TransportError::TLSHandshake,\"\",CloseOrigin::HandshakeTimeout));" &&
  body "tcp.handleWriteStallTimeout" == "enqueue(Command::close(sid,TransportError::Timeout,\"\",CloseOrigin::WriteStall));"

/-- the engine side of the EngineBase contract as the C04 model uses it -/
structure EngineContract where
  closeEnqueues : Bool
  connectEnqueues : Bool
  processCloses : Bool
  timersTagged : Bool
  deriving DecidableEq, Repr

def EngineContract.holds (e : EngineContract) : Bool :=
  e.closeEnqueues && e.connectEnqueues && e.processCloses && e.timersTagged

/-- the contract instance regenerated from `tcp_engine.hpp` / `udp_engine.hpp` -/
def genEngine : EngineContract :=
  { closeEnqueues := closeOnlyEnqueues, connectEnqueues := connectOnlyEnqueues, processCloses := processClosesWhatItFinds,
    timersTagged := timerClosesTagged }

end Iora.ConnectSyncFacts
