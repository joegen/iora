import IoraModel.Gen.TpSkel
/-!
# Monitor model of `iora::core::ThreadPool` (include/iora/core/thread_pool.hpp) — property C09

Granularity (DESIGN §6.3 = DetSched, harness/detsched): a thread's state names its *pending* pthread operation
(lock / unlock / condition wait / notify / thread create / join / detach / sleep / explicit yield).  One scheduler
step performs the effect of that operation **and** the code up to (not including) the next pthread operation;
atomics are not pre-emption points, except where the guarded hook `IORA_VERIF_POINT("tp:popped")` marks one
(between leaving the pop critical section and `++_activeThreads`).
"Every interleaving" is `∀ sched : List Choice`; a choice that is not enabled is a stutter.

The model follows the code AS REPAIRED by fixes/F24-threadpool-atomic-spawn.patch: the `_threads.size() < _maxSize`
test, the thread creation and the registration in `_threads` are one critical section of `enqueueImpl`/`tryEnqueueImpl`.

Threads: thread 0 is the *controller* (constructs the pool, creates the submitter threads, calls
`drain/stop/shutdown`, joins the submitters, destroys the pool — an arbitrary script `Cfg.main`), *submitters*
run an arbitrary script of `enqueue / tryEnqueue / enqueueWithResult` calls, *workers* run the worker lambda of
`spawnWorker`; task bodies are scripts too (`Cfg.bodies`): they submit further tasks and end by returning or throwing.
The state of a thread is typed by its kind, so that "a worker between pop and `task = {}` has exactly one task in
hand" and "only the controller runs controller code" hold by construction.

Restart (`reset()` + `start()` after `stop()`) is modelled (`rsL … kU`), the theorems of Props/C09 about whole runs assume it
is not used.  Not modelled as transitions: `setShutdownMode` at run time, the contents of tasks other than submit/throw; a
failing `std::thread` creation is modelled at the level of the submitting critical section only (`spawnFailed`, fixes/FC09e).
-/
namespace Iora.ThreadPool
open Iora

abbrev Tid := Nat

/-- which public entry point submits: `enqueue` (throws on refusal), `tryEnqueue` (returns false),
`enqueueWithResult` (throws, returns a future) -/
inductive Mode | enq | tryEnq | withResult
  deriving DecidableEq, Repr, Inhabited

/-- one scripted action of a submitter or of a task body: submit a task whose body is `Cfg.bodies[body]` -/
structure Act where
  mode : Mode
  body : Nat
  deriving DecidableEq, Repr, Inhabited

/-- a task body: submits `acts` in order, then returns (`throws = false`) or throws -/
structure Body where
  acts : List Act
  throws : Bool
  /-- the error handler `_onTaskError` itself throws when it is first invoked for this task (the wrapper's `catch` lets
  that exception escape; the worker loop's own `catch (...)` then invokes the handler a second time) -/
  hthrow : Bool := false
  deriving DecidableEq, Repr, Inhabited

/-- controller operations -/
inductive MOp
  | act (a : Act)
  | spawnSub (script : List Act)
  | joinSubs
  | drain (timeoutMs : Nat)
  | stop
  | shutdown
  | destroy
  /-- create a further controller thread running `Cfg.ctls[ix]` (it may call drain/stop/shutdown and submit; `destroy`
  and `restart` are ignored there: only the owning thread destroys or restarts the pool) -/
  | spawnCtl (ix : Nat)
  /-- `reset()` then `start()` (only from state Stopped) -/
  | restart
  deriving DecidableEq, Repr, Inhabited

structure Cfg where
  /-- `_initialSize` -/
  initialSize : Nat
  /-- `_maxSize` -/
  maxSize : Nat
  /-- `_maxQueueSize` -/
  maxQueue : Nat
  /-- `_shutdownMode == DETACHED` -/
  detached : Bool
  /-- the tree has the `IORA_VERIF_POINT("tp:popped")` hook -/
  hook : Bool
  bodies : List Body
  main : List MOp
  /-- scripts of the additional controller threads -/
  ctls : List (List MOp) := []
  /-- `restart` operations are executed (the driver sets this; the theorems of Props/C09 are about pools that are not
  restarted and assume `false`, in which case `restart` is a no-op) -/
  allowRestart : Bool := false
  deriving Repr, Inhabited

def Cfg.bodyAt (cfg : Cfg) (i : Nat) : Body :=
  match cfg.bodies[i]? with
  | some b => b
  | none => { acts := [], throws := false }

def Cfg.ctlAt (cfg : Cfg) (i : Nat) : List MOp :=
  match cfg.ctls[i]? with
  | some l => l
  | none => []

/-- mirrors `ThreadPool::effectiveMaxSize` (fixes/FC09b): the worker limit actually used is at least 1 and at least
`initialSize` -/
def Cfg.effMax (cfg : Cfg) : Nat :=
  let atLeast := if cfg.initialSize > 0 then cfg.initialSize else 1
  if cfg.maxSize < atLeast then atLeast else cfg.maxSize

/-- `iora::common::LifecycleState` -/
inductive Life | created | running | draining | stopped | reset
  deriving DecidableEq, Repr, Inhabited

/-- outcome of a submission -/
inductive Res | pending | accepted | refDraining | refShutdown | refFull
  deriving DecidableEq, Repr, Inhabited

/-- the four bounded polling loops `while (waitMs < max) { active==0 && pending==0 ? break : sleep 50ms }` -/
inductive Poll | drain | shut | race | dtor
  deriving DecidableEq, Repr, Inhabited

-- ------------------------------------------------------------------------------------------- thread states
/-- inside `enqueueImpl` / `tryEnqueueImpl`: the pending operation -/
inductive EPc
  /-- L _mutex -/
  | lock
  /-- C: `std::thread t(...)` inside the critical section, followed by `_threads.emplace` -/
  | create
  /-- U _mutex (accepted) -/
  | unlock
  /-- N _condition -/
  | notify
  /-- U _mutex (refused: shutdown / full) -/
  | unlockR
  deriving DecidableEq, Repr, Inhabited

/-- a scripted caller of the enqueue API -/
inductive CallSt
  /-- Y "call": harness yield before the next call (`script` = this call and the following ones); the step
  allocates the call id and reads `_accepting` -/
  | yield_ (script : List Act)
  /-- call `cid` in progress; `rest` = the calls after it -/
  | inCall (rest : List Act) (cid : Nat) (e : EPc)
  deriving DecidableEq, Repr, Inhabited

/-- worker lambda of `spawnWorker` -/
inductive WSt
  /-- S: first scheduling -/
  | start
  /-- L _mutex at the top of the loop -/
  | lock
  /-- W: about to sleep in `_condition.wait_for` (holds the mutex, predicate false) -/
  | waitReady
  /-- inside `wait_for`: mutex released, sleeping -/
  | asleep
  /-- R: woken (notify / time-out / spuriously), must re-acquire; `to` = woken by the time-out -/
  | woken (to : Bool)
  /-- D: idle exit, `it->second.detach()`, followed by `_threads.erase(it)` -/
  | detach
  /-- U _mutex, then the lambda returns -/
  | unlockExit
  /-- U _mutex, then `continue` -/
  | unlockCont
  /-- U _mutex with task `id` in hand -/
  | unlockTask (id : Nat)
  /-- Y "tp:popped" (hook): between the critical section and `++_activeThreads` -/
  | popped (id : Nat)
  /-- Y "b": first yield of the scripted body of task `id` -/
  | bYield (id : Nat) (script : List Act)
  /-- the body of task `id` is inside / before an enqueue call -/
  | body (id : Nat) (c : CallSt)
  /-- L _configMutex in the `catch (...)` of the `enqueue`/`tryEnqueue` wrapper -/
  | cfgLock (id : Nat) (again : Bool)
  /-- U _configMutex, then the error handler runs; `again` = this is the worker loop's own `catch`, entered because the
  handler threw out of the wrapper's `catch` -/
  | cfgUnlock (id : Nat) (again : Bool)
  /-- the lambda has returned -/
  | done
  deriving DecidableEq, Repr, Inhabited

/-- submitter thread -/
inductive SSt
  | start (script : List Act)
  | run (c : CallSt)
  | done
  deriving DecidableEq, Repr, Inhabited

/-- controller: pending operation -/
inductive MPc
  /-- S -/
  | start
  /-- S of an additional controller thread -/
  | startAux
  /-- constructor `spawnWorker()`: L _mutex / C / U _mutex -/
  | cL | cC | cU
  /-- Y "m": harness yield between controller operations -/
  | mYield
  /-- the controller itself submits -/
  | inCall (c : CallSt)
  /-- C: create a submitter thread running `script` -/
  | mSpawn (script : List Act)
  /-- C: create a further controller thread -/
  | mSpawnCtl (ix : Nat)
  /-- J: join the first remaining submitter / controller -/
  | mJoin
  /-- `getInFlightCount()` at the start of `drain()`: L / U -/
  | dInfL | dInfU
  /-- polling loop: L / U of `getPendingTaskCount()`, Z = `sleep_for(50ms)` -/
  | pollL (k : Poll) | pollU (k : Poll) | pollZ (k : Poll)
  /-- after a polling loop timed out (drain, dtor): final `getPendingTaskCount()` L / U -/
  | finL (k : Poll) | finU (k : Poll)
  /-- `shutdown()` / phase 1: L, U (already shut down), U, B -/
  | sFlagL | sFlagUA (ep : Nat) | sFlagU | sBcast
  /-- `shutdown()` found `_shutdown` already set and read `_shutdownEpoch = ep` under `_mutex`: Z 1 ms while
  `_shutdownCompleteEpoch < ep` (fixes/FC09a, FC09d) -/
  | sDoneZ (ep : Nat)
  /-- `shutdown()`: Z 10 ms, then the re-check L / U -/
  | sGrace | sChkL | sChkU
  /-- join loop (shutdown() and phase 4): L (pick), U, J / D, U (none left) -/
  | jL | jU (target : Tid) | jJoin (target : Tid) | jDetach (target : Tid) | jUnone
  /-- phase 2 barrier: Z 100 us, Z 5 ms -/
  | p2Z | p2Grace
  /-- phase 4: read the mode under _configMutex -/
  | p4CfgL | p4CfgU
  /-- phase 5: L / U -/
  | p5L | p5U
  /-- `reset()`: L (clear `_tasks`, `_threads`) / U (counters), then `start()`: L (`_shutdown = false`) / U, then
  `spawnWorker()` × initialSize: L / C / U -/
  | rsL | rsU | stL | stU | kL | kC | kU
  /-- the controller function has returned -/
  | done
  deriving DecidableEq, Repr, Inhabited

/-- controller registers -/
structure MRegs where
  mscript : List MOp := []
  subs : List Tid := []
  ctor : Nat := 0
  inStop : Bool := false
  inDtor : Bool := false
  a : Nat := 0
  p : Nat := 0
  waitMs : Nat := 0
  maxWait : Nat := 0
  iter : Nat := 0
  inflight : Nat := 0
  /-- an additional controller thread (not the owner of the pool) -/
  aux : Bool := false
  /-- `myEpoch` of `shutdown()`: the number this caller gave to the shutdown it owns -/
  ep : Nat := 0
  deriving DecidableEq, Repr, Inhabited

inductive Thread
  | main (pc : MPc) (r : MRegs)
  | sub (s : SSt)
  | worker (w : WSt)
  deriving DecidableEq, Repr, Inhabited

/-- everything except the threads' local states: the pool's members and the ghost observations -/
structure Shared where
  -- ---- the pool's data
  /-- `_tasks` (ids of queued tasks, front first) -/
  tasks : List Nat := []
  /-- keys of `_threads` (registered, joinable workers) -/
  threads : List Tid := []
  shutdown : Bool := false
  accepting : Bool := false
  life : Life := .created
  active : Nat := 0
  busy : Nat := 0
  created : Nat := 0
  started : Nat := 0
  exited : Nat := 0
  waiting : Nat := 0
  /-- owner of `_mutex` / `_configMutex` -/
  owner : Option Tid := none
  ownerCfg : Option Tid := none
  -- ---- ghost state (observations the theorems talk about)
  nextId : Nat := 0
  bodyIx : Nat → Nat := fun _ => 0
  modeOf : Nat → Mode := fun _ => .enq
  result : Nat → Res := fun _ => .pending
  accCnt : Nat → Nat := fun _ => 0
  startCnt : Nat → Nat := fun _ => 0
  doneCnt : Nat → Nat := fun _ => 0
  /-- `some true` = ended by an exception (stored in the future / passed to the error handler) -/
  outcome : Nat → Option Bool := fun _ => none
  handled : Nat → Nat := fun _ => 0
  nStart : Nat := 0
  nDone : Nat := 0
  /-- `drain()` has begun / `shutdown()` or the destructor has set the flag -/
  drainCalled : Bool := false
  shutCalled : Bool := false
  /-- a join loop has completed (found no joinable thread) -/
  quiesced : Bool := false
  /-- `_shutdownCompleteEpoch`: number of the last `shutdown()` that has joined every worker (only grows; `start()` does not
  touch it — fixes/FC09d) -/
  complete : Nat := 0
  /-- `_shutdownEpoch`: number of the shutdown that last set `_shutdown` (guarded by `_mutex`) -/
  epoch : Nat := 0
  /-- results of the controller operations, newest first: 1 drain() ok, 2 drain() timed out, 3 drain() refused (state),
  4 stop ok, 5 stop failed (drain), 6 stop refused (state), 7 shutdown returned, 8 destructor returned,
  9 destructor returned with joinable threads left (`std::terminate`), 10 restarted (`reset()` + `start()`),
  11 restart refused (state), 13 destructor returned although another thread's `shutdown()` had not completed -/
  mlog : List Nat := []

structure St where
  sh : Shared := {}
  /-- all threads in creation order (index = DetSched thread id) -/
  thr : List Thread := []

def bump (f : Nat → Nat) (k : Nat) : Nat → Nat := fun i => if i = k then f i + 1 else f i
def setF {α : Type} (f : Nat → α) (k : Nat) (x : α) : Nat → α := fun i => if i = k then x else f i

/-- scheduler choices -/
inductive Choice
  /-- thread `t` performs its pending operation.  `alt`: the sleeper a `notify_one` wakes; for the re-acquisition
  after a wake-up `alt ≠ 0` = the deadline has passed meanwhile (libstdc++ decides "timeout" by looking at the
  clock, not at the return code); for the join loop the entry of `_threads` that the iteration finds first -/
  | run (t : Tid) (alt : Nat)
  /-- the timed wait of sleeping thread `t` times out -/
  | timeout (t : Tid)
  /-- sleeping thread `t` wakes up spuriously -/
  | spurious (t : Tid)
  deriving DecidableEq, Repr

/-- what a step does to OTHER threads -/
inductive Post
  | none
  /-- a new thread is appended (its id is the current number of threads) -/
  | spawn (th : Thread)
  /-- `notify_one` -/
  | wakeOne
  /-- `notify_all` -/
  | wakeAll
  deriving DecidableEq, Repr

/-- before the controller has been scheduled for the first time -/
def init (cfg : Cfg) : St :=
  { thr := [.main .start { mscript := cfg.main, ctor := cfg.initialSize }] }

def newWorker : Thread := .worker .start

-- ------------------------------------------------------------------------------------------- condition variable
def isAsleep : Thread → Bool
  | .worker .asleep => true
  | _ => false

def wake (th : Thread) (to : Bool) : Thread :=
  match th with
  | .worker .asleep => .worker (.woken to)
  | th => th

def wakeAll (l : List Thread) : List Thread := l.map (fun th => wake th false)

def anyAsleep (l : List Thread) : Bool := l.any isAsleep

def countAsleep (l : List Thread) : Nat := l.countP isAsleep

/-- `notify_one`: wakes sleeper `alt` (if nobody sleeps: no effect); `none` = ill-formed choice -/
def notifyOne (l : List Thread) (alt : Nat) : Option (List Thread) :=
  if anyAsleep l then
    match l[alt]? with
    | some th => if isAsleep th then some (l.set alt (wake th false)) else none
    | none => none
  else some l

def applyPost (l : List Thread) (p : Post) (alt : Nat) : Option (List Thread) :=
  match p with
  | .none => some l
  | .spawn th => some (l ++ [th])
  | .wakeOne => notifyOne l alt
  | .wakeAll => some (wakeAll l)

def isFinished : Thread → Bool
  | .main .done _ => true
  | .sub .done => true
  | .worker .done => true
  | _ => false

-- ------------------------------------------------------------------------------------------- enqueue call
/-- what the caller sees after one step of a call -/
inductive CallOut
  /-- still calling (or the next call is pending) -/
  | more (c : CallSt)
  /-- the last call of the script has returned -/
  | done
  deriving DecidableEq, Repr

def refuse (sh : Shared) (id : Nat) (r : Res) : Shared := { sh with result := setF sh.result id r }

/-- the call has returned (or thrown into the harness' catch): next scripted action -/
def nextCall (rest : List Act) : CallOut := if rest = [] then .done else .more (.yield_ rest)

/-- mirrors `enqueueImpl` / `tryEnqueueImpl`, one pthread operation per step; `n` = id of a thread created now -/
def callStep (cfg : Cfg) (sh : Shared) (n : Nat) (t : Tid) (c : CallSt) : Shared × CallOut × Post :=
  match c with
  | .yield_ [] => (sh, .done, .none)
  | .yield_ (a :: rest) =>
    -- Y "call": allocate the id; `if (!_accepting.load()) refuse`
    if sh.accepting then
      ({ sh with nextId := sh.nextId + 1, bodyIx := setF sh.bodyIx sh.nextId a.body, modeOf := setF sh.modeOf sh.nextId a.mode },
       .more (.inCall rest sh.nextId .lock), .none)
    else
      ({ sh with nextId := sh.nextId + 1, bodyIx := setF sh.bodyIx sh.nextId a.body, modeOf := setF sh.modeOf sh.nextId a.mode,
                 result := setF sh.result sh.nextId .refDraining },
       nextCall rest, .none)
  | .inCall rest cid .lock =>
    -- L _mutex, then `if (_shutdown) refuse; if (_tasks.size() >= _maxQueueSize) refuse; _tasks.emplace(f);
    -- if (_threads.size() < _maxSize) spawn`
    if sh.shutdown then
      ({ sh with owner := some t, result := setF sh.result cid .refShutdown }, .more (.inCall rest cid .unlockR), .none)
    else if sh.tasks.length ≥ cfg.maxQueue then
      ({ sh with owner := some t, result := setF sh.result cid .refFull }, .more (.inCall rest cid .unlockR), .none)
    else if sh.threads.length < cfg.effMax then
      ({ sh with owner := some t, tasks := sh.tasks ++ [cid], accCnt := bump sh.accCnt cid,
                 result := setF sh.result cid .accepted }, .more (.inCall rest cid .create), .none)
    else
      ({ sh with owner := some t, tasks := sh.tasks ++ [cid], accCnt := bump sh.accCnt cid,
                 result := setF sh.result cid .accepted }, .more (.inCall rest cid .unlock), .none)
  | .inCall rest cid .create =>
    -- C, then `_threads.emplace(id, std::move(t))`
    ({ sh with threads := sh.threads ++ [n] }, .more (.inCall rest cid .unlock), .spawn newWorker)
  | .inCall rest cid .unlock => ({ sh with owner := none }, .more (.inCall rest cid .notify), .none)
  | .inCall rest _ .notify => (sh, nextCall rest, .wakeOne)
  | .inCall rest _ .unlockR => ({ sh with owner := none }, nextCall rest, .none)

/-- mirrors the `catch (const std::system_error &)` block of `enqueueImpl` / `tryEnqueueImpl` (fixes/FC09e), entered inside the
critical section right after `_tasks.emplace` when `std::thread` could not be created: with no registered worker the task pushed
last is taken back (`discardNewestTaskLocked`) and the call is refused (`true`); otherwise the task stays queued, the call is
accepted and an existing worker runs it.  (Function-level model of the failure path: `callStep`'s `create` step is the successful
creation; the interleaving theorems assume creations succeed.) -/
def spawnFailed (sh : Shared) : Shared × Bool :=
  if sh.threads = [] then ({ sh with tasks := sh.tasks.dropLast }, true) else (sh, false)

-- ------------------------------------------------------------------------------------------- worker
/-- mirrors the tail of the worker loop after `task()` returned: `task = {}`; `--_activeThreads`; `--_busyThreads` -/
def taskDone (sh : Shared) : Shared × WSt :=
  ({ sh with active := sh.active - 1, busy := sh.busy - 1 }, .lock)

/-- the scripted body of task `id` has executed its last statement -/
def bodyEnd (cfg : Cfg) (sh : Shared) (id : Nat) : Shared × WSt :=
  if (cfg.bodyAt (sh.bodyIx id)).throws && sh.modeOf id != .withResult then
    ({ sh with doneCnt := bump sh.doneCnt id, nDone := sh.nDone + 1,
               outcome := setF sh.outcome id (some (cfg.bodyAt (sh.bodyIx id)).throws) }, .cfgLock id false)
  else
    ({ sh with doneCnt := bump sh.doneCnt id, nDone := sh.nDone + 1,
               outcome := setF sh.outcome id (some (cfg.bodyAt (sh.bodyIx id)).throws),
               active := sh.active - 1, busy := sh.busy - 1 }, .lock)

/-- `++_activeThreads; task();` up to the first yield of the body -/
def beginTask (cfg : Cfg) (sh : Shared) (id : Nat) : Shared × WSt :=
  ({ sh with active := sh.active + 1, startCnt := bump sh.startCnt id, nStart := sh.nStart + 1 },
   .bYield id (cfg.bodyAt (sh.bodyIx id)).acts)

def waitPred (sh : Shared) : Bool := sh.shutdown || !sh.tasks.isEmpty

/-- the code after `wait_for` returned `res`, still inside the critical section -/
def afterWait (cfg : Cfg) (sh : Shared) (t : Tid) (res : Bool) : Shared × WSt :=
  if !res then
    -- idle time-out: CAS loop on _threadsExited
    if sh.created - sh.exited ≤ cfg.initialSize then (sh, .unlockCont)
    else if t ∈ sh.threads then ({ sh with exited := sh.exited + 1 }, .detach)
    else ({ sh with exited := sh.exited + 1 }, .unlockExit)
  else if sh.shutdown && sh.tasks.isEmpty then ({ sh with exited := sh.exited + 1 }, .unlockExit)
  else
    match sh.tasks with
    | [] => (sh, .unlockCont)
    | id :: rest => ({ sh with tasks := rest, busy := sh.busy + 1 }, .unlockTask id)

/-- R: re-acquire; `late` = the clock says the deadline has passed -/
def reacq (cfg : Cfg) (sh : Shared) (t : Tid) (late : Bool) : Shared × WSt :=
  if late then afterWait cfg { sh with owner := some t, waiting := sh.waiting - 1 } t (waitPred sh)
  else if waitPred sh then afterWait cfg { sh with owner := some t, waiting := sh.waiting - 1 } t true
  else ({ sh with owner := some t }, .waitReady)

/-- one step of a worker that is neither asleep nor woken -/
def transW (cfg : Cfg) (sh : Shared) (n : Nat) (t : Tid) (w : WSt) : Shared × WSt × Post :=
  match w with
  | .start => ({ sh with created := sh.created + 1, started := sh.started + 1 }, .lock, .none)
  | .lock =>
    -- L _mutex; `++_waitingThreads`; `wait_for` evaluates the predicate first
    if waitPred sh then
      let x := afterWait cfg { sh with owner := some t } t true
      (x.1, x.2, .none)
    else ({ sh with owner := some t, waiting := sh.waiting + 1 }, .waitReady, .none)
  | .waitReady => ({ sh with owner := none }, .asleep, .none)
  | .asleep => (sh, .asleep, .none)
  | .woken to => (sh, .woken to, .none)
  | .detach => ({ sh with threads := sh.threads.erase t }, .unlockExit, .none)
  | .unlockExit => ({ sh with owner := none }, .done, .none)
  | .unlockCont => ({ sh with owner := none }, .lock, .none)
  | .unlockTask id =>
    if cfg.hook then ({ sh with owner := none }, .popped id, .none)
    else
      let x := beginTask cfg { sh with owner := none } id
      (x.1, x.2, .none)
  | .popped id =>
    let x := beginTask cfg sh id
    (x.1, x.2, .none)
  | .bYield id script =>
    if script = [] then
      let x := bodyEnd cfg sh id
      (x.1, x.2, .none)
    else (sh, .body id (.yield_ script), .none)
  | .body id c =>
    let x := callStep cfg sh n t c
    match x.2.1 with
    | .more c' => (x.1, .body id c', x.2.2)
    | .done => let y := bodyEnd cfg x.1 id; (y.1, y.2, x.2.2)
  | .cfgLock id again => ({ sh with ownerCfg := some t }, .cfgUnlock id again, .none)
  | .cfgUnlock id again =>
    if !again && (cfg.bodyAt (sh.bodyIx id)).hthrow then
      -- the handler throws: the exception leaves the wrapper and is caught by the worker loop's own `catch (...)`
      ({ sh with ownerCfg := none, handled := bump sh.handled id }, .cfgLock id true, .none)
    else
      let x := taskDone { sh with ownerCfg := none, handled := bump sh.handled id }
      (x.1, x.2, .none)
  | .done => (sh, .done, .none)

-- ------------------------------------------------------------------------------------------- submitter
def transS (cfg : Cfg) (sh : Shared) (n : Nat) (t : Tid) (s : SSt) : Shared × SSt × Post :=
  match s with
  | .start script => if script = [] then (sh, .done, .none) else (sh, .run (.yield_ script), .none)
  | .run c =>
    let x := callStep cfg sh n t c
    match x.2.1 with
    | .more c' => (x.1, .run c', x.2.2)
    | .done => (x.1, .done, x.2.2)
  | .done => (sh, .done, .none)

-- ------------------------------------------------------------------------------------------- controller
def logM (sh : Shared) (code : Nat) : Shared := { sh with mlog := code :: sh.mlog }

/-- `shutdown()` has returned -/
def shutdownReturn (sh : Shared) (r : MRegs) : Shared × MPc × MRegs :=
  if r.inStop then ({ sh with life := .stopped, mlog := 4 :: 7 :: sh.mlog }, .mYield, { r with inStop := false })
  else ({ sh with mlog := 7 :: sh.mlog }, .mYield, r)

/-- `drain()` has returned -/
def drainReturn (sh : Shared) (r : MRegs) (ok : Bool) : Shared × MPc × MRegs :=
  if r.inStop then
    -- inside stop(): only the outcome of stop() itself is logged
    if ok then (sh, .sFlagL, r)
    else ({ sh with mlog := 5 :: sh.mlog }, .mYield, { r with inStop := false })
  else ({ sh with mlog := (if ok then 1 else 2) :: sh.mlog }, .mYield, r)

/-- entry of `drain(timeoutMs)` (state already checked to be Running) -/
def drainEnter (sh : Shared) (r : MRegs) (timeoutMs : Nat) : Shared × MPc × MRegs :=
  ({ sh with life := .draining, accepting := false, drainCalled := true }, .dInfL,
   { r with maxWait := (if timeoutMs = 0 then Gen.TpSkel.drainZeroMs else timeoutMs), waitMs := 0 })

/-- after a polling loop ended (`done` = saw 0/0) -/
def pollExit (sh : Shared) (r : MRegs) (k : Poll) (done : Bool) : Shared × MPc × MRegs :=
  match k with
  | .drain => if done then drainReturn sh r true else (sh, .finL .drain, r)
  | .shut => (sh, .sGrace, r)
  | .race => (sh, .jL, r)
  | .dtor => if done then (sh, .p4CfgL, r) else (sh, .finL .dtor, r)

/-- loop head `while (waitMs < maxWaitMs) { a = _activeThreads; getPendingTaskCount() …` -/
def pollHead (sh : Shared) (r : MRegs) (k : Poll) : Shared × MPc × MRegs :=
  if r.waitMs < r.maxWait then (sh, .pollL k, { r with a := sh.active }) else pollExit sh r k false

/-- Y "m": dispatch the next controller operation -/
def stepMYield (cfg : Cfg) (sh : Shared) (r : MRegs) : Shared × MPc × MRegs :=
  match r.mscript with
  | [] => (sh, .done, r)
  | op :: rest =>
    match op with
    | .act a => (sh, .inCall (.yield_ [a]), { r with mscript := rest })
    | .spawnSub sc => (sh, .mSpawn sc, { r with mscript := rest })
    | .joinSubs => if r.subs = [] then (sh, .mYield, { r with mscript := rest }) else (sh, .mJoin, { r with mscript := rest })
    | .drain tmo =>
      if sh.life = .running then drainEnter sh { r with mscript := rest } tmo
      else ({ sh with mlog := 3 :: sh.mlog }, .mYield, { r with mscript := rest })
    | .stop =>
      if sh.life = .running then drainEnter sh { r with mscript := rest, inStop := true } Gen.TpSkel.drainDefaultMs
      else if sh.life = .draining then (sh, .sFlagL, { r with mscript := rest, inStop := true })
      else ({ sh with mlog := 6 :: sh.mlog }, .mYield, { r with mscript := rest })
    | .shutdown => (sh, .sFlagL, { r with mscript := rest })
    | .destroy =>
      if r.aux then (sh, .mYield, { r with mscript := rest }) else (sh, .sFlagL, { r with mscript := rest, inDtor := true })
    | .spawnCtl ix => (sh, .mSpawnCtl ix, { r with mscript := rest })
    | .restart =>
      if r.aux || !cfg.allowRestart then (sh, .mYield, { r with mscript := rest })
      else if sh.life = .stopped then (sh, .rsL, { r with mscript := rest })
      else ({ sh with mlog := 11 :: sh.mlog }, .mYield, { r with mscript := rest })

/-- the destructor returns (members are destroyed: a joinable `std::thread` left in `_threads` terminates) -/
def dtorReturn (sh : Shared) (r : MRegs) : Shared × MPc × MRegs :=
  ({ sh with mlog := (if sh.threads = [] then 8 else 9) :: sh.mlog }, .mYield, { r with inDtor := false })

/-- the destructor finds `_shutdown` already set and returns at once; if the `shutdown()` that set it has not completed,
another thread is still using the object (the caller violated the object's lifetime): code 13 -/
def dtorEarly (sh : Shared) (r : MRegs) : Shared × MPc × MRegs :=
  if sh.epoch ≤ sh.complete then dtorReturn sh r
  else ({ sh with mlog := 13 :: sh.mlog }, .mYield, { r with inDtor := false })

/-- one step of the controller -/
def transM (cfg : Cfg) (sh : Shared) (n : Nat) (t : Tid) (pc : MPc) (r : MRegs) (alt : Nat) : Shared × (MPc × MRegs) × Post :=
  match pc with
  | .start =>
    -- constructor: `_accepting.store(true)`, state Running, then `initialSize` times `spawnWorker()`
    if r.ctor = 0 then ({ sh with accepting := true, life := .running }, (.mYield, r), .none)
    else ({ sh with accepting := true, life := .running }, (.cL, r), .none)
  | .startAux => (sh, (.mYield, r), .none)
  | .cL => ({ sh with owner := some t }, (.cC, r), .none)
  | .cC => ({ sh with threads := sh.threads ++ [n] }, (.cU, r), .spawn newWorker)
  | .cU =>
    if r.ctor ≤ 1 then ({ sh with owner := none }, (.mYield, { r with ctor := r.ctor - 1 }), .none)
    else ({ sh with owner := none }, (.cL, { r with ctor := r.ctor - 1 }), .none)
  | .mYield => let x := stepMYield cfg sh r; (x.1, (x.2.1, x.2.2), .none)
  | .inCall c =>
    let x := callStep cfg sh n t c
    match x.2.1 with
    | .more c' => (x.1, (.inCall c', r), x.2.2)
    | .done => (x.1, (.mYield, r), x.2.2)
  | .mSpawn sc => (sh, (.mYield, { r with subs := r.subs ++ [n] }), .spawn (.sub (.start sc)))
  | .mSpawnCtl ix =>
    (sh, (.mYield, { r with subs := r.subs ++ [n] }), .spawn (.main .startAux { mscript := cfg.ctlAt ix, aux := true }))
  | .mJoin =>
    match r.subs with
    | [] => (sh, (.mYield, r), .none)
    | _ :: rest =>
      if rest = [] then (sh, (.mYield, { r with subs := rest }), .none)
      else (sh, (.mJoin, { r with subs := rest }), .none)
  -- drain(): getInFlightCount, then the loop
  | .dInfL => ({ sh with owner := some t }, (.dInfU, { r with p := sh.tasks.length }), .none)
  | .dInfU => let x := pollHead { sh with owner := none } { r with inflight := r.p + sh.active } .drain; (x.1, (x.2.1, x.2.2), .none)
  | .pollL k => ({ sh with owner := some t }, (.pollU k, { r with p := sh.tasks.length }), .none)
  | .pollU k =>
    if r.a = 0 ∧ r.p = 0 then let x := pollExit { sh with owner := none } r k true; (x.1, (x.2.1, x.2.2), .none)
    else ({ sh with owner := none }, (.pollZ k, r), .none)
  | .pollZ k => let x := pollHead sh { r with waitMs := r.waitMs + Gen.TpSkel.pollMs } k; (x.1, (x.2.1, x.2.2), .none)
  | .finL k => ({ sh with owner := some t }, (.finU k, { r with a := sh.active, p := sh.tasks.length }), .none)
  | .finU k =>
    match k with
    | .drain => let x := drainReturn { sh with owner := none } r false; (x.1, (x.2.1, x.2.2), .none)
    | _ => ({ sh with owner := none }, (.p4CfgL, r), .none)
  -- shutdown() / phase 1
  | .sFlagL =>
    -- `if (_shutdown) { epoch = _shutdownEpoch; … }` / `_shutdown = true; myEpoch = ++_shutdownEpoch;`
    if sh.shutdown then ({ sh with owner := some t }, (.sFlagUA sh.epoch, r), .none)
    else ({ sh with owner := some t, shutdown := true, shutCalled := true, epoch := sh.epoch + 1 }, (.sFlagU, { r with ep := sh.epoch + 1 }), .none)
  | .sFlagUA ep =>
    if r.inDtor then let x := dtorEarly { sh with owner := none } r; (x.1, (x.2.1, x.2.2), .none)
    else if ep ≤ sh.complete then let x := shutdownReturn { sh with owner := none } r; (x.1, (x.2.1, x.2.2), .none)
    else ({ sh with owner := none }, (.sDoneZ ep, r), .none)
  | .sDoneZ ep =>
    -- `while (_shutdownCompleteEpoch.load(acquire) < epoch) sleep 1 ms`
    if ep ≤ sh.complete then let x := shutdownReturn sh r; (x.1, (x.2.1, x.2.2), .none)
    else (sh, (.sDoneZ ep, r), .none)
  | .sFlagU => ({ sh with owner := none }, (.sBcast, r), .none)
  | .sBcast =>
    if r.inDtor then (sh, (.p2Z, { r with iter := 0 }), .wakeAll)
    else let x := pollHead sh { r with waitMs := 0, maxWait := Gen.TpSkel.shutdownMaxWaitMs } .shut; (x.1, (x.2.1, x.2.2), .wakeAll)
  | .sGrace => (sh, (.sChkL, { r with a := sh.active }), .none)
  | .sChkL => ({ sh with owner := some t }, (.sChkU, { r with p := sh.tasks.length }), .none)
  | .sChkU =>
    if r.a ≠ 0 ∨ r.p ≠ 0 then
      let x := pollHead { sh with owner := none } { r with waitMs := 0, maxWait := Gen.TpSkel.raceMaxWaitMs } .race; (x.1, (x.2.1, x.2.2), .none)
    else ({ sh with owner := none }, (.jL, r), .none)
  -- join loop
  | .jL =>
    if sh.threads = [] then ({ sh with owner := some t, quiesced := true }, (.jUnone, r), .none)
    else if alt ∈ sh.threads then ({ sh with owner := some t, threads := sh.threads.erase alt }, (.jU alt, r), .none)
    else (sh, (.jL, r), .none)
  | .jU w =>
    if r.inDtor && cfg.detached then ({ sh with owner := none }, (.jDetach w, r), .none)
    else ({ sh with owner := none }, (.jJoin w, r), .none)
  | .jJoin _ => (sh, (.jL, r), .none)
  | .jDetach _ => (sh, (.jL, r), .none)
  | .jUnone =>
    if r.inDtor then ({ sh with owner := none }, (.p5L, r), .none)
    else let x := shutdownReturn { sh with owner := none, complete := r.ep } r; (x.1, (x.2.1, x.2.2), .none)   -- `_shutdownCompleteEpoch.store(myEpoch)`
  -- destructor phases 2..5
  | .p2Z =>
    if sh.waiting = 0 ∧ sh.exited ≥ sh.created then (sh, (.p2Grace, { r with iter := r.iter + 1 }), .none)
    else if r.iter + 1 < Gen.TpSkel.phase2MaxIterations then (sh, (.p2Z, { r with iter := r.iter + 1 }), .none)
    else let x := pollHead sh { r with iter := r.iter + 1, waitMs := 0, maxWait := Gen.TpSkel.phase3MaxWaitMs } .dtor; (x.1, (x.2.1, x.2.2), .none)
  | .p2Grace => let x := pollHead sh { r with waitMs := 0, maxWait := Gen.TpSkel.phase3MaxWaitMs } .dtor; (x.1, (x.2.1, x.2.2), .none)
  | .p4CfgL => ({ sh with ownerCfg := some t }, (.p4CfgU, r), .none)
  | .p4CfgU => ({ sh with ownerCfg := none }, (.jL, r), .none)
  | .p5L => ({ sh with owner := some t }, (.p5U, r), .none)
  | .p5U => let x := dtorReturn { sh with owner := none } r; (x.1, (x.2.1, x.2.2), .none)
  -- reset() + start()
  | .rsL => ({ sh with owner := some t, tasks := [], threads := [] }, (.rsU, r), .none)
  | .rsU =>
    ({ sh with owner := none, active := 0, busy := 0, created := 0, started := 0, exited := 0, waiting := 0, life := .reset },
     (.stL, r), .none)
  | .stL => ({ sh with owner := some t, shutdown := false, quiesced := false }, (.stU, r), .none)
  | .stU =>
    if cfg.initialSize = 0 then
      ({ sh with owner := none, accepting := true, life := .running, mlog := 10 :: sh.mlog }, (.mYield, r), .none)
    else
      ({ sh with owner := none, accepting := true, life := .running, mlog := 10 :: sh.mlog }, (.kL, { r with ctor := cfg.initialSize }), .none)
  | .kL =>
    -- `std::lock_guard lock(_mutex); if (_threads.size() < workerCount) spawnWorkerLocked();` (FC09c)
    if sh.threads.length < cfg.initialSize then ({ sh with owner := some t }, (.kC, r), .none)
    else ({ sh with owner := some t }, (.kU, r), .none)
  | .kC => ({ sh with threads := sh.threads ++ [n] }, (.kU, r), .spawn newWorker)
  | .kU =>
    if r.ctor ≤ 1 then ({ sh with owner := none }, (.mYield, { r with ctor := r.ctor - 1 }), .none)
    else ({ sh with owner := none }, (.kL, { r with ctor := r.ctor - 1 }), .none)
  | .done => (sh, (.done, r), .none)

/-- one step of a thread that is neither asleep, woken nor finished -/
def trans (cfg : Cfg) (sh : Shared) (n : Nat) (t : Tid) (th : Thread) (alt : Nat) : Shared × Thread × Post :=
  match th with
  | .main pc r => let x := transM cfg sh n t pc r alt; (x.1, .main x.2.1.1 x.2.1.2, x.2.2)
  | .sub s => let x := transS cfg sh n t s; (x.1, .sub x.2.1, x.2.2)
  | .worker w => let x := transW cfg sh n t w; (x.1, .worker x.2.1, x.2.2)

/-- does the pending operation of the call acquire `_mutex`? -/
def CallSt.locks : CallSt → Bool
  | .inCall _ _ .lock => true
  | _ => false

/-- is the pending operation enabled?  (threads asleep / woken / finished are handled by `step`) -/
def enabled (s : St) (th : Thread) : Bool :=
  match th with
  | .worker .lock => s.sh.owner.isNone
  | .worker (.body _ c) => !c.locks || s.sh.owner.isNone
  | .worker (.cfgLock _ _) => s.sh.ownerCfg.isNone
  | .worker _ => true
  | .sub (.run c) => !c.locks || s.sh.owner.isNone
  | .sub _ => true
  | .main pc r =>
    match pc with
    | .cL | .dInfL | .pollL _ | .finL _ | .sFlagL | .sChkL | .jL | .p5L | .rsL | .stL | .kL => s.sh.owner.isNone
    | .inCall c => !c.locks || s.sh.owner.isNone
    | .p4CfgL => s.sh.ownerCfg.isNone
    | .mJoin =>
      match r.subs with
      | [] => true
      | j :: _ => match s.thr[j]? with
        | some tj => isFinished tj
        | none => false
    | .jJoin j => match s.thr[j]? with
      | some tj => isFinished tj
      | none => false
    | _ => true

/-- `some to` = the thread has been woken and must re-acquire the mutex -/
def wokenBy : Thread → Option Bool
  | .worker (.woken to) => some to
  | _ => none

def step (cfg : Cfg) (s : St) : Choice → St
  | .timeout t =>
    match s.thr[t]? with
    | some th => if isAsleep th then { s with thr := s.thr.set t (wake th true) } else s
    | none => s
  | .spurious t =>
    match s.thr[t]? with
    | some th => if isAsleep th then { s with thr := s.thr.set t (wake th false) } else s
    | none => s
  | .run t alt =>
    match s.thr[t]? with
    | none => s
    | some th =>
      match wokenBy th with
      | some to =>
        if s.sh.owner.isNone then
          { sh := (reacq cfg s.sh t (to || alt != 0)).1, thr := s.thr.set t (.worker (reacq cfg s.sh t (to || alt != 0)).2) }
        else s
      | none =>
        if isAsleep th || isFinished th then s
        else if enabled s th then
          match applyPost (s.thr.set t (trans cfg s.sh s.thr.length t th alt).2.1) (trans cfg s.sh s.thr.length t th alt).2.2 alt with
          | some l => { sh := (trans cfg s.sh s.thr.length t th alt).1, thr := l }
          | none => s
        else s

/-- the state reached by a schedule -/
def run (cfg : Cfg) (sched : List Choice) : St := sched.foldl (step cfg) (init cfg)

def runFrom (cfg : Cfg) (s : St) (sched : List Choice) : St := sched.foldl (step cfg) s

theorem runFrom_append (cfg : Cfg) (s : St) (a b : List Choice) :
    runFrom cfg s (a ++ b) = runFrom cfg (runFrom cfg s a) b :=
  List.foldl_append ..

theorem run_append (cfg : Cfg) (a b : List Choice) : run cfg (a ++ b) = runFrom cfg (run cfg a) b :=
  List.foldl_append ..

theorem inv_runFrom (cfg : Cfg) (Inv : St → Prop)
    (hs : ∀ s c, Inv s → Inv (step cfg s c)) : ∀ sched s, Inv s → Inv (runFrom cfg s sched) := by
  intro sched
  induction sched with
  | nil => intro s h; exact h
  | cons c cs ih => intro s h; exact ih _ (hs s c h)

/-- invariants lift from one step to every schedule -/
theorem inv_run (cfg : Cfg) (Inv : St → Prop) (h0 : Inv (init cfg))
    (hs : ∀ s c, Inv s → Inv (step cfg s c)) : ∀ sched, Inv (run cfg sched) :=
  fun sched => inv_runFrom cfg Inv hs sched _ h0

end Iora.ThreadPool
