import IoraModel.Model.LifecycleCore
import IoraModel.Gen.CloseSites
/-!
# The close-site table of the lifecycle model (C02)

Every lifecycle site the translator finds in tcp_engine.hpp / udp_engine.hpp (`Gen.CloseSites.tcpSites/udpSites`: enclosing
function, kind, hash of the guard) is listed here, in source order, next to the piece of the MODEL that plays its part: a
`closeNow(`/`closeCb(` call site is the transition that emits `Out.close _ site`; the other kinds (id allocation, gauge, closed
flag, accept/connect/data callbacks, `connectPending = false`) are parts of a primitive of `Model/LifecycleCore.lean`.
`closeSites_covered_tcp` / `closeSites_covered_udp` (Props/C02, by `rfl`) state that the generated lists equal these tables: adding, removing, moving or
re-guarding a site in the source - including dropping the `return` of an earlier failure block - breaks the build until the model
has been reviewed.  (The table is for the tree with the F17/F18/F19/F20/F30/F35 repairs.)
-/
namespace Iora.Lifecycle.Sites
open Iora.Lifecycle

abbrev GSite := Iora.Gen.CloseSites.Site

inductive Role
  | close (s : Site)      -- the transition emitting `close _ s`
  | closeProc             -- the `closeNow(` of process(): emits `close _ (procClose o)` for the command's origin
  | prim (what : String)  -- part of a primitive operation of the model
  deriving DecidableEq, Repr

def tcpTable : List (GSite × Role) :=
  [
    (⟨"connect", "idAlloc", "e3b0c442"⟩, .prim "apiConnect: id allocation"),
    (⟨"shutdownDrain", "closedTrue", "1ac95619"⟩, .prim "drainClose: closed flag"),
    (⟨"shutdownDrain", "gaugeDec", "1ac95619"⟩, .prim "drainClose: gauge"),
    (⟨"shutdownDrain", "closeCb", "a6a26016"⟩, .close .drainSession),
    (⟨"shutdownDrain", "closeCb", "6c8c3b5d"⟩, .close .drainResidual),
    (⟨"process", "closeNow", "fad6cd2a"⟩, .closeProc),
    (⟨"onListener", "idAlloc", "eec7f35e"⟩, .prim "acceptFresh: id allocation"),
    (⟨"onListener", "gaugeInc", "6144a05b"⟩, .prim "acceptFresh: gauge"),
    (⟨"onListener", "acceptCb", "c86245ed"⟩, .prim "acceptFresh: accept callback"),
    (⟨"doConnect", "closeCb", "1fce4c5b"⟩, .close .tlsRefused),
    (⟨"doConnect", "closeCb", "eac47871"⟩, .close .resolveThrow),
    (⟨"doConnect", "closeCb", "7b49ac7a"⟩, .close .resolveTimeout),
    (⟨"doConnect", "closeCb", "5840638a"⟩, .close .resolveFail),
    (⟨"doConnect", "closeCb", "3f03fe11"⟩, .close .refused),
    (⟨"doConnect", "closeCb", "68a7f34b"⟩, .close .noSocket),
    (⟨"doConnect", "closeCb", "9ed6c2e1"⟩, .close .sslNewFail),
    (⟨"doConnect", "closeCb", "3bc97122"⟩, .close .sniFail),
    (⟨"doConnect", "gaugeInc", "cedf8ff6"⟩, .prim "insertCur: gauge"),
    (⟨"doConnect", "closeNow", "ce12445f"⟩, .close .immGsoFail),
    (⟨"doConnect", "connectCb", "d89883d6"⟩, .prim "announceConnect"),
    (⟨"doConnect", "pendingClear", "24a91420"⟩, .prim "announceConnect: connectPending cleared"),
    (⟨"doConnect", "closeNow", "cdc464b5"⟩, .close .immPeerFail),
    (⟨"doConnect", "closeNow", "d2f417a6"⟩, .close .immSoErr),
    (⟨"onSession", "closeNow", "7374e549"⟩, .close .evSoErrEarly),
    (⟨"onSession", "closeNow", "c198da00"⟩, .close .evGsoFail),
    (⟨"onSession", "connectCb", "d39da0c1"⟩, .prim "announceConnect"),
    (⟨"onSession", "pendingClear", "77db0560"⟩, .prim "announceConnect: connectPending cleared"),
    (⟨"onSession", "closeNow", "18950fb9"⟩, .close .evPeerFail),
    (⟨"onSession", "closeNow", "d8d607b0"⟩, .close .evSoErr),
    (⟨"onSession", "closeNow", "baabe4bb"⟩, .close .hup),
    (⟨"driveHandshake", "closeNow", "3f961aa4"⟩, .close .hsTimeoutInline),
    (⟨"driveHandshake", "closeNow", "698d02ed"⟩, .close .hsHookBefore),
    (⟨"driveHandshake", "closeNow", "16dcc23b"⟩, .close .hsHookAfterOk),
    (⟨"driveHandshake", "connectCb", "9b3c2788"⟩, .prim "announceConnect"),
    (⟨"driveHandshake", "pendingClear", "12e40e5f"⟩, .prim "announceConnect: connectPending cleared"),
    (⟨"driveHandshake", "closeNow", "54417d5e"⟩, .close .hsHookAfterErr),
    (⟨"driveHandshake", "closeNow", "42e56eee"⟩, .close .hsFatal),
    (⟨"readAvail", "closeNow", "1b42488f"⟩, .close .rdHook),
    (⟨"readAvail", "closeNow", "53f5ad9c"⟩, .close .tlsZeroReturn),
    (⟨"readAvail", "closeNow", "bf908e6f"⟩, .close .tlsReadErr),
    (⟨"readAvail", "closeNow", "ef44175b"⟩, .close .recvErr),
    (⟨"readAvail", "closeNow", "a1438f81"⟩, .close .fin),
    (⟨"readAvail", "dataCb", "99789937"⟩, .prim "dataCb"),
    (⟨"writePending", "closeNow", "d5b61f00"⟩, .close .wrHook),
    (⟨"writePending", "closeNow", "cea421a8"⟩, .close .tlsWriteErr),
    (⟨"writePending", "closeNow", "2ada9b39"⟩, .close .sendErr),
    (⟨"doSend", "closeNow", "c23bb1b5"⟩, .close .dsHook),
    (⟨"doSend", "closeNow", "7353c97d"⟩, .close .dsTlsErr),
    (⟨"doSend", "closeNow", "0c17404f"⟩, .close .dsSendErr),
    (⟨"doSend", "closeNow", "577dd086"⟩, .close .backpressure),
    (⟨"closeNow", "closedTrue", "73045f30"⟩, .prim "closeNow: closed flag"),
    (⟨"closeNow", "gaugeDec", "73045f30"⟩, .prim "closeNow: gauge"),
    (⟨"closeNow", "closeCb", "9b757aab"⟩, .prim "closeNow: close callback"),
    (⟨"runGc", "closeNow", "7c13bc5c"⟩, .close .gc)]

def udpTable : List (GSite × Role) :=
  [
    (⟨"<ctor>", "pendingClear", "e3b0c442"⟩, .prim "constructor (timer lambda): connectPending cleared"),
    (⟨"connect", "idAlloc", "66628004"⟩, .prim "apiConnect: id allocation"),
    (⟨"connectViaListener", "idAlloc", "e3b0c442"⟩, .prim "apiVia: id allocation"),
    (⟨"shutdownDrain", "closedTrue", "1ac95619"⟩, .prim "drainClose: closed flag"),
    (⟨"shutdownDrain", "gaugeDec", "1ac95619"⟩, .prim "drainClose: gauge"),
    (⟨"shutdownDrain", "closeCb", "a6a26016"⟩, .close .drainSession),
    (⟨"shutdownDrain", "closeCb", "621d9188"⟩, .close .drainResidual),
    (⟨"process", "closeNow", "43ccd617"⟩, .closeProc),
    (⟨"readFromListener", "idAlloc", "97ae9b42"⟩, .prim "acceptFresh: id allocation"),
    (⟨"readFromListener", "gaugeInc", "97ae9b42"⟩, .prim "acceptFresh: gauge"),
    (⟨"readFromListener", "acceptCb", "82bddb7e"⟩, .prim "acceptFresh: accept callback"),
    (⟨"readFromListener", "dataCb", "ca9b79c8"⟩, .prim "dataCb"),
    (⟨"connectDo", "closeCb", "ac74439f"⟩, .close .uResolveFail),
    (⟨"connectDo", "closeCb", "4d0cff4a"⟩, .close .uNoSocket),
    (⟨"connectDo", "pendingClear", "46c86777"⟩, .prim "connectNow: created with connectPending = false"),
    (⟨"connectDo", "gaugeInc", "46c86777"⟩, .prim "connectNow: gauge"),
    (⟨"connectDo", "connectCb", "a3069416"⟩, .prim "connectNow: connect callback"),
    (⟨"viaDo", "closeCb", "6cbdedb4"⟩, .close .vNoListener),
    (⟨"viaDo", "closeCb", "c4d16601"⟩, .close .vAfUnknown),
    (⟨"viaDo", "closeCb", "c22a8bfa"⟩, .close .vResolveFail),
    (⟨"viaDo", "closeCb", "f2859527"⟩, .close .vAfMismatch),
    (⟨"viaDo", "closeCb", "11b10a75"⟩, .close .vKeyFail),
    (⟨"viaDo", "closeCb", "5e9362a5"⟩, .close .vCap),
    (⟨"viaDo", "pendingClear", "884ee47e"⟩, .prim "connectNow: created with connectPending = false"),
    (⟨"viaDo", "gaugeInc", "884ee47e"⟩, .prim "connectNow: gauge"),
    (⟨"viaDo", "connectCb", "494c3a95"⟩, .prim "connectNow: connect callback"),
    (⟨"onClient", "dataCb", "5f9fce6c"⟩, .prim "dataCb"),
    (⟨"onClient", "dataCb", "4342727a"⟩, .prim "dataCb (empty datagram)"),
    (⟨"onClient", "closeNow", "d8fb10d8"⟩, .close .ucRecvErr),
    (⟨"writeClient", "closeNow", "9f3bcdb7"⟩, .close .ucWriteErr),
    (⟨"sendDo", "closeNow", "d9c13387"⟩, .close .usBackpressure),
    (⟨"sendDo", "closeNow", "0b3f135f"⟩, .close .usSendErr),
    (⟨"sendDo", "closeNow", "a05e848b"⟩, .close .usListenerGone),
    (⟨"sendDo", "closeNow", "c4f065e9"⟩, .close .usLstBackpressure),
    (⟨"sendDo", "closeNow", "027d2fb2"⟩, .close .usPeerSendErr),
    (⟨"closeNow", "closedTrue", "73045f30"⟩, .prim "closeNow: closed flag"),
    (⟨"closeNow", "gaugeDec", "73045f30"⟩, .prim "closeNow: gauge"),
    (⟨"closeNow", "closeCb", "9b757aab"⟩, .prim "closeNow: close callback"),
    (⟨"runGc", "closeNow", "60ca6198"⟩, .close .gc)]

/-- the close sites of each engine's model, from the table -/
def closeRoles (t : List (GSite × Role)) : List Site := t.filterMap fun p => match p.2 with | .close s => some s | _ => none

/-! ## expected call skeletons (the shape of the functions the harness re-plays step by step) -/
def loopUnbatched : List String := ["whileRunning", "epoll_wait", "drainEvt", "process", "drainTim", "runGc", "handleFdEvent", "shutdownDrain"]
def loopBatched : List String := ["whileRunning", "batch", "handleFdEvent", "drainEvt", "process", "drainTim", "runGc", "shutdownDrain"]
def handleFdEvent : List String := ["tagFind", "notFoundReturn", "onListener", "onSession"]
def tcpProcess : List String := ["swap", "caseShutdown", "runningFalse", "caseAddListener", "caseConnect", "doConnect", "caseSend", "doSend", "caseClose", "find", "closeNow"]
def udpProcess : List String := ["swap", "caseShutdown", "runningFalse", "caseAddListener", "caseConnect", "doConnect", "caseVia", "viaDo", "caseSend", "doSend", "caseClose", "find", "closeNow"]
def shutdownDrain : List String := ["process", "forToClose", "skipClosed", "closedTrue", "gaugeDec", "closeCb", "sessionsClear", "queueClosed", "residualSwap", "forResidual", "promiseFail", "closeCb"]
def tcpConnect : List String := ["idAlloc", "enqueue", "retErr", "retOk"]
def udpConnect : List String := ["retErr", "idAlloc", "enqueue", "retErr", "retOk"]
def udpConnectVia : List String := ["idAlloc", "enqueue", "retErr", "retOk"]
def tcpEnqueue : List String := ["lock", "closedCheck", "retFalse", "push", "retTrue", "retFalse"]
def udpEnqueue : List String := ["lock", "closedCheck", "retFalse", "push", "retTrue"]
/-- a connecting socket is registered for EPOLLIN|EPOLLOUT, and updateInterest keeps EPOLLOUT while `connectPending` (outside the TLS
handshake): the completion of the connect is always reported - what the environment contract of T3 rests on -/
def tcpConnectEpollMask : List String := ["EPOLLIN", "EPOLLOUT"]
def tcpUpdateInterest : List String := ["base", "ifHandshake", "orTlsWantWrite", "else", "orConnectPending", "ifNeedWrite", "outBit", "modEpoll"]
/-- order (and locks) of Transport::Impl's close handler: connectSync suppression, THEN the syncMutex block that marks the session
closed (closed flag / tombstone, readModes.erase - `Deliver.closeMark`; repair FC03c moved it in front of all user code), global
callback, observers (copy, erase, iterate) (`Deliver.closeCbs` / `Fanout.closeFan`), user data -/
def fanout : List String := ["lockSync", "pendingFind", "pendingErase", "suppressReturn", "lockSync", "tombstone", "lockCallback", "copyGlobal", "callGlobal", "lockObserver", "observersFind", "observersCopy", "obsIndexErase", "observersErase", "forObservers", "callObserver", "lockUserData", "dataFind", "dataErase", "cleanupGuard", "callCleanup"]
def observe : List String := ["idAlloc", "lockObserver", "append", "index"]
def unobserve : List String := ["lockObserver", "indexFind", "retFalse", "indexErase", "removeIf", "eraseEmpty", "retTrue"]
def setSessionData : List String := ["lockUserData", "assign"]

/-- TcpEngine::close / UdpEngine::close are ONE statement: the enqueue of a Close command for that id (`stepShared (.apiClose sid)` =
`apiPlain (.close sid .app)`): an accepted request is queued FIFO behind everything queued before it, whatever the session table says
(seed C04-d answers `true` without queueing for an id that is not registered yet) -/
def tcpClose : List String := ["0:returnenqueue(Command::close(sid));"]
def udpClose : List String := ["0:returnenqueue(Cmd::close(sid));"]
/-- `CloseOrigin` enumerator of an `Origin` -/
def originName : Origin → String
  | .app => "App" | .connectTimeout => "ConnectTimeout" | .handshakeTimeout => "HandshakeTimeout" | .writeStall => "WriteStall"
/-- the three handlers the TimerService thread runs are exactly `enqueue(Command::close(sid, err, msg, origin))` - the model's
`In.timer sid o` = `apiPlain (.close sid o)`: no callback, no table access on that thread (seed C05-d folds them into a helper that
calls err()) -/
def tcpTimerHandlers : List (String × String × String) :=
  [("handleConnectTimeout", originName .connectTimeout, "Timeout"), ("handleHandshakeTimeout", originName .handshakeTimeout, "TLSHandshake"),
   ("handleWriteStallTimeout", originName .writeStall, "Timeout")]
/-- start() as `apiStart` mirrors it: the `_running` CAS (a running engine refuses), fresh epoll/eventfd/timerfd, the command queue
is re-opened - on tcp since repair FC05c in ONE `_cmdMutex` section together with the publication of the fresh `_eventFd` (until then
the queue stays closed: a stale timer close of the previous run is refused) -, a new I/O thread; the session maps and the id counter are NOT touched (no token `mapsTouched` / `idCounter`) -/
def tcpStart : List String := ["runningCas", "retAlreadyRunning", "initTls", "epollCreate", "eventfd", "lockCmd", "publishEventFd", "queueOpen", "timerfd", "ioThread", "retOk"]
def udpStart : List String := ["runningCas", "retAlreadyRunning", "queueOpen", "epollCreate", "eventfd", "timerfd", "ioThread", "retOk"]

/-- the syncMutex block of the Transport close handler ("step 6" before repair FC03c, step 2 since) as `Model/CloseDeliver.lean`
(`closeMark` = `markClosed`, `eraseMode`, `sweep`) mirrors it: under
syncMutex, close the buffer (and wake its waiters) or insert a closed tombstone; erase the read mode UNCONDITIONALLY (depth 0);
sweep every other closed, drained, unparked, unflushed entry once the map is over the threshold -/
def closeStep6 : List String := [
  "0:std::lock_guard<std::mutex>lk(syncMutex);",
  "0:autobufIt=receiveBuffers.find(sid);",
  "0:if(bufIt!=receiveBuffers.end())",
  "1:bufIt->second->closed=true;",
  "1:bufIt->second->cv.notify_all();",
  "0:else",
  "1:autotomb=std::make_shared<SyncReceiveBuffer>();",
  "1:tomb->closed=true;",
  "1:receiveBuffers[sid]=tomb;",
  "0:readModes.erase(sid);",
  "0:conststd::size_tgcThreshold=config.syncBufferGcThreshold;",
  "0:if(receiveBuffers.size()>gcThreshold)",
  "1:for(autoit=receiveBuffers.begin();it!=receiveBuffers.end();)",
  "2:if(it->first!=sid&&it->second->closed&&!it->second->hasData&&it->second->waiters==0&&!it->second->flushing&&(!it->second->overflow||it->second->overflowReported))",
  "3:it=receiveBuffers.erase(it);",
  "2:else",
  "3:++it;"]

/-- Transport::setReadMode up to the end of its first syncMutex section as `Deliver.setMode` mirrors it: I/O-thread refusal,
`allowReadModeSwitch`, then under the lock the tombstone guard of repair FC02a (vacuous success) BEFORE readModes is read or written, the old mode
(absent = Async), and the non-flush transitions (register the mode, create the buffer for Sync) -/
def setReadModeEntry : List String := [
  "0:if(std::this_thread::get_id()==_impl->engine->getIoThreadId())",
  "1:throwstd::logic_error(\"\"\"\");",
  "0:if(!_impl->config.allowReadModeSwitch)",
  "1:returnfalse;",
  "0:ReadModeoldMode=ReadMode::Async;",
  "0:{",
  "1:std::lock_guard<std::mutex>lk(_impl->syncMutex);",
  "1:autoclosedIt=_impl->receiveBuffers.find(sid);",
  "1:if(closedIt!=_impl->receiveBuffers.end()&&closedIt->second->closed)",
  "2:returntrue;",
  "1:autoit=_impl->readModes.find(sid);",
  "1:if(it!=_impl->readModes.end())",
  "2:oldMode=it->second;",
  "1:if(!(oldMode!=ReadMode::Async&&mode==ReadMode::Async))",
  "2:_impl->readModes[sid]=mode;",
  "2:if(mode==ReadMode::Sync)",
  "3:if(_impl->receiveBuffers.find(sid)==_impl->receiveBuffers.end())",
  "4:_impl->receiveBuffers[sid]=std::make_shared<Impl::SyncReceiveBuffer>();",
  "2:returntrue;"]

end Iora.Lifecycle.Sites
