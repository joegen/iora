import IoraModel.Common.Bytes
/-
String/number/header-map vocabulary shared by the HTTP/1.1 framing models (C15):
`std::string::find`, OWS trimming, ASCII case folding, `std::from_chars`-style full-token numbers,
and the case-insensitive header map (`std::map<std::string,std::string,CaseInsensitiveCompare>`).
Core Lean only.
-/
namespace Iora.Http
open Iora

def CR : UInt8 := 13
def LF : UInt8 := 10
def crlf : Bytes := [13, 10]
def crlf2 : Bytes := [13, 10, 13, 10]

/-- ASCII bytes of a string literal (used for method names / header names in the model) -/
def ascii (s : String) : Bytes := s.toList.map (fun c => UInt8.ofNat c.toNat)

/-! ### `std::string::find` -/

/-- scan for the first position (counted from `i`) at which `pat` is a prefix -/
def findAux (pat : Bytes) : Bytes → Nat → Option Nat
  | [], _ => none
  | c :: cs, i => if pat.isPrefixOf (c :: cs) then some i else findAux pat cs (i + 1)

/-- mirrors `s.find(pat, pos)` for a NON-EMPTY `pat` (`none` = `npos`) -/
def find (pat s : Bytes) (pos : Nat) : Option Nat := findAux pat (s.drop pos) pos

/-! ### character classes, trimming, case folding -/

def isOWS (c : UInt8) : Bool := c == 32 || c == 9
def isDigit (c : UInt8) : Bool := decide (48 ≤ c.toNat ∧ c.toNat ≤ 57)

/-- mirrors `HttpClient::isHexDigit` -/
def isHexDigit (c : UInt8) : Bool :=
  decide ((48 ≤ c.toNat ∧ c.toNat ≤ 57) ∨ (97 ≤ c.toNat ∧ c.toNat ≤ 102) ∨ (65 ≤ c.toNat ∧ c.toNat ≤ 70))

/-- value of a digit in `base` (10 or 16), `none` if the byte is not a digit of that base -/
def digitVal (base : Nat) (c : UInt8) : Option Nat :=
  let n := c.toNat
  let v : Option Nat :=
    if 48 ≤ n ∧ n ≤ 57 then some (n - 48)
    else if 97 ≤ n ∧ n ≤ 102 then some (n - 87)
    else if 65 ≤ n ∧ n ≤ 70 then some (n - 55)
    else none
  match v with
  | some d => if d < base then some d else none
  | none => none

def trimLeft (s : Bytes) : Bytes := s.dropWhile isOWS
def trimRight (s : Bytes) : Bytes := (s.reverse.dropWhile isOWS).reverse
/-- OWS (`" \t"`) trimming at both ends, as every `find_first_not_of/find_last_not_of(" \t")` pair does -/
def trim (s : Bytes) : Bytes := trimRight (trimLeft s)

/-- mirrors `CaseInsensitiveCompare::asciiLower` -/
def asciiLower (c : UInt8) : UInt8 := if 65 ≤ c.toNat ∧ c.toNat ≤ 90 then c + 32 else c
def lower (s : Bytes) : Bytes := s.map asciiLower
/-- mirrors `HttpClient::ciEquals` / equivalence under `CaseInsensitiveCompare` -/
def ciEq (a b : Bytes) : Bool := lower a == lower b

/-- `needle` occurs somewhere in `s` (`s.find(needle) != npos`) -/
def contains (s needle : Bytes) : Bool := (find needle s 0).isSome

/-! ### full-token unsigned numbers (`std::from_chars` + `ptr == end`) -/

def parseDigits (base : Nat) : Bytes → Nat → Option Nat
  | [], acc => some acc
  | c :: cs, acc =>
    match digitVal base c with
    | none => none
    | some v => if acc * base + v < 2 ^ 64 then parseDigits base cs (acc * base + v) else none

/-- mirrors `parseFullUInt(b, e, base, out)`: the WHOLE token must be digits of `base`, non-empty, no sign,
no white space, value `< 2^64` (`std::errc::result_out_of_range` otherwise) -/
def parseFullUInt (base : Nat) (s : Bytes) : Option Nat :=
  if s.isEmpty then none else parseDigits base s 0

/-- what may follow the hex digits of a chunk-size line (before its CRLF): nothing, or optional BWS and a `;`-led chunk
extension; BWS directly before the CRLF is malformed (RFC 9112 §7.1.1) -/
def chunkExtOk (afterHex : Bytes) : Bool :=
  match afterHex.drop (afterHex.takeWhile isOWS).length with
  | c :: _ => c == 59
  | [] => (afterHex.takeWhile isOWS).isEmpty

/-! ### splitting -/

/-- split at every occurrence of the byte `sep` (separator removed); never returns `[]` -/
def splitOn (sep : UInt8) : Bytes → List Bytes
  | [] => [[]]
  | c :: rest =>
    if c = sep then [] :: splitOn sep rest
    else match splitOn sep rest with
      | [] => [[c]]
      | l :: ls => (c :: l) :: ls

/-- split at every CRLF (separators removed); never returns `[]` -/
def splitCRLF : Bytes → List Bytes
  | [] => [[]]
  | [c] => [[c]]
  | c :: d :: rest =>
    if c = 13 ∧ d = 10 then [] :: splitCRLF rest
    else match splitCRLF (d :: rest) with
      | [] => [[c]]
      | l :: ls => (c :: l) :: ls

/-- last non-empty OWS-trimmed element of a comma list (the final coding of a Transfer-Encoding value) -/
def lastToken : List Bytes → Bytes → Bytes
  | [], last => last
  | e :: es, last => lastToken es (if (trim e).isEmpty then last else trim e)

/-- position of the first byte satisfying `p` -/
def indexOf? (p : UInt8 → Bool) : Bytes → Option Nat
  | [] => none
  | c :: cs => if p c then some 0 else (indexOf? p cs).map (· + 1)

/-! ### the case-insensitive header map -/

abbrev Headers := List (Bytes × Bytes)

/-- mirrors `headers[name] = value` on a `std::map` ordered by `CaseInsensitiveCompare`: an equivalent key keeps its
first spelling and gets the new value -/
def hdrSet : Headers → Bytes → Bytes → Headers
  | [], k, v => [(k, v)]
  | (k', v') :: t, k, v => if ciEq k' k then (k', v) :: t else (k', v') :: hdrSet t k v

/-- mirrors `headers.find(name)` -/
def hdrFind : Headers → Bytes → Option Bytes
  | [], _ => none
  | (k', v') :: t, k => if ciEq k' k then some v' else hdrFind t k

/-- mirrors the store at the end of `parseHeaderBlock`'s field loop: a repeated `Connection` field line is combined with the
earlier value (`old ", " new`, RFC 9110 §5.3), every other field is `headers[name] = value` (last value wins) -/
def hdrAdd (h : Headers) (name value : Bytes) : Headers :=
  if ciEq name (ascii "Connection") then
    match hdrFind h name with
    | some old => hdrSet h name (old ++ ascii ", " ++ value)
    | none => hdrSet h name value
  else hdrSet h name value

end Iora.Http
