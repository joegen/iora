import IoraModel.Model.Json
/-!
Reference semantics for C13: a syntax-tree type that spans the grammar of RFC 8259 (`SText`), its concrete text (`render`) and
the value an RFC-conforming decoder assigns to it (`denote`).  This file is the *specification* side of theorem J1
(`parse (render t) = ok (denote t)`); it does not mention the parser.

Coverage of the grammar (RFC 8259 §2–§7), production by production:
* `JSON-text = ws value ws`                                        — `SText`
* `ws = *( %x20 / %x09 / %x0A / %x0D )`                            — `Ws = List WsChar`
* `value = false / null / true / object / array / number / string` — `SVal`
* `array = begin-array [ value *( value-separator value ) ] end-array`, each structural character surrounded by `ws`
                                                                    — `SVal.arr w es`: `[` w (w1 value w2),… `]`
* `object`, `member = string name-separator value`                 — `SVal.obj w ms`: `{` w (w1 string w2 `:` w3 value w4),… `}`
* `number = [ minus ] int [ frac ] [ exp ]`, `int = zero / ( digit1-9 *DIGIT )` — `SNum`: the integer part is *the* decimal
  numeral of a natural number (`natToDec`, no leading zero); `frac`/`exp` digits are arbitrary digit strings, `e`/`E`, `+`/`-`/none
* `string = quotation-mark *char quotation-mark`; `char = unescaped / \" \\ \/ \b \f \n \r \t / \uXXXX` (hex digits of either case)
                                                                    — `StrItem`; an unescaped character is given byte by byte
  (`raw`): RFC 8259 demands bytes ≥ 0x20 forming well-formed UTF-8; J1 needs only "not `"` and not `\`" (`StrItem.ok`), so it covers
  the RFC and more.
Semantics: the eight two-character escapes denote their character; `\uXXXX` denotes the UTF-8 encoding of the code point, a high
surrogate immediately followed by a `\u` low surrogate denotes the supplementary code point (RFC 8259 §7); an unpaired surrogate
denotes U+FFFD (the RFC leaves it open, §8.2).  Object members: a later duplicate replaces the earlier value (§4 leaves it open; this is
what "last wins" means, cf. theorem J5).  A number without fraction and exponent that fits `int64` denotes that integer; every other
number denotes `strtod` of its own text.
-/
namespace Iora.Json.Spec
open Iora Iora.Json

inductive WsChar | sp | tab | lf | cr
  deriving DecidableEq

def WsChar.byte : WsChar → UInt8
  | .sp => 0x20 | .tab => 0x09 | .lf => 0x0A | .cr => 0x0D

abbrev Ws := List WsChar
def Ws.render (w : Ws) : Bytes := w.map WsChar.byte

/-- a hexadecimal digit as written: value and, for a–f, the letter case -/
structure HexDigit where
  val : Fin 16
  upper : Bool

def HexDigit.byte (h : HexDigit) : UInt8 :=
  if h.val.val < 10 then b8 (48 + h.val.val) else if h.upper then b8 (55 + h.val.val) else b8 (87 + h.val.val)

/-- the eight two-character escapes -/
inductive Esc | quote | backslash | slash | b | f | n | r | t
  deriving DecidableEq

/-- the character after the backslash -/
def Esc.letter : Esc → UInt8
  | .quote => 0x22 | .backslash => 0x5C | .slash => 0x2F | .b => 0x62 | .f => 0x66 | .n => 0x6E | .r => 0x72 | .t => 0x74
/-- the character denoted (RFC 8259 §7) -/
def Esc.char : Esc → UInt8
  | .quote => 0x22 | .backslash => 0x5C | .slash => 0x2F | .b => 0x08 | .f => 0x0C | .n => 0x0A | .r => 0x0D | .t => 0x09

inductive StrItem
  | raw (b : UInt8)
  | esc (e : Esc)
  | u (h1 h2 h3 h4 : HexDigit)

def StrItem.ok : StrItem → Prop
  | .raw b => b ≠ 0x22 ∧ b ≠ 0x5C
  | _ => True

def StrItem.render : StrItem → Bytes
  | .raw b => [b]
  | .esc e => [0x5C, e.letter]
  | .u h1 h2 h3 h4 => [0x5C, 0x75, h1.byte, h2.byte, h3.byte, h4.byte]

def renderItems (s : List StrItem) : Bytes := s.flatMap StrItem.render
def renderString (s : List StrItem) : Bytes := 0x22 :: (renderItems s ++ [0x22])

/-- the UTF-16 code unit written by `\uXXXX` -/
def codeUnit (h1 h2 h3 h4 : HexDigit) : Nat := ((h1.val.val * 16 + h2.val.val) * 16 + h3.val.val) * 16 + h4.val.val

def isHigh (cu : Nat) : Bool := 0xD800 ≤ cu && cu ≤ 0xDBFF
def isLow (cu : Nat) : Bool := 0xDC00 ≤ cu && cu ≤ 0xDFFF

/-- UTF-8 of one code unit standing alone: itself, or U+FFFD for an unpaired surrogate -/
def loneUnit (cu : Nat) : Bytes := if isHigh cu || isLow cu then utf8 0xFFFD else utf8 cu

/-- the byte string a JSON string denotes -/
def denoteItems : List StrItem → Bytes
  | [] => []
  | .raw b :: tl => b :: denoteItems tl
  | .esc e :: tl => e.char :: denoteItems tl
  | .u a1 a2 a3 a4 :: .u b1 b2 b3 b4 :: tl =>
    if isHigh (codeUnit a1 a2 a3 a4) && isLow (codeUnit b1 b2 b3 b4) then
      utf8 (0x10000 + (codeUnit a1 a2 a3 a4 - 0xD800) * 1024 + (codeUnit b1 b2 b3 b4 - 0xDC00)) ++ denoteItems tl
    else loneUnit (codeUnit a1 a2 a3 a4) ++ denoteItems (.u b1 b2 b3 b4 :: tl)
  | .u a1 a2 a3 a4 :: tl => loneUnit (codeUnit a1 a2 a3 a4) ++ denoteItems tl

/-- `number = [ minus ] int [ frac ] [ exp ]` -/
structure SNum where
  neg : Bool
  int : Nat
  /-- digits after the decimal point: ASCII digits, non-empty when present (`SNum.ok`) -/
  frac : Option Bytes
  /-- `(upper-case E, sign: none | some false = '+' | some true = '-', ASCII digits (non-empty))` -/
  exp : Option (Bool × Option Bool × Bytes)

/-- `1*DIGIT` -/
def Digits1 (ds : Bytes) : Prop := ds ≠ [] ∧ ∀ d ∈ ds, isDigit d = true

def SNum.ok (n : SNum) : Prop :=
  (∀ ds, n.frac = some ds → Digits1 ds) ∧ (∀ u s ds, n.exp = some (u, s, ds) → Digits1 ds)

def SNum.renderFrac (n : SNum) : Bytes :=
  match n.frac with
  | none => []
  | some ds => 0x2E :: ds

def SNum.renderExp (n : SNum) : Bytes :=
  match n.exp with
  | none => []
  | some (u, s, ds) =>
    (if u then 0x45 else 0x65) :: ((match s with | none => [] | some false => [0x2B] | some true => [0x2D]) ++ ds)

def SNum.render (n : SNum) : Bytes :=
  (if n.neg then [0x2D] else []) ++ natToDec n.int ++ n.renderFrac ++ n.renderExp

def SNum.isFloat (n : SNum) : Bool := n.frac.isSome || n.exp.isSome

def SNum.denote (ops : FloatOps) (n : SNum) : Json :=
  if n.isFloat then .dbl (ops.strtod n.render)
  else
    let i : Int := if n.neg then -(n.int : Int) else n.int
    if -(2 ^ 63 : Int) ≤ i ∧ i < 2 ^ 63 then .int i else .dbl (ops.strtod n.render)

mutual
inductive SVal
  | null | true | false
  | num (n : SNum)
  | str (s : List StrItem)
  | arr (w : Ws) (es : SElems)
  | obj (w : Ws) (ms : SMembers)
inductive SElems
  | nil
  | cons (w1 : Ws) (v : SVal) (w2 : Ws) (tl : SElems)
inductive SMembers
  | nil
  | cons (w1 : Ws) (k : List StrItem) (w2 w3 : Ws) (v : SVal) (w4 : Ws) (tl : SMembers)
end

def SElems.length : SElems → Nat
  | .nil => 0
  | .cons _ _ _ tl => tl.length + 1
def SMembers.length : SMembers → Nat
  | .nil => 0
  | .cons _ _ _ _ _ _ tl => tl.length + 1

mutual
def SVal.render : SVal → Bytes
  | .null => litNull
  | .true => litTrue
  | .false => litFalse
  | .num n => n.render
  | .str s => renderString s
  | .arr w es => 0x5B :: (w.render ++ es.render ++ [0x5D])
  | .obj w ms => 0x7B :: (w.render ++ ms.render ++ [0x7D])
def SElems.render : SElems → Bytes
  | .nil => []
  | .cons w1 v w2 tl => w1.render ++ v.render ++ w2.render ++ (match tl with | .nil => [] | tl => 0x2C :: tl.render)
def SMembers.render : SMembers → Bytes
  | .nil => []
  | .cons w1 k w2 w3 v w4 tl =>
    w1.render ++ renderString k ++ w2.render ++ [0x3A] ++ w3.render ++ v.render ++ w4.render
      ++ (match tl with | .nil => [] | tl => 0x2C :: tl.render)
end

mutual
def SVal.denote (ops : FloatOps) : SVal → Json
  | .null => .null
  | .true => .bool Bool.true
  | .false => .bool Bool.false
  | .num n => n.denote ops
  | .str s => .str (denoteItems s)
  | .arr _ es => .arr (es.denote ops)
  | .obj _ ms => .obj (ms.denote ops [])
def SElems.denote (ops : FloatOps) : SElems → List Json
  | .nil => []
  | .cons _ v _ tl => v.denote ops :: tl.denote ops
/-- members are entered left to right; a later duplicate replaces the value of the earlier one -/
def SMembers.denote (ops : FloatOps) : SMembers → List (Bytes × Json) → List (Bytes × Json)
  | .nil, acc => acc
  | .cons _ k _ _ v _ tl, acc => tl.denote ops (insertOrAssign (denoteItems k) (v.denote ops) acc)
end

mutual
/-- syntactic well-formedness that the types do not enforce -/
def SVal.ok : SVal → Prop
  | .num n => n.ok
  | .str s => ∀ i ∈ s, i.ok
  | .arr _ es => es.ok
  | .obj _ ms => ms.ok
  | _ => True
def SElems.ok : SElems → Prop
  | .nil => True
  | .cons _ v _ tl => v.ok ∧ tl.ok
def SMembers.ok : SMembers → Prop
  | .nil => True
  | .cons _ k _ _ v _ tl => (∀ i ∈ k, i.ok) ∧ v.ok ∧ tl.ok
end

mutual
/-- "within the configured limits" for a value at nesting depth `d` (the root is at depth 0) -/
def SVal.fits (lim : Limits) : Nat → SVal → Prop
  | d, .str s => d ≤ lim.depthMax ∧ (denoteItems s).length ≤ lim.stringLengthMax
  | d, .arr _ es => d ≤ lim.depthMax ∧ es.length ≤ lim.arrayItemsMax ∧ es.fits lim (d + 1)
  | d, .obj _ ms => d ≤ lim.depthMax ∧ ms.length ≤ lim.membersMax ∧ ms.fits lim (d + 1)
  | d, _ => d ≤ lim.depthMax
def SElems.fits (lim : Limits) : Nat → SElems → Prop
  | _, .nil => True
  | d, .cons _ v _ tl => v.fits lim d ∧ tl.fits lim d
def SMembers.fits (lim : Limits) : Nat → SMembers → Prop
  | _, .nil => True
  | d, .cons _ k _ _ v _ tl => (denoteItems k).length ≤ lim.stringLengthMax ∧ v.fits lim d ∧ tl.fits lim d
end

/-- RFC 8259 `*char` exactly: a sequence of escapes and of UNESCAPED characters, an unescaped character being the UTF-8 encoding
    (core Lean's `String.utf8EncodeChar`) of a Unicode scalar value `≥ U+0020` other than `"` and `\` (`%x20-21 / %x23-5B / %x5D-10FFFF`).
    `StrItem.ok` (what J1 needs) is weaker; `strictItems_ok` shows every strict string is `ok`. -/
inductive StrictItems : List StrItem → Prop
  | nil : StrictItems []
  | esc (e : Esc) {tl : List StrItem} : StrictItems tl → StrictItems (.esc e :: tl)
  | u (a1 a2 a3 a4 : HexDigit) {tl : List StrItem} : StrictItems tl → StrictItems (.u a1 a2 a3 a4 :: tl)
  | char (c : Char) {tl : List StrItem} : 0x20 ≤ c.val.toNat → c.val.toNat ≠ 0x22 → c.val.toNat ≠ 0x5C → StrictItems tl →
      StrictItems ((String.utf8EncodeChar c).map StrItem.raw ++ tl)

mutual
/-- the tree is in the grammar of RFC 8259 in the strict sense: every string and key is `StrictItems` (no raw control character,
    raw bytes form well-formed UTF-8) -/
def SVal.strict : SVal → Prop
  | .str s => StrictItems s
  | .arr _ es => es.strict
  | .obj _ ms => ms.strict
  | _ => True
def SElems.strict : SElems → Prop
  | .nil => True
  | .cons _ v _ tl => v.strict ∧ tl.strict
def SMembers.strict : SMembers → Prop
  | .nil => True
  | .cons _ k _ _ v _ tl => StrictItems k ∧ v.strict ∧ tl.strict
end

/-- well-formed UTF-8: the encoding of a sequence of Unicode scalar values -/
def ValidUtf8 (s : Bytes) : Prop := ∃ cs : List Char, s = cs.flatMap String.utf8EncodeChar

/-- `JSON-text = ws value ws` -/
structure SText where
  w1 : Ws
  v : SVal
  w2 : Ws

def SText.render (t : SText) : Bytes := t.w1.render ++ t.v.render ++ t.w2.render
def SText.denote (ops : FloatOps) (t : SText) : Json := t.v.denote ops
def SText.ok (t : SText) : Prop := t.v.ok
def SText.fits (lim : Limits) (t : SText) : Prop := t.v.fits lim 0


/-! ### what J2/J3 assume about libc, and which values J2 speaks about -/

/-- What J2/J3 assume about libc's `std::to_chars(general, precision)` (the `%.*g` text) / `detail::jsonToDouble` (`strtod`) pair — nothing else about floating point is assumed; the logic of
    `Json::_formatDouble` (precision loop, `.0` suffix) is proved on top of these four facts (`formatDouble_roundtrips`):
    * `shape`: for the precisions the loop tries, `%.{p}g` of a finite double is a JSON number token (`-?int[.frac][e±exp]`);
    * `exactHi`: the text with the LAST precision tried (17 significant digits) reads back as the same double;
    * `zeroSign`: a zero whose text reads back as a zero reads back as the SAME zero (the sign of `-0.0` is printed and read);
    * `dotZero`: appending `.0` to an integer-looking token does not change what `strtod` returns.
    All four hold for a correctly rounded libc (glibc); they are validated bit for bit by the lockstep, not proved. -/
structure LibcOk (ops : FloatOps) : Prop where
  shape : ∀ p d, Gen.Json.fmtPrecLo ≤ p → p ≤ Gen.Json.fmtPrecHi → isFiniteBits d = true →
    ∃ n : SNum, n.ok ∧ n.render = ops.printfG p d
  exactHi : ∀ d, isFiniteBits d = true → ops.strtod (ops.printfG Gen.Json.fmtPrecHi d) = d
  zeroSign : ∀ p d, Gen.Json.fmtPrecLo ≤ p → p ≤ Gen.Json.fmtPrecHi → isZeroBits d = true →
    isZeroBits (ops.strtod (ops.printfG p d)) = true → ops.strtod (ops.printfG p d) = d
  dotZero : ∀ n : SNum, n.ok → n.isFloat = false →
    ops.strtod (n.render ++ Gen.Json.fmtSuffix.map b8) = ops.strtod n.render

end Iora.Json.Spec

namespace Iora.Json
open Iora.Json.Spec

mutual
/-- a value the C++ `Json` type can hold and J2 speaks about ("made of finite numbers"): integers in `int64`, FINITE doubles,
    objects with pairwise distinct keys (`std::unordered_map`) -/
def Json.Good : Json → Prop
  | .int i => -(2 ^ 63 : Int) ≤ i ∧ i < 2 ^ 63
  | .dbl d => isFiniteBits d = true
  | .arr xs => Json.GoodList xs
  | .obj ms => (ms.map Prod.fst).Nodup ∧ Json.GoodMembers ms
  | _ => True
def Json.GoodList : List Json → Prop
  | [] => True
  | x :: xs => x.Good ∧ Json.GoodList xs
def Json.GoodMembers : List (Bytes × Json) → Prop
  | [] => True
  | (_, v) :: ms => v.Good ∧ Json.GoodMembers ms
end

mutual
/-- the value (at nesting depth `d`) respects the parse limits, with `slack` extra bytes allowed per string -/
def Json.within (lim : Limits) (slack : Nat) : Nat → Json → Prop
  | d, .str s => d ≤ lim.depthMax ∧ s.length ≤ lim.stringLengthMax + slack
  | d, .arr xs => d ≤ lim.depthMax ∧ xs.length ≤ lim.arrayItemsMax ∧ Json.withinList lim slack (d + 1) xs
  | d, .obj ms => d ≤ lim.depthMax ∧ ms.length ≤ lim.membersMax ∧ Json.withinMembers lim slack (d + 1) ms
  | d, _ => d ≤ lim.depthMax
def Json.withinList (lim : Limits) (slack : Nat) : Nat → List Json → Prop
  | _, [] => True
  | d, x :: xs => x.within lim slack d ∧ Json.withinList lim slack d xs
def Json.withinMembers (lim : Limits) (slack : Nat) : Nat → List (Bytes × Json) → Prop
  | _, [] => True
  | d, (k, v) :: ms => k.length ≤ lim.stringLengthMax + slack ∧ v.within lim slack d ∧ Json.withinMembers lim slack d ms
end

mutual
/-- every string and every key of the value is well-formed UTF-8 ("valid UTF-8 strings" in the property) -/
def Json.utf8 : Json → Prop
  | .str s => ValidUtf8 s
  | .arr xs => Json.utf8List xs
  | .obj ms => Json.utf8Members ms
  | _ => True
def Json.utf8List : List Json → Prop
  | [] => True
  | x :: xs => x.utf8 ∧ Json.utf8List xs
def Json.utf8Members : List (Bytes × Json) → Prop
  | [] => True
  | (k, v) :: ms => ValidUtf8 k ∧ v.utf8 ∧ Json.utf8Members ms
end

mutual
/-- every object in the value has pairwise distinct keys (it is a map) -/
def Json.distinctKeys : Json → Prop
  | .arr xs => Json.distinctKeysList xs
  | .obj ms => (ms.map Prod.fst).Nodup ∧ Json.distinctKeysMembers ms
  | _ => True
def Json.distinctKeysList : List Json → Prop
  | [] => True
  | x :: xs => x.distinctKeys ∧ Json.distinctKeysList xs
def Json.distinctKeysMembers : List (Bytes × Json) → Prop
  | [] => True
  | (_, v) :: ms => v.distinctKeys ∧ Json.distinctKeysMembers ms
end

/-- `std::sort` of the members by key -/
def sortMs (ms : List (Bytes × Json)) : List (Bytes × Json) := ms.mergeSort (fun a b => bytesLe a.1 b.1)

mutual
/-- the value with the members of every object sorted by key: what `sortKeys` serializes -/
def sortDeep : Json → Json
  | .arr xs => .arr (sortDeepList xs)
  | .obj ms => .obj (sortMs (sortDeepMembers ms))
  | j => j
def sortDeepList : List Json → List Json
  | [] => []
  | x :: xs => sortDeep x :: sortDeepList xs
def sortDeepMembers : List (Bytes × Json) → List (Bytes × Json)
  | [] => []
  | (k, v) :: ms => (k, sortDeep v) :: sortDeepMembers ms
end

/-- `find` on the member list -/
def lookupKey (k : Bytes) : List (Bytes × Json) → Option Json
  | [] => none
  | (k', v) :: ms => if k' = k then some v else lookupKey k ms

mutual
/-- mirrors `Json::operator==` (`std::variant` equality; `std::unordered_map::operator==`: same size and every member of the
    left operand is found in the right one with an equal value); doubles are compared with `operator==` on `double` (`dblEq`) -/
def eqv : Json → Json → Bool
  | .null, .null => true
  | .bool a, .bool b => a == b
  | .int a, .int b => a == b
  | .dbl a, .dbl b => dblEq a b
  | .str a, .str b => a == b
  | .arr xs, .arr ys => eqvList xs ys
  | .obj ms, .obj ns => ms.length == ns.length && eqvMembers ms ns
  | _, _ => false
def eqvList : List Json → List Json → Bool
  | [], [] => true
  | x :: xs, y :: ys => eqv x y && eqvList xs ys
  | _, _ => false
def eqvMembers : List (Bytes × Json) → List (Bytes × Json) → Bool
  | [], _ => true
  | (k, v) :: ms, ns => (match lookupKey k ns with | some w => eqv v w | none => false) && eqvMembers ms ns
end

end Iora.Json
