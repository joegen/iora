/-!
# C07 — vocabulary shared by the generated call inventory (`Gen/TlsCalls.lean`) and the TLS plan model

Only types: guard formulas over the atoms that occur in `TcpEngine::initTls / doConnect / doAddListener /
onListener`, the OpenSSL configuration actions those functions perform, and the field mappings of
`HttpClient::ensureInitialized` / `HttpServer::start`.  The translator unit `tls` emits VALUES of these types;
`Model/TlsPlan.lean` interprets them.
-/
namespace Iora.Tls

/-- `enum class TlsMode` -/
inductive Mode | none | server | client
  deriving DecidableEq, Repr, Inhabited

/-- atoms of the guard conditions (each is one recognised C++ sub-expression) -/
inductive Atom
  | enabled                 -- `_config.<side>Tls.enabled`
  | defaultModeIs (m : Mode) -- `_config.<side>Tls.defaultMode == TlsMode::m`
  | reqIs (m : Mode)        -- `cr.tls == TlsMode::m` / `lc.tls == …` / `lst->tls == …`
  | ctxPresent              -- `_sslCli` / `_sslSrv` (non-null)
  | certFileSet             -- `!…certFile.empty()`
  | keyFileSet
  | caFileSet
  | caPathSet
  | verifyPeer              -- `_config.<side>Tls.verifyPeer`
  | hostIsIPv4              -- `isIPv4` (inet_pton(AF_INET, cr.host) == 1)
  | hostIsIPv6
  | ciphersSet | alpnSet | verifyDepthPositive
  deriving DecidableEq, Repr

/-- guard formulas -/
inductive G
  | tt | ff
  | atom (a : Atom)
  | not (g : G)
  | and (a b : G)
  | or (a b : G)
  deriving DecidableEq, Repr

/-- `SSL_VERIFY_*` bits -/
inductive VFlag | peer | failIfNoPeerCert | clientOnce | postHandshake
  deriving DecidableEq, Repr

/-- answers of the file system / libcrypto about the configured files (environment, not modelled further) -/
inductive EnvFact
  | certReadable | keyReadable   -- `::access(file, R_OK) == 0`
  | certLoads | keyLoads         -- `SSL_CTX_use_certificate_file / use_PrivateKey_file == 1`
  | keyMatches                   -- `SSL_CTX_check_private_key == 1`
  | certNotExpired               -- `X509_cmp_time(notAfter, now) > 0`
  | caLoads                      -- `SSL_CTX_load_verify_locations == 1`
  deriving DecidableEq, Repr

/-- one configuration action of a context block -/
inductive Act
  | require (f : EnvFact)        -- `if (<f does not hold>) { setLastFatal(...); return false; }`
  | setVerify (flags : List VFlag) -- `SSL_CTX_set_verify(ctx, flags, nullptr)`
  | defaultVerifyPaths           -- `SSL_CTX_set_default_verify_paths(ctx)`
  | fail                         -- unconditional `return false`
  | applyFloor                   -- `applyTls12Floor(ctx, cfg.minVersion)`
  | setVerifyDepth               -- `SSL_CTX_set_verify_depth(ctx, cfg.verifyDepth)`
  | setCipherList                -- `SSL_CTX_set_cipher_list(ctx, cfg.ciphers)`: decides which key exchanges (incl. anonymous ones) are on offer
  | other (name : String)        -- a call recorded for completeness, without effect on the plan (ALPN)
  deriving DecidableEq, Repr

/-- an action together with its path condition (conjunction of the enclosing `if` conditions) -/
structure Step where
  guard : G
  act : Act
  deriving DecidableEq, Repr

/-- one `if (enabled && defaultMode == …) { ctx = SSL_CTX_new(method); … }` block of `initTls` -/
structure CtxBlock where
  create : G
  method : String
  steps : List Step
  deriving Repr

/-- `doConnect`: the early refusal, the guard of the `SSL_new(_sslCli)` block, and inside it the path conditions of SNI / host binding -/
structure ConnectSite where
  refuse : G
  sslNew : G
  sni : G
  set1host : G
  set1hostFailClosed : Bool     -- a failing `SSL_set1_host` ends the connect (never a handshake without the name bound)
  deriving Repr

/-- `doAddListener` refusal + the guard of the `SSL_new(_sslSrv)` block in `onListener` -/
structure ListenSite where
  refuse : G
  sslNew : G
  deriving Repr

/-- comparison used by `applyTls12Floor` -/
inductive Cmp | lt | le | gt | ge
  deriving DecidableEq, Repr
/-- the two arms of its conditional expression -/
inductive FloorArm | const | arg
  deriving DecidableEq, Repr

/-- where a field of the transport-level TlsConfig comes from in `HttpClient::ensureInitialized` / `HttpServer::start` -/
inductive Src
  | unset                 -- not assigned: keeps the TransportConfig default
  | constTrue
  | constMode (m : Mode)
  | fromVerifyPeer        -- HttpClient::TlsConfig::verifyPeer / HttpServer::TlsConfig::requireClientCert
  | fromCaFile
  | fromCertFile
  | fromKeyFile
  deriving DecidableEq, Repr

structure CfgMap where
  enabled : Src
  defaultMode : Src
  verifyPeer : Src
  caFile : Src
  certFile : Src
  keyFile : Src
  deriving Repr

/-- which string `HttpClient::acquireConnection` passes to `connectSync` -/
inductive HostSrc | resolvedAddress | urlHost
  deriving DecidableEq, Repr

end Iora.Tls
