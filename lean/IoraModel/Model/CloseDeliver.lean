/-!
# Transport-level delivery around a close (C02, T3 at the Transport level)

Mirror of `include/iora/network/transport_impl.hpp`, the part of `Transport` that decides WHAT reaches the application's
accept / connect / data callbacks and WHEN, relative to the close handler:

* `cbs.onAccept`, `cbs.onConnect`, `cbs.onData` installed by `setupEngineCallbacks` (the read mode decides: Async -> data
  callback, Sync -> append to the session's receive buffer, Disabled -> drop),
* step 6 of `cbs.onClose` (mark the buffer closed or leave a closed tombstone, erase the read mode, sweep drained tombstones
  when the map is over `syncBufferGcThreshold`) - steps 2-5 and 7 (the callbacks) are `Model/CloseFanout.lean`,
* `Transport::setReadMode` (incl. the ordered Sync/Disabled -> Async flush through the data callback) and
  `Transport::receiveSync` with a zero timeout.

Every op is one API call, one engine callback, or one of the two halves of the close handler (see below), run to completion (a
sequential history: the calls of several threads in some
order, none overlapping another - the flush of `setReadMode` overlapping an engine callback on the I/O thread is C03's
flush-window model and is NOT covered here).  Not modelled: `pendingConnects` (C04: a close that answers a connectSync is
swallowed before any of this), teardown (`shuttingDown` is false), parked waiters (a zero timeout never parks).

Three source variants are parameters of the model (the driver sets them from `Gen/CloseSites.lean`); two concern the state:
`eraseAlways` - the close handler erases the read mode unconditionally; `tombGuard` - `setReadMode` on a session whose
receive buffer is a closed tombstone is vacuous: it returns true, registers no mode and flushes nothing (repair FC02a).

The close handler is TWO ops, because it is not atomic for the other threads: `closeMark sid` is its syncMutex block (mark the
buffer closed / leave the tombstone, erase the read mode, sweep) and `closeCbs sid` is the part that runs user code (global
close callback, observers).  Complete application calls (`setMode`, `recv`) of OTHER threads may stand between the two ops of
one handler run in a history; engine ops may not (the I/O thread is inside the handler).  In which ORDER one handler run
performs the two is the third variant, `markFirst` (Gen fact `closeMarksBeforeCallbacks`; repair FC03c made it true):
`handlerOps` is one handler run, `orderB` / `HandlerOrder` is the shape of a history all of whose handler runs have that order.
-/
namespace Iora.Deliver

abbrev Sid := Nat
abbrev Bytes := List UInt8

/-- `ReadMode` -/
inductive Mode
  | async | sync | disabled
  deriving DecidableEq, Repr

/-- `Transport::Impl::SyncReceiveBuffer` (`hasData` mirrors `!data.empty()`: INV-1, every mutation re-derives it) -/
structure Buf where
  data : Bytes := []
  closed : Bool := false
  overflow : Bool := false
  overflowReported : Bool := false   -- a receiveSync has answered BufferOverflow for this buffer (fix 3fba082 / FC03d)
  deriving Repr

structure Cfg where
  maxBuf : Nat := 1048576          -- `config.maxSyncReceiveBuffer`
  gcThreshold : Nat := 1024        -- `config.syncBufferGcThreshold`
  allowSwitch : Bool := true       -- `config.allowReadModeSwitch`
  hasDataCb : Bool := true         -- a global data callback is installed
  eraseAlways : Bool := true       -- source variant: `readModes.erase(sid)` of the close handler is unconditional
  tombGuard : Bool := true         -- source variant: setReadMode is vacuous (returns true, no effect) for a closed tombstone (FC02a)
  markFirst : Bool := true         -- source variant: the close handler marks the session closed BEFORE it runs the close callbacks (FC03c)
  deriving Repr

structure T where
  cfg : Cfg := {}
  modes : Sid → Option Mode := fun _ => none      -- `readModes`
  bufs : Sid → Option Buf := fun _ => none        -- `receiveBuffers`
  keys : List Sid := []                            -- the keys of `receiveBuffers` (its `size()` and the GC sweep)
  closedH : Sid → Bool := fun _ => false          -- ghost: the close callbacks (global, observers) have been started for this id
  marked : Sid → Bool := fun _ => false           -- ghost: the handler's syncMutex block (closed flag / tombstone / erase) has run for this id

inductive RecvRes
  | bytes (b : Bytes) | timeout | peerClosed | overflow
  deriving DecidableEq, Repr

inductive Op
  | engAccept (sid : Sid)
  | engConnect (sid : Sid)
  | engData (sid : Sid) (b : Bytes)
  /-- the close handler's syncMutex block: closed flag or tombstone, `readModes.erase`, sweep -/
  | closeMark (sid : Sid)
  /-- the close handler's user-code part: global close callback, then the observers -/
  | closeCbs (sid : Sid)
  | setMode (sid : Sid) (m : Mode)
  | recv (sid : Sid) (len : Nat)
  deriving DecidableEq, Repr

inductive Out
  | acceptCb (sid : Sid)
  | connectCb (sid : Sid)
  | dataCb (sid : Sid) (b : Bytes)
  /-- the close handler runs: the global close callback and the observers (Fanout.closeFan) fire here -/
  | closeH (sid : Sid)
  | modeRet (sid : Sid) (ok : Bool)
  | recvRet (sid : Sid) (r : RecvRes)
  deriving DecidableEq, Repr

def upd {β : Type} (f : Nat → β) (k : Nat) (v : β) : Nat → β := fun x => if x = k then v else f x

def modeOf (t : T) (sid : Sid) : Mode :=
  match t.modes sid with
  | some m => m
  | none => .async

def bufData (t : T) (sid : Sid) : Bytes :=
  match t.bufs sid with
  | some b => b.data
  | none => []

/-- the session's receive buffer exists and is marked closed (a tombstone once the close handler has run) -/
def tomb (t : T) (sid : Sid) : Bool :=
  match t.bufs sid with
  | some b => b.closed
  | none => false

/-- `receiveBuffers[sid] = b` -/
def setBuf (sid : Sid) (b : Buf) (t : T) : T :=
  { t with bufs := upd t.bufs sid (some b), keys := if t.keys.contains sid then t.keys else t.keys ++ [sid] }

/-- `receiveBuffers.erase(sid)` -/
def eraseBuf (sid : Sid) (t : T) : T :=
  { t with bufs := upd t.bufs sid none, keys := t.keys.filter (· != sid) }

def dataCb (t : T) (sid : Sid) (b : Bytes) : List Out := if t.cfg.hasDataCb then [.dataCb sid b] else []

/-- mirrors `cbs.onData`: mode read and buffer append under one `syncMutex` section; Async delivers to the callback -/
def onData (sid : Sid) (bytes : Bytes) (t : T) : T × List Out :=
  match modeOf t sid with
  | .sync =>
    match t.bufs sid with
    | none => (t, [])
    | some b =>
      if b.overflow then (t, [])
      else if b.data.length + bytes.length > t.cfg.maxBuf then (setBuf sid { b with overflow := true } t, [])
      else (setBuf sid { b with data := b.data ++ bytes } t, [])
  | .disabled => (t, [])
  | .async => (t, dataCb t sid bytes)

/-- a tombstone the sweep may reclaim: closed and drained (no waiter, no flush in a sequential history) -/
def reclaimable (b : Buf) : Bool := b.closed && b.data.isEmpty && (!b.overflow || b.overflowReported)

def dead (sid : Sid) (t : T) (k : Sid) : Bool :=
  k != sid && (match t.bufs k with | some b => reclaimable b | none => false)

/-- the sweep of step 6 (every other reclaimable entry goes) -/
def gc (sid : Sid) (t : T) : T :=
  { t with bufs := fun k => if dead sid t k then none else t.bufs k, keys := t.keys.filter (fun k => !dead sid t k) }

/-- step 6, first half: `bufIt->second->closed = true` or a fresh closed tombstone -/
def markClosed (sid : Sid) (t : T) : T :=
  match t.bufs sid with
  | some b => setBuf sid { b with closed := true } t
  | none => setBuf sid { closed := true } t

/-- step 6, `readModes.erase(sid)`: unconditional in the source as it is (`eraseAlways`); the other variant keeps the mode of a
buffer that still holds bytes -/
def eraseMode (sid : Sid) (t : T) : T :=
  if t.cfg.eraseAlways || (bufData t sid).isEmpty then { t with modes := upd t.modes sid none } else t

/-- step 6, the sweep once the map is over the threshold -/
def sweep (sid : Sid) (t : T) : T := if t.keys.length > t.cfg.gcThreshold then gc sid t else t

/-- mirrors the syncMutex block of `cbs.onClose` ("step 6" before FC03c, step 2 after it): close the buffer or leave a tombstone,
erase the read mode, sweep.  Nothing the application can observe happens here. -/
def closeMark (sid : Sid) (t : T) : T × List Out :=
  let t3 := sweep sid (eraseMode sid (markClosed sid t))
  ({ t3 with marked := upd t3.marked sid true }, [])

/-- the callback part of `cbs.onClose` (global close callback, observers: `Fanout.closeFan`): from here on the application knows -/
def closeCbs (sid : Sid) (t : T) : T × List Out :=
  ({ t with closedH := upd t.closedH sid true }, [.closeH sid])

/-- mirrors `Transport::receiveSync(sid, buf, len, 0ms)`: find-or-create, one evaluation of the wait predicate, drain first,
then overflow, then PeerClosed (which reclaims the entry and the mode) -/
def recv (sid : Sid) (len : Nat) (t : T) : T × List Out :=
  match t.bufs sid with
  | none => (setBuf sid {} t, [.recvRet sid .timeout])
  | some b =>
    if !b.data.isEmpty then
      let n := min len b.data.length
      (setBuf sid { b with data := b.data.drop n } t, [.recvRet sid (.bytes (b.data.take n))])
    else if b.overflow then (setBuf sid { b with overflowReported := true } t, [.recvRet sid .overflow])
    else if b.closed then ({ eraseBuf sid t with modes := upd t.modes sid none }, [.recvRet sid .peerClosed])
    else (t, [.recvRet sid .timeout])

/-- mirrors `Transport::setReadMode` on an application thread, run to completion: tombstone guard (FC02a), the simple
transitions, and the ordered flush (take everything under the lock, deliver it, find the buffer empty, switch to Async) -/
def setMode (sid : Sid) (m : Mode) (t : T) : T × List Out :=
  if !t.cfg.allowSwitch then (t, [.modeRet sid false])
  else if t.cfg.tombGuard && tomb t sid then (t, [.modeRet sid true])
  else if !(modeOf t sid != .async && m == .async) then
    let t1 := { t with modes := upd t.modes sid (some m) }
    let t2 := if m == .sync then (match t1.bufs sid with | none => setBuf sid {} t1 | some _ => t1) else t1
    (t2, [.modeRet sid true])
  else
    match t.bufs sid with
    | none => ({ t with modes := upd t.modes sid (some .async) }, [.modeRet sid true])
    | some b =>
      let t1 := setBuf sid { b with data := [] } { t with modes := upd t.modes sid (some .async) }
      (t1, (if b.data.isEmpty then [] else dataCb t sid b.data) ++ [.modeRet sid true])

def step (t : T) : Op → T × List Out
  | .engAccept sid => (t, [.acceptCb sid])
  | .engConnect sid => (t, [.connectCb sid])
  | .engData sid b => onData sid b t
  | .closeMark sid => closeMark sid t
  | .closeCbs sid => closeCbs sid t
  | .setMode sid m => setMode sid m t
  | .recv sid len => recv sid len t

/-- the outputs of a history, in order -/
def run : T → List Op → List Out
  | _, [] => []
  | t, op :: r => (step t op).2 ++ run (step t op).1 r

def runState : T → List Op → T
  | t, [] => t
  | t, op :: r => runState (step t op).1 r

def init (cfg : Cfg) : T := { cfg := cfg }

/-- ONE run of the close handler on the I/O thread, in the order the source variant says; `window` = the complete application
calls other threads make while the handler is between its two halves (for the callbacks-first order: while the close callbacks run
and until the syncMutex block has been executed) -/
def handlerOps (markFirst : Bool) (sid : Sid) (window : List Op) : List Op :=
  if markFirst then .closeMark sid :: window ++ [.closeCbs sid] else .closeCbs sid :: window ++ [.closeMark sid]

/-- every handler run of the history has the order `markFirst` says: with it every `closeCbs sid` is preceded by a `closeMark sid`,
without it every `closeMark sid` is preceded by a `closeCbs sid` (`seen` = ids whose first half has run) -/
def orderB (markFirst : Bool) : List Sid → List Op → Bool
  | _, [] => true
  | seen, .closeMark s :: r => (markFirst || seen.contains s) && orderB markFirst (if markFirst then s :: seen else seen) r
  | seen, .closeCbs s :: r => (!markFirst || seen.contains s) && orderB markFirst (if markFirst then seen else s :: seen) r
  | seen, _ :: r => orderB markFirst seen r

def HandlerOrder (markFirst : Bool) (ops : List Op) : Prop := orderB markFirst [] ops = true

instance (markFirst : Bool) (ops : List Op) : Decidable (HandlerOrder markFirst ops) :=
  inferInstanceAs (Decidable (orderB markFirst [] ops = true))

end Iora.Deliver
