import IoraModel.Common.Bytes
import IoraModel.Gen.Json
/-!
Model of `include/iora/parsers/json.hpp` (C13): `JsonParser` (recursive descent with an explicit cursor) and
`Json::_serialize` (compact / pretty / sorted keys).  Core Lean only.

Conventions.
* The cursor `Cur` is the not yet consumed suffix of `_text` together with `_pos`; `_text[_pos]` is the head of the suffix,
  `_pos >= _text.size()` is "the suffix is empty".  `pos + rest.length = _text.size()` is an invariant (`Cur.wf`, behind `Iora.C13.J4_error_offset`).
* Numbers that take the floating path are *not* computed here: `FloatOps.strtod` is applied to the exact token the C++
  hands to `std::strtod`, and `FloatOps.printfG p d` stands for `std::to_chars(…, d, std::chars_format::general, p)` (the `"%.*g"` text of the "C" locale); `Json::_formatDouble` itself (the
  15..17 precision loop, the `.0` suffix, `null` for non-finite values) is modelled (`formatDouble`).  A double is represented by
  its IEEE-754 bit pattern (`UInt64`); only its exponent/fraction fields are inspected (`isFiniteBits`, `dblEq`).  No theorem
  mentions `Float`.
* `Json.obj` is an association list with pairwise distinct keys in the order of first insertion
  (`std::unordered_map::operator[]` + assignment = `insertOrAssign`); the iteration order of the real hash map is not modelled,
  `serialize` takes whatever order the list has (theorem J2 holds for every order).
* Recursion: `parseValue` recurses on a nesting budget (`depthMax + 2`, never exhausted: `Iora.C13.J4_error_offset`); the element /
  member / character loops recurse on a budget equal to the number of remaining bytes + 1 (each iteration consumes a byte).
  `ErrKind.fuel` is the "budget exhausted" outcome and is proved unreachable.
-/
namespace Iora.Json
open Iora

/-- mirrors `struct ParseLimits` -/
structure Limits where
  depthMax : Nat := Gen.Json.depthMaxDefault
  arrayItemsMax : Nat := Gen.Json.arrayItemsMaxDefault
  membersMax : Nat := Gen.Json.membersMaxDefault
  stringLengthMax : Nat := Gen.Json.stringLengthMaxDefault

/-- one constructor per `_error = "..."` message (see `ErrKind.message`); `fuel` has no C++ counterpart -/
inductive ErrKind
  | eof | extra | depth | char | null | bool | number | quote | strlen | eos | unicode | escape | unterminated
  | arrsize | eoa | arrsep | objsize | colon | eoo | objsep | fuel
  deriving DecidableEq, Repr

def ErrKind.message : ErrKind → String
  | .eof => "Unexpected end of input" | .extra => "Extra characters after JSON value" | .depth => "Maximum nesting depth exceeded"
  | .char => "Unexpected character" | .null => "Invalid null literal" | .bool => "Invalid boolean literal"
  | .number => "Invalid number format" | .quote => "Expected '\"'" | .strlen => "String length exceeds limit"
  | .eos => "Unexpected end of string" | .unicode => "Invalid unicode escape" | .escape => "Invalid escape sequence"
  | .unterminated => "Unterminated string" | .arrsize => "Array size exceeds limit" | .eoa => "Unexpected end of array"
  | .arrsep => "Expected ',' or ']'" | .objsize => "Object size exceeds limit" | .colon => "Expected ':'"
  | .eoo => "Unexpected end of object" | .objsep => "Expected ',' or '}'" | .fuel => "<model budget exhausted>"

/-- the value type: mirrors `Json::Value` (`std::variant<nullptr_t, bool, int64_t, double, string, Array, Object>`) -/
inductive Json
  | null
  | bool (b : Bool)
  | int (i : Int)
  | dbl (bits : UInt64)
  | str (s : Bytes)
  | arr (xs : List Json)
  | obj (ms : List (Bytes × Json))

/-- the libc primitives on the floating path, as parameters (a double is its IEEE-754 bit pattern) -/
structure FloatOps where
  /-- `std::strtod` applied to a number token; result as IEEE-754 bits -/
  strtod : Bytes → UInt64
  /-- `std::to_chars(buf, buf + sizeof buf, d, std::chars_format::general, precision)`: the `"%.*g"` text of the "C" locale -/
  printfG : Nat → UInt64 → Bytes

structure Cur where
  rest : Bytes
  pos : Nat

abbrev Err := ErrKind × Nat
abbrev Res (α : Type) := Except Err (α × Cur)

/-- `std::isspace` in the "C" locale on a `char` (bytes ≥ 0x80 are negative and not white space) -/
def isSpace (b : UInt8) : Bool := b == 0x20 || (0x09 ≤ b && b ≤ 0x0D)
/-- `std::isdigit` -/
def isDigit (b : UInt8) : Bool := 0x30 ≤ b && b ≤ 0x39

/-- advance the cursor by one byte (`++_pos`) -/
def Cur.adv (c : Cur) : Cur := ⟨c.rest.tail, c.pos + 1⟩

def skipWsAux : Bytes → Nat → Cur
  | [], p => ⟨[], p⟩
  | b :: r, p => if isSpace b then skipWsAux r (p + 1) else ⟨b :: r, p⟩
/-- mirrors `JsonParser::_skipWhitespace` -/
def skipWs (c : Cur) : Cur := skipWsAux c.rest c.pos

def skipDigitsAux : Bytes → Nat → Cur
  | [], p => ⟨[], p⟩
  | b :: r, p => if isDigit b then skipDigitsAux r (p + 1) else ⟨b :: r, p⟩
/-- `while (_pos < _text.size() && std::isdigit(_text[_pos])) ++_pos;` -/
def skipDigits (c : Cur) : Cur := skipDigitsAux c.rest c.pos

def litNull : Bytes := [0x6E, 0x75, 0x6C, 0x6C]
def litTrue : Bytes := [0x74, 0x72, 0x75, 0x65]
def litFalse : Bytes := [0x66, 0x61, 0x6C, 0x73, 0x65]

/-- mirrors `_parseNull` -/
def parseNull (c : Cur) : Res Json :=
  if c.rest.take 4 = litNull then .ok (.null, ⟨c.rest.drop 4, c.pos + 4⟩) else .error (.null, c.pos)

/-- mirrors `_parseBool` -/
def parseBool (c : Cur) : Res Json :=
  if c.rest.take 4 = litTrue then .ok (.bool true, ⟨c.rest.drop 4, c.pos + 4⟩)
  else if c.rest.take 5 = litFalse then .ok (.bool false, ⟨c.rest.drop 5, c.pos + 5⟩)
  else .error (.bool, c.pos)

/-- value of a run of ASCII digits -/
def decVal (ds : Bytes) : Nat := ds.foldl (fun a d => a * 10 + (d.toNat - 48)) 0

/-- `std::from_chars(first, last, std::int64_t&)` on a token of the shape `-?[0-9]+`: `none` = `result_out_of_range` -/
def fromCharsInt64 (tok : Bytes) : Option Int :=
  match tok with
  | 0x2D :: ds => if decVal ds ≤ 2 ^ 63 then some (-(decVal ds : Int)) else none
  | ds => if decVal ds < 2 ^ 63 then some (decVal ds : Int) else none

/-- `if (_pos >= _text.size() || !std::isdigit(_text[_pos])) error; while (... isdigit ...) ++_pos;` -/
def digitsRequired (c : Cur) : Except Nat Cur :=
  match c.rest with
  | d :: _ => if isDigit d then .ok (skipDigits c) else .error c.pos
  | [] => .error c.pos

/-- optional exponent sign -/
def skipSign (c : Cur) : Cur :=
  match c.rest with
  | s :: r => if s = 0x2B ∨ s = 0x2D then ⟨r, c.pos + 1⟩ else c
  | [] => c

/-- optional fraction: position of the "Invalid number format" failure, or (seen, cursor) -/
def scanFrac (c : Cur) : Except Nat (Bool × Cur) :=
  match c.rest with
  | b :: r =>
    if b = 0x2E then
      match digitsRequired ⟨r, c.pos + 1⟩ with
      | .ok c' => .ok (true, c')
      | .error p => .error p
    else .ok (false, c)
  | [] => .ok (false, c)

/-- optional exponent -/
def scanExp (c : Cur) : Except Nat (Bool × Cur) :=
  match c.rest with
  | b :: r =>
    if b = 0x65 ∨ b = 0x45 then
      match digitsRequired (skipSign ⟨r, c.pos + 1⟩) with
      | .ok c' => .ok (true, c')
      | .error p => .error p
    else .ok (false, c)
  | [] => .ok (false, c)

/-- `if (_text[_pos] == '-') ++_pos;` -/
def skipMinus (c : Cur) : Cur :=
  match c.rest with
  | b :: r => if b = 0x2D then ⟨r, c.pos + 1⟩ else c
  | [] => c

/-- the integer part: a digit is required; a leading `0` stands alone -/
def scanInt (c : Cur) : Except Nat Cur :=
  match c.rest with
  | [] => .error c.pos
  | d :: r => if isDigit d then .ok (if d = 0x30 then ⟨r, c.pos + 1⟩ else skipDigits c) else .error c.pos

/-- the scanning half of `_parseNumber`: position of the "Invalid number format" failure, or (`hasDecimal`, cursor after the token) -/
def scanNumber (c : Cur) : Except Nat (Bool × Cur) :=
  match scanInt (skipMinus c) with
  | .error p => .error p
  | .ok c1 =>
    match scanFrac c1 with
    | .error p => .error p
    | .ok (hasFrac, c2) =>
      match scanExp c2 with
      | .error p => .error p
      | .ok (hasExp, c3) => .ok (hasFrac || hasExp, c3)

/-- the conversion half of `_parseNumber` on the token `numStr` -/
def convertNumber (ops : FloatOps) (hasDecimal : Bool) (tok : Bytes) : Json :=
  if hasDecimal then .dbl (ops.strtod tok)
  else match fromCharsInt64 tok with
    | some i => .int i
    | none => .dbl (ops.strtod tok)

/-- mirrors `_parseNumber` (entered with `_text[_pos]` = `-` or a digit) -/
def parseNumber (ops : FloatOps) (c : Cur) : Res Json :=
  match scanNumber c with
  | .error p => .error (.number, p)
  | .ok (hasDecimal, c3) => .ok (convertNumber ops hasDecimal (c.rest.take (c3.pos - c.pos)), c3)

def hexVal (b : UInt8) : Option Nat :=
  if 0x30 ≤ b ∧ b ≤ 0x39 then some (b.toNat - 0x30)
  else if 0x61 ≤ b ∧ b ≤ 0x66 then some (b.toNat - 0x61 + 10)
  else if 0x41 ≤ b ∧ b ≤ 0x46 then some (b.toNat - 0x41 + 10)
  else none

/-- mirrors `_parseHex4`: exactly four hex digits, bounds-checked -/
def parseHex4 : Bytes → Option Nat
  | a :: b :: c :: d :: _ =>
    match hexVal a, hexVal b, hexVal c, hexVal d with
    | some a, some b, some c, some d => some (((a * 16 + b) * 16 + c) * 16 + d)
    | _, _, _, _ => none
  | _ => none

/-- mirrors `_appendUtf8` (`x | (y >> k)` written arithmetically; the operands have disjoint bits) -/
def utf8 (cp : Nat) : Bytes :=
  if cp ≤ Gen.Json.utf8Max1 then [b8 cp]
  else if cp ≤ Gen.Json.utf8Max2 then [b8 (cp / 64 % 32 + 192), b8 (cp % 64 + 128)]
  else if cp ≤ Gen.Json.utf8Max3 then [b8 (cp / 4096 % 16 + 224), b8 (cp / 64 % 64 + 128), b8 (cp % 64 + 128)]
  else [b8 (cp / 262144 % 8 + 240), b8 (cp / 4096 % 64 + 128), b8 (cp / 64 % 64 + 128), b8 (cp % 64 + 128)]

def isHiSurr (cp : Nat) : Bool := Gen.Json.hiSurrLo ≤ cp && cp ≤ Gen.Json.hiSurrHi
def isLoSurr (cp : Nat) : Bool := Gen.Json.loSurrLo ≤ cp && cp ≤ Gen.Json.loSurrHi

/-- the `\uXXXX` that may follow a high surrogate: `_text[_pos+1] == '\\' && _text[_pos+2] == 'u' && _parseHex4(_pos+3, lo) && lo in range` -/
def lowSurrogate (r : Bytes) : Option Nat :=
  match r with
  | a :: b :: r' =>
    if a = 0x5C ∧ b = 0x75 then
      match parseHex4 r' with
      | some lo => if isLoSurr lo then some lo else none
      | none => none
    else none
  | _ => none

/-- what one `\u` escape appends and how many bytes it consumes, counted from the `u`: (code point, bytes consumed) -/
def decodeU (r : Bytes) : Option (Nat × Nat) :=
  match parseHex4 r with
  | none => none
  | some cp =>
    if isHiSurr cp then
      match lowSurrogate (r.drop Gen.Json.hexAdvance) with
      | some lo => some (Gen.Json.supplementaryBase + (cp - Gen.Json.hiSurrLo) * 2 ^ Gen.Json.surrogateShift + (lo - Gen.Json.loSurrLo),
                         1 + Gen.Json.hexAdvance + Gen.Json.pairAdvance)
      | none => some (Gen.Json.replacementCp, 1 + Gen.Json.hexAdvance)
    else if isLoSurr cp then some (Gen.Json.replacementCp, 1 + Gen.Json.hexAdvance)
    else some (cp, 1 + Gen.Json.hexAdvance)

/-- the body of the `while` loop of `_parseString`; the cursor is just after the opening quote.
    `racc` is `str` reversed, `n = str.size()`. -/
def strLoop (lim : Limits) : Nat → Bytes → Nat → Cur → Res Bytes
  | 0, _, _, c => .error (.fuel, c.pos)
  | fuel + 1, racc, n, c =>
    match c.rest with
    | [] => .error (.unterminated, c.pos)
    | b :: r =>
      if b = 0x22 then .ok (racc.reverse, ⟨r, c.pos + 1⟩)
      else if Gen.Json.stringExceeded n lim.stringLengthMax then .error (.strlen, c.pos)
      else if b = 0x5C then
        match r with
        | [] => .error (.eos, c.pos + 1)
        | e :: r2 =>
          if e = 0x75 then
            match decodeU r2 with
            | none => .error (.unicode, c.pos + 1)
            | some (cp, k) => strLoop lim fuel ((utf8 cp).reverse ++ racc) (n + (utf8 cp).length) ⟨r.drop k, c.pos + 1 + k⟩
          else match Gen.Json.parseEscapes.lookup e.toNat with
            | some o => strLoop lim fuel (b8 o :: racc) (n + 1) ⟨r2, c.pos + 2⟩
            | none => .error (.escape, c.pos + 1)
      else strLoop lim fuel (b :: racc) (n + 1) ⟨r, c.pos + 1⟩

/-- mirrors `_parseString` (with the bounds check of the repaired code: an empty suffix is "Expected '\"'") -/
def parseString (lim : Limits) (c : Cur) : Res Bytes :=
  match c.rest with
  | [] => .error (.quote, c.pos)
  | b :: r => if b = 0x22 then strLoop lim (r.length + 1) [] 0 ⟨r, c.pos + 1⟩ else .error (.quote, c.pos)

/-- the `while (true)` loop of `_parseArray`; `racc` is `arr` reversed, `n = arr.size()`; `pv` is `_parseValue(·, depth + 1)` -/
def arrLoop (pv : Cur → Res Json) (lim : Limits) : Nat → List Json → Nat → Cur → Res Json
  | 0, _, _, c => .error (.fuel, c.pos)
  | fuel + 1, racc, n, c =>
    if Gen.Json.arrayExceeded n lim.arrayItemsMax then .error (.arrsize, c.pos) else
    match pv c with
    | .error e => .error e
    | .ok (v, c1) =>
      let c2 := skipWs c1
      match c2.rest with
      | [] => .error (.eoa, c2.pos)
      | b :: r =>
        if b = 0x5D then .ok (.arr (v :: racc).reverse, ⟨r, c2.pos + 1⟩)
        else if b = 0x2C then arrLoop pv lim fuel (v :: racc) (n + 1) (skipWs ⟨r, c2.pos + 1⟩)
        else .error (.arrsep, c2.pos)

/-- mirrors `_parseArray` (entered with `_text[_pos] == '['`) -/
def parseArray (pv : Cur → Res Json) (lim : Limits) (c : Cur) : Res Json :=
  let c1 := skipWs c.adv
  match c1.rest with
  | b :: r => if b = 0x5D then .ok (.arr [], ⟨r, c1.pos + 1⟩) else arrLoop pv lim (c1.rest.length + 1) [] 0 c1
  | [] => arrLoop pv lim 1 [] 0 c1

/-- `obj[key] = value` on `std::unordered_map`: assign if the key exists, else insert -/
def insertOrAssign (k : Bytes) (v : Json) : List (Bytes × Json) → List (Bytes × Json)
  | [] => [(k, v)]
  | (k', v') :: ms => if k' = k then (k', v) :: ms else (k', v') :: insertOrAssign k v ms

/-- the `while (true)` loop of `_parseObject` -/
def objLoop (pv : Cur → Res Json) (lim : Limits) : Nat → List (Bytes × Json) → Cur → Res Json
  | 0, _, c => .error (.fuel, c.pos)
  | fuel + 1, ms, c =>
    if Gen.Json.membersExceeded ms.length lim.membersMax then .error (.objsize, c.pos) else
    match parseString lim c with
    | .error e => .error e
    | .ok (k, c1) =>
      let c2 := skipWs c1
      match c2.rest with
      | [] => .error (.colon, c2.pos)
      | b :: r =>
        if b ≠ 0x3A then .error (.colon, c2.pos) else
        match pv ⟨r, c2.pos + 1⟩ with
        | .error e => .error e
        | .ok (v, c3) =>
          let c4 := skipWs c3
          match c4.rest with
          | [] => .error (.eoo, c4.pos)
          | b :: r =>
            if b = 0x7D then .ok (.obj (insertOrAssign k v ms), ⟨r, c4.pos + 1⟩)
            else if b = 0x2C then objLoop pv lim fuel (insertOrAssign k v ms) (skipWs ⟨r, c4.pos + 1⟩)
            else .error (.objsep, c4.pos)

/-- mirrors `_parseObject` (entered with `_text[_pos] == '{'`) -/
def parseObject (pv : Cur → Res Json) (lim : Limits) (c : Cur) : Res Json :=
  let c1 := skipWs c.adv
  match c1.rest with
  | b :: r => if b = 0x7D then .ok (.obj [], ⟨r, c1.pos + 1⟩) else objLoop pv lim (c1.rest.length + 1) [] c1
  | [] => objLoop pv lim 1 [] c1

/-- mirrors `_parseValue`; the first argument is the nesting budget -/
def parseValue (ops : FloatOps) (lim : Limits) : Nat → Nat → Cur → Res Json
  | 0, _, c => .error (.fuel, c.pos)
  | fuel + 1, depth, c =>
    if Gen.Json.depthExceeded depth lim.depthMax then .error (.depth, c.pos) else
    let c := skipWs c
    match c.rest with
    | [] => .error (.eof, c.pos)
    | b :: _ =>
      if b = 0x6E then parseNull c
      else if b = 0x74 ∨ b = 0x66 then parseBool c
      else if b = 0x22 then
        match parseString lim c with
        | .ok (s, c') => .ok (.str s, c')
        | .error e => .error e
      else if b = 0x5B then parseArray (parseValue ops lim fuel (depth + 1)) lim c
      else if b = 0x7B then parseObject (parseValue ops lim fuel (depth + 1)) lim c
      else if b = 0x2D ∨ isDigit b then parseNumber ops c
      else .error (.char, c.pos)

/-- mirrors `JsonParser::parse()`; the error carries `_pos` at the time of the failure -/
def parse (ops : FloatOps) (lim : Limits) (bs : Bytes) : Except Err Json :=
  let c := skipWs ⟨bs, 0⟩
  match c.rest with
  | [] => .error (.eof, c.pos)
  | _ :: _ =>
    match parseValue ops lim (lim.depthMax + 2) 0 c with
    | .error e => .error e
    | .ok (v, c1) =>
      let c2 := skipWs c1
      match c2.rest with
      | [] => .ok v
      | _ :: _ => .error (.extra, c2.pos)

/-- mirrors `_getLocation`: (line, column) of offset `off` -/
def location (bs : Bytes) (off : Nat) : Nat × Nat :=
  (bs.take off).foldl (fun (lc : Nat × Nat) b => if b = 0x0A then (lc.1 + 1, 1) else (lc.1, lc.2 + 1)) (1, 1)

/-! ### serializer -/

/-- mirrors `struct SerializeOptions` -/
structure Opts where
  pretty : Bool := Gen.Json.prettyDefault
  sortKeys : Bool := Gen.Json.sortKeysDefault
  indent : Bytes := Gen.Json.indentDefault.map b8

def hexLower (n : Nat) : UInt8 := if n < 10 then b8 (48 + n) else b8 (87 + n)

/-- one byte through the `switch` of `_escapeString` -/
def escapeByte (b : UInt8) : Bytes :=
  match Gen.Json.serEscapes.lookup b.toNat with
  | some e => [0x5C, b8 e]
  | none =>
    if b.toNat < Gen.Json.serControlBelow then [0x5C, 0x75, 0x30, 0x30, hexLower (b.toNat / 16), hexLower (b.toNat % 16)]
    else [b]

/-- mirrors `_escapeString` -/
def escapeString (s : Bytes) : Bytes := 0x22 :: (s.flatMap escapeByte ++ [0x22])

/-- decimal digits of a natural number, most significant first (`std::to_string`) -/
def natToDec (n : Nat) : Bytes :=
  if h : n < 10 then [b8 (48 + n)] else natToDec (n / 10) ++ [b8 (48 + n % 10)]
decreasing_by omega

/-- `std::isfinite` on the bit pattern: the exponent field is not all ones -/
def isFiniteBits (b : UInt64) : Bool := decide ((b.toNat / 2 ^ 52) % 2048 ≠ 2047)
/-- `±0.0` -/
def isZeroBits (b : UInt64) : Bool := decide (b.toNat % 2 ^ 63 = 0)
/-- NaN: exponent all ones, fraction non-zero -/
def isNaNBits (b : UInt64) : Bool := decide ((b.toNat / 2 ^ 52) % 2048 = 2047 ∧ b.toNat % 2 ^ 52 ≠ 0)
/-- `operator==` on `double`: NaN equals nothing, `+0.0 == -0.0`, otherwise the bit patterns are equal -/
def dblEq (a b : UInt64) : Bool := !isNaNBits a && !isNaNBits b && (a == b || (isZeroBits a && isZeroBits b))

/-- the `for (precision = lo; precision <= hi; ++precision)` loop of `_formatDouble`: `k` = remaining precisions after `p`;
    the last precision is used unconditionally (the loop ends with its text in `buf`) -/
def fmtSearch (ops : FloatOps) (d : UInt64) : Nat → Nat → Bytes
  | 0, p => ops.printfG p d
  | k + 1, p => if dblEq (ops.strtod (ops.printfG p d)) d then ops.printfG p d else fmtSearch ops d k (p + 1)

/-- `out.find_first_of(".eE") != npos` -/
def hasMarker (s : Bytes) : Bool := s.any fun c => Gen.Json.fmtMarkers.contains c.toNat

/-- mirrors `Json::_formatDouble` -/
def formatDouble (ops : FloatOps) (d : UInt64) : Bytes :=
  if !isFiniteBits d then Gen.Json.fmtNonFinite.toList.map fun c => b8 c.toNat
  else
    let s := fmtSearch ops d (Gen.Json.fmtPrecHi - Gen.Json.fmtPrecLo) Gen.Json.fmtPrecLo
    if hasMarker s then s else s ++ Gen.Json.fmtSuffix.map b8

/-- `std::to_string(std::int64_t)` -/
def intToDec (i : Int) : Bytes :=
  if i < 0 then 0x2D :: natToDec i.natAbs else natToDec i.natAbs

/-- `depth` copies of `options.indent` -/
def indentN (o : Opts) (n : Nat) : Bytes := (List.replicate n o.indent).flatten

def nl (o : Opts) : Bytes := if o.pretty then [0x0A] else []
def ind (o : Opts) (n : Nat) : Bytes := if o.pretty then indentN o n else []

/-- `std::string::operator<` (unsigned bytes, lexicographic) as `≤` -/
def bytesLe : Bytes → Bytes → Bool
  | [], _ => true
  | _ :: _, [] => false
  | a :: as, b :: bs => if a < b then true else if b < a then false else bytesLe as bs

/-- `std::sort(keys)` (keys are pairwise distinct, so the algorithm's stability does not matter) -/
def sortItems (items : List (Bytes × Bytes)) : List (Bytes × Bytes) :=
  items.mergeSort (fun a b => bytesLe a.1 b.1)

/-- the member loop of `_serializeObject` over already serialized values -/
def joinMembers (o : Opts) (depth : Nat) : List (Bytes × Bytes) → Bytes
  | [] => []
  | (k, sv) :: rest =>
    ind o (depth + 1) ++ escapeString k ++ [0x3A] ++ (if o.pretty then [0x20] else []) ++ sv
      ++ (if rest.isEmpty then [] else [0x2C]) ++ nl o ++ joinMembers o depth rest

mutual
/-- mirrors `Json::_serialize` / `_serializeArray` / `_serializeObject`.  The C++ sorts the keys and then serializes each
    value; here the values are serialized first and the (key, text) pairs are sorted — the same text, since serializing a
    value does not depend on its position. -/
def serialize (ops : FloatOps) (o : Opts) (depth : Nat) : Json → Bytes
  | .null => litNull
  | .bool b => if b then litTrue else litFalse
  | .int i => intToDec i
  | .dbl d => formatDouble ops d
  | .str s => escapeString s
  | .arr xs =>
    if xs.isEmpty then [0x5B, 0x5D]
    else [0x5B] ++ nl o ++ serElems ops o depth xs ++ ind o depth ++ [0x5D]
  | .obj ms =>
    if ms.isEmpty then [0x7B, 0x7D]
    else
      let items := serMembers ops o depth ms
      let items := if o.sortKeys then sortItems items else items
      [0x7B] ++ nl o ++ joinMembers o depth items ++ ind o depth ++ [0x7D]
def serElems (ops : FloatOps) (o : Opts) (depth : Nat) : List Json → Bytes
  | [] => []
  | x :: xs =>
    ind o (depth + 1) ++ serialize ops o (depth + 1) x ++ (if xs.isEmpty then [] else [0x2C]) ++ nl o ++ serElems ops o depth xs
def serMembers (ops : FloatOps) (o : Opts) (depth : Nat) : List (Bytes × Json) → List (Bytes × Bytes)
  | [] => []
  | (k, v) :: ms => (k, serialize ops o (depth + 1) v) :: serMembers ops o depth ms
end

end Iora.Json
