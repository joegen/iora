import IoraModel.Lemmas.JsonSort
import IoraModel.Lemmas.JsonApi
/-!
C13 — JSON texts and values round-trip and agree with RFC 8259.

The statements of the property; the proofs rest on `Lemmas/Json.lean` (the postcondition of the parsing functions, UTF-8),
`Lemmas/JsonLimits.lean` (J4, J5), `Lemmas/JsonSpec.lean` (J1), `Lemmas/JsonSer.lean` (J3/J2), `Lemmas/JsonSort.lean` (sorted keys, J3/J2 for
every option set), `Lemmas/JsonApi.lean` (locale layer, non-finite doubles, stream parser, wrappers).

* model: `Model/Json.lean` (`parse`, `serialize`, mirrors `include/iora/parsers/json.hpp` as repaired by F06/F07/F08/F36);
* specification: `Model/JsonSpec.lean` (`SText`: a syntax tree per RFC 8259 production, `render`, `denote`);
* every theorem quantifies over ALL `FloatOps` (the `strtod` / `_formatDouble` parameters), all limits, all trees / values / bytes.
-/
namespace Iora.C13
open Iora Iora.Json Iora.Json.Spec

/-- **J1 (acceptance and reference agreement).** Every RFC 8259 text (`t : SText` spans the grammar: all nine escape forms with
    hex digits of either case, surrogate pairs, every number form, arbitrary insignificant white space, nesting, duplicate keys)
    whose value is within the configured limits is accepted, and decoded to exactly the value the reference semantics assigns. -/
theorem J1_accept_and_decode (ops : FloatOps) (lim : Limits) (t : SText) (hok : t.ok) (hfit : t.fits lim) :
    parse ops lim t.render = .ok (t.denote ops) :=
  parse_render ops lim t hok hfit

/-- non-vacuity of J1: `  {"aé😀" : [1.5e3 , "x\n"], "aé😀":-0}` -- a duplicate key spelled twice -/
def exampleText : SText :=
  let key : List StrItem := [.raw 0x61, .u ⟨0, false⟩ ⟨0, false⟩ ⟨14, false⟩ ⟨9, false⟩, .u ⟨13, true⟩ ⟨8, false⟩ ⟨3, false⟩ ⟨13, true⟩,
    .u ⟨13, true⟩ ⟨14, true⟩ ⟨0, false⟩ ⟨0, false⟩]
  ⟨[.sp, .sp],
   .obj [] (.cons [] key [.sp] [.sp]
      (.arr [] (.cons [] (.num ⟨false, 1, some [0x35], some (false, none, [0x33])⟩) [.sp]
        (.cons [.sp] (.str [.raw 0x78, .esc .n]) [] .nil))) []
      (.cons [.sp] key [] [] (.num ⟨true, 0, none, none⟩) [] .nil)),
   [.lf]⟩

example : exampleText.ok ∧ exampleText.fits {} := by
  refine ⟨?_, ?_⟩
  · simp [exampleText, SText.ok, SVal.ok, SMembers.ok, SElems.ok, SNum.ok, StrItem.ok, Digits1, isDigit]
  · simp [exampleText, SText.fits, SVal.fits, SMembers.fits, SElems.fits, SMembers.length, SElems.length,
      Gen.Json.depthMaxDefault, Gen.Json.membersMaxDefault, Gen.Json.arrayItemsMaxDefault, Gen.Json.stringLengthMaxDefault]
    decide

/-- the text of the example; it denotes (second `example` below) one member — the later duplicate won —, key `a é 😀` in UTF-8, value the integer 0 -/
def exampleBytes : Bytes := [32, 32, 123, 34, 97, 92, 117, 48, 48, 101, 57, 92, 117, 68, 56, 51, 68, 92, 117, 68, 69, 48, 48, 34, 32, 58, 32, 91, 49, 46, 53, 101, 51, 32, 44, 32, 34, 120, 92, 110, 34, 93, 44, 32, 34, 97, 92, 117, 48, 48, 101, 57, 92, 117, 68, 56, 51, 68, 92, 117, 68, 69, 48, 48, 34, 58, 45, 48, 125, 10]

example : exampleText.render = exampleBytes := by decide +kernel
example (ops : FloatOps) : exampleText.denote ops = .obj [([0x61, 0xC3, 0xA9, 0xF0, 0x9F, 0x98, 0x80], .int 0)] := by
  rfl

/-- the parser itself on a concrete short text with a duplicate key: `{"k":1,"k":"\u00e9"}` -/
example (ops : FloatOps) : parse ops {} [123, 34, 107, 34, 58, 49, 44, 34, 107, 34, 58, 34, 92, 117, 48, 48, 101, 57, 34, 125] = .ok (.obj [([0x6B], .str [0xC3, 0xA9])]) := by
  rfl

/-- **J2 (`_formatDouble`, the repository's own logic).** From the four explicit libc facts `LibcOk` (the texts
    `std::to_chars(…, general, p)` writes for `p` = 15, 16, 17 — the `%.{p}g` texts of the "C" locale — are number tokens; the 17-digit
    text reads back exactly; the sign of a zero survives; appending `.0` to an integer-looking token does not change its value) it is
    PROVED that `Json::_formatDouble` — the precision loop that returns the first text that reads back (`strtod(buf) == d`, double
    equality), else the 17-digit text; the `find_first_of(".eE")` test; the `.0` suffix — yields, for every
    finite double, a JSON number token WITH a fraction or an exponent (so it re-parses as a Double, not an Int) that `strtod` reads
    back to the same bit pattern. -/
theorem J2_formatDouble (ops : FloatOps) (hl : LibcOk ops) (d : UInt64) (hd : isFiniteBits d = true) :
    ∃ n : SNum, n.ok ∧ n.isFloat = true ∧ n.render = formatDouble ops d ∧ ops.strtod (formatDouble ops d) = d :=
  formatDouble_roundtrips hl d hd

/-- the libc hypotheses are satisfiable: a toy libc (bit pattern printed in decimal + `e0`) has them -/
theorem LibcOk_satisfiable : LibcOk toyOps := libcOk_toy

/-- **J2 (round trip, member order kept).** For every value the C++ type can hold that is "made of finite numbers" (`Json.Good`:
    `int64` integers, FINITE doubles, objects with distinct keys), every pretty/compact setting and every indentation made of JSON white
    space, if the value is within the parse limits then parsing its serialization yields the value itself (member order included).
    The only assumption about floating point is `LibcOk`. -/
theorem J2_roundtrip (ops : FloatOps) (hl : LibcOk ops) (lim : Limits) (o : Opts) (wi : Ws) (hind : wi.render = o.indent)
    (hns : o.sortKeys = false) (v : Json) (hg : v.Good) (hw : v.within lim 0 0) :
    parse ops lim (serialize ops o 0 v) = .ok v :=
  parse_serialize ops hl lim o wi hind hns v hg hw

/-- **J2 (round trip with `sortKeys`).** The sorted serialization parses back to `sortDeep v` — the same value with the members of
    every object in key order — and `sortDeep v` equals `v` for `Json::operator==` (`eqv`: `std::variant` / `unordered_map` equality,
    doubles with `operator==`). -/
theorem J2_roundtrip_sorted (ops : FloatOps) (hl : LibcOk ops) (lim : Limits) (o : Opts) (wi : Ws) (hind : wi.render = o.indent)
    (v : Json) (hg : v.Good) (hw : v.within lim 0 0) :
    parse ops lim (serialize ops { o with sortKeys := true } 0 v) = .ok (sortDeep v) ∧ eqv v (sortDeep v) = true := by
  simpa using parse_serialize_any ops hl lim { o with sortKeys := true } wi hind v hg hw

/-- non-vacuity of J2/J3: a nested value with a control character, a quote, a two-byte UTF-8 character, a negative integer and a
    finite double -/
def exampleValue : Json :=
  .obj [([0x62], .arr [.int (-5), .str [0x01, 0x22, 0xC3, 0xA9], .dbl 7, .null]), ([0x61], .bool true)]

example : exampleValue.Good ∧ exampleValue.within {} 0 0 ∧ exampleValue.utf8 ∧ (∃ wi : Ws, wi.render = ({} : Opts).indent) := by
  refine ⟨?_, ?_, ?_, ⟨[.sp, .sp], rfl⟩⟩
  · simp only [exampleValue, Json.Good, Json.GoodMembers, Json.GoodList]
    exact ⟨by decide, ⟨⟨by omega, by omega⟩, trivial, by decide, trivial, trivial⟩, trivial, trivial⟩
  · simp [exampleValue, Json.within, Json.withinMembers, Json.withinList, Gen.Json.depthMaxDefault, Gen.Json.membersMaxDefault,
      Gen.Json.arrayItemsMaxDefault, Gen.Json.stringLengthMaxDefault]
  · simp only [exampleValue]
    exact ⟨⟨['b'], by decide⟩, ⟨trivial, ⟨[Char.ofNat 1, '"', 'é'], by decide⟩, trivial, trivial, trivial⟩, ⟨['a'], by decide⟩, trivial, trivial⟩

/-- **J3 (the serializer's output is RFC 8259 text, in the strict sense).** For every good value whose strings and keys are well-formed
    UTF-8 and every option set with white-space indentation, the output is the rendering of a syntax tree `t` that is well-formed
    (`ok`), STRICT (`SVal.strict`: every string and key is RFC 8259 `*char` — escapes and unescaped characters that are UTF-8 encoded
    scalar values ≥ U+0020 other than `"` and `\`; so control characters are always escaped and the raw bytes are well-formed UTF-8),
    and denotes the value (resp. `sortDeep` of it). -/
theorem J3_output_in_grammar (ops : FloatOps) (hl : LibcOk ops) (o : Opts) (wi : Ws) (hind : wi.render = o.indent) (v : Json)
    (hg : v.Good) (hu : v.utf8) :
    ∃ t : SVal, t.ok ∧ t.strict ∧ t.render = serialize ops o 0 v ∧ t.denote ops = (if o.sortKeys then sortDeep v else v) := by
  obtain ⟨t, hr, hok, hd, -, hst⟩ := serialize_tree_any ops hl o wi hind v hg
  exact ⟨t, hok, hst hu, hr, hd⟩

/-- the strict string grammar is inside the grammar J1 is proved for -/
theorem J3_strict_is_ok (s : List StrItem) (h : StrictItems s) : ∀ i ∈ s, i.ok := by
  induction h with
  | nil => intro i hi; cases hi
  | esc e _ ih => intro i hi; simp only [List.mem_cons] at hi; rcases hi with rfl | hi; exact trivial; exact ih i hi
  | u a1 a2 a3 a4 _ ih => intro i hi; simp only [List.mem_cons] at hi; rcases hi with rfl | hi; exact trivial; exact ih i hi
  | char c h1 h2 h3 _ ih =>
    intro i hi
    simp only [List.mem_append, List.mem_map] at hi
    rcases hi with ⟨b, hb, rfl⟩ | hi
    · simp only [StrItem.ok]
      by_cases h : c.val.toNat < 128
      · rw [utf8Encode_ascii c h] at hb
        simp only [List.mem_singleton] at hb
        subst hb
        have hb : (UInt8.ofNat c.val.toNat).toNat = c.val.toNat := b8_toNat_small (by omega)
        constructor <;> (intro e; rw [← UInt8.toNat_inj, hb] at e; first | exact h2 e | exact h3 e)
      · have := utf8Encode_high c (by omega) b hb
        constructor <;> (intro e; subst e; simp at this)
    · exact ih i hi

/-- **J4 (robustness: error position, totality).** For ARBITRARY bytes, limits and float primitives: a failure reports an offset
    inside the input (`≤ length`), and it is a parser error, never the model's "budget exhausted" outcome — the recursion bounds of
    the model (nesting budget `depthMax + 2`; loop budgets = remaining bytes + 1) are never hit, which is the termination argument of
    the C++.  (`parse` itself is a total function by construction.) -/
theorem J4_error_offset (ops : FloatOps) (lim : Limits) (bs : Bytes) (k : ErrKind) (off : Nat)
    (h : parse ops lim bs = .error (k, off)) : off ≤ bs.length ∧ k ≠ .fuel := by
  have := parse_post ops lim bs; rw [h] at this; exact this

example : parse ⟨fun _ => 0, fun _ _ => []⟩ {} [0x22, 0x5C, 0x75, 0x30, 0x30] = .error (.unicode, 2) := by rfl
example : parse ⟨fun _ => 0, fun _ _ => []⟩ {} [0x7B] = .error (.quote, 1) := by rfl

/-- **J4 (limits).** For ARBITRARY bytes: whatever is accepted respects the limits — every value sits at depth `≤ depthMax`, every
    array has `≤ arrayItemsMax` elements, every object `≤ membersMax` members, every string and key `≤ stringLengthMax + 4` bytes (the
    length guard runs before the append and one `\u` escape appends up to four bytes: the exact bound of the code) — and every
    object has pairwise distinct keys. -/
theorem J4_limits (ops : FloatOps) (lim : Limits) (bs : Bytes) (v : Json) (h : parse ops lim bs = .ok v) :
    v.within lim strSlack 0 ∧ v.distinctKeys := by
  have := parse_post ops lim bs; rw [h] at this; exact this

/-- the slack is real: limit 0, the one-escape string `"€"` is accepted with 3 bytes (the surrogate pair `"\uD83D\uDE00"` with all 4) -/
example : parse ⟨fun _ => 0, fun _ _ => []⟩ { stringLengthMax := 0 } [0x22, 0x5C, 0x75, 0x32, 0x30, 0x61, 0x63, 0x22]
    = .ok (.str [0xE2, 0x82, 0xAC]) := by rfl

/-- **J5 (duplicate keys: the last one wins).** For every object text within the limits, the decoded object maps each key to the
    value of the LAST member with that (decoded) name; `insertOrAssign` is `obj[key] = value`. -/
theorem J5_last_wins (ops : FloatOps) (lim : Limits) (w1 w w2 : Ws) (ms : SMembers)
    (hok : (SText.mk w1 (.obj w ms) w2).ok) (hfit : (SText.mk w1 (.obj w ms) w2).fits lim) :
    ∃ m, parse ops lim (SText.mk w1 (.obj w ms) w2).render = .ok (.obj m) ∧ (m.map Prod.fst).Nodup ∧
      ∀ k, lookupKey k m = ms.lastValue ops k := by
  have h := parse_render ops lim _ hok hfit
  refine ⟨ms.denote ops [], h, ?_, ?_⟩
  · have := (J4_limits ops lim _ _ h).2
    simpa [SText.denote, SVal.denote, Json.distinctKeys] using this.1
  · intro k
    rw [lookupKey_denote]
    exact Option.or_none

/-- **J5 (integers beyond `int64` take the floating path).** A number without fraction and exponent whose value does not fit
    `std::int64_t` is accepted and denotes `strtod` of its own text (a `Double`), e.g. `9223372036854775808`, `-9223372036854775809`. -/
theorem J5_big_integer (ops : FloatOps) (lim : Limits) (neg : Bool) (n : Nat)
    (hbig : if neg then 2 ^ 63 < n else 2 ^ 63 ≤ n) :
    parse ops lim (SNum.render ⟨neg, n, none, none⟩) = .ok (.dbl (ops.strtod (SNum.render ⟨neg, n, none, none⟩))) := by
  have h := parse_render ops lim ⟨[], .num ⟨neg, n, none, none⟩, []⟩ (by simp [SText.ok, SVal.ok, SNum.ok])
    (by simp [SText.fits, SVal.fits])
  simp only [SText.render, SVal.render, ws_render_nil, List.nil_append, List.append_nil, SText.denote, SVal.denote] at h
  rw [h]
  have : ¬ (-(2 ^ 63 : Int) ≤ (if neg then -(n : Int) else n) ∧ (if neg then -(n : Int) else n) < 2 ^ 63) := by
    cases neg <;> simp only [Bool.false_eq_true, ↓reduceIte] at hbig ⊢ <;> omega
  simp only [SNum.denote, SNum.isFloat, Option.isSome_none, Bool.or_self, Bool.false_eq_true, ↓reduceIte, if_neg this]

/-- **J5 (the assignment itself).** After `obj[k] = v` a lookup of `k` yields `v`; every other key is unchanged. -/
theorem J5_assign (k k' : Bytes) (v : Json) (ms : List (Bytes × Json)) :
    lookupKey k' (insertOrAssign k v ms) = if k = k' then some v else lookupKey k' ms :=
  lookupKey_insertOrAssign k k' v ms

/-- **U1 (UTF-8).** `_appendUtf8` is core Lean's `String.utf8EncodeChar` on every `Char`; every `\u` escape — single, surrogate pair,
    or lone surrogate — is decoded to a Unicode scalar value and appended as its UTF-8 encoding. -/
theorem U1_utf8 : (∀ c : Char, utf8 c.val.toNat = String.utf8EncodeChar c) ∧
    (∀ r cp k, decodeU r = some (cp, k) → ∃ c : Char, c.val.toNat = cp ∧ utf8 cp = String.utf8EncodeChar c) :=
  ⟨utf8_eq_core, fun _ _ _ => decodeU_char⟩

/-! ### any numeric locale (repair FC13b) -/

/-- **L0 (`detail::jsonToDouble` is locale independent).** In a process whose `LC_NUMERIC` decimal point is ANY `dp` for which libc
    keeps its contract (`LocaleLibc`: `dp` is not empty and `strtod` reads the localised token as the "C" strtod reads the JSON
    token), the helper — `find('.')`, `replace(dot, 1, point)`, `strtod` — returns for every JSON number token what the "C" locale's
    `strtod` returns for it. -/
theorem L0_toDouble_locale_free (lc : Libc) (dp : Bytes) (hl : LocaleLibc lc dp) (n : SNum) (hok : n.ok) :
    jsonToDouble lc dp n.render = lc.strtodL pointC n.render :=
  jsonToDouble_render hl n hok

/-- **L1 (J1 without the "C" locale).** Every RFC 8259 text within the limits is accepted in every such process and decodes to the
    value it denotes in the "C" locale. -/
theorem L1_decode_any_locale (lc : Libc) (dp : Bytes) (hl : LocaleLibc lc dp) (lim : Limits) (t : SText) (hok : t.ok) (hfit : t.fits lim) :
    parse (opsIn lc dp) lim t.render = .ok (t.denote (opsIn lc pointC)) := by
  rw [parse_render (opsIn lc dp) lim t hok hfit, denote_locale_free hl t hok]

/-- **L2 (J2 without the "C" locale).** The libc facts are assumed for the "C" locale only (`LibcOk (opsIn lc pointC)`); the round
    trip holds in every process locale. -/
theorem L2_roundtrip_any_locale (lc : Libc) (dp : Bytes) (hc : LibcOk (opsIn lc pointC)) (hl : LocaleLibc lc dp) (lim : Limits) (o : Opts)
    (wi : Ws) (hind : wi.render = o.indent) (hns : o.sortKeys = false) (v : Json) (hg : v.Good) (hw : v.within lim 0 0) :
    parse (opsIn lc dp) lim (serialize (opsIn lc dp) o 0 v) = .ok v :=
  parse_serialize (opsIn lc dp) (libcOk_opsIn hc hl) lim o wi hind hns v hg hw

/-- **L2 (with `sortKeys`).** `J2_roundtrip_sorted` in every process locale. -/
theorem L2_roundtrip_sorted_any_locale (lc : Libc) (dp : Bytes) (hc : LibcOk (opsIn lc pointC)) (hl : LocaleLibc lc dp) (lim : Limits)
    (o : Opts) (wi : Ws) (hind : wi.render = o.indent) (v : Json) (hg : v.Good) (hw : v.within lim 0 0) :
    parse (opsIn lc dp) lim (serialize (opsIn lc dp) { o with sortKeys := true } 0 v) = .ok (sortDeep v) ∧ eqv v (sortDeep v) = true :=
  J2_roundtrip_sorted (opsIn lc dp) (libcOk_opsIn hc hl) lim o wi hind v hg hw

/-- **L3 (J3 without the "C" locale).** -/
theorem L3_output_any_locale (lc : Libc) (dp : Bytes) (hc : LibcOk (opsIn lc pointC)) (hl : LocaleLibc lc dp) (o : Opts) (wi : Ws)
    (hind : wi.render = o.indent) (v : Json) (hg : v.Good) (hu : v.utf8) :
    ∃ t : SVal, t.ok ∧ t.strict ∧ t.render = serialize (opsIn lc dp) o 0 v ∧
      t.denote (opsIn lc dp) = (if o.sortKeys then sortDeep v else v) :=
  J3_output_in_grammar (opsIn lc dp) (libcOk_opsIn hc hl) o wi hind v hg hu

/-- **L4 (the serializer writes the same bytes in every locale).** `dump()` / `serialize` of ANY value (no hypothesis on the value) under
    decimal point `dp` is byte for byte the "C"-locale output. -/
theorem L4_output_bytes_locale_free (lc : Libc) (dp : Bytes) (hc : LibcOk (opsIn lc pointC)) (hl : LocaleLibc lc dp) (o : Opts) (v : Json) :
    serialize (opsIn lc dp) o 0 v = serialize (opsIn lc pointC) o 0 v :=
  serialize_locale_free hc hl o 0 v

/-- a toy libc with a locale: reads the leading digits whatever follows them -/
def toyLibc : Libc := { strtodL := fun _ tok => toyOps.strtod tok, toCharsG := toyOps.printfG }

theorem toyLibc_C : opsIn toyLibc pointC = toyOps := by
  simp only [opsIn, toyLibc, toyOps]
  congr 1

/-- the hypotheses of L0–L3 are satisfiable with a decimal COMMA -/
theorem LocaleLibc_satisfiable : LibcOk (opsIn toyLibc pointC) ∧ LocaleLibc toyLibc [0x2C] := by
  refine ⟨by rw [toyLibc_C]; exact libcOk_toy, by decide, ?_⟩
  intro n hok
  show UInt64.ofNat (decVal (leadDigits (n.renderL [0x2C]))) = UInt64.ofNat (decVal (leadDigits n.render))
  -- both tokens continue after the integer part with `.`, `,`, an exponent or nothing: the toy `strtod` stops there
  have h : ∀ fr : Bytes, HeadNot isDigit (fr ++ n.renderExp) →
      leadDigits ((if n.neg then [0x2D] else []) ++ natToDec n.int ++ fr ++ n.renderExp) = if n.neg then [] else natToDec n.int :=
    fun fr hfr => by rw [List.append_assoc _ fr]; exact leadDigits_token _ _ _ hfr
  have he : HeadNot isDigit (n.renderExp ++ []) := renderExp_head n [] ⟨rfl, rfl⟩ HeadNot.nil
  rw [List.append_nil] at he
  rw [SNum.renderL, SNum.render, SNum.renderFrac]
  cases n.frac with
  | none => rw [h [] he]
  | some ds => rw [h _ (.cons _ rfl), h _ (.cons _ rfl)]

/-- the helper at work under a decimal comma: `-12.5e3` is handed to strtod as `-12,5e3` -/
example : substPoint [0x2C] [0x2D, 0x31, 0x32, 0x2E, 0x35, 0x65, 0x33] = [0x2D, 0x31, 0x32, 0x2C, 0x35, 0x65, 0x33] := by decide

/-! ### non-finite doubles -/

/-- **J3 for non-finite doubles (`NaN`, `±Infinity`).** RFC 8259 has no text for them; `_formatDouble` writes `null`.  For EVERY value
    whose finite part is good (`v.nullify`: every non-finite double replaced by null) the output is the output for `v.nullify`: strict
    RFC 8259 text denoting `v.nullify` — valid JSON, but the round trip yields `null` where the value had NaN/Infinity (J2 cannot
    hold there and is not claimed). -/
theorem J3_nonfinite (ops : FloatOps) (hl : LibcOk ops) (o : Opts) (wi : Ws) (hind : wi.render = o.indent) (v : Json)
    (hg : v.nullify.Good) (hu : v.nullify.utf8) :
    serialize ops o 0 v = serialize ops o 0 v.nullify ∧
    ∃ t : SVal, t.ok ∧ t.strict ∧ t.render = serialize ops o 0 v ∧
      t.denote ops = (if o.sortKeys then sortDeep v.nullify else v.nullify) := by
  have h := (serialize_nullify ops o 0 v).symm
  refine ⟨h, ?_⟩
  rw [h]
  exact J3_output_in_grammar ops hl o wi hind v.nullify hg hu

/-- NaN, +Infinity and -Infinity inside an array serialize as `[null,null,null]` whatever libc does -/
example (ops : FloatOps) : serialize ops { pretty := false } 0 (.arr [.dbl 0x7FF8000000000000, .dbl 0x7FF0000000000000, .dbl 0xFFF0000000000000])
    = [0x5B, 0x6E, 0x75, 0x6C, 0x6C, 0x2C, 0x6E, 0x75, 0x6C, 0x6C, 0x2C, 0x6E, 0x75, 0x6C, 0x6C, 0x5D] := by
  rfl

/-! ### `JsonStreamParser` and the public wrappers -/

/-- **S1 (stream = parse of the concatenation).** For EVERY chunking of a text that `parse` accepts under the parser's limits:
    after the feeds `finish()` is true, the parser is complete and `value()` is `parse` of the whole text. -/
theorem S1_stream_accepts (ops : FloatOps) (lim : Limits) (chunks : List Bytes) (v : Json) (h : parse ops lim chunks.flatten = .ok v) :
    (streamRun ops lim chunks).2 = true ∧ (streamRun ops lim chunks).1.complete = true ∧ (streamRun ops lim chunks).1.value = v := by
  have hne : chunks ≠ [] := by
    intro e; subst e; simp [parse_nil] at h
  obtain ⟨hc, hv, -⟩ := (streamInv_run ops lim chunks).lastOk v h hne
  rw [streamRun_eq ops lim hne]
  exact ⟨hc, hc, hv⟩

/-- **S2 (an incomplete stream reports the error of the whole text).** -/
theorem S2_stream_error (ops : FloatOps) (lim : Limits) (chunks : List Bytes) (h : (streamRun ops lim chunks).1.complete = false) :
    (streamRun ops lim chunks).2 = false ∧
      ∃ e, parse ops lim chunks.flatten = .error e ∧ (streamRun ops lim chunks).1.error = some (chunks.flatten, e) := by
  cases chunks with
  | nil => exact ⟨rfl, _, rfl, rfl⟩
  | cons c cs =>
    rw [streamRun_eq ops lim (List.cons_ne_nil _ _)] at h ⊢
    exact ⟨h, (streamInv_run ops lim _).pending h (List.cons_ne_nil _ _)⟩

/-- **S3 (a latched value is the parse of a chunk-boundary prefix)** — so it respects the limits (J4) whatever is fed afterwards.
    (The latch is not released by later feeds: `feed("1")`, `feed(" x")` leaves `complete()` with value 1 — the model's and the
    code's behaviour; S1 is the statement for texts that parse as a whole.) -/
theorem S3_stream_value (ops : FloatOps) (lim : Limits) (chunks : List Bytes) (h : (streamRun ops lim chunks).1.complete = true) :
    ∃ k, k ≤ chunks.length ∧ parse ops lim (chunks.take k).flatten = .ok (streamRun ops lim chunks).1.value ∧
      (streamRun ops lim chunks).1.value.within lim strSlack 0 := by
  cases chunks with
  | nil => cases h
  | cons c cs =>
    rw [streamRun_eq ops lim (List.cons_ne_nil _ _)] at h ⊢
    obtain ⟨k, hk, hp⟩ := (streamInv_run ops lim _).latched h
    exact ⟨k, hk, hp, (J4_limits ops lim _ _ hp).1⟩

example : (streamRun ⟨fun _ => 0, fun _ _ => []⟩ {} [[0x31], [0x20, 0x78]]).1.complete = true ∧
    (streamRun ⟨fun _ => 0, fun _ _ => []⟩ {} [[0x31], [0x20, 0x78]]).1.value = .int 1 := by
  constructor <;> rfl

/-- **W1 (throwing wrappers).** `parseOrThrow` returns exactly what `parse` accepts, and throws exactly `parse`'s error with the
    line/column of its offset (`_getLocation`). -/
theorem W1_parseOrThrow (ops : FloatOps) (lim : Limits) (bs : Bytes) :
    (∀ v, parseOrThrow ops lim bs = .ok v ↔ parse ops lim bs = .ok v) ∧
    (∀ t, parseOrThrow ops lim bs = .error t ↔ ∃ k off, parse ops lim bs = .error (k, off) ∧ t = (k, location bs off)) :=
  ⟨parseOrThrow_ok ops lim bs, parseOrThrow_error ops lim bs⟩

/-- **W2 (the gap of `operator>>`).**  `operator<<` writes `dump()` of any value, `operator>>` reads with the DEFAULT
    `ParseLimits`: a value beyond the defaults (here an array of `arrayItemsMaxDefault + 1` nulls — a good value with valid strings)
    does NOT come back through the stream operators, although J2 holds for it under limits that allow it.  This is why J2 carries
    `v.within lim`, and why `JsonFileStore` (property C11) re-reads its own file with limits of its own (`ownFileLimits()`, repair FC11c)
    and not with the defaults. -/
theorem W2_stream_operators_gap (ops : FloatOps) :
    ∃ v : Json, v.Good ∧ v.utf8 ∧ readStream ops (writeStream ops v) ≠ .ok v := by
  refine ⟨.arr (List.replicate (Gen.Json.arrayItemsMaxDefault + 1) .null), ?_, ?_, ?_⟩
  · exact (goodList_iff _).mpr fun x hx => by rw [List.eq_of_mem_replicate hx]; trivial
  · exact (utf8List_iff _).mpr fun x hx => by rw [List.eq_of_mem_replicate hx]; trivial
  · intro h
    have hp := (parseOrThrow_ok ops {} _ _).mp h
    have hw := (J4_limits ops {} _ _ hp).1
    simp only [Json.within, List.length_replicate] at hw
    omega

/-- **W3 (`_getLocation`).** The line reported for offset `off` is 1 + the number of line feeds before it; the column is at least 1
    and at most `off + 1`. -/
theorem W3_location (bs : Bytes) (off : Nat) :
    (location bs off).1 = 1 + (bs.take off).count 0x0A ∧ 1 ≤ (location bs off).2 ∧ (location bs off).2 ≤ off + 1 := by
  obtain ⟨h1, h2, h3⟩ := location_aux (bs.take off) 1 1 (Nat.le_refl _)
  have : (bs.take off).length ≤ off := List.length_take_le _ _
  exact ⟨h1, h2, by unfold location; omega⟩

/-! ### conformance of the generated facts (`Gen/Json.lean`, regenerated from the working tree on every run)

The model *uses* the limits defaults, the four guards, both escape tables, the surrogate constants, the UTF-8 thresholds and the
`_pos` advances directly (a change of the source changes the model and breaks the proofs above that unfold them).  What the model
hard-codes instead is compared here: a change of the source makes `rfl` fail. -/

/-- error messages per parser function in source order (`Expected '['` / `'{'` are unreachable: the dispatch guarantees the byte) -/
def expectedMessages : List (String × List String) := [
  ("parse", [ErrKind.eof.message, ErrKind.extra.message, "Parse error"]),
  ("_parseValue", [ErrKind.depth.message, ErrKind.eof.message, ErrKind.char.message]),
  ("_parseNull", [ErrKind.null.message]),
  ("_parseBool", [ErrKind.bool.message]),
  ("_parseNumber", [ErrKind.number.message, ErrKind.number.message, ErrKind.number.message]),
  ("_parseString", [ErrKind.quote.message, ErrKind.strlen.message, ErrKind.eos.message, ErrKind.unicode.message,
    ErrKind.escape.message, ErrKind.unterminated.message]),
  ("_parseArray", ["Expected '['", ErrKind.arrsize.message, ErrKind.eoa.message, ErrKind.arrsep.message]),
  ("_parseObject", ["Expected '{'", ErrKind.objsize.message, ErrKind.colon.message, ErrKind.eoo.message, ErrKind.objsep.message])]

/-- nesting depth up to which the default `depthMax` may grow without the check having to be re-justified (see `gen_conformance`) -/
def stackSafeDepth : Nat := 1000
/-- largest default `arrayItemsMax` / `membersMax` the boundary stream of props/c13.py reaches exactly -/
def sizeCap : Nat := 100000
/-- largest default `stringLengthMax` the boundary stream reaches exactly -/
def stringCap : Nat := 2000000

/-- the longest text `%.17g` produces for a double: sign, 17 digits, the point, `e`, exponent sign, three exponent digits -/
def fmtLongest : Nat := 1 + Gen.Json.fmtPrecHi + 1 + 1 + 1 + 3

example : fmtLongest = ("-1.7976931348623157e+308".length) := by decide +kernel

/-- what `Model/JsonApi.lean` mirrors, statement by statement (white space normalised): the constructors `ofUInt64` / `ofFloat` /
    `ofInitList`, copy assignment (identity on values), `pushBack`, `setIndex`, `setKey`, `dumpOpts`/`dump`, `readStream` (DEFAULT limits:
    `parseOrThrow(content)` has no limits argument), `writeStream`, `toStdString`, `parseOrThrow`, `parseFlag`, `StreamSt.feed`,
    `StreamSt.finish`. The model is kept in step with these texts by hand: the comparison below pins the source, not the model. -/
def expectedSurface : List (String × String) := [
  ("Json(integral T)", "static_cast<std::int64_t>(i)"),
  ("Json(float)", "static_cast<double>(f)"),
  ("Json(double)", "d"),
  ("Json(initializer_list)", "Array(init)"),
  ("operator=(const Json&)", "if (this != &other) { _value = other._value; }"),
  ("push_back(const Json&)", "if (!isArray()) { _value = Array{}; } getArray().push_back(val);"),
  ("push_back(Json&&)", "if (!isArray()) { _value = Array{}; } getArray().push_back(std::move(val));"),
  ("operator[](size_t)", "if (!isArray()) { _value = Array{}; } auto &arr = getArray(); while (arr.size() <= index) { arr.push_back(Json()); } return arr[index];"),
  ("operator[](const std::string&)", "if (!isObject()) { _value = Object{}; } return getObject()[key];"),
  ("dump", "SerializeOptions opts; if (indent >= 0) { opts.pretty = true; opts.indent = std::string(indent, indent_char); } opts.sortKeys = sort_keys; return serialize(opts);"),
  ("operator>>", "std::string content((std::istreambuf_iterator<char>(is)), std::istreambuf_iterator<char>()); j = Json::parseOrThrow(content); return is;"),
  ("operator<<", "os << j.dump(); return os;"),
  ("operator std::string", "if (isString()) return getString(); return dump();"),
  ("parseOrThrow", "auto result = parse(text, limits); if (!result.ok) { throw parse_error(\"JSON parse error at line \" + std::to_string(result.error.where.line) + \", column \" + std::to_string(result.error.where.column) + \": \" + result.error.message); } return std::move(result.value);"),
  ("safe_parse", "auto result = parse(std::string_view(text)); return result.ok ? std::move(result.value) : Json();"),
  ("parse(text, nullptr, bool)", "if (allow_exceptions) { return parseOrThrow(text); } else { auto result = parse(std::string_view(text)); return result.ok ? std::move(result.value) : Json(); }"),
  ("JsonStreamParser::feed", "_buffer.append(chunk.data(), chunk.size()); auto result = Json::parse(_buffer, _limits); if (result.ok) { _value = std::move(result.value); _complete = true; _error = JsonError{}; return true; } else { _error = result.error; return false; }"),
  ("JsonStreamParser::finish", "if (_complete) return true; auto result = Json::parse(_buffer, _limits); if (result.ok) { _value = std::move(result.value); _complete = true; _error = JsonError{}; return true; } _error = result.error; return false;"),
  ("parse(const std::string&)", "return parseOrThrow(text);"),
  ("parseString", "return parseOrThrow(text);"),
  ("serialize", "return _serialize(options, 0);")]

/-- `_parseHex4`'s digit ranges as the model's `hexVal` -/
def hexValGen (b : UInt8) : Option Nat :=
  Gen.Json.hexRanges.findSome? fun (lo, hi, base) => if lo ≤ b.toNat ∧ b.toNat ≤ hi then some (b.toNat - lo + base) else none

/-- the model's `hexVal` tests the three generated ranges in the generated order -/
theorem hexVal_eq_gen (b : UInt8) : Iora.Json.hexVal b = hexValGen b := by
  simp only [hexValGen, Gen.Json.hexRanges, List.findSome?]
  unfold Iora.Json.hexVal
  simp only [UInt8.le_iff_toNat_le, UInt8.toNat_ofNat, Nat.add_zero]
  split
  · rfl
  · split
    · rfl
    · split <;> rfl

theorem gen_conformance :
    Gen.Json.errorMessages = expectedMessages ∧
    Gen.Json.literals = ["null", "true", "false"] ∧
    Gen.Json.dispatch = [("_parseNull", [0x6E]), ("_parseBool", [0x74, 0x66]), ("_parseString", [0x22]), ("_parseArray", [0x5B]),
      ("_parseObject", [0x7B]), ("_parseNumber", [0x2D, 0x30, 0x31, 0x32, 0x33, 0x34, 0x35, 0x36, 0x37, 0x38, 0x39])] ∧
    (Gen.Json.wsPredicate, Gen.Json.digitPredicate, Gen.Json.intType, Gen.Json.intConversion, Gen.Json.doubleConversion,
      Gen.Json.memberInsertion) = ("std::isspace", "std::isdigit", "int64_t", "std::from_chars", "detail::jsonToDouble", "operator[]-assign") ∧
    (∀ n, n < 256 → Iora.Json.hexVal (b8 n) = hexValGen (b8 n)) ∧
    Gen.Json.appendUtf8Literals = [127, 2047, 192, 6, 128, 63, 65535, 224, 12, 128, 6, 63, 128, 63, 240, 18, 128, 12, 63, 128, 6, 63, 128, 63] ∧
    (Gen.Json.serControlFormat, Gen.Json.fmtFormat, Gen.Json.fmtNonFinite, Gen.Json.toDoublePrimitive) =
      ("%04x", "std::to_chars/general", "null", "std::strtod") ∧
    (Gen.Json.fmtPrecLo = 15 ∧ Gen.Json.fmtPrecHi = 17 ∧ Gen.Json.fmtMarkers = [0x2E, 0x65, 0x45] ∧ Gen.Json.fmtSuffix = [0x2E, 0x30]) ∧
    Gen.Json.publicSurface = expectedSurface ∧
    Gen.Json.serArrayLiterals = ["[]", "[", "\n", ",", "\n", "]"] ∧
    Gen.Json.serObjectLiterals = ["{}", "{", "\n", ":", " ", ",", "\n", "}"] ∧
    -- the <cctype> predicates get an `unsigned char`; `_formatDouble`'s buffer is an automatic array big enough for the longest
    -- `%.17g` text (`-1.7976931348623157e+308`: `fmtLongest` characters; `std::to_chars` writes no terminator)
    (Gen.Json.charClassArg = "unsigned char" ∧ Gen.Json.fmtBufAutomatic = true ∧ fmtLongest ≤ Gen.Json.fmtBufSize) ∧
    -- the DEFAULT limits stay where this check exercises them: nesting is bounded by the measured stack-safe depth (the recursive
    -- descent uses one C++ stack frame chain per level; props/c13.py measures the bytes per level of the real parser on every run and
    -- checks `stackSafeDepth * bytes per level <= 1/4 of the default 8 MiB stack`), sizes by the generator's boundary stream
    (Gen.Json.depthMaxDefault ≤ stackSafeDepth ∧ Gen.Json.arrayItemsMaxDefault ≤ sizeCap ∧ Gen.Json.membersMaxDefault ≤ sizeCap ∧
      Gen.Json.stringLengthMaxDefault ≤ stringCap) := by
  refine ⟨rfl, rfl, rfl, rfl, fun n _ => hexVal_eq_gen (b8 n), rfl, rfl, ⟨rfl, rfl, rfl, rfl⟩, rfl, rfl, rfl, ⟨rfl, rfl, by decide⟩, by decide⟩

end Iora.C13
