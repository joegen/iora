import IoraModel.Lemmas.TpPool
/-!
# C09 — Every accepted task runs exactly once before pool shutdown completes

The model is `Model/ThreadPool.lean`: the monitor
model of `iora::core::ThreadPool` at DetSched granularity, with the spawn protocol as repaired by
fixes/F24-threadpool-atomic-spawn.patch, the wait of a concurrent `shutdown()` caller as repaired by
fixes/FC09a-threadpool-concurrent-shutdown-waits.patch (numbered shutdowns: fixes/FC09d-threadpool-shutdown-epoch.patch), the clamp of
`_maxSize` of fixes/FC09b-threadpool-maxsize-clamp.patch, the restart path of fixes/FC09c-threadpool-start-respects-bound.patch and the
handling of a failed thread creation of fixes/FC09e-threadpool-spawn-failure.patch.
"For every schedule" = `∀ sched : List Choice` (thread choice, which sleeper a
`notify_one` wakes, time-outs, spurious wake-ups, late clocks, hash order of the join loop); the scripts of the
controller thread, of ANY NUMBER of additional controller threads (`Cfg.ctls`: each may call drain / stop / shutdown and
submit, concurrently with each other), of the submitters and of the task bodies (`Cfg`) are arbitrary too.

Declared assumptions (see `CfgOk`, and the level note of C09 in MANIFEST.json): the shutdown mode is IMMEDIATE or GRACEFUL; the pool is not
restarted (`reset()` + `start()` after `stop()`): the restart path is part of the model, of the source conformance
theorems and of the run-time check, but the theorems below are proved for `allowRestart = false`; only thread 0 destroys
the pool (the additional controllers never run the destructor — the model ignores a `destroy` in their scripts).
-/
namespace Iora.C09
open Iora.ThreadPool

/-- hypotheses on the configuration: the shutdown mode is IMMEDIATE or GRACEFUL (DETACHED does not wait for the workers —
excluded, as stated in DESIGN §7 C09); no restart after `stop()`.  Nothing is assumed about `initialSize`, `maxSize`
(0 and values below `initialSize` included: the constructor clamps, `Cfg.effMax`), the queue bound, the scripts, or the
number of controller threads. -/
structure CfgOk (cfg : Cfg) : Prop where
  joined : cfg.detached = false
  norestart : cfg.allowRestart = false

/-- what the properties about every schedule are projections of -/
theorem CfgOk.inv {cfg : Cfg} (hc : CfgOk cfg) (sched : List Choice) : AllInv cfg (run cfg sched) :=
  allInv_run cfg hc.joined hc.norestart sched

/-- `stop()` returned ok (4), `shutdown()` returned (7) or the destructor returned (8, 9) at some point of the run -/
def Returned (s : St) : Prop := ∃ c, c ∈ s.sh.mlog ∧ isReturnCode c

theorem Returned.quiesced {cfg : Cfg} {sched : List Choice} (hr : Returned (run cfg sched)) (hc : CfgOk cfg) :
    (run cfg sched).sh.quiesced = true := by
  obtain ⟨c, hcm, hcr⟩ := hr
  exact (hc.inv sched).c.gok.log c hcm hcr

/-- a small scenario: 1 worker (min = max = 1), the controller submits one task, calls `stop()`, destroys the pool -/
def exCfg : Cfg :=
  { initialSize := 1, maxSize := 1, maxQueue := 2, detached := false, hook := false,
    bodies := [{ acts := [], throws := false }], main := [.act ⟨.enq, 0⟩, .stop, .destroy] }

/-- the schedule of a real DetSched run of this scenario (harness/c09_tp.cpp, seed 5), as accepted by the driver -/
def exSched : List Choice :=
  [.run 0 0, .run 0 0, .run 0 0, .run 1 0, .run 0 0, .run 1 0, .run 0 0, .run 1 0, .run 0 0, .run 0 0, .run 0 0, .run 0 1, .run 1 1,
   .run 1 0, .run 1 0, .run 0 0, .run 1 0, .run 1 0, .timeout 1, .run 1 1, .run 1 0, .run 0 0, .run 0 0, .run 1 0, .run 1 0, .run 0 0,
   .run 0 0, .run 0 0, .run 0 0, .run 0 0, .run 0 0, .run 0 0, .run 1 1, .run 1 0, .run 0 0, .run 0 0, .run 0 0, .run 0 1, .run 0 0,
   .run 0 0, .run 0 0, .run 0 0, .run 0 0, .run 0 0, .run 0 0, .run 0 0]

/-- two controller threads: thread 0 submits a task, starts a second controller whose script is `shutdown()`, and calls
`shutdown()` itself; then joins the second controller and destroys the pool -/
def exCfg2 : Cfg :=
  { initialSize := 1, maxSize := 1, maxQueue := 2, detached := false, hook := false,
    bodies := [{ acts := [], throws := false }], ctls := [[.shutdown]],
    main := [.act ⟨.enq, 0⟩, .spawnCtl 0, .shutdown, .joinSubs, .destroy] }

/-- a real DetSched run of it (seed 7): thread 0 owns the shutdown; thread 2 finds `_shutdown` set and polls
`_shutdownCompleteEpoch` (7 steps at `sDoneZ`) until thread 0 has joined the worker -/
def exSched2 : List Choice :=
  [.run 0 0, .run 0 0, .run 0 0, .run 0 0, .run 1 0, .run 0 0, .run 1 0, .run 0 0, .run 1 0, .run 0 0, .run 0 0, .run 0 1, .run 0 0,
   .run 1 1, .run 1 0, .run 1 0, .run 0 0, .run 1 0, .run 2 0, .run 2 0, .run 1 0, .timeout 1, .run 0 0, .run 0 0, .run 0 0, .run 2 0,
   .run 0 0, .run 2 0, .run 0 0, .run 0 0, .run 0 0, .run 0 0, .run 0 0, .run 0 1, .run 2 0, .run 2 0, .run 2 0, .run 2 0, .run 0 0,
   .run 1 1, .run 1 0, .run 0 0, .run 2 0, .run 0 0, .run 0 0, .run 0 0, .run 2 0, .run 2 0, .run 0 0, .run 0 0, .run 0 0, .run 0 0,
   .run 0 0]

/- `CfgOk` is satisfiable, and in the first run `stop()` returns ok (4), `shutdown()` (7) and the destructor (8) return, one
task is accepted, started once and finished once, and the queue had been non-empty on the way (prefix of 12 steps): the
hypotheses of P2, P3, P5b and P6 are met by non-trivial states.  In the second run both `shutdown()` calls return (7, 7),
the second one after waiting, and the destructor returns (8). -/
example : CfgOk exCfg := ⟨rfl, rfl⟩
example : CfgOk exCfg2 := ⟨rfl, rfl⟩
example : (run exCfg exSched).sh.mlog = [8, 4, 7] := by decide +kernel
set_option maxRecDepth 8000 in
example : (run exCfg2 exSched2).sh.mlog = [8, 7, 7] := by decide +kernel
set_option maxRecDepth 8000 in
example : (match (run exCfg2 (exSched2.take 36)).thr[2]? with | some (.main (.sDoneZ 1) _) => true | _ => false) = true ∧
    (run exCfg2 (exSched2.take 36)).sh.complete = 0 ∧ (run exCfg2 exSched2).sh.complete = 1 := by decide +kernel
example : Returned (run exCfg exSched) := ⟨8, by decide +kernel, Or.inr (Or.inr (Or.inl rfl))⟩
example : (run exCfg exSched).sh.result 0 = .accepted ∧ (run exCfg exSched).sh.accCnt 0 = 1 ∧
    (run exCfg exSched).sh.startCnt 0 = 1 ∧ (run exCfg exSched).sh.doneCnt 0 = 1 := by decide +kernel
example : (run exCfg (exSched.take 12)).sh.tasks ≠ [] := by decide +kernel
example : (run exCfg exSched).sh.threads.length = 0 ∧ (run exCfg (exSched.take 12)).sh.threads.length = 1 := by decide +kernel
example : (run exCfg (exSched.take 12)).sh.shutdown = false ∧ (run exCfg (exSched.take 12)).thr.countP liveWorker = 1 := by decide +kernel
/-- `maxSize = 0` (also the default when `hardware_concurrency()` is 0) is clamped: -/
example : ({ exCfg with initialSize := 0, maxSize := 0 } : Cfg).effMax = 1 ∧ ({ exCfg with initialSize := 3, maxSize := 1 } : Cfg).effMax = 3 := by decide

/-- **P1 (conservation).** In every reachable state, for every task id: the number of accepted submissions equals
queued + in a worker's hand + finished, and the number of started bodies equals running + finished.  Hence no
accepted submission is ever lost or duplicated, and no body starts more often than its task was accepted. -/
theorem P1_conservation (cfg : Cfg) (hc : CfgOk cfg) (sched : List Choice) (id : Nat) :
    let s := run cfg sched
    s.sh.tasks.count id + handCnt s.thr id + s.sh.doneCnt id = s.sh.accCnt id ∧
    s.sh.startCnt id = runCnt s.thr id + s.sh.doneCnt id ∧
    s.sh.startCnt id ≤ s.sh.accCnt id := by
  have h := conserved_run cfg hc.norestart sched
  exact ⟨h.1 id, h.2 id, h.start_le id⟩

/-- **An id is decided once.** In every reachable state (any mode, with or without restart): submission `id` has
outcome "accepted" iff it has been pushed exactly once; no id is pushed twice. -/
theorem accepted_iff_pushed_once (cfg : Cfg) (sched : List Choice) (id : Nat) :
    ((run cfg sched).sh.result id = .accepted ↔ (run cfg sched).sh.accCnt id = 1) ∧ (run cfg sched).sh.accCnt id ≤ 1 := by
  have h := (idInv_run cfg sched).acc id
  cases hr : (run cfg sched).sh.result id <;> rw [hr] at h <;>
    first | (have := h.1 rfl; exact ⟨⟨fun _ => this, fun _ => rfl⟩, by omega⟩)
          | (have := h.2 nofun; exact ⟨⟨nofun, fun h1 => by omega⟩, by omega⟩)

/-- **P2 (join ⇒ finished; exactly once).** Whenever `stop()` has returned ok, or `shutdown()` — called by ANY controller
thread, also one that found `_shutdown` already set — or the destructor has returned: the queue is empty, no thread has a
task in hand, every worker has left its loop, every accepted submission has been started exactly once and has finished
exactly once, and no other submission has started. -/
theorem P2_returns_only_when_finished (cfg : Cfg) (hc : CfgOk cfg) (sched : List Choice) (hr : Returned (run cfg sched)) :
    let s := run cfg sched
    s.sh.tasks = [] ∧
    (∀ (t : Nat) (th : Thread), s.thr[t]? = some th → cur th = none ∧ (isWorker th = true → goneW th = true)) ∧
    (∀ id, s.sh.result id = .accepted → s.sh.startCnt id = 1 ∧ s.sh.doneCnt id = 1) ∧
    (∀ id, s.sh.result id ≠ .accepted → s.sh.startCnt id = 0 ∧ s.sh.doneCnt id = 0) :=
  ((hc.inv sched).q (hr.quiesced hc)).finished (conserved_run cfg hc.norestart sched) (idInv_run cfg sched)

/-- **P3 (nothing starts afterwards).** After `stop()` (ok), `shutdown()` (of any controller thread) or the destructor
has returned, no task body starts any more, whatever the threads do. -/
theorem P3_no_start_after_return (cfg : Cfg) (hc : CfgOk cfg) (sched more : List Choice) (hr : Returned (run cfg sched)) :
    (run cfg (sched ++ more)).sh.startCnt = (run cfg sched).sh.startCnt := by
  rw [run_append]
  exact quiet_runFrom cfg hc.joined hc.norestart more _ (hc.inv sched) (hr.quiesced hc)

/-- **P5a (the idle exit sees an empty queue).** Whenever a step takes a worker from its loop into its exit path
(idle time-out above the minimum, or shutdown), the queue is empty in that very critical section. -/
theorem P5_exit_decision_with_empty_queue (cfg : Cfg) (sh : Shared) (n t : Nat) (w : WSt) (alt : Nat)
    (h0 : tailW (.worker w) = false) (h1 : tailW (.worker (transW cfg sh n t w).2.1) = true) :
    sh.tasks = [] ∧ (transW cfg sh n t w).1.tasks = [] :=
  (transW_step cfg sh n t w alt).eff.exit_empty rfl h0 h1

/-- non-vacuity: a worker at the top of its loop, pool shut down, queue empty: the step takes it into the exit path -/
example : tailW (.worker .lock) = false ∧
    tailW (.worker (transW exCfg { shutdown := true } 2 1 .lock).2.1) = true := by decide

/-- the same for the re-acquisition after a wake-up (time-out, notify, spurious) -/
theorem P5_exit_decision_after_wait (cfg : Cfg) (sh : Shared) (t : Nat) (late : Bool)
    (h1 : tailW (.worker (reacq cfg sh t late).2) = true) : sh.tasks = [] :=
  ((reacq_step cfg sh 0 t false late).eff.exit_empty rfl rfl h1).1

/-- **P5b (no stranded task).** In every reachable state with a non-empty queue there is a guardian: a worker that is
registered in `_threads` (or is being joined) and has not decided to exit — it will look at the queue under the mutex
before it can leave — or a submitter that holds the mutex and is about to create such a worker. -/
theorem P5_no_stranded_task (cfg : Cfg) (hc : CfgOk cfg) (sched : List Choice) (hne : (run cfg sched).sh.tasks ≠ []) :
    let s := run cfg sched
    (∃ (w : Nat) (th : Thread), s.thr[w]? = some th ∧ Guardian s.sh.threads s.thr w th) ∨
    (∃ (t : Nat) (th : Thread), s.thr[t]? = some th ∧ atCreate th = true) :=
  (hc.inv sched).w.guard hne

/-- **P6 (worker bound).** In every reachable state at most `_maxSize` workers are registered in `_threads`
(`getTotalThreadCount()`), where `_maxSize` is the constructor argument clamped to at least `max(initialSize, 1)`
(`Cfg.effMax`); no hypothesis on `initialSize` / `maxSize`. -/
theorem P6_workers_le_max (cfg : Cfg) (hc : CfgOk cfg) (sched : List Choice) :
    (run cfg sched).sh.threads.length ≤ cfg.effMax :=
  (hc.inv sched).size.total

/-- **Live worker threads ≤ max.** Until shutdown, the number of THREADS that are workers and have neither removed
themselves from `_threads` (idle exit: such a worker still holds `_mutex` and only unlocks and returns) nor returned is at
most `_maxSize`. -/
theorem P6_live_worker_threads_le_max (cfg : Cfg) (hc : CfgOk cfg) (sched : List Choice)
    (hs : (run cfg sched).sh.shutdown = false) : (run cfg sched).thr.countP liveWorker ≤ cfg.effMax :=
  have hall := hc.inv sched
  Nat.le_trans (live_le_threads _ hall.w hall.c hs) (P6_workers_le_max cfg hc sched)

/-- the clamp: `_maxSize ≥ 1` and `_maxSize ≥ initialSize`, so a pool always can have a worker for an accepted task -/
theorem effMax_ge (cfg : Cfg) : 1 ≤ cfg.effMax ∧ cfg.initialSize ≤ cfg.effMax ∧ cfg.maxSize ≤ cfg.effMax :=
  effMax_bounds cfg

/-- **One owner.** At most one controller thread is between setting `_shutdown` and returning from `shutdown()` / the
destructor — only it runs a join loop; every other caller of `shutdown()` is on the "already shut down" path. -/
theorem one_shutdown_owner (cfg : Cfg) (hc : CfgOk cfg) (sched : List Choice) (t t' : Nat) (pc pc' : MPc) (r r' : MRegs)
    (h : (run cfg sched).thr[t]? = some (.main pc r)) (h' : (run cfg sched).thr[t']? = some (.main pc' r'))
    (ho : ownsPc pc = true) (ho' : ownsPc pc' = true) : t = t' :=
  (hc.inv sched).c.oneOwner t t' pc pc' r r' h h' ho ho'

/-- `_shutdownCompleteEpoch` becomes non-zero only after a join loop has completed -/
theorem complete_implies_quiesced (cfg : Cfg) (hc : CfgOk cfg) (sched : List Choice)
    (h : 0 < (run cfg sched).sh.complete) : (run cfg sched).sh.quiesced = true :=
  (hc.inv sched).c.gok.cq h

/-- **FC09d (1): a caller on the "already shut down" path waits for a shutdown that has begun.**  The number it read under
`_mutex` is positive, and `_shutdown` is still set while it waits (no restart). -/
theorem poller_epoch_positive (cfg : Cfg) (hc : CfgOk cfg) (sched : List Choice) (t : Nat) (pc : MPc) (r : MRegs) (e : Nat)
    (h : (run cfg sched).thr[t]? = some (.main pc r)) (hp : pollEp pc = some e) : 0 < e ∧ (run cfg sched).sh.shutdown = true :=
  ((hc.inv sched).c.cok t pc r h).ep e hp

/-- **FC09d (2): `reset()` + `start()` never lower `_shutdownCompleteEpoch`** (with or without `allowRestart`): every step of
the restart sequence `rsL … kU` leaves it alone — the completion a waiting `shutdown()` caller polls for cannot be hidden by
a restart, which is what clearing the boolean latch in `start()` did. -/
theorem restart_keeps_complete (cfg : Cfg) (sh : Shared) (n t : Nat) (pc : MPc) (r : MRegs) (alt : Nat)
    (h : restartPc pc = true) : (transM cfg sh n t pc r alt).1.complete = sh.complete := by
  cases pc <;> first | (cases h; done) | (dsimp only [transM] <;> (repeat' split) <;> rfl)

/-- **FC09d (3): once its shutdown number is completed the waiting caller returns at its next step**, whatever happened
in between (in particular a restart that cleared `_shutdown`): the step logs 7 and leaves the polling loop. -/
theorem poller_returns_when_completed (cfg : Cfg) (sh : Shared) (n t : Nat) (r : MRegs) (alt : Nat) (e : Nat)
    (h : e ≤ sh.complete) :
    7 ∈ (transM cfg sh n t (.sDoneZ e) r alt).1.mlog ∧ (transM cfg sh n t (.sDoneZ e) r alt).2.1.1 = .mYield := by
  dsimp only [transM]; rw [if_pos h]; unfold shutdownReturn; split
  · exact ⟨.tail _ (.head _), rfl⟩
  · exact ⟨.head _, rfl⟩

/-- non-vacuity: a waiting caller with number 1, the pool restarted meanwhile (`shutdown = false`), completed number 1 -/
example : 7 ∈ (transM exCfg { shutdown := false, complete := 1, epoch := 1 } 3 2 (.sDoneZ 1) {} 0).1.mlog := by decide

/-- **P4 (refusal reasons).** The outcome of a submission is decided only by a step of its own enqueue call, and:
"draining" only if `_accepting` is false at the unlocked check; "shutting down" only if `_shutdown` is set, "queue full"
only if the queue is at capacity — both read in the critical section; accepted (= pushed) only if neither holds. -/
theorem P4_refusal_reasons (cfg : Cfg) (sh : Shared) (n t : Nat) (th : Thread) (alt : Nat) (id : Nat)
    (h : (trans cfg sh n t th alt).1.result id ≠ sh.result id) :
    (∃ c, callOf th = some c) ∧
    (match (trans cfg sh n t th alt).1.result id with
     | .refDraining => sh.accepting = false
     | .refShutdown => sh.shutdown = true
     | .refFull => sh.shutdown = false ∧ cfg.maxQueue ≤ sh.tasks.length
     | .accepted => sh.shutdown = false ∧ sh.tasks.length < cfg.maxQueue
     | .pending => False) := by
  obtain ⟨h1, h2⟩ := trans_result cfg sh n t th alt id h
  refine ⟨h1, ?_⟩
  cases hr : (trans cfg sh n t th alt).1.result id <;> rw [hr] at h2 <;> exact h2

/-- non-vacuity: a submitter's call while the pool is draining changes the outcome of submission 0 (to "draining") -/
example : (trans exCfg { accepting := false } 2 1 (.sub (.run (.yield_ [⟨.enq, 0⟩]))) 0).1.result 0 = .refDraining ∧
    ({ accepting := false } : Shared).result 0 = .pending := by decide

/-- **FC09e (thread creation fails after the push).** Let `cid` be the task just pushed (`tasks ++ [cid]`, `cid` not queued
before) when `std::thread` throws.  If the call is then REFUSED, the queue is exactly what it was before the push and `cid` is
not in it (a refused task can never be popped, hence never runs); if the call is ACCEPTED, `cid` is queued and at least one
worker is registered in `_threads` (by P5b/`worker_registered` such a worker looks at the queue again before it can leave). -/
theorem spawn_failure_refused_or_has_worker (sh : Shared) (cid : Nat) (hn : cid ∉ sh.tasks) :
    let r := spawnFailed { sh with tasks := sh.tasks ++ [cid] }
    (r.2 = true → r.1.tasks = sh.tasks ∧ cid ∉ r.1.tasks ∧ sh.threads = []) ∧
    (r.2 = false → cid ∈ r.1.tasks ∧ r.1.threads ≠ [] ∧ r.1.tasks = sh.tasks ++ [cid]) := by
  simp only [spawnFailed]
  by_cases h : sh.threads = []
  · simp [h, hn]
  · simp [h]

/-- **Thread creation fails after the push (fixes/FC09e): accepted ⇒ a LIVE worker exists.**  In every reachable state in which `_shutdown` is
false (the submitter read it in the same critical section): if the thread creation fails after the push of `cid` and the call
is accepted, then some entry `w` of `_threads` is a worker THREAD that has neither removed itself from `_threads` nor returned —
not merely "`_threads` is non-empty".  The model's `_threads` holds only threads that the registering step itself created
(`create`: `threads ++ [n]` with `.spawn newWorker`); the source is tied to that by `skel_spawn` (the only insertion into
`_threads` is `emplace(t.get_id(), std::move(t))` of the `std::thread t` constructed just before — a placeholder entry does not
build). -/
theorem spawn_failure_accepted_has_live_worker (cfg : Cfg) (hc : CfgOk cfg) (sched : List Choice) (cid : Nat)
    (hs : (run cfg sched).sh.shutdown = false)
    (ha : (spawnFailed { (run cfg sched).sh with tasks := (run cfg sched).sh.tasks ++ [cid] }).2 = false) :
    ∃ (w : Nat) (th : Thread), w ∈ (run cfg sched).sh.threads ∧ (run cfg sched).thr[w]? = some th ∧ liveWorker th = true := by
  have hne : (run cfg sched).sh.threads ≠ [] := by
    intro e
    simp [spawnFailed, e] at ha
  obtain ⟨w, hw⟩ := List.exists_mem_of_ne_nil _ hne
  obtain ⟨th, hget, hiw, hg⟩ := (hc.inv sched).w.live hs w hw
  exact ⟨w, th, hw, hget, by simp [liveWorker, hiw, hg]⟩

/-- non-vacuity: after 12 steps of the example run the pool is not shut down, one worker is registered, and a failed creation
would be accepted (the registered worker is the live one) -/
example : (run exCfg (exSched.take 12)).sh.shutdown = false ∧
    (spawnFailed { (run exCfg (exSched.take 12)).sh with tasks := (run exCfg (exSched.take 12)).sh.tasks ++ [7] }).2 = false := by decide +kernel

/-- non-vacuity: both outcomes occur -/
example : (spawnFailed { tasks := [3] ++ [4] }).2 = true ∧ (spawnFailed { tasks := [3] ++ [4] }).1.tasks = [3] ∧
    (spawnFailed { tasks := [3] ++ [4], threads := [1] }).2 = false := by decide

/-- **Mutual exclusion** (what makes "one critical section" meaningful): in every reachable state every thread whose
state says it is inside a critical section of `_mutex` is its owner — so at most one is. -/
theorem mutex_exclusive (cfg : Cfg) (sched : List Choice) (t t' : Nat) (th th' : Thread)
    (h : (run cfg sched).thr[t]? = some th) (h' : (run cfg sched).thr[t']? = some th')
    (hh : holdsM th = true) (hh' : holdsM th' = true) : t = t' := by
  have e1 := mutexOk_run cfg sched t th h hh
  have e2 := mutexOk_run cfg sched t' th' h' hh'
  rw [e1] at e2
  exact Option.some.inj e2

/-- **Registered before running** (the repaired spawn protocol): every worker that has not returned is in `_threads`,
or is the one the controller is joining, or has removed itself after an idle time-out and is about to return — in
particular a worker with a task in hand is always visible to the join loop. -/
theorem worker_registered (cfg : Cfg) (hc : CfgOk cfg) (sched : List Choice) (w : Nat) (th : Thread)
    (h : (run cfg sched).thr[w]? = some th) (hw : isWorker th = true) (hnd : th ≠ .worker .done) :
    Accounted (run cfg sched).sh.threads (run cfg sched).thr w th :=
  (hc.inv sched).w.reg w th h hw hnd

-- Conformance of the source text (Gen/TpSkel.lean, regenerated from the working tree on every run) with the programs the
-- model executes: the tables are compared by kernel evaluation, so a tree whose lock/notify/spawn skeleton differs does not build.

/-- a row of `Gen.TpSkel.skeleton`: event, object, mutexes held -/
abbrev Ev := String × String × String

/-- skeleton of one unit, verification hooks removed -/
def unit (n : String) : List Ev :=
  match Gen.TpSkel.skeleton.find? (fun r => r.1 == n) with
  | some r => r.2.filter (fun e => e.1 != "hook")
  | none => []

def hooksOf (n : String) : List String :=
  match Gen.TpSkel.skeleton.find? (fun r => r.1 == n) with
  | some r => (r.2.filter (fun e => e.1 == "hook")).map (fun e => e.2.1)
  | none => []

/-- what `callStep` does (Model/ThreadPool.lean): `yield_` reads `_accepting` outside the lock; `lock` checks `_shutdown`,
fullness, pushes, decides AND spawns inside the critical section; `unlock`; `notify` outside. `ref` = how a refusal leaves.  The rows of fixes/FC09e are `spawnFailed`,
which `callStep` does not call: the failure of a thread creation is modelled in the submitting critical section only. -/
def enqueueExpected (ref : String) (tail : List Ev) : List Ev :=
  [("read", "_accepting", ""), (ref, "", ""), ("lock", "_mutex", ""), ("read", "_shutdown", "_mutex"), (ref, "", "_mutex"),
   ("full?", "_tasks", "_mutex"), (ref, "", "_mutex"), ("push", "_tasks", "_mutex"),
   ("room?:_threads.size()<_maxSize", "_threads", "_mutex"), ("try", "", "_mutex"), ("call", "spawnWorkerLocked", "_mutex"),
   -- fixes/FC09e: a failed thread creation is caught; only when no worker exists the task is taken back and the call refused
   ("catch:conststd::system_error&", "", "_mutex"), ("none?", "_threads", "_mutex"), ("call", "discardNewestTaskLocked", "_mutex"),
   (ref, "", "_mutex"),
   ("unlock", "_mutex", "_mutex"), ("notify_one", "_condition", "")] ++ tail

/-- **Conformance 1.** `enqueueImpl`: accepting check outside the lock; shutdown check, full check, push, spawn decision and
spawn INSIDE one critical section; `notify_one` after the unlock. -/
theorem skel_enqueueImpl : unit "enqueueImpl" = enqueueExpected "throw" [] := by decide +kernel
/-- **Conformance 2.** the same for `tryEnqueueImpl` (refusal = `return false`). -/
theorem skel_tryEnqueueImpl : unit "tryEnqueueImpl" = enqueueExpected "return" [("return", "", "")] := by decide +kernel

/-- **Conformance 3.** `spawnWorkerLocked` creates the thread and registers it in `_threads` with no lock operation in
between (the caller holds `_mutex`); `spawnWorker` (constructor) is lock / spawnWorkerLocked / unlock. -/
theorem skel_spawn :
    unit "spawnWorkerLocked" = [("create", "thread", ""), ("lambda", "worker", ""), ("register", "_threads", "")] ∧
    unit "spawnWorker" = [("lock", "_mutex", ""), ("call", "spawnWorkerLocked", "_mutex"), ("unlock", "_mutex", "_mutex")] ∧
    unit "discardNewest" = [("size", "_tasks", ""), ("front", "_tasks", ""), ("pop", "_tasks", ""), ("swap", "_tasks", "")] ∧
    -- every insertion into `_threads` inserts the constructed thread under its own id (no placeholder, no second insertion)
    Gen.TpSkel.createdThreadVar = "t" ∧ Gen.TpSkel.registrations = [("t.get_id()", "std::move(t)")] := by
  decide +kernel

/-- what `transW` does (Model/ThreadPool.lean), in textual order of the lambda -/
def workerExpected : List Ev :=
  [("inc", "_threadsCreated", ""), ("inc", "_threadsStarted", ""),
   ("lock", "_mutex", ""), ("inc", "_waitingThreads", "_mutex"), ("wait_for:_idleTimeout", "_condition", "_mutex"),
   ("return", "", "_mutex"), ("read", "_shutdown", "_mutex"), ("empty?", "_tasks", "_mutex"),     -- the wait predicate
   ("dec", "_waitingThreads", "_mutex"),
   -- idle time-out: CAS on _threadsExited, detach + erase self, return — all inside the critical section
   ("read", "_threadsExited", "_mutex"), ("read", "_threadsCreated", "_mutex"), ("cas", "_threadsExited", "_mutex"),
   ("read", "_threads", "_mutex"), ("read", "_threads", "_mutex"), ("detach", "thread", "_mutex"), ("erase", "_threads", "_mutex"),
   ("return", "", "_mutex"), ("continue", "", "_mutex"),
   -- shutdown exit
   ("read", "_shutdown", "_mutex"), ("empty?", "_tasks", "_mutex"), ("inc", "_threadsExited", "_mutex"), ("return", "", "_mutex"),
   -- pop
   ("empty?", "_tasks", "_mutex"), ("front", "_tasks", "_mutex"), ("pop", "_tasks", "_mutex"), ("inc", "_busyThreads", "_mutex"),
   ("unlock", "_mutex", "_mutex"),
   -- run
   ("inc", "_activeThreads", ""), ("try", "", ""), ("run", "task", ""), ("catch:...", "", ""), ("lock", "_configMutex", ""), ("unlock", "_configMutex", "_configMutex"),
   ("destroy", "task", ""), ("dec", "_activeThreads", ""), ("dec", "_busyThreads", "")]

/-- **Conformance 4.** the worker loop: the wait, both exit decisions (with their emptiness checks) and the pop are inside
ONE critical section; every `return` of the lambda happens with `_mutex` held; the task runs outside. -/
theorem skel_worker : unit "worker" = workerExpected ∧ Gen.TpSkel.workerWaitPred = "_shutdown||!_tasks.empty()" := by decide +kernel

/-- the only hook in the worker is `tp:popped` (or none) -/
theorem skel_worker_hooks : hooksOf "worker" = [] ∨ hooksOf "worker" = ["tp:popped"] := by decide +kernel

/-- **Conformance 5.** `shutdown()`: `_shutdown` is read under `_mutex`; on the "already shut down" path the caller
unlocks, then polls `_shutdownCompleteEpoch` (sleeping 1 ms) and only then returns (`sFlagUA` / `sDoneZ` of the model); the owner
sets `_shutdown` under `_mutex`, `notify_all` after the unlock, and stores `_shutdownCompleteEpoch` after the join loop, as its
last operation.  Phase 1 of the destructor sets `_shutdown` the same way; both join loops pick and erase under `_mutex` and
join outside; phase 4 detaches exactly under the condition `mode == DETACHED` — every other mode joins. -/
theorem skel_shutdown :
    unit "shutdown" = [("lock", "_mutex", ""), ("read", "_shutdown", "_mutex"), ("read", "_shutdownEpoch", "_mutex"),
      ("unlock", "_mutex", "_mutex"), ("read:acquire", "_shutdownCompleteEpoch", ""), ("sleep:1ms", "", ""), ("return", "", ""),
      ("write:true", "_shutdown", "_mutex"), ("inc", "_shutdownEpoch", "_mutex"), ("unlock", "_mutex", "_mutex"),
      ("notify_all", "_condition", ""),
      -- first wait (pollL/pollU/pollZ .shut), grace sleep, re-check (sGrace/sChkL/sChkU), race wait (.race)
      ("read", "_activeThreads", ""), ("call", "getPendingTaskCount", ""), ("sleep:50ms", "", ""), ("sleep:10ms", "", ""),
      ("read", "_activeThreads", ""), ("call", "getPendingTaskCount", ""), ("read", "_activeThreads", ""),
      ("call", "getPendingTaskCount", ""), ("sleep:50ms", "", ""),
      -- join loop, then the release store of the caller's own number
      ("lock", "_mutex", ""), ("read", "_threads", "_mutex"), ("read", "_threads", "_mutex"),
      ("erase", "_threads", "_mutex"), ("unlock", "_mutex", "_mutex"), ("join", "thread", ""),
      ("write:myEpoch:release", "_shutdownCompleteEpoch", "")] ∧
    unit "phase1" = [("lock", "_mutex", ""), ("read", "_shutdown", "_mutex"), ("return", "", "_mutex"),
      ("write:true", "_shutdown", "_mutex"), ("inc", "_shutdownEpoch", "_mutex"), ("unlock", "_mutex", "_mutex"),
      ("notify_all", "_condition", ""), ("return", "", "")] ∧
    unit "phase4" = [("lock", "_configMutex", ""), ("unlock", "_configMutex", "_configMutex"),
      ("lock", "_mutex", ""), ("read", "_threads", "_mutex"), ("read", "_threads", "_mutex"),
      ("erase", "_threads", "_mutex"), ("unlock", "_mutex", "_mutex"), ("cond:mode==ShutdownMode::DETACHED", "", ""),
      ("detach", "thread", ""), ("join", "thread", ""), ("return", "", "")] ∧
    unit "getPendingTaskCount" = [("lock", "_mutex", ""), ("return", "", "_mutex"), ("size", "_tasks", "_mutex"),
      ("unlock", "_mutex", "_mutex")] ∧
    Gen.TpSkel.dtorPhases = [1, 2, 3, 4, 5] ∧ Gen.TpSkel.workerScaling = true ∧
    Gen.TpSkel.shutdownGraceMs = 10 ∧ Gen.TpSkel.maxQueueDefault = 1024 ∧ Gen.TpSkel.idleTimeoutDefaultS = 30 := by decide +kernel

/-- **Conformance 6.** restart (`rsL … kU` of the model): `reset()` empties `_tasks` and clears `_threads` under `_mutex` and
zeroes the counters; `start()` clears `_shutdown` under `_mutex` and does NOT touch `_shutdownCompleteEpoch` (fixes/FC09d), then opens `_accepting`, then
runs `workerCount = _workerScaling ? _initialSize : _maxSize` iterations (loop condition `i < workerCount`), each of which
locks `_mutex` and creates + registers a worker only if `_threads.size() < workerCount` in that critical section (`kL` of
the model; fixes/FC09c: submitters may already be growing the pool). -/
theorem skel_restart :
    unit "reset" = [("return", "", ""), ("lock", "_mutex", ""), ("empty?", "_tasks", "_mutex"), ("pop", "_tasks", "_mutex"),
      ("clear", "_threads", "_mutex"), ("unlock", "_mutex", "_mutex"), ("write", "_activeThreads", ""), ("write", "_busyThreads", ""),
      ("write", "_threadsCreated", ""), ("write", "_threadsStarted", ""), ("write", "_threadsExited", ""),
      ("write", "_waitingThreads", ""), ("return", "", "")] ∧
    unit "start" = [("return", "", ""), ("return", "", ""), ("return", "", ""), ("lock", "_mutex", ""),
      ("write:false", "_shutdown", "_mutex"), ("unlock", "_mutex", "_mutex"),
      ("write:true", "_accepting", ""), ("workerCount:_workerScaling?_initialSize:_maxSize", "", ""),
      ("loop:i<workerCount", "", ""), ("lock", "_mutex", ""), ("room?:_threads.size()<workerCount", "_threads", "_mutex"),
      ("call", "spawnWorkerLocked", "_mutex"), ("unlock", "_mutex", "_mutex"), ("return", "", "")] := by decide +kernel

/-- **Conformance 7.** the constructor (`start … cU` of the model and `Cfg.effMax`): same worker count and loop condition
as `start()`; the default shutdown mode is IMMEDIATE (a joining mode); `_maxSize` is initialised with
`effectiveMaxSize(initialSize, maxSize)`, whose body is the clamp that `Cfg.effMax` computes. -/
theorem skel_ctor :
    unit "ctor" = [("write:true", "_accepting", ""), ("workerCount:_workerScaling?_initialSize:_maxSize", "", ""),
      ("loop:i<workerCount", "", ""), ("call", "spawnWorker", "")] ∧
    Gen.TpSkel.ctorDefaultMode = "IMMEDIATE" ∧
    Gen.TpSkel.maxSizeInit = "effectiveMaxSize(initialSize,maxSize)" ∧
    Gen.TpSkel.effectiveMaxSizeBody = "std::size_tatLeast=initialSize>0?initialSize:1;returnmaxSize<atLeast?atLeast:maxSize;" := by
  decide +kernel

end Iora.C09
