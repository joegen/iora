import IoraModel.Lemmas.TeardownCompletes
import IoraModel.Lemmas.EngineQueue
import IoraModel.Lemmas.FlushFrames
import IoraModel.Lemmas.TeardownRoles
import IoraModel.Model.TsyncFacts
import IoraModel.Model.TeardownFacts
/-!
# C05 — Stopping or destroying a transport never strands, crashes or races   (PARTIAL)

What is decided here is the LOGIC CORE of the teardown handshake, over `Model/Teardown.lean` (one step = one `syncMutex`
critical section of `transport_impl.hpp`) and `Model/EngineQueue.lean` (the command queue of `tcp_engine.hpp` AND
`udp_engine.hpp`), for ALL step sequences that respect the environment contract `Disciplined` (no synchronous call BEGINS once
the destructor's wait has completed; a thread inside `stop()` holds a reference, so the last reference is not dropped while a
`stop()` is joining and `stop()` is not called once destruction has begun):

* T1 no stranded caller (finite path per thread — existential —, no lost wake-up incl. the receive notification of the
  already-stopped and I/O-thread paths, no dead end: destruction and `stop()` can always complete within a bound),
  T2 the counters gate destruction and touching `Impl` after its destruction is unreachable — for all three branches of
  `~Transport` (ordinary thread, I/O thread inside a callback, flusher inside its data callback = FC05a),
  T3 the entry fence, T4 enqueue-after-close is refused and every accepted listener promise is fulfilled exactly once (both
  engines; `_running` cleared by the stop CAS, by detachForTermination or by the Shutdown command; restart),
  T5 callbacks by counting: confined to I/O-thread steps / the flusher's own loop step, at most one close callback per session,
  none after `stop()` returned, none after `Impl` is gone, T6 a synchronous call made from a callback on the I/O thread is refused.

* over `Model/FlushFrames.lean` (ONE application thread, ANY number of transports, the per-thread `FlushFrame` stack with arbitrary
  cross-transport nesting, the walk of `releaseOwnFlushes` taken from the regenerated skeleton): `releaseOwnFlushes_exact` (for every
  stack the walk releases every frame of this `Impl` and touches no frame of another), `T2_nested_flushes`, `T1_nested_completes`,
  and `takeWhile_walk_deadlocks` (a take-while walk leaves the destructor blocked for ever in the two-legged relay program).

* over `Model/TeardownRoles.lean` (the thread ROLES that can originate a callback — I/O thread, TimerService thread, API caller —,
  instantiated from the regenerated inventory of callback sites, `roles_inventory_conforms`): `T5_no_callback_after_stop_any_role`,
  `T5_callbacks_by_role`, `T5_session_ids_never_reused`, `T5_stale_timer_close_dropped`, and `T5_roles_refuted_by_reporting_timer`
  (a timer handler that reports a refused enqueue through a user callback refutes the claim; seed C05-d).

What a Lean model cannot exhibit and is therefore NOT claimed: use-after-free and data races of the real C++ object graph, and
wall-clock bounds ("within a bounded time" is proved as a bound on steps).  Those parts are explored by the DetSched/ASan/TSan
runs of `props/c05.py` — supporting evidence and failing-input search, not the decision.
-/
namespace Iora.C05
open Iora Iora.Teardown

/-- The regenerated lock/notify skeletons (`Gen/TsyncSkel.lean`, shared with C03/C04) have the facts the models assume: the fence
is written and notified under `syncMutex`; the guards are paired inc/dec + notify of `teardownCv`; every park site checks the
fence and constructs its guard(s) under the lock before waiting; `performTeardown` is fence → `engine->stop()` → wait-out(false) /
already stopped → wait-out(true); `enqueue` tests `_cmdsClosed` under `_cmdMutex`; `shutdownDrain` closes the queue and takes the
residual under one acquisition and fails its promises; `process` fulfils a promise in both arms; `addListener` returns before
waiting when refused; `stop()` joins. -/
theorem skeleton_conforms :
    TsyncFacts.fenceUnderLockAndNotifies = true ∧ TsyncFacts.guardsPaired = true ∧ TsyncFacts.parkSitesGuarded = true ∧
    TsyncFacts.teardownOrder = true ∧ TsyncFacts.enqueueChecksClosedUnderLock = true ∧
    TsyncFacts.drainClosesQueueUnderLock = true ∧ TsyncFacts.processFulfilsPromises = true ∧
    TsyncFacts.addListenerRejectsBeforeWaiting = true ∧ TsyncFacts.stopJoins = true := by decide +kernel

/-- The regenerated statement-level skeletons (`Gen/TeardownSkel.lean`) have the shapes the models mirror — `~Transport` with its
three branches and the argument of every `teardownWaitOut` call, `teardownWaitOut` with `if (notifyReceive)` and a gate over all
three counters, `performTeardown`, `setTeardownFence`, the flush frame (FC05a), the I/O-thread guards of the four synchronous
operations on thread identity alone; for BOTH engines: enqueue, shutdownDrain, process, addListener, stop (CAS → enqueue → join),
detachForTermination (clears `_running` with no command), scheduleSelfDestruct, the thread epilogue (deleter LAST), the loop exits —
and the values the models are instantiated with are the ones the theorems below are about. -/
theorem teardown_skeleton_conforms :
    TeardownFacts.dtorShape = true ∧ TeardownFacts.waitOutShape = true ∧ TeardownFacts.performTeardownShape = true ∧
    TeardownFacts.fenceShape = true ∧ TeardownFacts.flushFrameShape = true ∧ TeardownFacts.ioGuardsShape = true ∧
    TeardownFacts.enqueueRefusesWhenClosed = true ∧ TeardownFacts.drainClosesAndTakesUnderOneLock = true ∧
    TeardownFacts.residualPromisesFailed = true ∧ TeardownFacts.dispatchFulfilsNormalArm = true ∧
    TeardownFacts.dispatchFulfilsCatchArm = true ∧ TeardownFacts.shutdownCommandClearsRunning = true ∧
    TeardownFacts.stopIsCasEnqueueJoin = true ∧ TeardownFacts.detachClearsRunning = true ∧
    TeardownFacts.selfDestructStored = true ∧ TeardownFacts.epilogueRunsDeleterLast = true ∧
    TeardownFacts.loopsExitIntoDrain = true ∧ TeardownFacts.addListenerRejectsBeforeWaiting = true ∧
    TeardownFacts.parkGuardsWholeCall = true ∧ FlushFrames.walkFilters = true ∧
    nrIo = true ∧ nrStopped = true ∧ nrNormal = false ∧
    gated "activeReceives" = true ∧ gated "activeConnects" = true ∧ gated "activeFlushes" = true ∧
    ioBranchIdentityOnly = true ∧ (∀ op, guardIdentityOnly op = true) := by
  open EngineQueue Gen.TeardownSkel in
  -- the first five compare generated literals with the same literals: `==` is reflexive, no string is read
  have flushFrame : TeardownFacts.flushFrameShape = true := by
    show (flushFrameCtor == flushFrameCtor && flushFrameDtor == flushFrameDtor && releaseOwnFlushes == releaseOwnFlushes &&
      flushLoopUsesLocalImplOnly && flushFrameDeclaredAfterGuard) = true
    simp only [beq_self_eq_true, Bool.and_self, flushLoopUsesLocalImplOnly, flushFrameDeclaredAfterGuard]
  exact ⟨beq_self_eq_true dtor, beq_self_eq_true waitOut, beq_self_eq_true performTeardown, beq_self_eq_true setTeardownFence,
    flushFrame, by decide +kernel,
    f_enq, f_drain, f_resid, f_norm, f_catch, f_shut,
    by decide +kernel, by decide +kernel, by decide +kernel, by decide +kernel, by decide +kernel, by decide +kernel,
    by decide +kernel, FlushFrames.walk_filters, nrIo_true, nrStopped_true, by decide +kernel,
    gated_r, gated_c, gated_f, ioBranch_ok, guard_ok⟩

/-- reachable states: any number of application threads about to make a receive / connect / flush call, any set of open
sessions, any disciplined schedule -/
def Reach (s : State) : Prop :=
  ∃ threads live steps, (∀ t ∈ threads, t.pc = .notStarted) ∧ Disciplined (mk threads live) steps ∧ s = run (mk threads live) steps

theorem reach_inv {s : State} (h : Reach s) : Inv s ∧ Inv2 s := by
  obtain ⟨threads, live, steps, h0, hd, rfl⟩ := h
  exact (run_good steps _ (Good_mk threads live h0) hd).inv

/-- reachable states are closed under steps that respect the contract -/
theorem reach_step {s : State} (h : Reach s) (st : Step) (hok : ok s st = true) : Reach (step s st) := by
  obtain ⟨threads, live, steps, h0, hd, rfl⟩ := h
  exact ⟨threads, live, steps ++ [st], h0, disc_append _ _ _ hd ⟨hok, trivial⟩, (run_append steps [st] _).symm⟩

/-- **T1 (finite path; EXISTENTIAL).** In every reachable state, every thread that is inside a synchronous call and counted by
the gate — parked in receiveSync or connectSync, in connectSync's close window, or anywhere in the flush loop — HAS a path to its
return of at most THREE steps of its own, whatever the other threads do or do not do (a timed wait can always take its
timeout). This says a return is always possible, not that every schedule takes it; "bounded time" is this step bound. The
statement keeps the bound and the end of the path; that its steps are the thread's own and respect the contract is
`Teardown.finite_path`, from which it is read off. -/
theorem T1_finite_path (s : State) (hr : Reach s) (i : Nat) (t : Thread) (hi : s.threads[i]? = some t)
    (hin : inside t.pc = true) :
    ∃ steps : List Step, steps.length ≤ 3 ∧ ∃ t' r, (run s steps).threads[i]? = some t' ∧ t'.pc = .done r :=
  let ⟨steps, _, _, h⟩ := finite_path 3 hi ((reach_inv hr).1.KP i t hi) (pcRank_le_three t.pc) (.inl hin)
  ⟨steps, h⟩

/-- **T1 (no lost wake-up).** In every reachable state: once the fence is set every parked connectSync has been notified; a
parked connectSync whose completion was delivered has been notified; a parked receiveSync whose session was closed has been
notified; after a receive-notifying entry section of `teardownWaitOut` every parked receiveSync has been notified — and that
section HAS run whenever the destructor took the ALREADY-STOPPED path or runs on the I/O thread (on those paths no close
callback will wake a receiver: the I/O thread is gone, or is the one that waits); and the destructor is never asleep on
`teardownCv` with all three counters at zero. (On the NORMAL path receivers are deliberately not notified by the fence:
`engine->stop()`'s onClose wakes those whose session the engine closes, the others leave by their own timeout — T1_finite_path.) -/
theorem T1_no_lost_wakeup (s : State) (hr : Reach s) :
    (s.shuttingDown = true → ∀ (j : Nat) (t : Thread) (a : Bool), s.threads[j]? = some t → t.kind = .conn → t.pc = .parked a → a = true) ∧
    (∀ (j : Nat) (t : Thread) (a : Bool), s.threads[j]? = some t → t.kind = .conn → t.completed = true → t.pc = .parked a → a = true) ∧
    (∀ (j : Nat) (t : Thread) (sid : Nat) (a : Bool), s.threads[j]? = some t → t.kind = .recv sid → s.closed sid = true →
        t.pc = .parked a → a = true) ∧
    (s.recvNotified = true → ∀ (j : Nat) (t : Thread) (a : Bool), s.threads[j]? = some t → isRecv t = true → t.pc = .parked a → a = true) ∧
    (s.path = .stopped ∨ s.path = .io → s.recvNotified = true) ∧
    (∀ a, s.td = .ioWaiting a → s.recvNotified = true) ∧
    (s.td = .waiting false ∨ s.td = .ioWaiting false → gate s = false) :=
  let I := (reach_inv hr).1
  let J := (reach_inv hr).2
  ⟨I.Wc, I.Wd, I.Wr, I.Wn, J.PN, fun a h => J.PN (Or.inr (J.PI (by rw [h]; rfl))), I.Wt⟩

/-- **T1 (the gate opens).** When no thread is inside a call any more the gate is open: the destructor's next predicate
check succeeds. -/
theorem T1_gate_opens (s : State) (hr : Reach s)
    (hn : ∀ (j : Nat) (t : Thread), s.threads[j]? = some t → inside t.pc = false) : gate s = true :=
  (gate_iff (reach_inv hr).1.T).mpr hn

/-- **T1 (no dead end; destruction completes).** In every reachable state in which destruction has begun — on whichever of the
three branches — and `Impl` is not yet gone: (a) SOME thread can take a step that respects the contract and strictly decreases
`rank` (steps still owed by the threads inside calls, the destructor and the I/O thread), and (b) there is a schedule respecting
the contract, at most `rank s` steps long, after which `Impl` is destroyed. So no schedule, however adversarial so far, has led
to a state from which teardown cannot finish (no deadlock, no stranded caller); that EVERY fair schedule finishes follows only
with a fairness assumption on the scheduler and is not stated. -/
theorem T1_teardown_completes (s : State) (hr : Reach s) (hb : s.td ≠ .idle ∨ s.dtorOn ≠ none) :
    (s.td ≠ .destroyed → ∃ st, ok s st = true ∧ rank (step s st) < rank s) ∧
    (∃ steps : List Step, Disciplined s steps ∧ steps.length ≤ rank s ∧ (run s steps).td = .destroyed ∧
        (run s steps).uaf = false) := by
  have I := reach_inv hr
  have hb' : begun s := hb.imp_left shape_ne_zero
  refine ⟨fun hnd => ?_, ?_⟩
  · obtain ⟨st, h1, h2, _⟩ := progress I.1 I.2 hb' hnd
    exact ⟨st, h1, h2⟩
  · obtain ⟨steps, hd, hl, hf⟩ := completes (rank s) s I.1 I.2 hb' (Nat.le_refl _)
    have I' := run_inv steps s I.1 I.2 hd
    exact ⟨steps, hd, hl, hf, I'.1.UAF⟩

/-- **T1 (`stop()` completes).** In every reachable state in which a thread is inside `stop()`, there is a schedule of at most
(open sessions + 2) steps — one close per session, the I/O thread's termination, the join — after which `stop()` has returned. -/
theorem T1_stop_completes (s : State) (hr : Reach s) (hs : s.stopJoining = true) :
    ∃ steps : List Step, steps.length ≤ s.live.length + 2 ∧ Disciplined s steps ∧ Ev.stopReturned ∈ (run s steps).log ∧
      (run s steps).stopJoining = false := by
  have J := (reach_inv hr).2
  obtain ⟨h0, _, hrun⟩ := J.SJ hs
  exact stop_completes s hs hrun (Decidable.byContradiction fun h => shape_ne_zero h h0)

/-- **T2 (counters gate destruction).** In every reachable state in which `teardownWaitOut` has returned (or `Impl` is gone) all
three counters are 0 and no application thread is inside a counted call; `Impl` is destroyed only then; NO schedule touches `Impl`
after its destruction (`uaf` is unreachable) — including the close handlers that run on the I/O thread after an I/O-thread
self-destruct, the join returning into `stop()`, and the flusher that ran the destructor inside its data callback and unwinds
afterwards (it is the one that deletes `Impl`, as its last action); at most one thread is such a flusher. The counters count
exactly the threads inside. -/
theorem T2_counters_gate_destruction (s : State) (hr : Reach s) :
    s.uaf = false ∧ (s.implAlive = false → s.td = .destroyed) ∧
    (waitCompleted s.td = true → gate s = true ∧ ∀ (j : Nat) (t : Thread), s.threads[j]? = some t → inside t.pc = false) ∧
    (∀ (j : Nat) (t : Thread), s.threads[j]? = some t → t.pc = .fdtor → s.dtorOn = some j) ∧
    s.activeReceives = s.threads.countP countedRecv ∧ s.activeConnects = s.threads.countP countedConn ∧
    s.activeFlushes = s.threads.countP countedFlush := by
  have I := (reach_inv hr).1
  have J := (reach_inv hr).2
  refine ⟨I.UAF, I.IA, fun hw => ⟨(gate_iff I.T).mpr (I.WC hw), I.WC hw⟩, ?_, I.CR, I.CC, I.CF⟩
  intro j t hj hpc
  have hfd : fdAt s.threads j = true := by rw [fdAt_of_get hj, hpc]; rfl
  exact J.DT1 j hfd

/-- **T3 (entry fence).** A call that performs its entry section after the fence was set returns ShuttingDown (`false` for
setReadMode) in that very section: it does not park and no counter changes. -/
theorem T3_fence_rejects (s : State) (i : Nat) (t : Thread) (hi : s.threads[i]? = some t) (hp : t.pc = .notStarted)
    (hs : s.shuttingDown = true) :
    let s' := step s (.enter i)
    (∃ t' r, s'.threads[i]? = some t' ∧ t'.pc = .done r ∧ (r = .shuttingDown ∨ r = .flushed false)) ∧
    s'.activeReceives = s.activeReceives ∧ s'.activeConnects = s.activeConnects ∧ s'.activeFlushes = s.activeFlushes := by
  obtain ⟨r, hr, e⟩ := doEnter_fenced hi hp hs
  obtain ⟨u, _, hu⟩ := touch_eq s
  simp only [step]
  rw [e, hu]
  exact ⟨⟨_, r, Pool.get_set_self hi, rfl, hr⟩, rfl, rfl, rfl⟩

/-- **T4 (enqueue after close; both engines).** Once the closed flag is set `enqueue` returns false: nothing is queued and nothing
accepted (the model records a promise-bearing command as rejected; `addListener` then returns ShuttingDown without waiting —
skeleton fact). -/
theorem T4_enqueue_after_close (s : EngineQueue.State) (c : EngineQueue.Cmd) (hc : s.closed = true) :
    (EngineQueue.step s (.enqueue c)).cmds = s.cmds ∧ (EngineQueue.step s (.enqueue c)).accepted = s.accepted := by
  cases c <;> simp [EngineQueue.step, EngineQueue.doEnqueue, hc, EngineQueue.f_enq]

/-- **T4 (promises; both engines).** For every schedule of enqueuers and the I/O thread — `_running` cleared by `stop()`'s CAS,
by `detachForTermination()` with no command at all, or by a dispatched Shutdown command; any number of stop/start cycles —: a
listener promise is never fulfilled twice; a rejected promise is never fulfilled; and whenever the I/O thread has terminated every
accepted promise has been fulfilled exactly once — by the dispatch (either arm) or by the residual drain — so a synchronous
`addListener` never blocks for ever. -/
theorem T4_promise_exactly_once (steps : List EngineQueue.Step) (hd : EngineQueue.Disciplined EngineQueue.init steps) (p : Nat) :
    let s := EngineQueue.run EngineQueue.init steps
    s.fulfilled p ≤ 1 ∧ (p ∈ s.rejected → s.fulfilled p = 0) ∧
    (s.phase = .exited → s.fulfilled p = if p ∈ s.accepted then 1 else 0) :=
  (EngineQueue.run_inv steps _ EngineQueue.Inv_init hd).promise_once p

/-- **T5 (callback confinement, by counting).** Any state, any step: the number of close callbacks logged for a session grows by
at most one, and grows only in a step of the I/O thread, while that thread exists, for a session the engine still has open; the
number of data callbacks logged for a flusher grows by at most one, and grows only in that flusher's own loop step, before the
fence, while it is between two sections of its flush loop. -/
theorem T5_callbacks_confined (s : State) (st : Step) :
    (∀ sid, (step s st).log.count (.cbClose sid) = s.log.count (.cbClose sid) ∨
       ((step s st).log.count (.cbClose sid) = s.log.count (.cbClose sid) + 1 ∧ s.ioAlive = true ∧ s.live.contains sid = true ∧
         (st = .ioCloseSess sid ∨ st = .ioDrain (some sid)))) ∧
    (∀ i, (step s st).log.count (.cbData i) = s.log.count (.cbData i) ∨
       ((step s st).log.count (.cbData i) = s.log.count (.cbData i) + 1 ∧ s.shuttingDown = false ∧
         (∃ t, s.threads[i]? = some t ∧ t.pc = .floop) ∧ st = .flushStep i true)) :=
  ⟨cbClose_step s st, cbData_step s st⟩

/-- **T5 (one close callback per session).** In every reachable state each session's close callback has run at most once, and
not at all while the engine still has the session open. -/
theorem T5_each_close_once (s : State) (hr : Reach s) (sid : Nat) :
    s.log.count (.cbClose sid) ≤ 1 ∧ (sid ∈ s.live → s.log.count (.cbClose sid) = 0) :=
  (reach_inv hr).2.CL sid

/-- **T5 (nothing after stop).** In every reachable state: if `stop()` has returned to its (non-callback) caller the I/O thread has
terminated, hence no later step of any schedule runs a close callback. (The data callback of a flush runs synchronously inside
the caller's own `setReadMode` call, on the caller's thread; it is not an asynchronous delivery and is not covered by this clause.) -/
theorem T5_no_callback_after_stop (s : State) (hr : Reach s) (hs : Ev.stopReturned ∈ s.log) :
    s.ioAlive = false ∧ ∀ (st : Step) (sid : Nat), (step s st).log.count (.cbClose sid) = s.log.count (.cbClose sid) :=
  ⟨(reach_inv hr).1.IO1 hs, cbClose_quiet ((reach_inv hr).1.IO1 hs)⟩

/-- **T5 (nothing after destruction).** In every reachable state in which `Impl` is gone, no step of any schedule runs a close
callback or a flush data callback (counts unchanged), on any of the three destruction branches. -/
theorem T5_no_callback_after_destroy (s : State) (hr : Reach s) (hd : s.implAlive = false) (st : Step) :
    (∀ sid, (step s st).log.count (.cbClose sid) = s.log.count (.cbClose sid)) ∧
    (∀ i, (step s st).log.count (.cbData i) = s.log.count (.cbData i)) := by
  have I := reach_inv hr
  have htd := I.1.IA hd
  exact ⟨cbClose_quiet (I.2.DIO (.inr (.inr (.inr (by rw [htd]; rfl))))) st, cbData_quiet (I.1.WC (by rw [htd]; rfl)) st⟩

/-- **T6 (I/O-thread guards).** A synchronous operation (connectSync, receiveSync, sendSync, setReadMode) called from a callback on
the I/O thread is refused by a throw whatever `_running` is — in particular from a close callback of the shutdown drain — and in
no reachable state has the I/O thread entered a blocking operation of its own transport. -/
theorem T6_io_thread_guards (s : State) (op : SyncOp) :
    (ioFree s = true → (step s (.ioSyncCall op)).log = s.log ++ [.refused op] ∧ (step s (.ioSyncCall op)).ioSelfBlock = s.ioSelfBlock) ∧
    (Reach s → s.ioSelfBlock = false) := by
  refine ⟨fun hf => ?_, fun hr => (reach_inv hr).2.SB⟩
  show (doIoSyncCall s op).log = _ ∧ (doIoSyncCall s op).ioSelfBlock = _
  rw [doIoSyncCall_free op hf]
  exact ⟨rfl, touch_ioSelfBlock s⟩

/-- states of the frame model reachable from "nothing in progress", with any number of callers of other threads inside each
transport, by any schedule respecting the contract (no call on a transport whose last reference was dropped; dropped once) -/
def FReach (s : FlushFrames.State) : Prop :=
  ∃ others steps, FlushFrames.Disciplined (FlushFrames.mk others) steps ∧ s = FlushFrames.run (FlushFrames.mk others) steps

theorem freach_inv {s : FlushFrames.State} (h : FReach s) : FlushFrames.Inv s := by
  obtain ⟨others, steps, hd, rfl⟩ := h
  exact FlushFrames.run_inv steps _ (FlushFrames.Inv_mk others) hd

/-- **T2 over several transports, arbitrary nesting on one thread.** ONE application thread nests `setReadMode(Async)` flushes of
any number of transports in any order and depth (a data callback starts the next flush) and drops the last reference of any of
them inside any callback. In every reachable state: `Impl` is never touched after its deletion; every frame on the thread's stack
belongs to a live `Impl`; `activeFlushes` of each transport is exactly the number of its frames with a live guard; once the last
reference of `d` is dropped NONE of this thread's frames is counted for `d` any more (the walk of `releaseOwnFlushes`, as
regenerated, releases ALL of them — so the gate of `d` waits for other threads only); an orphaned frame is the OUTERMOST frame of
its transport (every inner frame of it has unwound, through `Impl`, before `~FlushFrame` deletes it); only released transports are
deleted; and when nothing is in progress every released transport HAS been deleted. -/
theorem T2_nested_flushes (s : FlushFrames.State) (hr : FReach s) :
    s.uaf = false ∧ (∀ f ∈ s.stack, s.alive f.impl = true) ∧ (∀ d, s.flushes d = FlushFrames.cnt d s.stack) ∧
    (∀ d, s.released d = true → s.flushes d = 0) ∧ FlushFrames.orphOK s.stack ∧
    (∀ d, s.alive d = false → s.released d = true) ∧
    (s.dtor = none → s.stack = [] → ∀ d, s.released d = true → s.alive d = false) := by
  have I := freach_inv hr
  exact ⟨I.A, I.B, I.C, fun d h => by rw [I.C d]; exact I.D d h, I.E, I.F, fun h1 h2 d h3 => FlushFrames.released_deleted I h1 h2 d h3⟩

/-- **T1 over several transports (no dead end).** From every reachable state of the frame model a schedule respecting the contract,
at most (callers of other threads inside the transport being destroyed) + 1 + (stack depth) steps long, ends with the destructor
returned, every flush returned, nothing touched after deletion and every released transport deleted. (Existential, as
T1_teardown_completes.) -/
theorem T1_nested_completes (s : FlushFrames.State) (hr : FReach s) :
    ∃ steps : List FlushFrames.Step, FlushFrames.Disciplined s steps ∧
      steps.length ≤ (match s.dtor with | some (d, _) => s.others d + 1 | none => 0) + s.stack.length ∧
      (FlushFrames.run s steps).dtor = none ∧ (FlushFrames.run s steps).stack = [] ∧ (FlushFrames.run s steps).uaf = false ∧
      ∀ d, (FlushFrames.run s steps).released d = true → (FlushFrames.run s steps).alive d = false := by
  obtain ⟨steps, h1, h2, h3, h4, h5⟩ := FlushFrames.completes (freach_inv hr)
  exact ⟨steps, h1, h2, h3, h4, h5.A, fun d hd => FlushFrames.released_deleted h5 h3 h4 d hd⟩

/-- **The walk of `releaseOwnFlushes`, for EVERY stack.** Whatever frames are on the calling thread's stack (any transports, any
nesting, guards alive or already released), the walk as regenerated from the source releases the guard of EVERY frame of this
`Impl` and leaves every frame of another `Impl` exactly as it was, in place (the stack after the walk is the stack mapped by
"`impl == d` ⇒ guard released, else unchanged"); `activeFlushes` drops by exactly the number of this transport's live guards on the
stack; and the destructor takes the flusher branch iff some frame of this `Impl` is ANYWHERE on the stack. -/
theorem releaseOwnFlushes_exact (d : Nat) (l : List FlushFrames.Frame) :
    FlushFrames.resetGuards (FlushFrames.mask FlushFrames.walkFilters d l) l =
      l.map (fun f => if f.impl = d then { f with guard := false } else f) ∧
    FlushFrames.liveMatched (FlushFrames.mask FlushFrames.walkFilters d l) l = FlushFrames.cnt d l ∧
    (FlushFrames.mask FlushFrames.walkFilters d l).any id = l.any (fun f => decide (f.impl = d)) := by
  rw [FlushFrames.walk_filters]
  exact ⟨FlushFrames.reset_eq_map d l, FlushFrames.live_eq_cnt d l, FlushFrames.mask_any d l⟩

/-- a non-trivial stack: [U(live), D(live), U(released), D(live)] walked for D -/
example : FlushFrames.resetGuards (FlushFrames.mask FlushFrames.walkFilters 0 [{ impl := 1 }, { impl := 0 }, { impl := 1, guard := false }, { impl := 0 }])
      [{ impl := 1 }, { impl := 0 }, { impl := 1, guard := false }, { impl := 0 }] =
    [{ impl := 1 }, { impl := 0, guard := false }, { impl := 1, guard := false }, { impl := 0, guard := false }] := by decide +kernel
/-- the take-while walk violates it on the two-frame stack [U, D]: D's frame keeps its guard and the ordinary branch is taken -/
example : FlushFrames.resetGuards (FlushFrames.mask false 0 [{ impl := 1 }, { impl := 0 }]) [{ impl := 1 }, { impl := 0 }] =
      [{ impl := 1 }, { impl := 0 }] ∧ (FlushFrames.mask false 0 [{ impl := 1 }, { impl := 0 }]).any id = false := by decide +kernel

/-- **The filter is necessary.** With the take-while walk (`f != nullptr && f->impl == this` in the loop condition) the relay
program — D flushes, its callback flushes U, U's callback drops the last reference of D — respects the contract and leaves
`~Transport(D)` blocked for EVERY continuation: whatever the thread or other threads do next, however often the predicate is
re-checked, the destructor does not return (it waits for D's own outer flush, which it did not release). -/
theorem takeWhile_walk_deadlocks (steps : List FlushFrames.Step) :
    (FlushFrames.runW false (FlushFrames.runW false (FlushFrames.mk fun _ => 0) FlushFrames.relay) steps).dtor = some (0, false) :=
  FlushFrames.dtor_blocked false steps (by decide) (by decide)

/-- … while the walk as written completes the same program: the destructor returns, U's flush returns true, D's flush returns
false and D's `Impl` is deleted when D's (outermost) frame unwinds -/
example : FlushFrames.disciplinedB (FlushFrames.mk fun _ => 0) (FlushFrames.relay ++ [.dtorWake, .pop, .pop]) = true := by decide +kernel
example : (FlushFrames.run (FlushFrames.mk fun _ => 0) (FlushFrames.relay ++ [.dtorWake, .pop, .pop])).log =
    [.dtorReturned 0, .ret 1 true, .ret 0 false, .deleted 0] := by decide +kernel
/-- [D, U, D]: the inner D frame is released too but only the OUTER one deletes `Impl` -/
example : (FlushFrames.run (FlushFrames.mk fun _ => 0) [.push 0, .push 1, .push 0, .release 0, .dtorWake, .pop, .pop, .pop]).log =
    [.dtorReturned 0, .ret 0 false, .ret 1 true, .ret 0 false, .deleted 0] := by decide +kernel
/-- control: U released inside D's callback while U has no frame — the ordinary branch, `~Impl` at once -/
example : (FlushFrames.run (FlushFrames.mk fun _ => 0) [.push 0, .release 1, .dtorWake, .pop]).log =
    [.deleted 1, .dtorReturned 1, .ret 0 true] := by decide +kernel

/-- a receiver on an open session, a connector and a flusher, destroyed on the NORMAL path: the schedule is disciplined, every
call returns, `Impl` is destroyed, nothing touched it afterwards -/
def demoThreads : List Thread := [{ kind := .recv 1 }, { kind := .conn }, { kind := .flush }]
def demoSteps : List Step :=
  [.enter 0, .enter 1, .enter 2, .flushStep 2 true, .tdBegin, .tdStop, .ioDrain (some 1), .ioDrain none, .tdJoined,
   .wake 1 false, .flushStep 2 false, .flushStep 2 false, .flushStep 2 false, .wake 0 false, .tdWake, .tdDestroy]
example : disciplinedB (mk demoThreads [1]) demoSteps = true := by decide +kernel
example : (run (mk demoThreads [1]) demoSteps).log =
    [.cbData 2, .cbClose 1, .ret 1 .shuttingDown, .ret 2 (.flushed false), .ret 0 .peerClosed, .destroyed] := by decide +kernel
example : (run (mk demoThreads [1]) demoSteps).uaf = false ∧ (run (mk demoThreads [1]) demoSteps).implAlive = false := by decide +kernel

/-- FC05a: the sole owner releases the transport inside the data callback of its own flush while a receiver is parked on a
session the engine does not know: the destructor runs on the flusher, waits out the receiver, and `Impl` is deleted when the
flush loop has unwound -/
def demoFlushSelf : List Step :=
  [.enter 0, .enter 1, .flushStep 0 true, .flushSelfDestruct 0, .tdBegin, .tdStop, .ioDrain none, .tdJoined, .wake 1 true,
   .tdWake, .tdOrphan, .flushStep 0 false]
example : disciplinedB (mk [{ kind := .flush }, { kind := .recv 7 }] []) demoFlushSelf = true := by decide +kernel
example : (run (mk [{ kind := .flush }, { kind := .recv 7 }] []) demoFlushSelf).log =
    [.cbData 0, .ret 1 .shuttingDown, .ret 0 (.flushed false), .destroyed] := by decide +kernel
example : (run (mk [{ kind := .flush }, { kind := .recv 7 }] []) demoFlushSelf).uaf = false := by decide +kernel

/-- the sole owner releases the transport inside a close callback on the I/O thread while a receiver and a connector are parked:
both are notified by the destructor's entry section, the drain closes the remaining session, the epilogue deletes `Impl` -/
def demoIoSelf : List Step :=
  [.enter 0, .enter 1, .ioSelfDestruct, .wake 0 false, .wake 1 false, .tdWake, .ioSyncCall .receiveSync, .ioDrain (some 1), .ioDrain none]
example : disciplinedB (mk [{ kind := .recv 9 }, { kind := .conn }] [1]) demoIoSelf = true := by decide +kernel
example : (run (mk [{ kind := .recv 9 }, { kind := .conn }] [1]) demoIoSelf).log =
    [.ret 0 .shuttingDown, .ret 1 .shuttingDown, .refused .receiveSync, .cbClose 1, .destroyed] := by decide +kernel

/-- engine queue: promise 1 fulfilled by the dispatch, `_running` cleared by detachForTermination (no Shutdown command), promises 2
and 3 accepted after the loop left and failed by the residual drain, promise 4 refused by the closed queue; the I/O thread exits;
after a restart promise 5 is accepted and dispatched again -/
def demoQueue : List EngineQueue.Step :=
  [.enqueue (.addListener 1), .swap, .dispatch false, .enqueue (.addListener 2), .clearRunning, .loopExit,
   .enqueue (.addListener 3), .closeQueue, .enqueue (.addListener 4), .failResidual, .failResidual, .failResidual,
   .restart, .enqueue (.addListener 5), .swap, .dispatch true]
example : EngineQueue.disciplinedB EngineQueue.init demoQueue = true := by decide +kernel
example : let s := EngineQueue.run EngineQueue.init (demoQueue.take 12)
    s.phase = .exited ∧ s.accepted = [3, 2, 1] ∧ s.rejected = [4] ∧ (s.fulfilled 1, s.fulfilled 2, s.fulfilled 3, s.fulfilled 4) = (1, 1, 1, 0) := by
  decide +kernel
example : let s := EngineQueue.run EngineQueue.init demoQueue
    s.phase = .loop ∧ s.closed = false ∧ s.fulfilled 5 = 1 := by decide +kernel

section Roles
open Iora.TeardownRoles Iora.Gen.TeardownSkel

/-- callback-capable thread roles of an engine and what each may do, as the inventory regenerated from `tcp_engine.hpp` /
`udp_engine.hpp` shows it (every call site of `_cbs.on*` / `err()` with its member function, exception arm or not, and the thread
roles that function is reachable from over the class-internal call graph; tools/tr_teardownskel.py):
* every TimerService lambda of TcpEngine is a single call of one of the three handlers, each handler is the single statement
  `enqueue(Command::close(sid, …, origin));` with the result discarded, and the timer role reaches exactly those handlers, both
  `enqueue` overloads and `setLastFatal` — in particular NOT `err()`, `closeNow` or any function with a `_cbs.on*` site other than
  the exception arm of `enqueue` (which is past the closed test);
* every other call site is reachable from the I/O thread, or from the API caller inside `start()` (`err()`/`initTls`), only;
  the public entry points other than `start()` reach a callback only through the exception arm of `enqueue`;
* `shutdownDrain` does not cancel the session timers (the model keeps them armed across `stop()`);
* UdpEngine has no TimerService role at all; on the API role it reports through `error()` inside `start()` and inside
  `addListener(tls ≠ None)` (argument error, synchronously in the caller's own call);
* the one `std::async` lambda (DNS lookup) touches no member of the engine;
* because the timer role may be inside `enqueue()` at ANY time — also while the application restarts the engine, which the
  "callers do not enqueue during start()" contract of `start()` does not cover — `start()` publishes the fresh `_eventFd` and reopens
  the queue in ONE `_cmdMutex` critical section and writes neither outside it, and `cleanupStartFail` closes the descriptor under
  that mutex (repair FC05c; the model's `enqueue` is atomic with respect to `apiStart` on that ground). -/
theorem roles_inventory_conforms :
    tcpTimerHandlers.map (·.1) = ["handleConnectTimeout", "handleHandshakeTimeout", "handleWriteStallTimeout"] ∧
    tcpTimerHandlers.all (fun h => h.2.2 == "enqueue-ignored") = true ∧
    tcpTimerRoleFns = ["enqueue", "enqueue#1", "handleConnectTimeout", "handleHandshakeTimeout", "handleWriteStallTimeout", "setLastFatal"] ∧
    tcpCallbackSites.all (fun x => [["io"], ["api"], ["io", "api"], ["timer", "api"]].contains x.2.2.2) = true ∧
    tcpCallbackSites.all (fun x => !timerSiteOutsideEnqueue x) = true ∧
    (tcpCallbackSites.filter (fun x => x.2.2.2 == ["api"] || x.2.2.2 == ["io", "api"])).map (·.1) = ["start", "err", "initTls"] ∧
    tcpApiCallbackEntries.all (fun e => e.1 == "start" || e.2 == "enqueue#1:catch enqueue:catch") = true ∧
    tcpAsyncLambdas ≤ 1 ∧
    udpHasNoTimerRole = true ∧ udpApiCallbackEntries = [("addListener", "error:body"), ("start", "error:body")] ∧
    udpCallbackSites.all (fun x => x.2.2.2 == ["io"] || (x.1 == "error" && x.2.2.2 == ["io", "api"])) = true ∧ udpAsyncLambdas = 0 ∧
    genCfg = { timerCbOnRefusal := false, enqueueCbOnException := true, drainCancelsTimers := false } ∧
    tcpStartLockedStmts = ["_eventFd=efd", "_cmdsClosed=false"] ∧ tcpStartUnlockedQueueWrites = 0 ∧
    tcpStartFailClosesEventFdUnderLock = true := by
  decide +kernel

/-- **T5 over ALL thread roles (I/O thread, TimerService thread, API caller).** Every schedule of the three roles from a freshly
constructed engine (any number of start/stop cycles, any commands, any socket events, any timer left armed by the shutdown drain
and expiring at any later point, `enqueue` throwing or not): once a `stop()` has RETURNED to its non-callback caller with the I/O
thread terminated, NO later step of ANY role runs a user callback — and the state stays that way — until the application calls
`start()` again.  The model is instantiated with the regenerated inventory (`genCfg`): the statement fails to build when a timer
handler reaches a callback outside `enqueue`'s exception arm. -/
theorem T5_no_callback_after_stop_any_role (steps later : List TeardownRoles.Step)
    (hq : (TeardownRoles.run genCfg {} steps).quiet = true) (hs : later.all (fun st => !isStart st) = true) :
    (TeardownRoles.run genCfg (TeardownRoles.run genCfg {} steps) later).log = (TeardownRoles.run genCfg {} steps).log ∧
    (TeardownRoles.run genCfg (TeardownRoles.run genCfg {} steps) later).quiet = true :=
  quiet_run_silent genCfg (by decide) later _ (inv_reach genCfg _ ⟨steps, rfl⟩) hq hs

/-- the hypotheses are satisfiable: stop() with a TLS connect pending, whose connect-timeout timer is still armed afterwards and then
expires — twice the queue refuses, nothing is logged after the drain's close callback -/
example : (TeardownRoles.run genCfg {} witnessPrefix).quiet = true ∧ (TeardownRoles.run genCfg {} witnessPrefix).timers = [(1, .connect)] ∧
    (TeardownRoles.run genCfg {} (witnessPrefix ++ [.timerFire 0 false, .apiConnect false true, .apiStop false])).log = [(.io, .close)] := by decide +kernel

/-- … for every configuration whose timer handlers stay silent on a refused enqueue (whatever the other two source facts are) -/
theorem T5_any_silent_timer (cfg : Cfg) (hT : cfg.timerCbOnRefusal = false) (s : TeardownRoles.State) (hr : TeardownRoles.Reach cfg s)
    (hq : s.quiet = true) (st : TeardownRoles.Step) (hs : isStart st = false) :
    (TeardownRoles.step cfg s st).log = s.log ∧ (TeardownRoles.step cfg s st).quiet = true :=
  quiet_step_silent cfg hT s (inv_reach cfg s hr) hq st hs

/-- the claim "no role runs a callback after stop() returned" for a given reading of the source -/
def T5_roles_statement (cfg : Cfg) : Prop :=
  ∀ s, TeardownRoles.Reach cfg s → s.quiet = true → ∀ st, isStart st = false → (TeardownRoles.step cfg s st).log = s.log

/-- **Witness (seed C05-d).** A TimerService handler that reports a refused enqueue through a user callback REFUTES the statement:
start; connect; the Connect command leaves its connect-timeout timer armed; stop() — the drain closes the session but not its
timer, closes the queue, the join returns —; the timer expires: `onError` runs on the timer thread after stop() has returned. -/
theorem T5_roles_refuted_by_reporting_timer (cfg : Cfg) (hT : cfg.timerCbOnRefusal = true) (hd : cfg.drainCancelsTimers = false) :
    ¬ T5_roles_statement cfg := by
  intro h
  have a := witness_prefix_quiet cfg hd
  have b := witness_late_callback cfg hd hT
  have c := h _ ⟨witnessPrefix, rfl⟩ a.1 (.timerFire 0 false) rfl
  rw [b, a.2] at c
  exact absurd c (by decide)

/-- **Role table.** Any state, any step: the log grows only by callbacks whose role is the role of the thread that took the step
(a timer-role step never logs an `io` callback, …), and an I/O-role step logs nothing once the I/O thread has terminated. -/
theorem T5_callbacks_by_role (cfg : Cfg) (s : TeardownRoles.State) (st : TeardownRoles.Step) :
    ∃ l, (TeardownRoles.step cfg s st).log = s.log ++ l ∧ (∀ e ∈ l, e.1 = roleOf st) ∧
      (roleOf st = .io → s.ioAlive = false → l = []) :=
  (step_eff cfg s st).log

/-- a timer that expires late is harmless on the I/O thread too: the Close arm of `process()` drops a timer-originated close whose
session is gone or whose condition no longer holds (connect completed / handshake done / write queue drained) -/
theorem T5_stale_timer_close_dropped (s : TeardownRoles.State) (sid : Nat) (k : TimerKind) (arm : Bool)
    (h : match findSess s sid with | none => True | some x => stale x (some k) = true) :
    dispatch s (.close sid (some k)) arm = s := by
  simp only [dispatch]
  split
  · rename_i x hx; rw [hx] at h; simp [h]
  · rfl
example : dispatch { sessions := [{ sid := 3, connectPending := false }] } (.close 3 (some .connect)) false =
    { sessions := [{ sid := 3, connectPending := false }] } := by
  exact T5_stale_timer_close_dropped _ 3 .connect false (by simp [findSess, stale])

/-- **Session ids are never reused** (why a stale timer of a previous start/stop epoch cannot close a session of a later one): in every
reachable state of the role model the ids of the open sessions and of the queued Connect commands are pairwise distinct and all below
`_nextSessionId`, which `start()` never resets — so an id a timer was armed for names that one session or, once it is closed, none. -/
theorem T5_session_ids_never_reused (cfg : Cfg) (s : TeardownRoles.State) (hr : TeardownRoles.Reach cfg s) :
    (ids s).Nodup ∧ ∀ i ∈ ids s, i < s.nextSid := by
  obtain ⟨steps, rfl⟩ := hr
  exact run_ind cfg (P := Fresh) (fun s st => (step_eff cfg s st).fresh) steps {} ⟨by simp [ids, connectSids], by simp [ids, connectSids]⟩
example : ids (TeardownRoles.run genCfg {} [.apiStart false, .apiConnect true false, .apiConnect false false, .ioProcess true]) = [1, 2] := by decide +kernel

end Roles

end Iora.C05
