import IoraModel.Lemmas.TcpEnq
import IoraModel.Lemmas.TcpWake
import IoraModel.Lemmas.TcpExt
/-!
# C01 — TCP/TLS sessions deliver sent bytes exactly once and in order

The property theorems of the session (`Model/TcpSession.lean`), of its command queue (`Enq` there) and of the eventfd wake-up
(`Model/TcpWake.lean`); constants and source-shape facts come from the regenerated `Gen/TcpSession.lean`.

The session theorems (T1–T4, T6, the retry buffer) quantify over ALL input histories; an input carries the environment's answers
(`wrote n`, `again`, `wantR`, `wantW`, `err`, read results, handshake results) to the calls it triggers, so "all histories" is "all
fault sequences at every call", for every payload size and content. T5 and the wake-up theorems quantify over all schedules of the
micro-steps of any number of senders and the I/O thread. A theorem named `…_needs_…` is a witness: without the source fact it
names, the property fails.
-/
namespace Iora.C01
open Iora Iora.Tcp

/-- **T1 (exactly once, in order, no interleaving; early end ⇒ prefix).** From a fresh session, for every input history
and every answer sequence, under the close-on-backpressure policy: while the session is open, the bytes the kernel /
`SSL_write` took (`wire`) followed by the bytes still queued are exactly the accepted payloads concatenated in
command-queue order; and always — open or closed — `wire` is a prefix of that concatenation. -/
theorem T1_exactly_once_in_order (cfg : Cfg) (hcob : cfg.closeOnBackpressure = true) (s0 : St) (h0 : s0.Fresh)
    (is : List In) :
    let s := (run cfg s0 is).1
    (s.closed = false → s.wire ++ s.wq.flatten = s.accepted.flatten) ∧ s.wire <+: s.accepted.flatten :=
  (run_good hcob is (fresh_good cfg s0 h0)).1

/-- the default configuration satisfies the policy hypothesis (regenerated from `transport_types.hpp`) -/
theorem T1_default_policy : ({} : Cfg).closeOnBackpressure = true := by decide +kernel

/-- non-vacuity: both initial states the engine creates are fresh, for plain and TLS sessions -/
example (tls : Bool) : (initAccepted tls).Fresh ∧ (initConnecting tls).Fresh := by
  cases tls <;> simp [initAccepted, initConnecting, St.Fresh]

/-- non-vacuity of T1: a 3-byte payload cut after 1 byte, a second payload queued behind the tail, then a writable event
that is refused once and then takes everything -/
example :
    let is : List In := [.cmdSend [1, 2, 3] (.wrote 1), .cmdSend [4, 5] .again,
      .event { out := true } true .established .done [] [.again],
      .event { out := true } true .established .done [] [.wrote 2, .wrote 1, .wrote 1]]
    let s := (run {} (initAccepted false) is).1
    s.wire = [1, 2, 3, 4] ∧ s.wq = [[5]] ∧ s.accepted = [[1, 2, 3], [4, 5]] ∧ s.closed = false := by decide +kernel

/-- **T1, inductive form.** The invariant (`Inv` = conservation while open + prefix always, `Armed` = T3) is preserved by
every single step from every state that satisfies it — not only from fresh states. -/
theorem T1_step (cfg : Cfg) (hcob : cfg.closeOnBackpressure = true) (s : St) (i : In) (h : Good cfg s) :
    Good cfg (step cfg s i).1 :=
  step_good hcob i h

/-- **T2 (no clear text on a TLS session).** On a session with TLS (`tls ≠ none`: handshake or open), no input history
whatsoever makes the engine call the plain `::send` — or the plain `::recv` (`NoClear` excludes `.write false _` and
`.read false _`: nothing is written to or taken from the socket behind OpenSSL's back); and a step that leaves the session in
the handshake state has put nothing on the wire — sends accepted in the handshake window are only queued. -/
theorem T2_no_cleartext_on_tls (cfg : Cfg) (s : St) (ht : s.tls ≠ .none) (is : List In) :
    NoClear (run cfg s is).2 ∧
    (∀ i, s.tls = .handshake → (step cfg s i).1.tls = .handshake → (step cfg s i).1.wire = s.wire) :=
  ⟨((run_acts cfg is s).toWAct.noClear ht).1, fun i _ hs' => by
    simp only [St.wire]; rw [((step_acts cfg s i).toWAct.handshake hs').2]⟩

/-- `NoClear` really excludes plain reads as well as plain writes -/
example : ¬ NoClear [.read false 10] ∧ ¬ NoClear [.write false [1]] ∧ NoClear [.read true 10, .write true [1], .handshake] := by
  unfold NoClear; decide

/-- non-vacuity of T2: in the handshake window a send produces no write at all and is queued; after the handshake
completes the queued payload goes out through `SSL_write` -/
example :
    let s1 := (step {} (initAccepted true) (.cmdSend [7, 8] (.wrote 2)))
    s1.1.wq = [[7, 8]] ∧ s1.2 = [.interest true true] ∧
    (step {} s1.1 (.event { inn := true, out := true } true .notYet .done [.wantR, .wantR] [.wrote 2])).2 =
      [.soError, .handshake, .connected, .interest true true, .read true 65536, .interest true true, .read true 65536,
       .interest true true, .write true [7, 8], .interest false true] := by decide +kernel

/-- **T3 (no lost EPOLLOUT re-arm, ET and LT).** After every step of every history from a fresh session: if the session
is open and its queue is not empty then EPOLLOUT is in the registered mask, and that registration was issued by an
`epoll_ctl` AFTER the last write attempt (so an edge-triggered epoll reports the socket writable again). -/
theorem T3_rearm (cfg : Cfg) (hcob : cfg.closeOnBackpressure = true) (hmod : cfg.modSkipsUnchanged = false)
    (s0 : St) (h0 : s0.Fresh) (is : List In) :
    let s := (run cfg s0 is).1
    s.closed = false → s.wq ≠ [] → s.interestOut = true ∧ s.rearmed = true :=
  (run_good hcob is (fresh_good cfg s0 h0)).2 hmod

/-- the code as it is issues the `epoll_ctl(MOD)` unconditionally (regenerated from `updateInterest` / `modEpoll`) -/
theorem T3_default_mod : ({} : Cfg).modSkipsUnchanged = false := by decide +kernel

/-- **T3 needs the unconditional MOD.** If `updateInterest` skipped the `epoll_ctl` when the mask is unchanged (a per-session
mask cache), then after a short write issued by the drain loop — EPOLLOUT already registered — nothing re-arms the
edge-triggered EPOLLOUT: the session is open, bytes are queued, and no `epoll_ctl` follows the last write attempt. -/
theorem T3_needs_unconditional_mod :
    ∃ (cfg : Cfg) (is : List In), cfg.closeOnBackpressure = true ∧ cfg.modSkipsUnchanged = true ∧
      let s := (run cfg (initAccepted false) is).1
      s.closed = false ∧ s.wq = [[3]] ∧ s.interestOut = true ∧ s.rearmed = false :=
  ⟨{ modSkipsUnchanged := true, closeOnBackpressure := true },
   [.cmdSend [1, 2, 3] (.wrote 1), .event { out := true } true .established .done [] [.wrote 1]], rfl, rfl, by decide +kernel⟩

/-- a writable event on an established, open session -/
def evWritable (ws : List WAns) : In := .event { out := true } true .established .done [] ws

/-- a writable event on an open, established session runs the drain loop on the queue: the session is closed afterwards only if a
write failed; otherwise queue and wire are the loop's and the session is still established -/
theorem writable_spec (cfg : Cfg) (s : St) (ws : List WAns) (hc : s.closed = false) (hh : s.tls ≠ .handshake)
    (hp : s.connectPending = false) :
    let l := writeLoop (s.tls == .open) s.wq ws
    let s' := (step cfg s (evWritable ws)).1
    (s'.closed = true ∧ l.stop = .failed) ∨
    (s'.closed = false ∧ s'.wq = l.wq ∧ s'.wireRev = l.sentRev ++ s.wireRev ∧ s'.tls ≠ .handshake ∧ s'.connectPending = false) := by
  intro l s'
  have e : s' = (writePending cfg s ws).1 := by simp [s', step, evWritable, onSession, onSessionIo, hc, hh, hp]
  rw [e]
  exact writePending_cases (P := fun r => (r.1.closed = true ∧ l.stop = .failed) ∨
      (r.1.closed = false ∧ r.1.wq = l.wq ∧ r.1.wireRev = l.sentRev ++ s.wireRev ∧ r.1.tls ≠ .handshake ∧ r.1.connectPending = false))
    cfg s ws
    (fun _ _ _ => .inr ⟨(ui_closed ..).trans hc, ui_wq .., ui_wireRev .., (ui_tls ..).symm ▸ hh, (ui_connectPending ..).trans hp⟩)
    (fun hf => .inl ⟨cn_closed .., hf⟩)

/-- **T3 (progress).** A writable event whose first write takes `n > 0` bytes of a non-empty front buffer strictly
decreases the number of pending bytes, and the wire grows by exactly the bytes that left the queue (unless the session
closes in that event). -/
theorem T3_progress (cfg : Cfg) (s : St) (d : Bytes) (rest : List Bytes) (n : Nat) (ws : List WAns)
    (hc : s.closed = false) (hh : s.tls ≠ .handshake) (hp : s.connectPending = false)
    (hq : s.wq = d :: rest) (hd : d ≠ []) (hn : 0 < n) :
    let s' := (step cfg s (evWritable (.wrote n :: ws))).1
    s'.closed = false → s'.pending < s.pending ∧ s'.wire.length + s'.pending = s.wire.length + s.pending := by
  have hl := writeLoop_progress (s.tls == .open) d rest n ws hn hd
  have hlen := congrArg List.length (writeLoop_conserves (s.tls == .open) (d :: rest) (.wrote n :: ws))
  simp only [List.length_append] at hlen
  rw [← hq] at hl hlen
  rcases writable_spec cfg s (.wrote n :: ws) hc hh hp with ⟨h, _⟩ | ⟨_, hq', hw', _⟩
  · exact fun h' => nomatch h.symm.trans h'
  · intro s' _
    simp only [s', St.pending, St.wire, hq', hw', flat_rev_append, List.length_append]; omega

/-- non-vacuity of T3-progress: 3 of 5 pending bytes leave in one event -/
example : let s : St := { wq := [[1, 2], [3, 4, 5]], wantWrite := true, interestOut := true }
    (step {} s (evWritable [.wrote 2, .wrote 1])).1.pending = 2 := by decide +kernel

/-- **T3 (draining).** If the environment takes every buffer whole, a single writable event empties the queue and
everything that was pending is on the wire. -/
theorem T3_drains (cfg : Cfg) (s : St) (hc : s.closed = false) (hh : s.tls ≠ .handshake) (hp : s.connectPending = false)
    (hne : ∀ d ∈ s.wq, d ≠ []) :
    let s' := (step cfg s (evWritable (s.wq.map fun d => .wrote d.length))).1
    s'.wq = [] ∧ s'.closed = false ∧ s'.wire = s.wire ++ s.wq.flatten := by
  have hd := writeLoop_drains (s.tls == .open) s.wq hne
  rcases writable_spec cfg s _ hc hh hp with ⟨_, hf⟩ | ⟨hc', hq', hw', _⟩
  · exact nomatch hd.2.1.symm.trans hf
  · exact ⟨hq'.trans hd.1, hc', by simp only [St.wire]; rw [hw', flat_rev_append, hd.2.2]⟩

/-- **T3 (a fair environment drains the queue).** If every writable event's first write takes at least one byte, then after
as many writable events as there are pending bytes the queue is empty (or the session has been closed by an error the
environment reported) — whatever the cut positions, EAGAINs and errors after the first answer of each event are. Together
with `T3_rearm` (a writable event is always armed while the queue is non-empty) this is "no accepted byte stays queued
forever". -/
theorem T3_fair_drain (cfg : Cfg) : ∀ (evs : List (List WAns)) (s : St),
    (∀ ws ∈ evs, ∃ n rest, ws = .wrote (n + 1) :: rest) →
    s.closed = false → s.tls ≠ .handshake → s.connectPending = false → NonEmptyBufs s.wq →
    s.pending ≤ evs.length →
    (run cfg s (evs.map evWritable)).1.closed = true ∨ (run cfg s (evs.map evWritable)).1.wq = []
  | [], s, _, _, _, _, hne, hlen => by
    -- no event left, so no pending byte: a queue of non-empty buffers is then empty
    right
    cases hq : s.wq with
    | nil => exact hq
    | cons d rest =>
      have hdl : 0 < d.length := List.length_pos_iff.mpr (hne d (hq ▸ List.mem_cons_self ..))
      have hp : s.pending = d.length + rest.flatten.length := by simp [St.pending, hq]
      exact absurd hlen (by rw [hp]; exact Nat.not_le.mpr (Nat.lt_add_right _ hdl))
  | ws :: evs, s, hall, hc, hh, hp, hne, hlen => by
    obtain ⟨n, rest, rfl⟩ := hall ws (List.mem_cons_self ..)
    simp only [List.map_cons, run]
    rcases writable_spec cfg s (.wrote (n + 1) :: rest) hc hh hp with ⟨hc1, _⟩ | ⟨hc1, hwq, _, hh1, hp1⟩
    · left; exact ((run_acts cfg _ _).toWAct.closed hc1).2.1
    · -- the measure is `pending ≤ events left`: the first write of this event took at least one byte
      have := writeLoop_fair (s.tls == .open) s.wq n rest hne
      refine T3_fair_drain cfg evs _ (fun w hw => hall w (List.mem_cons_of_mem _ hw)) hc1 hh1 hp1
        (hwq ▸ writeLoop_nonEmpty _ _ _ hne) ?_
      unfold St.pending at hlen ⊢
      rw [hwq]
      simp only [List.length_cons] at hlen
      omega

/-- **T3 (fair drain, reachable states).** The same for every state reachable from a fresh session by ANY history: that every
queued buffer is non-empty is not an assumption there but a consequence of `send` not enqueueing `n == 0` (`Acts.nonEmpty`). -/
theorem T3_fair_drain_reachable (cfg : Cfg) (s0 : St) (h0 : s0.Fresh) (is : List In) (evs : List (List WAns))
    (hall : ∀ ws ∈ evs, ∃ n rest, ws = .wrote (n + 1) :: rest) :
    let s := (run cfg s0 is).1
    s.closed = false → s.tls ≠ .handshake → s.connectPending = false → s.pending ≤ evs.length →
    (run cfg s (evs.map evWritable)).1.closed = true ∨ (run cfg s (evs.map evWritable)).1.wq = [] := by
  intro s hc hh hp hlen
  have hne : NonEmptyBufs s.wq := (run_acts cfg is s0).toWAct.nonEmpty (by rw [h0.1]; exact .nil)
  exact T3_fair_drain cfg evs s hall hc hh hp hne hlen

/-- non-vacuity of T3-fair: 5 pending bytes, five events that each take one byte and are then refused -/
example : (run {} ({ wq := [[1, 2], [3, 4, 5]], wantWrite := true, interestOut := true } : St)
    ((List.replicate 5 [WAns.wrote 1, WAns.again]).map evWritable)).1.wq = [] := by decide +kernel

/-- **T4 (read loop).** For every answer sequence: the data callbacks carry exactly the chunks of the leading data
answers, in order, each once (`deliveries`, and the same chunks are appended to `delivered`/`received`); the loop issues
one more read than it got data answers, i.e. it stops exactly at the first non-data answer (EAGAIN / WANT_* / EOF /
error), consumes it and nothing after it; and the session is closed afterwards iff it was closed before or that answer
is EOF or an error. -/
theorem T4_read_loop (cfg : Cfg) (hd : cfg.readDrains = true) (s : St) (rs : List RAns) :
    let ssl := s.tls == .open
    let r := readAvail cfg s rs
    deliveries r.1.2 = dataPrefix ssl rs ∧
    r.1.1.delivered = s.delivered ++ (dataPrefix ssl rs).flatten ∧
    r.1.1.received = s.received ++ (dataPrefix ssl rs).flatten ∧
    r.2 = (afterData ssl rs).tail ∧
    readCalls r.1.2 = (dataPrefix ssl rs).length + 1 ∧
    r.1.1.closed = (s.closed || ((afterData ssl rs).head?.map (endsSession ssl)).getD false) := by
  induction rs generalizing s with
  | nil => simp [readAvail, dataPrefix, afterData, deliveries, readCalls]
  | cons a rest ih =>
    simp only []
    unfold readAvail
    simp only []
    cases hcl : classifyR (s.tls == .open) a with
    | got bs =>
      obtain ⟨hdel, hdd, hrcv, hrest, hcalls, hclosed⟩ :=
        ih { s with receivedRev := bs :: s.receivedRev, deliveredRev := bs :: s.deliveredRev }
      simp only [dataPrefix, afterData, hcl, deliveries, readCalls, hd, if_true]
      exact ⟨by rw [hdel], by rw [hdd]; simp [St.delivered], by rw [hrcv]; simp [St.received], hrest, by rw [hcalls]; simp, hclosed⟩
    | block o =>
      cases o with
      | none => simp [dataPrefix, afterData, hcl, deliveries, readCalls, endsSession]
      | some tw =>
        simp [dataPrefix, afterData, hcl, deliveries, readCalls, endsSession, deliveries_ui, readCalls_ui, St.delivered, St.received]
    | eof =>
      simp [dataPrefix, afterData, hcl, deliveries, readCalls, deliveries_cn, readCalls_cn, St.delivered, St.received, endsSession]
    | fail =>
      simp [dataPrefix, afterData, hcl, deliveries, readCalls, deliveries_cn, readCalls_cn, St.delivered, St.received, endsSession]

/-- non-vacuity of T4: two chunks, then EAGAIN, then answers that must stay untouched -/
example : let r := readAvail {} ({} : St) [.data [1, 2], .data [3], .again, .data [9]]
    deliveries r.1.2 = [[1, 2], [3]] ∧ r.2 = [.data [9]] ∧ r.1.1.closed = false ∧ readCalls r.1.2 = 3 := by decide +kernel
example : let r := readAvail {} ({} : St) [.data [1], .eof]
    deliveries r.1.2 = [[1]] ∧ r.1.1.closed = true := by decide +kernel

/-- the code as it is reads until the channel blocks in BOTH epoll modes (regenerated from the loop head of `readAvail`) -/
theorem T4_default_drains : ({} : Cfg).readDrains = true ∧ ({ edge := false } : Cfg).readDrains = true := by decide +kernel

/-- **T4 over whole histories (delivered = received).** For every input history from a fresh session: the bytes handed to the data
callback are exactly the bytes `recv` / `SSL_read` returned, in order, each once — as state (`delivered = received`) and as
outputs (the payloads of the `deliver` outputs of the whole run, concatenated). Holds for either loop shape. -/
theorem T4_run_delivered_eq_received (cfg : Cfg) (s0 : St) (h0 : s0.Fresh) (is : List In) :
    let r := run cfg s0 is
    r.1.delivered = r.1.received ∧ r.1.delivered = (deliveries r.2).flatten := by
  intro r
  obtain ⟨_, _, _, hd0, hr0, _⟩ := h0
  have h := (run_acts cfg is s0).toWAct.rd
  unfold RdInv at h
  rw [hd0, hr0] at h
  simp only [List.append_nil] at h
  refine ⟨by simp only [St.delivered, St.received]; rw [h.1, h.2], ?_⟩
  simp only [St.delivered]; rw [h.1, List.reverse_reverse]

/-- **T4: one wake-up takes everything the environment holds — the plaintext OpenSSL has buffered included.** The environment
holds `e.buf` (plaintext of a record `SSL_read` has pulled out of the kernel but not returned: no epoll event will ever announce
it) and `e.kern` (records still in the kernel buffer). With the drain loop (`cfg.readDrains`, true for the code as it is in both
epoll modes) and a non-zero `ioReadChunk`, ONE `readAvail` call answered by that environment delivers all of it, in order,
consumes every answer up to the final EAGAIN / WANT_READ, and leaves the session open. -/
theorem T4_wakeup_drains_environment (cfg : Cfg) (hd : cfg.readDrains = true) (hc : 0 < cfg.ioReadChunk) (s : St) (e : Rd.Env) :
    let ssl := s.tls == .open
    let r := readAvail cfg s (e.answers ssl cfg.ioReadChunk)
    r.1.1.delivered = s.delivered ++ e.content ∧ r.2 = [] ∧ r.1.1.closed = s.closed := by
  intro ssl r
  obtain ⟨_, hdd, _, hrest, _, hclosed⟩ := T4_read_loop cfg hd s (e.answers ssl cfg.ioReadChunk)
  have ha := Rd.answers_spec ssl cfg.ioReadChunk hc e
  refine ⟨by rw [hdd, ha.1], by rw [hrest, ha.2]; rfl, ?_⟩
  rw [hclosed, ha.2]
  cases hs : (s.tls == Tls.open) <;> simp [ssl, hs, endsSession, classifyR]

/-- **T4 over whole histories of the closed receive-side system (delivered = everything the peer sent).** The peer appends
records to the kernel buffer at any time; epoll wakes the I/O thread only while the KERNEL buffer is non-empty; a wake-up is one
`readAvail` call answered by the environment (which may leave plaintext inside OpenSSL if the caller does not drain). With the
drain loop, for every interleaving of peer writes and wake-ups from an environment with nothing buffered: the bytes handed to
the data callback followed by what is still in the kernel buffer are exactly the bytes the peer sent, in order; nothing is ever
left inside OpenSSL between wake-ups; hence whenever epoll is silent, everything the peer sent has been delivered. -/
theorem T4_run_delivered_eq_sent (cfg : Cfg) (hd : cfg.readDrains = true) (hc : 0 < cfg.ioReadChunk) (s0 : St)
    (acts : List Rd.Act) :
    let y := Rd.Sys.run cfg { s := s0 } acts
    y.s.delivered ++ y.e.kern.flatten = s0.delivered ++ y.sent ∧ y.e.buf = [] ∧
    (y.e.epollIn = false → y.s.delivered = s0.delivered ++ y.sent) := by
  have key : ∀ (acts : List Rd.Act) (y : Rd.Sys), y.e.buf = [] → y.s.delivered ++ y.e.kern.flatten = s0.delivered ++ y.sent →
      (Rd.Sys.run cfg y acts).e.buf = [] ∧
      (Rd.Sys.run cfg y acts).s.delivered ++ (Rd.Sys.run cfg y acts).e.kern.flatten = s0.delivered ++ (Rd.Sys.run cfg y acts).sent := by
    intro acts
    induction acts with
    | nil => intro y hb hi; exact ⟨hb, hi⟩
    | cons a as ih =>
      intro y hb hi
      simp only [Rd.Sys.run]
      cases a with
      | peerWrite r =>
        refine ih _ hb ?_
        simp only [Rd.Sys.step, List.flatten_append, List.flatten_cons, List.flatten_nil, List.append_nil]
        rw [← List.append_assoc, hi, List.append_assoc]
      | wake =>
        simp only [Rd.Sys.step]
        split
        · -- the wake-up moves everything the environment holds (all of it in the kernel, as `buf = []`) to `delivered`
          refine ih _ (by simp) ?_
          have h := (T4_wakeup_drains_environment cfg hd hc y.s y.e).1
          simp only [List.flatten_nil, List.append_nil]
          rw [h, ← hi]
          simp [Rd.Env.content, hb]
        · exact ih _ hb hi
  intro y
  have h := key acts { s := s0 } rfl (by simp)
  refine ⟨h.2, h.1, fun he => ?_⟩
  have hk : y.e.kern = [] := by simpa [Rd.Env.epollIn] using he
  have h2 := h.2
  rw [show (Rd.Sys.run cfg { s := s0 } acts) = y from rfl, hk] at h2
  simpa using h2

/-- non-vacuity / witness pair: the same history (a 3-byte record, one wake-up, `ioReadChunk` = 2, TLS, level-triggered) delivers
everything with the drain loop and strands the last byte — epoll silent, session open — with one read per wake-up -/
example :
    let acts : List Rd.Act := [.peerWrite [1, 2, 3], .wake, .wake]
    let good := Rd.Sys.run { edge := false, ioReadChunk := 2 } { s := { tls := .open } } acts
    let bad := Rd.Sys.run { edge := false, readDrainsLT := false, ioReadChunk := 2 } { s := { tls := .open } } acts
    good.s.delivered = [1, 2, 3] ∧ good.e.epollIn = false ∧
    bad.s.delivered = [1, 2] ∧ bad.sent = [1, 2, 3] ∧ bad.e.epollIn = false ∧ bad.e.buf = [3] ∧ bad.s.closed = false := by decide +kernel

/-- non-vacuity: a 5-byte record, half of it already buffered inside OpenSSL, chunk size 2 -/
example : let e : Rd.Env := { buf := [2, 3], kern := [[4, 5, 6]] }
    let r := readAvail { ioReadChunk := 2 } ({ tls := .open } : St) (e.answers true 2)
    r.1.1.delivered = [2, 3, 4, 5, 6] ∧ deliveries r.1.2 = [[2, 3], [4, 5], [6]] ∧ r.2 = [] := by decide +kernel

/-- **T4 needs the drain loop in level-triggered mode.** If `readAvail` took ONE read per readiness notification in
level-triggered mode (`readDrainsLT = false`: the loop conditioned on `useEdgeTriggered`), then on a TLS session with
`ioReadChunk` = 2 and one 3-byte record: the single `SSL_read` pulls the whole record out of the kernel, returns 2 bytes, the
third stays inside OpenSSL, the kernel buffer is empty — epoll stays silent — and the byte is never delivered while the session
stays open. The regenerated fact `readAvailDrainsLevelTriggered = true` (`T4_default_drains`, `gen_conforms`) is load-bearing. -/
theorem T4_one_read_per_wakeup_strands_tls_tail :
    ∃ (cfg : Cfg) (e : Rd.Env), cfg.edge = false ∧ cfg.readDrainsLT = false ∧
      let r := readAvail cfg ({ tls := .open } : St) (e.answers true cfg.ioReadChunk)
      e.content = [1, 2, 3] ∧ r.1.1.closed = false ∧ r.1.1.delivered = [1, 2] ∧ r.2 = [.data [3], .wantR] ∧
      (e.afterOneSslRead cfg.ioReadChunk).epollIn = false ∧ (e.afterOneSslRead cfg.ioReadChunk).buf = [3] :=
  ⟨{ edge := false, readDrainsLT := false, ioReadChunk := 2 }, { kern := [[1, 2, 3]] }, rfl, rfl, by decide +kernel⟩

/-- **T5 (per-thread FIFO under one mutex).** `enqueue` = lock `_cmdMutex`, read the end position, store + publish,
unlock; `process` swaps the queue under the same mutex. For every number of sender threads and EVERY schedule of these
micro-steps (a step that is not enabled is a stutter), the commands of each thread `t` in dispatched-then-queued order
are exactly the sequence numbers `0, 1, …, k-1` in order, where `k` is the number of `enqueue` calls of `t` that have
stored their command (`next` completed calls, plus one if `t` stands between its store and its unlock): nothing lost,
duplicated or reordered within a thread; and every queued or dispatched command belongs to one of the `n` threads. So the
accepted order is exactly an interleaving of the per-thread send orders. The three flags of `Enq.run` are the facts the translator
extracts from `enqueue()` and `process()`; without any one of them T5 fails (`T5_needs_mutex`, `T5_needs_locked_swap`,
`T5_needs_whole_batch_dispatch`). -/
theorem T5_per_thread_fifo (n : Nat) (sched : List Enq.Actor) (t : Enq.Tid) (ht : t < n) :
    let q := Enq.run Gen.TcpSession.enqueuePushUnderCmdMutex Gen.TcpSession.processSwapUnderCmdMutex Gen.TcpSession.processDispatchesWholeBatch (Enq.init n) sched
    (∃ th, q.thr[t]? = some th ∧
      Enq.seqOf t (q.taken ++ q.cmds) = List.range (th.next + (if th.pc = .stored then 1 else 0))) ∧
    (∀ c ∈ q.taken ++ q.cmds, c.1 < n) := by
  intro q
  have hinv : Enq.EInv q := Enq.run_inv rfl rfl rfl sched (Enq.init n) (Enq.init_inv n)
  have hlen : q.thr.length = n := (Enq.run_thr_length ..).trans List.length_replicate
  have hlt : t < q.thr.length := hlen ▸ ht
  exact ⟨⟨_, List.getElem?_eq_getElem hlt, (hinv.thr t _ (List.getElem?_eq_getElem hlt)).fifo⟩,
    fun c hc => hlen ▸ hinv.dom c hc⟩

/-- two threads interleaved step by step, the I/O thread swapping in between -/
def demoSched : List Enq.Actor :=
  [.sender 0, .sender 1, .sender 0, .sender 0, .sender 0, .io, .sender 1, .sender 1, .sender 1, .sender 1, .sender 0,
   .sender 0, .sender 0, .sender 0]
/-- non-vacuity of T5 -/
example : (Enq.run true true true (Enq.init 2) demoSched).taken = [(0, 0)] ∧
    (Enq.run true true true (Enq.init 2) demoSched).cmds = [(1, 0), (0, 1)] := by decide +kernel

/-- **One accepted send is one command.** Corollary of T5: after any schedule, the number of commands of thread `t` in the
dispatched-then-queued list is exactly the number `k` of `send` calls of `t` that have stored their command — one command per
accepted send, never several (a `send` that queued its payload in pieces would contribute more), none twice, and the sequence
numbers present are exactly `0 … k-1`. The source-side half is `gen_conforms`: `send` has no loop, copies all `n` bytes into ONE
`Command::send` and calls `enqueue` once. -/
theorem send_is_one_command (n : Nat) (sched : List Enq.Actor) (t : Enq.Tid) (ht : t < n) :
    let q := Enq.run Gen.TcpSession.enqueuePushUnderCmdMutex Gen.TcpSession.processSwapUnderCmdMutex Gen.TcpSession.processDispatchesWholeBatch (Enq.init n) sched
    ∃ th, q.thr[t]? = some th ∧
      ((q.taken ++ q.cmds).filter (·.1 == t)).length = th.next + (if th.pc = .stored then 1 else 0) ∧
      (Enq.seqOf t (q.taken ++ q.cmds)).Nodup ∧
      ∀ j, j ∈ Enq.seqOf t (q.taken ++ q.cmds) ↔ j < th.next + (if th.pc = .stored then 1 else 0) := by
  intro q
  obtain ⟨⟨th, hth, hseq⟩, _⟩ := T5_per_thread_fifo n sched t ht
  refine ⟨th, hth, ?_, ?_, ?_⟩
  · have := congrArg List.length hseq
    simpa [Enq.seqOf] using this
  · rw [hseq]; exact List.nodup_range
  · intro j; rw [hseq]; exact List.mem_range

/-- **T5 needs the mutex.** With `locking = false` there is a two-thread schedule in which both `enqueue` calls return
but only one command is in the queue — the translator fact `enqueuePushUnderCmdMutex` is load-bearing. -/
theorem T5_needs_mutex :
    ∃ sched, let q := Enq.run false true true (Enq.init 2) sched
      (q.thr.map (·.next)) = [1, 1] ∧ (q.thr.map (·.pc)) = [.idle, .idle] ∧ Enq.seqOf 0 (q.taken ++ q.cmds) = [] :=
  ⟨[.sender 0, .sender 1, .sender 0, .sender 1, .sender 0, .sender 1, .sender 0, .sender 1], by decide +kernel⟩

/-- `process()` takes the queue under the same mutex (regenerated fact) -/
theorem T5_swap_locked : Gen.TcpSession.processSwapUnderCmdMutex = true := by decide +kernel

/-- **T5 needs the swap under the mutex.** If `process()` swapped the queue without `_cmdMutex` (`swapLocked = false`: read the
contents, then clear, as two steps at any time), one sender suffices: its `enqueue` runs between the two halves of the swap, returns,
and its command is neither queued nor dispatched — the translator fact `processSwapUnderCmdMutex` is load-bearing (it is the
second argument of `Enq.run` in T5). -/
theorem T5_needs_locked_swap :
    ∃ sched, let q := Enq.run true false true (Enq.init 1) sched
      (q.thr.map (·.next)) = [1] ∧ (q.thr.map (·.pc)) = [.idle] ∧ q.taken ++ q.cmds = [] ∧ q.ioTmp = none :=
  ⟨[.io, .sender 0, .sender 0, .sender 0, .sender 0, .io], by decide +kernel⟩

/-- **T5 needs "one `process()` dispatches the whole swapped batch".** If `process()` worked under a per-wake-up budget and handed the
unprocessed tail back to `_cmds` with `push_back` (`wholeBatch = false`, budget 1 here), ONE sender suffices to break per-thread FIFO:
it enqueues commands 0 and 1, the I/O thread swaps both out, the sender enqueues command 2 while command 0 is dispatched, the tail
`[1]` is re-queued BEHIND it — dispatch order 0, 2, 1 with the session open and no error. The translator fact
`processDispatchesWholeBatch` (dispatch loop without early exit, `_cmds` touched only by the locked swap, no eventfd write in
`process()`) is the third argument of `Enq.run` in T5 and load-bearing. -/
theorem T5_needs_whole_batch_dispatch :
    ∃ sched, let q := Enq.run true true false (Enq.init 1) sched
      q.taken = [(0, 0), (0, 2), (0, 1)] ∧ q.cmds = [] ∧ (q.thr.map (·.next)) = [3] ∧ (q.thr.map (·.pc)) = [.idle] ∧
      Enq.seqOf 0 (q.taken ++ q.cmds) ≠ List.range 3 :=
  ⟨[.sender 0, .sender 0, .sender 0, .sender 0, .sender 0, .sender 0, .sender 0, .sender 0, .io,
    .sender 0, .sender 0, .sender 0, .sender 0, .io, .io, .io, .io, .io], by decide +kernel⟩

/-- the code as it is dispatches the whole batch (regenerated from the dispatch loop of `process()`) -/
theorem T5_default_whole_batch : Gen.TcpSession.processDispatchesWholeBatch = true ∧
    Gen.TcpSession.cmdsMutations = ["push_back", "push_back", "swap-arg", "swap-arg"] ∧ Gen.TcpSession.eventFdWrites = 2 := by decide +kernel

/-- **The bytes of one accepted send are contiguous on the wire (T1 ∘ T5).** The session's `accepted` list is exactly the list of
(non-empty) payloads of the Send commands in dispatch order (then, at `shutdown`, of those left in the queue); hence for every
history with every fault sequence, and for every way of singling out one accepted payload `p` (`xs` before it, `ys` after it):
while the session is open the wire followed by the pending bytes is `xs.flatten ++ p ++ ys.flatten`, and always the wire is a
prefix of it — the bytes of `p` form one block, the bytes of every other accepted send lie wholly before or wholly after it. -/
theorem one_send_contiguous_on_wire (cfg : Cfg) (hcob : cfg.closeOnBackpressure = true) (s0 : St) (h0 : s0.Fresh)
    (is : List In) :
    let s := (run cfg s0 is).1
    s.accepted = sentPayloads is ∧
    ∀ xs p ys, sentPayloads is = xs ++ p :: ys →
      (s.closed = false → s.wire ++ s.wq.flatten = xs.flatten ++ p ++ ys.flatten) ∧
      s.wire <+: xs.flatten ++ p ++ ys.flatten := by
  intro s
  have hacc : s.accepted = sentPayloads is := by
    show (run cfg s0 is).1.accepted = _
    rw [(run_acts cfg is s0).toWAct.accepted]; simp [St.accepted, h0.2.2.1]
  refine ⟨hacc, fun xs p ys hsplit => ?_⟩
  have ht1 := T1_exactly_once_in_order cfg hcob s0 h0 is
  have hflat : s.accepted.flatten = xs.flatten ++ p ++ ys.flatten := by
    rw [hacc, hsplit]; simp [List.flatten_append, List.append_assoc]
  simp only at ht1
  rw [hflat] at ht1
  exact ht1

/-- **… for every schedule of any number of senders.** Let `n` sender threads run any schedule of `enqueue` micro-steps; let the
`j`-th `send` of thread `t` carry `pay t j`. If the session's Send commands are the dispatched commands in dispatch order (with
arbitrary events, answers and faults in between), then for every dispatched command `c`, with `a` dispatched before it and `b`
after it: open ⇒ wire ++ pending = (bytes of `a`) ++ `pay c` ++ (bytes of `b`), and always the wire is a prefix of that. (That the
commands of each thread among the dispatched ones are its sends `0, 1, …` in order, each once, is `T5_per_thread_fifo`.) -/
theorem T5_T1_one_send_contiguous (cfg : Cfg) (hcob : cfg.closeOnBackpressure = true) (s0 : St) (h0 : s0.Fresh)
    (n : Nat) (sched : List Enq.Actor) (pay : Enq.Tid → Nat → Bytes) (is : List In) :
    let q := Enq.run Gen.TcpSession.enqueuePushUnderCmdMutex Gen.TcpSession.processSwapUnderCmdMutex Gen.TcpSession.processDispatchesWholeBatch (Enq.init n) sched
    let bytesOf : List Enq.Cmd → Bytes := fun l => (l.map fun c => pay c.1 c.2).flatten
    sentPayloads is = q.taken.map (fun c => pay c.1 c.2) →
    let s := (run cfg s0 is).1
    ∀ a c b, q.taken = a ++ c :: b →
      (s.closed = false → s.wire ++ s.wq.flatten = bytesOf a ++ pay c.1 c.2 ++ bytesOf b) ∧
      s.wire <+: bytesOf a ++ pay c.1 c.2 ++ bytesOf b := by
  intro q bytesOf hsent s a c b hsplit
  exact (one_send_contiguous_on_wire cfg hcob s0 h0 is).2
    (a.map fun c => pay c.1 c.2) (pay c.1 c.2) (b.map fun c => pay c.1 c.2)
    (by rw [hsent, hsplit]; simp)

/-- example: two senders; thread 0's one send `[1,2,3]` is cut after one byte and refused once, thread 1's `[9]` was dispatched
after it — the wire shows `[1,2,3]` as one block followed by `[9]`, whatever happened in between -/
example :
    let q := Enq.run true true true (Enq.init 2) [.sender 0, .sender 0, .sender 1, .sender 0, .sender 0, .sender 1, .sender 1, .sender 1,
      .sender 1, .io]
    let pay : Enq.Tid → Nat → Bytes := fun t _ => if t = 0 then [1, 2, 3] else [9]
    let is : List In := [.cmdSend [1, 2, 3] (.wrote 1), .cmdSend [9] .again,
      .event { out := true } true .established .done [] [.again],
      .event { out := true } true .established .done [] [.wrote 2, .wrote 1]]
    q.taken = [(0, 0), (1, 0)] ∧ sentPayloads is = q.taken.map (fun c => pay c.1 c.2) ∧
    (run {} (initAccepted false) is).1.wire = [1, 2, 3, 9] ∧ (run {} (initAccepted false) is).1.wq = [] := by decide +kernel

/-! ## The eventfd wake-up: an accepted command is dispatched -/

/-- **No lost wake-up.** `enqueue` = lock, `push_back`, eventfd write, unlock; the loop's eventfd handler = `drainEvt(); process();`
(both orders regenerated from the source: `enqueueWakeAfterPushUnderLock`, `loopDrainBeforeProcess`). For EVERY schedule of the
micro-steps of any number of senders and the I/O thread: a non-empty command queue is always announced — the eventfd counter is
non-zero (level-triggered `epoll_wait` returns), or the I/O thread stands between `drainEvt()` and `process()` (it swaps next), or
the sender that pushed still holds the lock right before its eventfd write; every pushed command is queued or taken; hence
whenever the I/O thread is asleep (in `epoll_wait`, counter 0, no `enqueue` in flight) the queue is EMPTY and every accepted
command has been handed to the dispatch loop. -/
theorem no_lost_wakeup (sched : List Wake.Actor) :
    let w := Wake.run Gen.TcpSession.enqueueWakeAfterPushUnderLock Gen.TcpSession.loopDrainBeforeProcess Gen.TcpSession.processDispatchesWholeBatch {} sched
    (w.cmds > 0 → w.evt > 0 ∨ w.io = .mid ∨ w.crit = .pushed) ∧ w.accepted = w.taken + w.cmds ∧
    (w.Asleep → w.cmds = 0 ∧ w.taken = w.accepted) := by
  intro w
  have h : Wake.WInv w := Wake.run_inv rfl rfl rfl sched {} Wake.init_inv
  exact ⟨h.announced, h.conserved, h.asleep⟩

/-- **… and the I/O thread needs at most three of its own steps** (wake, `drainEvt`, `process`) to take everything that is queued,
from every reachable state in which no sender holds the lock. -/
theorem wakeup_dispatches_all (sched : List Wake.Actor) :
    let w := Wake.run Gen.TcpSession.enqueueWakeAfterPushUnderLock Gen.TcpSession.loopDrainBeforeProcess Gen.TcpSession.processDispatchesWholeBatch {} sched
    w.crit = .free →
      (Wake.run true true true w [.io, .io, .io]).cmds = 0 ∧ (Wake.run true true true w [.io, .io, .io]).taken = w.accepted := by
  intro w hf
  exact Wake.WInv.three_io_steps (Wake.run_inv rfl rfl rfl sched {} Wake.init_inv) hf

/-- `wakeup_dispatches_all` needs the whole-batch dispatch: with a budget of one command per `process()` call two queued commands
are not both taken by the I/O thread's next three steps (the second needs another wake-up, which the re-signalled eventfd provides) -/
theorem wakeup_three_steps_need_whole_batch :
    let w := Wake.run true true false {} [.sender, .sender, .sender, .sender, .sender, .sender, .sender, .sender]
    w.crit = .free ∧ w.accepted = 2 ∧ (Wake.run true true false w [.io, .io, .io]).cmds = 1 ∧
    (Wake.run true true false w [.io, .io, .io]).evt = 1 := by decide +kernel

/-- non-vacuity: two senders' enqueues around a wake-up; everything is dispatched, the I/O thread sleeps with an empty queue -/
example : let w := Wake.run true true true {} [.sender, .sender, .sender, .io, .io, .sender, .sender, .sender, .sender, .sender, .io, .io, .io, .io]
    w.accepted = 2 ∧ w.taken = 2 ∧ w.cmds = 0 ∧ w.evt = 0 ∧ w.io = .waiting ∧ w.crit = .free := by decide +kernel

/-- **Commands accepted before the loop thread runs are not lost.** `start()` publishes the fresh eventfd and reopens the queue in ONE
`_cmdMutex` section, registers the descriptor level-triggered (`EPOLLIN`, no `EPOLLET`) and only then creates the loop thread (facts
`startPublishesEventFdWithQueueReopenUnderCmdMutex`, `startRegistersEventFdBeforeLoopThread`, `eventFdEpollMask` in `gen_conforms_start`).
So `enqueue` never accepts a command without a valid descriptor to write to, and a write that precedes the registration — or the
first `epoll_wait` — stays in the counter, which is exactly the model's `evt` (a level, not an edge): any number `k` of complete
`enqueue` calls before the I/O thread's first step leave `evt = k`, and the I/O thread's first three steps dispatch all of them. -/
theorem wakeup_commands_before_loop_start (k : Nat) :
    let w := Wake.run Gen.TcpSession.enqueueWakeAfterPushUnderLock Gen.TcpSession.loopDrainBeforeProcess Gen.TcpSession.processDispatchesWholeBatch {}
      ((List.replicate k [Wake.Actor.sender, .sender, .sender, .sender]).flatten)
    w.io = .waiting ∧ w.crit = .free ∧ w.cmds = k ∧ w.evt = k ∧ w.accepted = k ∧
    (Wake.run true true true w [.io, .io, .io]).cmds = 0 ∧ (Wake.run true true true w [.io, .io, .io]).taken = k := by
  intro w
  obtain ⟨a, b, c, d, e⟩ := Wake.enqueue_calls k {} rfl
  have hd := wakeup_dispatches_all ((List.replicate k [Wake.Actor.sender, .sender, .sender, .sender]).flatten) b
  exact ⟨a, b, c.trans (Nat.zero_add k), d.trans (Nat.zero_add k), e.trans (Nat.zero_add k), hd.1,
    hd.2.trans (e.trans (Nat.zero_add k))⟩

/-- **The order `drainEvt(); process();` is needed.** With `process(); drainEvt();` a command enqueued between the swap and the
drain is wiped from the eventfd counter: the I/O thread sleeps, the command sits in the queue, nobody is in `enqueue`. -/
theorem wakeup_needs_drain_before_process :
    ∃ sched, let w := Wake.run true false true {} sched
      w.io = .waiting ∧ w.evt = 0 ∧ w.crit = .free ∧ w.pre = 0 ∧ w.cmds = 1 ∧ w.accepted = 2 ∧ w.taken = 1 :=
  ⟨[.sender, .sender, .sender, .sender, .io, .io, .sender, .sender, .sender, .sender, .io], by decide +kernel⟩

/-- **The eventfd write must follow the push (inside the lock).** With the write before the lock, the I/O thread can wake, drain and
swap an empty queue before the push happens: asleep with one command queued. -/
theorem wakeup_needs_write_after_push :
    ∃ sched, let w := Wake.run false true true {} sched
      w.io = .waiting ∧ w.evt = 0 ∧ w.crit = .free ∧ w.pre = 0 ∧ w.cmds = 1 ∧ w.accepted = 1 ∧ w.taken = 0 :=
  ⟨[.early, .io, .io, .io, .sender, .sender, .sender], by decide +kernel⟩

/-- **T6 (bytes are dropped only together with a reported close).** Close-on-backpressure policy, any state satisfying
the invariant, any input: after the step either every accepted byte is still accounted for (`wire ++ pending =
accepted`, session open) or the session is closed; it never becomes closed silently — if it was open before and is
closed after, the step's outputs contain the close (epoll DEL + close callback); and a closed session emits nothing,
stays closed and its wire is frozen. -/
theorem T6_drop_only_with_close (cfg : Cfg) (hcob : cfg.closeOnBackpressure = true) (s : St) (i : In) (h : Good cfg s) :
    let r := step cfg s i
    (r.1.closed = false → r.1.wire ++ r.1.wq.flatten = r.1.accepted.flatten) ∧
    (s.closed = false → r.1.closed = true → ∃ w, Out.close w ∈ r.2) ∧
    (s.closed = true → r.2 = [] ∧ r.1.closed = true ∧ r.1.wire = s.wire) := by
  refine ⟨(T1_step cfg hcob s i h).1.1, ?_, ?_⟩
  · intro hc hc'
    rcases (step_acts cfg s i).toWAct.loud with hl | hl
    · rw [hl, hc] at hc'; cases hc'
    · exact hl
  · intro hc
    have := (step_acts cfg s i).toWAct.closed hc
    exact ⟨this.1, this.2.1, by simp only [St.wire]; rw [this.2.2]⟩

/-- non-vacuity of T6: with `maxWriteQueue = 1` the second queued payload closes the session and the close is emitted -/
example : let cfg : Cfg := { maxWriteQueue := 1 }
    let s := (run cfg (initAccepted false) [.cmdSend [1, 2] .again]).1
    Good cfg s ∧ (step cfg s (.cmdSend [3] .again)).2 = [.close .backpressure] ∧ (step cfg s (.cmdSend [3] .again)).1.closed = true := by
  refine ⟨run_good rfl _ (fresh_good _ _ (by simp [initAccepted, St.Fresh])), by decide, by decide +kernel⟩

/-- **The Close arm of `process()`: stale timer closes are dropped, everything else closes.** A `Cmd::Close` whose origin is a
timer (connect timeout / handshake timeout / write stall) is ignored — no output, state untouched — exactly when the condition it
was armed for no longer holds (`!connectPending` / `tls ≠ handshake` / `wq` empty, the three conditions regenerated in
`processCloseGuards`); otherwise, and for every application close, it is `closeNow` (T6 covers both: `T6_drop_only_with_close`
quantifies over every input). -/
theorem close_arm_spec (cfg : Cfg) (s : St) (w : Why) (o : Origin) :
    (closeGuardSkips s o = true → step cfg s (.cmdClose w o) = (s, [])) ∧
    (closeGuardSkips s o = false → step cfg s (.cmdClose w o) = closeNow s w) ∧
    closeGuardSkips s .app = false ∧
    (closeGuardSkips s .connectTimeout = !s.connectPending) ∧
    (closeGuardSkips s .handshakeTimeout = (s.tls != .handshake)) ∧
    (closeGuardSkips s .writeStall = s.wq.isEmpty) := by
  refine ⟨fun h => by simp [step, h], fun h => by simp [step, h], rfl, rfl, rfl, rfl⟩

/-- examples: a write-stall close with bytes still queued closes the session (and says so); the same command after the queue has
drained is dropped; a handshake timeout on an open TLS session is dropped -/
example : (step {} ({ wq := [[1]] } : St) (.cmdClose .socket .writeStall)).2 = [.close .socket] ∧
    (step {} ({} : St) (.cmdClose .socket .writeStall)).2 = [] ∧
    (step {} ({} : St) (.cmdClose .socket .writeStall)).1.closed = false ∧
    (step {} ({ tls := .open } : St) (.cmdClose .tlsHandshake .handshakeTimeout)).2 = [] ∧
    (step {} ({ tls := .handshake } : St) (.cmdClose .tlsHandshake .handshakeTimeout)).2 = [.close .tlsHandshake] := by decide +kernel

/-- **`shutdownDrain`.** The loop exit closes the session and then takes the residual command queue without dispatching it: the
payloads of Send commands `enqueue` had accepted are dropped — together with the close (the output carries it, if the session was
still open), and the wire is still a prefix of everything accepted, the residual payloads included. -/
theorem T6_shutdown (cfg : Cfg) (hcob : cfg.closeOnBackpressure = true) (s : St) (residual : List Bytes) (h : Good cfg s) :
    let r := step cfg s (.shutdown residual)
    r.1.closed = true ∧ (s.closed = false → r.2 = [.close .shutdown]) ∧
    r.1.accepted = s.accepted ++ residual.filter (!·.isEmpty) ∧ r.1.wire <+: r.1.accepted.flatten := by
  intro r
  refine ⟨by show (closeNow s .shutdown).1.closed = true; simp, fun hc => cn_outs_open s .shutdown hc, ?_,
    (step_good hcob (.shutdown residual) h).1.2⟩
  show (((residual.filter (!·.isEmpty)).reverse ++ (closeNow s .shutdown).1.acceptedRev).reverse) = _
  simp [St.accepted, List.reverse_append]

/-- **Scope of T1/T6: the policy matters.** With `closeOnBackpressure = false` ("drop oldest") the engine pops the FRONT
of the queue, which may be the unsent tail of a half-written payload: the wire is then no longer a prefix of the accepted
stream (here: byte 1 of payload `[1,2]` is on the wire, byte 2 is dropped, payload `[3]` follows). The statement of C01
restricts itself to the default close-on-backpressure policy for this reason. -/
theorem T6_drop_oldest_breaks_stream :
    ∃ (cfg : Cfg) (is : List In), cfg.closeOnBackpressure = false ∧
      let s := (run cfg (initAccepted false) is).1
      s.closed = false ∧ s.wire = [1, 3] ∧ s.accepted.flatten = [1, 2, 3] ∧ ¬ s.wire <+: s.accepted.flatten :=
  ⟨{ maxWriteQueue := 1, closeOnBackpressure := false },
   [.cmdSend [1, 2] (.wrote 1), .cmdSend [3] .again, .event { out := true } true .established .done [] [.wrote 1]],
   rfl, by decide +kernel⟩

/-! ## The same-buffer retry obligation of `SSL_write` (OpenSSL's moving-buffer rule) -/

/-- **Retry with the same buffer.** Close-on-backpressure policy. From every open session whose queue front is `b` — in particular
right after a write of `b` was refused (`retry_block_leaves_front`) — and for every further history: the NEXT `::send` /
`SSL_write` the engine issues, whenever it comes, passes exactly `b` (same bytes, same length); or no write is ever issued again
(the session was closed, which is reported). -/
theorem retry_same_buffer (cfg : Cfg) (hcob : cfg.closeOnBackpressure = true) (s : St) (b : Bytes)
    (hc : s.closed = false) (hq : s.wq.head? = some b) (is : List In) :
    firstWrite (run cfg s is).2 = none ∨ firstWrite (run cfg s is).2 = some b :=
  ((run_acts cfg is s).toWAct.front hcob b hc hq).elim .inr (fun h => .inl h.1)

/-- **A refused write leaves its buffer at the front.** (1) `doSend` on an empty queue whose direct write is refused (EAGAIN /
WANT_READ / WANT_WRITE) issued exactly that write first and leaves the session closed (queue limit 0) or with queue `[p]`; (2) a
drain loop that stops on a refusal leaves the refused buffer — the argument of its LAST write — at the front. -/
theorem retry_block_leaves_front (cfg : Cfg) (hcob : cfg.closeOnBackpressure = true) :
    (∀ (s : St) (p : Bytes) (a : WAns) (tw : Bool), s.closed = false → s.tls ≠ .handshake → s.wq = [] →
      classifyW (s.tls == .open) a = .block tw →
      (doSend cfg s p a).2.head? = some (.write (s.tls == .open) p) ∧
      ((doSend cfg s p a).1.closed = true ∨ (doSend cfg s p a).1.wq = [p])) ∧
    (∀ (ssl : Bool) (q : List Bytes) (as : List WAns) (tw : Bool), (writeLoop ssl q as).stop = .blocked tw →
      ∃ d rest, (writeLoop ssl q as).wq = d :: rest ∧ (writeLoop ssl q as).outs.getLast? = some (.write ssl d)) := by
  refine ⟨fun s p a tw hc hh hq hb => ?_, fun ssl q as tw => ?_⟩
  · unfold doSend
    simp only [hc, hh, hq, hb, List.isEmpty_nil, if_true, if_false, Bool.false_eq_true]
    refine ⟨rfl, ?_⟩
    unfold enqueueTail
    simp only [noteWrite, List.nil_append, hcob, if_true]
    split
    · left; simp
    · right; simp
  · fun_induction writeLoop ssl q as with
    | case3 _ _ _ _ _ _ _ _ ih =>
      intro h
      obtain ⟨d', rest', h1, h2⟩ := ih h
      exact ⟨d', rest', h1, by rw [List.getLast?_cons, h2]; rfl⟩
    | case4 d rest => exact fun _ => ⟨d, rest, rfl, rfl⟩
    | _ => exact fun h => nomatch h

/-- example: `SSL_write([1,2,3])` answers WANT_WRITE, two more payloads are queued, an event is refused again, then accepted: every
write up to the first success passes `[1,2,3]` -/
example : let s0 : St := { tls := .open }
    let r1 := step {} s0 (.cmdSend [1, 2, 3] .wantW)
    r1.1.wq.head? = some [1, 2, 3] ∧
    firstWrite (run {} r1.1 [.cmdSend [4] .again, .event { inn := true } true .established .done [.wantR] [],
      .event { out := true } true .established .done [] [.wantR]]).2 = some [1, 2, 3] := by decide +kernel

/-- **Scope: the drop-oldest policy breaks the rule.** With `closeOnBackpressure = false` the refused buffer can be popped from
the front while OpenSSL still expects it: the next `SSL_write` passes a different buffer. -/
theorem retry_moves_under_drop_oldest :
    ∃ (cfg : Cfg) (s : St) (is : List In), cfg.closeOnBackpressure = false ∧ s.closed = false ∧ s.wq.head? = some [1, 2] ∧
      firstWrite (run cfg s is).2 = some [3] :=
  ⟨{ maxWriteQueue := 1, closeOnBackpressure := false },
   (step { maxWriteQueue := 1, closeOnBackpressure := false } ({ tls := .open } : St) (.cmdSend [1, 2] .wantW)).1,
   [.cmdSend [3] .again, .event { out := true } true .established .done [] [.wrote 1]], rfl, by decide +kernel⟩

/-! ## `EventBatchProcessor::processBatch` -/

/-- **Batch order.** The batched loop handles one `epoll_wait` batch in the order `batchOrder special` (special fds — eventfd,
timerfd — first, then the others; the function the acceptor driver uses): it is a permutation of the batch (no event lost or
duplicated), and the events of any class lying wholly on one side — in particular all events of ONE session fd — keep their
relative order. -/
theorem batch_order_is_order_preserving_permutation {α : Type} (special : α → Bool) (evs : List α) :
    (batchOrder special evs).Perm evs ∧
    ∀ p : α → Bool, ((∀ e, p e = true → special e = true) ∨ (∀ e, p e = true → special e = false)) →
      (batchOrder special evs).filter p = evs.filter p := by
  unfold batchOrder
  refine ⟨List.filter_append_perm special evs, fun p hside => ?_⟩
  -- on the events of class `p` one of the two filters is the identity and the other is empty
  have key : ∀ f g : α → Bool, (∀ a, p a = true → f a = true ∧ g a = false) →
      (evs.filter fun a => p a && f a) = evs.filter p ∧ (evs.filter fun a => p a && g a) = [] := fun f g hfg =>
    ⟨List.filter_congr fun a _ => by
        cases hp : p a
        · rfl
        · rw [(hfg a hp).1]; rfl,
      List.filter_eq_nil_iff.mpr fun a _ => by
        cases hp : p a
        · exact Bool.false_ne_true
        · rw [(hfg a hp).2]; exact Bool.false_ne_true⟩
  rw [List.filter_append, List.filter_filter, List.filter_filter]
  rcases hside with h | h
  · obtain ⟨h1, h2⟩ := key special (fun a => !special a) fun a hp => ⟨h a hp, by rw [h a hp]; rfl⟩
    rw [h1, h2, List.append_nil]
  · obtain ⟨h1, h2⟩ := key (fun a => !special a) special fun a hp => ⟨by rw [h a hp]; rfl, h a hp⟩
    rw [h1, h2, List.nil_append]

example : batchOrder (fun (e : String × Nat) => e.1 = "v" || e.1 = "t") [("s", 1), ("v", 1), ("s", 3), ("t", 1)] =
    [("v", 1), ("t", 1), ("s", 1), ("s", 3)] := by decide +kernel

/-- **Source shapes the model mirrors** (regenerated from `tcp_engine.hpp` on every run; a changed offset, queue end,
comparison or lock scope makes this obligation fail to build): `send` copies all `n` bytes into one command and does not
enqueue `n == 0`; both `enqueue` overloads `push_back` under `_cmdMutex`, `process` swaps under it; in `doSend` the
TLS-handshake guard comes before every write call and contains none, the unsent tail is `[begin + n, end)` pushed at the
FRONT, whole payloads are pushed at the BACK, short-write tests are `n < size`, backpressure is `wq.size() > maxWriteQueue`;
`writePending` writes the FRONT buffer, erases exactly `[begin, begin + n)` on a short write and pops the front on a full one;
`updateInterest` computes `EPOLLIN | (ET) | (needWrite ? EPOLLOUT)` with `needWrite = wantWrite || !wq.empty() || (Handshake ?
tlsWantWrite : connectPending)` and ends in ONE unconditional `modEpoll` = `epoll_ctl(EPOLL_CTL_MOD)`, called from exactly the
sites the model has; `tlsMode` and `tlsState` are only ever set together (None/None by default, mode + Handshake in
`onListener`/`doConnect`, Open in `driveHandshake`), which is what lets the model merge them into one field; `sendAsync`
and the `Transport` wrappers — `send`, `sendAsync`, `sendSync`, `sendSyncCancellable` — only delegate to ONE `send` (no loop);
`send` calls nothing but the copy, `Command::send` and one `enqueue` and has two `return`s; the eventfd write follows `push_back`
inside the lock scope and `drainEvt()` precedes `process()` in both loops (eventfd registered level-triggered); `readAvail`'s loop is
the unconditional `for (;;)` with 3 `break` / 5 `return` exits; the Close arm of `process()` has exactly the three stale-timeout
guards the model has; `processBatch` handles special fds inline and the others in a second pass over `normalEvents`;
`shutdownDrain` is `process()`, then for every not yet closed session mark-closed / epoll DEL / close(fd) / close callback (what
`In.shutdown` emits as `.close .shutdown`), then — under `_cmdMutex` — the queue is closed and the residual swapped out, and
nothing of it is dispatched. -/
theorem gen_conforms :
    Gen.TcpSession.enqueuePushUnderCmdMutex = true ∧ Gen.TcpSession.processSwapUnderCmdMutex = true ∧
    Gen.TcpSession.enqueueQueueOps = ["push_back", "push_back"] ∧
    Gen.TcpSession.sendEmptyReturns = "true" ∧ Gen.TcpSession.sendCopyLength = ["n", "n"] ∧ Gen.TcpSession.sendEnqueueCalls = 1 ∧
    Gen.TcpSession.sendLoopCount = 0 ∧
    Gen.TcpSession.doSendTailOffsets = ["n", "n"] ∧ Gen.TcpSession.doSendTailEnds = ["end", "end"] ∧
    Gen.TcpSession.doSendTailPush = ["emplace_front", "emplace_front"] ∧
    Gen.TcpSession.doSendWholePush = ["emplace_back", "emplace_back"] ∧
    Gen.TcpSession.doSendShortTests = ["<", "<"] ∧ Gen.TcpSession.doSendBackpressureTest = ">" ∧
    Gen.TcpSession.doSendHandshakeBranchWrites = 0 ∧ Gen.TcpSession.doSendHandshakeGuardFirst = true ∧
    Gen.TcpSession.writePendingBuffer = ["front"] ∧ Gen.TcpSession.writePendingEraseFrom = [""] ∧
    Gen.TcpSession.writePendingEraseTo = ["n"] ∧ Gen.TcpSession.writePendingPop = ["pop_front"] ∧
    Gen.TcpSession.writePendingShortTests = ["<"] ∧
    Gen.TcpSession.updateInterestSkipsUnchangedMask = false ∧ Gen.TcpSession.modEpollOp = "EPOLL_CTL_MOD" ∧
    Gen.TcpSession.updateInterestBaseMask = "EPOLLIN" ∧
    Gen.TcpSession.updateInterestEdge = ["_config.useEdgeTriggered", "EPOLLET"] ∧
    Gen.TcpSession.updateInterestNeedWrite = "s->wantWrite || !s->wq.empty()" ∧
    Gen.TcpSession.updateInterestStateSplit = ["s->tlsState == TlsState::Handshake", "s->tlsWantWrite", "s->connectPending"] ∧
    Gen.TcpSession.updateInterestOut = ["needWrite", "EPOLLOUT"] ∧
    Gen.TcpSession.updateInterestCallSites =
      [("doSend", 4), ("writePending", 4), ("readAvail", 1), ("driveHandshake", 2), ("onSession", 1)] ∧
    Gen.TcpSession.tlsAssignments = ["onListener:tlsMode=Server", "onListener:tlsState=Handshake",
      "doConnect:tlsMode=Client", "doConnect:tlsState=Handshake", "driveHandshake:tlsState=Open"] ∧
    Gen.TcpSession.tlsDefaults = ["None", "None"] ∧
    Gen.TcpSession.sendAsyncSendCalls = 1 ∧ Gen.TcpSession.transportSendDelegates = ["send", "sendAsync"] ∧
    Gen.TcpSession.enqueueWakeAfterPushUnderLock = true ∧ Gen.TcpSession.loopDrainBeforeProcess = true ∧
    Gen.TcpSession.processCallStatements = 3 ∧ Gen.TcpSession.eventFdEpollMask = "EPOLLIN" ∧
    Gen.TcpSession.sendCallees = ["Command::send", "IORA_LOG_DEBUG", "b", "b.data", "enqueue", "std::memcpy", "std::move"] ∧
    Gen.TcpSession.sendReturnCount = 2 ∧
    Gen.TcpSession.readAvailDrainsLevelTriggered = true ∧ Gen.TcpSession.readAvailBreaks = 3 ∧ Gen.TcpSession.readAvailReturns = 5 ∧
    Gen.TcpSession.processCloseGuards = ["ConnectTimeout:!s->connectPending",
      "HandshakeTimeout:s->tlsState != TlsState::Handshake", "WriteStall:s->wq.empty()"] ∧
    Gen.TcpSession.transportSendSyncDelegates = ["send"] ∧ Gen.TcpSession.transportSendSyncLoops = 0 ∧
    Gen.TcpSession.transportSendSyncCancellableDelegates = ["sendSync"] ∧ Gen.TcpSession.transportSendSyncCancellableLoops = 0 ∧
    Gen.TcpSession.batchProcessorShape = ["special-inline-first-pass", "normalEvents.emplace_back", "second-pass-over:normalEvents"] ∧
    Gen.TcpSession.shutdownDrainSteps = ["process", "skip-closed", "mark-closed", "epoll-del", "close-fd", "close-callback",
      "queue-closed", "residual-swap"] ∧
    Gen.TcpSession.shutdownResidualUnderCmdMutex = true ∧ Gen.TcpSession.shutdownDrainDispatchCalls = 0 := by
  -- every conjunct unfolds to `x = x`
  repeat' constructor

/-- **Source shapes of `start()` the wake-up model relies on** (regenerated): the fresh eventfd is published in `_eventFd` and the
queue reopened (`_cmdsClosed = false`) in ONE `_cmdMutex` section — `enqueue` never accepts a command without a descriptor to wake
the loop with —, the descriptor is published before it is registered, registered exactly once, level-triggered (`EPOLLIN`), and
before the loop thread exists. -/
theorem gen_conforms_start :
    Gen.TcpSession.startPublishesEventFdWithQueueReopenUnderCmdMutex = true ∧
    Gen.TcpSession.startPublishesEventFdBeforeRegistration = true ∧
    Gen.TcpSession.startRegistersEventFdBeforeLoopThread = true ∧ Gen.TcpSession.eventFdRegistrations = 1 ∧
    Gen.TcpSession.eventFdEpollMask = "EPOLLIN" := by decide +kernel

/-! ## Observations (true of the code as it is; none contradicts the statement of C01) -/

/-- **Observation: busy polling in the handshake window.** While the TLS handshake waits for the peer (`WANT_READ`) and a
payload is already queued, every event re-registers EPOLLOUT (`needWrite` counts the queue), the socket is writable, so
epoll reports again at once and the state does not change: the I/O thread spins until the peer answers. No byte is lost
or reordered; it costs CPU (seen in the traces as runs of `G:0;H:r;E:M:7` wake-ups). -/
theorem obs_handshake_window_spins (cfg : Cfg) (s : St) (c : CAns) (rs : List RAns) (ws : List WAns)
    (hmod : cfg.modSkipsUnchanged = false) (hc : s.closed = false) (hs : s.tls = .handshake) (hq : s.wq ≠ []) :
    let r := step cfg s (.event { out := true } true c .wantR rs ws)
    r.1.interestOut = true ∧ r.1.wq = s.wq ∧ r.1.tls = .handshake ∧ r.1.closed = false ∧
    r.2 = [.soError, .handshake, .interest true cfg.edge] := by
  have hne : s.wq.isEmpty = false := by
    cases h : s.wq with
    | nil => exact absurd h hq
    | cons _ _ => rfl
  simp [step, onSession, driveHandshake, updateInterest, needWrite, hmod, hc, hs, hne]

/-- **Observation: the queue limit is not applied in the handshake window.** Payloads accepted while the handshake is in
progress are queued without the `maxWriteQueue` test (the handshake branch of `doSend` returns before it). -/
theorem obs_handshake_queue_unbounded (cfg : Cfg) (p : Bytes) (a : WAns) (hp : p ≠ []) : ∀ (n : Nat) (s : St),
    s.tls = .handshake → s.closed = false →
    (run cfg s (List.replicate n (.cmdSend p a))).1.wq.length = s.wq.length + n ∧
    (run cfg s (List.replicate n (.cmdSend p a))).1.closed = false
  | 0, s, _, hc => by simp [run, hc]
  | n + 1, s, hs, hc => by
    have h1 : (step cfg s (.cmdSend p a)).1.tls = .handshake ∧ (step cfg s (.cmdSend p a)).1.closed = false ∧
        (step cfg s (.cmdSend p a)).1.wq.length = s.wq.length + 1 := by
      have hpe : p.isEmpty = false := by cases p <;> simp_all
      simp [step, doSend, hs, hc, hpe]
    have ih := obs_handshake_queue_unbounded cfg p a hp n _ h1.1 h1.2.1
    simp only [List.replicate_succ, run]
    rw [ih.1, h1.2.2]
    exact ⟨by omega, ih.2⟩

/-- **Observation: a read that wants to write is not re-armed once the handshake is over.** `readAvail` records
`SSL_ERROR_WANT_WRITE` in `tlsWantWrite`, but `updateInterest` looks at that flag only in the handshake state: with an
empty queue EPOLLOUT is not registered, so the read resumes only with the next EPOLLIN (renegotiation / KeyUpdate with a
full send buffer; delivery is delayed, nothing is lost or reordered). -/
theorem obs_read_wantWrite_not_armed :
    let s : St := { tls := .open }
    let r := step {} s (.event { inn := true } true .established .done [.wantW] [])
    r.1.tlsWantWrite = true ∧ r.1.interestOut = false ∧ r.1.closed = false := by decide +kernel

end Iora.C01
