import IoraModel.Lemmas.HttpRespond
import IoraModel.Lemmas.HttpRespondConn
import IoraModel.Lemmas.HttpRespondFramer
import IoraModel.Lemmas.HttpRespondRestart
import IoraModel.Lemmas.HttpRespondParse
/-
C16 — Each HTTP request gets exactly one well-formed response, in order.

The lemmas are in `Lemmas/HttpRespond*.lean`.  The model is `Model/HttpServerRespond.lean`
(`process` = `HttpServer::processHttpRequest`), `Model/HttpRespondConn.lean` (worker pool, engine side of a session,
reference framer), `Model/HttpRespondRestart.lean` (one server object across `stop()` / `start()`), over the byte-string and header-map
vocabulary of `Model/HttpRespondBase.lean`; `Model/HttpRespondScript.lean` has the scripted handlers.  What the statements say
beyond the model's own vocabulary (`CallsShaped`, `engineCmds`, `upgradeSeam`, `suppressSeam`, `reqOf`, `dispatched`, `Tickets`, `ticketsOf`,
`WireResp.Safe`, `FieldsSafe`, …) is defined in the lemma files, beside the lemmas about it.  `srv` ranges over all routing tables,
handlers (arbitrary functions that return or throw) and hooks, `env` over everything `stop()` and the engine can do while the
request is handled, `data` over all byte strings, `steps` over all schedules.

`Gen.HttpRespond.*` are the facts the translator read off the C++ source.  A theorem that holds only of the repaired code uses
the fact of its repair by evaluation, so on a tree without the repair the fact is false and the theorem does not build.
-/
namespace Iora.C16
open Iora Iora.HttpRespond

/-! ## Gen conformance -/

/-- the method table found in http_message.hpp is the model's `Method` type, in the same order, and `parseMethod` maps
    each upper-case name to its own enumerator -/
theorem gen_methods :
    Gen.HttpRespond.methods = Method.all.map Method.name ∧
    Gen.HttpRespond.parseMethodTable = Method.all.map (fun m => (m.name, m.name)) := by decide +kernel

/-- the Connection decision found in http_server.hpp is the tokenised one (F33 repaired) and 204/304 are reconciled under
    every method (FC16a repaired) -/
theorem gen_connection_tokenised :
    Gen.HttpRespond.connectionTokenised = true ∧ Gen.HttpRespond.bodylessAllMethods = true ∧
    Gen.HttpRespond.headBodylessStatuses = [204, 304] := by decide

/-- a default-constructed `SessionInfo` (what `onAccept` creates) never asks for close by itself: version 1.1, keep-alive.
    (Whether anything in http_server.hpp assigns the two fields is an observation in the evidence, `session_field_writes`,
    not an obligation: the model takes the session as an input, `Env.sess`.) -/
theorem gen_session_defaults :
    (({} : SessionInfo).httpVersion == ascii Gen.HttpRespond.sessionCloseVersion) = false ∧
    ({} : SessionInfo).connectionKeepAlive = true ∧
    connectionDecision (some {}) [] = (false, ascii "keep-alive") := by
  rw [ascii_ofList]
  decide +kernel

/-- every throw site of the request parser carries the status the model documents for it -/
theorem gen_parse_status_table :
    Gen.HttpRespond.stTargetTooLong = 414 ∧ Gen.HttpRespond.stUnknownMethod = 501 ∧ Gen.HttpRespond.stUnsupportedMajor = 505 ∧
    [Gen.HttpRespond.stMalformedMethodToken, Gen.HttpRespond.stLineShape, Gen.HttpRespond.stMethodWs, Gen.HttpRespond.stVersionWs,
     Gen.HttpRespond.stTargetCtl, Gen.HttpRespond.stBadVersion, Gen.HttpRespond.stObsFold, Gen.HttpRespond.stMultipleHost,
     Gen.HttpRespond.stMissingHost, Gen.HttpRespond.stEmptyHost] = List.replicate 10 400 ∧
    Gen.HttpRespond.stWsBeforeColon = 400 ∧ Gen.HttpRespond.errDefaultStatus = 500 := by decide

/-- Gen conformance for the two restart facts and the write-queue bound `start()` hands to the transport: the session write
    queue holds at least one response per task the pool can queue (a slow reader on a keep-alive connection is not closed by
    back-pressure before the pool itself pushes back). -/
theorem gen_restart_and_write_queue :
    Gen.HttpRespond.dispatchChecksGeneration = true ∧ Gen.HttpRespond.epochCapturedAtDispatch = true ∧
    Gen.HttpRespond.stopDrainSeconds = 2 ∧
    Gen.HttpRespond.poolQueueCap ≤ Gen.HttpRespond.maxWriteQueue := by decide

/-! ## O1 — exactly one response per request -/

/-- For every server (routes, handlers, seams that return or throw anything), every environment (shutdown racing at any
    point, transport gone, engine refusing the command) and every request bytes: the transport calls one
    `processHttpRequest` makes — `processCalls` lists them arm by arm, following the function's control flow, the buffer
    drain into the third virtual hook `onUpgradedData` included — are `[]`, `[close]`, `[sendAsync w]` or
    `[sendAsync w, close]`: never two Sends, never a Send after the Close (case analysis of the control flow,
    `processCalls_shape`), and the engine commands are those calls minus a refused `sendAsync`.  These two conjuncts carry the
    content; the count of the third holds of every `Outcome` (`outcome_wellShaped`). -/
theorem O1_at_most_one_send (srv : Server) (env : Env) (data : Bytes) :
    CallsShaped (processCalls srv env data).1 ∧
    (process srv env data).cmds = engineCmds env (processCalls srv env data).1 ∧
    countSends (process srv env data).cmds ≤ 1 := by
  have hs := processCalls_shape srv env data
  exact ⟨hs, outcomeOf_cmds env _ hs, wellShaped_countSends (outcome_wellShaped _)⟩

/-- Server up (not shutting down, transport present, engine accepts): every extracted request — parseable or not, routed
    or not, handler throwing or not — is answered by exactly one Send command; the only other outcome is an explicit
    take-over: the handler that ran returned normally with `_suppressSend` set, or `onResponseSuppressed` returned true. -/
theorem O1_exactly_one_response (srv : Server) (env : Env) (data : Bytes)
    (h1 : env.shutdownAtEntry = false) (h2 : env.upAtSend = true) (h3 : env.enqueueOk = true) :
    (∃ w c, process srv env data = .respond w c ∧ countSends (process srv env data).cmds = 1) ∨
    (process srv env data = .suppressed ∧
      ∃ p h, fromWireFormat data = .ok p ∧ (decisionOf srv p).userHandler? = some h ∧
        (((h (reqOf srv p) prefilled).threw = false ∧ (h (reqOf srv p) prefilled).res.suppress = true) ∨
         srv.suppressHook (reqOf srv p) (dispatched srv p).1 = .ret true)) := by
  rcases process_up_cases srv env data h1 h2 h3 with ⟨w, c, h⟩ | ⟨h, p, hp, _, hs⟩
  · left; refine ⟨w, c, h, ?_⟩; rw [h]; cases c <;> simp [Outcome.cmds, countSends]
  · right
    obtain ⟨hd, hh, hx⟩ := suppressSeam_explicit srv p hs
    exact ⟨h, p, hd, hp, hh, hx⟩

example : process { defaultHandler := some (fun _ r => { res := { r with suppress := true } }) } Env.up
    (ascii "GET / HTTP/1.1\r\nHost: x\r\n\r\n") = .suppressed := by
  rw [ascii_ofList]
  decide +kernel

/-- Shutdown seen at entry: a 503 with `Connection: close` and a Close while the transport still exists, nothing once it
    is gone — on every request.  The Send and the Close are two `_mutex` sections, each with its own `_transport` test:
    `stop()` resetting the transport between them leaves the 503 without its Close (the transport is gone with all its
    sessions then), never a Close without the 503 and never a second Send. -/
theorem O1_shutdown (srv : Server) (env : Env) (data : Bytes) (h : env.shutdownAtEntry = true) :
    process srv env data =
      (if env.transportAtEntry then
         (if env.enqueueOk then .respond (shutdownWire (isHeadRaw data)) env.transportAtShutdownClose
          else .sendFailed env.transportAtShutdownClose)
       else .nothing) ∧
    (∀ head, shutdownWire head = toWire 503 (ascii "Service Unavailable")
      [(ascii "Connection", ascii "close"), (ascii "Content-Length", ascii "20"), (ascii "Content-Type", ascii "text/plain")]
      (if head then [] else ascii "Server Shutting Down")) :=
  ⟨by rw [process_eq, h]; rfl, shutdownWire_eq⟩

/-- Pool overflow: a request that arrives while the task queue is at capacity gets, at once and on the I/O thread, exactly
    one 503 Send followed by Close; no task is created for it. -/
theorem O1_overflow (P : Params) (p : Pool) (sid : Nat) (data : Bytes) (h : queuedCount p.tasks ≥ P.qcap) :
    (stepPool P p (.arrive sid data)).log = p.log ++ [(sid, .send (overflowWire (isHeadRaw data))), (sid, .close)] ∧
    (stepPool P p (.arrive sid data)).tasks = p.tasks ∧
    (∀ head, overflowWire head = toWire 503 (ascii "Service Unavailable")
      [(ascii "Connection", ascii "close"), (ascii "Content-Length", ascii "38"), (ascii "Content-Type", ascii "text/plain"),
       (ascii "Server", ascii "Iora HttpServer")]
      (if head then [] else ascii "Server overloaded - please retry later")) := by
  rw [stepPool_arrive_full P p sid data h]
  exact ⟨rfl, rfl, overflowWire_eq⟩

/-- `sendErrorResponse` on pool overflow in EVERY environment, not only on a running server: nothing
    while `_transport && !_shutdown` fails; otherwise the 503 Send and the Close — and the Close also when the engine
    refused the Send command, so an overflowing request never leaves its connection open and unanswered.  On a running
    server these are the `overflowCmds` of the pool theorems. -/
theorem O1_overflow_every_env (env : Env) (head : Bool) :
    CallsShaped (overflowCalls env head) ∧
    engineCmds env (overflowCalls env head) =
      (if !env.upAtSend then [] else if env.enqueueOk then [.send (overflowWire head), .close] else [.close]) ∧
    engineCmds Env.up (overflowCalls Env.up head) = overflowCmds head := by
  refine ⟨pred_ite .nil (.send _ True), ?_, by simp [overflowCalls, engineCmds, Env.up, overflowCmds]⟩
  unfold overflowCalls
  cases env.upAtSend <;> cases he : env.enqueueOk <;> simp [engineCmds, he]

/-- For EVERY schedule (any number of workers, any queue capacity, any interleaving of arrivals, picks and emits, handlers
    of any duration): the commands already in the engine queue together with the commands still owed by unfinished
    requests are a permutation of what the arrived requests were entitled to — nothing is lost, nothing is issued twice.
    The entitlement is exactly one ticket per arrival, in arrival order (`ticketsOf` replays the schedule): the overflow
    503-and-close precisely for the arrivals that found the task queue at capacity, what `processHttpRequest` issues for
    that request for all others. -/
theorem O1_all_schedules (P : Params) (steps : List Step) :
    ((runPool P {} steps).log ++ pending (runPool P {} steps).tasks).Perm (runPool P {} steps).ledger ∧
    (runPool P {} steps).ledger = flattenTickets (ticketsOf P {} steps) ∧
    Tickets P (arrivals steps) (ticketsOf P {} steps) ∧
    (NoOverflow P {} steps → ticketsOf P {} steps = (arrivals steps).map (fun a => (a.1, P.respond a.1 a.2))) := by
  refine ⟨runPool_perm P {} steps (by simp [pending]), ?_, ticketsOf_tickets P {} steps, ticketsOf_noOverflow P {} steps⟩
  simpa using runPool_ledger_eq P {} steps

/-- Once every worker is idle, the responses the engine received for a session are a permutation of the responses its
    requests were entitled to: one per request. -/
theorem O1_quiescent (P : Params) (steps : List Step) (hq : (runPool P {} steps).tasks = []) (sid : Nat) :
    (sends sid (runPool P {} steps).log).Perm (sends sid (runPool P {} steps).ledger) := by
  have := (O1_all_schedules P steps).1
  rw [hq] at this
  simp only [pending, List.flatMap_nil, List.append_nil] at this
  -- `sends` is a `filter`, a `map` and a `filterMap`
  exact ((this.filter _).map _).filterMap _

/-- Every ticket — what one arrived request is entitled to — contains at most one Send, whatever the server, the
    environment of that call and the request bytes; the overflow ticket contains exactly one. -/
theorem O1_one_send_per_ticket (srv : Server) (envOf : Nat → Bytes → Env) (w qcap : Nat) (steps : List Step)
    (ts : List (Nat × List Cmd))
    (ht : Tickets { w := w, qcap := qcap, respond := fun sid d => (process srv (envOf sid d) d).cmds } (arrivals steps) ts) :
    ∀ t ∈ ts, countSends t.2 ≤ 1 :=
  ht.all (Q := fun cs => countSends cs ≤ 1) (fun _ _ => wellShaped_countSends (outcome_wellShaped _)) (fun head => by cases head <;> decide)

/-- A subclass seam (`onUpgradeRequest`, `onResponseSuppressed`) that throws — a `std::exception` or ANYTHING else — yields,
    with the server up, exactly one `500 Internal Server Error` with `Connection: close`, followed by a Close: the arm that
    ends the function's `try` is `catch (...)` (FC16b repaired: `Gen.HttpRespond.errCatchesAll`, used by `process_eq`). -/
theorem O1_seam_throw_500 (srv : Server) (env : Env) (data : Bytes) (p : ParsedReq) (std : Bool)
    (h1 : env.shutdownAtEntry = false) (h2 : env.upAtSend = true) (h3 : env.enqueueOk = true) (h4 : env.upAtClose = true)
    (hp : fromWireFormat data = .ok p)
    (ht : upgradeSeam srv p = .threw std ∨ (upgradeSeam srv p = .ret none ∧ suppressSeam srv p = .threw std)) :
    process srv env data = .respond (errorWire 500 (isHeadRaw data)) true := by
  rw [process_eq]
  rcases ht with ht | ⟨hu, hs⟩
  · simp only [h1, hp, ht, sendBlock_up_close env _ h2 h3 h4]
  · simp only [h1, hp, hu, hs, sendBlock_up_close env _ h2 h3 h4]

example : process { upgradeHook := fun _ => .threw false } Env.up
    (ascii "GET / HTTP/1.1\r\nHost: x\r\nUpgrade: websocket\r\n\r\n") = .respond (errorWire 500) true := by
  generalize hd : ascii _ = data
  obtain ⟨p, hp, hf⟩ := fromWireFormat_ok_of (data := data) (f := fun p => hasUpgradeHeader (mkReq p).headers)
    (by rw [← hd, ascii_ofList]; decide +kernel)
  rw [process_eq]
  simp only [hp, show upgradeSeam { upgradeHook := fun _ => .threw false } p = .threw false from if_pos hf,
    show isHeadRaw data = false by rw [← hd, ascii_ofList]; decide +kernel]
  rfl

/-- An accepted upgrade whose request was followed by bytes of the upgraded protocol — in the same read, or in reads that
    arrive while the worker is still busy (the I/O thread queues them behind under the upgrade hold of FC18f).  The arm hands
    the upgrade response to the transport and then drains in a loop: `env.drainChunks` passes find bytes, pass `k` hands them
    to the virtual `onUpgradedData` (`srv.drainHook k`) on the worker thread.  Whatever those calls do — return, throw a `std::exception`, throw anything
    else, at any pass — and in every environment, the request gets the upgrade response and NOTHING else is sent: the only
    effect of a throw is one Close (when the transport is still up), and the loop is left at that pass: the hook is called
    once per pass up to and including the first throwing one, never again (`drainHookCalls`).  (FC16c repaired: on a tree without
    the drain's own `catch (...)`, `Gen.HttpRespond.upgradeDrainGuarded` is false, the throw reaches the function's error arm, the
    calls are `[sendAsync 101, sendAsync 500, close]`, and `drainLoop_eq` / `processCalls_shape` do not build.) -/
theorem O1_upgrade_drain (srv : Server) (env : Env) (data : Bytes) (p : ParsedReq) (u : Resp)
    (h : env.shutdownAtEntry = false) (hp : fromWireFormat data = .ok p) (hu : upgradeSeam srv p = .ret (some u)) :
    (processCalls srv env data).1 =
      (if !env.upAtSend then []
       else [.sendAsync (toWire u.status (statusText u.status)
               (hSet u.headers (ascii "Server") (ascii Gen.HttpRespond.serverHeader)) u.body)]) ++
      (if drainCloses srv env then [.close] else []) ∧
    (drainCloses srv env = true ↔
      (∃ k, k < env.drainChunks ∧ ∃ std, srv.drainHook k = .threw std) ∧ env.upAtClose = true) ∧
    drainHookCalls srv.drainHook env.drainChunks 0 ≤ env.drainChunks ∧
    (drainThrows srv.drainHook env.drainChunks 0 = false →
      drainHookCalls srv.drainHook env.drainChunks 0 = env.drainChunks) ∧
    Gen.HttpRespond.upgradeDrainGuarded = true :=
  ⟨congrArg Prod.fst (processCalls_upgrade srv env data p u h hp hu), drainCloses_iff srv env, drainHookCalls_le _ _ _,
    drainHookCalls_no_throw _ _ _, drainGuarded_eq⟩

/-- three passes find bytes, the second call throws: the 101, one Close, and the hook was called exactly twice -/
example : (processCalls { upgradeHook := fun _ => .ret (some { status := 101 }), drainHook := fun k => if k = 1 then .threw false else .ret () }
      { drainChunks := 3 } (ascii "GET / HTTP/1.1\r\nHost: x\r\nUpgrade: websocket\r\n\r\n")).1 =
    [.sendAsync (ascii "HTTP/1.1 101 Switching Protocols\r\nServer: Iora/1.0\r\n\r\n"), .close] ∧
    drainHookCalls (fun k => if k = 1 then .threw false else .ret ()) 3 0 = 2 := by
  repeat rw [ascii_ofList]
  decide +kernel

/-! ## O1 across `stop()` / `start()` on one server object -/

/-- "…exactly one response, to the request's connection", across restarts: for every schedule of arrivals, picks, emits,
    `stop()` and `start()` calls on one `HttpServer` object, every engine command reaches the transport its request arrived
    on (a command of a request that arrived on an earlier transport is dropped, never delivered to the current one).  The
    worker is the one the translator found: do its guards compare an epoch (`Gen.HttpRespond.dispatchChecksGeneration`), and is
    that epoch read by `handleIncomingData` and captured by value, or only when a worker starts the task
    (`Gen.HttpRespond.epochCapturedAtDispatch`). -/
def O1_restart_statement : Prop :=
  ∀ (P : Params) (steps : List RStep),
    LogSameGen (runR (EpochCheck.ofFacts Gen.HttpRespond.dispatchChecksGeneration Gen.HttpRespond.epochCapturedAtDispatch) P {} steps).log

/-- FC16e, repaired: since the worker compares, inside every guarded block (7 guards, `start()` advances the epoch under
    `_mutex`), the transport epoch that `handleIncomingData` read AT DISPATCH and the pool lambda captured by value, the
    statement holds for every schedule — handlers that outlive `stop()`'s bounded drain wait (`Gen.HttpRespond.stopDrainSeconds` s),
    requests still QUEUED in the pool across `stop()` + `start()`, and any number of restarts included.  On a tree whose
    guards do not check, or whose lambda reads the epoch only when the task starts, the facts differ and this theorem does
    not build. -/
theorem O1_restart : O1_restart_statement := by
  intro P steps
  have hk : EpochCheck.ofFacts Gen.HttpRespond.dispatchChecksGeneration Gen.HttpRespond.epochCapturedAtDispatch = .atDispatch := by decide
  rw [hk]
  exact runR_init_log .atDispatch P steps (Or.inl rfl)

/-- What the repair prevents, first half (the worker without any check): `stop()` gives up on a running handler, the task
    survives in the pool, `start()` installs a fresh transport whose engine numbers sessions from 1 again, and the late
    worker's `sendAsync(sid, …)` passes the `_transport && !_shutdown` guard.  Witness: a request arrives on session 1, a
    worker takes it, `stop()`, `start()`, the worker sends: the command of a generation-0 request is delivered by the
    generation-1 transport — to whoever holds session id 1 there. -/
theorem O1_restart_unguarded_refuted :
    ¬ ∀ (P : Params) (steps : List RStep), LogSameGen (runR .none P {} steps).log := by
  intro h
  have := h { w := 2, qcap := 1024, respond := fun _ _ => [.send [65]] } [.arrive 1 [], .pick, .stop, .start, .emit 0]
    ⟨1, 0, 1, .send [65]⟩ (by decide +kernel)
  revert this
  decide

/-- Second half (seed C16-e): guards that compare an epoch read only when a worker STARTS the task protect the request that
    was already running at `stop()`, not the one still queued.  Witness, the twin of the first with the pick after the
    restart: a request arrives on session 1 and stays in the queue (all workers busy), `stop()` gives up, `start()`, a freed
    worker takes the task and reads the NEW epoch, every guard passes: again a generation-0 request answered by the
    generation-1 transport. -/
theorem O1_restart_epoch_at_task_start_refuted :
    ¬ ∀ (P : Params) (steps : List RStep), LogSameGen (runR .atTaskStart P {} steps).log := by
  intro h
  have := h { w := 2, qcap := 1024, respond := fun _ _ => [.send [65]] } [.arrive 1 [], .stop, .start, .pick, .emit 0]
    ⟨1, 0, 1, .send [65]⟩ (by decide +kernel)
  revert this
  decide

/-- the task-start worker does protect the request that was running at `stop()`: on the first witness schedule it logs nothing -/
example : (runR .atTaskStart { w := 2, qcap := 1024, respond := fun _ _ => [.send [65]] } {}
    [.arrive 1 [], .pick, .stop, .start, .emit 0]).log = [] := by decide +kernel

/-- Partial: if `start()` is only ever called when no task of the previous run is left (the drain wait of `stop()` did not
    expire), every command reaches the transport its request arrived on — for every schedule and each of the three workers. -/
theorem O1_restart_partial_drained (g : EpochCheck) (P : Params) (steps : List RStep) (hd : StartsDrained g P {} steps) :
    LogSameGen (runR g P {} steps).log :=
  runR_init_log g P steps (Or.inr hd)

example : StartsDrained .none { w := 2, qcap := 4, respond := fun _ _ => [.send [65]] } {}
    [.arrive 1 [], .pick, .emit 0, .stop, .start, .arrive 1 [], .pick, .emit 0] :=
  -- one component per step; the fifth is the `start`, with no task left
  ⟨trivial, trivial, trivial, trivial, rfl, trivial, trivial, trivial, trivial⟩

/-- a command of a stale task is dropped, not redirected: after BOTH witness schedules (picked before the restart, picked after
    it) the log of the repaired worker is empty -/
example : (runR .atDispatch { w := 2, qcap := 1024, respond := fun _ _ => [.send [65]] } {}
    [.arrive 1 [], .pick, .stop, .start, .emit 0]).log = [] ∧
    (runR .atDispatch { w := 2, qcap := 1024, respond := fun _ _ => [.send [65]] } {}
    [.arrive 1 [], .stop, .start, .pick, .emit 0]).log = [] := by decide +kernel

/-! ## O2 — responses never interleave -/

/-- For every schedule, every Send command in the engine queue carries exactly the payload of a Send that one arrived
    request of that same session was entitled to: a whole response, never a fragment or a mixture.  (That one Send command
    is written to the socket contiguously is C01.) -/
theorem O2_whole_responses (P : Params) (steps : List Step) (sid : Nat) (w : Bytes)
    (h : (sid, Cmd.send w) ∈ (runPool P {} steps).log) :
    ∃ ts, Tickets P (arrivals steps) ts ∧ ∃ t ∈ ts, t.1 = sid ∧ Cmd.send w ∈ t.2 := by
  obtain ⟨hperm, hl, ht, _⟩ := O1_all_schedules P steps
  have hm : (sid, Cmd.send w) ∈ (runPool P {} steps).ledger := hperm.subset (by simp [h])
  rw [hl] at hm
  exact ⟨_, ht, mem_flattenTickets.1 hm⟩

/-- On the wire: whatever the kernel and the event loop do, what the peer of a session reads is a prefix of the
    concatenation — in engine-queue order — of the whole payloads of the Send commands issued before the first Close. -/
theorem O2_stream_is_prefix_of_whole_responses (evs : List EngEv) :
    (runSock {} evs).delivered <+: payloadBeforeClose (cmdsOf evs) := by
  rw [← sentBeforeClose_eq]
  obtain ⟨lost, h, _⟩ := runSock_split {} evs rfl
  exact ⟨lost, by simpa using h⟩

/-! ## O3 — responses in request order (F28) -/

/-- Full statement: for every schedule the commands a session's requests issue reach the engine in request order. -/
def O3_statement : Prop :=
  ∀ (srv : Server) (w qcap : Nat) (steps : List Step) (sid : Nat),
    let P : Params := { w := w, qcap := qcap, respond := fun _ d => (process srv Env.up d).cmds }
    (runPool P {} steps).tasks = [] → proj sid (runPool P {} steps).log = proj sid (runPool P {} steps).ledger

/-- the witness: two pipelined requests, two workers, the second handler finishes first -/
def O3_witness : List Step :=
  [.arrive 1 (ascii "\r\n\r\n"), .arrive 1 [], .pick, .pick, .emit 1, .emit 1, .emit 0, .emit 0]

/-- F28: refuted.  With two workers the Send order is the completion order. -/
theorem O3_refuted : ¬ O3_statement := by
  intro h
  have := h {} 2 1024 O3_witness 1 (by decide)
  revert this
  decide +kernel

/-- Partial: for every schedule in which a request of a session arrives only when no earlier request of that session is
    still queued or being handled (a client that waits for each response: at most one request of a connection in flight),
    at EVERY moment each session's commands so far, followed by the commands still owed, are exactly its requests'
    commands in arrival order. -/
theorem O3_partial_one_in_flight (P : Params) (steps : List Step) (h : OneInFlight P {} steps) (sid : Nat) :
    proj sid (runPool P {} steps).log ++ proj sid (pending (runPool P {} steps).tasks) = proj sid (runPool P {} steps).ledger :=
  (proj_append sid _ _).symm.trans (runPool_inOrder P {} steps h (by simp) (by intro s; simp [proj, pending]) sid)

example : OneInFlight { w := 8, qcap := 1024, respond := fun _ d => [.send d] } {}
    [.arrive 1 [1], .arrive 2 [2], .pick, .pick, .emit 1, .emit 0, .arrive 1 [3], .pick, .emit 0] := by
  simp [OneInFlight, stepPool, queuedCount, runningCount, markFirstQueued, emitAt]

/-- Partial: with one worker and a task queue that is never full the whole engine queue is in arrival order, at every
    moment, however the client pipelines. -/
theorem O3_partial_single_worker (P : Params) (hw : P.w = 1) (steps : List Step) (h : NoOverflow P {} steps) :
    (runPool P {} steps).log ++ pending (runPool P {} steps).tasks = (runPool P {} steps).ledger :=
  (runPool_fifo P (Nat.le_of_eq hw) {} steps h ⟨by simp, by simp [pending]⟩).2

/-! ## O4 — wire self-consistency -/

/-- Content-Length: if the response object is API-consistent when the handler is done (its `Content-Length` field says how
    long its body is — what `set_content` establishes), then for a request that is not HEAD and a status other than
    204/304 the bytes sent are `toWire status text H body` where `H` carries `Content-Length: |body|`: the declared length
    is the number of body bytes that follow the header section. -/
theorem O4_content_length (srv : Server) (env : Env) (data : Bytes) (p : ParsedReq)
    (h1 : env.shutdownAtEntry = false) (h2 : env.upAtSend = true) (h3 : env.enqueueOk = true)
    (hp : fromWireFormat data = .ok p) (hu : upgradeSeam srv p = .ret none) (hs : suppressSeam srv p = .ret false)
    (hc : ApiConsistent (dispatched srv p).1) (hm : p.method ≠ .HEAD) (hb : bodylessStatus (dispatched srv p).1.status = false) :
    ∃ H c, process srv env data =
        .respond (toWire (dispatched srv p).1.status (statusText (dispatched srv p).1.status) H (dispatched srv p).1.body) c ∧
      hFind H kCL = some (dec (dispatched srv p).1.body.length) := by
  have hm' : (reqOf srv p).method ≠ .HEAD := by rw [reqOf_method]; exact hm
  obtain ⟨H, hw, hcl⟩ := buildWire_content_length env (reqOf srv p) (dispatched srv p).1 hc hm' hb
  exact ⟨H, _, hw ▸ process_normal_up srv env data p h1 h2 h3 hp hu hs, hcl⟩

/-- Every handler written with the response API — `status =`, `set_content`, `set_header` (other than Content-Length), in
    any number and order, returning or throwing at any point — leaves the response object API-consistent, starting from
    the pre-seeded response the dispatcher hands it; so does every dispatch category that runs no handler. -/
theorem O4_api_script_consistent (sc : Script) (hs : ApiScript sc) (d : Decision Handler) (req : Req)
    (hd : d.anyHandler? = some (runScript sc) ∨ d.anyHandler? = none)
    (hb : bodylessStatus (dispatch d req).1.status = false) :
    ApiConsistent (dispatch d req).1 := by
  rcases hd with hd | hd
  · exact dispatch_consistent_of_handler d req _ hd (runScript_consistent sc hs req prefilled prefilled_consistent)
  · exact dispatch_consistent_no_handler d req hd hb

example : ApiScript [.setStatus 201, .setContent [1, 2, 3] (ascii "a/b"), .setHeader (ascii "X-A") [49], .throwStd] := by
  unfold ApiScript
  repeat rw [ascii_ofList]
  decide +kernel

/-- HEAD: a parsed HEAD request is answered without a single body byte, on every dispatch category (auto-HEAD of a GET
    route, 405, 404, default handler) and whatever the handler put into the response object; a 204/304 also loses its
    Content-Length, any other status keeps the Content-Length the handler left. -/
theorem O4_head_no_body (srv : Server) (env : Env) (data : Bytes) (p : ParsedReq) (b : Bool)
    (h1 : env.shutdownAtEntry = false) (h2 : env.upAtSend = true) (h3 : env.enqueueOk = true)
    (hp : fromWireFormat data = .ok p) (hu : upgradeSeam srv p = .ret none) (hs : suppressSeam srv p = .ret b)
    (hm : p.method = .HEAD) :
    process srv env data = .suppressed ∨
    ∃ H c, process srv env data =
        .respond (toWire (dispatched srv p).1.status (statusText (dispatched srv p).1.status) H []) c ∧
      (bodylessStatus (dispatched srv p).1.status = true → hFind H kCL = none) ∧
      (bodylessStatus (dispatched srv p).1.status = false → hFind H kCL = hFind (dispatched srv p).1.headers kCL) := by
  cases b with
  | true => left; rw [process_eq]; simp only [h1, hp, hu, hs]
  | false =>
    right
    have hm' : (reqOf srv p).method = .HEAD := by rw [reqOf_method]; exact hm
    obtain ⟨H, hw, hx, hy⟩ := buildWire_head env (reqOf srv p) (dispatched srv p).1 hm'
    exact ⟨H, _, hw ▸ process_normal_up srv env data p h1 h2 h3 hp hu hs, hx, hy⟩

/-- "Responses to HEAD carry no body", for EVERY arm of the server (FC16f repaired): request bytes whose request line starts
    with `HEAD ` — whichever arm answers them, in every environment: the shutdown arm (503), the error arm (400/414/501/505 of
    a parse reject, 500 of a throwing hook), the normal path (auto-HEAD of a GET route, 405, 404, default handler) — get
    `toWire st text H []`: status line, field lines, the empty line and not one byte more.  The arms outside the normal path
    decide from the raw bytes (`isHeadRequest(requestData)`), the normal path from the parsed method; the two readings agree
    for all bytes (`fromWireFormat_head`: a request that starts with `HEAD ` and that the parser accepts has the parsed
    method HEAD).  The one response the server does not build itself — an upgrade the subclass hook accepted — is the hook's (`hup`).  Pool
    overflow, the fourth arm, is `O1_overflow` + `O1_overflow_every_env` with `head = isHeadRaw data`.  (On a tree whose arms
    do not strip, `Gen.HttpRespond.errorArmsStripHead` is false and this theorem does not build.) -/
theorem O4_head_every_arm (srv : Server) (env : Env) (data w : Bytes) (c : Bool)
    (hpre : (ascii "HEAD ").isPrefixOf data = true)
    (hup : ∀ p u, fromWireFormat data = .ok p → upgradeSeam srv p ≠ .ret (some u))
    (hr : process srv env data = .respond w c) :
    ∃ st text H, w = toWire st text H [] := by
  have hg : Gen.HttpRespond.errorArmsStripHead = true := by decide
  have hh : isHeadRaw data = true := by simp [isHeadRaw, hg, hpre]
  rcases process_respond_wire srv env data w c hr with h | ⟨s, h⟩ | ⟨p, u, hp, hu⟩ | ⟨p, hp, h⟩
  · rw [h, hh]
    exact ⟨_, _, _, shutdownWire_eq true⟩
  · rw [h, hh, errorWire_eq s true]
    exact ⟨_, _, _, rfl⟩
  · exact absurd hu (hup p u hp)
  · -- the normal path decides by the parsed method, which is HEAD for these bytes
    have hm : (reqOf srv p).method = .HEAD := by rw [reqOf_method]; exact fromWireFormat_head data p hpre hp
    obtain ⟨H, hw, _, _⟩ := buildWire_head env (reqOf srv p) (dispatched srv p).1 hm
    rw [h, hw]
    exact ⟨_, _, H, rfl⟩

/-- `hpre` and an accepted parse are satisfiable together -/
example : (fromWireFormat (ascii "HEAD /x HTTP/1.1\r\nHost: a\r\n\r\n")).toOption.map (·.method) = some .HEAD := by
  rw [ascii_ofList]
  decide +kernel

/-- the bytes of a response behind the end of its header section -/
def wireBody (w : Bytes) : Option Bytes := (splitAtSub crlf2 w).map (fun hb => hb.2)

/-- the error arm, the shutdown arm, a throwing hook and pool overflow on concrete HEAD requests: no byte behind the header
    section, and the Content-Length is the one a GET would get -/
example : process {} Env.up (ascii "HEAD / HTTP/1.1\r\n\r\n") = .respond (errorWire 400 true) true ∧
    wireBody (errorWire 400 true) = some [] ∧ wireBody (errorWire 400) = some (ascii "Bad Request") := by
  refine ⟨?_, ?_⟩
  · generalize hd : ascii _ = data
    rw [process_eq]
    simp only [parseErrIs_eq (data := data) (e := .request 400) (by rw [← hd, ascii_ofList]; decide +kernel),
      show isHeadRaw data = true by rw [← hd, ascii_ofList]; decide +kernel]
    rfl
  · rw [errorWire_eq, errorWire_eq]
    repeat rw [ascii_ofList]
    decide +kernel

example : process {} { shutdownAtEntry := true } (ascii "HEAD / HTTP/1.1\r\nHost: x\r\n\r\n") = .respond (shutdownWire true) true ∧
    wireBody (shutdownWire true) = some [] := by
  refine ⟨?_, ?_⟩
  · rw [process_eq,
      show isHeadRaw (ascii "HEAD / HTTP/1.1\r\nHost: x\r\n\r\n") = true by rw [ascii_ofList]; decide +kernel]
    rfl
  · rw [shutdownWire_eq]
    repeat rw [ascii_ofList]
    decide +kernel

example : process { upgradeHook := fun _ => .threw true } Env.up (ascii "HEAD / HTTP/1.1\r\nHost: x\r\nUpgrade: h2c\r\n\r\n") =
      .respond (errorWire 500 true) true ∧ wireBody (errorWire 500 true) = some [] := by
  refine ⟨?_, ?_⟩
  · generalize hd : ascii _ = data
    obtain ⟨p, hp, hf⟩ := fromWireFormat_ok_of (data := data) (f := fun p => hasUpgradeHeader (mkReq p).headers)
      (by rw [← hd, ascii_ofList]; decide +kernel)
    rw [process_eq]
    simp only [hp, show upgradeSeam { upgradeHook := fun _ => .threw true } p = .threw true from if_pos hf,
      show isHeadRaw data = true by rw [← hd, ascii_ofList]; decide +kernel]
    rfl
  · rw [errorWire_eq]
    repeat rw [ascii_ofList]
    decide +kernel

example : wireBody (overflowWire true) = some [] ∧
    wireBody (overflowWire false) = some (ascii "Server overloaded - please retry later") := by
  rw [overflowWire_eq, overflowWire_eq]
  repeat rw [ascii_ofList]
  decide +kernel

/-- a request that merely contains the letters is not a HEAD request: `HEADER / …` keeps its body -/
example : isHeadRaw (ascii "HEADER / HTTP/1.1\r\n\r\n") = false ∧ isHeadRaw (ascii "head / HTTP/1.1\r\n\r\n") = false := by
  repeat rw [ascii_ofList]
  decide +kernel

/-- The normal path alone, keyed on the parsed method: request parsed as HEAD, no upgrade taken, response not suppressed — the response is
    `toWire st text H []`. -/
theorem O4_head_partial_normal_path (srv : Server) (env : Env) (data : Bytes) (p : ParsedReq)
    (h1 : env.shutdownAtEntry = false) (h2 : env.upAtSend = true) (h3 : env.enqueueOk = true)
    (hp : fromWireFormat data = .ok p) (hu : upgradeSeam srv p = .ret none) (hs : suppressSeam srv p = .ret false)
    (hm : p.method = .HEAD) :
    ∃ st text H c, process srv env data = .respond (toWire st text H []) c := by
  rcases O4_head_no_body srv env data p false h1 h2 h3 hp hu hs hm with h | ⟨H, c, h, _, _⟩
  · rw [process_normal_up srv env data p h1 h2 h3 hp hu hs] at h; cases h
  · exact ⟨_, _, H, c, h⟩

/-- A HEAD request is never suppressed by a handler flag when it is served by a GET route (MATCHED_AS_HEAD ignores
    `_suppressSend`). -/
example : ∀ h c r req, (dispatch (.matchedAsHead h c r) req).2 = false := by intros; rfl

/-- A handler that throws — `std::exception` or anything else, after doing anything to the response object — yields status
    500 with the body `Internal Server Error` and a matching Content-Length, and the response is not suppressed by the
    handler's own flag. -/
theorem O4_throw_500 (d : Decision Handler) (req : Req) (h : Handler) (hd : d.anyHandler? = some h)
    (ht : (h req prefilled).threw = true) :
    (dispatch d req).1.status = 500 ∧ (dispatch d req).1.body = ascii "Internal Server Error" ∧
    ApiConsistent (dispatch d req).1 ∧ (dispatch d req).1.suppress = false :=
  dispatch_anyHandler (Q := fun r => r.status = 500 ∧ r.body = ascii "Internal Server Error" ∧ ApiConsistent r ∧ r.suppress = false)
    (fun _ ⟨hst, hbody, hcl, _⟩ => ⟨hst, hbody, hcl, rfl⟩) d req h hd (safetyNet_threw h req prefilled ht)

/-- A request that `fromWireFormat` rejects yields (server up) exactly one response with the status the parser asked for —
    500 when the exception was not an `HttpRequestError` — `Connection: close`, a body equal to the status text with its
    Content-Length, followed by a Close command: an error status AND a closed connection, never a connection left waiting. -/
theorem O4_parse_failure (srv : Server) (env : Env) (data : Bytes) (e : ParseErr)
    (h1 : env.shutdownAtEntry = false) (h2 : env.upAtSend = true) (h3 : env.enqueueOk = true) (h4 : env.upAtClose = true)
    (hp : fromWireFormat data = .error e) :
    process srv env data = .respond (errorWire (errStatus e) (isHeadRaw data)) true ∧
    errorWire (errStatus e) (isHeadRaw data) = toWire (errStatus e) (statusText (errStatus e))
      [(ascii "Connection", ascii "close"), (ascii "Content-Length", dec (statusText (errStatus e)).length),
       (ascii "Content-Type", ascii "text/plain")] (if isHeadRaw data then [] else statusText (errStatus e)) ∧
    (errStatus e = 500 ∨ errStatus e ∈ [400, 414, 501, 505]) := by
  refine ⟨?_, errorWire_eq _ _, ?_⟩
  · rw [process_eq]; simp only [h1, hp, sendBlock_up_close env _ h2 h3 h4]
  · cases e with
    | other => left; decide
    | request s => right; exact fromWireFormat_status data s hp

/-- the statuses the request parser can ask for are exactly 400, 414, 501, 505; 400/501/505 and the non-`HttpRequestError`
    case are exhibited here (414 needs an 8193-byte target: exhibited by the lockstep boundary cases, too deep for the kernel) -/
theorem O4_parse_statuses :
    (∀ data s, fromWireFormat data = .error (.request s) → s ∈ [400, 414, 501, 505]) ∧
    parseErrIs (ascii "GET / HTTP/1.1\r\n\r\n") (.request 400) = true ∧
    parseErrIs (ascii "BREW / HTTP/1.1\r\nHost: x\r\n\r\n") (.request 501) = true ∧
    parseErrIs (ascii "GET / HTTP/2.0\r\nHost: x\r\n\r\n") (.request 505) = true ∧
    parseErrIs (ascii "GET / HTTP/1.1\r\nHost: x\r\n") .other = true := by
  refine ⟨fromWireFormat_status, ?_⟩
  repeat rw [ascii_ofList]
  decide +kernel

/-- Connection: close as a TOKEN: if the request's Connection value (as parsed) contains `close` among its
    comma-separated, OWS-trimmed, case-folded tokens — `close`, `Close`, `TE, close`, `keep-alive ,\tCLOSE` — the response
    says `Connection: close` and a Close command follows it (server up).  Holds for the repaired code only: on the
    unrepaired tree `Gen.HttpRespond.connectionTokenised` is false and this does not build (F33). -/
theorem O4_close_token (srv : Server) (env : Env) (data : Bytes) (p : ParsedReq) (v : Bytes)
    (h1 : env.shutdownAtEntry = false) (h2 : env.upAtSend = true) (h3 : env.enqueueOk = true) (h4 : env.upAtClose = true)
    (hp : fromWireFormat data = .ok p) (hu : upgradeSeam srv p = .ret none) (hs : suppressSeam srv p = .ret false)
    (hv : hFind p.headers (ascii "Connection") = some v) (ht : ascii "close" ∈ connTokens v) :
    ∃ H body, process srv env data =
        .respond (toWire (dispatched srv p).1.status (statusText (dispatched srv p).1.status) H body) true ∧
      hFind H (ascii "Connection") = some (ascii "close") := by
  obtain ⟨H, body, h, hc⟩ := process_normal_connection srv env data p h1 h2 h3 hp hu hs
  rw [connectionDecision_close_of_token env.sess p.headers v hv ht] at h hc
  exact ⟨H, body, by rw [h, h4]; rfl, hc⟩

example : ascii "close" ∈ connTokens (ascii "TE, close") ∧ ascii "close" ∈ connTokens (ascii "keep-alive ,\tCLOSE ") ∧
    ascii "close" ∉ connTokens (ascii "x-close, closed") := by
  repeat rw [ascii_ofList]
  decide +kernel

/-- The response's Connection field and the Close command say the same thing (server up): `close` exactly when the Close
    command follows, `keep-alive` otherwise — for every request, session state and handler. -/
theorem O4_close_header_iff (srv : Server) (env : Env) (data : Bytes) (p : ParsedReq)
    (h1 : env.shutdownAtEntry = false) (h2 : env.upAtSend = true) (h3 : env.enqueueOk = true) (h4 : env.upAtClose = true)
    (hp : fromWireFormat data = .ok p) (hu : upgradeSeam srv p = .ret none) (hs : suppressSeam srv p = .ret false) :
    ∃ H body c, process srv env data =
        .respond (toWire (dispatched srv p).1.status (statusText (dispatched srv p).1.status) H body) c ∧
      hFind H (ascii "Connection") = some (if c then ascii "close" else ascii "keep-alive") := by
  obtain ⟨H, body, h, hc⟩ := process_normal_connection srv env data p h1 h2 h3 hp hu hs
  exact ⟨H, body, _, by rw [h, h4, Bool.and_true], hc⟩

/-- No Connection field on the request and the (only possible) default session: `Connection: keep-alive`, no Close. -/
theorem O4_keepalive_default (srv : Server) (env : Env) (data : Bytes) (p : ParsedReq)
    (h1 : env.shutdownAtEntry = false) (h2 : env.upAtSend = true) (h3 : env.enqueueOk = true) (h5 : env.sess = some {})
    (hp : fromWireFormat data = .ok p) (hu : upgradeSeam srv p = .ret none) (hs : suppressSeam srv p = .ret false)
    (hv : hFind p.headers (ascii "Connection") = none) :
    ∃ w, process srv env data = .respond w false := by
  obtain ⟨H, body, h, _⟩ := process_normal_connection srv env data p h1 h2 h3 hp hu hs
  rw [h5, connectionDecision_default p.headers hv] at h
  exact ⟨_, h⟩

/-! ## O4′ — a response followed by a close is written completely (F31) -/

/-- Full statement: whatever the kernel and the event loop do, once the session has been closed everything that was sent
    before the Close has been delivered. -/
def O4p_statement : Prop :=
  ∀ evs : List EngEv, (runSock {} evs).isOpen = false → (runSock {} evs).delivered = sentBeforeClose evs

/-- F31: refuted.  The response is one Send command and the close the next; `closeNow` destroys the session together
    with its write queue: a 2-byte response of which the kernel takes 1 byte at once is cut to 1 byte by the Close. -/
theorem O4p_refuted : ¬ O4p_statement := by
  intro h
  have := h [.cmd (.send [1, 2]) 1, .cmd .close 0] (by decide)
  revert this
  decide

/-- Partial: if the kernel takes every Send whole — every response fits the free space of the socket buffer — then for
    every event sequence everything sent before the Close is delivered, exactly and in order. -/
theorem O4p_partial_fits_buffer (evs : List EngEv) (h : FitsBuffer evs) :
    (runSock {} evs).delivered = sentBeforeClose evs := by
  obtain ⟨lost, hl, _, hf⟩ := runSock_split {} evs rfl
  simpa [hf rfl h] using hl

example : FitsBuffer [.cmd (.send [1, 2, 3]) 3, .writable 5, .cmd (.send [4]) 100, .cmd .close 0] := by
  simp [FitsBuffer]

/-- What holds without any hypothesis: the delivered bytes are always a prefix of what was sent before the Close — a Close
    can cut a response short, it can never reorder, duplicate or invent bytes. -/
theorem O4p_prefix_always (evs : List EngEv) : (runSock {} evs).delivered <+: sentBeforeClose evs :=
  sentBeforeClose_eq evs ▸ O2_stream_is_prefix_of_whole_responses evs

/-! ## O5 — a reference framer recovers the responses -/

/-- The reference HTTP/1.1 framer (status line, field lines up to the empty line, Content-Length body; no body for
    HEAD / 1xx / 204 / 304) applied to the concatenation of any list of wire-safe responses returns exactly their
    (status, field lines, body) and leaves nothing over: the stream the client reads splits back into the responses. -/
theorem O5_framer_recovers (rs : List WireResp) (h : ∀ r ∈ rs, r.Safe) :
    frameAll (rs.map (·.isHead)) (rs.flatMap WireResp.wire) = some (rs.map WireResp.frame) := by
  induction rs with
  | nil => simp [frameAll]
  | cons r rs ih =>
    simp only [List.map_cons, List.flatMap_cons, frameAll]
    rw [frameOne_recovers r (h r (by simp)) _]
    simp only [ih (fun x hx => h x (by simp [hx]))]

/-- What `processHttpRequest` sends for a parsed request is such a wire-safe response whenever the handler left a response
    object with a status in 200..999, header names that are tokens, no LF in header values, no Transfer-Encoding, and
    either an API-consistent body/Content-Length pair or a 204/304 status (whose body and Content-Length the dispatcher
    drops under every method — FC16a repaired).  `res.headers` is a `std::map`, so `Sorted` holds of every real value. -/
theorem O5_process_wire_safe (env : Env) (req : Req) (res : Resp)
    (hst : 200 ≤ res.status ∧ res.status ≤ 999) (hf : FieldsSafe res.headers)
    (hc : ApiConsistent res ∨ bodylessStatus res.status = true) :
    ∃ r : WireResp, r.Safe ∧ r.wire = (buildWire env req res).1 ∧ r.isHead = (req.method == .HEAD) ∧
      (r.status : Int) = res.status := by
  have hnn : ((res.status.toNat : Nat) : Int) = res.status := Int.toNat_of_nonneg (by omega)
  let hdrs := finalHeaders (headStrip req.method res).headers (connectionDecision env.sess req.headers).2
  have hsafe : FieldsSafe hdrs :=
    finalHeaders_fieldsSafe _ _ (headStrip_fieldsSafe _ _ hf) (connectionDecision_no_lf _ _)
  have hcl : clVals hdrs = ((hFind (headStrip req.method res).headers kCL).toList).map trim := by
    rw [clVals_eq hdrs hsafe.sorted]
    show ((hFind (finalHeaders _ _) kCL).toList).map trim = _
    rw [finalHeaders_cl]
  refine ⟨{ status := res.status.toNat, text := statusText res.status, fields := hdrs,
            body := (headStrip req.method res).body, isHead := req.method == .HEAD }, ?_, ?_, rfl, hnn⟩
  · refine ⟨by show 100 ≤ res.status.toNat; omega, by show res.status.toNat ≤ 999; omega, statusText_no_lf _,
      hsafe.tokens, te_any_false _ hsafe.noTE, ?_⟩
    show (if bodyForbidden (req.method == .HEAD) res.status.toNat = true then _ else _)
    rw [bodyForbidden_eq _ _ hst.1]
    by_cases hb : bodylessStatus res.status = true
    · -- 204 / 304: no body, no Content-Length, whatever the method
      obtain ⟨h1, h2⟩ := headStrip_bodyless req.method res hb
      rw [if_pos (by simp [hb])]
      exact ⟨h1, Or.inl (by rw [hcl, h2]; rfl)⟩
    · -- any other status: the handler's Content-Length stays and says how long its body was; HEAD strips the body, nothing else does
      have hb' : bodylessStatus res.status = false := by simpa using hb
      have hv : clVals hdrs = [dec res.body.length] := by
        rw [hcl, headStrip_headers _ _ hb', show hFind res.headers kCL = _ from hc.resolve_right hb]
        simp [trim_digits _ (dec_digits _)]
      by_cases hm : req.method = .HEAD
      · rw [if_pos (by simp [hm])]
        exact ⟨by rw [hm]; exact headStrip_head res, Or.inr ⟨_, _, hv, parseDec_dec _⟩⟩
      · rw [if_neg (by simp [hm, hb'])]
        exact ⟨_, hv, by rw [headStrip_id req.method res hm hb']; exact parseDec_dec _⟩
  · show toWire (res.status.toNat : Int) (statusText res.status) hdrs (headStrip req.method res).body = _
    rw [hnn, buildWire_eq, headStrip_status]

/-- the hypotheses are satisfiable by the server's own responses: the pre-seeded response is field-safe and consistent -/
example : FieldsSafe defaultResp.headers ∧ ApiConsistent defaultResp := by
  refine ⟨?_, defaultResp_consistent⟩
  unfold defaultResp Resp.setContent
  simp only [Gen.HttpRespond.bodyNotFound, Gen.HttpRespond.textPlain]
  repeat rw [ascii_ofList]
  exact ⟨by unfold Sorted keysOf; decide +kernel, by unfold TokenFields; decide +kernel, by decide +kernel⟩

/-- what breaks O5 without the 204/304 reconciliation (FC16a): a handler that only says `res.status = 204` puts `Content-Length: 9`
    and the pre-seeded `Not Found` on the wire, which no framer reads back as one response -/
example : frameAll [false, false]
    (toWire 204 (statusText 204) (finalHeaders defaultResp.headers (ascii "keep-alive")) defaultResp.body ++
     toWire 200 (statusText 200) (finalHeaders defaultResp.headers (ascii "keep-alive")) defaultResp.body) = none := by
  unfold finalHeaders defaultResp Resp.setContent
  simp only [Gen.HttpRespond.bodyNotFound, Gen.HttpRespond.textPlain, Gen.HttpRespond.serverHeader]
  repeat rw [ascii_ofList]
  decide +kernel

/-- Everything together for one connection whose responses are wire-safe and fit the socket buffer: if the session's
    commands are the Sends of responses `rs` in order, optionally followed by one Close, then for every behaviour of the
    kernel and the event loop the bytes the client reads split — by the reference framer — into exactly `rs`. -/
theorem O5_end_to_end (rs : List WireResp) (hs : ∀ r ∈ rs, r.Safe) (evs : List EngEv) (hf : FitsBuffer evs)
    (tail : List Cmd) (ht : tail = [] ∨ tail = [.close])
    (hc : cmdsOf evs = (rs.map WireResp.wire).map Cmd.send ++ tail) :
    frameAll (rs.map (·.isHead)) (runSock {} evs).delivered = some (rs.map WireResp.frame) := by
  have htail : payloadBeforeClose tail = [] := by rcases ht with rfl | rfl <;> rfl
  rw [O4p_partial_fits_buffer evs hf, sentBeforeClose_eq, hc, payloadBeforeClose_sends, htail, List.append_nil, ← List.flatMap_def]
  exact O5_framer_recovers rs hs

/-- The composed wire-level partial theorem: pool, engine and framer together.  For every schedule in which a request of a
    session arrives only when no earlier one of that session is unfinished (`OneInFlight`) and the task queue is never
    full, once the workers are idle: if the commands `processHttpRequest` issues for session `sid`'s requests, in request
    order, are the Sends of wire-safe responses `rs` followed by at most one final Close, then for EVERY behaviour of the
    kernel and the event loop that takes each Send whole (`FitsBuffer`) and processes exactly the session's commands of the
    engine queue, the bytes the client reads split — by the reference framer — into exactly `rs`, in request order:
    exactly one well-formed response per request, in order, nothing else on the wire. -/
theorem O1_wire_partial (P : Params) (steps : List Step) (hone : OneInFlight P {} steps) (hno : NoOverflow P {} steps)
    (hq : (runPool P {} steps).tasks = []) (sid : Nat)
    (rs : List WireResp) (hs : ∀ r ∈ rs, r.Safe) (tail : List Cmd) (ht : tail = [] ∨ tail = [.close])
    (hreq : ((arrivals steps).filter (fun a => a.1 == sid)).flatMap (fun a => P.respond a.1 a.2) =
              (rs.map WireResp.wire).map Cmd.send ++ tail)
    (evs : List EngEv) (hf : FitsBuffer evs) (hc : cmdsOf evs = proj sid (runPool P {} steps).log) :
    frameAll (rs.map (·.isHead)) (runSock {} evs).delivered = some (rs.map WireResp.frame) := by
  have h3 := O3_partial_one_in_flight P steps hone sid
  rw [hq, proj_ledger P {} steps hno, hreq] at h3
  exact O5_end_to_end rs hs evs hf tail ht (hc.trans (by simpa [pending, proj] using h3))

/-- the hypotheses of `O1_wire_partial` are satisfiable: one request, one worker step sequence, a 200 with a 1-byte body -/
example :
    let r : WireResp := { status := 200, text := ascii "OK", fields := [(ascii "Content-Length", ascii "1")], body := [65], isHead := false }
    let P : Params := { w := 2, qcap := 4, respond := fun _ _ => [.send r.wire] }
    let steps : List Step := [.arrive 1 [], .pick, .emit 0]
    r.Safe ∧ OneInFlight P {} steps ∧ NoOverflow P {} steps ∧ (runPool P {} steps).tasks = [] ∧
    FitsBuffer [.cmd (.send r.wire) 1000] ∧ cmdsOf [EngEv.cmd (.send r.wire) 1000] = proj 1 (runPool P {} steps).log := by
  repeat rw [ascii_ofList]
  refine ⟨⟨by decide, by decide, by decide, by unfold TokenFields; decide +kernel, by decide +kernel,
    by rw [if_neg (by decide)]; exact ⟨ascii "1", by decide +kernel, by decide +kernel⟩⟩, ?_, ?_, ?_, ?_, ?_⟩
  · simp [OneInFlight]
  · simp [NoOverflow, queuedCount]
  · decide +kernel
  · simp [FitsBuffer, WireResp.wire, toWire]; decide +kernel
  · rfl

end Iora.C16
