import IoraModel.Lemmas.SyncRecvW
import IoraModel.Lemmas.SyncRecvT8
import IoraModel.Model.SyncRecvGen
/-!
# C03 — Synchronous receive is a lossless ordered stream that drains before EOF

The model is `Model/SyncRecv.lean` (one step = one `syncMutex` critical section of
`transport_impl.hpp`, REPAIRED code: fixes F15, F15b, FC03a, FC02a, FC03c, FC03d; FC03b concerns clock arithmetic, which the model does not contain), with
`receiveSyncCancellable` as a layer over it (`Model/SyncRecvW.lean`), instantiated from the regenerated lock/notify skeleton
(`Gen/TsyncSkel.lean` via `Model/TsyncFacts.lean`) and PINNED to it (`skeleton_pinned`).  Every theorem quantifies over ALL step
sequences (`steps : List Step` — every interleaving of the I/O thread's data/close deliveries with the application's receives,
wake-ups, timeouts, spurious wake-ups, mode switches and flush steps, over any number of sessions) that respect the environment
contract `Disciplined` (engine: no data / second close after a close — zero-length chunks ARE legal arrivals; the I/O thread is one
thread; application: one thread drives a session's blocking calls).  The ghost field `out` the stream theorems speak about is tied to
the emitted events (`T1_out_is_events`).  Time is not modelled: "in time" is tied by `skeleton_pinned` and monitors, not proved.
The theorems are stated from `init`; the lemmas they instantiate (`run_inv`, `run_tomb`, `run_markedQuiet`) hold from any state that satisfies
the invariant in question, and T8 needs none: `ioClose_quiet` and `quiet_run` speak of any state in which the close is admitted.
-/
namespace Iora.C03
open Iora Iora.SyncRecv

/-- The skeleton facts the model is instantiated from (`Cfg.Good`, the `hg` of the theorems below) hold of the regenerated skeleton:
predicate writes of `buf->cv` (`hasData`, `overflow`, `closed`) are made under `syncMutex` and followed by a notify under the same lock.
So do five facts the SHAPE of the model was read off, which no theorem takes as a hypothesis: the handler reads
the mode and appends under one lock acquisition; the flush invokes the user callback with no Transport mutex held; `hasData` is
computed from the BUFFER after the append (FC03a); `receiveSync` keys its drain on the buffer being non-empty; and the flush
loop switches the mode to Async only in a critical section that found the buffer empty — never in the one that took bytes. -/
theorem skeleton_conforms :
    (∀ mb gc al, (genCfg mb gc al).Good) ∧ TsyncFacts.modeReadAndAppendUnderOneLock = true ∧
    TsyncFacts.flushCallbackUnlocked = true ∧ TsyncFacts.hasDataMirrorsBuffer = true ∧
    TsyncFacts.drainKeyedOnBuffer = true ∧ TsyncFacts.flushSwitchesModeOnlyOnEmptyPass = true := by
  refine ⟨fun mb gc al => ?_, by decide, by decide, by decide, by decide, by decide⟩
  exact ⟨show TsyncFacts.notifyOnData = true by decide, show TsyncFacts.notifyOnOverflow = true by decide,
    show TsyncFacts.notifyOnClose = true by decide⟩

/-- The four functions the model mirrors step by step — the `onData` handler, `receiveSync`, `setReadMode` and step 2 of the
`onClose` handler — have EXACTLY the lock / wait / notify / write / compare / return skeleton the model was written against
(equality with the literal lists in `Model/TsyncFacts.lean`), `receiveSyncCancellable` is exactly the loop `Model/SyncRecvW.lean`
mirrors, `receiveSync` waits under the caller's lock until `now() + timeout` and answers `Timeout` exactly for an unsignalled wait,
the timeouts are saturated before they enter clock arithmetic (FC03b), step 2 of the `onClose` handler erases the `readModes`
entry exactly once, under no condition, and `setReadMode` returns at once for a closed tombstone, before it touches `readModes` (T8, FC02a);
the close handler marks the session closed BEFORE it invokes the global close callback and the observers, both with no Transport mutex
held (FC03c); and every condition the model mirrors as a decision has exactly the text - operators and operands - it was written against. -/
theorem skeleton_pinned :
    TsyncFacts.c03SkeletonPinned = true ∧ TsyncFacts.recvWrapperShape = true ∧ TsyncFacts.recvTimingArgs = true ∧
    TsyncFacts.recvTimeoutsSaturate = true ∧ TsyncFacts.closeForgetsModeUnconditionally = true ∧
    TsyncFacts.setReadModeSkipsTombstone = true ∧ TsyncFacts.closeMarksBeforeCallbacks = true ∧
    TsyncFacts.c03ConditionsPinned = true := by
  -- a `==` test of a regenerated list against the literal it was written against is an equation, and as an equation it holds by
  -- `rfl` with the strings compared as literals (evaluating `==` compares them character by character); the four facts in the middle
  -- search the skeleton (`contains`, `count`, `before`) and are evaluated
  refine ⟨?_, ?_, ?_, by decide +kernel, by decide +kernel, by decide +kernel, by decide +kernel, ?_⟩
  · simp only [TsyncFacts.c03SkeletonPinned, Bool.and_eq_true, beq_iff_eq]
    exact ⟨⟨⟨rfl, rfl⟩, rfl⟩, rfl⟩
  · simp only [TsyncFacts.recvWrapperShape, Bool.and_eq_true, beq_iff_eq]
    exact ⟨rfl, rfl⟩
  · simp only [TsyncFacts.recvTimingArgs, beq_iff_eq]
    rfl
  · simp only [TsyncFacts.c03ConditionsPinned, Bool.and_eq_true, beq_iff_eq]
    exact ⟨rfl, rfl⟩

/-- **T1 (observable form).** `out` is not a free-floating ghost: in every run (disciplined or not) a session's `out` is exactly
the bytes of the emitted events — successful `receiveSync` results and data-callback deliveries for that session, in order. -/
theorem T1_out_is_events (cfg : Cfg) (steps : List Step) (sid : Nat) :
    ((run cfg init steps).1.sess sid).out = evBytes sid (run cfg init steps).2 := by
  simpa [init] using run_out_is_events cfg sid steps init

/-- one step: the step's own events are exactly what it appends to `out` (any state, any step) -/
theorem T1_step_out_is_events (cfg : Cfg) (s : State) (st : Step) (sid : Nat) :
    ((step cfg s st).1.sess sid).out = (s.sess sid).out ++ evBytes sid (step cfg s st).2 :=
  (step_eff cfg s st sid).out

/-- **T1 (stream, conservation).** After every disciplined step sequence, for every session: the bytes handed out (receive
results and callback deliveries, in real-time order), then the bytes a flusher holds, then the buffered bytes, then the chunk
the I/O thread is about to hand to the callback, are exactly the accepted bytes in arrival order — each once, none reordered —
and the accepted bytes are ALL arrived bytes as long as no chunk was dropped. Caller buffer lengths are arbitrary. -/
theorem T1_stream (cfg : Cfg) (hg : cfg.Good) (steps : List Step) (hd : Disciplined cfg init steps) (sid : Nat) :
    let s := (run cfg init steps).1
    let x := s.sess sid
    x.out ++ inflight x ++ bufData x ++ pd (pendO s sid) = x.accepted ∧ (x.gap = false → x.accepted = x.arrived) :=
  let h := run_inv hg steps init Inv_init hd sid
  ⟨h.E, h.A⟩

/-- **T1 over events.** What the application has been handed (events only) followed by what is still held is what was accepted. -/
theorem T1_stream_events (cfg : Cfg) (hg : cfg.Good) (steps : List Step) (hd : Disciplined cfg init steps) (sid : Nat) :
    let s := (run cfg init steps).1
    let x := s.sess sid
    evBytes sid (run cfg init steps).2 ++ inflight x ++ bufData x ++ pd (pendO s sid) = x.accepted ∧
      (x.gap = false → x.accepted = x.arrived) := by
  rw [← T1_out_is_events]; exact T1_stream cfg hg steps hd sid

/-- **T1 (receiver's view).** At every point of every run, what has been handed out is a prefix of what arrived — unless the
application itself switched the session to Async after an overflow (`lateAsync`), which resumes callback delivery past the gap. -/
theorem T1_out_prefix (cfg : Cfg) (hg : cfg.Good) (steps : List Step) (hd : Disciplined cfg init steps) (sid : Nat)
    (hl : ((run cfg init steps).1.sess sid).lateAsync = false) :
    ∃ t, ((run cfg init steps).1.sess sid).arrived = ((run cfg init steps).1.sess sid).out ++ t :=
  (run_inv hg steps init Inv_init hd sid).out_prefix hl

/-- **T2 (drain before EOF).** Whenever a step answers `PeerClosed` for a session, the session's buffer was empty in the state
the answer was computed in, and afterwards everything accepted has been handed out — all arrived bytes if nothing was dropped. -/
theorem T2_drain_before_eof (cfg : Cfg) (hg : cfg.Good) (steps : List Step) (st : Step)
    (hd : Disciplined cfg init (steps ++ [st])) (sid : Nat)
    (hev : Ev.recvRet sid .peerClosed ∈ (step cfg (run cfg init steps).1 st).2) :
    let s := (run cfg init steps).1
    let x' := (step cfg s st).1.sess sid
    bufData (s.sess sid) = [] ∧ x'.out = x'.accepted ∧ (x'.gap = false → x'.out = x'.arrived) := by
  have hd' := (disciplined_append cfg steps [st] init).mp hd
  have ⟨h1, h2, h3, _⟩ := peerClosed_drained (run_inv hg steps init Inv_init hd'.1) hev
  exact ⟨h1, h2, h3⟩

/-- **T2 (no EOF after a gap).** Outside teardown a receive never answers `PeerClosed` for a session one of whose chunks was
dropped: the overflow is reported instead (sticky, checked before `closed`), so `PeerClosed` means ALL arrived bytes were handed
out. (The side condition `gap = false` of `T2_drain_before_eof` holds outside teardown.) -/
theorem T2_peerClosed_means_everything (cfg : Cfg) (hg : cfg.Good) (steps : List Step) (st : Step)
    (hd : Disciplined cfg init (steps ++ [st])) (sid : Nat)
    (hev : Ev.recvRet sid .peerClosed ∈ (step cfg (run cfg init steps).1 st).2)
    (hsh : (run cfg init steps).1.shuttingDown = false) :
    let x' := (step cfg (run cfg init steps).1 st).1.sess sid
    x'.gap = false ∧ x'.out = x'.arrived := by
  have hd' := (disciplined_append cfg steps [st] init).mp hd
  have ⟨_, _, h3, h4⟩ := peerClosed_drained (run_inv hg steps init Inv_init hd'.1) hev
  exact ⟨h4 hsh, h3 (h4 hsh)⟩

/-- **T3 (flush order).** In every reachable state in which a live session is in Async mode, nothing is buffered and no flusher
holds bytes: the Sync→Async (and Disabled→Async) switch handed every earlier byte to the callback before the mode became Async,
so every byte that arrives later is delivered after them (`out ++ pending = accepted`). -/
theorem T3_flush_order (cfg : Cfg) (hg : cfg.Good) (steps : List Step) (hd : Disciplined cfg init steps) (sid : Nat)
    (hm : effMode ((run cfg init steps).1.sess sid) = .async) (hl : ((run cfg init steps).1.sess sid).dead = false) :
    let s := (run cfg init steps).1
    let x := s.sess sid
    bufData x = [] ∧ inflight x = [] ∧ x.out ++ pd (pendO s sid) = x.accepted :=
  (run_inv hg steps init Inv_init hd sid).async_flushed hm hl

/-- **T4 (Disabled is silent).** A chunk that arrives while the session is Disabled changes no session, is not counted as
arrived, leaves nothing pending and produces no output. -/
theorem T4_disabled_silent (cfg : Cfg) (s : State) (sid : Nat) (chunk : Bytes) (hm : effMode (s.sess sid) = .disabled) :
    (step cfg s (.ioData sid chunk)).1.sess = s.sess ∧ (step cfg s (.ioData sid chunk)).2 = [] ∧
    (step cfg s (.ioData sid chunk)).1.ioPend = s.ioPend := by
  unfold step
  cases hp : s.ioPend with
  | some _ => simp [hp]
  | none =>
    have : ioDataS cfg s.shuttingDown (s.sess sid) chunk = (s.sess sid, .ignored) := by simp [ioDataS, hm]
    refine ⟨?_, rfl, ?_⟩
    · funext j; simp only [this, upd]; split <;> simp_all
    · simp [this]

/-- **T4 (a receive does not look at the mode).** In every reachable state a `receiveSync` entered on a session with buffered
bytes (no teardown, no other waiter, no flush) returns them — whatever the read mode, in particular `Disabled`: bytes buffered
before the switch to Disabled are still drained. -/
theorem T4_receive_ignores_mode (cfg : Cfg) (hg : cfg.Good) (steps : List Step) (hd : Disciplined cfg init steps) (sid len : Nat)
    (b : Buf) (hsh : (run cfg init steps).1.shuttingDown = false)
    (hb : ((run cfg init steps).1.sess sid).buf = some b) (hne : b.data ≠ [])
    (hp : ((run cfg init steps).1.sess sid).parked = none) (hf : ((run cfg init steps).1.sess sid).flush = none) :
    (step cfg (run cfg init steps).1 (.recvEnter sid len)).2 = [.recvRet sid (.ok (b.data.take (min len b.data.length)))] := by
  have hH := (run_inv hg steps init Inv_init hd sid).H
  rw [bufData_eq, bufOf_some hb] at hH
  rw [recvEnter_answers cfg _ sid len b hsh hb hp (by simp [flushing, hf]) (by simp [hH, hne]), drain_answer]; simp [hne]

/-- **T4 (Disabled → Async goes through the ordered flush).** `setReadMode(sid, Async)` on a Disabled session does not switch
the mode in its first critical section: it takes the flush path (the mode becomes Async only in a section that found the buffer
empty, `T3_flush_order`). (`ht`: the session has not been closed — a closed tombstone has no mode, `T8_close_forgets_mode`, and is
ignored, `T8_tombstone_gets_no_mode`.) -/
theorem T4_disabled_to_async_flushes (cfg : Cfg) (hal : cfg.allowSwitch = true) (s : State) (sid : Nat)
    (hm : effMode (s.sess sid) = .disabled) (ht : tomb (s.sess sid) = false) :
    (step cfg s (.setMode sid .async)).2 = [] ∧ ((step cfg s (.setMode sid .async)).1.sess sid).flush = some .begin ∧
      effMode ((step cfg s (.setMode sid .async)).1.sess sid) = .disabled := by
  have hfp : flushPath (s.sess sid) .async = true := by simp [flushPath, hm]
  have : setModeS cfg (s.sess sid) .async = ({ s.sess sid with flush := some .begin }, none) := by
    simp [setModeS, hal, hfp, ht]
  refine ⟨by simp [step, this, evMode], by simp [step, this], ?_⟩
  simp only [step, this, upd_same]
  simpa [effMode] using hm

/-- **T5 (overflow is sticky).** No step clears `overflow` while the buffer exists. -/
theorem T5_overflow_sticky (cfg : Cfg) (s : State) (st : Step) (sid : Nat) (b b' : Buf)
    (hb : (s.sess sid).buf = some b) (ho : b.overflow = true) (hb' : ((step cfg s st).1.sess sid).buf = some b') :
    b'.overflow = true :=
  bufOf_some hb' ▸ (step_eff cfg s st sid).sticky (by rwa [bufOf_some hb]) (by rw [hb']; rfl)

/-- **T5 (overflow is reported).** A receive entered on an overflowed, drained buffer answers `BufferOverflow` (before `PeerClosed`,
whatever else happened). -/
theorem T5_overflow_reported (cfg : Cfg) (s : State) (sid len : Nat) (b : Buf) (hsh : s.shuttingDown = false)
    (hb : (s.sess sid).buf = some b) (hd : b.data = []) (ho : b.overflow = true)
    (hp : (s.sess sid).parked = none) (hf : flushing (s.sess sid) = false) :
    (step cfg s (.recvEnter sid len)).2 = [.recvRet sid .overflow] := by
  rw [recvEnter_answers cfg s sid len b hsh hb hp hf (by simp [ho]), drain_answer]; simp [hd, ho]

/-- **T5 (no post-gap bytes; true of the repaired `onData` handler, F15).** In every disciplined run no chunk is ever appended
to a session's sync buffer after one of its chunks was dropped; hence (`T1_out_prefix`) a synchronous reader is only ever given
bytes that arrived before the gap, then `BufferOverflow`. -/
theorem T5_no_post_gap_bytes (cfg : Cfg) (hg : cfg.Good) (steps : List Step) (hd : Disciplined cfg init steps) (sid : Nat) :
    ((run cfg init steps).1.sess sid).lateSync = false :=
  (run_inv hg steps init Inv_init hd sid).L

/-- **T5 (a dropped chunk is never forgotten — tombstone GC included; FC03d repaired).** Every disciplined schedule, every session one of
whose chunks has been dropped (`gap`), outside teardown: EITHER a receive HAS answered `BufferOverflow` for the session (the event is in
the run), OR the overflowed buffer is still in the map — and then (`T5_overflow_reported`, `T5_overflow_wakes_parked`) the next receive
that finds it drained answers `BufferOverflow`, before `PeerClosed`. No hypothesis about the GC: the close handler's GC pass reclaims an
overflowed tombstone only after its overflow has been reported (`T5_gc_keeps_unreported_overflow`). The unrepaired gate reclaimed it as
soon as it was closed and drained: ok [1,2], then Timeout, and the dropped bytes were never reported (corpus/C03/FC03d-*.json). -/
theorem T5_gap_always_reported (cfg : Cfg) (hg : cfg.Good) (steps : List Step) (hd : Disciplined cfg init steps) (sid : Nat)
    (hgap : ((run cfg init steps).1.sess sid).gap = true) (hsh : (run cfg init steps).1.shuttingDown = false) :
    Ev.recvRet sid .overflow ∈ (run cfg init steps).2 ∨
      ∃ b, ((run cfg init steps).1.sess sid).buf = some b ∧ b.overflow = true :=
  ((run_inv hg steps init Inv_init hd sid).gap_reported hgap hsh).imp_left fun h =>
    (run_ovfSeen cfg sid steps init h).resolve_left fun k => nomatch k

/-- **T5 (the GC gate).** A buffer the close handler's GC pass may reclaim is closed, drained, unused — and NOT an overflowed buffer whose
overflow no receive has answered yet. -/
theorem T5_gc_keeps_unreported_overflow (y : Sess) (b : Buf) (hb : y.buf = some b) (hr : reclaimable y = true) :
    b.closed = true ∧ b.hasData = false ∧ (b.overflow = true → b.reported = true) := by
  unfold reclaimable at hr
  cases ho : b.overflow <;> simp_all

/-- **T6 (no lost wake-up).** In every reachable state, a parked receive whose wait predicate holds because of data, close or
overflow has been notified (it re-acquires the lock without waiting for its timeout). This uses the skeleton facts: each such
write is made under `syncMutex` and notified under the same lock. -/
theorem T6_no_lost_wakeup (cfg : Cfg) (hg : cfg.Good) (steps : List Step) (hd : Disciplined cfg init steps) (sid : Nat)
    (p : Parked) (b : Buf) (hp : ((run cfg init steps).1.sess sid).parked = some p)
    (hb : ((run cfg init steps).1.sess sid).buf = some b) (hpred : (b.hasData || b.closed || b.overflow) = true) :
    p.awake = true :=
  (run_inv hg steps init Inv_init hd sid).W p hp (by rwa [bufOf_some hb])

/-- **T5 (a parked receiver is woken by the overflow).** In every reachable state a parked receive whose buffer has overflowed has
been notified, and its wake-up answers the buffered bytes if there are any, else `BufferOverflow` — never a time-out. -/
theorem T5_overflow_wakes_parked (cfg : Cfg) (hg : cfg.Good) (steps : List Step) (hd : Disciplined cfg init steps) (sid : Nat)
    (p : Parked) (b : Buf) (hp : ((run cfg init steps).1.sess sid).parked = some p)
    (hb : ((run cfg init steps).1.sess sid).buf = some b) (ho : b.overflow = true) (t : Bool) :
    p.awake = true ∧
      (step cfg (run cfg init steps).1 (.recvWake sid t)).2 =
        [.recvRet sid (if b.data ≠ [] then .ok (b.data.take (min p.len b.data.length)) else .overflow)] := by
  refine ⟨T6_no_lost_wakeup cfg hg steps hd sid p b hp hb (by simp [ho]), ?_⟩
  rw [recvWake_answers cfg _ sid t p b hp hb (by simp [ho]), drain_answer]; simp [ho]

/-- **T7 (late receive).** If no tombstone GC pass has run, then in every reachable state a receive entered on a closed session
that has not yet reported EOF and whose buffer is drained (and not overflowed) answers `PeerClosed` in its entry critical
section — it never parks, so it cannot block until its timeout. -/
theorem T7_late_receive (cfg : Cfg) (steps : List Step) (sid len : Nat)
    (hgc : (run cfg init steps).1.gcRan = false) (hsh : (run cfg init steps).1.shuttingDown = false)
    (hdead : ((run cfg init steps).1.sess sid).dead = true) (heof : ((run cfg init steps).1.sess sid).eof = false)
    (hdr : ∀ b, ((run cfg init steps).1.sess sid).buf = some b → b.data = [] ∧ b.overflow = false)
    (hp : ((run cfg init steps).1.sess sid).parked = none) (hf : flushing ((run cfg init steps).1.sess sid) = false) :
    (step cfg (run cfg init steps).1 (.recvEnter sid len)).2 = [.recvRet sid .peerClosed] := by
  obtain ⟨b, hb, hc⟩ := closed_bufOf (run_tomb steps init Tomb_init hgc sid hdead heof)
  obtain ⟨hd, ho⟩ := hdr b hb
  rw [recvEnter_answers cfg _ sid len b hsh hb hp hf (by simp [hc]), drain_answer]; simp [hd, ho, hc]

/-! ### T8 — nothing is delivered for a session after its close -/

/-- **T8, one step.** A quiet session stays quiet and the step delivers nothing of it. -/
theorem T8_quiet_step (cfg : Cfg) (s : State) (sid : Nat) (hq : Quiet s sid) (st : Step) (hok : ok s st = true) :
    Quiet (step cfg s st).1 sid ∧ ∀ d, Ev.cbData sid d ∉ (step cfg s st).2 :=
  quiet_step hq st hok

/-- **T8 (a closed id gets no mode).** `setReadMode(sid, m)` — any `m` — on a session whose closed tombstone is still in the map is
vacuous: it answers (`true` when switching is allowed) in its first critical section, delivers nothing and changes NOTHING (FC02a,
repaired): no mode can be registered again for a dead id while its tail is buffered, so no later switch to Async can flush that tail
through the data callback. Any state, no hypothesis on the history. -/
theorem T8_tombstone_gets_no_mode (cfg : Cfg) (s : State) (sid : Nat) (m : Mode) (ht : tomb (s.sess sid) = true) :
    (step cfg s (.setMode sid m)).2 = [.modeRet sid cfg.allowSwitch] ∧ (step cfg s (.setMode sid m)).1.sess sid = s.sess sid := by
  have : setModeS cfg (s.sess sid) m = (s.sess sid, some cfg.allowSwitch) := by
    unfold setModeS; cases cfg.allowSwitch <;> simp [ht]
  simp [step, this, evMode]

/-- **T8 (the close forgets the mode).** Once the I/O thread has processed the close of a session on which no flush is in progress,
the session is `Quiet` — and precisely: a closed tombstone, no flush, NO `readModes` entry whatever was buffered (the `onClose`
handler erases the entry UNCONDITIONALLY: `skeleton_pinned`), nothing pending for the callback. -/
theorem T8_close_forgets_mode (cfg : Cfg) (steps : List Step) (sid : Nat)
    (hd : Disciplined cfg init (steps ++ [.ioClose sid]))
    (hf : ((run cfg init steps).1.sess sid).flush = none) :
    Quiet (run cfg init (steps ++ [.ioClose sid])).1 sid ∧
    ((run cfg init (steps ++ [.ioClose sid])).1.sess sid).mode = none ∧
    tomb ((run cfg init (steps ++ [.ioClose sid])).1.sess sid) = true := by
  have hd' := (disciplined_append cfg steps [.ioClose sid] init).mp hd
  rw [run_append, run_cons, run_nil]
  exact ioClose_quiet hd'.2.1 hf

/-- **T8 (nothing is delivered after the close).** Every disciplined schedule: after the close of `sid` has been processed — no flush
of that session being in progress at that moment — NO later step hands bytes of `sid` to the data callback, WHATEVER mode switches
follow, those of the dead id to Sync/Disabled and back to Async included (`setReadMode` ignores a closed tombstone; once the tombstone is
gone — EOF reported or GC — a buffer created again for the id stays empty because nothing arrives for a dead id): the buffered tail stays
retrievable through `receiveSync` only (T2/T7). The hypothesis is necessary: see the example below. -/
theorem T8_nothing_delivered_after_close (cfg : Cfg) (pre post : List Step) (sid : Nat)
    (hd : Disciplined cfg init ((pre ++ [.ioClose sid]) ++ post))
    (hf : ((run cfg init pre).1.sess sid).flush = none) :
    ∀ d, Ev.cbData sid d ∉ (run cfg (run cfg init (pre ++ [.ioClose sid])).1 post).2 := by
  have hd' := (disciplined_append cfg (pre ++ [.ioClose sid]) post init).mp hd
  exact quiet_run post _ (T8_close_forgets_mode cfg pre sid hd'.1 hf).1 hd'.2

/-! ### T8 measured from the close CALLBACK (FC03c, repaired: the handler marks the session closed BEFORE it invokes the callbacks) -/

/-- **T8 (the close callback is invoked by the handler only, after the mark).** `Ev.closeCb sid` — the invocation of the global close
callback and the session's observers — is emitted by exactly one kind of step, `ioCloseCb sid`, and only while the close handler is
past the `syncMutex` section that marked `sid` closed, erased its read mode and left the tombstone (`closePend`, set by `ioClose sid`
alone). Any state, any step. -/
theorem T8_cb_after_mark (cfg : Cfg) (s : State) (st : Step) (sid : Nat) (hev : Ev.closeCb sid ∈ (step cfg s st).2) :
    st = .ioCloseCb sid ∧ s.closePend = some sid :=
  closeCb_emitted hev

/-- **T8 (between the mark and the callback the session is already quiet).** In every reachable state in which the close handler has
marked `sid` closed and not yet invoked its callbacks (no flush of `sid` having been in progress at the mark: `ioClose_mark`), `sid` is
`Quiet`: there is NO window before the callback in which a mode switch could still flush (the window FC03c closed). -/
theorem T8_cb_no_window (cfg : Cfg) (steps : List Step) (hd : Disciplined cfg init steps) (sid : Nat)
    (hp : (run cfg init steps).1.closePend = some sid) (hg : (run cfg init steps).1.closeGrace = false) :
    Quiet (run cfg init steps).1 sid :=
  run_markedQuiet steps init MarkedQuiet_init hd sid hp hg

/-- **T8 (nothing is delivered after the close CALLBACK).** Every disciplined schedule, every step `st` that invokes the close callback
of `sid`: neither that step nor ANY later step hands bytes of `sid` to the data callback — whatever the application does from inside
the callback, from an observer, or on any thread that synchronises with them (mode switches of the id included) — unless a
`setReadMode(sid, Async)` flush was ALREADY in progress when the close was processed (`closeGrace`; necessary, see the example below).
This is the statement an application can observe: it is keyed on the callback, not on the handler's internal section. -/
theorem T8_cb_nothing_delivered_after_close_callback (cfg : Cfg) (pre post : List Step) (st : Step) (sid : Nat)
    (hd : Disciplined cfg init (pre ++ st :: post))
    (hev : Ev.closeCb sid ∈ (step cfg (run cfg init pre).1 st).2)
    (hg : (run cfg init pre).1.closeGrace = false) :
    ∀ d, Ev.cbData sid d ∉ (run cfg (run cfg init pre).1 (st :: post)).2 := by
  have hd' := (disciplined_append cfg pre (st :: post) init).mp hd
  have hk := run_markedQuiet pre init MarkedQuiet_init hd'.1
  obtain ⟨_, hp⟩ := closeCb_emitted hev
  exact quiet_run (st :: post) _ (hk sid hp hg) hd'.2

/-! ### `receiveSyncCancellable` (Model/SyncRecvW.lean) -/

/-- **W0 (a wrapper execution is a core execution).** The core steps of a wrapper execution are its `.base` steps: the core state
and the core events of the wrapper run are those of the core run over them, and a disciplined wrapper run is a disciplined core
run. Hence T1–T7 hold of every execution that uses `receiveSyncCancellable`. -/
theorem W0_wrapper_is_core (cfg : Cfg) (wsteps : List WStep) :
    (wrun cfg winit wsteps).1.core = (run cfg init (coreSteps wsteps)).1 ∧
      coreEvs (wrun cfg winit wsteps).2 = (run cfg init (coreSteps wsteps)).2 ∧
      (DisciplinedW cfg winit wsteps → Disciplined cfg init (coreSteps wsteps)) :=
  wrun_core cfg wsteps winit

/-- **W1 (consumed bytes are returned).** Whatever a critical section of the wrapper's sub-call answers other than `Timeout` — in
particular `ok bytes`, the only answer that takes bytes out of the buffer — is returned by the wrapper in the same step, and the
wrapper call is over. -/
theorem W1_subcall_result_is_returned (cfg : Cfg) (ws : WState) (st : Step) (sid : Nat) (c : WCall) (r : RecvRes)
    (hw : ws.w sid = some c)
    (hact : (∃ len, st = .recvEnter sid len ∧ c.phase = .entering) ∨ (∃ t, st = .recvWake sid t ∧ c.phase = .inCall))
    (hev : Ev.recvRet sid r ∈ (step cfg ws.core st).2) (hr : r ≠ .timeout) :
    WEv.wrapRet sid r ∈ (wstep cfg ws (.base st)).2 ∧ (wstep cfg ws (.base st)).1.w sid = none := by
  refine subcall_returned ?_ hev hr
  rcases hact with ⟨len, rfl, hph⟩ | ⟨t, rfl, hph⟩ <;> simp [subActive, hw, hph]

/-- **W1 (the wrapper invents nothing).** A wrapper return `ok bytes` is the result of a sub-call made in the same step (so is every
return other than the wrapper's own `Timeout`/`Cancelled`: the first case of `wrapRet_emitted`). -/
theorem W1_return_is_subcall_result (cfg : Cfg) (ws : WState) (st : WStep) (sid : Nat) (bs : Bytes)
    (hev : WEv.wrapRet sid (.ok bs) ∈ (wstep cfg ws st).2) :
    WEv.base (.recvRet sid (.ok bs)) ∈ (wstep cfg ws st).2 := by
  rcases wrapRet_emitted hev with h | h | h
  · exact h.2
  · cases h.1
  · cases h.1

/-- **W1 (a timed-out sub-call consumes nothing).** A core step that answers `Timeout` for a session leaves the session's buffer
and its handed-out bytes untouched: looping over `Timeout` results loses and duplicates nothing. -/
theorem W1_timeout_consumes_nothing (cfg : Cfg) (s : State) (st : Step) (sid : Nat)
    (hev : Ev.recvRet sid .timeout ∈ (step cfg s st).2) :
    ((step cfg s st).1.sess sid).buf = (s.sess sid).buf ∧ ((step cfg s st).1.sess sid).out = (s.sess sid).out := by
  rw [(step_eff cfg s st sid).timeout hev]; exact ⟨rfl, rfl⟩

/-- **W2.** The wrapper answers `Cancelled` on its own account only if the token was cancelled; if a sub-call answers `Cancelled`
(single-waiter contract) that is passed through by W1. -/
theorem W2_cancelled_only_if_cancelled (cfg : Cfg) (ws : WState) (st : WStep) (sid : Nat)
    (hev : WEv.wrapRet sid .cancelled ∈ (wstep cfg ws st).2) :
    ws.tok sid = true ∨ WEv.base (.recvRet sid .cancelled) ∈ (wstep cfg ws st).2 := by
  rcases wrapRet_emitted hev with h | h | h
  · exact .inr h.2
  · exact .inl h.2
  · cases h.1

/-- entered with a cancelled token the wrapper returns `Cancelled` without touching the core -/
theorem W2_precancelled (cfg : Cfg) (ws : WState) (sid len : Nat) (hw : ws.w sid = none) (ht : ws.tok sid = true) :
    wstep cfg ws (.wCall sid len) = (ws, [.wrapRet sid .cancelled]) := by
  simp [wstep, hw, ht]

/-- **W3 (a sub-call's `Timeout` is never the wrapper's answer).** The wrapper answers `Timeout` only at a loop head that found the
deadline passed; a sub-call that timed out sends it back to the loop head (`W1_timeout_consumes_nothing`: with nothing consumed). -/
theorem W3_timeout_only_at_deadline (cfg : Cfg) (ws : WState) (st : WStep) (sid : Nat)
    (hev : WEv.wrapRet sid .timeout ∈ (wstep cfg ws st).2) : st = .wLoop sid true := by
  rcases wrapRet_emitted hev with h | h | h
  · exact absurd rfl h.1
  · cases h.1
  · exact h.2

/-- **W4 (the callers' stream is the core stream).** Over ANY wrapper execution — any number of `receiveSyncCancellable` calls (each
any number of sub-calls), plain `receiveSync` calls, data-callback deliveries, cancels and token RESETS in between, disciplined or not —
the bytes the application is handed for a session (wrapper returns, plain receive returns, callback deliveries; a sub-call's own
result is internal to the wrapper) are exactly the session's `out` of the underlying core run: a wrapper call never swallows bytes a
sub-call took out of the buffer (whatever its token says at that moment) and never invents any. -/
theorem W4_callers_stream_is_core_stream (cfg : Cfg) (wsteps : List WStep) (sid : Nat) :
    wrunUser sid cfg winit wsteps = ((run cfg init (coreSteps wsteps)).1.sess sid).out := by
  rw [wrunUser_eq, (W0_wrapper_is_core cfg wsteps).2.1, ← T1_out_is_events]

/-- **W4 (wrapper-level stream).** Every disciplined wrapper execution, every session: what the callers have been handed, then what a
flusher holds, then the buffer, then the chunk pending for the callback, is exactly what was accepted, in arrival order — nothing
skipped, nothing twice — and all that arrived when nothing was dropped; and it is a PREFIX of what arrived (unless the application
switched to Async after an overflow). -/
theorem W4_wrapper_stream (cfg : Cfg) (hg : cfg.Good) (wsteps : List WStep) (hd : DisciplinedW cfg winit wsteps) (sid : Nat) :
    let s := (wrun cfg winit wsteps).1.core
    let x := s.sess sid
    wrunUser sid cfg winit wsteps ++ inflight x ++ bufData x ++ pd (pendO s sid) = x.accepted ∧
      (x.gap = false → x.accepted = x.arrived) ∧
      (x.lateAsync = false → ∃ t, x.arrived = wrunUser sid cfg winit wsteps ++ t) := by
  obtain ⟨h1, _, h3⟩ := W0_wrapper_is_core cfg wsteps
  have hdc := h3 hd
  simp only [h1, W4_callers_stream_is_core_stream]
  exact ⟨(T1_stream cfg hg _ hdc sid).1, (T1_stream cfg hg _ hdc sid).2, fun hl => T1_out_prefix cfg hg _ hdc sid hl⟩

/-- **W5 (token reset).** `CancellationToken::reset()` between two calls (never during one: `okW`) re-arms the token: the next wrapper
call is admitted (it does not answer `Cancelled` at entry), and a reset changes nothing else — no core state, no running call. -/
theorem W5_reset_rearms (cfg : Cfg) (ws : WState) (sid len : Nat) (hw : ws.w sid = none) :
    (wstep cfg ws (.reset sid)).1.core = ws.core ∧ (wstep cfg ws (.reset sid)).1.w = ws.w ∧ (wstep cfg ws (.reset sid)).2 = [] ∧
    (wstep cfg (wstep cfg ws (.reset sid)).1 (.wCall sid len)).2 = [] ∧
    (wstep cfg (wstep cfg ws (.reset sid)).1 (.wCall sid len)).1.w sid = some { len := len, phase := .idle } := by
  simp [wstep, hw, setW]

/-! ### non-vacuity: concrete runs exercising the hypotheses (`cfg10` is `Good` by the defaults of the notify flags) -/

def cfg10 : Cfg := { maxBuf := 10, gcThreshold := 1024 }

/-- the F15 history (cap 10: `AAAAAAAA`, `BBBBB`, `CC`, receive, receive) is disciplined; the repaired model returns the eight
bytes that arrived before the gap, then BufferOverflow -/
example : disciplinedB cfg10 init
    [.setMode 7 .sync, .ioData 7 [65,65,65,65,65,65,65,65], .ioData 7 [66,66,66,66,66], .ioData 7 [67,67],
     .recvEnter 7 32, .recvEnter 7 32] = true := by decide
example : (run cfg10 init
    [.setMode 7 .sync, .ioData 7 [65,65,65,65,65,65,65,65], .ioData 7 [66,66,66,66,66], .ioData 7 [67,67],
     .recvEnter 7 32, .recvEnter 7 32]).2 =
    [.modeRet 7 true, .recvRet 7 (.ok [65,65,65,65,65,65,65,65]), .recvRet 7 .overflow] := by decide
/-- a parked receive woken by data, a mid-flush arrival, then close and the tombstone answer -/
example : disciplinedB cfg10 init
    [.setMode 1 .sync, .recvEnter 1 2, .ioData 1 [1,2,3], .recvWake 1 false, .setMode 1 .async, .flushStep 1, .flushStep 1,
     .ioData 1 [4], .flushStep 1, .flushStep 1, .flushStep 1, .flushStep 1, .flushStep 1, .ioData 1 [5], .ioDeliver,
     .ioClose 1, .recvEnter 1 9] = true := by decide
example : (run cfg10 init
    [.setMode 1 .sync, .recvEnter 1 2, .ioData 1 [1,2,3], .recvWake 1 false, .setMode 1 .async, .flushStep 1, .flushStep 1,
     .ioData 1 [4], .flushStep 1, .flushStep 1, .flushStep 1, .flushStep 1, .flushStep 1, .ioData 1 [5], .ioDeliver,
     .ioClose 1, .recvEnter 1 9]).2 =
    [.modeRet 1 true, .recvRet 1 (.ok [1,2]), .cbData 1 [3], .cbData 1 [4], .modeRet 1 true, .cbData 1 [5],
     .recvRet 1 .peerClosed] := by decide

/-- zero-length chunks are legal arrivals (FC03a): on an empty buffer the receive keeps waiting (no bogus ShuttingDown); behind
buffered bytes nothing is hidden — the bytes are returned, then EOF -/
example : disciplinedB cfg10 init [.setMode 1 .sync, .ioData 1 [], .recvEnter 1 4] = true ∧
    (run cfg10 init [.setMode 1 .sync, .ioData 1 [], .recvEnter 1 4]).2 = [.modeRet 1 true] := by decide
example : disciplinedB cfg10 init [.setMode 1 .sync, .ioData 1 [65, 65, 65, 65], .ioData 1 [], .ioClose 1, .recvEnter 1 8, .recvEnter 1 8] = true ∧
    (run cfg10 init [.setMode 1 .sync, .ioData 1 [65, 65, 65, 65], .ioData 1 [], .ioClose 1, .recvEnter 1 8, .recvEnter 1 8]).2 =
      [.modeRet 1 true, .recvRet 1 (.ok [65, 65, 65, 65]), .recvRet 1 .peerClosed] := by decide

/-- T8: Sync, two bytes buffered, close, then `setReadMode(Async)`: vacuous on the closed id (FC02a), NOTHING goes to the callback, the
tail is returned by the late receive, then EOF -/
example : (run cfg10 init [.setMode 1 .sync, .ioData 1 [7, 8], .ioClose 1, .setMode 1 .async, .flushStep 1, .recvEnter 1 9, .recvEnter 1 9]).2 =
    [.modeRet 1 true, .modeRet 1 true, .recvRet 1 (.ok [7, 8]), .recvRet 1 .peerClosed] := by decide
/-- T8's hypothesis is necessary: a flush in progress when the close is processed goes on delivering (two threads race; the bytes were
the application's to flush before the close). It is what the code does and it is not excluded by `Disciplined`. -/
example : disciplinedB cfg10 init [.setMode 1 .sync, .ioData 1 [7, 8], .setMode 1 .async, .flushStep 1, .ioClose 1, .flushStep 1, .flushStep 1] = true ∧
    (run cfg10 init [.setMode 1 .sync, .ioData 1 [7, 8], .setMode 1 .async, .flushStep 1, .ioClose 1, .flushStep 1, .flushStep 1]).2 =
      [.modeRet 1 true, .cbData 1 [7, 8]] := by decide
/-- FC02a (repaired): an application that puts the DEAD id back into Sync mode and then asks for Async gets two vacuous answers and nothing
through the callback (no mode is registered: the state is unchanged); the tail is still there for `receiveSync`. (The unrepaired
`setReadMode` registered Sync again and the second call flushed `[7, 8]` through the data callback after the close callback:
corpus/C03/FC02a-*.json.) After EOF has been reported the id is an unknown id again: the switches succeed and the flush finds nothing. -/
example : disciplinedB cfg10 init [.setMode 1 .sync, .ioData 1 [7, 8], .ioClose 1, .setMode 1 .sync, .setMode 1 .async, .flushStep 1, .recvEnter 1 9] = true ∧
    (run cfg10 init [.setMode 1 .sync, .ioData 1 [7, 8], .ioClose 1, .setMode 1 .sync, .setMode 1 .async, .flushStep 1, .recvEnter 1 9]).2 =
      [.modeRet 1 true, .modeRet 1 true, .modeRet 1 true, .recvRet 1 (.ok [7, 8])] := by decide
example : (run cfg10 init [.setMode 1 .sync, .ioData 1 [7, 8], .ioClose 1, .recvEnter 1 9, .recvEnter 1 9, .setMode 1 .sync, .setMode 1 .async,
      .flushStep 1, .flushStep 1, .flushStep 1]).2 =
    [.modeRet 1 true, .recvRet 1 (.ok [7, 8]), .recvRet 1 .peerClosed, .modeRet 1 true, .modeRet 1 true] := by decide

/-- the wrapper: a sub-call times out, the next one returns the bytes that arrived meanwhile; a cancel between the loop head and
the sub-call's lock is seen only by the next loop head -/
example : (wrun cfg10 winit
    [.base (.setMode 1 .sync), .wCall 1 4, .wLoop 1 false, .base (.recvEnter 1 4), .base (.recvWake 1 true), .wLoop 1 false,
     .base (.recvEnter 1 4), .base (.ioData 1 [7, 8]), .base (.recvWake 1 false)]).2 =
    [.base (.modeRet 1 true), .base (.recvRet 1 .timeout), .base (.recvRet 1 (.ok [7, 8])), .wrapRet 1 (.ok [7, 8])] := by decide
example : (wrun cfg10 winit
    [.base (.setMode 1 .sync), .wCall 1 4, .wLoop 1 false, .cancel 1, .base (.recvEnter 1 4), .base (.recvWake 1 true),
     .wLoop 1 false]).2 =
    [.base (.modeRet 1 true), .base (.recvRet 1 .timeout), .wrapRet 1 .cancelled] := by decide

/-- T8 from the callback (FC03c): the handler marks the session (`ioClose`), THEN invokes the callbacks (`ioCloseCb`); a
`setReadMode(Async)` made by a thread that learnt about the close from the callback is vacuous, the tail goes to `receiveSync` -/
example : disciplinedB cfg10 init [.setMode 1 .sync, .ioData 1 [7, 8], .ioClose 1, .ioCloseCb 1, .setMode 1 .async, .flushStep 1, .recvEnter 1 9] = true ∧
    (run cfg10 init [.setMode 1 .sync, .ioData 1 [7, 8], .ioClose 1, .ioCloseCb 1, .setMode 1 .async, .flushStep 1, .recvEnter 1 9]).2 =
      [.modeRet 1 true, .closeCb 1, .modeRet 1 true, .recvRet 1 (.ok [7, 8])] ∧
    (run cfg10 init [.setMode 1 .sync, .ioData 1 [7, 8], .ioClose 1]).1.closeGrace = false := by decide
/-- the same switch made in the window BETWEEN the mark and the callback is vacuous as well -/
example : (run cfg10 init [.setMode 1 .sync, .ioData 1 [7, 8], .ioClose 1, .setMode 1 .async, .flushStep 1, .ioCloseCb 1, .flushStep 1]).2 =
      [.modeRet 1 true, .modeRet 1 true, .closeCb 1] := by decide
/-- `closeGrace` is necessary: a flush already in progress when the close is processed delivers what it took AFTER the close callback -/
example : disciplinedB cfg10 init [.setMode 1 .sync, .ioData 1 [7, 8], .setMode 1 .async, .flushStep 1, .flushStep 1, .ioClose 1, .ioCloseCb 1, .flushStep 1] = true ∧
    (run cfg10 init [.setMode 1 .sync, .ioData 1 [7, 8], .setMode 1 .async, .flushStep 1, .flushStep 1, .ioClose 1, .ioCloseCb 1, .flushStep 1]).2 =
      [.modeRet 1 true, .closeCb 1, .cbData 1 [7, 8]] ∧
    (run cfg10 init [.setMode 1 .sync, .ioData 1 [7, 8], .setMode 1 .async, .flushStep 1, .flushStep 1, .ioClose 1]).1.closeGrace = true := by decide
/-- the close callback is invoked once per close, and only after the mark -/
example : (run cfg10 init [.ioCloseCb 1, .ioClose 1, .ioCloseCb 1, .ioCloseCb 1]).2 = [.closeCb 1] := by decide

/-- W4/W5: a cancelled call, a token reset, then a second call that reads PAST the point where the first one stopped: the callers'
stream is the arrival stream (the C03-d window: a cancel landing in the same sub-interval as the data does not lose the bytes) -/
example : (wrun cfg10 winit
    [.base (.setMode 1 .sync), .wCall 1 4, .wLoop 1 false, .base (.recvEnter 1 4), .cancel 1, .base (.ioData 1 [7, 8]), .base (.recvWake 1 false),
     .wCall 1 4, .reset 1, .base (.ioData 1 [9]), .wCall 1 4, .wLoop 1 false, .base (.recvEnter 1 4)]).2 =
    [.base (.modeRet 1 true), .base (.recvRet 1 (.ok [7, 8])), .wrapRet 1 (.ok [7, 8]), .wrapRet 1 .cancelled,
     .base (.recvRet 1 (.ok [9])), .wrapRet 1 (.ok [9])] ∧
    wrunUser 1 cfg10 winit
    [.base (.setMode 1 .sync), .wCall 1 4, .wLoop 1 false, .base (.recvEnter 1 4), .cancel 1, .base (.ioData 1 [7, 8]), .base (.recvWake 1 false),
     .wCall 1 4, .reset 1, .base (.ioData 1 [9]), .wCall 1 4, .wLoop 1 false, .base (.recvEnter 1 4)] = [7, 8, 9] := by decide

/-- T5 under the tombstone GC (FC03d): cap 3, GC threshold 0. `[1,2]` read, `[3,4,5,6]` dropped, the session closes, ANOTHER session's close
runs a GC pass: the overflowed tombstone is kept, the late receive answers BufferOverflow (the unrepaired gate reclaimed it: Timeout);
once reported, the next GC pass reclaims it -/
example : disciplinedB { maxBuf := 3, gcThreshold := 0 } init
    [.setMode 1 .sync, .ioData 1 [1, 2], .recvEnter 1 9, .ioData 1 [3, 4, 5, 6], .ioClose 1, .ioClose 2, .recvEnter 1 9, .ioClose 3] = true ∧
    (run { maxBuf := 3, gcThreshold := 0 } init
      [.setMode 1 .sync, .ioData 1 [1, 2], .recvEnter 1 9, .ioData 1 [3, 4, 5, 6], .ioClose 1, .ioClose 2, .recvEnter 1 9]).2 =
      [.modeRet 1 true, .recvRet 1 (.ok [1, 2]), .recvRet 1 .overflow] ∧
    ((run { maxBuf := 3, gcThreshold := 0 } init
      [.setMode 1 .sync, .ioData 1 [1, 2], .recvEnter 1 9, .ioData 1 [3, 4, 5, 6], .ioClose 1, .ioClose 2]).1.sess 1).buf.isSome = true ∧
    ((run { maxBuf := 3, gcThreshold := 0 } init
      [.setMode 1 .sync, .ioData 1 [1, 2], .recvEnter 1 9, .ioData 1 [3, 4, 5, 6], .ioClose 1, .ioClose 2, .recvEnter 1 9, .ioClose 3]).1.sess 1).buf.isSome = false := by
  decide

end Iora.C03
