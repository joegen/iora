import IoraModel.Lemmas.AssetsHistory
/-!
# C20 — Static asset and template lookup never escapes its root directory  (partial: see *Partial by nature* below)

The property theorems; most are read off lemmas in `Lemmas/Assets*.lean`, the model in `Model/Assets.lean`, constants and call orders
in the regenerated `Gen/Assets.lean`.

*Partial by nature.*  `walk`/`kwalk` (kernel path resolution), `status`, `canonical` (= `realpath`), `weaklyCanonical`,
`lexicallyNormal`, `lexRelFirst` (libstdc++) and `readFile`'s `open(O_NOFOLLOW)` are MODEL functions over the file-system model
`Fs`.  Everything below is proved about these model functions for EVERY `Fs`, name and history; that they behave like the real
libstdc++/glibc/Linux ones is what the correspondence harness checks on generated directory trees.

*Concurrency of the environment.*  One lookup issues several path-taking system calls; the model gives each of them its own
file-system snapshot (`Snaps`: `status(candidate)`, `realpath(candidate)`, `is_regular_file(resolved)`, `open(resolved)`,
`is_regular_file(resolved.gz)`, `open(resolved.gz)`).  NOT split further (assumed atomic, stated here once): the prefix loop +
`realpath(prefix)` that `weakly_canonical` runs when the candidate does NOT exist, and the inside of one `realpath`/`open`.
What the environment may do between the snapshots is `LeafOnly` (A4); what it must not do — make a NEW intermediate symbolic
link appear — is shown to break containment by the witness `A4_residual_intermediate_link` (the code documents this residual:
"intermediate-component swaps would need openat() chains").
-/
namespace Iora.C20
open Iora Iora.Assets

/-! ## A small concrete world for the non-vacuity examples
`/s` is the static root; `/s/a` holds `[7]`; `/o/x` holds `[9]` (the secret, outside); `/s/l -> /o/x` (escaping link);
`/s/in -> a` (inside link). -/
def exFs : Fs := { entries := [([[115]], .dir), ([[97], [115]], .file [7]), ([[111]], .dir), ([[120], [111]], .file [9]),
                               ([[108], [115]], .link [47, 111, 47, 120]), ([[105], [115]], .link [97])] }
def exSt : FsState := { root := [47], templatesRoot := [47, 116], staticsRoot := [47, 115], perRequest := false }
/-- the same world after the environment rewrote `/s/a` to `[8]` -/
def exFs2 : Fs := exFs.set [[97], [115]] (.file [8])
/-- the same world after the leaf `/s/a` was replaced by a link to the secret -/
def exSwap : Fs := exFs.set [[97], [115]] (.link [47, 111, 47, 120])
theorem exRoot : RootOK exSt.staticsRoot [[115]] :=
  RootOK.single ⟨⟨⟨by decide, by decide⟩, by decide, by decide⟩, by decide⟩

/-! ## A1 — the lexical filter -/

/-- **A1.** For ALL byte strings: a name passes `lexicallyRejected` iff it does not start with `/`, contains no NUL byte,
no backslash, and none of its `/`-separated segments is `..` (the empty name passes). -/
theorem A1_lexical_filter (p : Bytes) :
    lexicallyRejected p = false ↔
      (p.head? ≠ some 47 ∧ (0 : UInt8) ∉ p ∧ (92 : UInt8) ∉ p ∧ dotdot ∉ splitSlash p) :=
  lexicallyRejected_iff p

/-- `splitSlash` is THE decomposition into `/`-separated segments: joining gives the string back, and the split of a join of
slash-free segments is that list of segments. -/
theorem A1_segments (p : Bytes) (segs : List Bytes) (hne : segs ≠ []) (h : ∀ s ∈ segs, SLASH ∉ s) :
    joinSlash (splitSlash p) = p ∧ splitSlash (joinSlash segs) = segs :=
  ⟨joinSlash_splitSlash p, splitSlash_joinSlash segs hne h⟩

/-- `a/../b` is refused, `a/..b/c` passes, `a\b` is refused, `%2e%2e/x` passes (the filter never decodes) -/
example : lexicallyRejected [97, 47, 46, 46, 47, 98] = true ∧ lexicallyRejected [97, 47, 46, 46, 98, 47, 99] = false ∧
    lexicallyRejected [97, 92, 98] = true ∧ lexicallyRejected [37, 50, 101, 37, 50, 101, 47, 120] = false := by decide +kernel

/-! ## A2 — component-wise containment -/

/-- **A2.** On canonical absolute paths (`/n1/…/nk`, ordinary names) `isContained base target` holds exactly when the names of
`base` are a prefix of the names of `target` — component-wise, so `/r/static2` is NOT inside `/r/static`. -/
theorem A2_containment (bn tn : List Name) (hb : ∀ n ∈ bn, Plain n) (ht : ∀ n ∈ tn, Plain n) :
    isContained (renderAbs bn) (renderAbs tn) = true ↔ bn <+: tn :=
  isContained_canonical bn tn hb ht

/-- the `rel == "."` corner, exactly as the code computes it: the root itself counts as contained (it is not a regular file
and is refused by the later `is_regular_file` test — `Inside` below is strict) -/
theorem A2_root_itself (bn : List Name) (hb : ∀ n ∈ bn, Plain n) : isContained (renderAbs bn) (renderAbs bn) = true :=
  (isContained_canonical bn bn hb hb).mpr (List.prefix_refl bn)

/-- `/r/static2/a` is not inside `/r/static`; `/r/static/a` is -/
example : isContained [47, 114, 47, 115, 116, 97, 116, 105, 99] [47, 114, 47, 115, 116, 97, 116, 105, 99, 50, 47, 97] = false ∧
    isContained [47, 114, 47, 115, 116, 97, 116, 105, 99] [47, 114, 47, 115, 116, 97, 116, 105, 99, 47, 97] = true := by decide +kernel

/-! ## The platform lemmas the containment argument rests on -/

/-- **`weakly_canonical` of a non-existing path never names a regular file** (in the same file system, absolute NUL-free path
without `..`): its "existing prefix made canonical + remaining names kept lexically" result cannot be opened as a file, so a
lookup only ever opens names that `realpath` produced.  `WcMissingNoFile` unfolds to: `isAbs p → 0 ∉ p → dotdot ∉ comps p →
status fs p = .notFound → weaklyCanonical fs p = .ok r → ∀ fol, NoFile (kwalk fs fol r)`. -/
theorem WC_missing_is_no_file : WcMissingNoFile := wcMissingNoFile

/-- **The leaf lemma**: `readFile` (`open(O_RDONLY|O_NOFOLLOW|O_CLOEXEC)` + read; the flags come from the source) on the canonical
name of a location whose parent is a real directory returns bytes only if that very location holds a regular file with these
bytes — never through a link, whatever else the file system contains. -/
theorem A4_open_nofollow (fs : Fs) (L : Loc) (d : Bytes) (hL : LocOK L) (hpar : fs.get L.tail = some .dir)
    (h : readFile fs (renderLoc L) = some d) : fs.get L = some (.file d) :=
  readFile_at_loc fs L d hL hpar h

/-- **The model of the path-taking system calls is total**: the fuel that makes the walk structurally recursive is always enough
(at most `SYMLOOP` links are followed and every link adds at most `maxTarget` names), so "out of fuel" is never an answer. -/
theorem Model_walk_total (fs : Fs) (fol : Bool) (p : Bytes) : kwalk fs fol p ≠ .error .EFUEL := by
  unfold kwalk
  simp only
  split
  · simp
  split
  · simp
  · exact walk_enough_fuel fs _ _ _ _ _ _ (walkFuel_enough fs _)

/-! ## A0 — the configured roots -/

/-- **A0.** Whatever `fromDirectory` returns — root given absolute or relative to a sane working directory, with or without
trailing slash, through links, `static`/`templates` present, missing, a file, a link, a loop — has canonical absolute roots
(`/n1/…/nk` with ordinary NUL-free names) and empty caches: the hypotheses `RootOK` of A3/A4 are what the constructor delivers. -/
theorem A0_fromDirectory (fs : Fs) (root : Bytes) (per : Bool) (st : FsState) (hcwd : LocOK fs.cwd)
    (h : fromDirectory fs root per = some st) :
    ∃ bnS bnT, RootOK st.staticsRoot bnS ∧ RootOK st.templatesRoot bnT ∧ st.staticCache = [] ∧ st.templateCache = [] := by
  unfold fromDirectory at h
  split at h
  · cases h
  rename_i cr hcan
  split at h
  · cases h
  injection h with h
  obtain ⟨L, e, hk, hcr⟩ := canonical_ok fs root cr hcan
  have hL := kwalk_locOK fs true root L e hcwd hk
  subst hcr
  have hS : Plain Gen.Assets.staticsSub ∧ (0 : UInt8) ∉ Gen.Assets.staticsSub :=
    ⟨⟨⟨by decide, by decide⟩, by decide, by decide⟩, by decide⟩
  have hT : Plain Gen.Assets.templatesSub ∧ (0 : UInt8) ∉ Gen.Assets.templatesSub :=
    ⟨⟨⟨by decide, by decide⟩, by decide, by decide⟩, by decide⟩
  obtain ⟨bnS, hbS⟩ := subroot_ok fs L hL _ hS
  obtain ⟨bnT, hbT⟩ := subroot_ok fs L hL _ hT
  subst h
  exact ⟨bnS, bnT, hbS, hbT, rfl, rfl⟩

/-- non-vacuity: in `exFs` the constructor succeeds for the root `/` -/
example : (fromDirectory exFs [47] false).isSome = true := by decide +kernel

/-! ## A3 — containment, one lookup, file system at rest: the bytes of THE NAMED file -/

/-- the blob is the content of the regular file the request names (`realpath(<root>/<name>)`), which lies strictly inside the root;
its gzip bytes are the content of the regular file `<that file>.gz` next to it -/
def NamedFile (fs : Fs) (root : Bytes) (bn : List Name) (name : Bytes) (b : Blob) : Prop :=
  ∃ last up, kwalk fs true (pathAppend root name) = .ok (last :: up, .file b.bytes) ∧
    bn <+: (last :: up).reverse ∧ (last :: up).reverse ≠ bn ∧
    ∀ g, b.gz = some g → fs.get ((last ++ Gen.Assets.gzSuffix) :: up) = some (.file g)

theorem NamedFile.inside {fs root bn name b} (hroot : RootOK root bn) (hn : lexicallyRejected name = false)
    (h : NamedFile fs root bn name b) : BlobGood (Inside fs bn) b := by
  obtain ⟨last, up, hk, hpre, hne, hgz⟩ := h
  obtain ⟨ha, h0, -⟩ := hroot.absOK.candidate hn
  exact ⟨⟨_, (kwalk_abs_ok fs true _ h0 ha _ _ hk).1, hpre, hne⟩, fun g hg => inside_sibling hpre hne (hgz g hg)⟩

/-- **A3 (static, filesystem mode).** In EVERY file system, for EVERY name: if `getStatic` returns a blob (cache empty or per-request
mode: nothing served from memory), its bytes are the content of THE regular file the request names — the object at
`realpath(<static root>/<name>)` — whose location has the static root as a PROPER component-wise prefix; the gzip bytes are the
content of the regular file `<that file>.gz`. -/
theorem A3_static (fs : Fs) (st : FsState) (bn : List Name) (path : Bytes) (b : Blob) (a' : Assets)
    (hroot : RootOK st.staticsRoot bn) (hcache : st.staticCache = [])
    (h : getStatic fs (.filesystem st) path = (.found b, a')) :
    lexicallyRejected path = false ∧ NamedFile fs st.staticsRoot bn path b := by
  obtain ⟨hn, resolved, hw, hc, hr, hd, hz⟩ := getStaticAt_fresh hcache h
  obtain ⟨last, up, d0, hk, hpre, hne, hmain, hgz⟩ :=
    resolve_named_const fs st.staticsRoot bn hroot path resolved hn hw hc hr
  exact ⟨hn, last, up, by rw [hmain _ hd]; exact hk, hpre, hne, fun g hg => hgz g (hz g hg)⟩

/-- non-vacuity: in `exFs` the name `a` is served with the bytes of `/s/a`; the inside link `in` is served; the escaping link
`l` is rejected -/
example : ∃ b a', getStatic exFs (.filesystem exSt) [97] = (.found b, a') ∧ b.bytes = [7] := ⟨_, _, rfl, rfl⟩
example : (getStatic exFs (.filesystem exSt) [105]).1 = .found ⟨[7], Gen.Assets.mimeDefault, none⟩ ∧
    (getStatic exFs (.filesystem exSt) [108]).1 = .rejected := by decide +kernel

/-- **A3 (template, filesystem mode).** The bytes are the content of the regular file `realpath(<template root>/<name>)`, strictly
inside the template root. -/
theorem A3_template (fs : Fs) (st : FsState) (bn : List Name) (name d : Bytes) (a' : Assets)
    (hroot : RootOK st.templatesRoot bn) (hcache : st.templateCache = [])
    (h : getTemplate fs (.filesystem st) name = (some d, a')) :
    ∃ last up, kwalk fs true (pathAppend st.templatesRoot name) = .ok (last :: up, .file d) ∧
      bn <+: (last :: up).reverse ∧ (last :: up).reverse ≠ bn := by
  obtain ⟨hn, resolved, hw, hc, hr, hd⟩ := getTemplateAt_fresh hcache h
  obtain ⟨last, up, d0, hk, hpre, hne, hmain, _⟩ :=
    resolve_named_const fs st.templatesRoot bn hroot name resolved hn hw hc hr
  exact ⟨last, up, by rw [hmain _ hd]; exact hk, hpre, hne⟩

/-- **A3 (embedded mode, with the EXTERNAL_DIR fallback), every interleaving point.** Bytes come from the registry entry of exactly
this path, or — only for a path of the externalised set — from a regular file strictly inside EXTERNAL_DIR (absolute, NUL-free,
`..`-free, resolving to the canonical directory `bn`, a directory when the file is opened; environment `LeafOnly`). -/
theorem A3_embedded (sn : Snaps) (r : Registry) (path : Bytes) (b : Blob) (a' : Assets)
    (h : getStaticAt sn (.embedded r) path = (.found b, a')) :
    (∃ a ∈ r.statics, a.path = path ∧ b.bytes = a.bytes ∧ b.gz = a.gz) ∨
    (isExternalPath r path = true ∧
      ∀ bn, isAbs r.externalDir = true → (0 : UInt8) ∉ r.externalDir → dotdot ∉ comps r.externalDir →
        weaklyCanonical sn.s r.externalDir = .ok (renderAbs bn) → (∀ n ∈ bn, Plain n) →
        LeafOnly sn (pathAppend r.externalDir path) bn → sn.o.get bn.reverse = some .dir → BlobInside sn bn b) := by
  unfold getStaticAt at h
  by_cases hn : lexicallyRejected path = true
  · simp [hn] at h
  · simp only [hn, Bool.false_eq_true, ↓reduceIte] at h
    injection h with h1 _
    exact getStaticEmbeddedAt_good sn r path b (by simpa using hn) h1

def exReg : Registry := { externalDir := [47, 115], externalPaths := [[97], [108]] }
/-- non-vacuity of `A3_embedded`'s second disjunct, every hypothesis inhabited: EXTERNAL_DIR `/s` (absolute, NUL-free, `..`-free,
resolving to the canonical directory `/s`, a directory at the open), externalised set `{a, l}`; `a` is served from `/s/a`, the
escaping link `l` is rejected, a name outside the externalised set is not even looked for -/
example : (getStaticAt (Snaps.const exFs) (.embedded exReg) [97]).1 = .found ⟨[7], Gen.Assets.mimeDefault, none⟩ ∧
    (getStaticAt (Snaps.const exFs) (.embedded exReg) [108]).1 = .rejected ∧
    (getStaticAt (Snaps.const exFs) (.embedded exReg) [105]).1 = .notFound ∧
    isExternalPath exReg [97] = true ∧ isAbs exReg.externalDir = true ∧ (0 : UInt8) ∉ exReg.externalDir ∧
    dotdot ∉ comps exReg.externalDir ∧ weaklyCanonical (Snaps.const exFs).s exReg.externalDir = .ok (renderAbs [[115]]) ∧
    (∀ n ∈ [[115]], Plain n) ∧ LeafOnly (Snaps.const exFs) (pathAppend exReg.externalDir [97]) [[115]] ∧
    (Snaps.const exFs).o.get [[115]].reverse = some .dir :=
  ⟨by decide +kernel, by decide +kernel, by decide +kernel, by decide +kernel, by decide +kernel, by decide +kernel, by decide +kernel, by rfl,
   fun n hn => (exRoot.plain n hn).1, leafOnly_const _ _ _ (by decide) (by decide) (by decide), by decide +kernel⟩

/-- **A3 (embedded mode, templates).** An embedded `getTemplate` touches NO file system at all: whatever it returns is the bytes
of the registry entry of EXACTLY this name (the name passed the lexical filter), the answer is the same in every file-system
state, and the `Assets` value is unchanged.  (There is no EXTERNAL_DIR fallback for templates.) -/
theorem A3_embedded_template (sn : Snaps) (r : Registry) (name d : Bytes) (a' : Assets)
    (h : getTemplateAt sn (.embedded r) name = (some d, a')) :
    lexicallyRejected name = false ∧ (name, d) ∈ r.templates ∧ a' = .embedded r ∧
      ∀ sn', getTemplateAt sn' (.embedded r) name = (some d, a') := by
  -- an embedded template lookup does not look at the snapshots at all
  have hall : ∀ sn', getTemplateAt sn' (.embedded r) name = (some d, a') := fun _ => h
  unfold getTemplateAt at h
  by_cases hn : lexicallyRejected name = true
  · simp [hn] at h
  simp only [hn, Bool.false_eq_true, ↓reduceIte] at h
  injection h with h1 h2
  exact ⟨by simpa using hn, findTemplate_some h1, h2.symm, hall⟩

/-- non-vacuity: a registry with one template; a traversal name is refused before the table is even searched -/
example : (getTemplateAt (Snaps.const exFs) (.embedded { templates := [([116], [1, 2])] }) [116]).1 = some [1, 2] ∧
    (getTemplateAt (Snaps.const exFs) (.embedded { templates := [([46, 46, 47, 116], [1, 2])] }) [46, 46, 47, 116]).1 = none := by decide +kernel

/-! ## A4 — the environment acts WHILE the lookup runs: every interleaving point -/

/-- **A4.** Every path-taking system call of the lookup sees its own file-system snapshot (`sn`); between them the environment does
anything `LeafOnly` allows — in particular it replaces the file named by the final path component (or its `.gz` sibling) by a
symbolic link to anywhere, at ANY of the points: before `realpath`, between `realpath`/containment and the regular-file test,
between that test and the `open`, before the sibling's test, before the sibling's `open`.  Bytes that are still returned are the
content of a regular file strictly inside the root IN THE SNAPSHOT OF THE OPEN THAT READ THEM. -/
theorem A4_every_point (sn : Snaps) (st : FsState) (bn : List Name) (path : Bytes) (b : Blob) (a' : Assets)
    (hroot : RootOK st.staticsRoot bn) (hcache : st.staticCache = [])
    (hL : LeafOnly sn (pathAppend st.staticsRoot path) bn)
    (h : getStaticAt sn (.filesystem st) path = (.found b, a')) : BlobInside sn bn b := by
  obtain ⟨hn, resolved, hw, hc, _, hd, hz⟩ := getStaticAt_fresh hcache h
  obtain ⟨h1, h2⟩ := resolve_phases_inside sn st.staticsRoot bn hroot path resolved hn hw hc hL _ hd
  exact ⟨h1, fun g hg => h2 g (hz g hg)⟩

/-- **A4 (the concrete swap).** Replacing the non-directory at ANY location `X` by another non-directory (a regular file by a
symbolic link to anywhere, say) just before ANY of the five points is an admissible environment — provided that, in the case
where the request did not exist at resolution time, `X` is the leaf of the resolved path or of its `.gz` sibling and the root is a
directory.  (If the request exists at resolution time there is no condition on `X` at all.) -/
theorem A4_leaf_swap_admissible (fs : Fs) (X : Loc) (e : Entry) (pt : Point) (p : Bytes) (bn : List Name)
    (h1 : fs.get X ≠ some .dir) (h2 : e ≠ .dir)
    (hm : status fs p = .notFound → ∀ r, weaklyCanonical fs p = .ok r →
      X ∈ leafLocs r ∧ fs.get bn.reverse = some .dir ∧ (fs.set X e).get bn.reverse = some .dir) :
    LeafOnly (Snaps.switchAt fs (fs.set X e) pt) p bn :=
  leafOnly_switchAt fs (fs.set X e) pt p bn (set_preserves_dirs fs X e h1) fun hs r hw =>
    ⟨set_agreeOff fs X e _ (hm hs r hw).1 h1 h2, (hm hs r hw).2⟩

/-- non-vacuity and the five points at work: swapping the leaf `/s/a` for a link to the secret just before `realpath`, the
regular-file test, the `open`, the sibling test or the sibling `open` never yields the secret `[9]`; at the last two points the
main file was already read and `[7]` is served -/
example : DirsPreserved exFs exSwap ∧
    (getStaticAt (Snaps.switchAt exFs exSwap .C) (.filesystem exSt) [97]).1 = .rejected ∧
    (getStaticAt (Snaps.switchAt exFs exSwap .R) (.filesystem exSt) [97]).1 = .notFound ∧
    (getStaticAt (Snaps.switchAt exFs exSwap .O) (.filesystem exSt) [97]).1 = .notFound ∧
    (getStaticAt (Snaps.switchAt exFs exSwap .G) (.filesystem exSt) [97]).1 = .found ⟨[7], Gen.Assets.mimeDefault, none⟩ ∧
    (getStaticAt (Snaps.switchAt exFs exSwap .Z) (.filesystem exSt) [97]).1 = .found ⟨[7], Gen.Assets.mimeDefault, none⟩ :=
  ⟨set_preserves_dirs _ _ _ (by decide), by decide +kernel, by decide +kernel, by decide +kernel, by decide +kernel, by decide +kernel⟩

/-- the swap of C20's statement — the object at a location that holds no directory is replaced — is among the environments `LeafOnly` admits -/
theorem A4_swap_is_dirs_preserving (fs : Fs) (loc : Loc) (e : Entry) (h : fs.get loc ≠ some .dir) :
    DirsPreserved fs (fs.set loc e) := set_preserves_dirs fs loc e h

/-- the world after a NEW link `/s/new -> /o` appeared (nothing was replaced, every directory is still a directory) -/
def exNewLink : Fs := exFs.set [[110, 101, 119], [115]] (.link [47, 111])

/-- **What A4 does NOT cover, stated precisely (the code's documented residual).** A request for the NON-EXISTING path `new/x`:
`weakly_canonical` returns `/s/new/x` (existing prefix made canonical + remaining names kept lexically), which is lexically inside
the root; then the environment makes a new INTERMEDIATE symbolic link `/s/new -> /o` appear — a directory-preserving change that
is not confined to the leaf — and the regular-file test and the `open` follow it: the secret `[9]` is returned.  `O_NOFOLLOW`
guards only the final component. -/
theorem A4_residual_intermediate_link :
    DirsPreserved exFs exNewLink ∧
    (getStaticAt (Snaps.switchAt exFs exNewLink .R) (.filesystem exSt) [110, 101, 119, 47, 120]).1
      = .found ⟨[9], Gen.Assets.mimeDefault, none⟩ ∧
    (getStatic exNewLink (.filesystem exSt) [110, 101, 119, 47, 120]).1 = .rejected :=
  ⟨set_preserves_dirs _ _ _ (by decide), by decide +kernel, by decide +kernel⟩

/-- **A4 (templates).** The same as `A4_every_point` for `getTemplate` in filesystem mode: one snapshot per system call
(`status`, `realpath`, `is_regular_file`, `open`), environment `LeafOnly` in between; bytes that are returned fresh are the content
of a regular file strictly inside the template root IN THE SNAPSHOT OF THE OPEN. -/
theorem A4_every_point_template (sn : Snaps) (st : FsState) (bn : List Name) (name d : Bytes) (a' : Assets)
    (hroot : RootOK st.templatesRoot bn) (hcache : st.templateCache = [])
    (hL : LeafOnly sn (pathAppend st.templatesRoot name) bn)
    (h : getTemplateAt sn (.filesystem st) name = (some d, a')) : Inside sn.o bn d := by
  obtain ⟨hn, resolved, hw, hc, _, hd⟩ := getTemplateAt_fresh hcache h
  exact (resolve_phases_inside sn st.templatesRoot bn hroot name resolved hn hw hc hL d hd).1

def exFsT : Fs := { entries := [([[116]], .dir), ([[97], [116]], .file [7]), ([[111]], .dir), ([[120], [111]], .file [9])] }
def exSwapT : Fs := exFsT.set [[97], [116]] (.link [47, 111, 47, 120])
/-- non-vacuity, at the point between the regular-file test and the `open`: the template `/t/a` is swapped for a link to the secret -/
example : (getTemplateAt (Snaps.const exFsT) (.filesystem exSt) [97]).1 = some [7] ∧
    (getTemplateAt (Snaps.switchAt exFsT exSwapT .C) (.filesystem exSt) [97]).1 = none ∧
    (getTemplateAt (Snaps.switchAt exFsT exSwapT .R) (.filesystem exSt) [97]).1 = none ∧
    (getTemplateAt (Snaps.switchAt exFsT exSwapT .O) (.filesystem exSt) [97]).1 = none := by decide +kernel

/-- **A4, by LOCATION.** The bytes returned are not merely equal to the content of SOME file inside the root: they were read from
the object AT THE LOCATION the request named — the location `realpath(<root>/<name>)` ended at when it ran (or, when the request
did not exist at resolution time, a location below a root that is a directory at the open) — which has the root as component-wise
prefix; and the gzip bytes were read from the location next to it whose last name is `<last>.gz`. -/
theorem A4_every_point_located (sn : Snaps) (st : FsState) (bn : List Name) (path : Bytes) (b : Blob) (a' : Assets)
    (hroot : RootOK st.staticsRoot bn) (hcache : st.staticCache = [])
    (hL : LeafOnly sn (pathAppend st.staticsRoot path) bn)
    (h : getStaticAt sn (.filesystem st) path = (.found b, a')) :
    ∃ last up, sn.o.get (last :: up) = some (.file b.bytes) ∧ bn <+: (last :: up).reverse ∧
      ((∃ e, kwalk sn.c true (pathAppend st.staticsRoot path) = .ok (last :: up, e) ∧ sn.c.get (last :: up) = some e) ∨
        sn.o.get bn.reverse = some .dir) ∧
      ∀ g, b.gz = some g → sn.z.get ((last ++ Gen.Assets.gzSuffix) :: up) = some (.file g) := by
  obtain ⟨hn, resolved, hw, hc, _, hd, hz⟩ := getStaticAt_fresh hcache h
  obtain ⟨last, up, hget, hpre, hwhy, hgz⟩ :=
    resolve_phases_loc sn st.staticsRoot bn path resolved hroot.absOK hroot.locOK.plain hn hw (hroot.eq ▸ hc) hL _ hd
  exact ⟨last, up, hget, hpre, hwhy, fun g hg => hgz g (hz g hg)⟩

/-- the world after a NEW regular file `/s/new` (content `[5]`) appeared -/
def exNewFile : Fs := exFs.set [[110, 101, 119], [115]] (.file [5])
/-- the world after a NEW link `/s/new -> /o/x` appeared -/
def exNewLeafLink : Fs := exFs.set [[110, 101, 119], [115]] (.link [47, 111, 47, 120])

/-- **non-vacuity of the `missing` branch of `LeafOnly`** (the request does NOT exist when `weakly_canonical` runs): the leaf
`/s/new` is created while the lookup runs, just before the regular-file test.  This environment is `LeafOnly` (instance of
`A4_leaf_swap_admissible` whose third hypothesis is really used here); created as a regular file the lookup serves its bytes
`[5]` (inside the root), created as a link to the secret the `open(O_NOFOLLOW)` refuses it. -/
example : LeafOnly (Snaps.switchAt exFs exNewFile .R) (pathAppend exSt.staticsRoot [110, 101, 119]) [[115]] ∧
    LeafOnly (Snaps.switchAt exFs exNewLeafLink .O) (pathAppend exSt.staticsRoot [110, 101, 119]) [[115]] ∧
    status exFs (pathAppend exSt.staticsRoot [110, 101, 119]) = .notFound ∧
    (getStaticAt (Snaps.switchAt exFs exNewFile .R) (.filesystem exSt) [110, 101, 119]).1 = .found ⟨[5], Gen.Assets.mimeDefault, none⟩ ∧
    (getStaticAt (Snaps.switchAt exFs exNewLeafLink .R) (.filesystem exSt) [110, 101, 119]).1 = .notFound ∧
    (getStaticAt (Snaps.switchAt exFs exNewLeafLink .O) (.filesystem exSt) [110, 101, 119]).1 = .notFound := by
  have hw : weaklyCanonical exFs (pathAppend exSt.staticsRoot [110, 101, 119]) = .ok [47, 115, 47, 110, 101, 119] := by rfl
  refine ⟨A4_leaf_swap_admissible exFs _ _ .R _ _ (by decide) (by decide) ?_,
    A4_leaf_swap_admissible exFs _ _ .O _ _ (by decide) (by decide) ?_,
    by decide +kernel, by decide +kernel, by decide +kernel, by decide +kernel⟩
  all_goals
    intro _ r hr
    rw [hw] at hr
    injection hr with hr
    subst hr
    decide +kernel

/-! ## A5 — the caches, over every history -/

/-- **A5 (every history).** Start from whatever `fromDirectory` returns (any file system, any spelling of the root).  For EVERY
sequence of `getStatic` / `getTemplate` (each with one snapshot per system call, environment `LeafOnly` while it runs) / `reload` /
arbitrary environment changes between lookups: every blob and every template ever returned — fresh or from a cache — consists of
bytes that were, at an open of some lookup of this history, the content of a regular file strictly inside the canonical static
(resp. template) root.  In particular a cache entry is only ever created from such bytes. -/
theorem A5_history (fs0 : Fs) (root : Bytes) (per : Bool) (st : FsState) (ops : List Op) (hcwd : LocOK fs0.cwd)
    (h : fromDirectory fs0 root per = some st) :
    ∃ bnS bnT, RootOK st.staticsRoot bnS ∧ RootOK st.templatesRoot bnT ∧
      (Valid bnS bnT ops → ∀ o ∈ hrun ⟨fs0, .filesystem st, []⟩ ops, OutGood bnS bnT o) := by
  obtain ⟨bnS, bnT, hS, hT, hc1, hc2⟩ := A0_fromDirectory fs0 root per st hcwd h
  refine ⟨bnS, bnT, hS, hT, fun hv => history_good bnS bnT ops _ ⟨st, rfl, hS, hT, ?_, ?_⟩ hv⟩
  · rw [hc1]; intro k e hm; simp at hm
  · rw [hc2]; intro k d hm; simp at hm

/-- a valid history: look `a` up, the environment rewrites the file, look it up again, reload, look it up again -/
def exOps : List Op := [.static [97] (Snaps.const exFs), .env exFs2, .static [97] (Snaps.const exFs2), .reload,
  .static [97] (Snaps.const exFs2)]
example : Valid [[115]] [[116]] exOps := by
  intro op hop
  simp only [exOps, List.mem_cons, List.mem_nil_iff, or_false] at hop
  rcases hop with rfl | rfl | rfl | rfl | rfl <;> simp only [OpOK] <;>
    first | trivial | exact leafOnly_const _ _ _ (by decide) (by decide) (by decide)

/-- **A5 (what the cache does NOT guarantee), stated precisely.** A cached entry outlives a change of the file: in the history
`exOps` the second lookup returns the OLD bytes `[7]` although `/s/a` now holds `[8]`; only `reload()` makes the new bytes
visible.  The stale bytes are still bytes that were inside the root (that is all `A5_history` claims). -/
theorem A5_cache_can_be_stale :
    (hrun ⟨exFs, .filesystem exSt, []⟩ exOps).map (fun o => match o.1 with | .static (.found b) => some b.bytes | _ => none)
      = [some [7], none, some [7], none, some [8]] ∧ exFs2.get [[97], [115]] = some (.file [8]) := by decide +kernel

/-- a world laid out the way `fromDirectory` expects it: `/static/a` holds `[7]`, `/templates/t` holds `[6]`, `/static/l -> /o/x` -/
def exFsD : Fs := { entries := [([[115, 116, 97, 116, 105, 99]], .dir), ([[97], [115, 116, 97, 116, 105, 99]], .file [7]),
    ([[116, 101, 109, 112, 108, 97, 116, 101, 115]], .dir), ([[116], [116, 101, 109, 112, 108, 97, 116, 101, 115]], .file [6]),
    ([[111]], .dir), ([[120], [111]], .file [9]), ([[108], [115, 116, 97, 116, 105, 99]], .link [47, 111, 47, 120])] }
def exOpsD : List Op := [.static [97] (Snaps.const exFsD), .template [116] (Snaps.const exFsD), .static [108] (Snaps.const exFsD),
  .reload, .static [97] (Snaps.const exFsD)]

/-- **non-vacuity of `A5_history`, tied to a `fromDirectory` RESULT**: the constructor succeeds on `exFsD` for the root `/` given
with a trailing `.`; the history `exOpsD` from ITS result is valid for the roots it computed and returns bytes (static `[7]`,
template `[6]`), refuses the escaping link, and serves `[7]` again after the reload. -/
example : ∃ st, fromDirectory exFsD [47, 46] false = some st ∧
    st.staticsRoot = renderAbs [[115, 116, 97, 116, 105, 99]] ∧ st.templatesRoot = renderAbs [[116, 101, 109, 112, 108, 97, 116, 101, 115]] ∧
    Valid [[115, 116, 97, 116, 105, 99]] [[116, 101, 109, 112, 108, 97, 116, 101, 115]] exOpsD ∧
    (hrun ⟨exFsD, .filesystem st, []⟩ exOpsD).map (fun o => match o.1 with
      | .static (.found b) => some b.bytes | .template (some d) => some d | _ => none) = [some [7], some [6], none, none, some [7]] := by
  refine ⟨_, rfl, by decide +kernel, by decide +kernel, ?_, by decide +kernel⟩
  intro op hop
  simp only [exOpsD, List.mem_cons, List.mem_nil_iff, or_false] at hop
  rcases hop with rfl | rfl | rfl | rfl | rfl <;> simp only [OpOK] <;>
    first | trivial | exact leafOnly_const _ _ _ (by decide) (by decide) (by decide)

/-- **A5 (re-validation).** A cache hit is not a bypass: whenever a filesystem-mode static lookup in a file system at rest returns
a blob — also from the cache — the name, resolved NOW, names a regular file strictly inside the root.  (A name whose file was
replaced by an escaping link is refused even though its old bytes are still cached.) -/
theorem A5_revalidated (fs : Fs) (st : FsState) (bn : List Name) (path : Bytes) (b : Blob)
    (hroot : RootOK st.staticsRoot bn) (hn : lexicallyRejected path = false)
    (h : (getStaticFilesystemAt (Snaps.const fs) st path).1 = .found b) :
    ∃ last up d0, kwalk fs true (pathAppend st.staticsRoot path) = .ok (last :: up, .file d0) ∧
      bn <+: (last :: up).reverse ∧ (last :: up).reverse ≠ bn := by
  rcases getStaticFilesystemAt_cases (Snaps.const fs) st path with ⟨h0, _⟩ | ⟨resolved, hw, hc, hr, _⟩
  · exact absurd h (h0 b)
  · obtain ⟨last, up, d0, hk, hpre, hne, _, _⟩ := resolve_named_const fs st.staticsRoot bn hroot path resolved hn hw hc hr
    exact ⟨last, up, d0, hk, hpre, hne⟩

/-! ## A6 — the read loop of `readFile` -/

/-- **A6.** For EVERY way the kernel cuts a file into `read` answers — full buffers, SHORT reads of any length, any number of
`EINTR` failures in between — the loop returns exactly the concatenation of the bytes it was handed before the first `n == 0`
(nothing dropped, nothing repeated, whatever follows the EOF answer is never read).  `pre` is the list of answers before the
EOF: each a `data` chunk or an `eintr`. -/
theorem A6_read_loop (pre rest : List ReadEv) (h : ∀ e ∈ pre, e.benign = true) :
    readLoop [] (pre ++ .eof :: rest) = some (dataOf pre) := by
  simpa using readLoop_benign pre h [] rest

/-- **A6 (chunking is irrelevant).** Two runs whose answers carry the same bytes return the same result — in particular the run
the model of `readFile` uses (`kernelReads`: full buffers of the source's size, then EOF) stands for all of them: a file holding
`d` that nobody touches is returned as `d`. -/
theorem A6_chunking_irrelevant (d : Bytes) (pre : List ReadEv) (h : ∀ e ∈ pre, e.benign = true) (hd : dataOf pre = d) :
    readLoop [] (pre ++ [.eof]) = readLoop [] (kernelReads Gen.Assets.readBufSize d) ∧
    readLoop [] (kernelReads Gen.Assets.readBufSize d) = some d := by
  rw [readLoop_kernelReads, A6_read_loop pre [] h, hd]
  exact ⟨rfl, rfl⟩

/-- **A6 (errors).** Any failure other than `EINTR` before the EOF makes `readFile` give up with `nullopt`: a partial content is
never returned as if it were the file. -/
theorem A6_read_error (pre rest : List ReadEv) (h : ∀ e ∈ pre, e.benign = true) : readLoop [] (pre ++ .err :: rest) = none := by
  rw [readLoop_append pre h]
  simp [readLoop, readAtError_eq]

/-- non-vacuity: `[1,2,3,4,5]` read as `[1] EINTR [2,3] EINTR EINTR [4,5] EOF`; an I/O error after the first chunk; and the
zero-byte file -/
example : readLoop [] [.data [1], .eintr, .data [2, 3], .eintr, .eintr, .data [4, 5], .eof] = some [1, 2, 3, 4, 5] ∧
    readLoop [] [.data [1], .err, .data [2], .eof] = none ∧ readLoop [] [.eof] = some [] ∧
    kernelReads 2 [1, 2, 3, 4, 5] = [.data [1, 2], .data [3, 4], .data [5], .eof] := by decide +kernel

/-! ## MIME type (not part of containment; the table the model uses is the source's) -/

/-- the MIME type is the default or the second component of an entry of the source's table -/
theorem M1_mime_from_table (path : Bytes) :
    mimeFor path = Gen.Assets.mimeDefault ∨ ∃ e ∈ Gen.Assets.mimeTable, mimeFor path = e.2 := by
  unfold mimeFor
  simp only
  split
  · exact Or.inl rfl
  · split
    · rename_i e he
      exact Or.inr ⟨e, List.mem_of_find?_eq_some he, rfl⟩
    · exact Or.inl rfl

/-- the table has no two entries for the same extension (the linear scan's order does not matter), every key starts with `.` and is
lower-case (`mimeFor` lowers both the request's extension and the key before comparing), and the default is `application/octet-stream` -/
theorem Gen_mime : Gen.Assets.mimeDefault = "application/octet-stream" ∧ Gen.Assets.mimeTable.length = 21 ∧
    (Gen.Assets.mimeTable.map (·.1)).Nodup ∧
    Gen.Assets.mimeTable.all (fun e => e.1.toList.head? == some '.' && e.1.toList.all (fun c => !c.isUpper)) = true := by decide +kernel

/-! ## Conformance of the regenerated facts with what the model and the proofs assume -/

theorem Gen_open_flags : Gen.Assets.openNoFollow = true ∧ Gen.Assets.openFlags = ["O_RDONLY", "O_NOFOLLOW", "O_CLOEXEC"] := ⟨rfl, rfl⟩
theorem Gen_filter : Gen.Assets.emptyRejected = false ∧ Gen.Assets.forbiddenLeading = [47] ∧ Gen.Assets.forbiddenAnywhere = [0, 92] ∧
    Gen.Assets.segmentSeparator = 47 ∧ Gen.Assets.forbiddenSegments = [[46, 46]] := ⟨rfl, rfl, rfl, rfl, rfl⟩
theorem Gen_contained : Gen.Assets.containedCmp = "!=" ∧ Gen.Assets.containedLit = [46, 46] := ⟨rfl, rfl⟩
/-- the order of the security-relevant calls: resolve → contain → regular-file test → (cache) → open; the cache is consulted
only AFTER the validation of the current request -/
theorem Gen_call_order :
    Gen.Assets.getStaticCalls = ["lexicallyRejected", "getStaticEmbedded", "getStaticFilesystem"] ∧
    Gen.Assets.getTemplateCalls = ["lexicallyRejected", "findTemplate", "getTemplateFilesystem"] ∧
    Gen.Assets.getStaticFilesystemCalls = ["weakly_canonical", "isContained", "is_regular_file", "perRequestRead", "buildEntry",
      "staticCache.find", "buildEntry", "staticCache.find", "staticCache.emplace"] ∧
    Gen.Assets.getTemplateFilesystemCalls = ["weakly_canonical", "isContained", "is_regular_file", "templateCache.find", "readFile",
      "templateCache.find", "templateCache.emplace"] ∧
    Gen.Assets.getStaticEmbeddedCalls = ["findStatic", "isExternalPath", "weakly_canonical", "weakly_canonical", "isContained",
      "is_regular_file", "buildEntry"] ∧
    Gen.Assets.buildEntryCalls = ["readFile", "is_regular_file", "readFile"] ∧
    Gen.Assets.fromDirectoryCalls = ["fs::canonical", "fs::is_directory", "weakly_canonical", "weakly_canonical"] := ⟨rfl, rfl, rfl, rfl, rfl, rfl, rfl⟩
/-- the lookups WITH their operands: which root is the containment base, what is canonicalised, what is tested and what is opened
(`isContained(base, candidate)`, `weakly_canonical(base)`, `readFile(candidate)` … change this list and break the build) -/
theorem Gen_skeleton :
    Gen.Assets.getStaticFilesystemSkel = ["base = _fs->staticsRoot", "candidate = _fs->staticsRoot / fs::path(std::string(path))", "resolved = fs::weakly_canonical(candidate, ec)", "isContained(base, resolved)", "is_regular_file(resolved, ec)", "buildEntry(resolved)", "blobFromEntry(std::move(entry), path)", "key = path", "blobFromEntry(it->second, path)", "buildEntry(resolved)", "blobFromEntry(chosen, path)"] ∧
    Gen.Assets.getTemplateFilesystemSkel = ["base = _fs->templatesRoot", "candidate = _fs->templatesRoot / fs::path(std::string(name))", "resolved = fs::weakly_canonical(candidate, ec)", "isContained(base, resolved)", "is_regular_file(resolved, ec)", "key = name", "readFile(resolved)"] ∧
    Gen.Assets.getStaticEmbeddedSkel = ["findStatic(path)", "isExternalPath(path)", "externalDir = std::string(_registry->externalDir)", "base = fs::weakly_canonical(externalDir, ec)", "candidate = externalDir / fs::path(std::string(path))", "resolved = fs::weakly_canonical(candidate, ec)", "isContained(base, resolved)", "is_regular_file(resolved, ec)", "buildEntry(resolved)", "blobFromEntry(std::move(entry), path)"] ∧
    Gen.Assets.buildEntrySkel = ["readFile(file)", "gz = file", "gz += \".gz\"", "is_regular_file(gz, ec)", "readFile(gz)"] ∧
    Gen.Assets.isContainedSkel = ["rel = target.lexically_relative(base);", "return false;", "return false;", "return *it != std::filesystem::path(\"..\");"] := ⟨rfl, rfl, rfl, rfl, rfl⟩
/-- `static`, `templates`, `.gz` -/
theorem Gen_roots : Gen.Assets.staticsSub = [115, 116, 97, 116, 105, 99] ∧ Gen.Assets.templatesSub = [116, 101, 109, 112, 108, 97, 116, 101, 115] ∧
    Gen.Assets.gzSuffix = [46, 103, 122] := ⟨rfl, rfl, rfl⟩

/-! ## Conformance: the read loop, the census of file-system tokens, the lock skeleton -/

/-- the read loop as the model's `readLoop` assumes it: a 65536-byte buffer, `n > 0` appends, `n == 0` leaves the loop, `EINTR`
retries, any other error returns `nullopt` (`append` → `assign` or a dropped `continue` changes these and breaks `readLoop_benign`) -/
theorem Gen_read_loop : Gen.Assets.readBufSize = 65536 ∧ Gen.Assets.readAccumulate = "append" ∧ Gen.Assets.readAtEof = "break" ∧
    Gen.Assets.readRetryErrno = "EINTR" ∧ Gen.Assets.readAtRetryErrno = "continue" ∧ Gen.Assets.readAtError = "return std::nullopt" :=
  ⟨rfl, rfl, rfl, rfl, rfl, rfl⟩

/-- **census**: EVERY `fs::…(` / `std::filesystem::…(` call, every path-typed local, every global-namespace call (`::open`,
`::read`, `::close`), every stream / swap / `/=` token of the ten functions on the lookup paths — nothing else touches the file
system or can redirect a checked path (an added `fs::symlink_status`, `fs::canonical`, `fs::exists`, `read_symlink`, a second
`::open`, an `ifstream`, a new `fs::path joined` local … changes this list; `resolved.swap(x)`, `candidate /= x` are refused by
the translator outright) -/
theorem Gen_census : Gen.Assets.census = [
    ("fromDirectory", ["fs::path canonicalRoot", "fs::canonical()", "fs::is_directory()", "fs::filesystem_error()", "fs::weakly_canonical()", "fs::weakly_canonical()"]),
    ("getTemplate", []), ("getStatic", []), ("reload", []),
    ("isContained", ["fs::path rel", "fs::path()"]),
    ("readFile", ["::open()", "::close()", "::read()"]),
    ("buildEntry", ["fs::path gz", "fs::is_regular_file()"]),
    ("getStaticEmbedded", ["fs::path externalDir", "fs::path base", "fs::weakly_canonical()", "fs::path candidate", "fs::path()", "fs::path resolved", "fs::weakly_canonical()", "fs::is_regular_file()"]),
    ("getStaticFilesystem", ["fs::path base", "fs::path candidate", "fs::path()", "fs::path resolved", "fs::weakly_canonical()", "fs::is_regular_file()"]),
    ("getTemplateFilesystem", ["fs::path base", "fs::path candidate", "fs::path()", "fs::path resolved", "fs::weakly_canonical()", "fs::is_regular_file()"]),
    ("readFile#else", ["std::ifstream"])] := rfl

/-- the critical sections of the two caches: probe under the lock, build/read OUTSIDE it, second probe and insertion in ONE
critical section, insertion by `emplace` (never overwrites), no access outside a critical section; `reload` clears both under the lock -/
theorem Gen_lock_skeleton :
    Gen.Assets.staticCriticalSections = ["find,end", "find,end,emplace"] ∧ Gen.Assets.staticUnguardedAccesses = [] ∧
    Gen.Assets.templateCriticalSections = ["find,end", "find,end,emplace"] ∧ Gen.Assets.templateUnguardedAccesses = [] ∧
    Gen.Assets.staticBuildUnderLock = false ∧ Gen.Assets.templateReadUnderLock = false ∧
    Gen.Assets.staticCacheInsert = "emplace" ∧ Gen.Assets.templateCacheInsert = "emplace" ∧
    Gen.Assets.reloadUnderLock = true ∧ Gen.Assets.reloadClears = ["staticCache", "templateCache"] := ⟨rfl, rfl, rfl, rfl, rfl, rfl, rfl, rfl, rfl, rfl⟩

end Iora.C20
