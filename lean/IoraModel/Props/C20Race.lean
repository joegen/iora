import IoraModel.Lemmas.AssetsRace
/-!
# C20 under N concurrent threads — the double-checked locking of the filesystem-mode caches

The property theorems; the small-step model is `Model/AssetsRace.lean`, the lemmas `Lemmas/AssetsRace.lean`, the lock skeleton
(`Shape.gen`) is built from the facts the translator extracts into `Gen/Assets.lean` (`staticFind1UnderLock`, …, `reloadClears`).
The theorems over `sched` are for EVERY number of threads, EVERY schedule (`List Nat`: which thread moves next) and EVERY assignment
of operations and file-system snapshots to threads; the others are about one step or one schedule.  Granularity: taking
`_fs->mutex` is a step; the body of one `lock_guard` scope plus the unlock is one step; validation and `build` (all the file I/O)
are one step each on the thread's own `Snaps` (the interleaving of the environment with the system calls of ONE lookup is what
`Snaps` + `LeafOnly` of A4 already cover).
-/
namespace Iora.C20
open Iora Iora.Assets Iora.Assets.Race

/-! ## A small concrete world for the examples: `/s/a` holds `[7]`, `/t/p` holds `[5]`, `/o/x` holds `[9]` (outside) -/
def rcFs : Fs := { entries := [([[115]], .dir), ([[97], [115]], .file [7]), ([[111]], .dir), ([[120], [111]], .file [9]),
                               ([[116]], .dir), ([[112], [116]], .file [5])] }
/-- the same world after the environment rewrote `/s/a` to `[8]` -/
def rcFs2 : Fs := rcFs.set [[97], [115]] (.file [8])
def rcSt : FsState := { root := [47], templatesRoot := [47, 116], staticsRoot := [47, 115], perRequest := false }
theorem rcRootS : RootOK rcSt.staticsRoot [[115]] :=
  RootOK.single ⟨⟨⟨by decide, by decide⟩, by decide, by decide⟩, by decide⟩
theorem rcRootT : RootOK rcSt.templatesRoot [[116]] :=
  RootOK.single ⟨⟨⟨by decide, by decide⟩, by decide, by decide⟩, by decide⟩

/-- thread A opens after the environment's change, B and C see the old tree, D reloads -/
def rcPool : List (RaceOp × Snaps) :=
  [(.static [97], Snaps.switchAt rcFs rcFs2 .O), (.static [97], Snaps.const rcFs), (.template [112], Snaps.const rcFs),
   (.reload, Snaps.const rcFs)]

/-- the lock skeleton of the working tree is the double-checked locking the theorems are about (every fact matters:
flipping any of `staticFind1UnderLock`, `staticBuildUnderLock`, `staticHasSecondFind`, `staticFind2EmplaceSameLock`,
`staticCacheInsert`, their `template…` twins, `reloadUnderLock`, `reloadClears` makes this fail to build). -/
theorem R0_shape_of_source : Shape.gen.ok = true := by decide +kernel

/-! ## R1 — one thread alone is the sequential model -/

/-- **R1.** In ANY pool, from any cache state with the mutex free, the steps of ONE thread run back-to-back yield exactly
`getStaticFilesystemAt` (result and cache), `getTemplateFilesystemAt`, resp. `reload` of the sequential model; the other
threads and the `unguarded` flag are untouched.  So every sequential theorem of C20 (A3–A5) transfers to every schedule in which
calls do not overlap. -/
theorem R1_sequential_refinement (s : State) (i : Nat) (sn : Snaps) (hfree : s.g.owner = none) :
    (∀ k, s.threads[i]? = some { op := .static k, sn := sn, pc := .start } →
      run Shape.gen s (List.replicate soloLen i) =
        { g := { s.g with st := (getStaticFilesystemAt sn s.g.st k).2 },
          threads := s.threads.set i { op := .static k, sn := sn, pc := .done (some (.inl (getStaticFilesystemAt sn s.g.st k).1)) } }) ∧
    (∀ k, s.threads[i]? = some { op := .template k, sn := sn, pc := .start } →
      run Shape.gen s (List.replicate soloLen i) =
        { g := { s.g with st := (getTemplateFilesystemAt sn s.g.st k).2 },
          threads := s.threads.set i { op := .template k, sn := sn, pc := .done (some (.inr (getTemplateFilesystemAt sn s.g.st k).1)) } }) ∧
    (s.threads[i]? = some { op := .reload, sn := sn, pc := .start } →
      run Shape.gen s (List.replicate soloLen i) =
        { g := { s.g with st := { s.g.st with staticCache := [], templateCache := [] } },
          threads := s.threads.set i { op := .reload, sn := sn, pc := .done none } }) := by
  have hg : s.g = { st := s.g.st, owner := none, unguarded := s.g.unguarded } := by rw [← hfree]
  refine ⟨fun k h => ?_, fun k h => ?_, fun h => ?_⟩
  · rw [run_solo _ _ _ _ _ h, hg, solo_static _ R0_shape_of_source]
  · rw [run_solo _ _ _ _ _ h, hg, solo_template _ R0_shape_of_source]
  · rw [run_solo _ _ _ _ _ h, hg, solo_reload _ R0_shape_of_source]

/-- the hypotheses of R1 hold of thread 1 of the example pool, and its solo run returns `/s/a`'s bytes and caches them -/
example : (State.init rcSt rcPool).g.owner = none ∧
    ((run Shape.gen (State.init rcSt rcPool) (List.replicate soloLen 1)).result 1
      = some (.inl (.found ⟨[7], Gen.Assets.mimeDefault, none⟩))) ∧
    (run Shape.gen (State.init rcSt rcPool) (List.replicate soloLen 1)).g.st.staticCache = [([97], ⟨[7], none⟩)] := by decide +kernel
example : (State.init rcSt rcPool).threads[1]? = some { op := .static [97], sn := Snaps.const rcFs, pc := .start } := rfl

/-! ## R2 — mutual exclusion, no unguarded map access, no file I/O under the lock -/

/-- **R2.** For the lock skeleton of the source, every pool, every schedule, in every reachable state: (a) no thread has ever
accessed `staticCache` / `templateCache` without owning `_fs->mutex` (the `unguarded` flag never rises: no data race on the
maps); (b) a thread is inside a `lock_guard` scope exactly when it owns the mutex, hence (c) at most one thread is inside a
critical section; (d) a thread that is about to `build` (`buildEntry` / `readFile`: all the file I/O) does not own the mutex. -/
theorem R2_mutual_exclusion (st : FsState) (ts : List (RaceOp × Snaps)) (sched : List Nat) :
    let s := run Shape.gen (State.init st ts) sched
    s.g.unguarded = false ∧
    (∀ (j : Nat) (t : Thread), s.threads[j]? = some t → (holds t.pc = true ↔ s.g.owner = some j)) ∧
    (∀ (j j' : Nat) (t t' : Thread), s.threads[j]? = some t → s.threads[j']? = some t' →
      holds t.pc = true → holds t'.pc = true → j = j') ∧
    (∀ (j : Nat) (t : Thread) (r : Bytes), s.threads[j]? = some t → t.pc = .build r → s.g.owner ≠ some j) := by
  intro s
  have h : MInv s := run_minv Shape.gen R0_shape_of_source sched _ (init_minv st ts)
  exact ⟨h.1, h.2, fun _ _ _ _ hj hj' ht ht' => h.exclusive hj hj' ht ht', fun _ _ _ hj hpc => h.build_unlocked hj hpc⟩

/-- **R2 (inductive form).** The mutex invariant is preserved by every step of every thread from ANY state that satisfies it
(not only from initial states). -/
theorem R2_invariant_step (s : State) (i : Nat) (h : MInv s) : MInv (step Shape.gen s i) :=
  step_minv Shape.gen R0_shape_of_source s i h

example : MInv (State.init rcSt rcPool) ∧ (State.init rcSt rcPool).threads.length = 4 := ⟨init_minv _ _, rfl⟩

/-- R2 is about a real mechanism: with the first `find` outside the lock the flag rises on a 1-thread schedule -/
example : (run { Shape.gen with static := { Shape.gen.static with find1UnderLock := false } }
    (State.init rcSt rcPool) [1, 1]).g.unguarded = true := by decide +kernel

/-! ## R3 — only good values in the caches, in the locals and in the results; never an entry of another key -/

/-- **R3.** For ANY lock skeleton, any families `GoodS k e` / `GoodT k d` indexed by the NAME: if every successful `build` of a
lookup of name `k` (from a path that this lookup validated) produces a value good for `k`, and the caches start good, then in
every reachable state every entry `(k, e)` of `staticCache` satisfies `GoodS k e`, every entry of `templateCache` satisfies
`GoodT`, every thread's built value is good for ITS name, and every result any thread has returned for name `k` is good for
`k`.  In particular no thread ever returns an entry that was built for, or stored under, a different key. -/
theorem R3_cache_good_invariant (GoodS : Bytes → CacheEntry → Prop) (GoodT : Bytes → Bytes → Prop)
    (sh : Shape) (s : State) (sched : List Nat)
    (hc : CacheGood GoodS GoodT s.g.st)
    (ht : ∀ t ∈ s.threads, ThreadGood GoodS GoodT s.g.st.staticsRoot s.g.st.templatesRoot t) :
    CacheGood GoodS GoodT (run sh s sched).g.st ∧
    (∀ t ∈ (run sh s sched).threads, ThreadGood GoodS GoodT s.g.st.staticsRoot s.g.st.templatesRoot t) ∧
    (∀ (j : Nat) (t : Thread) (k : Bytes) (ret : Ret), (run sh s sched).threads[j]? = some t →
      (t.op = .static k ∨ t.op = .template k) → t.pc = .done (some ret) → RetGood GoodS GoodT k ret) := by
  have h := run_good GoodS GoodT sh _ _ _ sched s ⟨rfl, rfl, rfl⟩ hc ht
  exact ⟨h.1.2, h.2, fun j t k ret hj hop hret => (h.2 t (List.mem_of_getElem? hj)).ret hop hret⟩

/-- **R3 (one step).** The invariant is inductive: every step of every thread preserves it. -/
theorem R3_invariant_step (GoodS : Bytes → CacheEntry → Prop) (GoodT : Bytes → Bytes → Prop)
    (sh : Shape) (i : Nat) (t : Thread) (g : Shared) (rootS rootT : Bytes) (pr : Bool)
    (hg : Frame rootS rootT pr g.st ∧ CacheGood GoodS GoodT g.st) (ht : ThreadGood GoodS GoodT rootS rootT t) :
    (Frame rootS rootT pr (stepT sh i t g).2.st ∧ CacheGood GoodS GoodT (stepT sh i t g).2.st) ∧
    ThreadGood GoodS GoodT rootS rootT (stepT sh i t g).1 :=
  stepT_good GoodS GoodT sh i t g rootS rootT pr hg ht

/-- the hypotheses of R3 are satisfiable non-trivially: "an entry holds 7 or 8, a template holds 5" on the example pool -/
example : CacheGood (fun _ e => e.bytes = [7] ∨ e.bytes = [8]) (fun _ d => d = [5]) (State.init rcSt rcPool).g.st ∧
    ∀ t ∈ (State.init rcSt rcPool).threads,
      ThreadGood (fun _ e => e.bytes = [7] ∨ e.bytes = [8]) (fun _ d => d = [5]) rcSt.staticsRoot rcSt.templatesRoot t := by
  refine ⟨⟨fun k e h => by simp [State.init, rcSt] at h, fun k e h => by simp [State.init, rcSt] at h⟩, ?_⟩
  -- a lookup whose resolution and build evaluate to known values builds a good value iff that value is good
  have key : ∀ (tmpl : Bool) (root k : Bytes) (sn : Snaps) (r0 : Bytes) (v0 : Val),
      weaklyCanonicalAt sn.s sn.c (pathAppend root k) = .ok r0 → buildVal tmpl sn r0 = some v0 →
      GoodV (fun _ e => e.bytes = [7] ∨ e.bytes = [8]) (fun _ d => d = [5]) k v0 →
      BuildGood (fun _ e => e.bytes = [7] ∨ e.bytes = [8]) (fun _ d => d = [5]) tmpl root k sn := by
    intro tmpl root k sn r0 v0 h1 h2 hg r v hv hb
    cases h1.symm.trans hv.1
    rw [h2] at hb
    cases hb
    exact hg
  intro t ht
  simp only [State.init, rcPool, List.map, List.mem_cons, List.mem_nil_iff, or_false] at ht
  rcases ht with rfl | rfl | rfl | rfl
  · exact ⟨key false _ _ _ [47, 115, 47, 97] (.s ⟨[8], none⟩) (by rfl) (by decide +kernel) (Or.inr rfl), trivial⟩
  · exact ⟨key false _ _ _ [47, 115, 47, 97] (.s ⟨[7], none⟩) (by rfl) (by decide +kernel) (Or.inl rfl), trivial⟩
  · exact ⟨key true _ _ _ [47, 116, 47, 112] (.t [5]) (by rfl) (by decide +kernel) rfl, trivial⟩
  · intro ret; simp

/-- **R3 (no cross-key value).** Instance of R3 that needs no hypothesis: for EVERY lock skeleton, pool and schedule, a value
returned by a thread that asked for name `k` was in the initial cache UNDER `k`, or was built by a thread of the pool that looks
up THE SAME name `k` (`RetGood` unfolds to: `found (blobOf e k)` with `BuiltForS … k e`, resp. `some d` with `BuiltForT … k d`). -/
theorem R3_no_cross_key (sh : Shape) (st0 : FsState) (ts : List (RaceOp × Snaps)) (sched : List Nat)
    (j : Nat) (t : Thread) (hj : (run sh (State.init st0 ts) sched).threads[j]? = some t) (k : Bytes)
    (hop : t.op = .static k ∨ t.op = .template k) (ret : Ret) (hret : t.pc = .done (some ret)) :
    RetGood (BuiltForS st0 ts) (BuiltForT st0 ts) k ret :=
  (R3_cache_good_invariant (BuiltForS st0 ts) (BuiltForT st0 ts) sh (State.init st0 ts) sched
    ⟨fun _ _ h => Or.inl h, fun _ _ h => Or.inl h⟩ (init_builtFor st0 ts)).2.2 j t k ret hj hop hret

/-- a thread of the example pool that has returned, as R3_no_cross_key wants it -/
example : ∃ t, (run Shape.gen (State.init rcSt rcPool) [2, 2, 2, 2, 2, 2]).threads[2]? = some t ∧ t.op = .template [112] ∧
    t.pc = .done (some (.inr (some [5]))) := ⟨_, rfl, rfl, by decide +kernel⟩

/-! ## R4 — the second critical section: the winner's entry or its own; `emplace` never overwrites; all threads agree -/

/-- **R4.** In any pool, a thread that executes its second critical section (second `find` + `emplace` under ONE `lock_guard`,
as in the source) returns a value `w` that IS the entry of its key afterwards; and either another thread had inserted `w` under
the SAME key earlier in the schedule (the branch `chosen = it->second`: the cache is unchanged, what this thread built is
discarded), or the key was absent, `w` is what this thread built, and it is now inserted. -/
theorem R4_winner_or_own (s : State) (j : Nat) (t : Thread) (tmpl : Bool) (k : Bytes) (v : Val)
    (hj : s.threads[j]? = some t) (hop : t.op = lookupOp tmpl k) (hpc : t.pc = .cs2 v) (hk : v.isT = tmpl) :
    ∃ w, (step Shape.gen s j).result j = some (retOf k w) ∧ find tmpl (step Shape.gen s j).g.st k = some w ∧
      ((find tmpl s.g.st k = some w ∧ (step Shape.gen s j).g.st = s.g.st) ∨
       (find tmpl s.g.st k = none ∧ w = v ∧ (step Shape.gen s j).g.st = Race.insert Shape.gen k v s.g.st)) :=
  step_cs2_winner_or_own Shape.gen s j t tmpl k v (ok_lookup R0_shape_of_source tmpl) hj hop hpc hk

/-- **R4 (`emplace` never overwrites).** With the insertion primitive of the source, in every pool that contains no `reload`,
along every schedule, an entry that is present under a key stays exactly that entry — whatever any thread inserts under
whatever key, and independently of the second `find`. -/
theorem R4_emplace_never_overwrites (tmpl : Bool) (k : Bytes) (w : Val) (sched : List Nat) (s : State)
    (hnr : ∀ t ∈ s.threads, t.op ≠ .reload) (h : find tmpl s.g.st k = some w) :
    find tmpl (run Shape.gen s sched).g.st k = some w :=
  run_find_stable Shape.gen R0_shape_of_source tmpl k w sched s hnr h

/-- **R4 (agreement).** Cached mode, any pool without `reload`, any schedule, any reachable state: two calls that have returned
for the same key of the same map returned the SAME value, and it is the entry the cache holds for that key — unless one of them
found no file (not found / rejected).  (Between two reloads all threads agree on the entry of a key.) -/
theorem R4_threads_agree (st : FsState) (hpr : st.perRequest = false) (ts : List (RaceOp × Snaps))
    (hnr : ∀ x ∈ ts, x.1 ≠ .reload) (sched : List Nat) :
    let s := run Shape.gen (State.init st ts) sched
    ∀ (j j' : Nat) (t t' : Thread) (tmpl : Bool) (k : Bytes) (ret ret' : Ret),
      s.threads[j]? = some t → s.threads[j']? = some t' → t.op = lookupOp tmpl k → t'.op = lookupOp tmpl k →
      t.pc = .done (some ret) → t'.pc = .done (some ret') →
      (∃ w, ret = retOf k w ∧ ret' = retOf k w ∧ find tmpl s.g.st k = some w) ∨ isMiss tmpl ret ∨ isMiss tmpl ret' := by
  intro s j j' t t' tmpl k ret ret' hj hj' hop hop' hr hr'
  have h := run_agree Shape.gen R0_shape_of_source sched (State.init st ts) hpr (init_agree st ts hnr)
  exact agree_results s h.2 t t' (List.mem_of_getElem? hj) (List.mem_of_getElem? hj') tmpl k hop hop' ret ret' hr hr'

/-- three threads look `a` up while the environment rewrites it; whatever the interleaving below, all get B's bytes -/
def rcPool3 : List (RaceOp × Snaps) :=
  [(.static [97], Snaps.switchAt rcFs rcFs2 .O), (.static [97], Snaps.const rcFs), (.static [97], Snaps.const rcFs2)]
example : rcSt.perRequest = false ∧ (∀ x ∈ rcPool3, x.1 ≠ .reload) ∧
    (let s := run Shape.gen (State.init rcSt rcPool3) [0, 0, 0, 2, 2, 2, 1, 1, 1, 1, 1, 1, 0, 0, 0, 2, 2, 2, 0, 2]
     s.result 0 = some (.inl (.found ⟨[7], Gen.Assets.mimeDefault, none⟩)) ∧ s.result 1 = s.result 0 ∧ s.result 2 = s.result 0 ∧
     s.g.st.staticCache = [([97], ⟨[7], none⟩)] ∧ s.g.owner = none ∧ s.g.unguarded = false) := by
  refine ⟨rfl, ?_, by decide +kernel⟩
  intro x hx
  simp only [rcPool3, List.mem_cons, List.mem_nil_iff, or_false] at hx
  rcases hx with rfl | rfl | rfl <;> simp

/-- R4's hypotheses are met in the middle of that run: thread 0 sits in its second critical section with its own `[8]` -/
example : (run Shape.gen (State.init rcSt rcPool3) [0, 0, 0, 1, 1, 1, 1, 1, 1, 0, 0]).threads.map (fun t => t.pc)
    = [.cs2 (.s ⟨[8], none⟩), .done (some (.inl (.found ⟨[7], Gen.Assets.mimeDefault, none⟩))), .start] := by decide +kernel

/-! ## R5 — the link to C20: under every interleaving only once-inside bytes are served -/

/-- **R5.** From a filesystem-mode instance with canonical roots whose caches hold only once-inside bytes (e.g. are empty), for
EVERY lock skeleton, EVERY pool of threads about to start, EVERY schedule: if every lookup thread's name passed the lexical
filter and the environment is `LeafOnly` while THAT thread's lookup runs (its own snapshots, its own candidate — exactly the
hypotheses of `A4_every_point`), then every static blob and every template returned by ANY thread at ANY point
consists of bytes that were, in the file system current at an open of SOME thread's lookup (`seen`), the content of a regular
file strictly inside the static (resp. template) root; and so does everything in both caches. -/
theorem R5_concurrent_history_inside (sh : Shape) (bnS bnT : List Name) (s : State) (seen : List Fs)
    (hrS : RootOK s.g.st.staticsRoot bnS) (hrT : RootOK s.g.st.templatesRoot bnT)
    (hcS : ∀ k e, (k, e) ∈ s.g.st.staticCache → EntryGood (EverInside seen bnS) e)
    (hcT : ∀ k d, (k, d) ∈ s.g.st.templateCache → EverInside seen bnT d)
    (hstart : ∀ t ∈ s.threads, t.pc = .start)
    (hseen : ∀ t ∈ s.threads, t.sn.o ∈ seen ∧ t.sn.z ∈ seen)
    (hok : ∀ t ∈ s.threads, ThreadOK s.g.st.staticsRoot s.g.st.templatesRoot bnS bnT t)
    (sched : List Nat) :
    (∀ (j : Nat) (t : Thread), (run sh s sched).threads[j]? = some t → ∀ ret, t.pc = .done (some ret) →
      RetInside seen bnS bnT ret) ∧
    (∀ k e, (k, e) ∈ (run sh s sched).g.st.staticCache → EntryGood (EverInside seen bnS) e) ∧
    (∀ k d, (k, d) ∈ (run sh s sched).g.st.templateCache → EverInside seen bnT d) :=
  have h := run_inside sh bnS bnT s seen hrS hrT hcS hcT hstart hseen hok sched
  ⟨h.1, h.2.1, h.2.2.1⟩

/-- the hypotheses of R5 hold of the example pool (one thread's file is rewritten between its validation and its open) -/
example : let s := State.init rcSt rcPool
    RootOK s.g.st.staticsRoot [[115]] ∧ RootOK s.g.st.templatesRoot [[116]] ∧
    (∀ t ∈ s.threads, t.pc = .start) ∧
    (∀ t ∈ s.threads, t.sn.o ∈ seenOf s.threads ∧ t.sn.z ∈ seenOf s.threads) ∧
    (∀ t ∈ s.threads, ThreadOK s.g.st.staticsRoot s.g.st.templatesRoot [[115]] [[116]] t) := by
  refine ⟨rcRootS, rcRootT, ?_, ?_, ?_⟩
  · intro t ht
    simp only [State.init, rcPool, List.map, List.mem_cons, List.mem_nil_iff, or_false] at ht
    rcases ht with rfl | rfl | rfl | rfl <;> rfl
  · intro t ht
    simp only [State.init, rcPool, List.map, List.mem_cons, List.mem_nil_iff, or_false] at ht
    rcases ht with rfl | rfl | rfl | rfl <;> simp [seenOf, State.init, rcPool]
  · intro t ht
    simp only [State.init, rcPool, List.map, List.mem_cons, List.mem_nil_iff, or_false] at ht
    rcases ht with rfl | rfl | rfl | rfl
    · exact ⟨by decide, set_preserves_dirs _ _ _ (by decide), set_preserves_dirs _ _ _ (by decide),
        fun hs => absurd hs (by decide +kernel)⟩
    · exact ⟨by decide, leafOnly_const _ _ _ (by decide) (by decide) (by decide)⟩
    · exact ⟨by decide, leafOnly_const _ _ _ (by decide) (by decide) (by decide)⟩
    · trivial

/-! ## R6 — the second `find` matters (concrete two-thread witness) -/

/-- A (thread 0) validates and misses in its first critical section; B (thread 1) runs a whole lookup and inserts `v1 = [7]`;
the environment rewrites the file; A builds `v2 = [8]`, enters its second critical section, finds B's entry and returns
`v1` — the branch `chosen = it->second`.  Both calls return the same bytes and the cache holds them. -/
def rcWitness : List Nat := [0, 0, 0, 1, 1, 1, 1, 1, 1, 0, 0, 0]
def rcPool2 : List (RaceOp × Snaps) := [(.static [97], Snaps.switchAt rcFs rcFs2 .O), (.static [97], Snaps.const rcFs)]

theorem R_second_find_matters :
    let s := run Shape.gen (State.init rcSt rcPool2) rcWitness
    s.result 0 = some (.inl (.found ⟨[7], Gen.Assets.mimeDefault, none⟩)) ∧
    s.result 1 = some (.inl (.found ⟨[7], Gen.Assets.mimeDefault, none⟩)) ∧
    s.g.st.staticCache = [([97], ⟨[7], none⟩)] ∧ s.g.unguarded = false ∧
    -- A had built something else:
    (run Shape.gen (State.init rcSt rcPool2) (rcWitness.take 11)).threads.map (fun t => t.pc)
      = [.cs2 (.s ⟨[8], none⟩), .done (some (.inl (.found ⟨[7], Gen.Assets.mimeDefault, none⟩)))] := by decide +kernel

/-- the same schedule WITHOUT the second `find` (insertion still `emplace`): A returns its own `[8]` although the cache keeps
B's `[7]` — two calls for one key disagree and A's result is not the cached entry (R4 fails) -/
example :
    let s := run { Shape.gen with static := { Shape.gen.static with hasSecondFind := false } } (State.init rcSt rcPool2) rcWitness
    s.result 0 = some (.inl (.found ⟨[8], Gen.Assets.mimeDefault, none⟩)) ∧
    s.result 1 = some (.inl (.found ⟨[7], Gen.Assets.mimeDefault, none⟩)) ∧
    find false s.g.st [97] = some (.s ⟨[7], none⟩) := by decide +kernel

/-- WITHOUT the second `find` and with an overwriting insertion: the entry of the key CHANGES from `[7]` to `[8]` after B
already returned `[7]` (`R4_emplace_never_overwrites` fails) -/
example :
    let s := run { Shape.gen with static := { Shape.gen.static with hasSecondFind := false, emplace := false } }
      (State.init rcSt rcPool2) rcWitness
    s.result 1 = some (.inl (.found ⟨[7], Gen.Assets.mimeDefault, none⟩)) ∧
    find false s.g.st [97] = some (.s ⟨[8], none⟩) := by decide +kernel

/-- second `find` and insertion in two lock scopes: both threads miss, both insert; A returns `[8]`, the cache keeps `[7]` -/
example :
    let s := run { Shape.gen with static := { Shape.gen.static with find2EmplaceSameLock := false } }
      (State.init rcSt rcPool2) [0, 0, 0, 0, 0, 0, 1, 1, 1, 1, 1, 1, 1, 1, 0, 0]
    s.result 0 = some (.inl (.found ⟨[8], Gen.Assets.mimeDefault, none⟩)) ∧
    s.result 1 = some (.inl (.found ⟨[7], Gen.Assets.mimeDefault, none⟩)) ∧
    find false s.g.st [97] = some (.s ⟨[7], none⟩) ∧ s.g.unguarded = false := by decide +kernel

/-! ## the gated schedule the driver replays -/

/-- `gatedRace` is a run of the machine on an explicit schedule, so R2–R5 apply to it. -/
theorem R7_gatedRace_is_schedule (fs0 fs1 : Fs) (st : FsState) (tmplA : Bool) (nameA : Bytes) (bOp : RaceOp) :
    ∃ m, m ≤ soloLen ∧
      let s0 : State := { g := { st := st }, threads :=
        [{ op := if tmplA then .template nameA else .static nameA, sn := ⟨fs0, fs0, fs0, fs1, fs1, fs1⟩ },
         { op := bOp, sn := Snaps.const fs0 }] }
      let s3 := run Shape.gen s0 (List.replicate m 0 ++ List.replicate soloLen 1 ++ List.replicate soloLen 0)
      (gatedRace fs0 fs1 st tmplA nameA bOp).st = s3.g.st ∧
      (gatedRace fs0 fs1 st tmplA nameA bOp).resB = s3.result 1 ∧
      (gatedRace fs0 fs1 st tmplA nameA bOp).resA = orMiss tmplA (s3.result 0) ∧
      (gatedRace fs0 fs1 st tmplA nameA bOp).gated = atBuild (run Shape.gen s0 (List.replicate m 0)) 0 := by
  obtain ⟨m, hm, h⟩ := advanceToBuild_is_run Shape.gen 0 soloLen
    { g := { st := st }, threads :=
        [{ op := if tmplA then .template nameA else .static nameA, sn := ⟨fs0, fs0, fs0, fs1, fs1, fs1⟩ },
         { op := bOp, sn := Snaps.const fs0 }] }
  refine ⟨m, hm, ?_⟩
  simp only [gatedRace, run_append, h, and_self]

/-- B inserts first: A (gated at its build) returns B's `[7]`, not the `[8]` it read -/
example : let o := gatedRace rcFs rcFs2 rcSt false [97] (.static [97])
    o.gated = true ∧ o.resA = .inl (.found ⟨[7], Gen.Assets.mimeDefault, none⟩) ∧
    o.resB = some (.inl (.found ⟨[7], Gen.Assets.mimeDefault, none⟩)) ∧ o.st.staticCache = [([97], ⟨[7], none⟩)] := by decide +kernel
/-- B does nothing / reloads / looks a template up: A returns and caches what it read after the change -/
example : (gatedRace rcFs rcFs2 rcSt false [97] .none).resA = .inl (.found ⟨[8], Gen.Assets.mimeDefault, none⟩) ∧
    (gatedRace rcFs rcFs2 rcSt false [97] .reload).st.staticCache = [([97], ⟨[8], none⟩)] ∧
    (gatedRace rcFs rcFs2 rcSt false [97] (.template [112])).resB = some (.inr (some [5])) ∧
    (gatedRace rcFs rcFs2 rcSt false [97] (.template [112])).st.templateCache = [([112], [5])] := by decide +kernel
/-- A never reaches `build` (missing file; cache hit): not gated, B still runs -/
example : (gatedRace rcFs rcFs2 rcSt false [122] (.static [97])).gated = false ∧
    (gatedRace rcFs rcFs2 rcSt false [122] (.static [97])).resA = .inl .notFound ∧
    (gatedRace rcFs rcFs2 rcSt false [122] (.static [97])).resB = some (.inl (.found ⟨[7], Gen.Assets.mimeDefault, none⟩)) ∧
    (gatedRace rcFs rcFs2 { rcSt with staticCache := [([97], ⟨[1], none⟩)] } false [97] .reload).gated = false ∧
    (gatedRace rcFs rcFs2 { rcSt with staticCache := [([97], ⟨[1], none⟩)] } false [97] .reload).resA
      = .inl (.found ⟨[1], Gen.Assets.mimeDefault, none⟩) ∧
    (gatedRace rcFs rcFs2 { rcSt with staticCache := [([97], ⟨[1], none⟩)] } false [97] .reload).st.staticCache = [] := by decide +kernel
/-- per-request mode: gated right after validation, nothing is cached; template lookups are gated too -/
example : (gatedRace rcFs rcFs2 { rcSt with perRequest := true } false [97] (.static [97])).gated = true ∧
    (gatedRace rcFs rcFs2 { rcSt with perRequest := true } false [97] (.static [97])).resA
      = .inl (.found ⟨[8], Gen.Assets.mimeDefault, none⟩) ∧
    (gatedRace rcFs rcFs2 { rcSt with perRequest := true } false [97] (.static [97])).st.staticCache = [] ∧
    (gatedRace rcFs rcFs2 rcSt true [112] (.template [112])).gated = true ∧
    (gatedRace rcFs rcFs2 rcSt true [112] (.template [112])).resA = .inr (some [5]) := by decide +kernel

end Iora.C20
