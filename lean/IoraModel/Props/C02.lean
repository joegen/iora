import IoraModel.Model.LifecycleSites
import IoraModel.Lemmas.EngineCloseReq
import IoraModel.Lemmas.FdTags
import IoraModel.Lemmas.CloseFanout
import IoraModel.Lemmas.CloseDeliverCompose
/-!
# C02 — Every session gets exactly one close; nothing before announce or after close

The theorems quantify over EVERY configuration `cfg` (TLS contexts present or not, backpressure policy, limits, and the flags that
describe the source variant: TLS refusal, name binding, guarded peer-index erase - the driver fixes them to what the site table
proved equal to the source says) and EVERY history `is : List In` of the step system of
`Model/EngineLifecycle.lean`: application-thread API calls (connect / connectViaListener / close / send / stop), timer-thread
closes, and I/O-thread handler invocations, each carrying an arbitrary list of environment answers (kernel, OpenSSL, clocks,
fault-injection hooks) - i.e. over all interleavings and all fault sequences.  `g.tr` is the sequence of observable events
(connect() returns and the engine-level callbacks) of the history.  The ONLY theorem with a hypothesis about the environment is
`T3_data_after_announce_tcp`; the hypothesis (`Tcp.envOkHistory`) is a predicate on the INPUT history, not on the output.
The fd-tag theorems (fd reuse), T5 (close fan-out) and the Transport-level T3 are about their own models (`Model/FdTags.lean`,
`Model/CloseFanout.lean`, `Model/CloseDeliver.lean`); the latter assume the engine contract `EngineContract`, which
`T3_no_delivery_after_close_end_to_end` discharges from the engine model.
-/
namespace Iora.C02
open Iora.Lifecycle Iora.Lifecycle.Sites

/-- Tie (translator): the lifecycle sites found in tcp_engine.hpp are exactly the ones the model's table lists, in order,
with the same enclosing function, kind and guard (the guard includes every earlier block that ends in a jump). -/
theorem closeSites_covered_tcp : Iora.Gen.CloseSites.tcpSites = tcpTable.map (·.1) := rfl

/-- Tie (translator): same for udp_engine.hpp. -/
theorem closeSites_covered_udp : Iora.Gen.CloseSites.udpSites = udpTable.map (·.1) := rfl

/-- Every close transition of the model is the image of exactly one source site of its engine, and every source close site is a
model transition: the table is a bijection between `closeNow(`/`closeCb(` call sites and `Site` constructors (the `closeNow(`
of process() stands for the four `procClose` origins). -/
theorem closeSites_bijective :
    (closeRoles tcpTable).Nodup ∧ (closeRoles udpTable).Nodup ∧
    (∀ s : Site, s ∈ closeRoles tcpTable ∨ s ∈ closeRoles udpTable ∨ ∃ o, s = .procClose o) := by
  refine ⟨by decide, by decide, ?_⟩
  intro s; cases s <;> first | (left; decide) | (right; left; decide) | (right; right; exact ⟨_, rfl⟩)

/-- Tie (translator): the loops, the fd dispatch, the command dispatch, the shutdown drain, connect()/enqueue() and the Transport
close handler / observe / unobserve / setSessionData (with the mutexes they take) have the call order the model (and the stepped
harness) assumes; a new connect is registered for EPOLLIN|EPOLLOUT and updateInterest keeps EPOLLOUT while `connectPending`
(what lets a kernel honour the environment contract of T3c). -/
theorem skeletons_conform :
    Iora.Gen.CloseSites.tcpLoopUnbatched = loopUnbatched ∧ Iora.Gen.CloseSites.udpLoopUnbatched = loopUnbatched ∧
    Iora.Gen.CloseSites.tcpLoopBatched = loopBatched ∧ Iora.Gen.CloseSites.udpLoopBatched = loopBatched ∧
    Iora.Gen.CloseSites.tcpHandleFdEvent = handleFdEvent ∧ Iora.Gen.CloseSites.udpHandleFdEvent = handleFdEvent ∧
    Iora.Gen.CloseSites.tcpProcess = tcpProcess ∧ Iora.Gen.CloseSites.udpProcess = udpProcess ∧
    Iora.Gen.CloseSites.tcpShutdownDrain = shutdownDrain ∧ Iora.Gen.CloseSites.udpShutdownDrain = shutdownDrain ∧
    Iora.Gen.CloseSites.tcpConnect = tcpConnect ∧ Iora.Gen.CloseSites.udpConnect = udpConnect ∧
    Iora.Gen.CloseSites.udpConnectVia = udpConnectVia ∧
    Iora.Gen.CloseSites.tcpEnqueue = tcpEnqueue ∧ Iora.Gen.CloseSites.udpEnqueue = udpEnqueue ∧
    Iora.Gen.CloseSites.tcpConnectEpollMask = tcpConnectEpollMask ∧ Iora.Gen.CloseSites.tcpUpdateInterest = tcpUpdateInterest ∧
    Iora.Gen.CloseSites.fanout = fanout ∧ Iora.Gen.CloseSites.observe = observe ∧
    Iora.Gen.CloseSites.unobserve = unobserve ∧ Iora.Gen.CloseSites.setSessionData = setSessionData :=
  ⟨rfl, rfl, rfl, rfl, rfl, rfl, rfl, rfl, rfl, rfl, rfl, rfl, rfl, rfl, rfl, rfl, rfl, rfl, rfl, rfl, rfl⟩

/-- Tie (translator), restart: the shutdown drain leaves no fd tag of a freed session behind (tcp: the F35 repair), so that a
restarted engine (`apiStart`) starts from empty maps as the model says. -/
theorem drainErasesTags : Iora.Gen.CloseSites.tcpDrainErasesTags = true ∧ Iora.Gen.CloseSites.udpDrainErasesTags = true := by decide

/-- Tie (translator): `_nextSessionId` is a `std::atomic<SessionId>` in both engines (connect() on application threads and accepts on
the I/O thread allocate from it concurrently: the model's allocation steps are atomic), and every direct close-callback call site
works on its own copy of `_cbs.onClose` taken under `_cbMutex`. -/
theorem atomics_and_callback_copies :
    Iora.Gen.CloseSites.tcpNextIdAtomic = true ∧ Iora.Gen.CloseSites.udpNextIdAtomic = true ∧
    Iora.Gen.CloseSites.tcpCloseCbCalls = Iora.Gen.CloseSites.tcpOnCloseCopies ∧
    Iora.Gen.CloseSites.udpCloseCbCalls = Iora.Gen.CloseSites.udpOnCloseCopies := by decide

/-- Tie (translator), the API surface the step system takes as atomic actions: `close(sid)` of both engines is exactly one
`enqueue(Close sid)` (what `T2_close_request_honoured` is about); the three TimerService handlers are exactly one
`enqueue(Close sid origin)` with the origin the model's `In.timer` carries; `start()` re-opens the queue and creates the loop
without touching the session maps or the id counter; and `_nextSessionId` is used NOWHERE except its declaration (initial value =
the model's) and the post-increments the site table lists - no store, no assignment, no reset: ids cannot be reused, also not
across stop()/start() (a mutant `_nextSessionId.store(1)` in start() breaks this tie). -/
theorem api_skeletons_conform :
    Iora.Gen.CloseSites.tcpClose = tcpClose ∧ Iora.Gen.CloseSites.udpClose = udpClose ∧
    Iora.Gen.CloseSites.tcpTimerHandlers = tcpTimerHandlers ∧
    Iora.Gen.CloseSites.tcpStart = tcpStart ∧ Iora.Gen.CloseSites.udpStart = udpStart ∧
    Iora.Gen.CloseSites.tcpNextIdInit = (init {}).nextId ∧ Iora.Gen.CloseSites.udpNextIdInit = (init {}).nextId ∧
    Iora.Gen.CloseSites.tcpNextIdOtherUses = 0 ∧ Iora.Gen.CloseSites.udpNextIdOtherUses = 0 ∧
    Iora.Gen.CloseSites.tcpNextIdAllocs = (tcpTable.filter (·.1.kind == "idAlloc")).length ∧
    Iora.Gen.CloseSites.udpNextIdAllocs = (udpTable.filter (·.1.kind == "idAlloc")).length :=
  ⟨rfl, rfl, rfl, rfl, rfl, rfl, rfl, rfl, rfl, rfl, rfl⟩

/-- Tie (translator): both `_peerIndex.erase` sites of UdpEngine (closeNow, shutdownDrain) erase the entry only when it maps to the
closing session (repair F17) - the two configuration flags the lockstep driver instantiates the model with (`peerEraseGuarded`,
`peerEraseGuardedDrain`); the theorems hold for either value, the pin makes a flip of the source visible at the proof layer too. -/
theorem udp_peer_erase_guarded :
    Iora.Gen.CloseSites.udpPeerEraseGuardedCloseNow = true ∧ Iora.Gen.CloseSites.udpPeerEraseGuardedDrain = true := by decide

/-- **fd reuse** (the layer below the lifecycle model: which session a kernel event on an fd NUMBER reaches).  For
every history of session creations on fd numbers the kernel hands out (never one that is still open - reuse of CLOSED numbers is
the point), `closeNow`s and shutdown drains (each followed by a possible restart: start() does not touch the maps), the session
`handleFdEvent` dispatches an event on `fd` to is in the session map, not closed, and owns exactly that fd - a stale event on a
reused fd number reaches the live NEW owner, never a freed or closed session.  The model instance is DEFINED from the translator
fact `drain erases the tags` of either engine (`drainErasesTags`). -/
theorem fd_tags_point_at_live_owner (erases : Bool)
    (he : erases = Iora.Gen.CloseSites.tcpDrainErasesTags ∨ erases = Iora.Gen.CloseSites.udpDrainErasesTags)
    (ops : List Iora.FdTags.Op) (fd : Iora.FdTags.Fd) (sid : Iora.FdTags.Sid)
    (h : Iora.FdTags.dispatch (Iora.FdTags.run { erases := erases } ops) fd = some sid) :
    ∃ s, (Iora.FdTags.run { erases := erases } ops).sess sid = some s ∧ s.fd = fd ∧ s.closed = false := by
  have e : erases = true := by
    rcases he with he | he
    · rw [he]; exact drainErasesTags.1
    · rw [he]; exact drainErasesTags.2
  exact (Iora.FdTags.inv_run ops (t := { erases := erases }) e (Iora.FdTags.inv_init erases)).tag_live fd sid h

/-- fd reuse, the other direction: every open session is reachable - it is tagged under its own (open) fd -/
theorem fd_tags_cover_open_sessions (ops : List Iora.FdTags.Op) (sid : Iora.FdTags.Sid) (s : Iora.FdTags.Sess)
    (hs : (Iora.FdTags.run { erases := Iora.Gen.CloseSites.tcpDrainErasesTags } ops).sess sid = some s) (hc : s.closed = false) :
    Iora.FdTags.dispatch (Iora.FdTags.run { erases := Iora.Gen.CloseSites.tcpDrainErasesTags } ops) s.fd = some sid :=
  ((Iora.FdTags.inv_run ops (t := { erases := Iora.Gen.CloseSites.tcpDrainErasesTags }) drainErasesTags.1
    (Iora.FdTags.inv_init _)).open_tagged sid s hs hc).2

/-- the variant WITHOUT the tag erase in the drain (the code before repair F35) -/
def F35_statement : Prop :=
  ∀ (ops : List Iora.FdTags.Op) (fd : Iora.FdTags.Fd) (sid : Iora.FdTags.Sid),
    Iora.FdTags.dispatch (Iora.FdTags.run { erases := false } ops) fd = some sid →
    ∃ s, (Iora.FdTags.run { erases := false } ops).sess sid = some s ∧ s.fd = fd ∧ s.closed = false

/-- F35: session 1 on fd 5, stop (drain), start, session 2 gets fd 5 again: `emplace` does not overwrite the stale tag, the event of
session 2 is dispatched to the freed session 1 -/
theorem F35_refuted : ¬ F35_statement := by
  intro h
  obtain ⟨s, hs, _⟩ := h [.insert 1 5, .drain, .insert 2 5] 5 1 (by decide)
  have hn : (Iora.FdTags.run { erases := false } [.insert 1 5, .drain, .insert 2 5]).sess 1 = none := by decide
  rw [hn] at hs; cases hs

/-- reuse after a `closeNow`: the third owner of fd 5 gets its event -/
example : Iora.FdTags.dispatch (Iora.FdTags.run {} [.insert 1 5, .drain, .insert 2 5, .insert 3 6, .closeNow 2, .insert 4 5]) 5 = some 4 := by decide

inductive Engine | tcp | udp

def Engine.step : Engine → G → In → G
  | .tcp => Tcp.step
  | .udp => Udp.step

def after (e : Engine) (cfg : Cfg) (is : List In) : G := run e.step (init cfg) is

/-- every reachable state satisfies `Good2`: the lifecycle invariant `Inv` with no request in flight between steps (`SInv`), no
dangling access, no closed flag outside the drain (`Good`), and no second connect callback -/
theorem reachable2 (e : Engine) (cfg : Cfg) (is : List In) : Good2 (after e cfg is) := by
  cases e
  · exact Tcp.good2_run cfg is
  · exact (Udp.goodU_run cfg is).good2

theorem reachable (e : Engine) (cfg : Cfg) (is : List In) : SInv (after e cfg is) :=
  (reachable2 e cfg is).good.sinv

/-- **T1** Never two: for every history, every session id occurs in at most one close notification. -/
theorem T1_at_most_one_close (e : Engine) (cfg : Cfg) (is : List In) :
    (closesOf (after e cfg is).tr).Nodup :=
  (reachable e cfg is).inv.cl_nd

/-- **T2** Never none after an orderly stop: once the shutdown drain has run (`phase = stopped`), every id the application has
seen - returned by connect()/connectViaListener(), or announced by an accept/connect callback - has been closed, and by T1
exactly once (`count = 1`).  This is the statement that is false of the code before the F30 repair (a `Connect` left in the
residual queue). -/
theorem T2_exactly_one_close_after_stop (e : Engine) (cfg : Cfg) (is : List In)
    (hstop : (after e cfg is).phase = .stopped) (sid : Sid)
    (hseen : sid ∈ retOf (after e cfg is).tr ∨ sid ∈ annOf (after e cfg is).tr) :
    (closesOf (after e cfg is).tr).count sid = 1 :=
  (reachable e cfg is).inv.cl_nd.count.trans (if_pos (stopped_closed (reachable e cfg is) hstop hseen))

/-- T2, while running: an id the application has seen and that is not closed yet is still accounted for - its request is
pending in the command queue, or its session is in the table (so a later close / the drain will reach it). -/
theorem T2_open_ids_are_tracked (e : Engine) (cfg : Cfg) (is : List In) (sid : Sid)
    (hseen : sid ∈ retOf (after e cfg is).tr ∨ sid ∈ annOf (after e cfg is).tr)
    (hopen : sid ∉ closesOf (after e cfg is).tr) :
    sid ∈ pend (after e cfg is) ∨ ∃ s, (after e cfg is).table sid = some s ∧ s.closed = false :=
  have h := (reachable e cfg is).inv
  (Seen.dom hseen h).imp_right fun hr => (hr.resolve_right hopen).imp fun _ hs => ⟨hs, Bool.eq_false_iff.2 (mt (h.tbl_cl _ _ hs).1 hopen)⟩

/-- **T2, an accepted close() request is honoured** (what seeded change C04-d of DESIGN §12.2 breaks).  Take any history `is₁`, an id the
application has seen by then (connect()/connectViaListener() returned it, or a callback announced it), a call `close(sid)` at a moment
the command queue accepts it (`cmdsClosed = false`: `close()` answers true), and any continuation `is₂` - other API calls, timers,
I/O events, faults, stop, restart - at whose end the I/O thread has no work left (`queue = batch = []`: every queued command has been
taken by process(), or the drain has run).  Then the id HAS its close notification (by T1 exactly one).  The request cannot be lost:
it is queued FIFO behind the id's own Connect, so when process() reaches it the session is in the table - or already closed. -/
theorem T2_close_request_honoured (e : Engine) (cfg : Cfg) (is₁ is₂ : List In) (sid : Sid)
    (hseen : sid ∈ retOf (after e cfg is₁).tr ∨ sid ∈ annOf (after e cfg is₁).tr)
    (hopen : (after e cfg is₁).cmdsClosed = false)
    (hdone : (after e cfg (is₁ ++ In.apiClose sid :: is₂)).queue = [] ∧ (after e cfg (is₁ ++ In.apiClose sid :: is₂)).batch = []) :
    sid ∈ closesOf (after e cfg (is₁ ++ In.apiClose sid :: is₂)).tr := by
  have hrun : after e cfg (is₁ ++ In.apiClose sid :: is₂) = run e.step (after e cfg is₁) (In.apiClose sid :: is₂) := run_append ..
  rw [hrun] at hdone ⊢
  cases e
  · exact close_request_honoured Tcp.step (fun g i h => (Tcp.good2_step g i h).1) Tcp.step_hon (fun _ _ => rfl) _
      (Tcp.good2_run cfg is₁) sid hseen hopen is₂ hdone.1 hdone.2
  · exact close_request_honoured Udp.step Udp.goodU_step Udp.step_hon (fun _ _ => rfl) _
      (Udp.goodU_run cfg is₁) sid hseen hopen is₂ hdone.1 hdone.2

/-- the hypotheses of `T2_close_request_honoured` are satisfiable by a non-trivial history - connect, close() while the Connect is
still queued (the shape of seed C04-d), one process() - and the conclusion is the `Unknown/app` close of `procClose` -/
example : (after .tcp {} ([.apiConnect .none false] ++ In.apiClose 1 :: [.ioSwap, .ioCmd [.again, .ok, .ok], .ioCmd []])).tr =
    [.ret 1 true, .announce 1 .connect, .close 1 (.procClose .app)] := by decide
example : (after .tcp {} ([.apiConnect .none false] ++ In.apiClose 1 :: [.ioSwap, .ioCmd [.again, .ok, .ok], .ioCmd []])).queue = [] ∧
    (after .tcp {} ([.apiConnect .none false] ++ In.apiClose 1 :: [.ioSwap, .ioCmd [.again, .ok, .ok], .ioCmd []])).batch = [] := by decide
/-- FC02b: a connect by name whose resolver thread cannot be created (`A.throw`) ends with the close of its id -/
example : (after .tcp {} [.apiConnect .none true, .ioSwap, .ioCmd [.throw]]).tr = [.ret 1 true, .close 1 .resolveThrow] := by decide

/-- **T3a** Nothing after the close - unconditionally, for every history and every environment: every engine callback (accept,
connect, data, close) is for an id that has not been closed before it. -/
theorem T3_nothing_after_close (e : Engine) (cfg : Cfg) (is : List In)
    (pre : List Out) (o : Out) (post : List Out) (hsplit : (after e cfg is).tr = pre ++ o :: post)
    (sid : Sid) (hsid : evSid o = some sid) : sid ∉ closesOf pre :=
  allFrom_split_nil (reachable e cfg is).inv.ord.closed hsplit sid hsid

/-- **T3b** At most one accept callback and at most one connect callback per id - unconditionally. (A TLS session accepted by a
listener gets both: `onAccept` when the TCP connection is accepted, `onConnect` when its handshake completes.) -/
theorem T3_announce_at_most_once (e : Engine) (cfg : Cfg) (is : List In)
    (pre : List Out) (sid : Sid) (k : AnnKind) (post : List Out) (hsplit : (after e cfg is).tr = pre ++ Out.announce sid k :: post) :
    Out.announce sid k ∉ pre :=
  allFrom_split_nil ((reachable e cfg is).inv.ord.once (reachable2 e cfg is).nodup) hsplit

/-- **T3c (UDP)** Data only after the accept/connect callback - unconditionally on the UDP engine. -/
theorem T3_data_after_announce_udp (cfg : Cfg) (is : List In)
    (pre : List Out) (sid : Sid) (post : List Out) (hsplit : (after .udp cfg is).tr = pre ++ Out.data sid :: post) :
    sid ∈ annOf pre :=
  allFrom_split_nil ((reachable .udp cfg is).inv.ord.data (Udp.goodU_run cfg is).noenv) hsplit

/-- **T3c (TCP)** Data only after the accept/connect callback, in every history whose steps honour the ENVIRONMENT CONTRACT
`Tcp.envOk` - an input hypothesis, evaluated on the state before each step: the kernel does not return payload from a socket whose
connect has not completed (see `Tcp.envOkSession`).  It concerns plain client sessions with a pending connect only; TLS and
accepted sessions need no hypothesis.  (The harness checks the same fact on the real engine with no excuse: an `onData` before
`onConnect` on real loopback sockets is reported as a property violation.) -/
theorem T3_data_after_announce_tcp (cfg : Cfg) (is : List In) (henv : Tcp.envOkHistory Tcp.step (init cfg) is = true)
    (pre : List Out) (sid : Sid) (post : List Out) (hsplit : (after .tcp cfg is).tr = pre ++ Out.data sid :: post) :
    sid ∈ annOf pre := by
  have he : (after .tcp cfg is).envBad = false := Tcp.env_run (init cfg) is (good2_init cfg) henv
  exact allFrom_split_nil ((reachable .tcp cfg is).inv.ord.data he) hsplit

/-- state form of T3a: a live table entry has never been closed (so no handler can emit for a closed id) -/
theorem T3_live_entries_not_closed (e : Engine) (cfg : Cfg) (is : List In) (sid : Sid) (s : Sess)
    (hlive : (after e cfg is).table sid = some s) (hopen : s.closed = false) :
    sid ∉ closesOf (after e cfg is).tr :=
  fun hm => nomatch hopen.symm.trans (((reachable e cfg is).inv.tbl_cl sid s hlive).2 hm)

/-- **T4** Ids are never reused: the ids the application sees allocated (every connect() call, every accept) are strictly
increasing along the history - so pairwise distinct - and every id that occurs anywhere is below the allocation counter. -/
theorem T4_ids_strictly_increase (e : Engine) (cfg : Cfg) (is : List In) :
    (allocsOf (after e cfg is).tr).Pairwise (· < ·) ∧
    (∀ sid, sid ∈ allocsOf (after e cfg is).tr → sid < (after e cfg is).nextId) ∧
    (∀ sid, sid ∈ closesOf (after e cfg is).tr → sid < (after e cfg is).nextId) ∧
    (∀ sid, sid ∈ annOf (after e cfg is).tr → sid < (after e cfg is).nextId) :=
  let h := (reachable e cfg is).inv
  ⟨h.alloc_sorted, h.alloc_lt, h.cl_lt, h.ann_lt⟩

/-- **T6** The gauge: after every history `sessionsCurrent` equals the number of sessions in the table that are not closed
(so it can neither under-count nor go negative), every announced and not yet closed session is among them, and after the
drain it is zero. -/
theorem T6_gauge (e : Engine) (cfg : Cfg) (is : List In) :
    (after e cfg is).current = (liveCount (after e cfg is) : Int) ∧
    (∀ sid, sid ∈ annOf (after e cfg is).tr → sid ∉ closesOf (after e cfg is).tr → live (after e cfg is) sid = true) ∧
    ((after e cfg is).phase = .stopped → (after e cfg is).current = 0) := by
  have h := reachable e cfg is
  refine ⟨h.inv.gauge, ?_, ?_⟩
  · intro sid ha hc
    rcases T2_open_ids_are_tracked e cfg is sid (.inr ha) hc with hp | ⟨s, hs, hcf⟩
    · exact absurd ha (h.inv.pend_ann sid hp)
    · exact live_iff.2 ⟨s, hs, hcf⟩
  · intro hs
    obtain ⟨_, _, _, ht⟩ := h.stop.stopped hs
    rw [h.inv.gauge, liveCount_eq_zero fun x s hx => nomatch (ht x).symm.trans hx]
    rfl

/-- No dangling session access: the model sets `stale` exactly where the C++ would use a `Session*` after the session was erased
from the map (or `cr.sid` of a request that is not in flight).  No history does: after every `closeNow` the handlers return or
re-look the session up before touching it again.  (Together with the acceptor this is what the `!stale` flag of the driver and
ASan on the real engine check from the other side: mutant M2, a dropped `return` after the EPOLLHUP close, is caught there.) -/
theorem no_dangling_session_access (e : Engine) (cfg : Cfg) (is : List In) : (after e cfg is).stale = false :=
  (reachable2 e cfg is).good.nostale

/-- UDP peer index (with or without the F17 repair): a datagram is only ever routed to a live, announced session of that peer. -/
theorem udp_index_points_at_live_sessions (cfg : Cfg) (is : List In) (k : Key) (sid : Sid)
    (h : (after .udp cfg is).index k = some sid) :
    ∃ s, (after .udp cfg is).table sid = some s ∧ s.closed = false ∧ s.announced = true ∧ s.pkey = some k :=
  (reachable .udp cfg is).inv.idx_live k sid h

/-! ### the hypotheses are satisfiable, the statements are not vacuous -/

/-- the F30 history: connect, stop; the I/O thread drains; a second connect() lands after the drain's process() - it is returned
to the application (`ret 2 true`) and closed by the residual loop. -/
def f30History : List In :=
  [.apiConnect .none false, .ioSwap, .ioCmd [.again, .ok, .ok], .apiStop, .ioDrainBegin, .ioCmd [], .ioDrainClose 1,
   .apiConnect .none false, .ioDrainFinish]

example : (after .tcp {} f30History).phase = .stopped := by decide
example : (after .tcp {} f30History).tr =
    [.ret 1 true, .announce 1 .connect, .close 1 .drainSession, .ret 2 true, .close 2 .drainResidual] := by decide
/-- restart: ids keep counting, the second run is drained like the first -/
example : (after .tcp {} (f30History ++ [.apiStart, .apiConnect .none false, .apiStop, .ioDrainBegin, .ioCmd [], .ioCmd [], .ioDrainFinish])).tr =
    [.ret 1 true, .announce 1 .connect, .close 1 .drainSession, .ret 2 true, .close 2 .drainResidual,
     .ret 3 true, .close 3 .drainSession] := by decide
example : (2 : Sid) ∈ retOf (after .tcp {} f30History).tr := by decide
example : Tcp.envOkHistory Tcp.step (init {}) f30History = true := by decide
/-- a history that breaks the environment contract: payload bytes on a client socket before its connect completed (EPOLLIN without
EPOLLOUT on a socket the engine registered for both) -/
example : Tcp.envOkHistory Tcp.step (init {})
    [.apiConnect .none false, .ioSwap, .ioCmd [.again, .ok, .again], .ioSession 1 true false false [.data]] = false := by decide
/-- ... and one that honours it although data arrives in the same event as the connect completion -/
example : Tcp.envOkHistory Tcp.step (init {})
    [.apiConnect .none false, .ioSwap, .ioCmd [.again, .ok, .again], .ioSession 1 true true false [.ok, .ok, .ok, .data, .again]] = true := by decide
example : (after .tcp {} [.apiConnect .none false, .ioSwap, .ioCmd [.again, .ok, .again], .ioSession 1 true true false [.ok, .ok, .ok, .data, .again]]).tr =
    [.ret 1 true, .announce 1 .connect, .data 1] := by decide

open Iora.Fanout in
/-- **T5** One close: the callbacks are the global close callback first (if one is installed), then every observer that is
registered when the global callback returns, in registration order, each exactly once, then the cleanup of the user data that is
set when the last observer returns (if it has a cleanup function and a non-null pointer) - for every state and whatever the
callbacks themselves do (observe / unobserve / setSessionData from inside callbacks). -/
theorem T5_fanout_shape (sid : Fanout.Sid) (f : F) :
    (closeFan sid f).2.filter isCb =
      (if f.hasGlobal then [Fanout.Out.global sid] else []) ++ ((globalPart sid f).1.observers sid).map (Fanout.Out.observer sid) ++
      cleanupOf sid (observerPart sid (globalPart sid f).1).1 := by
  unfold closeFan
  simp only [List.filter_append, globalPart_cbs, observerPart_cbs, cleanupPart_cbs]

open Iora.Fanout in
/-- T5, exactly once: after a close the session's observers and user data are gone from the maps - a second close notification
for the same id (impossible by T1) would reach the global callback only. -/
theorem T5_fanout_once (sid : Fanout.Sid) (f : F) (hi : f.inside = []) :
    (closeFan sid (closeFan sid f).1).2 = if f.hasGlobal then [Fanout.Out.global sid] else [] := by
  obtain ⟨h2, h3, h4, h5⟩ := closeFan_state sid f hi
  rw [closeFan_bare sid _ h2 h4 h5, h3]

open Iora.Fanout in
/-- T5, "registered, in registration order, each once" for every history of observe / unobserve / setSessionData / close
(including calls from inside callbacks): the observer list of a session is strictly increasing in observer id - ids are handed
out in call order - and agrees with the id -> session index (an id is in a list iff it is registered and not unregistered). -/
theorem T5_observers_registration_order (g : Bool) (ops : List Op) (sid : Fanout.Sid) :
    ((runOps { hasGlobal := g } ops).observers sid).Pairwise (· < ·) ∧
    (∀ o, o ∈ (runOps { hasGlobal := g } ops).observers sid ↔ (runOps { hasGlobal := g } ops).obsIndex o = some sid) := by
  have h := finv_run ops (finv_init g)
  exact ⟨h.sorted sid, fun o => ⟨h.idx_of_mem sid o, h.mem_of_idx o sid⟩⟩

open Iora.Fanout in
example : (closeFan 7 (runOps { hasGlobal := true } [.act (.observe 7), .act (.observe 7), .act (.setData 7 3 true), .act (.unobserve 1)])).2 =
    [.global 7, .observer 7 2, .cleanup 7 3] := by decide

/-! ## nothing after the close, at the Transport level (T3 for the callbacks the APPLICATION sees) -/

/-- Tie (translator): the syncMutex block of the Transport close handler and the entry of `Transport::setReadMode` are, statement by
statement, what `Model/CloseDeliver.lean` mirrors; in particular the close handler erases the session's read mode unconditionally
(seeded change C02-c makes it conditional on an empty buffer), `setReadMode` returns (true, having done nothing) for a closed
tombstone before it touches `readModes` (repair FC02a), and the handler runs that block BEFORE the global close callback and the
observers (repair FC03c; the `fanout` token skeleton of `skeletons_conform` pins the same order with the locks) - the three facts
`T3_no_delivery_after_close_transport` needs (`Deliver.Sound`). -/
theorem delivery_skeletons_conform :
    Iora.Gen.CloseSites.closeStep6 = closeStep6 ∧ Iora.Gen.CloseSites.setReadModeEntry = setReadModeEntry ∧
    Iora.Gen.CloseSites.closeErasesModeAlways = true ∧ Iora.Gen.CloseSites.setReadModeRefusesTombstone = true ∧
    Iora.Gen.CloseSites.closeMarksBeforeCallbacks = true := ⟨rfl, rfl, rfl, rfl, rfl⟩

/-- the model instance the driver runs is the sound one: its three variant flags are the Gen facts -/
theorem delivery_variant_sound (c : Iora.Deliver.Cfg)
    (h1 : c.eraseAlways = Iora.Gen.CloseSites.closeErasesModeAlways) (h2 : c.tombGuard = Iora.Gen.CloseSites.setReadModeRefusesTombstone)
    (h3 : c.markFirst = Iora.Gen.CloseSites.closeMarksBeforeCallbacks) :
    Iora.Deliver.Sound c := by
  rw [Iora.Deliver.Sound, h1, h2, h3]
  obtain ⟨-, -, e1, e2, e3⟩ := delivery_skeletons_conform
  exact ⟨e1, e2, e3⟩

open Iora.Deliver in
/-- What holds of the callbacks-first order, and of ANY order: if no op stands inside a window - at every op, every id
whose close callbacks have been started has been marked closed too, unless the op is that very mark (`WindowEmpty`; for the
callbacks-first order: the two halves of every handler run are adjacent in the history) - then nothing is
delivered after the close.  The order flag plays no role: `T3_no_delivery_after_close_transport` is the instance "mark-first
histories have no window". -/
theorem T3_window_partial (cfg : Deliver.Cfg) (he : cfg.eraseAlways = true) (hg : cfg.tombGuard = true)
    (ops : List Deliver.Op) (hc : EngineContract ops) (hw : WindowEmpty ops)
    (pre : List Deliver.Out) (sid : Deliver.Sid) (post : List Deliver.Out)
    (hsplit : Deliver.run (Deliver.init cfg) ops = pre ++ Deliver.Out.closeH sid :: post) :
    ∀ e ∈ post, ¬ delFor sid e :=
  traceOk_split (run_traceOk ops (Deliver.init cfg) ⟨he, hg⟩ (valid_init_of_contract cfg ops hc hw) (inv_init cfg)) pre sid post hsplit

open Iora.Deliver in
/-- **T3 (Transport)** Nothing is delivered after the close, at the level of the callbacks the application registers with
`Transport`: for every configuration of the sound variant (incl. the handler order of repair FC03c: marked closed BEFORE the close
callbacks) and EVERY history of engine callbacks (accept, connect, data, and the close handler as its TWO halves `closeMark` /
`closeCbs` - for any ids, any payloads) and complete application calls (`setReadMode` to any mode, `receiveSync` of any length, on
any id, open, closed or unknown - ALSO between the two halves of a handler run, i.e. on another thread while the close callbacks
are about to run or running) in which the handler runs have the order of the configuration (`HandlerOrder cfg.markFirst`) and the
ENGINE honours its contract `EngineContract` (no accept / connect / data for an id once its close handler has been entered - what
`T3_nothing_after_close` proves of both engines), no accept, connect or data callback for an id follows the start of its close
callbacks (`closeH sid`: the global close callback and the observers of T5 fire there).  In particular the bytes a Sync / Disabled
session had buffered when it closed are never flushed through the data callback by a `setReadMode(sid, Async)` that runs while or
after the close callbacks run, whatever mode switches precede it - they stay readable through `receiveSync` (C03 T2/T7). -/
theorem T3_no_delivery_after_close_transport (cfg : Deliver.Cfg) (hs : Sound cfg) (ops : List Deliver.Op) (hc : EngineContract ops)
    (ho : HandlerOrder cfg.markFirst ops)
    (pre : List Deliver.Out) (sid : Deliver.Sid) (post : List Deliver.Out)
    (hsplit : Deliver.run (Deliver.init cfg) ops = pre ++ Deliver.Out.closeH sid :: post) :
    ∀ e ∈ post, ¬ delFor sid e :=
  T3_window_partial cfg hs.1 hs.2.1 ops hc (windowEmpty_of_order ops (hs.order ho)) pre sid post hsplit

open Iora.Deliver in
/-- **T3 (engine ∘ Transport)** The engine hypothesis of `T3_no_delivery_after_close_transport` is a THEOREM of the engine model: take
any engine (TCP or UDP), any configuration and any history `is` of it, and any Transport history `ops` (handler runs in the order of
the sound configuration) whose engine-originated ops are - in order, with arbitrary payloads and arbitrary `setReadMode` /
`receiveSync` calls in between, also inside a handler run - the callbacks of that engine history (`opShape` / `outShape` project
both sides to (close?, id); of the two halves of a handler run the FIRST one, `closeMark`, is the engine's close event, the other
maps to nothing).  Then no accept / connect / data callback of the application follows the close callbacks of its id.  No
hypothesis about the engine is left. -/
theorem T3_no_delivery_after_close_end_to_end (e : Engine) (cfg : Lifecycle.Cfg) (is : List In)
    (dcfg : Deliver.Cfg) (hs : Sound dcfg) (ops : List Deliver.Op) (ho : HandlerOrder dcfg.markFirst ops)
    (hproj : ops.filterMap (opShape dcfg.markFirst) = (after e cfg is).tr.filterMap outShape)
    (pre : List Deliver.Out) (sid : Deliver.Sid) (post : List Deliver.Out)
    (hsplit : Deliver.run (Deliver.init dcfg) ops = pre ++ Deliver.Out.closeH sid :: post) :
    ∀ ev ∈ post, ¬ delFor sid ev :=
  T3_no_delivery_after_close_transport dcfg hs ops
    (contract_of_engine_trace (after e cfg is).tr (reachable e cfg is).inv.ord.closed ops
      (markBefore_of_order ops (hs.order ho)) (hs.2.2 ▸ hproj)) ho pre sid post hsplit

open Iora.Deliver in
/-- the projection hypothesis is satisfiable by a non-trivial pair: the F30 engine history (two sessions, both closed by the drain)
under a Transport history with mode switches and receives in between - one of them INSIDE the handler run of session 1 -/
example : ([.engConnect 1, .setMode 1 .sync, .closeMark 1, .setMode 1 .async, .closeCbs 1, .recv 1 4, .closeMark 2, .closeCbs 2] : List Deliver.Op).filterMap (opShape true) =
    (after .tcp {} f30History).tr.filterMap outShape := by decide
open Iora.Deliver in
example : HandlerOrder true [.engConnect 1, .setMode 1 .sync, .closeMark 1, .setMode 1 .async, .closeCbs 1, .recv 1 4, .closeMark 2, .closeCbs 2] := by decide
open Iora.Deliver in
/-- ... and with payload: connect completion and data in one event, any bytes on the Transport side -/
example : ([.setMode 1 .disabled, .engConnect 1, .engData 1 [7, 8]] : List Deliver.Op).filterMap (opShape true) =
    (after .tcp {} [.apiConnect .none false, .ioSwap, .ioCmd [.again, .ok, .again], .ioSession 1 true true false [.ok, .ok, .ok, .data, .again]]).tr.filterMap outShape := by decide

open Iora.Deliver in
/-- state form: after every such history an id whose close callbacks have been started either has no read mode and a closed tombstone
(which `setReadMode` leaves alone), or nothing buffered at all - there is nothing a flush could deliver. -/
theorem T3_closed_ids_cannot_flush (cfg : Deliver.Cfg) (hs : Sound cfg) (ops : List Deliver.Op) (hc : EngineContract ops)
    (ho : HandlerOrder cfg.markFirst ops) (sid : Deliver.Sid) (hclosed : Op.closeCbs sid ∈ ops) :
    let t := runState (Deliver.init cfg) ops
    (t.modes sid = none ∧ tomb t sid = true) ∨ bufData t sid = [] :=
  have ho' : HandlerOrder true ops := hs.order ho
  runState_inv ops (Deliver.init cfg) hs.state (valid_init_of_contract cfg ops hc (windowEmpty_of_order ops ho')) (inv_init cfg) sid
    ((runState_marked ops (Deliver.init cfg) sid).mpr (Or.inr (mark_mem_of_cbs_mem (markBefore_of_order ops ho') (List.append_nil ops).symm hclosed)))

/-! ### the window of the callbacks-first order (the code before repair FC03c) -/

open Iora.Deliver in
/-- the full-strength statement for the OLD handler order (global close callback and observers first, the closed mark / tombstone /
`readModes.erase` afterwards), everything else as in `T3_no_delivery_after_close_transport`, application calls inside the window
included -/
def T3_window_statement : Prop :=
  ∀ (cfg : Deliver.Cfg), cfg.eraseAlways = true → cfg.tombGuard = true → cfg.markFirst = false →
  ∀ (ops : List Deliver.Op), EngineContract ops → HandlerOrder cfg.markFirst ops →
  ∀ (pre : List Deliver.Out) (sid : Deliver.Sid) (post : List Deliver.Out),
    Deliver.run (Deliver.init cfg) ops = pre ++ Deliver.Out.closeH sid :: post → ∀ e ∈ post, ¬ delFor sid e

open Iora.Deliver in
/-- The defect repair FC03c removes: Sync, two bytes arrive, the handler starts its
close callbacks, ANOTHER thread completes `setReadMode(5, Async)` - no tombstone yet, so the FC02a guard does not apply and the
ordered flush hands the tail to the data callback after the close callback - and only then the handler marks the buffer closed. -/
theorem T3_window_refuted : ¬ T3_window_statement := by
  intro h
  have h1 := h { markFirst := false } rfl rfl rfl
    [.setMode 5 .sync, .engData 5 [170, 187], .closeCbs 5, .setMode 5 .async, .closeMark 5]
    (contract_of_check _ (by decide)) (by decide)
    [.modeRet 5 true] 5 [.dataCb 5 [170, 187], .modeRet 5 true] (by decide)
  exact h1 (.dataCb 5 [170, 187]) (by simp) rfl

open Iora.Deliver in
/-- the trace of the witness, spelled out: close callback, THEN the data callback -/
example : Deliver.run (Deliver.init { markFirst := false }) [.setMode 5 .sync, .engData 5 [170, 187], .closeCbs 5, .setMode 5 .async, .closeMark 5] =
    [.modeRet 5 true, .closeH 5, .dataCb 5 [170, 187], .modeRet 5 true] := by decide
open Iora.Deliver in
/-- ... the same calls around a handler run of the repaired order: the switch inside the handler is vacuous, the tail stays for receiveSync -/
example : Deliver.run (Deliver.init {}) (.setMode 5 .sync :: .engData 5 [170, 187] :: handlerOps true 5 [.setMode 5 .async] ++ [.recv 5 8, .recv 5 8]) =
    [.modeRet 5 true, .modeRet 5 true, .closeH 5, .recvRet 5 (.bytes [170, 187]), .recvRet 5 .peerClosed] := by decide

open Iora.Deliver in
/-- the partial theorem's hypothesis is satisfiable by a callbacks-first history with calls before and after the (empty) window -/
example : WindowEmpty (.setMode 5 .sync :: .engData 5 [1] :: handlerOps false 5 [] ++ [.setMode 5 .async, .recv 5 1]) := by
  -- element by element: the only op behind `closeCbs 5` that is not behind `closeMark 5` too is that mark
  show AllSplits _ [Op.setMode 5 .sync, .engData 5 [1], .closeCbs 5, .closeMark 5, .setMode 5 .async, .recv 5 1]
  iterate 6 refine allSplits_cons.2 ⟨by simp, ?_⟩
  exact allSplits_nil

open Iora.Deliver in
/-- the engine contract is needed: data the ENGINE reports after its own close goes straight to the data callback (Async) -/
example : Deliver.run (Deliver.init {}) [.closeMark 5, .closeCbs 5, .engData 5 [1]] = [.closeH 5, .dataCb 5 [1]] := by decide
open Iora.Deliver in
/-- FC02a, the unrepaired variant (`tombGuard := false`): Sync, two bytes arrive, close, then Sync and Async again - the tail is
flushed through the data callback after the close -/
example : Deliver.run (Deliver.init { tombGuard := false }) [.setMode 5 .sync, .engData 5 [170, 187], .closeMark 5, .closeCbs 5, .setMode 5 .sync, .setMode 5 .async] =
    [.modeRet 5 true, .closeH 5, .modeRet 5 true, .dataCb 5 [170, 187], .modeRet 5 true] := by decide
open Iora.Deliver in
/-- ... the same history on the repaired code: both switches are vacuous (true, nothing registered, nothing flushed), the tail stays for
receiveSync, then PeerClosed -/
example : Deliver.run (Deliver.init {}) [.setMode 5 .sync, .engData 5 [170, 187], .closeMark 5, .closeCbs 5, .setMode 5 .sync, .setMode 5 .async, .recv 5 8, .recv 5 8] =
    [.modeRet 5 true, .closeH 5, .modeRet 5 true, .modeRet 5 true, .recvRet 5 (.bytes [170, 187]), .recvRet 5 .peerClosed] := by decide
open Iora.Deliver in
/-- seeded change C02-c (`eraseAlways := false`): the mode survives the close of an undrained session and ONE switch to Async flushes -/
example : Deliver.run (Deliver.init { eraseAlways := false, tombGuard := false }) [.setMode 5 .sync, .engData 5 [1], .closeMark 5, .closeCbs 5, .setMode 5 .async] =
    [.modeRet 5 true, .closeH 5, .dataCb 5 [1], .modeRet 5 true] := by decide
open Iora.Deliver in
/-- the hypotheses are satisfiable by a non-trivial history (data before the close, a call inside the handler run, calls after it) -/
example : EngineContract [.engAccept 5, .setMode 5 .sync, .engData 5 [1], .closeMark 5, .setMode 5 .async, .closeCbs 5, .setMode 5 .async, .recv 5 1] :=
  contract_of_check _ (by decide)
open Iora.Deliver in
example : HandlerOrder true [.engAccept 5, .setMode 5 .sync, .engData 5 [1], .closeMark 5, .setMode 5 .async, .closeCbs 5, .setMode 5 .async, .recv 5 1] := by decide

end Iora.C02
