import IoraModel.Lemmas.BlockingQueueLogs
import IoraModel.Lemmas.BlockingQueueCredit
import IoraModel.Lemmas.BlockingQueueDestroy
import IoraModel.Lemmas.RingSpscObs
import IoraModel.Lemmas.RingThrow
import IoraModel.Model.BqSkelTrace
/-!
# C10 — Bounded queues are FIFO, lossless, capacity-bounded and race-free

R1: the ring buffers on sequential histories; R2: on SPSC interleavings; RT: with element types whose assignment throws; R3:
data-race freedom; Q1–Q5: the blocking queue, with the generic broadcast theorem it instantiates; the ties to the extracted
tables (`Gen/Orders.lean`, `Gen/BqSkel.lean`) stand with what they tie.
-/
namespace Iora.C10
open Iora

/-- **R1 (sequential refinement).** For every capacity `2^k`, every well-formed ring state and EVERY history of
`tryPush / tryPop / peek / tryPushBatch / tryPopBatch / size / empty / full / capacity / clear / resize` (both ring
classes share the algorithm), the ring answers exactly like the bounded FIFO it stands for and stays well-formed — slot
wrap (`& mask`) and batches across the wrap included.  Hypotheses: the counters do not overflow
(`_head + total pushed < 2^64`, stated on the history) and resize requests are `≤ 2^63`. -/
theorem R1_ring_refines_fifo {α : Type} (ops : List (Ring.Op α)) (r : Ring.Ring α) (h : Ring.WF r)
    (hov : r.head.toNat + Ring.totalWeight ops < 2 ^ 64) (hrs : Ring.resizesOk ops) :
    Ring.WF (Ring.run r ops).1 ∧ (Ring.abs r).run ops = (Ring.abs (Ring.run r ops).1, (Ring.run r ops).2) := by
  induction ops generalizing r with
  | nil => exact ⟨h, rfl⟩
  | cons o os ih =>
    obtain ⟨hok, hov', hrs'⟩ := Ring.ok_cons h hov hrs
    obtain ⟨hwf, hstep⟩ := Ring.step_refines h o hok
    obtain ⟨hwf2, hrun⟩ := ih (Ring.step r o).1 hwf hov' hrs'
    exact ⟨hwf2, by simp only [Ring.run, Ring.Fifo.run, hstep, hrun]⟩

/-- non-vacuity: fresh rings of both classes are well-formed (static: any power of two; dynamic: any request `≤ 2^63`) and empty -/
example : Ring.WF (Ring.mkStatic (0 : Nat) 64) := Ring.mkStatic_wf 0 64 6 (by decide) (by decide)
example (req : UInt64) (h : req.toNat ≤ 2 ^ 63) : Ring.WF (Ring.mkDynamic (0 : Nat) req) := Ring.mkDynamic_wf 0 req h
example : (Ring.abs (Ring.mkDynamic (0 : Nat) 5)).items = [] := by simp [Ring.mkDynamic, Ring.mkStatic_abs]

/-- **R1 (capacity).** A well-formed ring never holds more than `capacity` items and never computes a slot index outside
the buffer. -/
theorem R1_ring_bounded {α : Type} (r : Ring.Ring α) (h : Ring.WF r) :
    (Ring.abs r).items.length ≤ r.cap.toNat ∧ ∀ c : UInt64, Ring.slot r c < r.cap.toNat :=
  ⟨by rw [Ring.abs_len h]; exact h.bound, Ring.slot_lt h⟩

/-- `nextPowerOfTwo` returns the least power of two `≥ v` for every `v ≤ 2^63` -/
theorem R1_nextPowerOfTwo (v : UInt64) (hv : v.toNat ≤ 2 ^ 63) :
    ∃ k, k ≤ 63 ∧ (Ring.nextPowerOfTwo v).toNat = 2 ^ k ∧ v.toNat ≤ 2 ^ k ∧ (1 < v.toNat → 2 ^ k < 2 * v.toNat) :=
  Ring.nextPowerOfTwo_spec v hv

/-- … and above `2^63`, where no power of two fits into 64 bits, the code's 64-bit arithmetic wraps to 0: such a ring has
capacity 0 and `mask = 2^64 - 1`; `head - tail >= 0` is always true, so it refuses every push (it never indexes a slot) -/
theorem R1_nextPowerOfTwo_wraps (v : UInt64) (hv : 2 ^ 63 < v.toNat) :
    Ring.nextPowerOfTwo v = 0 ∧ ∀ x : Nat, (Ring.tryPush (Ring.mkDynamic 0 v) x).1 = false := by
  have h := Ring.nextPowerOfTwo_overflow v hv
  refine ⟨h, fun x => ?_⟩
  simp [Ring.tryPush, Ring.mkDynamic, Ring.mkStatic, h]

/-- **The model's `nextPowerOfTwo` and `resize` ARE the source's** (tie, not a property): `Ring.nextPowerOfTwo` is defined
as a fold over the shift list the translator extracts (`Gen.Orders.npotShifts`), `Ring.resize` evaluates the expression
trees extracted for `count`, `toCopy`, `startTail`, `dropped` and the two final stores (`Gen.Orders.resize*`).  On the
unmodified source they unfold to the hand-written forms the R1 proofs reason about; a dropped or changed shift
(`v |= v >> 16`), or a changed window start (`count - newCapacity` for `head - newCapacity`, seeded change C10-d) makes
these `rfl`s - and with them every R1 theorem - fail to build. -/
theorem R1_arithmetic_is_the_sources :
    Gen.Orders.npotShifts = [1, 2, 4, 8, 16, 32] ∧
    (∀ {α : Type} (r : Ring.Ring α) (n : UInt64), Ring.resize r n = Ring.resizeRef r n) :=
  ⟨rfl, fun r n => Ring.resize_unfold r n⟩

/-- **R2 (SPSC: FIFO, lossless, bounded, for every interleaving).** For every capacity, every pair of programs (any mix of
`tryPush`/`tryPushBatch` resp. `tryPop`/`tryPopBatch`/`peek`) and EVERY schedule in which each atomic access and each slot
access is one step — including schedules in which a counter load returns a stale value, which the C++ model allows —:
the items handed to the consumer, followed by the items in flight, are exactly the items accepted from the producer, in
order (each accepted item is delivered at most once, none is invented, none overtakes); at most `C` items are in flight;
and the ghost logs are what the calls returned: a producer call returning `n` had exactly the first `n` items of its
batch accepted, a consumer call's returned items are what was received. -/
theorem R2_spsc_fifo (c : Spsc.Cfg) (p : List Spsc.POp) (q : List Spsc.QOp) (as : List Spsc.Act) :
    let s := Spsc.run c (Spsc.init p q) as
    s.acc = s.recv ++ Spsc.inflight s ∧ (Spsc.inflight s).length ≤ c.C ∧ Spsc.RetInv p q s := by
  intro s
  have I := Spsc.inv_reach c p q as
  have F := Spsc.fifo_of_inv c _ I
  exact ⟨F.1, by rw [F.2.1]; exact F.2.2, Spsc.run_of_fires c _ (Spsc.retInv_fires c p q) as _ (Spsc.retInv_init p q)⟩

/-- **R2 (refusals).** A refusal is conservative: `tryPush` answering "full" after a FRESH read of `_tail` means the ring
holds `C` items at that moment, `tryPop` answering "empty" after a fresh read of `_head` means it holds none.  (After a
stale read the answer may be a spurious "full"/"empty"; a partial `tryPushBatch` is likewise conservative — it is NOT
linearizable to an atomic "push min(count, room)": C = 2, one item queued, `tryPushBatch [x, y]` reads room 1, the
consumer pops twice (item, then empty), the batch publishes `x` and returns 1.) -/
theorem R2_refusals_genuine (c : Spsc.Cfg) (p : List Spsc.POp) (q : List Spsc.QOp) (as : List Spsc.Act) (x : Spsc.Val) :
    let s := Spsc.run c (Spsc.init p q) as
    ((Spsc.POp.push x).count c.C s.head s.tail = 0 → (Spsc.inflight s).length = c.C) ∧
    (Spsc.QOp.pop.count s.tail s.head = 0 → Spsc.inflight s = []) := by
  intro s
  have I := Spsc.inv_reach c p q as
  exact ⟨Spsc.push_refusal_genuine c s x I, Spsc.pop_refusal_genuine c s I⟩

/-- **R2 (a refusal that was actually returned).** The producer, idle with `tryPush x` next, reads the LATEST `_tail` and
completes the call: if that call returns `false` (0 pushed) the ring held exactly `C` items at the load; likewise a
`tryPop` that returns `false` after reading the latest `_head` saw an empty ring. -/
theorem R2_returned_refusals_genuine (c : Spsc.Cfg) (p : List Spsc.POp) (q : List Spsc.QOp) (as : List Spsc.Act) (x : Spsc.Val) :
    let s := Spsc.run c (Spsc.init p q) as
    (∀ rest, s.pPc = .idle → s.pTodo = .push x :: rest →
        (Spsc.step c (Spsc.step c s (.pLoad s.tail)) .pStore).pRets = s.pRets ++ [0] → (Spsc.inflight s).length = c.C) ∧
    (∀ rest, s.qPc = .idle → s.qTodo = .pop :: rest →
        (Spsc.step c (Spsc.step c s (.qLoad s.head)) .qStore).qRets = s.qRets ++ [[]] → Spsc.inflight s = []) := by
  intro s
  have I : Spsc.Inv c s := Spsc.inv_reach c p q as
  exact ⟨fun rest => I.returned_push_refusal x rest, fun rest => I.returned_pop_refusal rest⟩

/-- non-vacuity: a full 1-slot ring refuses the second push with 0 -/
example :
    let c : Spsc.Cfg := { C := 1, pAcq := true, qAcq := true, pRel := true, qRel := true }
    let s := Spsc.run c (Spsc.init [.push 1, .push 2] []) [.pLoad 0, .pWrite, .pStore]
    s.pPc = .idle ∧ s.pTodo = [.push 2] ∧ (Spsc.step c (Spsc.step c s (.pLoad s.tail)) .pStore).pRets = s.pRets ++ [0] := by
  decide

/-- **R2 (`size()` / `empty()` / `full()` called concurrently by the producer or by the consumer).**  `size()` is two relaxed
loads (`_head`, then `_tail`; either may be stale) and a `size_t` subtraction.  In EVERY reachable state of every
interleaving: whatever a call by the producer can return lies between the true number of items and `C` (it may
over-estimate), whatever a call by the consumer can return lies between 0 and the true number (it may under-estimate) -
never above the capacity; hence `full() == true` seen by the consumer and `empty() == true` seen by the producer are
genuine.  Hypothesis: `_head < 2^64` (no counter overflow). -/
theorem R2_size_same_side (c : Spsc.Cfg) (p : List Spsc.POp) (q : List Spsc.QOp) (as : List Spsc.Act) :
    let s := Spsc.run c (Spsc.init p q) as
    s.head < 2 ^ 64 →
    (∀ ret, Spsc.ProducerSizeRet s ret → s.head - s.tail ≤ ret ∧ ret ≤ c.C) ∧
    (∀ ret, Spsc.ConsumerSizeRet s ret → ret ≤ s.head - s.tail ∧ ret ≤ c.C) ∧
    (∀ ret, Spsc.ConsumerSizeRet s ret → ret ≥ c.C → s.head - s.tail = c.C) ∧
    (∀ ret, Spsc.ProducerSizeRet s ret → ret = 0 → s.head = s.tail) := by
  intro s hb
  have I : Spsc.Inv c s := Spsc.inv_reach c p q as
  have := I.ht; have := I.ps; have := I.cap2
  exact ⟨fun _ => I.producer_size hb, fun _ => I.consumer_size hb, fun _ hr hge => by have := I.consumer_size hb hr; omega,
    fun _ hr h0 => by have := I.producer_size hb hr; omega⟩

/-- non-vacuity: in the initial state both callers can get the answer 0 -/
example : Spsc.ProducerSizeRet (Spsc.init [] []) 0 ∧ Spsc.ConsumerSizeRet (Spsc.init [] []) 0 :=
  ⟨⟨0, by decide, by decide, by decide⟩, ⟨0, by decide, by decide, by decide⟩⟩

/-- **… but not by a third thread** (observation; the header calls `size()` "approximate"): an observer that loads `_head`
before a push/pop pair and `_tail` after it sees `tail > head`; its `size()` wraps to `2^64 - 1`, far above `C` -/
theorem R2_size_third_thread_wraps :
    let c : Spsc.Cfg := { C := 1, pAcq := true, qAcq := true, pRel := true, qRel := true }
    let s1 := Spsc.init [.push 1] [.pop]
    let s2 := Spsc.run c s1 [.pLoad 0, .pWrite, .pStore, .qLoad 1, .qRead, .qStore]
    s1.head < s2.tail ∧ Spsc.sizeRet s1.head s2.tail = 2 ^ 64 - 1 := by
  decide

/-- **R2 (`peek` under concurrency).**  In every reachable state of every interleaving, a `peek` that completes returns
exactly the oldest item(s) in flight at that moment (`n ≤ 1` of them: nothing when it saw an empty ring) - the item the
next `tryPop` will deliver - and consumes nothing (`_tail` and the received log are unchanged). -/
theorem R2_peek_returns_oldest (c : Spsc.Cfg) (p : List Spsc.POp) (q : List Spsc.QOp) (as : List Spsc.Act)
    (hs n : Nat) (got : List Spsc.Val) (rest : List Spsc.QOp) :
    let s := Spsc.run c (Spsc.init p q) as
    s.qPc = .reading hs n got → s.qTodo = .peek :: rest → got.length = n →
    (Spsc.step c s .qStore).qRets = s.qRets ++ [(Spsc.inflight s).take n] ∧ (Spsc.step c s .qStore).recv = s.recv ∧
    (Spsc.step c s .qStore).tail = s.tail ∧ n ≤ (Spsc.inflight s).length := by
  intro s
  exact (Spsc.inv_reach c p q as).peek_returns_oldest

/-- non-vacuity: one item pushed, the consumer is about to complete a `peek` -/
example :
    let c : Spsc.Cfg := { C := 1, pAcq := true, qAcq := true, pRel := true, qRel := true }
    let s := Spsc.run c (Spsc.init [.push 7] [.peek]) [.pLoad 0, .pWrite, .pStore, .qLoad 1, .qRead]
    s.qPc = .reading 1 1 [7] ∧ s.qTodo = [.peek] ∧ Spsc.inflight s = [7] := by
  decide

/-- **count stays consistent.**  A ring call interrupted by an exception from the element's copy/move assignment leaves
`_head`, `_tail`, `_capacity`, `_mask` exactly as they were. -/
theorem RT_throw_keeps_counters (r : Ring.Ring RingT.Cell) (arm : Nat) (o : RingT.TOp)
    (h : RingT.isThrow (RingT.stepT r arm o).2 = true) :
    (RingT.stepT r arm o).1.head = r.head ∧ (RingT.stepT r arm o).1.tail = r.tail ∧
    (RingT.stepT r arm o).1.cap = r.cap ∧ (RingT.stepT r arm o).1.mask = r.mask := by
  -- in every branch either the call returned (the hypothesis is absurd) or the result is `r` with another slot array
  revert h
  cases o <;> simp only [RingT.stepT, RingT.tryPush, RingT.tryPop, RingT.peek, RingT.tryPushBatch, RingT.tryPopBatch,
    RingT.resize] <;> (repeat' split) <;> first | (intro h; cases h; done) | exact fun _ => ⟨rfl, rfl, rfl, rfl⟩

/-- **strong guarantee where the code has it.**  A throwing `tryPush`, `tryPop` or `peek` changes nothing; a throwing
`tryPushBatch` changes only slots beyond `_head`: the FIFO content the ring stands for is the same. -/
theorem RT_strong_guarantee_partial (r : Ring.Ring RingT.Cell) (h : Ring.WF r) (arm : Nat) (x : RingT.Cell) (xs : List RingT.Cell)
    (ho : r.head.toNat + xs.length < 2 ^ 64) :
    (RingT.isThrow (RingT.tryPush r arm x).2 = true → (RingT.tryPush r arm x).1 = r) ∧
    (RingT.isThrow (RingT.tryPop r arm).2 = true → (RingT.tryPop r arm).1 = r) ∧
    (RingT.isThrow (RingT.peek r arm).2 = true → (RingT.peek r arm).1 = r) ∧
    (RingT.isThrow (RingT.tryPushBatch r arm xs).2 = true → Ring.abs (RingT.tryPushBatch r arm xs).1 = Ring.abs r) := by
  refine ⟨?_, ?_, ?_, ?_⟩
  iterate 3
    simp only [RingT.tryPush, RingT.tryPop, RingT.peek]
    (repeat' split) <;> first | (intro h; cases h; done) | exact fun _ => rfl
  -- the items already copied sit beyond `_head`
  simp only [RingT.tryPushBatch, Ring.avail_toNat h, Ring.ite_lt_eq_min]
  split
  · rename_i k hk
    have hk := RingT.throwsAt_lt hk
    have hl := List.length_take_le k xs
    exact fun _ => Ring.abs_writeFrom h _ (by omega) (by omega)
  · nofun

/-- non-vacuity: the second assignment of a 3-item batch into an empty 4-slot ring throws -/
example : RingT.isThrow (RingT.tryPushBatch (Ring.mkStatic none 4) 2 [some 1, some 2, some 3]).2 = true := by decide

/-- **what the code does in `tryPopBatch` and `resize`** (OBSERVATION: exception safety of the element type is not part of
the property as stated, whose quantifier ranges over schedules and histories of queue operations; recorded because the
moved-from elements are afterwards handed out as items).  The full statement - after an exception the ring still stands
for the same content - is FALSE: with 1,2,3,4 queued and the third move throwing, `tryPopBatch` leaves 1 and 2 in the
caller's array AND two moved-from husks at the front of the ring (`tryPop` returns them), `resize` loses 1 and 2 in the
abandoned new buffer and leaves the two husks. -/
theorem RT_strong_guarantee_refuted :
    ¬ RingT.strong_guarantee_statement ∧
    ((RingT.tryPopBatch RingT.four 3 4).2 = .threw 2 [some 1, some 2] ∧
     (Ring.abs (RingT.tryPopBatch RingT.four 3 4).1).items = [none, none, some 3, some 4] ∧
     (RingT.tryPop (RingT.tryPopBatch RingT.four 3 4).1 0).2 = .ok (.item (some none))) ∧
    ((RingT.resize RingT.four 3 8).2 = .threw 2 [] ∧ (RingT.resize RingT.four 3 8).1.cap = 4 ∧
     (Ring.abs (RingT.resize RingT.four 3 8).1).items = [none, none, some 3, some 4]) := by
  refine ⟨fun h => ?_, by decide, by decide⟩
  have := h RingT.four 3 (.popBatch 4) RingT.four_wf (by decide)
  have e : (Ring.abs (RingT.stepT RingT.four 3 (.popBatch 4)).1).items = (Ring.abs RingT.four).items := by rw [this]
  revert e
  decide

/-- with nothing armed the throwing-element model gives the plain ring's answers and counters (so R1 speaks about it) -/
theorem RT_unarmed_agrees (r : Ring.Ring RingT.Cell) (x : RingT.Cell) (xs : List RingT.Cell) (n : Nat) (m : UInt64) :
    RingT.tryPush r 0 x = ((Ring.tryPush r x).2, .ok (.bool (Ring.tryPush r x).1)) ∧
    RingT.tryPushBatch r 0 xs = ((Ring.tryPushBatch r xs).2, .ok (.count (Ring.tryPushBatch r xs).1)) ∧
    (RingT.tryPopBatch r 0 n).2 = .ok (.items (Ring.tryPopBatch r n).1) ∧
    (RingT.tryPopBatch r 0 n).1.tail = (Ring.tryPopBatch r n).2.tail ∧
    (RingT.tryPop r 0).2 = .ok (.item (Ring.tryPop r).1) ∧ (RingT.tryPop r 0).1.tail = (Ring.tryPop r).2.tail ∧
    RingT.resize r 0 m = ((Ring.resize r m).2, .ok (.count (Ring.resize r m).1.toNat)) := by
  refine ⟨?_, ?_, ?_, ?_, ?_, ?_, ?_⟩
  · simp only [RingT.tryPush, Ring.tryPush, RingT.throwsAt_zero]; split <;> rfl
  · simp only [RingT.tryPushBatch, Ring.tryPushBatch, RingT.throwsAt_zero]
  · simp only [RingT.tryPopBatch, Ring.tryPopBatch, RingT.throwsAt_zero]
  · simp only [RingT.tryPopBatch, Ring.tryPopBatch, RingT.throwsAt_zero]
  · simp only [RingT.tryPop, Ring.tryPop, RingT.throwsAt_zero]; split <;> rfl
  · simp only [RingT.tryPop, Ring.tryPop, RingT.throwsAt_zero]; split <;> rfl
  · simp only [RingT.resize, RingT.throwsAt_zero]

/-- **The accesses in the source are the modelled ones** (translator `Gen/Orders.lean`, both ring classes, every method): the
memory orders are the required ones AND every method is exactly "load own counter, load the other counter, slot
access(es), one store of the own counter" in that source order, with no other rows.  Fails to build when an order is
weakened, when a method publishes before writing its slot or releases before reading it, or when rows are added/reordered. -/
theorem C10_orders : Spsc.OrdersOK Gen.Orders.ring := by decide +kernel

/-- **R3 (data-race freedom in the release/acquire view model).** With acquire loads of the other side's counter and
release stores of one's own, no schedule of any two programs reaches a plain slot access that conflicts with an
unordered earlier access of the other thread. -/
theorem R3_drf_of_orders (o : Spsc.Orders) (C : Nat) (h : Spsc.OrdersOK o) : Spsc.DRF (Spsc.cfgOf o C) :=
  let ⟨a, b, c, d⟩ := Spsc.cfg_of_countersOK o C ((Bool.and_eq_true _ _).mp h).1
  Spsc.drf_of_orders _ a b c d

/-- R3 for the working tree -/
theorem R3_ring_drf (C : Nat) : Spsc.DRF (Spsc.cfgOf Gen.Orders.ring C) := R3_drf_of_orders _ C C10_orders

/-- each order is necessary in the model: weaken any one of the four and a racy execution exists (the first one is the
ring as found, F02: `_tail` loaded relaxed in `tryPush`/`tryPushBatch`) -/
theorem R3_tight :
    ¬ Spsc.DRF { C := 1, pAcq := false, qAcq := true, pRel := true, qRel := true } ∧
    ¬ Spsc.DRF { C := 1, pAcq := true, qAcq := true, pRel := true, qRel := false } ∧
    ¬ Spsc.DRF { C := 1, pAcq := true, qAcq := false, pRel := true, qRel := true } ∧
    ¬ Spsc.DRF { C := 1, pAcq := true, qAcq := true, pRel := false, qRel := true } :=
  -- capacity 1: push, pop, push again — the second write of the slot is not ordered after the consumer's read of it;
  -- push, then pop — the read is not ordered after the write.  In each witness of `Racy`: the fields of the pc, then the
  -- earlier access `j = 0` of slot 0 that the clock (`pKq` resp. `qKp`, still 0) does not cover
  ⟨fun h => h [.push 1, .push 2] [.pop] [.pLoad 0, .pWrite, .pStore, .qLoad 1, .qRead, .qStore, .pLoad 1] .pWrite
      ⟨1, 1, 0, rfl, by decide, 0, by decide, by decide, by decide⟩,
   fun h => h [.push 1, .push 2] [.pop] [.pLoad 0, .pWrite, .pStore, .qLoad 1, .qRead, .qStore, .pLoad 1] .pWrite
      ⟨1, 1, 0, rfl, by decide, 0, by decide, by decide, by decide⟩,
   fun h => h [.push 1] [.pop] [.pLoad 0, .pWrite, .pStore, .qLoad 1] .qRead
      ⟨1, 1, [], rfl, by decide, 0, by decide, by decide, by decide⟩,
   fun h => h [.push 1] [.pop] [.pLoad 0, .pWrite, .pStore, .qLoad 1] .qRead
      ⟨1, 1, [], rfl, by decide, 0, by decide, by decide, by decide⟩⟩

/-! ## Blocking queue: any number of threads, any programs, every schedule

`BQ.init cap ps` = an empty open queue of capacity `cap`; thread `t` is to execute the calls `ps[t]` (any mix of
`queue`, timed and non-blocking `tryQueue`, `dequeue`, timed `dequeue`, `tryDequeue`, `close`, `size/empty/full`).
`Monitor.run (BQ.prog true) … sched` = the state after the schedule `sched` (next thread, which sleeper a `notify_one`
wakes, time-outs, spurious wake-ups, "deadline passed meanwhile") of the class as repaired. -/

open Monitor in
/-- **Q1 (FIFO, lossless, nothing invented).** In every reachable state the values pushed so far, in the order of the
`push_back`s, are exactly the values popped so far, in the order of the `pop_front`s, followed by the queue content: every
item put is taken at most once, items are taken in the order they were put (hence each producer's items in that
producer's order), and what has not been taken is still queued. -/
theorem Q1_fifo_lossless (cap : Nat) (ps : List (List BQ.Call)) (sched : List Choice) :
    let s := run (BQ.prog true) (BQ.init cap ps) sched
    s.data.puts.map (·.2) = s.data.takes.map (·.2) ++ s.data.q :=
  (BQ.data_run cap ps sched).2

open Monitor in
/-- **Q1 (on return values, per thread).** In every reachable state, for every thread `t`: the calls it has completed are a
prefix `done` of its program with one result each; the values `t` pushed — its entries of the global push log, in that
order — are exactly the arguments of its `queue`/`tryQueue` calls that returned `true`, in program order (plus the one of
the call in progress whose result is already determined); the values it popped are exactly the items its
`dequeue`/`tryDequeue` calls returned, in program order.  With `Q1_fifo_lossless` (global push order = global pop order):
every item whose put returned `true` is returned by at most one take, no take returns an item that was not put, and the
items of one producer come out in the order that producer put them. -/
theorem Q1_results_are_the_logs (cap : Nat) (ps : List (List BQ.Call)) (sched : List Choice) :
    let s := run (BQ.prog true) (BQ.init cap ps) sched
    ∀ t, t < s.n → ∃ done, BQ.progOf ps t = done ++ (s.thr t).loc.todo ∧ done.length = (s.thr t).loc.rets.length ∧
      BQ.mine t s.data.puts = BQ.logP done (s.thr t).loc.rets ++ BQ.pendP (s.thr t).loc ∧
      BQ.mine t s.data.takes = BQ.logT (s.thr t).loc.rets ++ BQ.pendT (s.thr t).loc :=
  fun t ht => (BQ.logs_run cap ps sched t ht).done

open Monitor in
/-- **Q2 (capacity).** `|_queue| ≤ _maxSize` in every reachable state. -/
theorem Q2_capacity (cap : Nat) (ps : List (List BQ.Call)) (sched : List Choice) :
    (run (BQ.prog true) (BQ.init cap ps) sched).data.q.length ≤ cap := by
  have h := (BQ.data_run cap ps sched).1
  rwa [(BQ.cap_n_run cap ps sched).1] at h

open Monitor in
/-- **Q3a (close wakes everybody).** Once `close()` has returned — the flag is set and no thread is inside `close()` any
more — no thread is asleep on either condition variable, in every reachable state of every schedule. -/
theorem Q3_close_wakes_all (cap : Nat) (ps : List (List BQ.Call)) (sched : List Choice) :
    let s := run (BQ.prog true) (BQ.init cap ps) sched
    s.data.closed = true → (∀ u, u < s.n → BQ.closerFor BQ.NF (s.thr u) = false) →
    ∀ t, t < s.n → isAsleepOn BQ.NE (s.thr t) = false ∧ isAsleepOn BQ.NF (s.thr t) = false := by
  intro s hc hret t ht
  have h : BQ.Inv s := BQ.inv_run cap ps sched
  exact ⟨h.closed_awake .ne hc hret ht, h.closed_awake .nf hc hret ht⟩

/-- non-vacuity of Q3a/Q3b: after a lone `close()` has run to completion the queue is closed and nobody is inside `close()` -/
example :
    let s := Monitor.run (BQ.prog true) (BQ.init 2 [[.close], [.dequeue]])
      [.run 0 0, .run 0 0, .run 0 0, .run 0 0, .run 0 0, .run 1 0, .run 1 0]
    s.data.closed = true ∧ (∀ u, u < s.n → BQ.closerFor BQ.NF (s.thr u) = false) := by
  decide

open Monitor in
/-- **Q3b (close refuses further items, for ever).** From a closed state on, whatever happens next, the queue stays closed
and no item is pushed any more. -/
theorem Q3_closed_refuses (cap : Nat) (ps : List (List BQ.Call)) (sched more : List Choice) :
    let s := run (BQ.prog true) (BQ.init cap ps) sched
    s.data.closed = true →
    (run (BQ.prog true) s more).data.puts = s.data.puts ∧ (run (BQ.prog true) s more).data.closed = true :=
  fun hc => ⟨(BQ.closed_run _ hc more).1, (BQ.closed_run _ hc more).2.1⟩

open Monitor in
/-- **Q3b, step by step (a push step has `_closed = false`).** In EVERY reachable state and for EVERY next step of ANY
thread: if `_closed` is set, the step pushes nothing, does not make the queue longer and leaves it closed - equivalently, a
step that pushes starts from an open queue.  This covers a producer that went to sleep on a full OPEN queue and is woken by
a take followed by another thread's `close()` (seeded change C10-e: re-testing only `size >= maxSize` after the wait): the
step in which it re-acquires `_mutex` re-reads `_closed` and returns false. -/
theorem Q3_push_only_while_open (cap : Nat) (ps : List (List BQ.Call)) (sched : List Choice) (c : Choice) :
    let s := run (BQ.prog true) (BQ.init cap ps) sched
    (s.data.closed = true →
      (step (BQ.prog true) s c).data.puts = s.data.puts ∧ (step (BQ.prog true) s c).data.q.length ≤ s.data.q.length ∧
      (step (BQ.prog true) s c).data.closed = true) ∧
    ((step (BQ.prog true) s c).data.puts ≠ s.data.puts → s.data.closed = false) := by
  intro s
  refine ⟨BQ.closed_step_no_push s c, fun hne => ?_⟩
  cases hcl : s.data.closed with
  | false => rfl
  | true => exact absurd (BQ.closed_step_no_push s c hcl).1 hne

open Monitor in
/-- non-vacuity (the C10-e shape): capacity 1, producer `queue 100; queue 101`, consumer `dequeue; close`.  The producer
sleeps in its second put on the full queue; the consumer takes the item (notify) and closes; the woken producer then
re-acquires the mutex on a queue that has room AND is closed: it does not push (one item in the log) and returns false. -/
example :
    let s := run (BQ.prog true) (BQ.init 1 [[.queue 100, .queue 101], [.dequeue, .close]])
      [.run 0 0, .run 0 0, .run 0 0, .run 0 0, .run 0 0, .run 0 0,
       .run 1 0, .run 1 0, .run 1 0, .run 1 0, .run 1 0, .run 1 0, .run 1 0, .run 1 0]
    s.data.closed = true ∧ s.data.q = [] ∧ (s.thr 0).status = .woken BQ.M false false ∧
    (step (BQ.prog true) s (.run 0 0)).data.puts = [(0, 100)] ∧
    ((step (BQ.prog true) s (.run 0 0)).thr 0).loc.pc = .unlockRet (.bool false) := by
  decide

/-- **Q3c (queued items stay retrievable).** A `dequeue`, timed `dequeue` or `tryDequeue` that obtains the mutex at method
entry while the queue is non-empty takes the oldest item without waiting — whether or not the queue is closed. -/
theorem Q3_retrievable (l : BQ.Loc) (d : BQ.Data) (x : BQ.Val) (xs : List BQ.Val) (rest : List BQ.Call) (c : BQ.Call)
    (hc : c = .dequeue ∨ c = .dequeueFor ∨ c = .tryDequeue) (ht : l.todo = c :: rest) (hq : d.q = x :: xs) :
    (BQ.entered l d).1.pc = .unlockNotify BQ.NF (.item (some x)) ∧ (BQ.entered l d).2.q = xs := by
  rcases hc with rfl | rfl | rfl <;> simp [BQ.entered, ht, BQ.predNE, BQ.takeBody, hq]

/-- non-vacuity of Q3c -/
example : (BQ.entered { me := 0, todo := [.dequeue], pc := .enter, rets := [] }
            { cap := 2, q := [7, 8], closed := true, puts := [], takes := [] }).1.pc = .unlockNotify BQ.NF (.item (some 7)) := by
  decide

open Monitor in
/-- **Q3d (draining a closed queue).** From a closed reachable state on, whatever the further schedule `more`: the items
taken from then on are exactly a prefix of the queue content at that moment, in order; what remains queued is the rest;
nothing is added.  Together with Q3c/Q3e (a take never waits on a closed queue: item if non-empty, `false` if empty),
Q3a (nobody sleeps once `close()` returned) and `Q1_results_are_the_logs` (logs = return values): after `close()`, the
next `k` successful takes return the `k` oldest queued items in order, and once the queue is empty every take returns `false`. -/
theorem Q3_drain_after_close (cap : Nat) (ps : List (List BQ.Call)) (sched more : List Choice) :
    let s := run (BQ.prog true) (BQ.init cap ps) sched
    let s' := run (BQ.prog true) s more
    s.data.closed = true →
    ∃ taken, s'.data.takes.map (·.2) = s.data.takes.map (·.2) ++ taken ∧ taken ++ s'.data.q = s.data.q := by
  intro s s' hc
  exact (BQ.closed_run s hc more).2.2

/-- **Q3e.** A take that obtains the mutex at method entry on a closed EMPTY queue returns `false` without waiting and changes nothing. -/
theorem Q3_closed_empty_returns_false (l : BQ.Loc) (d : BQ.Data) (rest : List BQ.Call) (c : BQ.Call)
    (hc : c = .dequeue ∨ c = .dequeueFor ∨ c = .tryDequeue) (ht : l.todo = c :: rest) (hq : d.q = []) (hcl : d.closed = true) :
    (BQ.entered l d).1.pc = .unlockRet (.item none) ∧ (BQ.entered l d).2 = d := by
  rcases hc with rfl | rfl | rfl <;> simp [BQ.entered, ht, BQ.predNE, BQ.takeBody, hq, hcl]

open Monitor in
/-- **Q4 (every reachable state, not only dead-locked ones).** In EVERY state reachable under every schedule: whenever a
thread is asleep on a condition variable while its wait condition holds, a wake-up for that condition variable is already
in the pipeline — some thread is a notifier between its state change and its `notify_one`, or a waiter of that condition
variable that has been woken and has not yet re-evaluated its predicate, or is inside `close()` before the corresponding
`notify_all`.  (All three kinds of thread are enabled or become enabled as soon as the mutex is released, so the sleeper's
wake-up cannot be lost.)  The quantitative form is the credit invariant `BQ.Inv.credNE/credNF`: while the queue is open
and somebody sleeps on `_condNotEmpty`, #queued items ≤ #wake-ups in the pipeline (symmetrically free slots for `_condNotFull`). -/
theorem Q4_wakeup_pending_in_every_state (cap : Nat) (ps : List (List BQ.Call)) (sched : List Choice) :
    let s := run (BQ.prog true) (BQ.init cap ps) sched
    (∀ t, t < s.n →
      (isAsleepOn BQ.NE (s.thr t) = true → BQ.predNE s.data = true →
          ∃ u, u < s.n ∧ (BQ.creditOn BQ.NE (s.thr u) = true ∨ BQ.closerFor BQ.NE (s.thr u) = true)) ∧
      (isAsleepOn BQ.NF (s.thr t) = true → BQ.predNF s.data = true →
          ∃ u, u < s.n ∧ (BQ.creditOn BQ.NF (s.thr u) = true ∨ BQ.closerFor BQ.NF (s.thr u) = true))) ∧
    ((∃ t, t < s.n ∧ isAsleepOn BQ.NE (s.thr t) = true) → s.data.closed = false →
        s.data.q.length ≤ cnt (BQ.creditOn BQ.NE) s.thr s.n) ∧
    ((∃ t, t < s.n ∧ isAsleepOn BQ.NF (s.thr t) = true) → s.data.closed = false →
        s.data.cap ≤ s.data.q.length + cnt (BQ.creditOn BQ.NF) s.thr s.n) := by
  intro s
  have I : BQ.Inv s := BQ.inv_run cap ps sched
  exact ⟨fun t ht => ⟨I.pending .ne ht, I.pending .nf ht⟩, I.credNE, I.credNF⟩

open Monitor in
/-- **Q4 / Q3 (no lost wake-up).** In every reachable state of every schedule: if no thread can run (every thread is
finished or asleep), then every thread asleep on `_condNotEmpty` has a false condition (queue empty and not closed) and
every thread asleep on `_condNotFull` has a false condition (queue full and not closed).  No caller stays blocked while
its condition holds. -/
theorem Q4_no_lost_wakeup (cap : Nat) (ps : List (List BQ.Call)) (sched : List Choice) :
    let s := run (BQ.prog true) (BQ.init cap ps) sched
    Deadlocked (BQ.prog true) s → ∀ t, t < s.n →
      (isAsleepOn BQ.NE (s.thr t) = true → BQ.predNE s.data = false) ∧
      (isAsleepOn BQ.NF (s.thr t) = true → BQ.predNF s.data = false) := by
  intro s hd t ht
  have h : BQ.Inv s := BQ.inv_run cap ps sched
  exact ⟨h.no_lost_wakeup .ne hd ht, h.no_lost_wakeup .nf hd ht⟩

/-- non-vacuity of Q4's hypothesis: a consumer alone on an empty open queue does end dead-locked, asleep, with a false condition -/
example : Monitor.Deadlocked (BQ.prog true) (Monitor.run (BQ.prog true) (BQ.init 1 [[.dequeue]]) [.run 0 0, .run 0 0, .run 0 0]) := by
  decide

/-- **F01 (the class as found).** With `close()` flipping `_closed` outside the mutex the statement of Q4 is FALSE: a
6-step schedule of one `dequeue` and one `close` ends with the consumer asleep for ever although the queue is closed. -/
theorem Q4_refuted_for_unrepaired_close :
    BQ.LostWakeup false (Monitor.run (BQ.prog false) (BQ.init 4 [[.dequeue], [.close]]) BQ.f01Schedule) := by
  unfold BQ.LostWakeup
  exact ⟨by decide, 0, by decide, by decide, by decide, by decide⟩

/-- … and with the repaired `close()` no schedule of any program ends like that -/
theorem Q4_repaired (cap : Nat) (ps : List (List BQ.Call)) (sched : List Monitor.Choice) :
    ¬ BQ.LostWakeup true (Monitor.run (BQ.prog true) (BQ.init cap ps) sched) := by
  rintro ⟨hd, t, ht, hsl, _, hp⟩
  have := (Q4_no_lost_wakeup cap ps sched hd t ht).1 hsl
  rw [this] at hp; cases hp

/-- **Generic no-lost-wake-up theorem for the broadcast discipline.**  For EVERY monitor program `P` over one mutex `m`
that satisfies `Monitor.Broadcast P m` (waits only under `m` and in the step that found the predicate false; data changes
only in steps of the holder; whoever turns a predicate true owes — and eventually performs — the `notifyAll`), from every
state satisfying the invariant (e.g. any initial state, `Broadcast.inv_init`) and after EVERY schedule: if no thread can
run, every sleeper's predicate is false. -/
theorem broadcast_no_lost_wakeup {D L : Type} {P : Monitor.Prog D L} {m : Monitor.MutexId} (B : Monitor.Broadcast P m)
    (s : Monitor.State D L) (h : B.Inv s) (sched : List Monitor.Choice)
    (hd : Monitor.Deadlocked P (Monitor.run P s sched)) (t : Monitor.Tid) (cv : Monitor.CvId)
    (ht : t < (Monitor.run P s sched).n) (ha : Monitor.isAsleepOn cv ((Monitor.run P s sched).thr t) = true) :
    B.pred cv (Monitor.run P s sched).data = false :=
  B.deadlocked_sleepers _ (B.inv_run s h sched) hd t cv ht ha

/-- … and in every reachable state (dead-locked or not) every sleeper's predicate is false or some ready thread still
owes the broadcast -/
theorem broadcast_invariant {D L : Type} {P : Monitor.Prog D L} {m : Monitor.MutexId} (B : Monitor.Broadcast P m)
    (s : Monitor.State D L) (h : B.Inv s) (sched : List Monitor.Choice) : B.Inv (Monitor.run P s sched) :=
  B.inv_run s h sched

/-- **The queue's `close()` is an instance** (non-vacuity of the generic theorem, and the F01-relevant half of Q3/Q4
obtained from it): `BQ.closeBroadcast : Broadcast (BQ.prog true) BQ.M` with predicate `_closed`; hence, for every
program set and every schedule, in a dead-locked state nobody sleeps on a closed queue. -/
theorem Q3_close_is_broadcast_instance (cap : Nat) (ps : List (List BQ.Call)) (sched : List Monitor.Choice)
    (hd : Monitor.Deadlocked (BQ.prog true) (Monitor.run (BQ.prog true) (BQ.init cap ps) sched)) (t : Monitor.Tid)
    (cv : Monitor.CvId) (ht : t < (Monitor.run (BQ.prog true) (BQ.init cap ps) sched).n) (hcv : cv = BQ.NE ∨ cv = BQ.NF)
    (ha : Monitor.isAsleepOn cv ((Monitor.run (BQ.prog true) (BQ.init cap ps) sched).thr t) = true) :
    (Monitor.run (BQ.prog true) (BQ.init cap ps) sched).data.closed = false := by
  rcases hcv with rfl | rfl
  · exact BQ.deadlocked_open (BQ.close_broadcast_run cap ps sched) hd .ne ht ha
  · exact BQ.deadlocked_open (BQ.close_broadcast_run cap ps sched) hd .nf ht ha

/-- **Q5 (destruction, full statement - FALSE).**  "When the destructor has returned every other thread is out of the
object" does not hold: `close()` wakes a blocked `dequeue` (Q3), but when the destroying thread is finished the waiter is
merely *woken* and still has to re-acquire `_mutex` - a member of the destroyed object.  This is the C++ lifetime rule
(the caller must join/quiesce its threads first), not a defect of the class: an observation. -/
theorem Q5_destroy_with_callers_inside_refuted :
    ¬ BQ.destroy_statement ∧
    (let s := Monitor.run (BQ.prog true) (BQ.init 1 [[.dequeue], [.close]]) BQ.destroySchedule
     (s.thr 1).loc.pc = .finished ∧ (s.thr 0).status = .woken BQ.M false false ∧ (s.thr 0).loc.pc = .sleepNE) := by
  refine ⟨fun h => ?_, by decide⟩
  have := h 1 [[.dequeue], [.close]] BQ.destroySchedule 1 (by decide) (by decide) 0 (by decide) (by decide)
  exact absurd this.1 (by decide)

/-- **Q5 (destruction, partial).**  If every thread other than the destroyer is out of the object (finished, nothing left
to call), then under EVERY continuation - the destructor's `close()` with its two `notify_all` included - none of them
ever moves again: nobody but the destroyer touches the members from then on. -/
theorem Q5_destroy_partial (d : Monitor.Tid) (sched : List Monitor.Choice) (s : Monitor.State BQ.Data BQ.Loc)
    (h : ∀ t, t ≠ d → BQ.Gone (s.thr t)) (t : Monitor.Tid) (ht : t ≠ d) :
    (Monitor.run (BQ.prog true) s sched).thr t = s.thr t ∧ BQ.Gone ((Monitor.run (BQ.prog true) s sched).thr t) :=
  BQ.destroy_partial true d sched s h t ht

/-- non-vacuity: the hypothesis holds e.g. for a destroyer next to a thread with an empty program that has started -/
example : BQ.Gone ((Monitor.run (BQ.prog true) (BQ.init 1 [[], [.close]]) [.run 0 0]).thr 0) := by
  unfold BQ.Gone
  decide

/-- the skeleton extracted from the working tree is the one the monitor model was written against -/
theorem skeleton_conforms : Gen.BqSkel.skeleton = BQ.expected := by decide +kernel

/-- **the monitor PROGRAM is the source's, event for event**: the lock / wait / unlock / notify trace of every call of
`BQ.prog true` (run alone, through the wait where the method has one) equals the projection of the EXTRACTED skeleton of
the corresponding source method to those events (13 methods: `queue`×2, `tryQueue`×4, `dequeue`×2, `tryDequeue`, `close`,
`size`, `empty`, `full`).  Unlike `skeleton_conforms` this compares the extracted facts with the model the Q theorems are
about, not with a hand-written list. -/
theorem model_trace_is_skeleton : BQ.modelTraceIsSkeleton Gen.BqSkel.skeleton = true := by decide +kernel

/-- the data members PARSED from the class (declaration order) are the modelled ones (the translator additionally insists on
`const std::size_t _maxSize;`, on no assignment to it, and on no member function it does not know) -/
theorem members_conform :
    Gen.BqSkel.members = ["_mutex", "_condNotEmpty", "_condNotFull", "_queue", "_maxSize", "_closed"] := rfl

/-- the extracted skeleton satisfies the lost-wake-up discipline (writes of predicate variables under the mutex and
followed by a notify, waits under the mutex, deque only touched under the mutex) -/
theorem skeleton_disciplined : BQ.disciplined Gen.BqSkel.skeleton = true := by decide +kernel

end Iora.C10
