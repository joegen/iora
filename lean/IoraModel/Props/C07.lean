import IoraModel.Lemmas.TlsLife
import IoraModel.Lemmas.TlsMatrix
/-!
# C07 — TLS sessions authenticate the peer as configured and never downgrade  (partial: OpenSSL assumed)

The property theorems, with the two statements that are refuted (`T4_http_statement`, `T6_http_statement`) and the pins on `Gen`.  The model
is `Model/TlsPlan.lean`, continued in `Model/TlsLife.lean` (`HttpServer` history, receive side, `IoraService`, UDP); it interprets the call
inventory `Gen/TlsCalls.lean` that the translator regenerates from `tcp_engine.hpp`, `http_client.hpp`, `http_server.hpp` on every run.
OpenSSL (X.509 path validation, signatures, record layer) is the parameter `H : Handshake` with the documented
semantics as hypotheses `H.Assumed` — never a Lean axiom; `assumptions_consistent` exhibits an instance.
-/
namespace Iora.C07
open Iora.Tls Iora.Gen.TlsCalls

/-! ## T1 — a session requested with TLS is never a plain session -/

/-- **T1 (connect).** Whatever the configuration, the files and the target: `connect(host, port, req)` with
`req ≠ TlsMode::None` yields a TLS session or a refusal, never a clear-text session. -/
theorem T1_connect_never_plain (tc : TCfg) (tf : TFiles) (req : Mode) (t : Target) (h : req ≠ .none) :
    connectPlan tc tf req t ≠ .plain := by
  rw [connectPlan_eq]
  exact Plan.decided_ne_plain h (by simp)

/-- **T1 (listen).** A listener requested with TLS never hands out clear-text sessions. -/
theorem T1_listen_never_plain (tc : TCfg) (tf : TFiles) (req : Mode) (h : req ≠ .none) :
    listenPlan tc tf req ≠ .plain := by
  rw [listenPlan_eq]
  exact Plan.decided_ne_plain h (by simp)

/-- **T1 (HttpClient).** An `https://` request never runs over a clear-text session. -/
theorem T1_https_never_plain (h : HttpTls) (tf : TFiles) (u : UrlHost) (r : Bool) :
    httpClientPlan h tf true u r ≠ .plain := by
  unfold httpClientPlan
  exact T1_connect_never_plain _ _ _ _ (by simp [httpClientHttpsReq])

/-- **T1 (HttpServer).** After `enableTls` the listener never serves clear text. -/
theorem T1_httpserver_never_plain (h : HttpSrvTls) (tf : TFiles) : httpServerPlan (some h) tf ≠ .plain := by
  rw [httpServerPlan_some]
  split
  · simp
  · exact T1_listen_never_plain _ _ _ (by simp)

/-- non-vacuity: the F18 configuration (TLS requested, client TLS not enabled) is refused, and a well-configured one is TLS -/
example : connectPlan {} {} .client .ipv4 = .refuse .connect := by decide +kernel
example : listenPlan {} {} .server = .refuse .listen := by decide +kernel
example : ∃ c h s, connectPlan { client := { enabled := true, defaultMode := .client } } {} .client .ipv4 = .tls c h s := ⟨_, _, _, rfl⟩

/-! ## T1 (wrong role) — a TLS mode that does not fit the operation is REFUSED, whichever contexts the engine holds -/

/-- **T1 (wrong role, connect).** `connect(host, port, TlsMode::Server)`: for every configuration — in particular an engine that
HOLDS a server context, a client context, both or none — the only outcome is a refusal (of the start or of the connect): never
a plain session, and never a TLS session either (the server context must not be used to connect). -/
theorem T1_wrong_role_connect_refused (tc : TCfg) (tf : TFiles) (t : Target) :
    connectPlan tc tf .server t = .refuse .start ∨ connectPlan tc tf .server t = .refuse .connect := by
  rw [connectPlan_eq]
  exact Plan.decided_wrong_role (by simp) (by simp)

/-- **T1 (wrong role, listen).** `addListener(ip, port, TlsMode::Client)`: refused whichever contexts exist. -/
theorem T1_wrong_role_listen_refused (tc : TCfg) (tf : TFiles) :
    listenPlan tc tf .client = .refuse .start ∨ listenPlan tc tf .client = .refuse .listen := by
  rw [listenPlan_eq]
  exact Plan.decided_wrong_role (by simp) (by simp)

/-- a dual-role engine: both contexts exist (the combination the refusal must not be fooled by) -/
def dualRole : TCfg :=
  { server := { enabled := true, defaultMode := .server, certFileSet := true, keyFileSet := true },
    client := { enabled := true, defaultMode := .client } }
example : ∃ s c, start dualRole {} = .up (some s) (some c) := ⟨_, _, rfl⟩
example : connectPlan dualRole {} .server .ipv4 = .refuse .connect ∧ listenPlan dualRole {} .client = .refuse .listen := by
  constructor <;> decide +kernel
example : ∃ c h s, connectPlan dualRole {} .client .ipv4 = .tls c h s := ⟨_, _, _, rfl⟩
example : ∃ c h s, listenPlan dualRole {} .server = .tls c h s := ⟨_, _, _, rfl⟩

/-- **T1 (UDP).** `UdpEngine::connect` / `addListener` with a TLS mode are refused: there is no DTLS, and a datagram session in
clear is not an acceptable substitute. -/
theorem T1_udp_never_plain (req : Mode) (h : req ≠ .none) :
    udpConnectPlan req = .refuse .connect ∧ udpListenPlan req = .refuse .listen := by
  cases req <;> simp [udpConnectPlan, udpListenPlan, udpConnectRefusesTls, udpListenRefusesTls] at h ⊢
example : udpConnectPlan .none = .plain := by decide +kernel

/-- **T1 (URL spellings).** Whatever the spelling of the scheme: a URL whose scheme is `https` up to letter case is either
rejected by `parseUrl` (nothing is sent) or requested with TLS — never sent over a plain session; and when it is accepted
without a port it goes to the https default port. -/
theorem T1_url_scheme_never_plain (h : HttpTls) (tf : TFiles) (scheme : String) (u : UrlHost) (r : Bool)
    (hs : scheme.toLower = "https") :
    httpUrlPlan h tf scheme u r ≠ some .plain ∧ (urlAccepted scheme = true → urlDefaultPort scheme = httpsDefaultPort) := by
  have hacc : urlAccepted scheme = true → scheme = "https" := by
    intro ha
    simp only [urlAccepted, urlRegexIcase, Bool.or_eq_true, beq_iff_eq, Bool.false_eq_true, if_false] at ha
    rcases ha with ha | ha
    · subst ha; exact absurd hs (by decide +kernel)
    · exact ha
  refine ⟨?_, fun ha => ?_⟩
  · unfold httpUrlPlan
    split
    · rename_i ha
      have := hacc ha
      subst this
      simpa [urlIsHttps, urlSchemeNormalised, isHttpsCaseInsensitive, isHttpsLiteral] using T1_https_never_plain h tf u r
    · simp
  · have := hacc ha
    subst this
    decide +kernel

example : httpUrlPlan {} {} "HTTPS" .ipv4 true = none ∧ httpUrlPlan {} {} "hTTps" .ipv4 true = none := by decide +kernel
example : ∃ c, httpUrlPlan {} {} "https" .ipv4 true = some (.tls c none none) := ⟨_, rfl⟩

/-! ## T2 — the hard TLS 1.2 floor -/

/-- **T2.** For EVERY configured minimum `n` (any integer): the value handed to `SSL_CTX_set_min_proto_version` is at
least TLS 1.2 and at least `n` — the minimum can be raised, never lowered. -/
theorem T2_floor (n : Int) : tls12 ≤ floor n ∧ n ≤ floor n := by
  rw [floor_eq, tls12]
  split <;> omega

/-- **T2 (effective minimum).** For EVERY configured `minVersion` (any integer — unset, below 1.2, a TLS version, a number the
library rejects such as 0x0305, a DTLS number such as 0xFEFD): after `applyTls12Floor` the context HAS a minimum, it lies
between TLS 1.2 and TLS 1.3, and it is at least `minVersion` whenever that is a version the library knows. -/
theorem T2_effective_min (n : Int) :
    ∃ m, applyFloorMin none n = some m ∧ tls12 ≤ m ∧ m ≤ 772 ∧ (n ≤ 772 → n ≤ m) :=
  applyFloorMin_bounds n

/-- **T2 (contexts).** Every TLS session, client or server side, runs on a context whose effective minimum is that value. -/
theorem T2_connect_min (tc : TCfg) (tf : TFiles) (req : Mode) (t : Target) (c : Ctx) (h s : Option String)
    (hp : connectPlan tc tf req t = .tls c h s) :
    c.minProto = applyFloorMin none tc.client.minVersion ∧ tls12 ≤ c.lowest ∧ (tc.client.minVersion ≤ 772 → tc.client.minVersion ≤ c.lowest) := by
  obtain ⟨_, _, _, rfl, _⟩ := connectPlan_tls hp
  exact ⟨rfl, Ctx.lowest_ge rfl⟩

/-- **T2 (contexts, server side).** The same for the sessions a listener accepts. -/
theorem T2_listen_min (tc : TCfg) (tf : TFiles) (req : Mode) (c : Ctx) (h s : Option String)
    (hp : listenPlan tc tf req = .tls c h s) :
    c.minProto = applyFloorMin none tc.server.minVersion ∧ tls12 ≤ c.lowest ∧ (tc.server.minVersion ≤ 772 → tc.server.minVersion ≤ c.lowest) := by
  obtain ⟨_, _, _, rfl, _⟩ := listenPlan_tls hp
  exact ⟨rfl, Ctx.lowest_ge rfl⟩

example : applyFloorMin none 0 = some 771 ∧ applyFloorMin none 772 = some 772 ∧ applyFloorMin none 773 = some 771 ∧
    applyFloorMin none 65277 = some 771 := by decide +kernel
example : floor 0 = 771 ∧ floor 769 = 771 ∧ floor 772 = 772 ∧ floor (-5) = 771 := by decide +kernel

/-! ## T3 — verification is switched on when configured; fail-fast rules -/

/-- **T3a.** `verifyPeer` ⇒ `SSL_VERIFY_PEER` is set on the context of every client session, and its trust store is the
configured CA location or, without one, the default paths — never "no store". -/
theorem T3_client_verify (tc : TCfg) (tf : TFiles) (req : Mode) (t : Target) (c : Ctx) (h s : Option String)
    (hp : connectPlan tc tf req t = .tls c h s) (hv : tc.client.verifyPeer = true) :
    c.verify.contains .peer = true ∧
    c.trust = (if tc.client.caFileSet || tc.client.caPathSet then { file := tc.client.caFileSet, path := tc.client.caPathSet, dflt := false } else { dflt := true }) := by
  obtain ⟨_, _, _, rfl, _⟩ := connectPlan_tls hp
  simp [clientCtxOf, hv]

/-- **T3b.** A session that is TLS was configured for it: the matching block is enabled with the matching default mode. -/
theorem T3_tls_only_if_enabled (tc : TCfg) (tf : TFiles) (req : Mode) (t : Target) (c : Ctx) (h s : Option String)
    (hp : connectPlan tc tf req t = .tls c h s) : tc.client.enabled = true ∧ tc.client.defaultMode = .client ∧ c.role = .client := by
  obtain ⟨_, _, hon, rfl, _⟩ := connectPlan_tls hp
  exact ⟨(Cfg.on_iff.mp hon).1, (Cfg.on_iff.mp hon).2, rfl⟩

/-- **T3c (server fail-fast).** A server block that requires client certificates without any CA location, whose CA does
not load, or whose own certificate/key is unreadable, does not load, does not match or is expired makes `start()` fail:
no listener, no session. -/
theorem T3_server_failfast (tc : TCfg) (tf : TFiles) (req : Mode)
    (he : tc.server.enabled = true) (hm : tc.server.defaultMode = .server)
    (hbad : (tc.server.verifyPeer = true ∧ tc.server.caFileSet = false ∧ tc.server.caPathSet = false) ∨
            (tc.server.verifyPeer = true ∧ tf.server.caLoads = false) ∨
            (tc.server.certFileSet = true ∧ tc.server.keyFileSet = true ∧
              (tf.server.certReadable = false ∨ tf.server.keyReadable = false ∨ tf.server.certLoads = false ∨
               tf.server.keyLoads = false ∨ tf.server.keyMatches = false ∨ tf.server.certNotExpired = false))) :
    listenPlan tc tf req = .refuse .start := by
  have hr : startRefused tc tf = true := by
    rw [startRefused, Cfg.on_iff.mpr ⟨he, hm⟩, serverCtx_refused]
    rcases hbad with ⟨hv, h1, h2⟩ | ⟨hv, h1⟩ | ⟨h1, h2, h | h | h | h | h | h⟩ <;> simp [Files.ownOk, *]
  rw [listenPlan_eq, hr]
  exact Plan.decided_refused

example : listenPlan { server := { enabled := true, defaultMode := .server, verifyPeer := true } } {} .server = .refuse .start := by decide +kernel
example : listenPlan { server := { enabled := true, defaultMode := .server, certFileSet := true, keyFileSet := true } }
    { server := { certNotExpired := false } } .server = .refuse .start := by decide +kernel

/-- **T3 (HttpClient).** `TlsConfig.verifyPeer` ⇒ `SSL_VERIFY_PEER`, and a configured `caFile` IS the verification store
(without one: the default paths). -/
theorem T3_http_client_verify (h : HttpTls) (tf : TFiles) (u : UrlHost) (r : Bool) (c : Ctx) (host sni : Option String)
    (hp : httpClientPlan h tf true u r = .tls c host sni) (hv : h.verifyPeer = true) :
    c.verify.contains .peer = true ∧ c.trust = (if h.caFileSet then { file := true } else { dflt := true }) := by
  have := T3_client_verify (httpClientCfg h) tf _ _ c host sni hp (by simp [httpClientCfg_eq, hv])
  cases hca : h.caFileSet <;> simpa [httpClientCfg_eq, hca] using this

/-- **T3 (client authentication, general form).** For EVERY configuration whose cipher string does not enable anonymous key
exchange, every file state, target, trust store content and peer: a client session with `verifyPeer` that completes the
handshake faces a TLS peer that owns a certificate which chains to the context's store, is inside its validity period and —
when the target is a host name — is issued for that name. -/
theorem T3_client_authenticated (H : Handshake) (hA : H.Assumed) (tc : TCfg) (tf : TFiles) (req : Mode) (t : Target) (c : Ctx)
    (h s : Option String) (hp : connectPlan tc tf req t = .tls c h s) (hv : tc.client.verifyPeer = true)
    (hc : tc.client.ciphers ≠ .enablesAnon) (a : Anchors) (p : SrvPeer) (v : Int) (hr : H.client c h a p = some v) :
    p.kind = .tls ∧ p.cert.possession = true ∧ chains p.cert a = true ∧ p.cert.inTime = true ∧
    (∀ n, t = .name n → p.cert.names.contains n = true) := by
  obtain ⟨_, _, _, rfl, rfl, _⟩ := connectPlan_tls hp
  obtain ⟨hk, hpos, hver⟩ := hA.client_peer (by simp [clientCtxOf, hc]) hr
  obtain ⟨h1, h2, h3⟩ := hver (by simp [clientCtxOf, hv])
  refine ⟨hk, hpos, h1, h2, fun n hn => ?_⟩
  subst hn
  simpa [hv, Target.name?, nameOk] using h3

/-- the hypothesis on the cipher string is NEEDED (documented behaviour, reproduced by the `anon` cells of the harness): with
`ciphers` enabling anonymous suites (e.g. `ALL:@SECLEVEL=0`) a `verifyPeer` client completes a handshake with a peer that
shows no certificate at all -/
example :
    let tc : TCfg := { client := { enabled := true, defaultMode := .client, verifyPeer := true, caFileSet := true, ciphers := .enablesAnon } }
    let peer : SrvPeer := { kind := .anon, cert := CertKind.selfSigned.props, ceil := 771 }
    clientOutcome Ossl.ref (connectPlan tc {} .client (.name theHost)) .right .empty peer = some 771 := by decide +kernel

/-! ## T4 — host-name check when connecting by name -/

/-- **T4 (engine).** A client session made to a host NAME carries SNI for that name and, with verification on, has the
certificate bound to that name (`SSL_set1_host`) — for every name, configuration and file state. -/
theorem T4_engine_hostcheck (tc : TCfg) (tf : TFiles) (req : Mode) (n : String) (c : Ctx) (h s : Option String)
    (hp : connectPlan tc tf req (.name n) = .tls c h s) :
    s = some n ∧ (tc.client.verifyPeer = true → h = some n) := by
  obtain ⟨_, _, _, _, rfl, rfl⟩ := connectPlan_tls hp
  exact ⟨rfl, fun hv => by rw [hv]; rfl⟩

/-- the full statement for the HTTP client: an https request to a host name with verification on checks that name -/
def T4_http_statement : Prop :=
  ∀ (h : HttpTls) (tf : TFiles) (n : String) (resolves : Bool) (c : Ctx) (host sni : Option String),
    h.verifyPeer = true → httpClientPlan h tf true (.name n) resolves = .tls c host sni → host = some n

/-- **T4 (HttpClient) — refuted (finding F20-http).** `acquireConnection` resolves the name first and connects to the
address, so the engine sees an IP literal and binds no name: `https://localhost/` with `verifyPeer` is not name-checked. -/
theorem T4_http_refuted : ¬ T4_http_statement := by
  intro hst
  have := hst {} {} "localhost" true _ none none rfl rfl
  cases this

/-- **T4 (HttpClient) — partial.** The name IS checked when it reaches the engine unresolved (resolution failed and the
literal name is passed on). -/
theorem T4_http_partial (h : HttpTls) (tf : TFiles) (n : String) (c : Ctx) (host sni : Option String)
    (hv : h.verifyPeer = true) (hp : httpClientPlan h tf true (.name n) false = .tls c host sni) : host = some n := by
  -- unresolved, the literal name is the engine's target: `httpTarget (.name n) false = .name n`
  exact (T4_engine_hostcheck (httpClientCfg h) tf _ n c host sni hp).2 (by simp [httpClientCfg_eq, hv])

/-! ## T5 — a server that requires client certificates rejects clients without one -/

/-- **T5 (flags).** `serverTls.verifyPeer` ⇒ `SSL_VERIFY_PEER | SSL_VERIFY_FAIL_IF_NO_PEER_CERT`, and the store holds the configured
CA location(s) AND NOTHING ELSE: the trust store is a set that accumulates, and the system roots (`default`) are not in it. -/
theorem T5_server_flags (tc : TCfg) (tf : TFiles) (req : Mode) (c : Ctx) (h s : Option String)
    (hp : listenPlan tc tf req = .tls c h s) (hv : tc.server.verifyPeer = true) :
    c.verify.contains .peer = true ∧ c.verify.contains .failIfNoPeerCert = true ∧
    c.trust = { file := tc.server.caFileSet, path := tc.server.caPathSet, dflt := false } ∧ c.trust.located = true := by
  obtain ⟨hr, _, hon, rfl, _⟩ := listenPlan_tls hp
  simp [serverCtxOf, hv, server_ca_of_verifyPeer hr hon hv, Trust.located]

/-- **T5 (HttpServer).** `requireClientCert` ⇒ `SSL_VERIFY_PEER | SSL_VERIFY_FAIL_IF_NO_PEER_CERT` on the listener's context. -/
theorem T5_http_server_flags (h : HttpSrvTls) (tf : TFiles) (c : Ctx) (host sni : Option String)
    (hp : httpServerPlan (some h) tf = .tls c host sni) (hr : h.requireClientCert = true) :
    c.verify.contains .peer = true ∧ c.verify.contains .failIfNoPeerCert = true := by
  rw [httpServerPlan_some] at hp
  split at hp
  · cases hp
  · have := T5_server_flags _ _ _ c host sni hp hr
    exact ⟨this.1, this.2.1⟩

/-- **T5 (HttpServer, own certificate).** Whenever `enableTls(h)` leads to a TLS listener, its context has LOADED the certificate and the
key that `h` names and is a server context: `start()` really hands `certFile`/`keyFile` on (consumes `httpServerMap.certFile/keyFile`
and both `enableTls` preconditions — with either missing, a listener without certificate could be configured). -/
theorem T5_http_server_presents_cert (h : HttpSrvTls) (tf : TFiles) (c : Ctx) (host sni : Option String)
    (hp : httpServerPlan (some h) tf = .tls c host sni) :
    c.certLoaded = true ∧ c.keyLoaded = true ∧ c.role = .server ∧ h.certFileSet = true ∧ h.keyFileSet = true := by
  rw [httpServerPlan_some] at hp
  split at hp
  · cases hp
  · rename_i hck
    obtain ⟨_, _, _, rfl, _⟩ := listenPlan_tls hp
    have hck : h.certFileSet = true ∧ h.keyFileSet = true := by
      simp only [enableTlsInvalid, enableTlsRequiresCertAndKey, Bool.true_and, Bool.or_eq_true, not_or] at hck
      simpa using hck.1
    simp [serverCtxOf, hck.1, hck.2]

example : ∃ c host sni, httpServerPlan (some {}) {} = .tls c host sni := ⟨_, _, _, rfl⟩
example : httpServerPlan (some { keyFileSet := false }) {} = .refuse .enableTls := by decide +kernel

/-- **T5 (store).** Whatever the system store holds, the verification store of a `verifyPeer` server is exactly what the operator
configured: a client certificate issued by a publicly trusted (system-store) CA is NOT admitted on that ground. -/
theorem T5_server_store_is_configured (tc : TCfg) (tf : TFiles) (req : Mode) (c : Ctx) (h s : Option String)
    (hp : listenPlan tc tf req = .tls c h s) (hv : tc.server.verifyPeer = true) (configured sys : Anchors) :
    c.trust.dflt = false ∧ storeOf c.trust configured sys = configured := by
  obtain ⟨_, _, ht, hl⟩ := T5_server_flags tc tf req c h s hp hv
  have hd : c.trust.dflt = false := by rw [ht]
  refine ⟨hd, ?_⟩
  simp [storeOf, hl, hd, Anchors.union_empty]

/-- the accumulation is real: had `initTls` ALSO called `SSL_CTX_set_default_verify_paths`, the system store would be trusted too -/
example : storeOf { file := true, dflt := true } .wrong .right = .both ∧
    chains { issuer := .rightCA, inTime := true, names := [], possession := true } .both = true ∧
    chains { issuer := .rightCA, inTime := true, names := [], possession := true } (storeOf { file := true } .wrong .right) = false := by
  refine ⟨by decide +kernel, by decide +kernel, by decide +kernel⟩

/-- **T5 (end to end).** Under the assumed OpenSSL semantics, a `verifyPeer` server admits NO client that presents no
certificate, and admits a client with a certificate only if it chains to the configured store, is inside its validity
period and is owned by the client — whatever the rest of the configuration, INCLUDING a cipher string that enables
anonymous suites (a certificate request cannot be answered in an anonymous handshake, so it fails). -/
theorem T5_server_admits_only_valid (H : Handshake) (hA : H.Assumed) (tc : TCfg) (tf : TFiles) (req : Mode) (c : Ctx)
    (h s : Option String) (hp : listenPlan tc tf req = .tls c h s) (hv : tc.server.verifyPeer = true)
    (a : Anchors) (p : CliPeer) (v : Int) (hr : H.server c a p = some v) :
    p.kind = .tls ∧ ∃ cc, p.cert = some cc ∧ chains cc a = true ∧ cc.inTime = true ∧ cc.possession = true := by
  obtain ⟨hpe, hfail, _⟩ := T5_server_flags tc tf req c h s hp hv
  -- with both flags set no anonymous peer completes, whatever the cipher list
  obtain ⟨hk, hok⟩ := hA.server_peer (by rw [hpe, hfail]; exact Bool.and_false _) hr
  have hok := hok hpe
  cases hcert : p.cert with
  | none => rw [hcert, Ossl.clientCertOk, hfail] at hok; cases hok
  | some cc =>
    simp only [hcert, Ossl.clientCertOk, Bool.and_eq_true] at hok
    exact ⟨hk, cc, rfl, hok.1.1, hok.1.2, hok.2⟩

/-! ## T6 — the end-to-end decision over the whole matrix -/

/-- **T6 (client).** For EVERY cell of verify × trust{right, wrong, none} × serverCert{valid, self-signed, expired,
wrong-name, key-mismatch, SAN-other, CN-only} × peer ceiling{1.0…1.3} × peer{tls, plaintext, garbage, anonymous-only} ×
target{name, ip} × configured minimum{unset, 1.0…1.3} and every `H` with the assumed semantics: the session is announced as
connected exactly in the admissible cells, at a version ≥ TLS 1.2, and is never plain. -/
theorem T6_client_matrix (H : Handshake) (hA : H.Assumed) (c : CliCell) :
    ((c.outcome H).isSome = Spec.cliAdmissible c) ∧ (∀ v, c.outcome H = some v → Spec.tls12 ≤ v) ∧ c.plan ≠ .plain := by
  exact ⟨(CliCell.outcome_admissible hA c).1, (CliCell.outcome_admissible hA c).2, T1_connect_never_plain _ _ _ _ (by simp)⟩

/-- **T6 (server).** Same for iora as the server: verify × trust × own certificate × clientCert{none, valid, untrusted,
expired} × peer ceiling × peer kind × configured minimum. -/
theorem T6_server_matrix (H : Handshake) (hA : H.Assumed) (c : SrvCell) :
    ((c.outcome H).isSome = Spec.srvAdmissible c) ∧ (∀ v, c.outcome H = some v → Spec.tls12 ≤ v) ∧ c.plan ≠ .plain := by
  exact ⟨(SrvCell.outcome_admissible hA c).1, (SrvCell.outcome_admissible hA c).2, T1_listen_never_plain _ _ _ (by simp)⟩

/-- the full statement for the HTTP client: in every cell of `TlsConfig{verifyPeer, caFile}` × system store × server
certificate × ceiling × peer × URL{name, ip}, a response is returned exactly in the admissible cells -/
def T6_http_statement : Prop :=
  ∀ (H : Handshake), H.Assumed → ∀ c : HttpCell, (c.outcome H).isSome = Spec.httpAdmissible c

/-- **T6 (HttpClient) — refuted (finding F20-http).** Witness: `verifyPeer`, `caFile` = the issuing CA, certificate
issued for `other.example`, `https://localhost/…` — a response is returned although the cell is not admissible. -/
theorem T6_http_refuted : ¬ T6_http_statement := by
  intro h
  have := h Ossl.ref ref_assumed ⟨true, .right, .none, .wrongName, .v13, .tls, true⟩
  revert this
  decide +kernel

/-- **T6 (HttpClient) — partial.** Outside the carve-out `nameUnchecked` (URL with a host name, verification on,
certificate for another name) the decision is exact in EVERY cell; and in every cell, carve-out or not, the version is
≥ TLS 1.2 and the session is never plain. -/
theorem T6_http_partial (H : Handshake) (hA : H.Assumed) (c : HttpCell) :
    (c.nameUnchecked = false → (c.outcome H).isSome = Spec.httpAdmissible c) ∧
    (∀ v, c.outcome H = some v → Spec.tls12 ≤ v) ∧ c.plan ≠ .plain := by
  exact ⟨(HttpCell.outcome_admissible hA c).1, (HttpCell.outcome_admissible hA c).2, T1_https_never_plain _ _ _ _⟩

/-- **T6 (the property's "only if", spelled out).** A client session announced with verification on: the peer owns a
certificate that chains to the configured anchor, is inside its validity period and — when connecting by name — is
issued for that name; and the version is ≥ TLS 1.2. -/
theorem T6_client_only_if (H : Handshake) (hA : H.Assumed) (c : CliCell) (v : Int) (hv : c.outcome H = some v) :
    Spec.tls12 ≤ v ∧ c.peer = .tls ∧ c.scert.props.possession = true ∧
    (c.verify = true → chains c.scert.props c.trust.anchors = true ∧ c.scert.props.inTime = true ∧
      (c.byName = true → c.scert.props.names.contains theHost = true)) := by
  obtain ⟨h1, h2, _⟩ := T6_client_matrix H hA c
  rw [hv] at h1
  have ha : Spec.cliAdmissible c = true := by simpa using h1.symm
  simp only [Spec.cliAdmissible, Bool.and_eq_true, beq_iff_eq, Bool.or_eq_true, Bool.not_eq_true'] at ha
  refine ⟨h2 v hv, ha.1.1.1, ha.1.1.2, fun hver => ?_⟩
  rcases ha.2 with h | h
  · rw [hver] at h; cases h
  · refine ⟨h.1.1, h.1.2, fun hn => ?_⟩
    rcases h.2 with h' | h'
    · rw [hn] at h'; cases h'
    · exact h'

/-! ## T7 — before the handshake is done nothing is announced, sent or delivered; nothing ever goes out or comes in raw -/

/-- **T7 (receive).** For EVERY sequence of events on a TLS session — sends, EPOLLOUT, and EPOLLIN with any bytes pending on the
wire and any answer of `SSL_do_handshake`: (a) no byte taken off the socket by the raw `::recv` is ever handed to `onData`, and
no byte goes out raw; (b) as long as `SSL_do_handshake` has not returned 1, NOTHING is delivered to `onData` (all the application
can see is the close).  `readAvail` itself would read raw for a session in its handshake: the guarantee is the callers', and the
machine consumes `readAvailSslWhenOpenTls`, `readAvailAfterHandshakeGate`, `driveHsReadsOnlyAfterOpen` and the send-side gates. -/
theorem T7_recv_only_through_ssl (s : Sess) (evs : List REv) (h : s.IsTls) :
    (∀ bs, ROut.deliverRaw bs ∉ rRun s evs ∧ ROut.out (.rawWire bs) ∉ rRun s evs) ∧
    (s.tlsState = .handshake → s.announced = false → (∀ e ∈ evs, e.isHsOk = false) → ∀ o ∈ rRun s evs, o = .out .onClose) :=
  ⟨(rRun_tls_only s evs h).1, fun hs _ hev => (rRun_tls_only s evs h).2 hs hev⟩

/-- **T7.** For EVERY sequence of I/O-thread events (immediate-connect check, epoll events with any `SSL_do_handshake` answer,
application sends), a TLS session (a) never hands application bytes to `::send` raw — neither from `doSend` nor from
`writePending` — and (b) as long as no `SSL_do_handshake` returned 1 it announces nothing and writes nothing at all: sends
are queued and dropped with the session if the handshake fails.  The machine consumes every guard fact of `Gen`, so that the
proof breaks when one of them disappears from the source. -/
theorem T7_tls_session_never_clear (s : Sess) (evs : List SEv) (h : s.IsTls) :
    (∀ bs, SOut.rawWire bs ∉ sessRun s evs) ∧
    (s.tlsState = .handshake → s.announced = false → (∀ e ∈ evs, e.isHsOk = false) → ∀ o ∈ sessRun s evs, o = .onClose) :=
  ⟨(sessRun_tls_only s evs h).1, fun hs _ hev => (sessRun_tls_only s evs h).2 hs hev⟩

/-- non-vacuity: bytes that arrive DURING the handshake are not delivered; after `SSL_do_handshake` = 1 they are, through `SSL_read`;
a plain session delivers raw (so the machine can tell the difference) -/
example : rRun { req := .client, tlsMode := .client, tlsState := .handshake } [.inp [1, 2] none] = [] := by decide +kernel
example : rRun { req := .client, tlsMode := .client, tlsState := .handshake } [.inp [1, 2] (some true)] =
    [.out .onConnect, .deliverTls [1, 2]] := by decide +kernel
example : rRun { req := .none } [.inp [7] none] = [.deliverRaw [7]] := by decide +kernel

/-- **T7 (handshake outcomes).** For every session in the handshake and either kind of epoll event: `WANT_READ/WRITE` changes
nothing and emits nothing (the handshake stays pending, the queue stays queued); a fatal result closes the session, DROPS the
queue and reports exactly one close. -/
theorem T7_handshake_outcomes (s : Sess) (out : Bool) (hh : s.inHs = true) (hc : s.closed = false) :
    sessStep s (.epoll out none) = (s, []) ∧
    sessStep s (.epoll out (some false)) = ({ s with closed := true, wq := [] }, [.onClose]) := by
  rw [sessStep_inHs s _ hc hh, sessStep_inHs s _ hc hh]
  exact ⟨rfl, rfl⟩

/-- non-vacuity: the machine DOES something with early data — it stays queued across writable events while the handshake
is incomplete, is dropped with a failed handshake, and goes to `SSL_write` (after the announce) once it succeeds -/
example : sessRun { req := .client, tlsMode := .client, tlsState := .handshake }
    [.appSend [1], .immediate, .epoll true none, .epoll true none, .epoll false (some false)] = [.onClose] := by decide +kernel
example : sessRun { req := .client, tlsMode := .client, tlsState := .handshake }
    [.appSend [1], .epoll true none, .epoll true (some true), .appSend [3], .epoll true none] =
    [.onConnect, .sslWrite [1], .sslWrite [3]] := by decide +kernel
example : sessRun { req := .server, tlsMode := .server, tlsState := .handshake, connectPending := false }
    [.appSend [7], .epoll false none, .epoll false (some true), .epoll true none] = [.onConnect, .sslWrite [7]] := by decide +kernel
/-- and a plain session (requested as such) does write raw: the invariant is not vacuous -/
example : sessRun { } [.immediate, .appSend [1]] = [.onConnect, .rawWire [1]] := by decide +kernel

/-! ## T8 — T7 holds of the sessions an engine creates when TLS was requested -/

/-- **T8 (connect).** Plan and session machine together: whatever the configuration, for a request with TLS (`req ≠ None`) the
session that `connect` creates — if any — never emits a raw application byte, for every event sequence. -/
theorem T8_requested_tls_never_clear (tc : TCfg) (tf : TFiles) (req : Mode) (t : Target) (hreq : req ≠ .none)
    (s : Sess) (hs : (connectPlan tc tf req t).session true req = some s) (evs : List SEv) :
    ∀ bs, SOut.rawWire bs ∉ sessRun s evs :=
  (sessRun_tls_only s evs (connectPlan_session hreq hs).1).1

/-- **T8 (listen).** The same for the sessions accepted on a listener requested with TLS. -/
theorem T8_listener_tls_never_clear (tc : TCfg) (tf : TFiles) (req : Mode) (hreq : req ≠ .none)
    (s : Sess) (hs : (listenPlan tc tf req).session false req = some s) (evs : List SEv) :
    ∀ bs, SOut.rawWire bs ∉ sessRun s evs :=
  (sessRun_tls_only s evs (listenPlan_session hreq hs).1).1

/-- **T8 (receive, connect).** Plan and receive machine together: for a request with TLS the session `connect` creates — if any —
never delivers a raw byte and delivers nothing before its handshake succeeded, for every event sequence. -/
theorem T8_requested_tls_recv (tc : TCfg) (tf : TFiles) (req : Mode) (t : Target) (hreq : req ≠ .none)
    (s : Sess) (hs : (connectPlan tc tf req t).session true req = some s) (evs : List REv) :
    (∀ bs, ROut.deliverRaw bs ∉ rRun s evs) ∧ ((∀ e ∈ evs, e.isHsOk = false) → ∀ o ∈ rRun s evs, o = .out .onClose) := by
  obtain ⟨h, hh⟩ := connectPlan_session hreq hs
  have hT := rRun_tls_only s evs h
  exact ⟨fun bs => (hT.1 bs).1, hT.2 hh⟩

/-- **T8 (receive, listen).** The same for the sessions accepted on a listener requested with TLS. -/
theorem T8_listener_tls_recv (tc : TCfg) (tf : TFiles) (req : Mode) (hreq : req ≠ .none)
    (s : Sess) (hs : (listenPlan tc tf req).session false req = some s) (evs : List REv) :
    (∀ bs, ROut.deliverRaw bs ∉ rRun s evs) ∧ ((∀ e ∈ evs, e.isHsOk = false) → ∀ o ∈ rRun s evs, o = .out .onClose) := by
  obtain ⟨h, hh⟩ := listenPlan_session hreq hs
  have hT := rRun_tls_only s evs h
  exact ⟨fun bs => (hT.1 bs).1, hT.2 hh⟩

/-! ## T9 — the connection cache of `HttpClient` never reuses a plain connection for https -/

/-- **T9 (connection cache).** For EVERY sequence of requests to one host:port on one `HttpClient` (any mix of http and
https, connections kept or dropped after each exchange, any initial cache content): every https request is carried by a
session that was opened with `TlsMode::Client` — a cached plain connection is never reused for it. -/
theorem T9_cache_never_carries_https_in_clear (cached : Option Mode) (reqs : List CacheReq) :
    ∀ x ∈ cacheRun cached reqs, x.1 = true → x.2.1 = httpClientHttpsReq := by
  induction reqs generalizing cached with
  | nil => simp [cacheRun]
  | cons r rs ih =>
    intro x hx hhttps
    simp only [cacheRun, List.mem_cons] at hx
    rcases hx with rfl | hx
    · simp only at hhttps
      simp only [cacheStep, hhttps, cacheReuseChecksTlsMode]
      cases cached with
      | none => simp
      | some m =>
        by_cases hm : m = httpClientHttpsReq <;> simp [hm]
    · exact ih _ x hx hhttps

/-- non-vacuity: http then https to the same host:port opens a second, TLS, connection -/
example : cacheRun none [⟨false, false⟩, ⟨true, false⟩] = [(false, .none, true), (true, .client, true)] := by decide +kernel

/-! ## T10 — the TLS settings of an `HttpClient` are the ones last accepted by `setTlsConfig` -/

/-- **T10.** For EVERY history of `setTlsConfig` calls, requests and DNS accessors on one `HttpClient`: the settings the
transport's client context was built from are the settings `setTlsConfig` accepted last — a call that could not take effect
any more (the transport exists and the settings differ) throws instead of being silently ignored.  In particular
`setTlsConfig{verifyPeer=false}; get; setTlsConfig{verifyPeer=true}; get` never runs its second request unverified while
reporting success of the reconfiguration. -/
theorem T10_settings_in_force (ops : List HOp) :
    (hRun {} ops).applied = none ∨ (hRun {} ops).applied = some (hRun {} ops).stored :=
  hRun_coherent {} ops (Or.inl rfl)

example : (hStep (hRun {} [.setTls { verifyPeer := false }, .touch]) (.setTls { verifyPeer := true })).2 = true := by decide +kernel
example : hRun {} [.setTls { verifyPeer := false }, .setTls { verifyPeer := true, caFileSet := true }, .touch] =
    { stored := { verifyPeer := true, caFileSet := true }, applied := some { verifyPeer := true, caFileSet := true } } := by decide +kernel

/-- **T10 (failed initialisation).** For every history that also contains FAILING initialisations (`_transport->start()` refuses,
e.g. a `caFile` that cannot be loaded): the client is never left with a dead transport, so while nothing is initialised every
`setTlsConfig` is accepted (the operator can correct the settings) — and `T10_settings_in_force` keeps holding. -/
theorem T10_init_failure_recoverable (ops : List HOp) (c : HttpTls) :
    (hRun {} ops).dead = false ∧ ((hRun {} ops).applied = none → (hStep (hRun {} ops) (.setTls c)).2 = false) := by
  have hd := hRun_alive {} ops rfl
  refine ⟨hd, fun ha => ?_⟩
  simp [hStep, ha, hd]

example : hRun {} [.setTls { caFileSet := true }, .touchFail, .setTls {}, .touch] = { stored := {}, applied := some {} } := by decide +kernel
example : (hStep (hRun {} [.setTls { caFileSet := true }, .touchFail]) .touchFail).2 = true := by decide +kernel

/-! ## T11 — `HttpServer`: the TLS settings in force are the ones `enableTls` accepted last, over every call history -/

/-- **T11.** For EVERY history of `enableTls` / `start` / `stop` calls on one `HttpServer`: (a) a started server runs with exactly
the settings `enableTls` accepted last — a call that can no longer take effect (the server is started) throws instead of being
silently ignored; (b) therefore a server on which an `enableTls` is in force never serves clear text, also after any number of
restarts.  (c) is `T11_enableTls_effect`. -/
theorem T11_server_settings_in_force (ops : List HSOp) (tf : TFiles) :
    ((hsRun {} ops).running = none ∨ (hsRun {} ops).running = some (hsRun {} ops).stored) ∧
    ((hsRun {} ops).stored.isSome = true → (hsRun {} ops).plan tf ≠ some .plain) := by
  have hc := hsRun_coherent {} ops (Or.inl rfl)
  refine ⟨hc, fun hs => ?_⟩
  rcases hc with hc | hc
  · simp [HSState.plan, hc]
  · obtain ⟨h, hh⟩ := Option.isSome_iff_exists.mp hs
    simp only [HSState.plan, hc, hh, Option.map_some, ne_eq, Option.some.injEq]
    exact T1_httpserver_never_plain h tf

/-- **T11 (c).** An accepted `enableTls` stores its argument and is possible only on a server that is not started; no call drops a
stored configuration. -/
theorem T11_enableTls_effect (s : HSState) (c : HttpSrvTls) :
    ((hsStep s (.enableTls c)).2 = false → (hsStep s (.enableTls c)).1.stored = some c ∧ s.running = none) ∧
    (∀ o h, s.stored = some h → (hsStep s o).1.stored.isSome = true) := by
  refine ⟨?_, fun o h hs => hsStep_keeps s o h hs⟩
  rcases hsStep_enableTls s c with he | ⟨hr, _, he⟩ <;> rw [he]
  · intro hok; cases hok
  · exact fun _ => ⟨rfl, hr⟩

/-- `start(); enableTls(c)` throws (finding FC07d: it was accepted and the listener stayed plain); the two legal orders give a TLS
listener, and a restart keeps it -/
example : (hsStep (hsRun {} [.start]) (.enableTls {})).2 = true := by decide +kernel
example : (hsRun {} [.enableTls {}, .start, .stop, .start]).running = some (some {}) := by decide +kernel
example : (hsRun {} [.start, .stop, .enableTls {}, .start]).running = some (some {}) := by decide +kernel
example : ∃ c h s, (hsRun {} [.enableTls {}, .start]).plan {} = some (.tls c h s) := ⟨_, _, _, rfl⟩

/-! ## T12 — `IoraService`: server TLS settings are never silently dropped -/

/-- **T12.** For every combination of the optional `server.tls` settings and every state of the files: when the operator asked for
TLS (a certificate or a key is named, or client certificates are required) the service's webhook server is a TLS listener or the
start is refused (incomplete settings, unloadable files) — NEVER a clear-text listener.  (Finding FC07f: under the condition
`certFile && keyFile && caFile`, certificate + key without a CA file started a plain server.) -/
theorem T12_service_requested_tls_never_plain (c : SvcTls) (tf : TFiles) (h : c.requested = true) :
    servicePlan c tf ≠ .plain := by
  -- the generated condition `serviceHasTls`, evaluated at `c.env`, is `c.requested`
  rw [servicePlan, if_pos (show serviceHasTls.eval c.env = true from h)]
  exact T1_httpserver_never_plain _ tf

/-- the witness of FC07f is a TLS listener; nothing asked = plain; half a configuration is refused -/
example : ∃ ctx h s, servicePlan { certSet := true, keySet := true } {} = .tls ctx h s := ⟨_, _, _, rfl⟩
example : servicePlan {} {} = .plain := by decide +kernel
example : servicePlan { certSet := true } {} = .refuse .enableTls := by decide +kernel
example : servicePlan { requireClientCert := true, certSet := true, keySet := true } {} = .refuse .enableTls := by decide +kernel
/-- and the condition of FC07f is false on exactly that witness -/
example : (G.and (.and (.atom .certFileSet) (.atom .keyFileSet)) (.atom .caFileSet)).eval (SvcTls.env { certSet := true, keySet := true }) = false := by
  decide +kernel

/-! ## pins on generated facts that the model takes for granted -/

/-- configuration-affecting OpenSSL calls occur only in the functions the model mirrors.  The translator inventories every call, prefixed
or not (a name it does not know is a translator error), so a name the inventory does not list is called nowhere: `true`. -/
def confined (name : String) (allowed : List String) : Bool :=
  match sslCallInventory.find? (fun x => x.1 == name) with
  | some (_, fns) => fns.all (fun f => allowed.contains f)
  | none => true

/-- **Gen pins.** The contexts are built with the TLS (not DTLS, not version-specific) methods; a failing `SSL_set1_host`
ends the connect; `localhost` resolves to an address literal (so `httpTarget` is right to treat resolved names as IP
targets); verification-relevant calls are confined to `initTls` / `applyTls12Floor` / `doConnect` / `onListener`. -/
theorem Gen_pins :
    serverCtx.method = "TLS_server_method" ∧ clientCtx.method = "TLS_client_method" ∧
    connectSite.set1hostFailClosed = true ∧ httpClientLocalhost = "127.0.0.1" ∧
    plainAnnounceRequiresModeNone = true ∧
    confined "SSL_CTX_set_verify" ["initTls"] = true ∧ confined "SSL_CTX_set_cipher_list" ["initTls"] = true ∧
    confined "SSL_CTX_load_verify_locations" ["initTls"] = true ∧ confined "SSL_CTX_set_default_verify_paths" ["initTls"] = true ∧
    confined "SSL_CTX_set_min_proto_version" ["applyTls12Floor"] = true ∧ confined "SSL_new" ["doConnect", "onListener"] = true ∧
    confined "SSL_set1_host" ["doConnect"] = true ∧ confined "SSL_set_tlsext_host_name" ["doConnect"] = true ∧
    confined "SSL_do_handshake" ["driveHandshake"] = true ∧ confined "SSL_write" ["doSend", "writePending"] = true := by
  decide +kernel

/-- the hypotheses about OpenSSL are satisfiable: the executable reference is an instance -/
theorem assumptions_consistent : Ossl.ref.Assumed := ref_assumed

/-- non-vacuity of the matrix: admissible and inadmissible cells both exist, on both sides -/
example : Spec.cliAdmissible ⟨true, .right, .valid, .v13, .tls, true, .unset⟩ = true ∧
          Spec.cliAdmissible ⟨true, .right, .wrongName, .v13, .tls, true, .unset⟩ = false ∧
          Spec.cliAdmissible ⟨true, .right, .wrongName, .v13, .tls, false, .unset⟩ = true ∧
          Spec.cliAdmissible ⟨false, .none, .selfSigned, .v11, .tls, true, .unset⟩ = false := by decide +kernel
example : Spec.srvAdmissible ⟨true, .right, .valid, .valid, .v12, .tls, .unset⟩ = true ∧
          Spec.srvAdmissible ⟨true, .right, .valid, .none, .v12, .tls, .unset⟩ = false := by decide +kernel

end Iora.C07
