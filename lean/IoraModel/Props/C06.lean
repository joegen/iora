import IoraModel.Lemmas.UdpTokens
import IoraModel.Lemmas.UdpCount
import IoraModel.Lemmas.UdpWake
/-!
# C06 — UDP keeps datagram boundaries and the peer-to-session mapping

Property theorems (lemmas: `Lemmas/Udp*.lean`; model: `Model/UdpEngine.lean`, `Model/UdpWake.lean`; translated facts: `Gen/Udp.lean`).
`run cfg h` is the I/O thread run on the history `h` from a fresh engine; histories contain every kernel answer, so
"for all `h`" is "for all peers, sizes, contents, interleavings of opens/closes/sends/receives/expiry and all EAGAIN/error
patterns".  `Cfg` defaults are the repository's `TransportConfig` defaults (regenerated on every run).
-/
namespace Iora.C06
open Iora Iora.Udp

/-- the configuration the engine runs with by default (all fields from `Gen/Udp.lean`) -/
def defaultCfg : Cfg := {}

/-! ## Obligations on the translated facts

Every `Gen.Udp.*` value below is DERIVED by `tools/tr_udp.py` from the text of the working tree on each run (a boolean is the
result of matching the named shape, a list is what was found) — none is a literal of the translator.  A source shape the
translator cannot read at all is a translator error instead (also a broken tie). -/

/-- **G1.** The one receive buffer of `readFromListener` and of `onClient` is `buf.resize(_config.ioReadChunk)`, offered whole to
`recvfrom`/`recv`; the data callback gets exactly `BufferView{buf.data(), n}`; and the default `ioReadChunk` holds the largest UDP
datagram: no datagram of the property's size range (1…65507) can be truncated by it. -/
theorem G1_recv_buffer_holds_max_datagram :
    Gen.Udp.recvBufferListenerIsIoReadChunk = true ∧ Gen.Udp.recvBufferClientIsIoReadChunk = true ∧
    Gen.Udp.dataViewListenerIsReturnValue = true ∧ Gen.Udp.dataViewClientIsReturnValue = true ∧
    maxDatagram ≤ Gen.Udp.ioReadChunk := by decide

/-- **G2.** `closeNow` erases `_peerIndex[pkey]` only if the entry maps to the session being closed (the F17 repair). -/
theorem G2_closeNow_erase_guarded : Gen.Udp.closeNowEraseGuarded = true := by decide

/-- **G3.** `_peerIndex` is mutated only in the four functions the model mirrors; entries are only ever inserted under the not-found
result of `_peerIndex.find(key(addr))`; an arriving datagram of an indexed peer takes exactly the indexed session
(`sid = it->second`); no session cap is configured by default. -/
theorem G3_index_sites :
    Gen.Udp.peerIndexEraseSites.map (·.1) = ["closeNow", "shutdownDrain"] ∧
    Gen.Udp.peerIndexInsertSites = [("readFromListener", "absent"), ("viaDo", "absent")] ∧
    Gen.Udp.lookupUsesIndexedSession = true ∧ Gen.Udp.maxSessions = 0 := ⟨rfl, rfl, rfl, rfl⟩

/-- **G4.** epoll interest: `addEpoll` in `addListenerDo`/`connectDo` arms `EPOLLIN`, and the mask rebuilt by
`updateListener`/`updateClient` keeps it (`EPOLLOUT` only under `wantWrite && !wq.empty()` — any other condition is a translator error). -/
theorem G4_interest_facts : ArmFacts defaultCfg := by
  unfold ArmFacts defaultCfg; decide

/-- **G5.** What reaches the kernel: every `send`/`sendto` of the mirrored functions passes exactly `MSG_NOSIGNAL` (no `MSG_MORE`
corking, no `MSG_CONFIRM`…), every `recv`/`recvfrom` passes flags `0` (no `MSG_PEEK`/`MSG_TRUNC`), every socket is a plain
non-blocking `SOCK_DGRAM`, and the only socket options set are the receive/send buffer sizes and `IPV6_V6ONLY` (no `UDP_GRO`,
`UDP_SEGMENT`, `UDP_CORK` — options that would let the kernel coalesce or split datagrams; loopback tests cannot see those). -/
theorem G5_kernel_interface :
    Gen.Udp.ioCallFlags = [("readFromListener", "recvfrom", "0"), ("onClient", "recv", "0"), ("sendDo", "sendto", "MSG_NOSIGNAL"),
      ("sendDo", "send", "MSG_NOSIGNAL"), ("flushListener", "sendto", "MSG_NOSIGNAL"), ("writeClient", "send", "MSG_NOSIGNAL")] ∧
    Gen.Udp.sockopts.all (fun x => [("SOL_SOCKET", "SO_RCVBUF"), ("SOL_SOCKET", "SO_SNDBUF"), ("IPPROTO_IPV6", "IPV6_V6ONLY")].contains x.2) = true ∧
    Gen.Udp.socketTypes.all (fun x => x.2 == "SOCK_DGRAM | SOCK_NONBLOCK | SOCK_CLOEXEC") = true :=
  ⟨rfl, by decide +kernel, by decide +kernel⟩

/-- **G6.** Address canonicalisation, as far as the SOURCE decides it: `key()` is the numeric host, `':'`, the numeric service of the
WHOLE address for both families; its two buffers are declared large enough for every numeric form (`NI_MAXHOST`/`NI_MAXSERV`, or
constants ≥ 63 / ≥ 6 — `INET_ADDRSTRLEN` is not: a v4-mapped or long IPv6 host would overflow it, getnameinfo would fail and `key()`
return `""`), and exactly their `sizeof` is what getnameinfo is told; a getnameinfo failure yields the empty string and BOTH users of
`key()` refuse an empty key before touching `_peerIndex` (`readFromListener`: report + drop; `viaDo`: close the id) — so distinct
peers can never share the empty key; `addressFromSockaddr` reports numeric host and port; a ServerPeer session stores the whole
source/target `sockaddr` it later sends to. What is NOT decided by the source — that getnameinfo's numeric output is injective — is
the hypothesis `KeyInjective` of the theorems below. -/
theorem G6_address_key :
    Gen.Udp.keyIsNumericHostColonPort = true ∧ Gen.Udp.keyBuffersHoldEveryNumericForm = true ∧ Gen.Udp.keyFailureReturnsEmpty = true ∧
    Gen.Udp.emptyKeyRefusedOnReceive = true ∧ Gen.Udp.emptyKeyRefusedOnVia = true ∧
    Gen.Udp.addressFromSockaddrIsHostAndPort = true ∧ Gen.Udp.sessionKeepsWholePeerAddress = true := by decide

/-- **G7.** Session and listener ids come from `std::atomic` counters starting at 1, and `_nextSessionId++` is the initialiser of the
id in exactly `connect()`, `connectViaListener()` (caller threads) and `readFromListener` (I/O thread) — the model's `nextSid`. The source
mentions `_nextSessionId` four times in all, the declaration and these three: nothing else reads or moves it. -/
theorem G7_id_counters :
    Gen.Udp.nextSessionIdAtomic = true ∧ Gen.Udp.nextSessionIdInit = 1 ∧ Gen.Udp.nextListenerIdAtomic = true ∧
    Gen.Udp.nextListenerIdInit = 1 ∧
    Gen.Udp.nextSessionIdAllocators = ["connect", "connectViaListener", "readFromListener"] ∧ Gen.Udp.nextSessionIdMentions = 4 :=
  ⟨rfl, rfl, rfl, rfl, rfl, rfl⟩

/-! ## T1 — every accepted send is at most one datagram, byte-identical, addressed to the session's peer

Every step knows its position in the history; a datagram created by `sendDo` carries the position `tok` of its `cmdSend` input
(ghost data, never read by the control flow).  `sentOf outs` lists the `sent` events as `(socket, ⟨tok, dest, bytes⟩)`. -/

/-- **T1 (API).** `send()` turns an accepted call into exactly ONE `Cmd::send` carrying one copy of exactly the caller's `n` bytes (and
nothing at all for `n == 0`); `sendAsync()` is one `send()` call — so "an accepted send" of the property IS one `cmdSend` input. -/
theorem T1_api_send_is_one_command : Gen.Udp.apiSendIsOneCommand = true ∧ Gen.Udp.apiSendAsyncIsOneSend = true := by decide +kernel

/-- **T1 (at most one).** For EVERY history — any mix of sends answered `ok`, `EAGAIN` or error, flushes with any answers, queue
overflows, closes, expiry — no two datagrams handed to the kernel belong to the same accepted send. -/
theorem T1_at_most_one (cfg : Cfg) (h : List In) : (sentOf (run cfg h).2).Pairwise (fun x y => x.2.tok ≠ y.2.tok) :=
  (ginv_run cfg h).s_nodup

/-- **T1 (byte-identical, right destination, right socket).** For EVERY history, a datagram `bytes → dest` leaving socket `src` with
token `t` means: input number `t` of the history is `cmdSend sid bytes _` (the SAME bytes), session `sid` was open when that command
ran, `dest` is the peer that session had then, and `src` is that session's socket (its own connected socket for a client session,
its owner listener's socket otherwise).  This holds for datagrams sent at once, for datagrams queued on `EAGAIN` and flushed any
number of steps later, and also when the session has been closed in between: a datagram waiting in a LISTENER queue is still sent
to the address it was queued with; the queue of a closed CLIENT session is discarded (zero datagrams, still "at most one"). -/
theorem T1_faithful (cfg : Cfg) (h : List In) (src : Src) (dest : Nat) (bytes : Bytes) (t : Nat)
    (hs : Out.sent src dest bytes t ∈ (run cfg h).2) :
    ∃ (sid : Nat) (ans : Ans) (s : Sess), h[t]? = some (In.cmdSend sid bytes ans) ∧
      (run cfg (h.take t)).1.sessions sid = some s ∧ s.peer = dest ∧ src = homeOf sid s :=
  (ginv_run cfg h).s_origin (src, ⟨t, dest, bytes⟩) (mem_sentOf.mpr hs)

/-- non-vacuity / what the code does when the session closes meanwhile (listener queue): accept S1 from peer 7, a send on S1 hits
EAGAIN, S1 is closed, the listener becomes writable — the datagram still goes out, to peer 7, with the bytes of input number 2. -/
example : (run defaultCfg [.listen false, .recvFrom 1 [(7, [1])], .cmdSend 1 [9, 9] .eagain, .close 1, .writableL 1 [.ok]]).2 =
    [.accept 1 7, .data 1 [1], .closed 1 .unknown, .sent (.lst 1) 7 [9, 9] 2] := by decide +kernel
/-- … and the queue of a closed client session is dropped -/
example : (run defaultCfg [.connect 5 false, .cmdSend 1 [3] .eagain, .close 1, .writableC 1 []]).2 =
    [.connected 1 5, .closed 1 .unknown] := by decide +kernel
/-- … while an open one flushes it exactly once -/
example : (run defaultCfg [.connect 5 false, .cmdSend 1 [3] .eagain, .writableC 1 [.eagain], .writableC 1 [.ok], .writableC 1 [.ok]]).2 =
    [.connected 1 5, .sent (.cli 1) 5 [3] 1] := by decide +kernel

/-! ## T2 — every received datagram is exactly one data event, whole, on a session of its sender

**The assumption about `key()`.** `Cfg.key` is the engine's `key()` (getnameinfo's numeric host ':' service): the model does NOT
assume it injective. `KeyInjective cfg.key` — distinct socket addresses have distinct index keys — is an explicit hypothesis of
exactly the theorems that claim "on a session of THAT peer" (`T2_one_datagram`, `T2_burst`, `T3_next_datagram`, `T3_trace`,
`T3_keeps_arriving`).
What the code itself guarantees is `G6_address_key` (shape, buffer sizes large enough for every numeric form, an empty
key is refused); what the kernel/libc function does is exercised, not proved: harness peers 127.0.0.1:p / 127.0.0.2:p / [::1]:p and,
on a dual-stack listener, `::ffff:127.0.0.1:p` / `::ffff:127.0.0.2:p` (corpus `m3-…`, `c06c-long-numeric-hosts-dual-stack`, category
`dual`), with an independent monitor comparing every live session's `pkey` with the harness's own inet_ntop formatting. -/

/-- the hypothesis can be met: the model's default `key` is the identity -/
example : KeyInjective defaultCfg.key := fun _ _ h => h

/-- **Why the hypothesis is needed (seed C06-c).** With a `key()` that maps two different addresses to one key (there: every numeric
host of 16+ characters → `""`), the second peer gets NO accept and its datagram is delivered on the FIRST peer's session. -/
theorem T2_refuted_without_injective_key :
    ∃ (cfg : Cfg) (h : List In) (lid a : Nat) (dg : Bytes) (sid : Nat), dg ≠ [] ∧ dg.length ≤ maxDatagram ∧ maxDatagram ≤ cfg.ioReadChunk ∧
      capReached cfg (run cfg h).1 = false ∧
      (recvOne cfg lid (run cfg h).1 (a, dg)).2 = [.data sid dg] ∧          -- no accept, delivered on `sid` …
      ((recvOne cfg lid (run cfg h).1 (a, dg)).1.sessions sid).map (·.peer) ≠ some a :=   -- … which is another peer's session
  ⟨{ key := fun _ => 0 }, [.listen false, .recvFrom 1 [(7, [1])]], 1, 8, [2], 1, by decide +kernel, by decide +kernel, by decide +kernel, by decide +kernel, by decide +kernel,
   by decide +kernel⟩

/-- **T2 (invariant).** In every reachable state each peer-index entry points to an OPEN ServerPeer session whose peer has exactly
that index key, and session ids are never reused. (This is what "not delivered on a session belonging to a different peer" rests on.) -/
theorem T2_index_sound (cfg : Cfg) (h : List In) :
    (∀ k sid, (run cfg h).1.peerIndex k = some sid →
        ∃ s, (run cfg h).1.sessions sid = some s ∧ cfg.key s.peer = k ∧ s.role = .serverPeer) ∧
    (∀ sid s, (run cfg h).1.sessions sid = some s → sid < (run cfg h).1.nextSid) :=
  ⟨(run_inv cfg h).idx, (run_inv cfg h).fresh⟩

/-- **T2 (ids are never reused).** A new session (accept, connect, connect-via-listener) always gets the id `nextSid`, which no open
session has (second conjunct above) and which only grows: -/
theorem T2_nextSid_monotone (cfg : Cfg) (tok : Nat) (st : State) (i : In) : st.nextSid ≤ (step cfg tok st i).1.nextSid :=
  (step_ops_loud cfg tok st i).nextSid_le

/-- **T2 (one datagram).** After ANY history, a datagram of 1…65507 bytes from `a` that the session cap does not refuse (no cap by
default) produces exactly one data event with exactly its bytes — never merged, split, truncated or duplicated — on a ServerPeer
session whose peer is `a`; an accept precedes it iff `a` was not in the index, and afterwards the index maps `a` to that session. -/
theorem T2_one_datagram (cfg : Cfg) (hK : KeyInjective cfg.key) (hchunk : maxDatagram ≤ cfg.ioReadChunk) (h : List In) (lid : Nat) (a : Nat)
    (dg : Bytes) (hne : dg ≠ []) (hlen : dg.length ≤ maxDatagram) (hadm : Admitted cfg (run cfg h).1 a) :
    ∃ (sid : Nat) (s : Sess), (recvOne cfg lid (run cfg h).1 (a, dg)).1.sessions sid = some s ∧ s.peer = a ∧ s.role = .serverPeer ∧
      (recvOne cfg lid (run cfg h).1 (a, dg)).1.peerIndex (cfg.key a) = some sid ∧
      (((run cfg h).1.peerIndex (cfg.key a) = some sid ∧ (recvOne cfg lid (run cfg h).1 (a, dg)).2 = [.data sid dg]) ∨
       ((run cfg h).1.peerIndex (cfg.key a) = none ∧ sid = (run cfg h).1.nextSid ∧
        (recvOne cfg lid (run cfg h).1 (a, dg)).2 = [.accept sid a, .data sid dg])) :=
  recvOne_spec cfg hK lid _ a dg (run_inv cfg h) hne (Nat.le_trans hlen hchunk) hadm

/-- **T2 (a failing `key()`).** A datagram for which `key()` itself fails (getnameinfo error → empty key) is reported and dropped, a
connect-via-listener to such a target is refused: nothing is ever indexed under the empty key, no session is created, the state of
every other peer is untouched (the FC06a repair; before it, all such peers shared ONE index entry). -/
theorem T2_key_failure_isolated (cfg : Cfg) (tok : Nat) (st : State) (lid n : Nat) :
    (step cfg tok st (.recvKeyFail lid n)).1 = st ∧ (∀ o ∈ (step cfg tok st (.recvKeyFail lid n)).2, o = Out.error) ∧
    (step cfg tok st (.viaKeyFail lid)).1 = { st with nextSid := st.nextSid + 1 } ∧
    (step cfg tok st (.viaKeyFail lid)).2 = [.closed st.nextSid .config] := by
  obtain ⟨k, e⟩ := step_recvKeyFail cfg tok st lid n
  rw [e]
  exact ⟨rfl, fun _ ho => (List.mem_replicate.mp ho).2, rfl, rfl⟩

/-- **T2 (what "admitted" means).** After ANY history the counter the cap is tested against IS the number of open sessions; so the
only datagram that produces no event is one from an UNKNOWN peer arriving while a CONFIGURED cap (`maxSessions ≠ 0`, not the
default) is reached — admission control, and exactly that case (`T2_refused_exactly`). -/
theorem T2_counter_exact (cfg : Cfg) (h : List In) :
    (run cfg h).1.sessionsCurrent = countOpen (run cfg h).1.sessions (run cfg h).1.nextSid :=
  run_cinv cfg h

/-- **T2 (refused exactly then).** A datagram that is not `Admitted` — unknown peer, configured cap reached — leaves state and events
untouched. (`hne` is not used: an empty read does the same.) -/
theorem T2_refused_exactly (cfg : Cfg) (st : State) (lid a : Nat) (dg : Bytes) (hne : dg.take cfg.ioReadChunk ≠ [])
    (hnot : ¬ Admitted cfg st a) : recvOne cfg lid st (a, dg) = (st, []) :=
  recvOne_refused cfg lid st a dg hnot

/-- non-vacuity of T2's hypotheses for the default configuration: the buffer bound holds and nothing is ever refused -/
example : maxDatagram ≤ defaultCfg.ioReadChunk := by decide
example (st : State) (a : Nat) : Admitted defaultCfg st a := Or.inl (by simp [capReached, defaultCfg, Gen.Udp.maxSessions])

/-- **T2 (a whole `recvfrom` loop, default = no cap).** One `EPOLLIN` that returns any list of datagrams from any senders: the data
events are exactly those datagrams — same number, same order, same bytes — each on a session whose peer is its sender. -/
theorem T2_burst (cfg : Cfg) (hK : KeyInjective cfg.key) (hcap : cfg.maxSessions = 0) (hchunk : maxDatagram ≤ cfg.ioReadChunk) (h : List In) (lid : Nat)
    (ds : List (Nat × Bytes)) (hv : ∀ d ∈ ds, d.2 ≠ [] ∧ d.2.length ≤ maxDatagram) :
    Pairwise2 (fun (d : Nat × Bytes) (e : Nat × Bytes) => e.2 = d.2 ∧
        ∃ s, (recvMany cfg lid (run cfg h).1 ds).1.sessions e.1 = some s ∧ s.peer = d.1 ∧ s.role = .serverPeer)
      ds (dataOf (recvMany cfg lid (run cfg h).1 ds).2) := by
  have hinv := run_inv cfg h
  generalize (run cfg h).1 = st at hinv ⊢
  induction ds generalizing st with
  | nil => exact Pairwise2.nil
  | cons d ds ih =>
    have hd := hv d List.mem_cons_self
    obtain ⟨sid, s, hs, hp, hr, _, hout⟩ := recvOne_spec cfg hK lid st d.1 d.2 hinv hd.1 (Nat.le_trans hd.2 hchunk)
      (Or.inl (capReached_no_cap hcap st))
    have h1 := recvOne_inv cfg lid st d hinv
    obtain ⟨s2, hs2, e2⟩ := recvMany_keeps_sess cfg lid ds _ h1 hs
    have hdat : dataOf (recvOne cfg lid st d).2 = [(sid, d.2)] := by
      rcases hout with ⟨_, ho⟩ | ⟨_, _, ho⟩ <;> exact (congrArg dataOf ho).trans rfl
    simp only [recvMany, dataOf_append, hdat, List.singleton_append]
    exact Pairwise2.cons ⟨rfl, s2, hs2, e2.peer.trans hp, e2.role.trans hr⟩ (ih (fun x hx => hv x (List.mem_cons_of_mem _ hx)) _ h1)

/-- **T2 (client socket).** Datagrams read from a connected client socket come out as one data event each, on that session, whole. -/
theorem T2_client (cfg : Cfg) (hchunk : maxDatagram ≤ cfg.ioReadChunk) (st : State) (sid : Nat) (ds : List Bytes)
    (hv : ∀ d ∈ ds, d ≠ [] ∧ d.length ≤ maxDatagram) :
    (clientRecvMany cfg sid st ds).2 = ds.map (fun d => Out.data sid d) := by
  induction ds generalizing st with
  | nil => rfl
  | cons d ds ih =>
    have htake : d.take cfg.ioReadChunk = d := List.take_of_length_le (Nat.le_trans (hv d List.mem_cons_self).2 hchunk)
    simp only [clientRecvMany, htake, List.map_cons]
    rw [ih _ fun x hx => hv x (List.mem_cons_of_mem _ hx)]

/-- **T2 (no crash).** `_sessions[sid]` in `readFromListener` never dereferences a missing session, after any history. -/
theorem T2_no_null_session (cfg : Cfg) (h : List In) (lid : Nat) (d : Nat × Bytes) :
    Out.nullDeref ∉ (recvOne cfg lid (run cfg h).1 d).2 := by
  rcases recvOne_cases cfg lid _ d _ rfl with ⟨_, e⟩ | ⟨_, _, e⟩ | ⟨sid, hix, hs, _⟩ | ⟨_, _, _, _, e⟩
  · rw [e]; exact List.not_mem_nil
  · rw [e]; simp
  · obtain ⟨t, ht, _⟩ := (run_inv cfg h).idx _ sid hix
    exact nomatch hs.symm.trans ht
  · rw [e]; simp

/-! ## T2 (continued) — a datagram that arrived is also SEEN: the epoll interest invariant -/

/-- **T2 (interest).** After ANY history every listener socket and every client socket has `EPOLLIN` in the interest mask last
handed to epoll, and `EPOLLOUT` exactly when `wantWrite && !wq.empty()` — whatever sequence of EAGAINs, flushes, overflows and
closes came before (in particular `updateListener`/`updateClient`, which rebuild the mask from scratch, never drop `EPOLLIN`). -/
theorem T2_interest (cfg : Cfg) (hf : ArmFacts cfg) (h : List In) :
    (∀ lid l, (run cfg h).1.listeners lid = some l → l.armIn = true ∧ l.armOut = (l.wantWrite && !l.wq.isEmpty)) ∧
    (∀ sid s, (run cfg h).1.sessions sid = some s → s.role = .client →
        s.armIn = true ∧ s.armOut = (s.wantWrite && !s.wq.isEmpty)) :=
  ⟨(run_arm cfg hf h).lst, (run_arm cfg hf h).cli⟩

/-- … hence a readable listener is always read: after any history the `EPOLLIN` step on an existing listener IS the `recvfrom`
loop (to which `T2_burst` applies); it is never skipped for lack of interest. Likewise for a client socket. -/
theorem T2_listener_always_read (cfg : Cfg) (hf : ArmFacts cfg) (h : List In) (lid : Nat) (l : Lst)
    (hl : (run cfg h).1.listeners lid = some l) (ds : List (Nat × Bytes)) :
    step cfg h.length (run cfg h).1 (.recvFrom lid ds) = recvMany cfg lid (run cfg h).1 ds := by
  simp [step, hl, ((run_arm cfg hf h).lst lid l hl).1]

theorem T2_client_always_read (cfg : Cfg) (hf : ArmFacts cfg) (h : List In) (sid : Nat) (s : Sess)
    (hs : (run cfg h).1.sessions sid = some s) (hr : s.role = .client) (ds : List Bytes) :
    step cfg h.length (run cfg h).1 (.clientRecv sid ds) = clientRecvMany cfg sid (run cfg h).1 ds := by
  simp [step, hs, hr, ((run_arm cfg hf h).cli sid s hs hr).1]

/-- non-vacuity: a send on a listener session hits EAGAIN (the mask is rebuilt with EPOLLOUT),
the queue is flushed (rebuilt again) — the listener still has EPOLLIN armed and the next datagram is delivered. -/
example : (run defaultCfg [.listen false, .recvFrom 1 [(7, [1])], .cmdSend 1 [9] .eagain, .writableL 1 [.ok], .recvFrom 1 [(7, [2])]]).2 =
    [.accept 1 7, .data 1 [1], .sent (.lst 1) 7 [9] 2, .data 1 [2]] := by decide +kernel

/-! ## T3 — stability of the mapping -/

/-- **T3 (next datagram).** If the index maps `a` to `sid` (i.e. `sid` receives `a`'s datagrams — by T2 it is open), the next
datagram from `a`, on ANY listener, is delivered on `sid` with no accept, and the mapping stays. -/
theorem T3_next_datagram (cfg : Cfg) (hK : KeyInjective cfg.key) (hchunk : maxDatagram ≤ cfg.ioReadChunk) (h : List In) (lid a sid : Nat)
    (dg : Bytes) (hne : dg ≠ []) (hlen : dg.length ≤ maxDatagram) (hix : (run cfg h).1.peerIndex (cfg.key a) = some sid) :
    (recvOne cfg lid (run cfg h).1 (a, dg)).2 = [.data sid dg] ∧
      (recvOne cfg lid (run cfg h).1 (a, dg)).1.peerIndex (cfg.key a) = some sid :=
  recvOne_known cfg hK lid _ a sid dg (run_inv cfg h) hne (Nat.le_trans hlen hchunk) hix

/-- **T3 (one step).** After ANY history, whatever the I/O thread does next — in particular closing ANY other session, also one
with the same peer address — the mapping `k ↦ sid` (`k` = the key of a peer address) survives, unless that very step closes `sid`
(and then it reports `closed sid`). -/
theorem T3_step (cfg : Cfg) (hg : cfg.eraseGuarded = true) (h : List In) (i : In) (k sid : Nat)
    (hix : (run cfg h).1.peerIndex k = some sid) :
    (step cfg h.length (run cfg h).1 i).1.peerIndex k = some sid ∨ ∃ w, Out.closed sid w ∈ (step cfg h.length (run cfg h).1 i).2 :=
  ((step_ops_loud cfg _ _ i).keeps_idx hg (run_inv cfg h) hix).imp_left And.left

/-- **T3 (histories).** After ANY history `h` with `a ↦ sid`, along ANY continuation `h'` during which `sid` is not closed (by the
application, by idle/age expiry, by a send error or back-pressure): the mapping is still `a ↦ sid` at the end — hence, by
`T3_next_datagram`, at every intermediate point every datagram from `a` lands on `sid` — and no session is accepted for `a`. -/
theorem T3_history (cfg : Cfg) (hg : cfg.eraseGuarded = true) (h h' : List In) (a sid : Nat)
    (hix : (run cfg h).1.peerIndex (cfg.key a) = some sid) (hopen : ∀ w, Out.closed sid w ∉ (runFrom cfg h.length (run cfg h).1 h').2) :
    (runFrom cfg h.length (run cfg h).1 h').1.peerIndex (cfg.key a) = some sid ∧
      ∀ s', Out.accept s' a ∉ (runFrom cfg h.length (run cfg h).1 h').2 := by
  rcases (runFrom_ops cfg h' h.length _).keeps_idx hg (run_inv cfg h) hix with ⟨h1, h2⟩ | ⟨w, hw⟩
  · exact ⟨h1, fun s' => h2 s' a rfl⟩
  · exact absurd hw (hopen w)

/-- **T3 (trace form).** After ANY history `h` with `a ↦ sid`, and ANY continuation `h'` that does not close `sid`: in a `recvfrom`
loop that then returns the datagrams `pre ++ d :: post` (any senders, any sizes), the datagram `d` from `a` — at whatever position —
produces exactly the one event `data sid d.bytes`, between the events of `pre` and those of `post`: on `sid`, whole, no accept. -/
theorem T3_trace (cfg : Cfg) (hK : KeyInjective cfg.key) (hg : cfg.eraseGuarded = true) (hchunk : maxDatagram ≤ cfg.ioReadChunk)
    (h h' : List In) (a sid : Nat) (hix : (run cfg h).1.peerIndex (cfg.key a) = some sid) (hopen : ∀ w, Out.closed sid w ∉ (runFrom cfg h.length (run cfg h).1 h').2)
    (lid : Nat) (pre post : List (Nat × Bytes)) (d : Nat × Bytes) (hd : d.1 = a) (hne : d.2 ≠ []) (hlen : d.2.length ≤ maxDatagram) :
    (recvMany cfg lid (runFrom cfg h.length (run cfg h).1 h').1 (pre ++ d :: post)).2 =
      (recvMany cfg lid (runFrom cfg h.length (run cfg h).1 h').1 pre).2 ++ [.data sid d.2] ++
      (recvMany cfg lid (recvOne cfg lid (recvMany cfg lid (runFrom cfg h.length (run cfg h).1 h').1 pre).1 d).1 post).2 := by
  have hinv := runFrom_inv cfg h' h.length _ (run_inv cfg h)
  have hidx := (T3_history cfg hg h h' a sid hix hopen).1
  generalize (runFrom cfg h.length (run cfg h).1 h').1 = st at hinv hidx ⊢
  have hone := (recvOne_known cfg hK lid _ d.1 sid d.2 (recvMany_inv cfg lid pre st hinv) hne (Nat.le_trans hlen hchunk)
    (hd ▸ recvMany_keeps_idx cfg lid pre st hidx)).1
  rw [recvMany_append]
  simp only [recvMany, hone, List.append_assoc]

/-- **T3 (every session stays).** After ANY history, whatever the I/O thread does next, an open session — a client-socket session
just like a ServerPeer one — is still in the table afterwards with the same peer, role and owner listener, unless that very step
closes it and reports `closed sid`. (For a client session this is the whole of "keeps receiving": its socket is its own, the kernel
delivers only its peer's datagrams to it, and `T2_client`/`T2_client_always_read` say they all come out on `sid`.) -/
theorem T3_session_stays (cfg : Cfg) (h : List In) (i : In) (sid : Nat) (s : Sess) (hs : (run cfg h).1.sessions sid = some s) :
    (∃ s', (step cfg h.length (run cfg h).1 i).1.sessions sid = some s' ∧ s'.peer = s.peer ∧ s'.role = s.role ∧ s'.owner = s.owner) ∨
    ∃ w, Out.closed sid w ∈ (step cfg h.length (run cfg h).1 i).2 :=
  ((step_ops_loud cfg _ _ i).stays (run_inv cfg h) hs).imp_left fun ⟨s', hs', e⟩ => ⟨s', hs', e.peer, e.role, e.owner⟩

/-- **T3 (shutdown site).** `stop()`+`start()` after ANY history leaves the peer index empty — for BOTH forms of the erase in
`shutdownDrain` (guarded as in the repair, or unconditional as before): that second erase site cannot break the mapping, every
session is closed there anyway (an indexed one with its `closed` event, by `T3_step`). -/
theorem T3_shutdown_index_empty (cfg : Cfg) (h : List In) (a : Nat) :
    (step cfg h.length (run cfg h).1 .restart).1.peerIndex a = none :=
  shutdownDrain_index_empty cfg _ (run_inv cfg h) a

/-- the guard hypothesis of T3 holds for the code as it is (G2) -/
example : defaultCfg.eraseGuarded = true := G2_closeNow_erase_guarded

/-- the F17 scenario: accept S1 from peer 7, connect-via-listener to 7 (S2), close S2 -/
def f17History : List In := [.listen false, .recvFrom 1 [(7, [1])], .via 1 7 false, .close 2]

/-- non-vacuity of T3, on the repaired code: the index still maps 7 to S1, and the next datagram is data on S1 without accept -/
example : (run { eraseGuarded := true } f17History).1.peerIndex 7 = some 1 ∧
    (step { eraseGuarded := true } 4 (run { eraseGuarded := true } f17History).1 (.recvFrom 1 [(7, [2])])).2 = [.data 1 [2]] := by
  decide +kernel

/-- **F17 (why the guard is needed).** With the unconditional erase of the unrepaired `closeNow`, T3 is FALSE: the same four-step
history leaves peer 7 without an index entry although session 1 is open and was never closed, and the next datagram from 7 is
accepted as a brand-new session 3. -/
theorem T3_refuted_without_guard :
    ¬ (∀ (h : List In) (i : In) (a sid : Nat), (run { eraseGuarded := false } h).1.peerIndex a = some sid →
        (step { eraseGuarded := false } h.length (run { eraseGuarded := false } h).1 i).1.peerIndex a = some sid ∨
        ∃ w, Out.closed sid w ∈ (step { eraseGuarded := false } h.length (run { eraseGuarded := false } h).1 i).2) := by
  intro hall
  rcases hall [.listen false, .recvFrom 1 [(7, [1])], .via 1 7 false] (.close 2) 7 1 (by decide +kernel) with h1 | ⟨w, h1⟩
  · revert h1; decide +kernel
  · cases w <;> (revert h1; decide +kernel)

example : (step { eraseGuarded := false } 4 (run { eraseGuarded := false } f17History).1 (.recvFrom 1 [(7, [2])])).2 =
    [.accept 3 7, .data 3 [2]] := by decide +kernel

/-! ## Wake-ups — which datagrams a receive loop sees (kernel queues, EPOLLET, the shape of the loops)

Everything above takes "the datagrams one `recvfrom` loop returns" as an input. In `Model/UdpWake.lean` the environment only says which
datagrams ARRIVE at a socket; they wait in the socket's kernel queue, epoll reports the socket, the
engine's loop — as the translator read it from the source — runs once, and what it does not take stays queued, silently under
EPOLLET until the next arrival. -/

/-- the wake-up layer with everything from `Gen/Udp.lean`: `useEdgeTriggered` and the shapes of both receive loops -/
def defaultW : WCfg := {}

/-- **G8.** Both receive loops (`readFromListener`, the EPOLLIN part of `onClient`) are unbounded loops around ONE `recv`/`recvfrom`
whose only exits are the EAGAIN break and the hard-error exit; a zero-length read does not leave them (for `onClient` that is the FC06b
repair: `continue`, not `break`). `onListener`/`onClient` handle EPOLLIN before EPOLLOUT of one (merged) event, `handleFdEvent` routes by
the descriptor's tag, `addEpoll`/`modEpoll` hand exactly `(fd, ev)` to `epoll_ctl`, and the base of every interest mask is exactly `EPOLLIN`
(`EPOLLET` is or-ed in under `useEdgeTriggered` only — a translator error otherwise —; no `EPOLLONESHOT`/`EPOLLEXCLUSIVE`, which would
disarm or divert the socket after one report). -/
theorem G8_read_loops_drain :
    defaultW.lloop.drains ∧ defaultW.cloop.drains ∧ Gen.Udp.listenerReadsBeforeWrites = true ∧ Gen.Udp.clientReadsBeforeWrites = true ∧
    Gen.Udp.handleFdEventRoutesByTag = true ∧ Gen.Udp.epollCtlWrappersPlain = true ∧
    Gen.Udp.maskBases.all (fun x => x.2 == "EPOLLIN") = true := by decide +kernel

/-- **T2 (a wake-up conserves the queue).** Whatever the shape of the loop (any budget, zero-length ends it or not): what one wake-up
takes followed by what it leaves IS the kernel queue — nothing invented, dropped, duplicated or reordered between arrival and `recvMany`. -/
theorem T2_wake_conserves {α : Type} (isZero : α → Bool) (zeroEnds : Bool) (budget : Option Nat) (q : List α) :
    (takeLoop isZero zeroEnds budget q).1 ++ (takeLoop isZero zeroEnds budget q).2 = q :=
  takeLoop_partition isZero zeroEnds q budget

/-- **T3 (nothing readable is left behind).** With loops that drain (G8) and EPOLLIN armed (G4), after EVERY history of arrivals,
commands, flushes, expiry and restarts — edge-triggered or level-triggered — every kernel receive queue is empty: each wake-up has
read everything that had arrived. This is what "further datagrams keep arriving" needs under EPOLLET, where a left-over is not
reported again. -/
theorem T3_nothing_left_behind (w : WCfg) (hf : ArmFacts w.cfg) (hl : w.lloop.drains) (hc : w.cloop.drains) (h : List WIn) :
    (∀ lid, (wrun w h).1.lq lid = []) ∧ (∀ sid, (wrun w h).1.cq sid = []) :=
  (wrunFrom_refines w hf hl hc h 0 {} arm_init qempty_init).2.2

/-- **T3 (the arrival model is the engine model).** Under the same hypotheses a history of ARRIVALS produces exactly the events and
the engine state of `run` on the history in which every receive loop returns exactly what arrived: every theorem above (T1–T3, stated
for `run` and for `recvMany`/`clientRecvMany` on what a loop returns) holds for what ARRIVES, whole burst by whole burst. -/
theorem T3_wake_refines (w : WCfg) (hf : ArmFacts w.cfg) (hl : w.lloop.drains) (hc : w.cloop.drains) (h : List WIn) :
    (wrun w h).1.st = (run w.cfg (h.map WIn.toIn)).1 ∧ (wrun w h).2 = (run w.cfg (h.map WIn.toIn)).2 :=
  have r := wrunFrom_refines w hf hl hc h 0 {} arm_init qempty_init
  ⟨r.1, r.2.1⟩

/-- the hypotheses hold for the code as it is -/
example : ArmFacts defaultW.cfg ∧ defaultW.lloop.drains ∧ defaultW.cloop.drains :=
  ⟨G4_interest_facts, G8_read_loops_drain.1, G8_read_loops_drain.2.1⟩

/-- non-vacuity: a burst of three with a zero-length datagram in the middle on a client socket, and one on a listener -/
example : (wrun defaultW [.io (.connect 5 false), .arriveC 1 [[1], [], [2, 3]], .io (.listen false), .arriveL 1 [(7, [4]), (7, []), (8, [5])]]).2 =
    [.connected 1 5, .data 1 [1], .data 1 [], .data 1 [2, 3], .accept 2 7, .data 2 [4], .accept 3 8, .data 3 [5]] := by decide +kernel

/-- **T3 (keeps arriving, event level, one theorem).** After ANY history of arrivals, commands, flushes, expiry and restarts at whose
end `a ↦ sid` (by `T3_history` that is the case as long as `sid` itself has not been closed), a datagram of 1…65507 bytes from `a` that
ARRIVES at any existing listener socket is read by that very wake-up (nothing stays in the kernel queue), comes out as exactly the one
event `data sid bytes` — no accept, not on another session — and the mapping stays. -/
theorem T3_keeps_arriving (w : WCfg) (hf : ArmFacts w.cfg) (hl : w.lloop.drains) (hc : w.cloop.drains) (hK : KeyInjective w.cfg.key)
    (hchunk : maxDatagram ≤ w.cfg.ioReadChunk) (h : List WIn) (a sid lid : Nat) (l : Lst)
    (hix : (wrun w h).1.st.peerIndex (w.cfg.key a) = some sid) (hlst : (wrun w h).1.st.listeners lid = some l)
    (dg : Bytes) (hne : dg ≠ []) (hlen : dg.length ≤ maxDatagram) :
    (wstep w h.length (wrun w h).1 (.arriveL lid [(a, dg)])).2 = [.data sid dg] ∧
    (wstep w h.length (wrun w h).1 (.arriveL lid [(a, dg)])).1.lq lid = [] ∧
    (wstep w h.length (wrun w h).1 (.arriveL lid [(a, dg)])).1.st.peerIndex (w.cfg.key a) = some sid := by
  obtain ⟨hst, _⟩ := T3_wake_refines w hf hl hc h
  have hq : QEmpty (wrun w h).1 := T3_nothing_left_behind w hf hl hc h
  have harm : ArmInv (wrun w h).1.st := by rw [hst]; exact run_arm w.cfg hf _
  obtain ⟨r1, r2, r3⟩ := wstep_refines w hl hc h.length (wrun w h).1 (.arriveL lid [(a, dg)]) harm hq
  have hread := T2_listener_always_read w.cfg hf (h.map WIn.toIn) lid l (by rw [← hst]; exact hlst) [(a, dg)]
  have hnext := T3_next_datagram w.cfg hK hchunk (h.map WIn.toIn) lid a sid dg hne hlen (by rw [← hst]; exact hix)
  simp only [WIn.toIn] at r1 r2
  rw [hst] at r1 r2
  rw [List.length_map] at hread
  rw [hread] at r1 r2
  simp only [recvMany, List.append_nil] at r1 r2
  exact ⟨by rw [r2]; exact hnext.1, r3.1 lid, by rw [r1]; exact hnext.2⟩

/-- non-vacuity: the hypotheses of `T3_keeps_arriving` are met after a history with a burst, a zero-length datagram and a close -/
example : (wrun defaultW [.io (.listen false), .arriveL 1 [(7, [1]), (7, []), (8, [2])], .io (.close 2), .arriveL 1 [(8, [3])]]).1.st.peerIndex
    (defaultW.cfg.key 7) = some 1 := by decide +kernel

/-- **FC06b (why `continue`).** With the unrepaired `break` after a zero-length read in `onClient` and EPOLLET (the default), T3 is
FALSE: a 5-byte datagram that arrived right behind a zero-length one is not delivered by that wake-up, stays in the kernel queue, is
not reported by the next `epoll_wait` round either, and comes out only when a THIRD datagram arrives. -/
theorem FC06b_refuted_with_zero_length_break :
    ¬ (∀ (h : List WIn), (wrun { et := true, lloop := ⟨none, false⟩, cloop := ⟨none, true⟩ } h).1.cq 1 = []) ∧
    (wrun { et := true, lloop := ⟨none, false⟩, cloop := ⟨none, true⟩ }
      [.io (.connect 5 false), .arriveC 1 [[], [1, 2, 3, 4, 5]], .arriveC 1 []]).2 = [.connected 1 5, .data 1 []] ∧
    (wrun { et := true, lloop := ⟨none, false⟩, cloop := ⟨none, true⟩ }
      [.io (.connect 5 false), .arriveC 1 [[], [1, 2, 3, 4, 5]], .arriveC 1 [], .arriveC 1 [[9]]]).2 =
      [.connected 1 5, .data 1 [], .data 1 [1, 2, 3, 4, 5], .data 1 [9]] := by
  refine ⟨fun hall => ?_, by decide +kernel, by decide +kernel⟩
  have := hall [.io (.connect 5 false), .arriveC 1 [[], [1, 2, 3, 4, 5]], .arriveC 1 []]
  revert this; decide +kernel

/-- … while a level-triggered socket is reported again by the next round and the left-over is delivered: the defect needs EPOLLET -/
example : (wrun { et := false, lloop := ⟨none, false⟩, cloop := ⟨none, true⟩ }
      [.io (.connect 5 false), .arriveC 1 [[], [1, 2, 3, 4, 5]], .arriveC 1 []]).2 = [.connected 1 5, .data 1 [], .data 1 [1, 2, 3, 4, 5]] := by decide +kernel

/-- **Why the loops must be unbounded.** With a read budget per wake-up (`for (int budget = 0; budget < 3; ++budget)`)
and EPOLLET a burst of four leaves the fourth datagram in the kernel queue: no data event, no further report. -/
theorem T3_refuted_with_read_budget :
    ¬ (∀ (h : List WIn), (wrun { et := true, lloop := ⟨some 3, false⟩, cloop := ⟨none, false⟩ } h).1.lq 1 = []) ∧
    (wrun { et := true, lloop := ⟨some 3, false⟩, cloop := ⟨none, false⟩ }
      [.io (.listen false), .arriveL 1 [(7, [1]), (7, [2]), (7, [3]), (7, [4])], .arriveL 1 []]).2 =
      [.accept 1 7, .data 1 [1], .data 1 [2], .data 1 [3]] := by
  refine ⟨fun hall => ?_, by decide +kernel⟩
  have := hall [.io (.listen false), .arriveL 1 [(7, [1]), (7, [2]), (7, [3]), (7, [4])]]
  revert this; decide +kernel

end Iora.C06
