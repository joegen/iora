import IoraModel.Lemmas.ConnectSyncOrigin
import IoraModel.Model.TsyncFacts
/-!
# C04 — Synchronous connect yields a live session or a definite error in time

The property theorems; the model is `Model/ConnectSync.lean` (REPAIRED code: fix F16).  A theorem about `runC cfg init steps`
quantifies over ALL step sequences `steps : List Step` from the initial state — every interleaving of any number of application
threads inside `connectSync` / `connectSyncCancellable` (at the granularity of `syncMutex` sections, with the mutex explicit), the
I/O thread processing the engine FIFO and running the `onConnect` / `onClose` handlers, handshakes that complete, fail, never
complete or complete late, peers that close, timeouts and spurious wake-ups as scheduler choices, token cancellation and the
teardown fence.  Such a statement is about the event log the steps append to; a statement about "earlier" events holds because it
holds of every prefix of every run (the log only grows).  It is read off the invariant `Inv` (`Lemmas/ConnectSyncInv.lean`, whose
fields `T1`, `G1`, `G2`, `FIX`, `T3a`, `Q1`, `T4`, `W`, `T6a`, `T6b`, `K` are these statements, read together with `R1`, `D1`, `E3`;
`Inv.step` shows each field preserved) and `Inv2` at the reached state (`reachableC`; `reachableX` for the argument layer).  A theorem
whose state is a variable (`s`, `x`) is about ONE step (three, for `T5_step_bound` and `Core.lock_released`) from ANY state, reachable
or not.  `cfg.Good` leaves one configuration (`good_eq_genCfgTrue`), and for it `runC cfg` is `run` (`runC_good`).  The tags M3, H2,
L8 are those of the monitors in `props/c04.py` that watch the same clause on the running code.
-/

namespace Iora.C04.Core
open Iora Iora.ConnectSync
/-! The two step bounds for `run`, which is `runC cfg` under `cfg.Good` (`runC_good`); `Iora.C04` has them for `runC cfg`. -/

/-- a connectSync call has returned to its caller (plain call finished, or back in the cancellable wrapper's loop) -/
def returned (p : Pc) : Prop := p = .finished ∨ p = .wloop

theorem ret_returned (s : State) (c : Nat) (o : Option Nat) (r : Res) : returned ((ret s c o r).callers c).pc := by
  simp only [ret, setC_same]
  exact retPc_cases _ _

theorem doClose_of_returned (s : State) (c : Nat) (h : returned (s.callers c).pc) : doClose s c = s := by
  unfold doClose
  rcases h with h | h <;> simp [h]

theorem doRelock_of_returned (s : State) (c : Nat) (h : returned (s.callers c).pc) : doRelock s c = s := by
  unfold doRelock
  rcases h with h | h <;> simp [h]

/-- a parked caller that takes its timeout returns within three of its own steps (wake, `engine->close`, relock) -/
theorem T5_step_bound (s : State) (c sid : Nat) (a : Bool) (hp : (s.callers c).pc = .parked sid a) (hl : s.lock = none) :
    returned ((run s [.cWake c true, .cClose c, .cRelock c]).callers c).pc := by
  simp only [run, step]
  have h1 : doWake s c true = afterWait s c sid := by
    unfold doWake; simp [hp, hl]
  rw [h1]
  unfold afterWait
  dsimp only
  split
  · have := ret_returned { s with activeConnects := s.activeConnects - 1 } c (some sid) ‹_›
    rw [doClose_of_returned _ _ this, doRelock_of_returned _ _ this]; exact this
  · split
    · generalize hs' : ret _ c (some sid) (.err .shuttingDown) = s'
      have : returned (s'.callers c).pc := by rw [← hs']; exact ret_returned _ _ _ _
      rw [doClose_of_returned _ _ this, doRelock_of_returned _ _ this]; exact this
    · simp only [doClose, setC_same, doRelock, hl]
      exact ret_returned _ _ _ _

/-- from ANY state: a caller whose program counter is inside the section that holds the mutex is outside it after `engine->connect`,
the registration and the wait, whichever of the three it still has to do -/
theorem lock_released (s : State) (c : Nat) (hh : holds (s.callers c).pc = true) :
    (run s [.cConnect c, .cRegister c, .cPark c]).lock = none := by
  simp only [run, step]
  cases hpc : (s.callers c).pc <;> simp [hpc, holds] at hh
  all_goals simp [doConnect, doRegister, doPark, hpc]

/-- a caller that holds the mutex releases it within three of its own steps (connect, register, park) -/
theorem T5_lock_released (steps : List Step) (c : Nat) (hl : (run init steps).lock = some c) :
    (run (run init steps) [.cConnect c, .cRegister c, .cPark c]).lock = none :=
  lock_released _ c (((reachable_inv steps).K c).2 hl)

end Iora.C04.Core

namespace Iora.C04
open Iora Iora.ConnectSync

/-- **Engine contract, from the source.** The instance regenerated from `tcp_engine.hpp` / `udp_engine.hpp` holds: `close(sid)` of
both engines is exactly `return enqueue(close(sid))`, `connect()` only takes an id and enqueues, the Close arm of `process()`
closes the session it finds (only timer-originated closes are filtered). This is what `Cfg.engine` is computed from; every C04
theorem is stated under it (`Cfg.Good`). -/
theorem engine_contract_from_source :
    ConnectSyncFacts.genEngine =
      { closeEnqueues := true, connectEnqueues := true, processCloses := true, timersTagged := true } := by
  -- Each fact compares the text `body` finds in the regenerated table with the expected literal.  The kernel evaluates the
  -- look-up only and then sees the same literal on both sides of `==`; evaluating `==` on two long literals is quadratic.
  have same (name : String) : (ConnectSyncFacts.body name == ConnectSyncFacts.body name) = true := beq_self_eq_true _
  have close : ConnectSyncFacts.closeOnlyEnqueues = true := Bool.and_eq_true_iff.2 ⟨same "tcpClose", same "udpClose"⟩
  have connect : ConnectSyncFacts.connectOnlyEnqueues = true := Bool.and_eq_true_iff.2 ⟨same "tcpConnect", same "udpConnect"⟩
  have process : ConnectSyncFacts.processClosesWhatItFinds = true :=
    Bool.and_eq_true_iff.2 ⟨Bool.and_eq_true_iff.2 ⟨same "tcpProcessClose", same "tcpProcessConnect"⟩, same "udpProcessClose"⟩
  have timers : ConnectSyncFacts.timerClosesTagged = true :=
    Bool.and_eq_true_iff.2 ⟨Bool.and_eq_true_iff.2 ⟨same "tcp.handleConnectTimeout", same "tcp.handleHandshakeTimeout"⟩,
      same "tcp.handleWriteStallTimeout"⟩
  rw [ConnectSyncFacts.genEngine, close, connect, process, timers]

/-- **Exact skeleton pins.** Head and tail of `connectSync`, the pending branches of both handlers and the
statement order of `connectSyncCancellable` are equal, event by event, to the lists in `Model/ConnectSyncFacts.lean`; `timeout` is
assigned only by the saturation clamp. -/
theorem skeleton_exact :
    ConnectSyncFacts.connectHeadExact = true ∧ ConnectSyncFacts.connectTailExact = true ∧
    ConnectSyncFacts.onConnectPendingExact = true ∧ ConnectSyncFacts.onClosePendingExact = true ∧
    ConnectSyncFacts.wrapperOrderExact = true ∧ ConnectSyncFacts.timeoutOnlyClamped = true ∧
    ConnectSyncFacts.noProtocolBypass = true := by decide +kernel

/-- the order predicates of `Model/TsyncFacts.lean` that `genCfg` uses beside the exact pins, and the argument fact -/
theorem skeleton_order :
    TsyncFacts.connectLockHeld = true ∧ TsyncFacts.connectCloseWindow = true ∧ TsyncFacts.handlersCompleteUnderLock = true ∧
    TsyncFacts.connectTimingArgs = true ∧ ConnectSyncFacts.connectPassesArgsR = true := by decide +kernel

/-- The model is INSTANTIATED from the skeleton regenerated from `transport_impl.hpp` (`Model/ConnectSync.lean`: `genCfg`, `stepC`):
`connectSync` holds `syncMutex` continuously from before the entry-fence check through `engine->connect`, the registration and
the ParkGuard into `wait_for`; after the wait there is exactly ONE unlock window, it contains only `engine->close`, and
`abandoned` is set before it; both handlers complete the waiter under the lock, notify it outside, and `onConnect` checks
`abandoned` before erasing; `wait_for` waits on that lock for exactly the caller's `timeout`, the cancellable wrapper polls in
100 ms sub-intervals against `deadline = now + timeout` with `min(remaining, subInterval)`; host, port and TLS mode reach
`engine->connect` unchanged, an engine error is returned as is, the id is the engine's and the timeout exit closes that id. -/
theorem skeleton_conforms : genCfg.Good := by
  obtain ⟨e1, e2, e3, e4, e5, e6, e7⟩ := skeleton_exact
  obtain ⟨o1, o2, o3, o4, o5⟩ := skeleton_order
  simp only [Cfg.Good, genCfg, e1, e2, e3, e4, e5, e6, e7, o1, o2, o3, o4, o5, engine_contract_from_source,
    ConnectSyncFacts.EngineContract.holds, Bool.and_self, and_self]

/-- the conforming configuration, spelled out (what `genCfg` evaluates to on a conforming tree: `skeleton_conforms`) -/
def genCfgTrue : Cfg :=
  { lockHeld := true, closeWindow := true, handlers := true, timing := true, args := true, engine := true, noBypass := true }

/-- `Good` leaves no freedom: there is one conforming configuration -/
theorem good_eq_genCfgTrue {cfg : Cfg} (hg : cfg.Good) : cfg = genCfgTrue := by
  obtain ⟨_, _, _, _, _, _, _⟩ := cfg
  obtain ⟨rfl, rfl, rfl, rfl, rfl, rfl, rfl⟩ := hg
  rfl

theorem genCfg_eq : genCfg = genCfgTrue := good_eq_genCfgTrue skeleton_conforms

/-- FC03b: both connect functions saturate their timeout before it enters clock arithmetic (`wait_for`'s `now() + rel_time`, the
wrapper's `now() + timeout`), so `std::chrono::milliseconds::max()` — "no timeout" — cannot wrap the deadline into the past. -/
theorem timeouts_saturate : TsyncFacts.connectTimeoutsSaturate = true := by decide +kernel

/-- **T1.** (every `cfg.Good`, every schedule) A connectSync call returns `ok sid` only for the session its own `engine->connect`
created, only after the `onConnect` handler delivered that session's completion to it, and never for a session for which any
connectSync has issued `engine->close`. -/
theorem T1_ok_is_live (cfg : Cfg) (hg : cfg.Good) (steps : List Step) (c sid' sid : Nat)
    (h : Ev.attemptRet c (some sid') (.ok sid) ∈ (runC cfg init steps).log) :
    sid' = sid ∧ Ev.created c sid ∈ (runC cfg init steps).log ∧ Ev.hConnect sid ∈ (runC cfg init steps).log ∧
    Ev.delivered sid true ∈ (runC cfg init steps).log ∧ ∀ c', Ev.engineClose c' sid ∉ (runC cfg init steps).log := by
  have I := (reachableC hg steps).1
  obtain ⟨h1, h2, h3⟩ := I.T1 c sid' sid h
  subst h1
  exact ⟨rfl, (I.R1 c _ _ h).1, (I.D1 _).1 h2, h2, h3⟩

/-- **T2 (suppression, connect).** The global connect callback is never invoked for a session a connectSync created. -/
theorem T2_no_global_connect (cfg : Cfg) (hg : cfg.Good) (steps : List Step) (c sid : Nat)
    (h : Ev.globalConnect sid ∈ (runC cfg init steps).log) : Ev.created c sid ∉ (runC cfg init steps).log :=
  (reachableC hg steps).1.G1 sid (Or.inr h) c

/-- **T2 (suppression, close)**, the property's clause as stated. If the global close callback is invoked for a session a
connectSync created, that session's completion had been delivered to the caller (its result is fixed as `ok sid`), and the call
that created it returns nothing but `ok sid`: the callback never fires for an id that is not handed to its caller. (True of the
repaired handlers, F16.) What is NOT true: that the id had ALREADY been returned when the callback fires
(`T2_ordered_refuted`). -/
theorem T2_global_close_only_for_handed_out (cfg : Cfg) (hg : cfg.Good) (steps : List Step) (c sid : Nat)
    (h : Ev.globalClose sid ∈ (runC cfg init steps).log) (hc : Ev.created c sid ∈ (runC cfg init steps).log) :
    Ev.delivered sid true ∈ (runC cfg init steps).log ∧
    ∀ r, Ev.attemptRet c (some sid) r ∈ (runC cfg init steps).log → r = .ok sid := by
  have I := (reachableC hg steps).1
  have hd := I.G2 sid (Or.inr h) c hc
  exact ⟨hd, fun r hr => I.FIX c sid r hr hd⟩

/-- The ORDERED reading of "the global close callback is never invoked for a session a synchronous connect did not hand to its
caller": whenever `globalClose sid` is logged for a connectSync-created session, `ret ok sid` is already in the log. -/
def T2_ordered_statement : Prop :=
  ∀ (steps : List Step) (pre post : List Ev) (c sid : Nat),
    (run init steps).log = pre ++ Ev.globalClose sid :: post → Ev.created c sid ∈ pre →
    Ev.attemptRet c (some sid) (.ok sid) ∈ pre

/-- the witness: the connect completes and the handler delivers it (the record is erased), the peer closes at once, the `onClose`
handler finds no record and fires the GLOBAL close callback — and only then does the caller wake up and return `ok 1` -/
def orderedWitness : List Step :=
  [.call 0 false, .cEnter 0, .cConnect 0, .cRegister 0, .cPark 0, .ioPop true, .ioComplete 1, .ioStep, .ioStep,
   .ioPeerClose 1, .ioStep, .ioStep, .cWake 0 false]

/-- **T2 (ordered) is REFUTED** (observation FC04a). C04 as stated allows returning a session the PEER has already closed; it only
forbids the callbacks for a session that is NOT handed out (`T2_global_close_only_for_handed_out`, the partial statement). But the
code — `onConnect` erases the pending record when it completes the waiter, `onClose` consults only that record — lets the
application see `onClose(sid)` for an id it has not yet been given (it is given it immediately afterwards, for a session that is
already dead). -/
theorem T2_ordered_refuted : ¬ T2_ordered_statement := by
  intro h
  have := h orderedWitness
    [.created 0 1, .registered 0 1, .hConnect 1, .delivered 1 true, .hClose 1] [.attemptRet 0 (some 1) (.ok 1)] 0 1
    (by decide) (by decide)
  revert this; decide

/-- **T3.** Every Timeout return of connectSync's OWN timeout exit is preceded by this call's `engine->close(sid)` (an
engine-reported connect timeout arrives as the handler-delivered close error, a different result of the model). -/
theorem T3_timeout_closes (cfg : Cfg) (hg : cfg.Good) (steps : List Step) (c sid : Nat)
    (h : Ev.attemptRet c (some sid) (.err .timeout) ∈ (runC cfg init steps).log) :
    Ev.engineClose c sid ∈ (runC cfg init steps).log :=
  (reachableC hg steps).1.T3a c sid h

/-- **T3 (FIFO).** Once the engine has drained its FIFO, a session for which `engine->close` was issued is closed. -/
theorem T3_nothing_left_open (cfg : Cfg) (hg : cfg.Good) (steps : List Step) (c sid : Nat)
    (h : Ev.engineClose c sid ∈ (runC cfg init steps).log) (hq : (runC cfg init steps).fifo = []) :
    (runC cfg init steps).eng sid = .closed := by
  exact ((reachableC hg steps).1.Q1 c sid h).resolve_left (hq ▸ List.not_mem_nil)

/-- **T3 (a call that does not hand the session out leaves nothing open).** For every connectSync attempt that is over and did
not return `ok sid` — timed out, failed, refused, woken by teardown, or abandoned by a cancelled / timed-out
`connectSyncCancellable` (whose sub-attempts all end this way): this call issued `engine->close(sid)` (hence, FIFO drained, the
session is closed), or the engine itself closed the session, or teardown has begun (engine stop then closes everything: C05, not
shown here). -/
theorem T3_non_ok_leaves_nothing_open (cfg : Cfg) (hg : cfg.Good) (steps : List Step) (c sid : Nat)
    (hc : Ev.created c sid ∈ (runC cfg init steps).log) (hover : att ((runC cfg init steps).callers c).pc ≠ some sid) :
    Ev.attemptRet c (some sid) (.ok sid) ∈ (runC cfg init steps).log ∨ Ev.engineClose c sid ∈ (runC cfg init steps).log ∨
    (runC cfg init steps).eng sid = .closed ∨ (runC cfg init steps).shuttingDown = true := by
  obtain ⟨I, I2⟩ := reachableC hg steps
  obtain ⟨r, hr⟩ := I2.CL c sid hc hover
  cases r with
  | ok sid' =>
    have := (I.T1 c sid sid' hr).1
    subst this; exact Or.inl hr
  | err e =>
    cases e with
    | timeout => exact Or.inr (Or.inl (I.T3a c sid hr))
    | shuttingDown => exact Or.inr (Or.inr (Or.inr (I2.RS c _ hr)))
    | cancelled => exact absurd hr (I2.RCn c _)
    | closed => exact Or.inr (Or.inr (Or.inl (I.E3 sid ((I.D1 sid).2.1 (I2.RC2 c sid hr)))))
    | refused => have := I2.RF c _ hr; cases this

/-- **T3 (the clause as stated: a timed-out attempt leaves no open connection behind).** Under the engine contract, once the
engine has drained its FIFO the session of every connectSync attempt that returned its own Timeout is CLOSED in the engine. -/
theorem T3_timed_out_attempt_is_closed (cfg : Cfg) (hg : cfg.Good) (steps : List Step) (c sid : Nat)
    (h : Ev.attemptRet c (some sid) (.err .timeout) ∈ (runC cfg init steps).log) (hq : (runC cfg init steps).fifo = []) :
    (runC cfg init steps).eng sid = .closed :=
  T3_nothing_left_open cfg hg steps c sid (T3_timeout_closes cfg hg steps c sid h) hq

/-- a configuration that satisfies every fact EXCEPT the engine contract: `close()` may return without queueing (seed C04-d), and the
engine's connect-timeout timer queues its close untagged (seed C04-e) -/
def cfgDroppingClose : Cfg :=
  { lockHeld := true, closeWindow := true, handlers := true, timing := true, args := true, engine := false, noBypass := true }

/-- the schedule of seed C04-d: the caller times out and calls `engine->close` BEFORE the I/O thread has executed the queued
Connect; afterwards the Connect is executed and the handshake completes -/
def droppedCloseWitness : List Step :=
  [.call 0 false, .cEnter 0, .cConnect 0, .cRegister 0, .cPark 0, .cWake 0 true, .cClose 0, .cRelock 0,
   .ioPop true, .ioComplete 1, .ioStep]

/-- **The engine contract is NECESSARY.** With an engine whose `close(sid)` drops the command for an id that is not yet in its
session table, `T3_timed_out_attempt_is_closed` is false: the call returns Timeout, the FIFO drains, and the session is
ESTABLISHED with nobody owning it (and its abandoned `pendingConnects` record is never erased). -/
theorem dropped_close_refutes_T3 :
    let s := runC cfgDroppingClose init droppedCloseWitness
    Ev.attemptRet 0 (some 1) (.err .timeout) ∈ s.log ∧ Ev.engineClose 0 1 ∈ s.log ∧ s.fifo = [] ∧ s.io = .idle ∧
    s.eng 1 = .established ∧ (s.pend 1).isSome = true := by decide +kernel

/-- **T1, second half (ok ⇒ a live session the transport does not close by itself).** Every state, every step: a session
that is ESTABLISHED in the engine stays established unless the step is the PEER closing it or the I/O thread popping a Close
command for it (only `engine->close` of a connectSync timeout exit enqueues one — and by `T1_ok_is_live` none exists for a
returned session). In particular the engine's own connect-timeout timer (`timerClose sid`: tagged ConnectTimeout, hence ignored by
`process()` once the connect completed) cannot close a session `connectSync` has returned. Needs `Cfg.engine` (`timersTagged`). -/
theorem T1_established_closed_only_by_peer_or_close_cmd (cfg : Cfg) (hg : cfg.Good) (s : State) (st : Step) (sid : Nat)
    (he : s.eng sid = .established) :
    (stepC cfg s st).eng sid = .established ∨ st = .ioPeerClose sid ∨
    (∃ b, st = .ioPop b ∧ s.fifo.head? = some (.close sid)) := by
  rw [stepC_good hg]
  exact step_keeps_established s st sid he

/-- the schedule of seed C04-e: the connect completes, `connectSync` returns `ok 1` — and then the I/O thread processes the Close
the engine's connect-timeout timer had enqueued while it was busy -/
def staleTimerWitness : List Step :=
  [.call 0 false, .cEnter 0, .cConnect 0, .cRegister 0, .cPark 0, .ioPop true, .ioComplete 1, .ioStep, .ioStep, .cWake 0 false,
   .timerClose 1, .ioStep, .ioStep]

/-- **The origin tag of the timer handlers is NECESSARY.** With an untagged timer close (`Cfg.engine` false, seed C04-e) the call
returns `ok 1`, nobody — neither the peer nor the application nor connectSync — closes session 1, and yet the transport closes it
by itself and reports it through the GLOBAL close callback. Under the contract the same schedule leaves it established. -/
theorem untagged_timer_close_refutes_T1 :
    (let s := runC cfgDroppingClose init staleTimerWitness
     Ev.attemptRet 0 (some 1) (.ok 1) ∈ s.log ∧ s.eng 1 = .closed ∧ Ev.globalClose 1 ∈ s.log ∧
     s.log.filter (fun e => match e with | .engineClose _ _ => true | _ => false) = []) ∧
    (let s := runC genCfgTrue init staleTimerWitness
     Ev.attemptRet 0 (some 1) (.ok 1) ∈ s.log ∧ s.eng 1 = .established ∧ Ev.globalClose 1 ∉ s.log) := by decide +kernel

/-- a configuration that satisfies every fact EXCEPT `noBypass`: the tree before repair FC04b on a UDP transport -/
def cfgBypass : Cfg :=
  { lockHeld := true, closeWindow := true, handlers := true, timing := true, args := true, engine := true, noBypass := false }

/-- C04's first and third clause, as one statement about a configuration: `ok sid` is returned only after the `onConnect`
handler ran for `sid`, and the global connect callback never fires for a connectSync-created session -/
def C04_udp_statement (cfg : Cfg) : Prop :=
  ∀ (steps : List Step) (c sid : Nat),
    (Ev.attemptRet c (some sid) (.ok sid) ∈ (runC cfg init steps).log → Ev.hConnect sid ∈ (runC cfg init steps).log) ∧
    (Ev.globalConnect sid ∈ (runC cfg init steps).log → Ev.created c sid ∉ (runC cfg init steps).log) ∧
    (Ev.globalClose sid ∈ (runC cfg init steps).log → Ev.created c sid ∈ (runC cfg init steps).log →
      Ev.delivered sid true ∈ (runC cfg init steps).log)

/-- **FC04b — the unrepaired UDP bypass violates C04**: `ok 1` is returned before anything happened. -/
theorem C04_udp_refuted : ¬ C04_udp_statement cfgBypass := by
  intro h
  have h1 := (h [.call 0 false, .cEnter 0] 0 1).1
  revert h1; decide

/-- under the bypass the connect then completes and the GLOBAL connect callback fires for the connectSync-created id -/
theorem C04_udp_refuted_global_connect :
    let s := runC cfgBypass init [.call 0 false, .cEnter 0, .ioPop true, .ioComplete 1, .ioStep, .ioStep]
    Ev.attemptRet 0 (some 1) (.ok 1) ∈ s.log ∧ Ev.created 0 1 ∈ s.log ∧ Ev.globalConnect 1 ∈ s.log := by decide +kernel

/-- under the bypass a host that does not resolve makes the GLOBAL close callback report a session that never existed -/
theorem C04_udp_refuted_unresolved :
    let s := runC cfgBypass init [.call 0 false, .cEnter 0, .ioPop false, .ioStep, .ioStep]
    Ev.attemptRet 0 (some 1) (.ok 1) ∈ s.log ∧ Ev.globalClose 1 ∈ s.log ∧ Ev.hConnect 1 ∉ s.log ∧ s.eng 1 = .closed := by decide +kernel

/-- **FC04b repaired: the statement holds of every `Good` configuration** (in particular of `genCfg`, whatever the protocol). -/
theorem C04_udp_holds_when_repaired (cfg : Cfg) (hg : cfg.Good) : C04_udp_statement cfg := by
  intro steps c sid
  refine ⟨fun h => (T1_ok_is_live cfg hg steps c sid sid h).2.2.1, fun h => T2_no_global_connect cfg hg steps c sid h,
    fun h hc => (T2_global_close_only_for_handed_out cfg hg steps c sid h hc).1⟩

/-- **T4 (register before completion).** In no schedule does the `onConnect` handler of a connectSync-created session run its
critical section before the session is registered in `pendingConnects` (the caller holds `syncMutex` from `engine->connect`
until it waits). -/
theorem T4_register_before_completion (cfg : Cfg) (hg : cfg.Good) (steps : List Step) (c sid : Nat)
    (h : Ev.hConnect sid ∈ (runC cfg init steps).log) (hc : Ev.created c sid ∈ (runC cfg init steps).log) :
    Ev.registered c sid ∈ (runC cfg init steps).log :=
  (reachableC hg steps).1.T4 c sid h hc

/-- **T5 (no stranded caller, safety half).** In every reachable state a caller asleep in `wait_for` whose predicate holds
(its completion was delivered, or teardown set the fence) has a notify on its way: the I/O thread is between the handler's
critical section and its `notify_one` for exactly this waiter. (The fence itself notifies under the lock.) -/
theorem T5_no_lost_wakeup (cfg : Cfg) (hg : cfg.Good) (steps : List Step) (c sid : Nat)
    (hp : ((runC cfg init steps).callers c).pc = .parked sid false)
    (hpred : ((runC cfg init steps).callers c).done ≠ none ∨ (runC cfg init steps).shuttingDown = true) :
    (runC cfg init steps).io = .connNotify c sid ∨ (runC cfg init steps).io = .closeNotify c sid :=
  (reachableC hg steps).1.W c sid hp hpred

/-- **T5 / "in time" — PARTIAL.** Proved: from ANY state in which `syncMutex` is free, a parked caller that takes its timeout
returns within three of its own steps (and `T5_lock_released`). Tied, not proved:
that the wait lasts the caller's `timeout` (skeleton fact `connectTimingArgs` on the `wait_for` argument and the wrapper's
sub-interval arithmetic; DetSched virtual-time monitor; real-time monitor on the sequential op). Wall-clock slack: not proved. -/
theorem T5_step_bound (cfg : Cfg) (hg : cfg.Good) (s : State) (c sid : Nat) (a : Bool) (hp : (s.callers c).pc = .parked sid a)
    (hl : s.lock = none) : Core.returned ((runC cfg s [.cWake c true, .cClose c, .cRelock c]).callers c).pc := by
  rw [runC_good hg]; exact Core.T5_step_bound s c sid a hp hl

/-- **T5 (the mutex is not kept).** In every reachable state the caller holding `syncMutex` releases it within three of its own
steps: `engine->connect`, the registration, the wait. -/
theorem T5_lock_released (cfg : Cfg) (hg : cfg.Good) (steps : List Step) (c : Nat) (hl : (runC cfg init steps).lock = some c) :
    (runC cfg (runC cfg init steps) [.cConnect c, .cRegister c, .cPark c]).lock = none := by
  rw [runC_good hg, runC_good hg] at *; exact Core.T5_lock_released steps c hl

/-- **T5 (fence).** A connectSync that acquires the mutex after the fence returns ShuttingDown without calling the engine. -/
theorem T5_fence_rejects (cfg : Cfg) (hg : cfg.Good) (s : State) (c : Nat) (hp : (s.callers c).pc = .start) (hl : s.lock = none)
    (hs : s.shuttingDown = true) :
    (stepC cfg s (.cEnter c)).fifo = s.fifo ∧ (stepC cfg s (.cEnter c)).nextSid = s.nextSid ∧
    Ev.attemptRet c none (.err .shuttingDown) ∈ (stepC cfg s (.cEnter c)).log ∧
    Core.returned ((stepC cfg s (.cEnter c)).callers c).pc := by
  rw [stepC_good hg]
  have h1 : step s (.cEnter c) = ret s c none (.err .shuttingDown) := by
    simp [step, doEnter, hp, hl, hs]
  rw [h1]
  refine ⟨rfl, rfl, ?_, Core.ret_returned _ _ _ _⟩
  simp [ret, mem_retEvs]

/-- **M3 (the `engine->connect` error branch).** When the engine refuses (e.g. `TcpEngine::connect` on a closed queue after a plain
`stop()`), the call returns that error at once: the mutex is released, nothing is registered or counted, nothing was enqueued
and no session id exists for this attempt. -/
theorem T_connect_refused (cfg : Cfg) (hg : cfg.Good) (s : State) (c : Nat) (hp : (s.callers c).pc = .haveLock) :
    let s' := stepC cfg s (.cRefuse c)
    s'.lock = none ∧ s'.pend = s.pend ∧ s'.activeConnects = s.activeConnects ∧ s'.fifo = s.fifo ∧ s'.nextSid = s.nextSid ∧
    Ev.attemptRet c none (.err .refused) ∈ s'.log ∧ Core.returned (s'.callers c).pc := by
  rw [stepC_good hg]
  simp only [step, doRefuse, hp, ret, setC_same]
  refine ⟨trivial, trivial, trivial, trivial, trivial, ?_, retPc_cases _ _⟩
  simp [mem_retEvs]

/-- **H2 (the requested TLS mode).** Argument layer, every schedule: the session a caller is parked on — in particular the one a
call returns `ok sid` for, which it does from there — was created by an `engine->connect` carrying the TLS mode THIS call requested. -/
theorem T_tls_mode_as_requested (cfg : Cfg) (hg : cfg.Good) (steps : List (Step × Nat)) (c sid : Nat) (a : Bool)
    (hp : ((xrun cfg xinit steps).core.callers c).pc = .parked sid a) :
    (xrun cfg xinit steps).sessTls sid = (xrun cfg xinit steps).reqTls c :=
  (reachableX hg steps).2.2 c sid (by simp [hp, att])

/-- **H2 for the session a call RETURNS.** Argument layer, every schedule: at the step that logs `ret ok sid` for caller `c`, the
session `sid` was created by an `engine->connect` carrying the TLS mode this call requested (uses `Cfg.args`: host, port and TLS
mode reach `engine->connect` unchanged). -/
theorem T_tls_mode_of_returned_session (cfg : Cfg) (hg : cfg.Good) (steps : List (Step × Nat)) (st : Step) (n c sid : Nat)
    (hnew : Ev.attemptRet c (some sid) (.ok sid) ∈ (xstep cfg (xrun cfg xinit steps) st n).core.log)
    (hold : Ev.attemptRet c (some sid) (.ok sid) ∉ (xrun cfg xinit steps).core.log) :
    (xrun cfg xinit steps).sessTls sid = (xrun cfg xinit steps).reqTls c := by
  obtain ⟨I, -, IX⟩ := reachableX hg steps
  rw [xstep_core, stepC_good hg] at hnew
  rcases mem_step_log I hnew with h | h
  · exact absurd h hold
  · exact IX c sid h.2.2.att

/-- **Definite error (L8).** Every schedule: a connectSync attempt returns the engine-reported error class only after the engine's
`onClose` handler ran for THIS attempt's session and completed its waiter; the engine has closed that session; and the reason
class recorded for it — the one the driver prints as the call's error (Connect, Resolve, Timeout, TLSHandshake, …) — can no
longer change. `T_reason_is_written_by_the_closing_step` says where it came from. -/
theorem T_error_is_the_reported_one (cfg : Cfg) (hg : cfg.Good) (steps : List (Step × Nat)) (c sid : Nat)
    (h : Ev.attemptRet c (some sid) (.err .closed) ∈ (xrun cfg xinit steps).core.log) :
    Ev.hClose sid ∈ (xrun cfg xinit steps).core.log ∧ Ev.delivered sid false ∈ (xrun cfg xinit steps).core.log ∧
    (xrun cfg xinit steps).core.eng sid = .closed ∧
    ∀ st n, (xstep cfg (xrun cfg xinit steps) st n).reason sid = (xrun cfg xinit steps).reason sid := by
  obtain ⟨I, I2, -⟩ := reachableX hg steps
  have hd := I2.RC2 c sid h
  have hh := (I.D1 sid).2.1 hd
  have he := I.E3 sid hh
  exact ⟨hh, hd, he, fun st n => reason_frozen cfg _ st n sid he⟩

/-- the reason class of a session is the number carried by the step that BEGINS its close handler (a failing Connect, a Close
command found in the table, a failing or peer-closed connection) — and such a step exists only for a session the engine has not
closed yet, so the reason is written exactly once -/
theorem T_reason_is_written_by_the_closing_step (cfg : Cfg) (x : XState) (st : Step) (n sid : Nat)
    (h : closeBegins x.core st = some sid) : (xstep cfg x st n).reason sid = n ∧ x.core.eng sid ≠ .closed :=
  ⟨by rw [xstep_reason, h]; simp [setN], closeBegins_not_closed _ _ _ h⟩

/-- **T6 (cancellable wrapper, ok).** It returns `ok sid` only if a sub-attempt of its own returned `ok sid` (hence, by T1, never for a
sub-attempt it abandoned with `engine->close`). -/
theorem T6_wrapper_ok (cfg : Cfg) (hg : cfg.Good) (steps : List Step) (c sid : Nat)
    (h : Ev.wrapRet c (.ok sid) ∈ (runC cfg init steps).log) :
    Ev.attemptRet c (some sid) (.ok sid) ∈ (runC cfg init steps).log ∧ ∀ c', Ev.engineClose c' sid ∉ (runC cfg init steps).log := by
  have I := (reachableC hg steps).1
  have h1 := I.T6a c sid h
  exact ⟨h1, (I.T1 c sid sid h1).2.2⟩

/-- **T6 (Cancelled).** The wrapper returns Cancelled only if the token was cancelled. -/
theorem T6_cancelled_only_if_cancelled (cfg : Cfg) (hg : cfg.Good) (steps : List Step) (c : Nat)
    (h : Ev.wrapRet c (.err .cancelled) ∈ (runC cfg init steps).log) : ((runC cfg init steps).callers c).cancelled = true :=
  (reachableC hg steps).1.T6b c h

/-- **T6 (Cancelled is decided by the wrapper's own token checks, never in place of a sub-attempt's result).** Every schedule: the
step that logs `wrapRet c Cancelled` is the pre-cancel check of `call c true` or the loop check `wLoop c false` taken from the
wrapper's loop head — so the sub-attempt before it had returned its own Timeout (`T3_timeout_closes`: its session was closed by
`engine->close`). A sub-attempt that returns `ok sid` is always handed on as `ok sid` (seed C04-b broke exactly this). -/
theorem T6_cancelled_only_at_token_checks (cfg : Cfg) (hg : cfg.Good) (steps : List Step) (st : Step) (c : Nat)
    (hnew : Ev.wrapRet c (.err .cancelled) ∈ (stepC cfg (runC cfg init steps) st).log)
    (hold : Ev.wrapRet c (.err .cancelled) ∉ (runC cfg init steps).log) :
    (st = .wLoop c false ∧ ((runC cfg init steps).callers c).pc = .wloop) ∨
    (st = .call c true ∧ (((runC cfg init steps).callers c).pc = .idle ∨ ((runC cfg init steps).callers c).pc = .finished)) := by
  rw [stepC_good hg] at hnew
  rcases mem_step_log (reachableC hg steps).1 hnew with h | h | h | h | h
  · exact absurd h hold
  · exact Or.inr ⟨h.1, h.2.1⟩
  · exact Or.inl ⟨h.1, h.2.1⟩
  · cases h.2
  · -- a connectSync call never returns `Cancelled` itself
    exact h.2.elim

/-- a configuration that satisfies every fact EXCEPT the wrapper's statement order (`Cfg.timing`): token before result (seed C04-b) -/
def cfgTokenFirst : Cfg :=
  { lockHeld := true, closeWindow := true, handlers := true, timing := false, args := true, engine := true, noBypass := true }

/-- **The wrapper's statement order is NECESSARY** ("a cancelled attempt leaves no open connection behind"): with the token looked at
before the sub-attempt's result, a wrapper cancelled while its sub-attempt completes returns Cancelled although that sub-attempt
returned `ok 1` — nobody issued `engine->close(1)`, the FIFO is empty and session 1 stays ESTABLISHED, owned by no one. -/
theorem token_first_refutes_cancel_clause :
    let s := runC cfgTokenFirst init [.call 0 true, .cEnter 0, .cConnect 0, .cRegister 0, .cPark 0, .cancel 0, .ioPop true,
      .ioComplete 1, .ioStep, .ioStep, .cWake 0 false]
    Ev.wrapRet 0 (.err .cancelled) ∈ s.log ∧ Ev.wrapRet 0 (.ok 1) ∉ s.log ∧
    s.log.filter (fun e => match e with | .engineClose _ _ => true | _ => false) = [] ∧ s.fifo = [] ∧
    s.io = .idle ∧ s.eng 1 = .established := by decide +kernel

/-- **T6 (entered with a cancelled token).** The wrapper returns Cancelled without touching the engine. -/
theorem T6_precancelled (cfg : Cfg) (hg : cfg.Good) (s : State) (c : Nat)
    (hp : (s.callers c).pc = .idle ∨ (s.callers c).pc = .finished) (hc : (s.callers c).cancelled = true) :
    (stepC cfg s (.call c true)).log = s.log ++ [.wrapRet c (.err .cancelled)] ∧ (stepC cfg s (.call c true)).fifo = s.fifo := by
  rw [stepC_good hg]
  rcases hp with hp | hp <;> simp [step, doCall, hp, hc]

/-! ### non-vacuity: concrete runs satisfying the hypotheses -/
/-- a successful call: `ret ok 1` is in the log (T1, T4, T6 hypotheses) -/
example : Ev.attemptRet 0 (some 1) (.ok 1) ∈
    (run init [.call 0 false, .cEnter 0, .cConnect 0, .cRegister 0, .cPark 0, .ioPop true, .ioComplete 1, .ioStep, .ioStep, .cWake 0 false]).log := by
  decide +kernel
/-- parked with its completion delivered and the notify still pending (T5_no_lost_wakeup hypotheses) -/
example : let s := run init [.call 0 false, .cEnter 0, .cConnect 0, .cRegister 0, .cPark 0, .ioPop true, .ioComplete 1, .ioStep]
    (s.callers 0).pc = .parked 1 false ∧ (s.callers 0).done = some (.ok 1) ∧ s.io = .connNotify 0 1 := by decide +kernel
/-- a timeout run: `engine->close` issued, FIFO drained, session closed, nothing global (T3 hypotheses) -/
example : let s := run init [.call 0 false, .cEnter 0, .cConnect 0, .cRegister 0, .cPark 0, .cWake 0 true, .cClose 0, .cRelock 0,
      .ioPop true, .ioPop true, .ioStep, .ioStep]
    Ev.attemptRet 0 (some 1) (.err .timeout) ∈ s.log ∧ Ev.engineClose 0 1 ∈ s.log ∧ s.fifo = [] ∧ s.eng 1 = .closed ∧
    Ev.globalClose 1 ∉ s.log := by decide +kernel
/-- the F16 history on the repaired model: timeout, the connect completes in the unlock window, the Close is processed — the
abandoned record survives the late `onConnect`, `onClose` reaps it, no global callback fires -/
example : let s := run init [.call 0 false, .cEnter 0, .cConnect 0, .cRegister 0, .cPark 0, .cWake 0 true, .ioPop true,
      .ioComplete 1, .ioStep, .cClose 0, .cRelock 0, .ioPop true, .ioStep, .ioStep]
    Ev.attemptRet 0 (some 1) (.err .timeout) ∈ s.log ∧ Ev.reaped 1 ∈ s.log ∧ Ev.globalClose 1 ∉ s.log ∧
    Ev.globalConnect 1 ∉ s.log := by decide +kernel
/-- a global close of a handed-out session (T2 hypotheses): the caller returned `ok 1`, later the peer closes -/
example : let s := run init [.call 0 false, .cEnter 0, .cConnect 0, .cRegister 0, .cPark 0, .ioPop true, .ioComplete 1, .ioStep,
      .ioStep, .cWake 0 false, .ioPeerClose 1, .ioStep, .ioStep]
    Ev.globalClose 1 ∈ s.log ∧ Ev.created 0 1 ∈ s.log ∧ Ev.attemptRet 0 (some 1) (.ok 1) ∈ s.log := by decide +kernel
/-- a refused connect and a fence rejection -/
example : (run init [.call 0 false, .cEnter 0, .cRefuse 0]).log = [.attemptRet 0 none (.err .refused)] ∧
    (run init [.call 0 false, .cEnter 0, .cRefuse 0]).lock = none := by decide +kernel
example : (run init [.fence, .call 0 false, .cEnter 0]).log = [.fenceSet, .attemptRet 0 none (.err .shuttingDown)] := by decide +kernel
/-- the cancellable wrapper: one sub-attempt times out, the token is cancelled, the loop check returns Cancelled; the abandoned
sub-attempt's `engine->close` is in the log (T3_non_ok_leaves_nothing_open, T6 hypotheses) -/
example : let s := run init [.call 0 true, .cEnter 0, .cConnect 0, .cRegister 0, .cPark 0, .cWake 0 true, .cClose 0, .cRelock 0,
      .cancel 0, .wLoop 0 false]
    Ev.wrapRet 0 (.err .cancelled) ∈ s.log ∧ Ev.engineClose 0 1 ∈ s.log ∧ (s.callers 0).cancelled = true := by decide +kernel
/-- the engine-reported error: the connect is refused (reason 1) while the caller is parked; it returns `err closed` and the recorded
reason is 1 (T_error_is_the_reported_one, T_reason_is_written_by_the_closing_step hypotheses) -/
example : let x := xrun genCfg xinit [(.call 0 false, 0), (.cEnter 0, 0), (.cConnect 0, 0), (.cRegister 0, 0), (.cPark 0, 0),
      (.ioPop true, 5), (.ioFail 1, 1), (.ioStep, 0), (.ioStep, 0), (.cWake 0 false, 0)]
    Ev.attemptRet 0 (some 1) (.err .closed) ∈ x.core.log ∧ x.reason 1 = 1 ∧ x.core.eng 1 = .closed := by
  rw [genCfg_eq]
  decide +kernel
example : closeBegins (xrun genCfg xinit [(.call 0 false, 0), (.cEnter 0, 0), (.cConnect 0, 0), (.cRegister 0, 0), (.cPark 0, 0),
      (.ioPop true, 5)]).core (.ioFail 1) = some 1 := by
  rw [genCfg_eq]
  decide +kernel
/-- a call requesting TLS mode 2 returns ok for a session created with mode 2 (T_tls_mode_of_returned_session hypotheses) -/
example : let pre : List (Step × Nat) := [(.call 0 false, 2), (.cEnter 0, 0), (.cConnect 0, 0), (.cRegister 0, 0), (.cPark 0, 0),
      (.ioPop true, 5), (.ioComplete 1, 0), (.ioStep, 0), (.ioStep, 0)]
    Ev.attemptRet 0 (some 1) (.ok 1) ∈ (xstep genCfg (xrun genCfg xinit pre) (.cWake 0 false) 0).core.log ∧
    Ev.attemptRet 0 (some 1) (.ok 1) ∉ (xrun genCfg xinit pre).core.log ∧ (xrun genCfg xinit pre).sessTls 1 = 2 := by
  rw [genCfg_eq]
  decide +kernel
/-- the argument layer: a call requesting TLS mode 1 -/
example : let x := xrun genCfg xinit [(.call 0 false, 1), (.cEnter 0, 0), (.cConnect 0, 0), (.cRegister 0, 0), (.cPark 0, 0)]
    (x.core.callers 0).pc = .parked 1 false ∧ x.sessTls 1 = 1 ∧ x.reqTls 0 = 1 := by
  rw [genCfg_eq]
  decide +kernel

end Iora.C04
