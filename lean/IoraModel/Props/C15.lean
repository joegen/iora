import IoraModel.Lemmas.HttpServerConn
/-!
# C15 — HTTP/1.1 message framing is exact, segmentation-independent and bounded

The properties; helper lemmas live in `Lemmas/Http*.lean`.  Models: `Model/HttpClientFraming.lean`
(response framing of `http_client.hpp`), `Model/HttpServerFraming.lean` (request framing of `http_server.hpp` as
repaired by F25/F26/F27 + `HttpRequest::fromWireFormat`); constants from `Gen/Http.lean`.
-/
namespace Iora.C15
open Iora Iora.Http

/-! ## Client -/

open Iora.Http.Spec in
/-- **F1 (exactness, self-delimiting bodies).** For every well-formed final response `m` of the reference syntax
(`Model/Http1Spec.lean`: status line, arbitrary field lines with OWS padding around the framing field, body framed by
Content-Length, by chunked coding with chunk extensions and a trailer section, or absent for HEAD/204/304), preceded by any
number of interim 1xx responses and followed by any surplus bytes `x`, one read of the whole stream returns exactly the
status, reason, version, header map and body of `m`, and `forceEvict` is set iff `x ≠ []`. -/
theorem F1_exact (method : Bytes) (cap : Nat) (is : List Interim) (m : Response) (x : Bytes)
    (his : ∀ i ∈ is, InterimWF i) (hm : RespWF method cap m) (hnc : ∀ b, m.body ≠ .untilClose b)
    (hcap : (renderInterims is ++ m.render ++ x).length ≤ cap) :
    (recvStep method cap {} (.data (renderInterims is ++ m.render ++ x))).2 =
      .response { status := m.sl.status, text := m.sl.reason.getD [], version := m.sl.version,
                  headers := headerMap m.fields, body := m.body.content } (decide (x ≠ [])) := by
  rw [List.append_assoc] at hcap ⊢
  obtain ⟨r, hr⟩ := recv_skip_interims method cap is his (m.render ++ x) (render_ne m x) hcap
  obtain ⟨st', hst, hresp, hfe⟩ := FR_exact method cap m hm x { data := m.render ++ x, resp := r } rfl rfl rfl rfl hnc
  rw [hr, hst]
  simp only [hresp, hfe]
  rfl

open Iora.Http.Spec in
/-- **F1′ (exactness, close-delimited body).** Without Content-Length/Transfer-Encoding the body is everything up to the
peer's close; the connection is never reused (`forceEvict`). -/
theorem F1_exact_close (method : Bytes) (cap : Nat) (is : List Interim) (m : Response) (b x : Bytes)
    (his : ∀ i ∈ is, InterimWF i) (hm : RespWF method cap m) (hb : m.body = .untilClose b)
    (hcap : (renderInterims is ++ m.render ++ x).length ≤ cap) :
    (runLoop method cap {} [.data (renderInterims is ++ m.render ++ x), .peerClosed]).2 =
      .response { status := m.sl.status, text := m.sl.reason.getD [], version := m.sl.version,
                  headers := headerMap m.fields, body := b ++ x } true := by
  rw [List.append_assoc] at hcap ⊢
  obtain ⟨r, hr⟩ := recv_skip_interims method cap is his (m.render ++ x) (render_ne m x) hcap
  obtain ⟨hst, _, hdrop⟩ := FR_exact_close method cap m hm b x { data := m.render ++ x, resp := r } rfl rfl rfl hb
  rw [runLoop, hr, hst]
  simp [runLoop, recvStep, bodySt, bodyFraming, hb, hdrop, respOf]

open Iora.Http.Spec in
/-- non-vacuity: `HTTP/1.1 200 OK`, `Transfer-Encoding: gzip, chunked`, chunks `3;a=b CRLF abc`, last chunk `00 ;x` with a
trailer line, is a well-formed response for `GET` under a 1 MiB cap -/
example : RespWF (ascii "GET") 1048576
    { sl := { minor := 1, status := 200, reason := some (ascii "OK") }, before := [], after := [],
      body := .chunked (ascii "gzip, chunked") [{ tok := ascii "3", ext := ascii ";a=b", data := ascii "abc" }]
                { tok := ascii "00", ext := ascii " ;x", trailers := [ascii "X-T: 1"] } } := by
  conv in (occs := *) ascii _ => all_goals rw [ascii_ofList]
  constructor
  · exact ⟨by decide +kernel, by decide +kernel, by intro r hr; cases hr; decide +kernel⟩
  · decide +kernel
  · intro f hf; cases hf
  · intro f hf; cases hf
  · decide +kernel
  · refine ⟨by decide +kernel, by decide +kernel, by decide +kernel, by decide +kernel, ?_, ?_⟩
    · intro c hc
      simp only [List.mem_singleton] at hc
      subst hc
      exact ⟨by decide +kernel, by decide +kernel, by decide +kernel, by decide +kernel,
        Or.inr ⟨[], ascii "a=b", by rw [ascii_ofList]; rfl, by decide +kernel, by decide +kernel⟩⟩
    · exact ⟨by decide +kernel, Or.inr ⟨[32], ascii "x", by rw [ascii_ofList]; rfl, by decide +kernel, by decide +kernel⟩, by
        intro t ht; simp only [List.mem_singleton] at ht; subst ht; exact ⟨by decide +kernel, by decide +kernel⟩⟩

/-- non-vacuity: `HTTP/1.1 100 Continue` is a well-formed interim -/
example : InterimWF { sl := { minor := 1, status := 100, reason := some (ascii "Continue") } } :=
  ⟨⟨by decide +kernel, by decide +kernel, by intro r hr; cases hr; decide +kernel⟩, by decide +kernel, by intro f hf; cases hf⟩

open Iora.Http.Spec in
/-- **F1″ (responses that never have a body).** For `HEAD` requests and 204/304 statuses ANY well-formed field list -
including `Content-Length` (all equal) and `Transfer-Encoding` lines - is accepted, the message ends with the header section
and no body is read (RFC 9112 §6.3 rule 1). -/
theorem F1_exact_nobody (method : Bytes) (cap : Nat) (is : List Interim) (sl : StatusLine) (fs : List Field) (x : Bytes)
    (his : ∀ i ∈ is, InterimWF i) (hsl : sl.WF) (hfin : isInterim sl.status = false) (hfs : ∀ f ∈ fs, f.WF)
    (hcl : CLcons none fs) (hm : method ≠ ascii "CONNECT")
    (hnb : method = ascii "HEAD" ∨ sl.status = 204 ∨ sl.status = 304)
    (hcap : (renderInterims is ++ (joinCRLF (sl.render :: fs.map Field.line) ++ crlf2) ++ x).length ≤ cap) :
    (recvStep method cap {} (.data (renderInterims is ++ (joinCRLF (sl.render :: fs.map Field.line) ++ crlf2) ++ x))).2 =
      .response { status := sl.status, text := sl.reason.getD [], version := sl.version, headers := headerMap fs, body := [] }
        (decide (x ≠ [])) := by
  rw [List.append_assoc] at hcap ⊢
  obtain ⟨r, hr⟩ := recv_skip_interims method cap is his _ (by simp [crlf2]) hcap
  have hdf := determineFraming_noBody method (respOf sl fs) cap hm hfin hnb
  rw [hr, FR_head method cap sl hsl fs hfs hcl hfin _ hdf x _ rfl rfl rfl, bodyPhase_noBody cap _ rfl]
  simp only [Bool.false_or, respOf]
  congr 1
  rw [show (joinCRLF (sl.render :: fs.map Field.line) ++ crlf2 ++ x).length =
    ((joinCRLF (sl.render :: fs.map Field.line)).length + 4) + x.length by simp [crlf2]; omega]
  exact decide_ne_nil x _

/-- **F2a (any segmentation = the whole buffer).** Feeding the receive loop ANY segmentation `ss` of a byte stream, one
read at a time through the carried state (`headerScanPos`, `ChunkState`, …), gives what framing the whole stream in one
buffer gives: the same "need more" state (the carried state is a function of the accumulated bytes), the same framing
error, or the same response - where the surplus flag of the segmented run may still be off because the surplus had not
arrived when the message completed.  Hypothesis: the stream fits the cap (so no prefix trips the cap check). -/
theorem F2_any_segmentation_eq_whole (method : Bytes) (cap : Nat) (ss : List Bytes) (hcap : ss.flatten.length ≤ cap) :
    Rel (runLoop method cap {} (dataReads ss)) (obs (frameResponse method cap { data := ss.flatten })) := by
  have h0 : frameResponse method cap { data := [] } = ({}, .needMore) := FR_empty method cap { data := [] } rfl rfl
  simpa using runLoop_segments method cap ss [] {} {} (by simpa using hcap) h0 rfl

/-- **F2 (segmentation independence).** Two segmentations of one byte stream (followed by the peer's close) end the receive
loop with the same outcome: the same response (status, reason, version, header map, body), the same framing error, or the
same "closed early" failure. -/
theorem F2_segmentation_independent (method : Bytes) (cap : Nat) (ss ts : List Bytes) (h : ss.flatten = ts.flatten)
    (hcap : ss.flatten.length ≤ cap) :
    SameOutcome (runLoop method cap {} (dataReads ss ++ [.peerClosed])).2
                (runLoop method cap {} (dataReads ts ++ [.peerClosed])).2 := by
  rw [runLoop_append, runLoop_append]
  have a := Rel_close method cap _ _ (F2_any_segmentation_eq_whole method cap ss hcap)
  have b := Rel_close method cap _ _ (F2_any_segmentation_eq_whole method cap ts (by rw [← h]; exact hcap))
  rw [← h] at b
  exact SameOutcome_trans_symm a b

/-- non-vacuity: two segmentations of one stream, the bytes `HTTP` -/
example : ([[72], [84], [84, 80]] : List Bytes).flatten = ([[72, 84, 84, 80]] : List Bytes).flatten := rfl

/-- **F1+F2 (exactness under ANY segmentation).** However the stream `interims ++ render m ++ x` is cut into network reads,
the receive loop (followed by the peer's close) returns exactly the response encoded in `m` (up to the surplus flag, which
depends on whether `x` had arrived when the message completed). -/
theorem F1_exact_any_segmentation (method : Bytes) (cap : Nat) (is : List Spec.Interim) (m : Spec.Response) (x : Bytes)
    (his : ∀ i ∈ is, InterimWF i) (hm : RespWF method cap m) (hnc : ∀ b, m.body ≠ .untilClose b)
    (hcap : (Spec.renderInterims is ++ m.render ++ x).length ≤ cap) (ss : List Bytes)
    (hss : ss.flatten = Spec.renderInterims is ++ m.render ++ x) :
    SameOutcome (runLoop method cap {} (dataReads ss ++ [.peerClosed])).2
      (.response { status := m.sl.status, text := m.sl.reason.getD [], version := m.sl.version,
                   headers := Spec.headerMap m.fields, body := m.body.content } false) := by
  have h2 := F2_segmentation_independent method cap ss [Spec.renderInterims is ++ m.render ++ x] (by simpa using hss)
    (by rw [hss]; exact hcap)
  have h1 := F1_exact method cap is m x his hm hnc hcap
  rw [show dataReads [Spec.renderInterims is ++ m.render ++ x] ++ [.peerClosed] = [.data _, .peerClosed] from rfl,
    runLoop_stop _ _ _ _ _ (by rw [h1]; exact fun h => nomatch h), h1] at h2
  exact h2.response_flag false

/-- **F3a (bounded buffer).** Whenever the receive loop goes on to another read, the accumulation buffer holds at most
`cap` bytes; whatever a read of `n` bytes does, the buffer never exceeds `cap + n` (`n ≤ 8192 = Gen.Http.clientReadSize`
in `executeRequest`); a PeerClosed read leaves the state as it is. -/
theorem F3_buffer_bounded (method : Bytes) (cap : Nat) (st st' : St) (r : Recv) (o : LoopOut)
    (h0 : st.data.length ≤ cap) (h : recvStep method cap st r = (st', o)) :
    (o = .more → st'.data.length ≤ cap) ∧
    (∀ seg, r = .data seg → st'.data.length ≤ cap + seg.length) ∧ (r = .peerClosed → st' = st) := by
  cases r with
  | peerClosed =>
    simp only [recvStep] at h
    split at h <;> (cases h; simp [h0])
  | data seg =>
    simp only [reduceCtorEq, false_imp_iff, and_true, Recv.data.injEq, forall_eq']
    by_cases hne : seg = []
    · subst hne; rw [recvStep_empty] at h; cases h; exact ⟨fun _ => h0, by omega⟩
    · by_cases hcap : (st.data ++ seg).length > cap
      · rw [recvStep_over method cap st seg hne hcap] at h
        cases h
        exact ⟨fun ho => (nomatch ho), by simp only [St.app, List.length_append]; omega⟩
      · rw [recvStep_data method cap st seg hne hcap] at h
        cases hfr : frameResponse method cap (st.app seg) with
        | mk st2 o2 =>
          have hle := FR_data_le method cap _ _ _ hfr
          simp only [St.app, List.length_append] at hle hcap
          rw [hfr] at h
          cases o2 <;> (simp only at h; cases h; constructor <;> (intros; omega))
  | _ => simp only [recvStep] at h; cases h; simp [h0]

/-- **F3b (progress).** Every iteration of the chunk loop that continues moves the parse position strictly forward (it is
bounded by the buffer length: the measure `buf.length - pos` of `advanceChunked` strictly decreases). -/
theorem F3_chunk_loop_progress (buf : Bytes) (cap : Nat) (st st' : ChunkState) (h : chunkStep buf cap st = .next st') :
    st.pos < st'.pos :=
  chunkStep_next_lt buf cap st st' h

/-- **F3c (no re-scan from zero, no loss).** An interim (1xx) response only ever shrinks the buffer: the bytes carried after
any `frameResponse` call are at most the bytes it was given. -/
theorem F3_frame_never_grows (method : Bytes) (cap : Nat) (st st' : St) (o : Out)
    (h : frameResponse method cap st = (st', o)) : st'.data.length ≤ st.data.length :=
  FR_data_le method cap st st' o h

/-- **F3d (every receive error ends the loop).** A read that is not data never continues the loop: Timeout, ShuttingDown and
any other error end it with the corresponding non-framing failure, BufferOverflow with the non-retryable framing error, and
PeerClosed with a response only when the headers are done and the body is close-delimited (else "closed early").  The first
four leave the state untouched; for PeerClosed that is the last clause of F3a. -/
theorem F3_loop_ends_on_error (method : Bytes) (cap : Nat) (st : St) :
    recvStep method cap st .timeout = (st, .failed .timeout) ∧
    recvStep method cap st .overflow = (st, .framingError .overflow) ∧
    recvStep method cap st .shuttingDown = (st, .failed .shuttingDown) ∧
    recvStep method cap st .otherError = (st, .failed .closedEarly) ∧
    (recvStep method cap st .peerClosed).2 ≠ .more ∧
    ((recvStep method cap st .peerClosed).2 ≠ .failed .closedEarly →
      st.headersDone = true ∧ st.framing.mode = .closeDelimited) := by
  refine ⟨rfl, rfl, rfl, rfl, ?_, ?_⟩
  · simp only [recvStep]; split <;> simp
  · simp only [recvStep]; split
    · rename_i h; intro _; exact h
    · intro h; exact absurd rfl h

/-- **F3e (what follows the loop).** `executeRequest` drops the connection after every outcome that is not a response (framing
error, timeout, shutting down, closed early), after every response with `forceEvict`, and always when the client is configured
not to reuse connections.  (It also drops it for a close-delimited body, for a response that asks for close and for data left
unread in the transport, `residualDataPending`: the whole decision is `executeReceive_kept`, of which this is three cases.) -/
theorem F3_connection_dropped (method : Bytes) (a b : Nat) (reuse : Bool) (script : List Recv) (o : LoopOut) (closed : Bool)
    (h : executeReceive method a b reuse script = (o, closed)) :
    (∀ r ev, o = .response r ev → ev = true → closed = true) ∧ ((∀ r ev, o ≠ .response r ev) → closed = true) ∧
    (reuse = false → closed = true) := by
  cases closed with
  | true => exact ⟨fun _ _ _ _ => rfl, fun _ => rfl, fun _ => rfl⟩
  | false =>
    obtain ⟨st, r, _, rfl, hre, _, _⟩ := executeReceive_kept h
    exact ⟨fun _ _ he hev => (by cases he; cases hev), fun hn => absurd rfl (hn r false), fun hf => (by rw [hre] at hf; cases hf)⟩

/-- **F4a (Content-Length is numeric or rejected).** A Content-Length value is accepted only if EVERY comma-separated element,
OWS-trimmed, is a non-empty token of decimal digits with a value below 2^64, and all elements denote the same number: no sign,
no inner white space, no trailing junk, no overflow, no differing duplicates. -/
theorem F4_content_length_sound (v : Bytes) (n : Nat) (h : parseContentLength v = .ok n) :
    ∀ e ∈ splitOn 44 v, parseFullUInt 10 (trim e) = some n ∧ trim e ≠ [] ∧
      (∀ c ∈ trim e, (digitVal 10 c).isSome = true) ∧ n < 2 ^ 64 := by
  intro e he
  have hp := (parseCLElems_sound _ none n h).1 e he
  exact ⟨hp, parseFullUInt_sound 10 _ n hp⟩

/-- **F4a′ (numbers are unbounded values, overflow is an explicit reject).** `parseFullUInt` - the model of `std::from_chars`
(client) and of the all-digits test + `std::stoull` (server Content-Length) - is stated over digit strings of ANY length and
natural numbers, never over a machine word that could wrap: if it accepts, the result IS the value of the digit string
(most significant digit first, `Spec.tokValue`, unbounded) and that value is below 2^64; conversely a digit string whose value is
`>= 2^64` is rejected - whatever that value is congruent to modulo 2^64. -/
theorem F4_number_is_unbounded_value (base : Nat) (s : Bytes) :
    (∀ n, parseFullUInt base s = some n → Spec.tokValue base s = some n ∧ n < 2 ^ 64) ∧
    (∀ v, Spec.tokValue base s = some v → 2 ^ 64 ≤ v → parseFullUInt base s = none) := by
  refine ⟨fun n => (parseFullUInt_iff base s n).1, fun v hv hge => ?_⟩
  cases hp : parseFullUInt base s with
  | none => rfl
  | some n =>
    obtain ⟨h1, h2⟩ := (parseFullUInt_iff base s n).1 hp
    rw [hv] at h1; cases h1; omega

open Iora.Http.Srv in
/-- witnesses for F4a′: `18446744073709551621` = 2^64 + 5 is an all-digit string whose value is congruent to 5; it
is NOT the length 5 - both endpoints reject it (client: framing error; server: the header scan closes the connection), as they
do `36893488147419103237` = 2·2^64 + 5 and the 25-digit `1000000000000000000000005`; the hex `10000000000000005` = 2^64 + 5 is
malformed as a chunk size on both endpoints; while a small value with more than 20 digits of leading zeros is VALID and is
accepted exactly -/
example : Spec.tokValue 10 (ascii "18446744073709551621") = some (2 ^ 64 + 5) ∧
    parseFullUInt 10 (ascii "18446744073709551621") = none ∧
    (parseContentLength (ascii "18446744073709551621")).toOption = none ∧
    scanHeaderLines [ascii "Content-Length: 18446744073709551621"] {} = none ∧
    scanHeaderLines [ascii "Content-Length: 36893488147419103237"] {} = none ∧
    scanHeaderLines [ascii "Content-Length: 1000000000000000000000005"] {} = none ∧
    sizeLine (ascii "10000000000000005\r\nhello") 1048576 0 = .bad ∧
    Srv.sizeLine 10485760 (ascii "10000000000000005") = none ∧
    (parseContentLength (ascii "000000000000000000000005")).toOption = some 5 ∧
    scanHeaderLines [ascii "Content-Length: 000000000000000000000005"] {} =
      some { contentLength := 5, haveCL := true, isChunked := false, haveTE := false } ∧
    sizeLine (ascii "00000000000000000000005\r\nhello") 1048576 0 = .ok 5 25 ∧
    Srv.sizeLine 10485760 (ascii "00000000000000000000005") = some 5 := by
  conv in (occs := *) ascii _ => all_goals rw [ascii_ofList]
  decide +kernel

/-- **F4b (the framing decision never guesses).** `determineFraming` answers "Content-Length framing with length `n`" only if
there is NO Transfer-Encoding field, the Content-Length value is valid (F4a) with value `n`, and `n` is within the cap. -/
theorem F4_framing_sound (method : Bytes) (resp : Resp) (cap n : Nat)
    (h : determineFraming method resp cap = .ok { mode := .contentLength, contentLength := n }) :
    hdrFind resp.headers (ascii "Transfer-Encoding") = none ∧
    ∃ cl, hdrFind resp.headers (ascii "Content-Length") = some cl ∧ parseContentLength cl = .ok n ∧ n ≤ cap := by
  unfold determineFraming at h
  split at h
  · cases h
  · split at h
    · cases h
    · split at h
      · cases h
      · split at h <;> cases h
      · rename_i cl hte hcl
        cases hp : parseContentLength cl with
        | error k => rw [hp] at h; cases h
        | ok m =>
          rw [hp] at h
          simp only at h
          split at h
          · cases h
          · rename_i hle
            cases h
            exact ⟨hte, cl, hcl, hp, by omega⟩
      · cases h

/-- **F4c (Content-Length together with Transfer-Encoding is rejected)** whenever the response can have a body. -/
theorem F4_cl_and_te_rejected (method : Bytes) (resp : Resp) (cap : Nat) (te cl : Bytes)
    (hm : method ≠ ascii "CONNECT")
    (hb : ¬ (method = ascii "HEAD" ∨ Gen.Http.clientNoBodyStatuses.contains resp.status = true ∨ isInterim resp.status = true))
    (h1 : hdrFind resp.headers (ascii "Transfer-Encoding") = some te)
    (h2 : hdrFind resp.headers (ascii "Content-Length") = some cl) :
    determineFraming method resp cap = .error .clAndTe := by
  unfold determineFraming
  simp only [hm, ↓reduceIte, hb, h1, h2]

/-- **F4d (chunk sizes).** A chunk-size line is accepted only with a size within the cap (and below 2^64: an overflowing
hex token is malformed); in particular `ffffffffffffffec` is malformed under every cap below 2^64 - 20. -/
theorem F4_chunk_size_sound (buf : Bytes) (cap pos n ds : Nat) (h : sizeLine buf cap pos = .ok n ds) :
    n ≤ cap ∧ n < 2 ^ 64 := by
  unfold sizeLine at h
  split at h
  · cases h
  · simp only at h
    split at h
    · cases h
    · split at h
      · cases h
      · split at h
        · cases h
        · rename_i v hp
          split at h
          · cases h
          · split at h
            · cases h
              exact ⟨by omega, (parseFullUInt_sound 16 _ _ hp).2.2⟩
            · cases h

/-- witnesses for the rejected chunk-size shapes (cap 1 MiB): overflow, over-cap, sign, `0x`, bare LF, junk, BWS before CRLF -/
example : sizeLine (ascii "10000000000000000\r\nzz") 1048576 0 = .bad ∧ sizeLine (ascii "ffffffffffffffec\r\nzz") 1048576 0 = .bad ∧
    sizeLine (ascii "-3\r\nabc") 1048576 0 = .bad ∧ sizeLine (ascii "0x3\r\nabc") 1048576 0 = .bad ∧
    sizeLine (ascii "3\nabc") 1048576 0 = .bad ∧ sizeLine (ascii "3x\r\nabc") 1048576 0 = .bad ∧
    sizeLine (ascii "3 \r\nabc") 1048576 0 = .bad ∧ sizeLine (ascii "3 ;a\r\nabc") 1048576 0 = .ok 3 6 := by
  conv in (occs := *) ascii _ => all_goals rw [ascii_ofList]
  decide +kernel

/-! ## Server (`handleIncomingData` as repaired by F25/F26/F27) -/

open Iora.Http.Srv in
/-- **S1/S4/S5 (exact extraction).** For every well-formed request of the reference syntax - any request line without CR/LF whose
text before its first `:` (if any) is not a framing field name, arbitrary field lines around the framing field, body absent,
framed by `Content-Length`, or CHUNKED with chunk extensions and a trailer section - followed by arbitrary bytes, the extractor
cuts exactly at the end of the message and hands the request parser the header section followed by the DECODED body (chunk
framing, extensions and trailers removed). -/
theorem S1_extract_exact (r : ReqSpec) (h : r.OK) (rest : Bytes) :
    extractOne (r.render ++ rest) = .request r.raw r.render.length :=
  extract_exact r.line r.before r.after r.body h.1 h.2 rest

open Iora.Http.Srv in
/-- **S1 (pipelines, any segmentation).** A pipeline of well-formed requests (at most `MAX_BUFFER_SIZE` bytes in total), cut
into network reads in ANY way, makes `handleIncomingData` dispatch exactly those requests, in order, each as header
section + decoded body, and leaves the session open with an empty buffer. -/
theorem S1_pipeline_exact (rs : List ReqSpec) (hall : ∀ r ∈ rs, r.OK) (ss : List Bytes)
    (hss : ss.flatten = renderAll rs) (hb : (renderAll rs).length ≤ Gen.Http.serverMaxBufferSize) :
    (srvFeed {} ss).1 = rs.map (fun r => dispatch r.raw) ∧ (srvFeed {} ss).2 = { buffer := [], alive := true } :=
  pipeline_fits_exact rs hall ss hss (fits_of_total ss {} (by rw [hss]; simpa using hb))

open Iora.Http.Srv Iora.Http.Spec in
/-- **S1 (what the handler sees).** For a complete request of the reference syntax - method from the method table, ANY request
target without SP/CTL/DEL (origin-form, absolute-form `http://h:80/…`, authority-form `h:443`, queries with `:` - that the
header scan never takes the request line for a framing field is `reqLine_facts`), `HTTP/1.<minor>`, field lines incl.
exactly one non-empty `Host`, body absent / Content-Length / chunked with extensions and trailers - the extractor cuts
exactly at the end of the message, and the bytes it hands over parse to exactly: the method, the target, the header map built
by `addOrCombineHeader` over the field lines in order (last value wins, list-valued fields combine), and the decoded body. -/
theorem S1_request_exact (r : FullReq) (hrl : r.rl.WF)
    (hb : ∀ f ∈ r.before, PlainField f) (ha : ∀ f ∈ r.after, PlainField f)
    (hbody : match r.body with
      | .empty => True
      | .sized tok b => tokValue 10 tok = some b.length ∧ b.length ≤ Gen.Http.serverMaxBodySize
      | .chunked te cs l =>
        lastToken (splitOn 44 (lower te)) [] = ascii "chunked" ∧ NoCRLF te ∧ Trimmed te ∧
          (∀ c ∈ cs, c.WF Gen.Http.serverMaxBodySize) ∧ l.WF
      | .untilClose _ => False)
    (hhead : (reqHead r.rl.render r.before r.after r.body).length ≤ Gen.Http.serverMaxHeaderSize)
    (hhost : hostCount r.fields = 1) (hhv : hdrFind (reqHeaders r.fields []) (ascii "Host") ≠ some []) (rest : Bytes) :
    extractOne (r.spec.render ++ rest) = .request r.spec.raw r.spec.render.length ∧
    fromWireFormat r.spec.raw =
      .ok { method := r.rl.method, uri := r.rl.target, minor := r.rl.minor, headers := reqHeaders r.fields [],
            body := r.body.content } := by
  have hok : r.spec.OK := ⟨reqWF_of_line r.rl hrl r.before r.after r.body hb ha hbody, hhead⟩
  exact ⟨extract_exact _ _ _ _ hok.1 hok.2 rest, fromWireFormat_exact r hrl hok hhost hhv⟩

open Iora.Http.Srv in
/-- the request of the next example, which meets the hypotheses of `S1_request_exact`: absolute-form
`POST http://h:80/a?t=1:2 HTTP/1.1`, `Host: h`, `Via: x`, `Content-Length: 2`, body `hi` -/
def exampleReq : FullReq :=
  { rl := { method := 1, target := ascii "http://h:80/a?t=1:2", minor := 1 },
    before := [{ name := ascii "Host", value := ascii "h" }, { name := ascii "Via", value := ascii "x" }],
    body := .sized (ascii "2") (ascii "hi") }

open Iora.Http.Srv Iora.Http.Spec in
example : exampleReq.rl.WF ∧ hostCount exampleReq.fields = 1 ∧
    hdrFind (reqHeaders exampleReq.fields []) (ascii "Host") ≠ some [] ∧
    exampleReq.rl.render = ascii "POST http://h:80/a?t=1:2 HTTP/1.1" ∧
    (tokValue 10 (ascii "2") = some (ascii "hi").length ∧ (ascii "hi").length ≤ Gen.Http.serverMaxBodySize) := by
  unfold exampleReq
  conv in (occs := *) ascii _ => all_goals rw [ascii_ofList]
  refine ⟨⟨by decide +kernel, by decide +kernel, by decide +kernel, by decide +kernel, by decide +kernel⟩, ?_⟩
  decide +kernel

open Iora.Http.Srv Iora.Http.Spec in
/-- non-vacuity: `POST /x HTTP/1.1`, `Host: a`, `Transfer-Encoding: chunked`, chunk `3 abc`, last chunk with a trailer -/
example : ReqWF (ascii "POST /x HTTP/1.1") [{ name := ascii "Host", value := ascii "a" }] []
    (.chunked (ascii "chunked") [{ tok := ascii "3", data := ascii "abc" }] { trailers := [ascii "X-T: 1"] }) := by
  conv in (occs := *) ascii _ => all_goals rw [ascii_ofList]
  constructor
  · decide +kernel
  · decide +kernel
  · intro colon hc
    rw [show indexOf? (· == 58) _ = none by decide +kernel] at hc
    cases hc
  · intro f hf; simp only [List.mem_singleton] at hf; subst hf
    exact ⟨⟨by decide +kernel, by decide +kernel, by decide +kernel, by decide +kernel, by decide +kernel, by decide +kernel⟩,
      by decide +kernel, by decide +kernel⟩
  · intro f hf; cases hf
  · refine ⟨by decide +kernel, by decide +kernel, by decide +kernel, ?_, ⟨by decide +kernel, Or.inl rfl, ?_⟩⟩
    · intro c hc; simp only [List.mem_singleton] at hc; subst hc
      exact ⟨by decide +kernel, by decide +kernel, by decide +kernel, by decide +kernel, Or.inl rfl⟩
    · intro t ht; simp only [List.mem_singleton] at ht; subst ht; exact ⟨by decide +kernel, by decide +kernel⟩

open Iora.Http.Srv Iora.Http.Spec in
/-- non-vacuity for request lines WITH colons: absolute-form `GET http://h:80/a?t=1:2 HTTP/1.1` and authority-form
`CONNECT h:443 HTTP/1.1` satisfy `line_ok`/`line_key` (what precedes the first `:` is not a framing field name) -/
example : (∀ c ∈ ascii "GET http://h:80/a?t=1:2 HTTP/1.1", c ≠ 13 ∧ c ≠ 10) ∧
    indexOf? (· == 58) (ascii "GET http://h:80/a?t=1:2 HTTP/1.1") = some 8 ∧
    lower (trim ((ascii "GET http://h:80/a?t=1:2 HTTP/1.1").take 8)) = ascii "get http" ∧
    indexOf? (· == 58) (ascii "CONNECT h:443 HTTP/1.1") = some 9 ∧
    lower (trim ((ascii "CONNECT h:443 HTTP/1.1").take 9)) = ascii "connect h" := by
  conv in (occs := *) ascii _ => all_goals rw [ascii_ofList]
  decide +kernel

open Iora.Http.Srv in
/-- **S2a (the extractor is a stable frame parser).** For ARBITRARY buffers: once `extractOne` has answered with a request
or with "close", appending more bytes never changes that answer, and an extracted request occupies a non-empty prefix of
the buffer.  This makes it a stable frame parser (`Framing.Stable` of `Common/Framing.lean`, with guard `G = True`); it covers
Content-Length, body-less AND chunked requests. -/
theorem S2_extractor_stable (buf x : Bytes) (r : Extract) (h : extractOne buf = r) (hr : r ≠ .needMore) :
    extractOne (buf ++ x) = r ∧ ∀ raw n, r = .request raw n → 0 < n ∧ n ≤ buf.length :=
  extractOne_append buf x r h hr

open Iora.Http.Srv in
/-- **S2L (segmentation independence without a bound on the connection's total).** Instead of S2's hypothesis "the whole stream is at
most `MAX_BUFFER_SIZE`", the per-step one the code actually checks: every read, when it arrives, fits the cap
together with what the session still holds (`fits`).  Any two such segmentations of one stream - of ANY total length, e.g. a
keep-alive connection that carries gigabytes - dispatch the same requests in the same order and leave the same session. -/
theorem S2_long_segmentation_independent (ss ts : List Bytes) (h : ss.flatten = ts.flatten)
    (hs : fits {} ss) (ht : fits {} ts) :
    (srvFeed {} ss).1 = (srvFeed {} ts).1 ∧ (srvFeed {} ss).2.alive = (srvFeed {} ts).2.alive ∧
    ((srvFeed {} ss).2.alive = true → (srvFeed {} ss).2 = (srvFeed {} ts).2) := by
  have a := srvFeed_eq_feed_fits ss {} (.alive []) rfl hs
  have b := srvFeed_eq_feed_fits ts {} (.alive []) rfl ht
  rw [← Framing.segmentation_independent stableParser rfl ss ts h trivial] at b
  exact ⟨by rw [a.1, b.1], a.2.unique b.2⟩

open Iora.Http.Srv in
/-- S2L's hypothesis is weaker than S2's: a stream that fits the cap as a whole fits it read by read -/
theorem S2_fits_of_total (ss : List Bytes) (hb : ss.flatten.length ≤ Gen.Http.serverMaxBufferSize) : fits {} ss :=
  fits_of_total ss {} (by simpa using hb)

open Iora.Http.Srv in
/-- **S2 (segmentation independence of the I/O thread's extraction).** Any two segmentations of one byte stream of at most
`MAX_BUFFER_SIZE` bytes make `handleIncomingData` dispatch exactly the same requests in the same order, and leave the session
equally open/closed BY THE I/O THREAD (limit exceeded, invalid length information, malformed chunked body) and, if open, with
the same buffered remainder.  (Instance of `Framing.segmentation_independent`.)
Scope: `srvFeed` models the closes `handleIncomingData` itself performs.  The close a WORKER performs after it answered a
request that failed to parse (`processHttpRequest`, 4xx + close - C16) is asynchronous to the extraction loop: requests
pipelined behind a rejected one are dispatched or not depending on when that close lands, so for streams containing a
parser-rejected request only the events up to that request are segmentation-independent.  (The driver erases the session
after an op in which a worker closed it; `srvFeed {} [bad, good]` keeps `alive = true`.) -/
theorem S2_segmentation_independent (ss ts : List Bytes) (h : ss.flatten = ts.flatten)
    (hb : ss.flatten.length ≤ Gen.Http.serverMaxBufferSize) :
    (srvFeed {} ss).1 = (srvFeed {} ts).1 ∧ (srvFeed {} ss).2.alive = (srvFeed {} ts).2.alive ∧
    ((srvFeed {} ss).2.alive = true → (srvFeed {} ss).2 = (srvFeed {} ts).2) :=
  S2_long_segmentation_independent ss ts h (S2_fits_of_total ss hb) (S2_fits_of_total ts (h ▸ hb))

open Iora.Http.Srv in
/-- **S2b.** Under S2's hypothesis, what is dispatched is what one pass over the whole stream yields. -/
theorem S2_feed_eq_whole (ss : List Bytes) (hb : ss.flatten.length ≤ Gen.Http.serverMaxBufferSize) :
    (srvFeed {} ss).1 = (Framing.drain stableParser ss.flatten).1.filterMap id := by
  rw [(srvFeed_eq_feed_fits ss {} (.alive []) rfl (S2_fits_of_total ss hb)).1, feed_stableParser]

open Iora.Http.Srv in
/-- **S3b (the header-size cap is per request, not per pass).** For EVERY pipeline of well-formed requests each of whose OWN
header section is at most `MAX_HEADER_SIZE` bytes - with no bound whatever on where in the pipeline a request starts: the only
other hypothesis is that the whole pipeline fits the buffer cap - and for every segmentation of it (in particular: all of it
in ONE read, so that later requests are extracted in the same pass behind more than 64 KiB of earlier bytes), every request
is extracted and dispatched, in order, and the connection stays open with an empty buffer.  (This is `S1_pipeline_exact`
with its hypotheses spelled out; the example below instantiates it with a 70 000-byte first request.) -/
theorem S3b_header_cap_per_request (rs : List ReqSpec)
    (hwf : ∀ r ∈ rs, ReqWF r.line r.before r.after r.body)
    (hhdr : ∀ r ∈ rs, (reqHead r.line r.before r.after r.body).length ≤ Gen.Http.serverMaxHeaderSize)
    (ss : List Bytes) (hss : ss.flatten = renderAll rs) (hb : (renderAll rs).length ≤ Gen.Http.serverMaxBufferSize) :
    (srvFeed {} ss).1 = rs.map (fun r => dispatch r.raw) ∧ (srvFeed {} ss).2 = { buffer := [], alive := true } :=
  S1_pipeline_exact rs (fun r hr => ⟨hwf r hr, hhdr r hr⟩) ss hss hb

def bigBody : Bytes := List.replicate 70000 120
theorem bigBody_length : bigBody.length = 70000 := List.length_replicate ..
/-- `POST /big` with the 70 000-byte `bigBody` under `Content-Length` -/
def bigReq : Srv.ReqSpec :=
  { line := ascii "POST /big HTTP/1.1", before := [{ name := ascii "Host", value := ascii "a" }],
    body := .sized (ascii "70000") bigBody }
/-- the `GET /two` pipelined behind it -/
def followReq : Srv.ReqSpec :=
  { line := ascii "GET /two HTTP/1.1", before := [{ name := ascii "Host", value := ascii "a" }], body := .empty }

open Iora.Http.Srv Iora.Http.Spec in
/-- non-vacuity beyond 64 KiB: the first request alone is longer than `MAX_HEADER_SIZE`, both requests arrive in ONE read (one
extraction pass), and both are dispatched - the second one's header terminator lies at absolute offset > 65536 of that read -/
example : bigReq.render.length > Gen.Http.serverMaxHeaderSize ∧
    (srvFeed {} [renderAll [bigReq, followReq]]).1 = [dispatch bigReq.raw, dispatch followReq.raw] ∧
    (srvFeed {} [renderAll [bigReq, followReq]]).2 = { buffer := [], alive := true } := by
  have hostOK : PlainField { name := ascii "Host", value := ascii "a" } :=
    ⟨⟨by decide +kernel, by decide +kernel, by decide +kernel, by decide +kernel, by decide +kernel, by decide +kernel⟩, by decide +kernel, by decide +kernel⟩
  have w1 : ReqWF bigReq.line bigReq.before bigReq.after bigReq.body :=
    { line_ne := by decide +kernel, line_ok := by decide +kernel,
      line_key := by
        intro colon hc
        have : indexOf? (· == 58) bigReq.line = none := by decide +kernel
        rw [this] at hc; cases hc
      before_ok := by intro f hf; simp only [bigReq, List.mem_singleton] at hf; subst hf; exact hostOK
      after_ok := by intro f hf; cases hf
      body_ok := by
        show tokValue 10 (ascii "70000") = some bigBody.length ∧ bigBody.length ≤ Gen.Http.serverMaxBodySize
        rw [bigBody_length]; decide +kernel }
  have w2 : ReqWF followReq.line followReq.before followReq.after followReq.body :=
    { line_ne := by decide +kernel, line_ok := by decide +kernel,
      line_key := by
        intro colon hc
        have : indexOf? (· == 58) followReq.line = none := by decide +kernel
        rw [this] at hc; cases hc
      before_ok := by intro f hf; simp only [followReq, List.mem_singleton] at hf; subst hf; exact hostOK
      after_ok := by intro f hf; cases hf
      body_ok := trivial }
  have h1 : (reqHead bigReq.line bigReq.before bigReq.after bigReq.body).length = 50 := by decide +kernel
  have h2 : (reqHead followReq.line followReq.before followReq.after followReq.body).length = 26 := by decide +kernel
  have hw1 : bigReq.body.wire = bigBody := rfl
  have hw2 : followReq.body.wire = [] := rfl
  have hc : crlf2.length = 4 := rfl
  have hl1 : bigReq.render.length = 50 + 4 + 70000 := by
    simp only [ReqSpec.render, reqRender, List.length_append, h1, hw1, bigBody_length, hc]
  have hl2 : followReq.render.length = 26 + 4 + 0 := by
    simp only [ReqSpec.render, reqRender, List.length_append, h2, hw2, List.length_nil, hc]
  have hlen : (renderAll [bigReq, followReq]).length = 50 + 4 + 70000 + (26 + 4 + 0) := by
    simp only [renderAll, List.map_cons, List.map_nil, List.flatten_cons, List.flatten_nil, List.append_nil,
      List.length_append, hl1, hl2]
  refine ⟨?_, ?_⟩
  · rw [hl1]; decide +kernel
  · have := S3b_header_cap_per_request [bigReq, followReq]
      (by intro r hr; simp only [List.mem_cons, List.not_mem_nil, or_false] at hr; rcases hr with rfl | rfl; exact w1; exact w2)
      (by
        intro r hr; simp only [List.mem_cons, List.not_mem_nil, or_false] at hr
        rcases hr with rfl | rfl
        · rw [h1]; decide +kernel
        · rw [h2]; decide +kernel)
      [renderAll [bigReq, followReq]] (by simp) (by rw [hlen]; decide +kernel)
    simpa using this

/-- **Gen conformance (extraction loop).** The statement skeleton of `handleIncomingData`'s pipelining loop regenerated from the
working tree is the one the model was written from: the header terminator is searched from offset 0 of a buffer that is trimmed
after every request, so `headerEnd`, the header-size limit, the chunk-scan start and the request end are all relative to the
start of the CURRENT request (`extractOne`/`drainLoop`).  A loop that walks the buffer with a running offset, or any other
change to what an offset is relative to, makes this fail to build. -/
theorem gen_extract_loop : Gen.Http.serverExtractLoop = Srv.extractLoopModelled := rfl

/-- **Gen conformance (length parsers).** The statement skeletons of the four length conversions regenerated from the working
tree - the server's Content-Length (all-digits test, `std::stoull`, `catch (...)`, limit), the client's `parseFullUInt`
(`std::from_chars`, `errc`, end pointer), `parseContentLength`, the client's chunk size (`parseFullUInt` + cap) and the server's
chunk-size digit loop (limit check right after every shift) - are the ones the models' number parsers were written from.
Replacing a conversion by an unchecked accumulator loop (which computes the value modulo 2^64) makes this fail to build. -/
theorem gen_number_parsers : Gen.Http.numberParsers = Srv.numberParsersModelled := rfl

open Iora.Http.Srv in
/-- **S3a (bounded buffer).** The session buffer never exceeds `MAX_BUFFER_SIZE`; a read that would exceed it closes the
connection without being buffered. -/
theorem S3_buffer_bounded (s : Sess) (seg : Bytes) (h0 : s.buffer.length ≤ Gen.Http.serverMaxBufferSize) :
    (handleIncomingData s seg).1.buffer.length ≤ Gen.Http.serverMaxBufferSize ∧
    (s.alive = true → s.buffer.length + seg.length > Gen.Http.serverMaxBufferSize →
      handleIncomingData s seg = ({ s with alive := false }, [], true)) := by
  refine ⟨?_, hid_over s seg⟩
  by_cases ha : s.alive = true
  · by_cases hlim : s.buffer.length + seg.length > Gen.Http.serverMaxBufferSize
    · rw [hid_over s seg ha hlim]; exact h0
    · exact Nat.le_trans (hid_buffer_le s seg) (Nat.not_lt.mp hlim)
  · rw [hid_dead s seg (by simpa using ha)]; exact h0

open Iora.Http.Srv in
/-- **S3 (header and body limits).** A request is only ever dispatched if its header section is at most `MAX_HEADER_SIZE`
bytes and its declared Content-Length at most `MAX_BODY_SIZE`; a longer header section closes the connection. -/
theorem S3_limits (buf raw : Bytes) (n : Nat) (h : extractOne buf = .request raw n) :
    ∃ he hs, find crlf2 buf 0 = some he ∧ he ≤ Gen.Http.serverMaxHeaderSize ∧
      scanHeaderLines (getLines (buf.take he)) {} = some hs ∧ hs.contentLength ≤ Gen.Http.serverMaxBodySize := by
  obtain ⟨he, hs, hf, hle, hsc, _, _⟩ := extractOne_request buf raw n h
  exact ⟨he, hs, hf, hle, hsc, (scanHeaderLines_fresh hsc).cl_le⟩

open Iora.Http.Srv in
/-- **S3 (the close).** A header section longer than `MAX_HEADER_SIZE` closes the connection. -/
theorem S3_header_too_long (buf : Bytes) (he : Nat) (hf : find crlf2 buf 0 = some he)
    (h : he > Gen.Http.serverMaxHeaderSize) : extractOne buf = .close :=
  extractOne_rejected hf (.inl h)

open Iora.Http.Srv in
/-- **S6 (invalid length information is rejected, never framed by guesswork).** If a request is dispatched then
(a) EVERY `Content-Length` line of its header section carries a full decimal token (`1*DIGIT`, value `< 2^64`) and all of
them denote the same number - the one used for framing;
(b) if the header section has any `Transfer-Encoding` line, the FINAL coding of the last one is exactly `chunked` (FC15a:
`notchunkedy`, `gzip`, `chunked, gzip` close the connection; they are framed neither as chunked nor as body-less) and
(c) then there is no Content-Length at all.
(Contrapositive: `12abc`, `+5`, `-1`, an overflowing value, two differing values, CL together with TE, or a transfer coding
the server cannot decode close the connection.) -/
theorem S6_lengths_valid (buf raw : Bytes) (n : Nat) (h : extractOne buf = .request raw n) :
    ∃ he hs, find crlf2 buf 0 = some he ∧ scanHeaderLines (getLines (buf.take he)) {} = some hs ∧
      (∀ l ∈ getLines (buf.take he), ∀ v, clValue? l = some v → parseFullUInt 10 v = some hs.contentLength) ∧
      (∀ t, lastTE (getLines (buf.take he)) none = some t → t = ascii "chunked" ∧ hs.haveCL = false) ∧
      (lastTE (getLines (buf.take he)) none = none → hs.isChunked = false) := by
  obtain ⟨he, hs, hf, _, hsc, hte, hboth⟩ := extractOne_request buf raw n h
  have k := scanHeaderLines_fresh hsc
  refine ⟨he, hs, hf, hsc, fun l hl v hv => (k.cl_lines l hl v hv).2, ?_, k.te_none⟩
  intro t ht
  -- a Transfer-Encoding line was seen, so the request was chunked, so its final coding is `chunked` and no Content-Length came with it
  have hch : hs.isChunked = true := Decidable.not_not.mp fun hc => hte ⟨by rw [k.te_seen, ht]; rfl, hc⟩
  refine ⟨?_, ?_⟩
  · have := k.te_chunked t ht
    rw [hch] at this
    simpa using this.symm
  · cases hcl : hs.haveCL with
    | false => rfl
    | true => exact absurd ⟨hch, hcl⟩ hboth

open Iora.Http.Srv in
/-- **S6b (chunk sizes, server).** A chunk-size line is accepted only with a size of at most `MAX_BODY_SIZE`: the digit loop
compares every prefix value with the limit before shifting in the next digit, so a long digit run can neither wrap the
accumulator (`10000000000000000`) nor come back as a small number; with S7 this answers F26. -/
theorem S6b_chunk_size_sound (maxBody : Nat) (line : Bytes) (n : Nat) (h : sizeLine maxBody line = some n) : n ≤ maxBody := by
  unfold Srv.sizeLine at h
  cases hs : sizeDigits maxBody line 0 0 with
  | none => rw [hs] at h; cases h
  | some t =>
    obtain ⟨size, digits, rest⟩ := t
    rw [hs] at h
    simp only at h
    have := sizeDigits_le maxBody line 0 0 size digits rest hs (Nat.zero_le _)
    split at h
    · cases h
    · split at h
      · cases h; exact this
      · cases h

open Iora.Http.Srv in
/-- witnesses (limit 10 MiB): 17 hex digits, `ffffffffffffffec`, a sign, `0x`, junk, BWS before CRLF are malformed -/
example : sizeLine 10485760 (ascii "10000000000000000") = none ∧ sizeLine 10485760 (ascii "ffffffffffffffec") = none ∧
    sizeLine 10485760 (ascii "-14") = none ∧ sizeLine 10485760 (ascii "0x3") = none ∧ sizeLine 10485760 (ascii "3x") = none ∧
    sizeLine 10485760 (ascii "3 ") = none ∧ sizeLine 10485760 (ascii "a00001") = none ∧
    sizeLine 10485760 (ascii "A00000 ;x") = some 10485760 := by
  conv in (occs := *) ascii _ => all_goals rw [ascii_ofList]
  decide +kernel

open Iora.Http.Srv in
/-- witnesses for the Transfer-Encoding rule: only a final coding that is exactly `chunked` is framed as chunked -/
example : teFinal? (ascii "Transfer-Encoding: notchunkedy") = some (ascii "notchunkedy") ∧
    teFinal? (ascii "transfer-encoding: gzip, Chunked ") = some (ascii "chunked") ∧
    teFinal? (ascii "Transfer-Encoding: chunked, gzip") = some (ascii "gzip") := by
  conv in (occs := *) ascii _ => all_goals rw [ascii_ofList]
  decide +kernel

/-- `parseFullUInt 10` accepts exactly non-empty all-digit tokens below 2^64: witnesses for the rejected shapes -/
example : parseFullUInt 10 (ascii "12abc") = none ∧ parseFullUInt 10 (ascii "+5") = none ∧
    parseFullUInt 10 (ascii "-1") = none ∧ parseFullUInt 10 (ascii " 5") = none ∧ parseFullUInt 10 [] = none ∧
    parseFullUInt 10 (ascii "18446744073709551616") = none ∧
    parseFullUInt 10 (ascii "18446744073709551615") = some 18446744073709551615 := by
  conv in (occs := *) ascii _ => all_goals rw [ascii_ofList]
  decide +kernel

open Iora.Http.Srv in
/-- **S7 (the chunk scan terminates on arbitrary bytes).** `chunkScan` is a total function whose every continuing
iteration moves `pos` strictly forward, bounded by the buffer length (measure `data.length - pos`). -/
theorem S7_chunk_scan_progress (maxBody : Nat) (data : Bytes) (pos p : Nat) (c : Bytes)
    (h : scanStep maxBody data pos = .next p c) : pos < p ∧ p ≤ data.length :=
  ⟨scanStep_next_lt maxBody data pos p c h, scanStep_next_le h⟩

/-- the arithmetic of F26: in `size_t` the 18-byte line `ffffffffffffffec\r\n` at offset `s` makes
`pos = s + 18; pos += chunkSize + 2` come back to `s` -/
theorem F26_original_arithmetic_wraps (s : UInt64) : s + 18 + ((0xffffffffffffffec : UInt64) + 2) = s := by
  have : (18 : UInt64) + ((0xffffffffffffffec : UInt64) + 2) = 0 := by decide
  rw [UInt64.add_assoc, this, UInt64.add_zero]

/-! ## Server, connection level -/

open Iora.Http.Srv in
/-- **S8a (nothing after a terminal close - FC15b).** Once `handleIncomingData` has closed the connection from the I/O thread
(a read that would exceed `MAX_BUFFER_SIZE`, a header section over `MAX_HEADER_SIZE`, invalid length information, a malformed
chunked body), NO later read dispatches anything or changes the session, whatever it contains and however many follow - the
session is forgotten at the moment of the close (`rejectSession`), not when the transport's queued close lands. -/
theorem S8_nothing_after_io_close (s : Sess) (seg : Bytes) (ss : List Bytes)
    (h : (handleIncomingData s seg).2.2 = true) :
    srvFeed (handleIncomingData s seg).1 ss = ([], (handleIncomingData s seg).1) := by
  apply srvFeed_dead
  by_cases ha : s.alive = true
  · by_cases hlim : s.buffer.length + seg.length > Gen.Http.serverMaxBufferSize
    · rw [hid_over s seg ha hlim]
    · rw [hid_pass s seg ha hlim] at h ⊢
      simpa using h
  · rw [hid_dead s seg (by simpa using ha)] at h; cases h

open Iora.Http.Srv in
/-- **S8 (what is dispatched is the greedy framing of a CONTIGUOUS PREFIX of the input - every segmentation, no cap
hypothesis).** For EVERY list of reads `ss` - including reads that trip the buffer cap, streams of any total length, invalid
and hostile streams - there is a `j` such that the requests `handleIncomingData` dispatches are exactly, in order, the frames
the generic greedy receive loop (`Framing.drain`: cut a frame at the front, drop exactly its bytes, repeat) cuts out of the
concatenation of the first `j` reads, and that concatenation is a prefix of the whole input.  `j` is the number of reads up to
the one that made the I/O thread close, all of them if none did.  In particular no request is ever framed across a dropped
read (FC15b: a read dropped for the cap, followed by a smaller read that is appended behind the old buffer). -/
theorem S8_dispatch_is_prefix_framing (ss : List Bytes) :
    ∃ j, j ≤ ss.length ∧
      (srvFeed {} ss).1 = (Framing.drain stableParser (ss.take j).flatten).1.filterMap id ∧
      (ss.take j).flatten ++ (ss.drop j).flatten = ss.flatten := by
  obtain ⟨j, hj, he, _⟩ := srvFeed_feed ss {} (.alive []) rfl
  refine ⟨j, hj, ?_, by rw [← List.flatten_append, List.take_append_drop]⟩
  rw [he, feed_stableParser]

open Iora.Http.Srv in
/-- **S8c (every dispatched request is read off a CONTIGUOUS range of the concatenated input).** For EVERY list of reads `ss`
(any segmentation, any total length, reads that trip a cap, hostile bytes) and every request `raw` handed to
`processHttpRequest`: there is an offset `off` of the concatenated input `ss.flatten` at which the extractor, run on the TRUE
stream from there on, yields exactly `raw`, consuming the `n` bytes `[off, off + n)` - no byte of a dropped read is skipped and
no request is assembled from bytes that were not adjacent on the wire. -/
theorem S8_dispatched_is_contiguous_slice (ss : List Bytes) (raw : Bytes) (h : raw ∈ (srvFeedRaw {} ss).1) :
    ∃ off n, off + n ≤ ss.flatten.length ∧ extractOne (ss.flatten.drop off) = .request raw n := by
  obtain ⟨o', hc⟩ := srvFeedRaw_chain ss {} [] 0 (Nat.le_refl _) (fun _ => rfl)
  simpa using chainTo_mem _ _ _ _ hc raw h

open Iora.Http.Srv in
/-- … and `srvFeedRaw` is `srvFeed` before `dispatch`: S8c speaks about everything `handleIncomingData` dispatches -/
theorem S8_raw_view (ss : List Bytes) : (srvFeed {} ss).1 = (srvFeedRaw {} ss).1.map dispatch := by
  rw [srvFeed_raw]

open Iora.Http.Srv in
/-- witness for S8a/S8 with a read that trips the cap: a session that holds `MAX_BUFFER_SIZE` bytes gets a 1-byte read - the
read is dropped, the session is gone, and whatever reads follow (e.g. a complete request) dispatch nothing -/
example (b : Bytes) (hb : b.length = Gen.Http.serverMaxBufferSize) (ss : List Bytes) :
    srvFeed { buffer := b, alive := true } ([98] :: ss) = ([], { buffer := b, alive := false }) := by
  simp only [srvFeed, hid_over { buffer := b, alive := true } [98] rfl (by simp [hb])]
  rw [srvFeed_dead ss _ rfl]
  rfl

open Iora.Http.Srv in
/-- **S1K (long keep-alive connections are framed exactly).** ANY pipeline of well-formed requests, each at most `R` bytes on
the wire, delivered in reads of at most `L` bytes with `R + L ≤ MAX_BUFFER_SIZE` - NO bound on the number of requests or on the
total length of the connection - is dispatched completely, in order, each request as header section + decoded body, and the
connection stays open with an empty buffer.  (With the engine's 64 KiB reads: every request up to 960 KiB.) -/
theorem S1_keepalive_exact (rs : List ReqSpec) (R L : Nat) (hall : ∀ r ∈ rs, r.OK ∧ r.render.length ≤ R)
    (ss : List Bytes) (hseg : ∀ seg ∈ ss, seg.length ≤ L) (hRL : R + L ≤ Gen.Http.serverMaxBufferSize)
    (hss : ss.flatten = renderAll rs) :
    (srvFeed {} ss).1 = rs.map (fun r => dispatch r.raw) ∧ (srvFeed {} ss).2 = { buffer := [], alive := true } :=
  pipeline_fits_exact rs (fun r hr => (hall r hr).1) ss hss
    (keepalive_fits ss rs [] [] R L hall hseg hRL (Or.inl rfl) (by simpa using hss))

/-- the numbers of S1K for the engine's read size: 960 KiB requests in 64 KiB reads -/
example : 983040 + 65536 ≤ Gen.Http.serverMaxBufferSize := by decide

open Iora.Http.Srv in
/-- **S9a (one pass: the pool decides where a request goes, never what is extracted).** For every session state, read and
number of free queue slots: the requests `handleIncomingData` cuts out of the buffer in that call are the same - accepted
ones are queued, refused ones are answered 503, and the extraction loop continues over its local copy either way. -/
theorem S9_pass_extraction_independent_of_pool (c : Conn) (seg : Bytes) (slots : Nat) :
    extracted (connData c seg slots).2.1 = (ioStep c.sess seg).2.1 :=
  connData_extracted c seg slots

open Iora.Http.Srv in
/-- **S9 (pool refusals, worker schedule and the moment a close lands never change the framing).** For EVERY interleaving of
reads (`data seg slots`, with an arbitrary number of free queue slots each time), worker runs (`work`) and the engine's close
callback (`closed`): the requests the I/O thread extracts (handed to the pool or answered 503), in order, are exactly what the
I/O thread ALONE extracts from the first `j` reads, for some `j`.  The oracles decide only where the connection stops; the
bytes before that point are framed as if there were no pool and no workers (and by S8 that framing is the greedy framing of a
contiguous prefix of the input). -/
theorem S9_extraction_oracle_independent (ops : List COp) :
    ∃ j, j ≤ (segsOf ops).length ∧
      extracted (crun {} ops).1 = (srvFeedRaw {} ((segsOf ops).take j)).1 ∧
      (extracted (crun {} ops).1).map dispatch = (srvFeed {} ((segsOf ops).take j)).1 := by
  obtain ⟨j, hj, he⟩ := crun_extracted ops {}
  exact ⟨j, hj, he, by rw [he, srvFeed_raw]⟩

open Iora.Http.Srv in
/-- **S9b (workers see every accepted request once, in acceptance order).** At any point of any interleaving: what the workers
have handled so far, followed by what is still queued, is `processHttpRequest` applied to the accepted requests in order. -/
theorem S9_workers_fifo (ops : List COp) :
    workerEvs (crun {} ops).1 ++ (crun {} ops).2.pending.map dispatch = (accepted (crun {} ops).1).map dispatch := by
  simpa using crun_workers ops {}

open Iora.Http.Srv in
/-- with enough free slots nothing is refused and the session is exactly the I/O thread's -/
theorem S9_no_refusal (c : Conn) (seg : Bytes) (slots : Nat) (h : (ioStep c.sess seg).2.1.length ≤ slots) :
    (connData c seg slots).1.sess = (ioStep c.sess seg).1 ∧
    (connData c seg slots).1.pending = c.pending ++ (ioStep c.sess seg).2.1 := by
  obtain ⟨_, b, cc⟩ := route_all_accepted (ioStep c.sess seg).2.1 slots h
  simp [connData, b, cc]

open Iora.Http.Srv in
/-- non-vacuity of S9: a read with two requests and ONE free slot - the first is queued, the second refused (503), both are
extracted; the refusal erases the session, the next read is ignored; the worker then handles the queued one -/
example :
    let g := ascii "GET / HTTP/1.1\r\nHost: a\r\n\r\n"
    let r := crun {} [.data (g ++ g) 1, .data g 5, .work]
    extracted r.1 = [g, g] ∧ accepted r.1 = [g] ∧ r.2.sess.alive = false ∧ (workerEvs r.1).length = 1 := by
  repeat rw [ascii_ofList]
  decide +kernel

/-- **Gen conformance (terminal closes).** Every close `handleIncomingData` performs goes through `rejectSession`, and
`rejectSession` erases the session under `_sessionMutex` before it asks the transport to close - what `ioStep`/`handleIncomingData`
(`alive := false` at the moment of the close) were written from.  A plain `closeSession(sid)` on any of these paths makes this
fail to build. -/
theorem gen_io_close : Gen.Http.serverIoClose = Srv.ioCloseModelled := rfl

/-- **Gen conformance (case folding).** `handleIncomingData` folds field names and transfer codings with an ASCII-only map
(`asciiLower`; the model's `lower`), not with `::tolower` applied to plain `char` (undefined for bytes ≥ 0x80 where `char` is
signed, and locale dependent) - FC15c. -/
theorem gen_case_fold : Gen.Http.serverCaseFold = "ascii" := rfl

/-- **Gen conformance (query conversion).** The statements of `processHttpRequest` that fill `req.params` are the ones
`Srv.queryParams` was written from (first `?`, pieces cut at `&`, first `=` splits, no `=` is skipped, assignment = last wins). -/
theorem gen_query_params : Gen.Http.serverQueryParams = Srv.queryParamsModelled := rfl

/-- **Gen conformance (client header store).** `parseHeaderBlock` ASSIGNS a field line to `resp.headers[name]` (the last line
of a repeated field wins - in particular the framing decision reads the LAST `Transfer-Encoding` line) and combines only
repeated `Connection` lines - what `hdrAdd`/`parseHeaderBlock` of the client model were written from.  `emplace` (first line
wins) or any other store makes this fail to build. -/
theorem gen_client_header_store : Gen.Http.clientHeaderStore =
    ["auto prevConnection = ciEquals(name, \"Connection\") ? resp.headers.find(name) : resp.headers.end()",
     "if (prevConnection != resp.headers.end())", "prevConnection->second += \", \" + value",
     "resp.headers[name] = value"] := rfl

/-- **Gen conformance (whitespace before the colon).** `HttpRequest::fromWireFormat` answers 400 to a field line with SP/HTAB
between the field name and the colon (RFC 9112 §5.1) BEFORE it trims the name - what `parseReqLines`/`nameEndsWithOWS` were
written from (FC15d: `Content-Length : 5` is not to be read as Content-Length). -/
theorem gen_field_name_ws : Gen.Http.requestRejectsWsBeforeColon = true := rfl

open Iora.Http.Srv in
/-- **S6c (no whitespace between field name and colon).** A request any of whose field lines has SP/HTAB right before its first
colon is never handed to a handler: the request parser answers 400 (and the worker closes). -/
theorem S6c_ws_before_colon_rejected (before : List Bytes) (line : Bytes) (rest : List Bytes) (h : Headers) (n colon : Nat)
    (hb : ∃ h' n', parseReqLines before h n = .ok (h', n') ∧ ∀ tail, parseReqLines (before ++ tail) h n = parseReqLines tail h' n')
    (h0 : ∀ c, line.head? = some c → c ≠ 32 ∧ c ≠ 9) (hne : line ≠ [])
    (hc : indexOf? (· == 58) line = some colon) (hw : nameEndsWithOWS (line.take colon) = true) :
    parseReqLines (before ++ line :: rest) h n = .error 400 := by
  obtain ⟨h', n', _, hcont⟩ := hb
  rw [hcont]
  cases hl : line with
  | nil => exact absurd hl hne
  | cons c0 tl =>
    rw [hl] at hc hw h0
    have := h0 c0 rfl
    unfold parseReqLines
    simp [this.1, this.2, hc, hw]

open Iora.Http.Srv in
/-- witnesses: `Content-Length : 5`, `Content-Length<HTAB>: 5`, `Host : a`, `Transfer-Encoding : chunked` are 400 -/
example : dispatch (ascii "POST /x HTTP/1.1\r\nHost: a\r\nContent-Length : 5\r\n\r\nhello") = .rejected 400 ∧
    dispatch (ascii "POST /x HTTP/1.1\r\nHost: a\r\nContent-Length\t: 5\r\n\r\nhello") = .rejected 400 ∧
    dispatch (ascii "GET /x HTTP/1.1\r\nHost : a\r\n\r\n") = .rejected 400 ∧
    dispatch (ascii "POST /x HTTP/1.1\r\nHost: a\r\nTransfer-Encoding : chunked\r\n\r\nhello") = .rejected 400 ∧
    (match dispatch (ascii "GET /x HTTP/1.1\r\nHost: a\r\nX: y z : w\r\n\r\n") with | .handled _ _ => true | _ => false) = true := by
  conv in (occs := *) ascii _ => all_goals rw [ascii_ofList]
  decide +kernel

open Iora.Http.Srv in
/-- **the request parser's error statuses are exactly the ones the source throws** (`Gen.Http.requestErrorStatuses`, collected by
the translator from every `HttpRequestError(status, …)` of `fromWireFormat` / `parseRequestLine` / `parseMethod`): whatever bytes
the extractor hands over, a rejected request is answered with one of these statuses (or the generic 500 of a non-HTTP
exception, which cannot occur after extraction). -/
theorem S6d_reject_status (data : Bytes) (s : Nat) (h : fromWireFormat data = .error s) :
    s = 500 ∨ s ∈ Gen.Http.requestErrorStatuses :=
  (fromWireFormat_status data s h).imp id fun ht => by rcases ht with rfl | rfl | rfl | rfl <;> decide

open Iora.Http.Srv in
/-- 400, 501 and 505 are reachable; 414 takes a target over `Gen.Http.maxRequestTargetSize` (the lockstep `server-reach` family
drives the real parser through the same inputs) -/
example : dispatch (ascii "GET /x HTTP/1.1\r\n\r\n") = .rejected 400 ∧
    dispatch (ascii "BREW /x HTTP/1.1\r\nHost: a\r\n\r\n") = .rejected 501 ∧
    dispatch (ascii "GET /x HTTP/2.0\r\nHost: a\r\n\r\n") = .rejected 505 := by
  conv in (occs := *) ascii _ => all_goals rw [ascii_ofList]
  decide +kernel

open Iora.Http.Srv in
/-- `req.params` witnesses: last value wins, a piece without `=` is skipped, the first `=` splits, nothing is decoded -/
example : queryParams (ascii "/a?x=1&y=2&x=3&z") = [(ascii "x", ascii "3"), (ascii "y", ascii "2")] ∧
    queryParams (ascii "/a?t=1=2&&=v&k=") = [(ascii "t", ascii "1=2"), ([], ascii "v"), (ascii "k", [])] ∧
    queryParams (ascii "/a") = [] ∧ queryParams (ascii "/a?") = [] ∧
    queryParams (ascii "/a?x=%20+?&y") = [(ascii "x", ascii "%20+?")] := by
  conv in (occs := *) ascii _ => all_goals rw [ascii_ofList]
  decide +kernel

/-! ## Server with the upgrade hold (FC18f): what follows an Upgrade request is not framed as HTTP

`handleIncomingData` with the upgrade hold of FC18f is `Srv.connDataU` (`Model/HttpServerConn.lean`).  `handleIncomingData`/`srvFeed`/`ioStep`/
`connData`/`crun` of the sections above are that function for passes in which no Upgrade request is extracted
(`U0_pass_without_upgrade_is_http_only`); the statements below hold for EVERY run of the function as it is. -/

open Iora.Http.Srv in
/-- **S8U (what is extracted is the greedy framing of a contiguous prefix of the TRUE stream - every schedule, every oracle).**
For EVERY interleaving of reads (any segmentation, any total length, reads that trip the cap, arbitrary free queue slots),
worker runs, close callbacks - and therefore every way upgrade holds are set and released: the requests the I/O thread cuts out
of the stream, in order, are a greedy chain of the concatenated input from offset 0: the first is what the extractor yields at
offset 0, each next one is what it yields right behind the previous one, up to some offset `o'`.  Nothing is skipped, nothing
is framed twice, no request is assembled across a dropped read, and bytes the server never frames (behind a close, behind an
Upgrade request whose hold is never released) are a SUFFIX of the input. -/
theorem S8U_extraction_is_greedy_chain (ops : List COp) :
    ∃ o', chainTo (segsOf ops).flatten 0 (extracted (crunU {} ops).1) o' := by
  have := crunU_chain ops {} [] 0 (Nat.le_refl _) (fun _ => rfl)
  simpa using this

open Iora.Http.Srv in
/-- **U1 (the hold).** While an Upgrade request of the session is being processed (`_upgradePending`), a read is never scanned:
nothing is extracted, nothing is dispatched. -/
theorem U1_hold_extracts_nothing (c : ConnU) (seg : Bytes) (slots : Nat) (h : c.hold = true) :
    extracted (connDataU c seg slots).2.1 = [] := by
  by_cases ha : c.sess.alive = true
  · by_cases hlim : c.sess.buffer.length + seg.length > Gen.Http.serverMaxBufferSize
    · rw [connDataU_over c seg slots ha hlim]; rfl
    · rw [connDataU_held c seg slots h ha hlim]; rfl
  · rw [connDataU_dead c seg slots (by simpa using ha)]; rfl

open Iora.Http.Srv in
/-- **U1b (the hold is bounded and keeps arrival order).** A held read is appended behind what is already stored - unless it would
exceed `MAX_BUFFER_SIZE`: then the read is dropped, the session is forgotten and closed (`rejectSession`). -/
theorem U1_hold_appends_or_rejects (c : ConnU) (seg : Bytes) (slots : Nat) (h : c.hold = true) (ha : c.sess.alive = true) :
    (c.sess.buffer.length + seg.length ≤ Gen.Http.serverMaxBufferSize →
      (connDataU c seg slots).1.sess = { buffer := c.sess.buffer ++ seg, alive := true } ∧ (connDataU c seg slots).1.hold = true) ∧
    (c.sess.buffer.length + seg.length > Gen.Http.serverMaxBufferSize →
      (connDataU c seg slots).1.sess.alive = false ∧ (connDataU c seg slots).2.1 = [.ioClose]) := by
  constructor
  · intro hle
    rw [connDataU_held c seg slots h ha (by omega)]
    exact ⟨by simp [ha], h⟩
  · intro hgt
    rw [connDataU_over c seg slots ha hgt]
    exact ⟨rfl, rfl⟩

open Iora.Http.Srv in
/-- **U2 (the request loop stops behind an Upgrade request).** If the request at the front of the buffer carries an Upgrade
field, the pass extracts exactly that request and leaves EVERYTHING behind it in the buffer, unscanned - even complete
requests, even bytes containing CR LF CR LF. -/
theorem U2_pass_stops_behind_upgrade (f : Nat) (buf raw : Bytes) (n : Nat) (he : extractOne buf = .request raw n)
    (hu : hasUpgrade buf = true) : drainRawU (f + 1) buf = ([raw], false, buf.drop n, true) := by
  have hn0 : n ≠ 0 := by have := (extractOne_request_le he).1; omega
  simp [drainRawU, he, hn0, hu]

open Iora.Http.Srv in
/-- **U0 (without an Upgrade request the function is the HTTP-only one).** A pass of a session without hold that does not stop
behind an Upgrade request extracts, closes and keeps exactly what `ioStep` does - the function S1-S9 above are about; with
enough free queue slots the session afterwards is `ioStep`'s too. -/
theorem U0_pass_without_upgrade_is_http_only (c : ConnU) (seg : Bytes) (slots : Nat) (hh : c.hold = false)
    (hs : (drainRawU ((c.sess.buffer ++ seg).length + 1) (c.sess.buffer ++ seg)).2.2.2 = false) :
    extracted (connDataU c seg slots).2.1 = (ioStep c.sess seg).2.1 ∧
    ((routeU (tagLast (ioStep c.sess seg).2.1 false) slots).2.2.2 = false → (connDataU c seg slots).1.sess = (ioStep c.sess seg).1) ∧
    (connDataU c seg slots).1.hold = false := by
  by_cases ha : c.sess.alive = true
  · by_cases hlim : c.sess.buffer.length + seg.length > Gen.Http.serverMaxBufferSize
    · rw [connDataU_over c seg slots ha hlim, ioStep_over _ seg ha hlim]
      exact ⟨rfl, fun _ => rfl, hh⟩
    · -- a pass that does not stop behind an Upgrade request is the HTTP-only loop on the same fuel
      rw [connDataU_scan c seg slots hh ha hlim, ioStep_pass _ seg ha hlim]
      simp only [drainRawU_no_stop _ _ hs, hs, extracted_append, routeU_extracted, tagLast_fst, Bool.false_and]
      refine ⟨by split <;> simp [extracted], fun hr => ?_, trivial⟩
      simp only [List.length_append] at hr
      simp [hr]
  · have hd : c.sess.alive = false := by simpa using ha
    rw [connDataU_dead c seg slots hd, ioStep_dead _ seg hd]
    exact ⟨rfl, fun _ => rfl, hh⟩

/-- **Gen conformance (upgrade hold).** The statements of `handleIncomingData` that mention `_upgradePending` / `haveUpgrade`, the
`break` that is the whole body of the last `if (haveUpgrade)` of the request loop, and the erasures of `handleSessionClosed` are
the ones `connDataU` / `connClosedU` were written from. -/
theorem gen_upgrade_hold : Gen.Http.serverUpgradeHold = Srv.upgradeHoldModelled ∧ Gen.Http.serverUpgradeBreak = true ∧
    Gen.Http.serverSessionClosed = Srv.sessionClosedModelled := ⟨rfl, rfl, rfl⟩

open Iora.Http.Srv in
/-- non-vacuity: an Upgrade request and a pipelined GET in ONE read with the worker parked - only the Upgrade request is
extracted and the hold is set; a later read (here a WebSocket-looking frame containing CR LF CR LF) is held, not framed; the
worker releases the hold; the next read frames the GET (the plain server declined the upgrade) -/
example :
    let u := ascii "GET /ws HTTP/1.1\r\nHost: a\r\nUpgrade: websocket\r\n\r\n"
    let g := ascii "GET / HTTP/1.1\r\nHost: a\r\n\r\n"
    let r1 := crunU {} [.data (u ++ g) 9]
    let r2 := crunU {} [.data (u ++ g) 9, .data g 9]
    let r3 := crunU {} [.data (u ++ g) 9, .data g 9, .work, .data [] 9]
    extracted r1.1 = [u] ∧ r1.2.hold = true ∧ r1.2.sess.buffer = g ∧
    extracted r2.1 = [u] ∧ r2.2.sess.buffer = g ++ g ∧
    extracted r3.1 = [u, g, g] ∧ r3.2.hold = false := by
  repeat rw [ascii_ofList]
  decide +kernel

end Iora.C15
