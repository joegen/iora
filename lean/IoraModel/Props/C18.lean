import IoraModel.Lemmas.WsFrame
import IoraModel.Lemmas.WsStream
import IoraModel.Lemmas.WsClient
import IoraModel.Lemmas.WsEndpoint
import IoraModel.Lemmas.WsUpgrade
import IoraModel.Lemmas.WsHandover
import IoraModel.Lemmas.Utf8
import IoraModel.Model.WsSkel
import IoraModel.Lemmas.WsConc
import IoraModel.Common.Framing
/-!
# C18 — WebSocket framing round-trips and reassembles under any segmentation

The property theorems, with the few definitions their statements need; the lemmas are in `Lemmas/Ws*.lean` and
`Lemmas/Utf8.lean`.  The model is `Model/WsFrame.lean` (codec, UTF-8), `Model/WsServer.lean`, `Model/WsClient.lean` (sessions incl.
re-entrant sends from callbacks and the upgrade boundary), `Model/WsHandover.lean` (pool thread and I/O thread at the server's
upgrade), `Model/WsSkel.lean` (lock discipline over the extracted skeleton) and `Model/WsConc.lean` (threads over that skeleton);
constants and skeletons come from the generated `Gen/Ws.lean`.
-/
namespace Iora.C18
open Iora Iora.Ws Iora.Framing

/-- **W1 (round-trip).** Every well-formed frame — any opcode, FIN, masked or not, any mask key, payload of any
length `< 2^64` (7-, 16- and 64-bit encodings) — parses back to an equal frame consuming exactly its own bytes,
whatever bytes follow it, for every payload limit that admits it. -/
theorem W1_roundtrip (max : Nat) (f : Frame) (x : Bytes) (h : f.WF) (hmax : f.payload.length ≤ max) :
    parse max (serialize f ++ x) = .frame f (serialize f).length :=
  roundtrip max f x h hmax

/-- non-vacuity: a masked 70 000-byte binary frame and a ping satisfy the hypotheses -/
example (pl : Bytes) (hl : pl.length = 70000) : (Frame.mk true 2 true [1, 2, 3, 4] pl).WF ∧ 65535 < pl.length := by
  refine ⟨⟨by simp, by simp, ?_, ?_, ?_⟩, by omega⟩
  · intro h; cases h
  · show pl.length < 2 ^ 64; omega
  · simp [isControl, Gen.Ws.controlOpcodes]
example : ∃ pl : Bytes, pl.length = 70000 := ⟨List.replicate 70000 7, List.length_replicate ..⟩
example : (Frame.mk true 9 false zeroKey [1, 2, 3]).WF :=
  ⟨by decide, by decide, by simp, by simp, by simp [Gen.Ws.maxControlPayload]⟩

/-- the numeric opcodes the handlers of both models dispatch on are the enumerators of `enum class WsOpcode` in the working
tree, and the control set is `isControlFrame`'s -/
theorem W1_opcode_table :
    Gen.Ws.opcodes = [("CONTINUATION", 0), ("TEXT", 1), ("BINARY", 2), ("CLOSE", 8), ("PING", 9), ("PONG", 10)] ∧
    Gen.Ws.controlOpcodes = [8, 9, 10] := by decide +kernel

/-- **W1, the hypothesis is necessary.** `serialize` is total but `parse` (rightly, RFC 6455 §5.5) rejects a control frame
with more than 125 payload bytes: a 126-byte ping serialises to `89 7e 00 7e …` and parses as a protocol error. So the
round trip holds for well-formed frames only; `W1_endpoint_frames_wellformed` shows the endpoints never emit any other. -/
theorem W1_control_bound_necessary (pl : Bytes) (hl : pl.length = 126) :
    parse (2 ^ 64) (serialize (mkFrame 9 true pl)) = .protocolError := by
  simp [serialize, mkFrame, hl, Gen.Ws.serMax7, Gen.Ws.serMax16, be16, parse, isControl, Gen.Ws.controlOpcodes,
    Gen.Ws.maxControlPayload]

/-- **W1 (endpoints).** Every frame a server session hands to the transport — application sends incl. those made from
inside callbacks, pongs, close echoes, failure closes — is the serialisation of a WELL-FORMED frame (so, by W1, it parses
back to itself), for every history in which the application's text/binary payloads are shorter than 2^64 bytes.
`sendPing` drops payloads above 125 bytes and `makeClose` cuts the reason to 123 (repair FC18c). -/
theorem W1_endpoint_frames_wellformed (max : Nat) (cb : Cbs) (ops : List AppOp) (hcb : cb.Small) (hops : ∀ op ∈ ops, op.Small) :
    ∀ w, Ev.sent w ∈ (run max cb {} ops).2 → ∃ f : Frame, f.WF ∧ w = serialize f :=
  (Steps.run hcb.all (parse_ping_small max) ops {} (fun op ho => (hops op ho).all)).sentWF

/-- the client analogue (frames recorded unmasked: opcode, FIN, payload) -/
theorem W1_client_frames_wellformed (cfg : CCfg) (ops : List COp) (hcb : cfg.cb.Small) (hops : ∀ op ∈ ops, op.Small) (s : CSess) :
    ∀ op fin pl, CEv.sent op fin pl ∈ (cRun cfg s ops).2 → ∀ key : Bytes, key.length = 4 →
      (Frame.mk fin op true key pl).WF :=
  (CSteps.run hcb.all (parse_ping_small cfg.max) ops s (fun op ho => (hops op ho).all)).sentWF

/-- non-vacuity: a script that sends a ping and a close from inside `onText`, and a text send, are small -/
example : (Cbs.mk [.ping [1, 2], .close 1000 []] [] [] []).Small ∧ (AppOp.sendText [104, 105]).Small := by
  refine ⟨⟨?_, ?_, ?_, ?_⟩, ?_⟩
  · intro a ha
    simp only [List.mem_cons, List.mem_nil_iff, or_false] at ha
    rcases ha with rfl | rfl <;> simp [Send.Small]
  · intro a ha; cases ha
  · intro a ha; cases ha
  · intro a ha; cases ha
  · simp [AppOp.Small, Send.Small]

/-- **W2 (prefix safety).** Every strict prefix of a serialised frame is reported as "incomplete"
(never as a frame, never as an error). -/
theorem W2_prefix_incomplete (max : Nat) (f : Frame) (h : f.WF) (hmax : f.payload.length ≤ max)
    (p x : Bytes) (hx : x ≠ []) (hp : p ++ x = serialize f) : parse max p = .incomplete :=
  prefix_incomplete max f h hmax p x hx hp

/-- non-vacuity: the 6-byte masked frame `81 82 k k k k` ++ 2 bytes cut after its header -/
example : ([0x81, 0x82, 1, 2] : Bytes) ++ [3, 4, 0x69, 0x6b] = serialize (Frame.mk true 1 true [1, 2, 3, 4] [0x68, 0x69]) ∧
    ([3, 4, 0x69, 0x6b] : Bytes) ≠ [] := by decide

/-- **Extension stability** (what the generic framer of `Common/Framing.lean` asks of a parser, `Framing.Stable`): an answer other than
"incomplete" never changes when more bytes arrive, for buffers that do not start with an RSV bit. -/
theorem W3_stable (max : Nat) (d x : Bytes) (hr : NoRsv d) (h : parse max d ≠ .incomplete) :
    parse max (d ++ x) = parse max d :=
  parse_stable max d x hr h

/-- non-vacuity: a complete 2-byte pong is RSV-free and not "incomplete"; so is a header declaring too much -/
example : NoRsv [0x8a, 0x00] ∧ parse 10 [0x8a, 0x00] ≠ .incomplete := ⟨by simp [NoRsv], by decide⟩
example : NoRsv [0x82, 0x7e, 0x01, 0x00] ∧ parse 10 [0x82, 0x7e, 0x01, 0x00] = .tooLarge := ⟨by simp [NoRsv], by decide⟩

/-- **RSV observation (no finding).** A first byte with an RSV bit set is answered with an EMPTY frame of that byte's
opcode and FIN that "consumes" the whole buffer (`91 05 …` is a text frame with no payload), which the session then
handles as a real frame: extensions are not negotiated, so a conforming peer never sends one, and the answer is not
extension-stable — which is why the segmentation theorems are stated for streams of valid (RSV-free) frames. -/
theorem W6_rsv_observation (cb : Cbs) :
    parse 100 [0x91, 0x05, 1, 2, 3] = .frame (mkFrame 1 true []) 5 ∧
    (handleFrame 100 cb {} (mkFrame 1 true [])).2 = (fire {} (.text []) cb.onText).2 ∧
    parse 100 [0x91, 0x05] ≠ parse 100 ([0x91, 0x05] ++ [1, 2, 3]) := by
  refine ⟨by decide, ?_, by decide⟩
  rw [handleFrame_start 100 cb {} (mkFrame 1 true []) rfl (.inl rfl) (Nat.zero_le _)]
  simp [deliver, mkFrame, cleared, isValidUtf8]

/-- **W6a (bounded allocation, no over-read).** For ARBITRARY bytes: a returned frame lies inside the buffer; the only
allocation (`payload.resize`) is at most the bytes available and at most the caller's limit. -/
theorem W6_frame_bounds (max : Nat) (d : Bytes) (f : Frame) (n : Nat) (h : parse max d = .frame f n) :
    n ≤ d.length ∧ f.payload.length + 2 ≤ n ∧ f.payload.length ≤ max :=
  let ⟨_, h2, h3, h4, _⟩ := parse_frame_bounds max d f n h
  ⟨h2, h3, h4⟩

example : parse 10 [0x82, 0x02, 7, 8, 9] = .frame (mkFrame 2 true [7, 8]) 4 := by decide

/-- **W6b (bounded buffering).** A buffer the parser calls "incomplete" is shorter than `14 + max` — for ARBITRARY bytes
(no RSV hypothesis: a buffer of two or more bytes with an RSV bit is never "incomplete"). An endpoint that waits only on
"incomplete" retains at most `max + 13` bytes, whatever the peer sends. -/
theorem W6_incomplete_short (max : Nat) (d : Bytes) (h : parse max d = .incomplete) :
    d.length < 14 + max :=
  parse_incomplete_short max d h

example : parse 10 [0x82, 0x7e, 0x00] = .incomplete := by decide

/-- **W3 (frames).** However a stream of valid frames is cut into network reads (including empty reads and one byte at
a time), greedy framing yields exactly the frames that were serialised — in order, each once, nothing left over. -/
theorem W3_frames (max : Nat) (fs : List Frame) (hv : ValidFrames max fs) (ss : List Bytes)
    (hs : ss.flatten = stream fs) :
    feed (wsStable max) (.alive []) ss = (fs.map toP, .alive []) :=
  feed_stream max fs hv ss [] hs rfl

/-- **W3 (server events, general form).** For any stream of valid frames in which every frame reaches a session that
still exists (`LiveUntilLast`: only the last frame may end the session), whatever the application sends from inside its
callbacks, and any way `ss` of cutting the byte stream into reads, a fresh server session produces exactly the events of
the per-frame handler folded over the frame list: the events are a function of the frames alone. -/
theorem W3_server_events_general (max : Nat) (cb : Cbs) (fs : List Frame) (hv : ValidFrames max fs)
    (hl : LiveUntilLast max cb {} fs) (ss : List Bytes) (hs : ss.flatten = stream fs) :
    (run max cb {} (ss.map AppOp.data)).2 = (interp max cb {} (fs.map toP)).2 :=
  run_data_eq max cb ss {} fs hv hl rfl (by simpa using hs) (by simp [parse])

/-- **W3 (server events as a function of the frames).** The syntactic sufficient condition for `W3_server_events_general`:
the peer's CLOSE (if any) is its last frame and every message — complete or not — stays within the limit (`fitsFrom`; the
server fails a session whose message exceeds it). -/
theorem W3_server_events_of_frames (max : Nat) (cb : Cbs) (fs : List Frame) (hv : ValidFrames max fs)
    (hcl : CloseOnlyLast fs) (hfit : fitsFrom max 0 fs = true) (ss : List Bytes) (hs : ss.flatten = stream fs) :
    (run max cb {} (ss.map AppOp.data)).2 = (interp max cb {} (fs.map toP)).2 :=
  W3_server_events_general max cb fs hv (liveUntilLast_of_fits max cb fs {} rfl hcl hfit) ss hs

/-- **W3 (server events).** Any two segmentations of such a stream give the same events. -/
theorem W3_server_segmentation_independent (max : Nat) (cb : Cbs) (fs : List Frame) (hv : ValidFrames max fs)
    (hcl : CloseOnlyLast fs) (hfit : fitsFrom max 0 fs = true) (ss ts : List Bytes)
    (hs : ss.flatten = stream fs) (ht : ts.flatten = stream fs) :
    (run max cb {} (ss.map AppOp.data)).2 = (run max cb {} (ts.map AppOp.data)).2 := by
  rw [W3_server_events_of_frames max cb fs hv hcl hfit ss hs, W3_server_events_of_frames max cb fs hv hcl hfit ts ht]

/-- non-vacuity: a text frame followed by a close frame is a valid, close-last stream whose messages fit -/
example : ValidFrames 100 [mkFrame 1 true [104, 105], makeClose 1000 []] ∧ CloseOnlyLast [mkFrame 1 true [104, 105], makeClose 1000 []] ∧
    fitsFrom 100 0 [mkFrame 1 true [104, 105], makeClose 1000 []] = true := by
  refine ⟨?_, ?_, by decide⟩
  · intro f hf
    simp only [List.mem_cons, List.mem_nil_iff, or_false] at hf
    rcases hf with rfl | rfl
    · exact ⟨mkFrame_WF 1 _ (by decide) (by decide) (by decide), by decide⟩
    · exact ⟨makeClose_WF 1000 [], by decide⟩
  · intro pre f post he h8
    match pre, he with
    | [], he => simp at he; rw [← he.1] at h8; simp [mkFrame] at h8
    | [_], he => simp at he; exact he.2.2
    | _ :: _ :: _ :: _, he => simp at he
    | [_, _], he => simp at he

/-- **W3 (delivered messages, no side condition).** For EVERY stream of valid frames — CLOSE anywhere, messages of any
size — and any two segmentations, the server hands the SAME messages to the application, in the same order: frames that
follow the end of the session (the peer's CLOSE, or a message over the limit) deliver nothing, whether they arrive in the
same read or later. (Full events, by contrast, need `CloseOnlyLast`: a ping in the same read as a preceding CLOSE is
still answered, in a later read it is not.) -/
theorem W3_server_messages_segmentation_independent (max : Nat) (cb : Cbs) (fs : List Frame) (hv : ValidFrames max fs)
    (ss ts : List Bytes) (hs : ss.flatten = stream fs) (ht : ts.flatten = stream fs) :
    msgs (run max cb {} (ss.map AppOp.data)).2 = msgs (run max cb {} (ts.map AppOp.data)).2 := by
  rw [run_msgs_eq max cb ss {} fs hv rfl (by simpa using hs) (by simp [parse]),
      run_msgs_eq max cb ts {} fs hv rfl (by simpa using ht) (by simp [parse])]

/-- **W4 (reassembly, inside a message).** Fragments are joined in order; ping/pong control frames between fragments do
not disturb reassembly; every ping is answered by a pong with the same payload; a text message is delivered only if it is
valid UTF-8 (otherwise close 1007); the message is delivered exactly once (`deliver`: the callback, then whatever the
application sends from inside it), and the fragment buffer is empty afterwards. -/
theorem W4_reassembly (max : Nat) (cb : Cbs) (fs : List Frame) (acc : Bytes)
    (ht : Tail acc fs) (s : Sess) (ha : s.alive = true) (hl : (s.fragBuf ++ acc).length ≤ max) :
    interp max cb s (fs.map toP) =
      ((deliver cb (cleared s) s.fragOp (s.fragBuf ++ acc)).1,
       pongsOf fs ++ (deliver cb (cleared s) s.fragOp (s.fragBuf ++ acc)).2) :=
  reassembly_tail max cb fs acc ht s ha hl

/-- non-vacuity: a ping, a non-final and a final continuation form a `Tail` -/
example : Tail ([1, 2] ++ [3]) [mkFrame 9 true [7], mkFrame 0 false [1, 2], mkFrame 0 true [3]] :=
  .ctl _ _ _ (.inl rfl) (.cont (mkFrame 0 false [1, 2]) [3] _ rfl rfl (.last (mkFrame 0 true [3]) rfl rfl))

/-- **W4 (message-level exactness).** From a fresh session, the frames of a list of messages — each unfragmented or
fragmented, pings/pongs anywhere (also between messages), an optional final CLOSE — with every message within the
limit, deliver exactly those messages, in order, each once; text only if valid UTF-8. Combined with W3: for EVERY
segmentation of the byte stream. -/
theorem W4_messages_exact (max : Nat) (cb : Cbs) (ms : List (Nat × Bytes)) (fs : List Frame) (hm : Msgs ms fs)
    (hv : ValidFrames max fs) (hfit : ∀ m ∈ ms, m.2.length ≤ max) (ss : List Bytes) (hs : ss.flatten = stream fs) :
    msgs (run max cb {} (ss.map AppOp.data)).2 = ms.filterMap deliveryOf := by
  rw [run_msgs_eq max cb ss {} fs hv rfl (by simpa using hs) (by simp [parse])]
  exact msgs_exact max cb ms fs hm hfit {} rfl

/-- non-vacuity: an unfragmented text message, a ping between messages, a fragmented binary message, a close -/
example : Msgs [(1, [104, 105]), (2, [1] ++ [2])]
    ([mkFrame 1 true [104, 105]] ++ (mkFrame 9 true [] :: ([mkFrame 2 false [1], mkFrame 0 true [2]] ++ [makeClose 1000 []]))) :=
  .msg 1 _ _ _ _ (.single (mkFrame 1 true [104, 105]) (.inl rfl) rfl)
    (.ctl _ _ _ (.inl rfl)
      (.msg 2 _ _ _ _ (.frag (mkFrame 2 false [1]) [2] _ (.inr rfl) rfl (.last (mkFrame 0 true [2]) rfl rfl))
        (.close _ rfl)))

/-- **W4 (UTF-8).** The validator accepts exactly the well-formed UTF-8 byte sequences of Unicode Table 3-7 / RFC 3629
(no overlongs, no surrogates, nothing above U+10FFFF, no truncated sequences). -/
theorem W4_utf8 (d : Bytes) : isValidUtf8 d = true ↔ Utf8 d :=
  ⟨isValidUtf8_sound d, isValidUtf8_complete d⟩

/-- **W5 (after close).** For EVERY history of application sends (text, binary, ping, close), network reads, and sends
the application makes from inside its callbacks — each application send is one `_wsMutex` critical section in the real
server (`W5_lock_discipline`) — no data frame is handed to the transport after a close frame has been. -/
theorem W5_no_data_after_close (max : Nat) (cb : Cbs) (ops : List AppOp) : NoDataAfterClose (run max cb {} ops).2 :=
  (run_steps max cb ops {}).tr.ndac

/-- **W5 (lock discipline of the source text).** The skeleton the translator extracts from the working tree satisfies the
discipline the models assume (see `Model/WsSkel.lean`): on both endpoints the close-flag test of
`sendText/sendBinary/sendPing` and the hand-over of the frame are ONE critical section of the session mutex; every
CLOSE-frame send (`sendClose`, the inbound-CLOSE echo) is preceded by setting the flag under that mutex; every write of the
flag is under it; callbacks and `sendClose` calls are made with no mutex held. -/
theorem W5_lock_discipline :
    Skel.disciplined Skel.serverFunctions "_wsMutex" "closeSent" Gen.Ws.serverSkeleton = true ∧
    Skel.sendersPresent Gen.Ws.serverSkeleton = true ∧
    Skel.disciplined Skel.clientFunctions "_sendMutex" "_closeSent" Gen.Ws.clientSkeleton = true ∧
    Skel.sendersPresent Gen.Ws.clientSkeleton = true := by decide +kernel

/-- the programs application threads run: the send paths of the generated skeleton, compiled to lock / flag / send actions -/
def serverPrograms : List (List Conc.Act) := Gen.Ws.serverSkeleton.map (fun f => Conc.compile "_wsMutex" "closeSent" f.2)
def clientPrograms : List (List Conc.Act) := Gen.Ws.clientSkeleton.map (fun f => Conc.compile "_sendMutex" "_closeSent" f.2)

/-- every function of the working tree's skeleton is a disciplined program of the small-step model -/
theorem W5_programs_disciplined :
    serverPrograms.all Conc.ok = true ∧ clientPrograms.all Conc.ok = true := by decide +kernel

/-- **W5 (concurrent).** ANY number of application threads, each making ANY sequence of calls of the send paths as they
are in the working tree (`serverPrograms` / `clientPrograms`: `sendText`, `sendBinary`, `sendPing`, `sendClose`, and the
receive handlers with their CLOSE echo), under ANY schedule, any initial value of the close flag and any resolution of the
early returns the skeleton leaves open: no data frame is handed to the transport after a close frame. (Small-step model
`Model/WsConc.lean`: mutex with RAII release, one shared flag, one wire; the abstraction from C++ to skeleton is the
translator's, see the `level_note` of the check's entry in MANIFEST.json.) -/
theorem W5_concurrent (progs : List (List Conc.Act)) (hp : progs = serverPrograms ∨ progs = clientPrograms) (flag : Bool)
    (calls : List (List (List Conc.Act))) (h : ∀ cs ∈ calls, ∀ p ∈ cs, p ∈ progs) (sched : List (Nat × Bool)) :
    Conc.NoDataAfterCloseW (Conc.run (Conc.start flag calls) sched).wire := by
  rcases hp with rfl | rfl
  · exact Conc.run_ndac _ W5_programs_disciplined.1 flag calls h sched
  · exact Conc.run_ndac _ W5_programs_disciplined.2 flag calls h sched

/-- non-vacuity: two threads, `sendText` against `sendClose`; the schedule that lets the sender pass its check first -/
example : [[Conc.compile "_wsMutex" "closeSent" (Gen.Ws.serverSkeleton[0]!).2], [Conc.compile "_wsMutex" "closeSent" (Gen.Ws.serverSkeleton[3]!).2]].all
      (fun cs => cs.all (fun p => serverPrograms.contains p)) = true ∧
    (Conc.run (Conc.start false [[Conc.compile "_wsMutex" "closeSent" (Gen.Ws.serverSkeleton[0]!).2],
        [Conc.compile "_wsMutex" "closeSent" (Gen.Ws.serverSkeleton[3]!).2]])
      [(0, false), (1, false), (0, false), (0, false), (0, false), (0, false), (0, false), (0, false),
       (1, false), (1, false), (1, false), (1, false), (1, false)]).wire = [false, true] := by decide +kernel

/-- **W6c (bounded buffering, session level).** For EVERY history, ARBITRARY peer bytes and any callback behaviour the
session never retains more than `max + 13` unparsed bytes. -/
theorem W6_server_buffer_bounded (max : Nat) (cb : Cbs) (ops : List AppOp) : (run max cb {} ops).1.buffer.length < 14 + max :=
  ((run_steps max cb ops {}).bounded (bounded_fresh max)).1

/-- **W6d (bounded reassembly).** For EVERY history and ARBITRARY peer bytes the fragment buffer never holds more than
`max` bytes (repair FC18a: a message over the limit clears it and ends the session). -/
theorem W6_server_fragment_bounded (max : Nat) (cb : Cbs) (ops : List AppOp) : (run max cb {} ops).1.fragBuf.length ≤ max :=
  ((run_steps max cb ops {}).bounded (bounded_fresh max)).2

/-- the bounds hold for a session created by an upgrade request that arrived together with `trailing` bytes (sequential
hand-over: the pool thread finishes before the next read; the general case is `C18_upgrade_handover`) -/
theorem W6_server_upgrade_boundary (max : Nat) (cb : Cbs) (trailing : Bytes) (ops : List AppOp) :
    Bounded max (run max cb (upgrade max cb trailing).1 ops).1 :=
  (run_steps max cb ops _).bounded (upgrade_bounded max cb trailing)

/-- **W6e (bounded buffering ACROSS connections; repair FC18g).** Once the transport has closed the connection
(`handleSessionClosed` → `onSessionClosed`), whatever the session held - unparsed bytes, a half-reassembled message of up
to `max` bytes - is released, and nothing that happens afterwards under that session id (late sends, reads still in
flight) makes it retain a byte again. Before the repair the entry stayed for the lifetime of the server whenever the
connection ended without the close handshake. -/
theorem W6_transport_close_frees (max : Nat) (cb : Cbs) (ops ops' : List AppOp) :
    (run max cb {} (ops ++ AppOp.transportClosed :: ops')).1 = { alive := false } := by
  rw [run_append]
  simp only [run, step, erase]
  exact run_erased max cb ops'

/-- non-vacuity: a non-final fragment of 3 bytes IS retained until the transport closes -/
example : (run 100 {} {} [.data (serialize (mkFrame 2 false [1, 2, 3]))]).1.fragBuf = [1, 2, 3] ∧
    (run 100 {} {} [.data (serialize (mkFrame 2 false [1, 2, 3])), .transportClosed]).1.fragBuf = [] := by decide +kernel

/-- the limits an endpoint has when the application never configures one are the documented 16 MiB (the bounds W6c/W6d
with `max` = this value are what an unconfigured server or client guarantees); both are far below 2^32 -/
theorem W6_default_limits :
    Gen.Ws.serverDefaultMaxFrameSize = 16 * 1024 * 1024 ∧ Gen.Ws.clientMaxFramePayload = 16 * 1024 * 1024 ∧
    Gen.Ws.clientMaxUpgradeResponse = 64 * 1024 ∧ Gen.Ws.httpMaxBufferSize = 1024 * 1024 := by decide

/-- the shape facts of the hand-over the model assumes, as the translator finds them in the working tree: the head of
`handleIncomingData` tests the hold before the route, in one `_sessionMutex` section, and only queues; the request loop
sets the hold in the section that stores the bytes behind the Upgrade request and then leaves the loop (those bytes are
never scanned for CR LF CR LF); the drain loop releases the hold in the section that finds the buffer empty; every other
exit of `processHttpRequest` releases it; the transport-close callback calls the hook that erases the WebSocket entry;
and the pool thread's steps come in the order of `HPc`. -/
theorem C18_handover_pinned :
    Gen.Ws.handoverFacts.all (·.2) = true ∧ Gen.Ws.handoverFacts.length = 6 ∧
    Gen.Ws.upgradeWorkerOrder = ["mark", "create", "connect", "respond", "drain"] := by decide +kernel

/-- **The hand-over loses, reorders and anticipates nothing — for EVERY schedule.** The Upgrade request has been
extracted with `trailing` behind it; from there the pool thread (mark, create, `_onConnect`, 101, drain loop) and the I/O
thread (any number of reads, cut anywhere) interleave in ANY way. Then, at every point of every schedule: the events so
far are the connect / 101 events followed by exactly what `onUpgradedData` produces for SOME segmentation `segs` of a
prefix of `trailing ++ reads` (so nothing reaches the WebSocket parser before the 101, out of order, or twice), the rest
of `trailing ++ reads` waits in order (in the drain loop's hand, then the session buffer), and once the pool thread is done
nothing waits. Needs only that the bytes held back fit `SessionInfo::MAX_BUFFER_SIZE` (beyond it the connection is closed). -/
theorem C18_upgrade_handover (maxBuf max : Nat) (cb : Cbs) (trailing : Bytes) (sched : List HStep)
    (hfit : (trailing ++ readsOf sched).length ≤ maxBuf) :
    ∃ segs : List Bytes,
      (hRun maxBuf max cb (hInit trailing) sched).2 =
        (hRun maxBuf max cb (hInit trailing) sched).1.pc.pre ++ (run max cb {} (segs.map AppOp.data)).2 ∧
      segs.flatten ++ (hRun maxBuf max cb (hInit trailing) sched).1.pc.inflight ++ (hRun maxBuf max cb (hInit trailing) sched).1.httpBuf
        = trailing ++ readsOf sched ∧
      ((hRun maxBuf max cb (hInit trailing) sched).1.pc = .done →
        segs.flatten = trailing ++ readsOf sched ∧ (hRun maxBuf max cb (hInit trailing) sched).1.sess = (run max cb {} (segs.map AppOp.data)).1) := by
  obtain ⟨segs, hi⟩ := hRun_inv maxBuf max cb sched trailing [] (hInit trailing) [] (hInit_inv max cb trailing) hfit
  exact ⟨segs, hi.evs_eq, hi.bytes, hi.finished⟩

/-- **W3 across the upgrade boundary, any schedule.** Two runs of the hand-over - different cuts of the same valid frame
stream into "arrived with the request" and later reads, different interleavings of the two threads - that have both
finished deliver the SAME messages to the application, in the same order. (With `trailing` in the same read as the
request and a read inside `_onConnect`, the unrepaired code delivered the later read first: `C18_old_handover_refuted`.) -/
theorem C18_upgrade_schedule_independent (maxBuf max : Nat) (cb : Cbs) (fs : List Frame) (hv : ValidFrames max fs)
    (t1 t2 : Bytes) (s1 s2 : List HStep)
    (h1 : t1 ++ readsOf s1 = stream fs) (h2 : t2 ++ readsOf s2 = stream fs) (hfit : (stream fs).length ≤ maxBuf)
    (d1 : (hRun maxBuf max cb (hInit t1) s1).1.pc = .done) (d2 : (hRun maxBuf max cb (hInit t2) s2).1.pc = .done) :
    msgs (hRun maxBuf max cb (hInit t1) s1).2 = msgs (hRun maxBuf max cb (hInit t2) s2).2 := by
  obtain ⟨g1, e1, _, f1⟩ := C18_upgrade_handover maxBuf max cb t1 s1 (by rw [h1]; exact hfit)
  obtain ⟨g2, e2, _, f2⟩ := C18_upgrade_handover maxBuf max cb t2 s2 (by rw [h2]; exact hfit)
  rw [e1, e2, d1, d2]
  simp only [msgs_append]
  rw [W3_server_messages_segmentation_independent max cb fs hv g1 g2 ((f1 d1).1.trans h1) ((f2 d2).1.trans h2)]

/-- non-vacuity: `two` arrives while the pool thread is inside `_onConnect`, `one` came with the request; the pool thread
then finishes: both are delivered, `one` first (and the same schedule on the unrepaired hand-over: below) -/
example : (hRun 1000 100 {} (hInit (serialize (mkFrame 2 true [111])))
      [.worker, .worker, .worker, .read (serialize (mkFrame 2 true [116])), .worker, .worker, .worker, .worker]).1.pc = .done ∧
    (hRun 1000 100 {} (hInit (serialize (mkFrame 2 true [111])))
      [.worker, .worker, .worker, .read (serialize (mkFrame 2 true [116])), .worker, .worker, .worker, .worker]).2 =
      [.connected, .upgraded, .binary [111], .binary [116]] := by decide +kernel

/-- what the hand-over must guarantee, said of a run function `r` (schedule ↦ events): all finished schedules of the
same byte stream deliver the same messages -/
def HandoverOrdered (r : Bytes → List HStep → List Ev) : Prop :=
  ∀ (t1 t2 : Bytes) (s1 s2 : List HStep), t1 ++ readsOf s1 = t2 ++ readsOf s2 → msgs (r t1 s1) = msgs (r t2 s2)

/-- **The unrepaired hand-over is refuted** (`oRun`: no hold, route by `_upgradedSessions` alone, drain once): with `one`
behind the request and `two` read while the pool thread is between the mark and the drain, `two` is delivered BEFORE
`one`; read after the drain it comes second. Same bytes, different deliveries. -/
theorem C18_old_handover_refuted : ¬ HandoverOrdered (fun t s => (oRun 100 {} (hInit t) s).2) := by
  intro h
  have := h (serialize (mkFrame 2 true [111])) (serialize (mkFrame 2 true [111]))
    [.worker, .worker, .worker, .read (serialize (mkFrame 2 true [116])), .worker, .worker, .worker]
    [.worker, .worker, .worker, .worker, .worker, .worker, .read (serialize (mkFrame 2 true [116]))] rfl
  revert this
  decide +kernel

/-- **which requests are upgraded** (`onUpgradeRequest`, RFC 6455 4.2.1): exactly those whose `Upgrade` value is `websocket`
in any case, whose `Connection` value contains `upgrade` in any case, that carry a key and ask for version 13; the others are
answered (400 / 426) or left to the HTTP dispatch - in both cases no session is marked or created, and the hold on the
session's reads is released by the scope guard (`holdReleasedOnEveryExit` in `C18_handover_pinned`; observed as `held=0`). -/
theorem C18_upgrade_accepted_iff (u c k v : Bytes) :
    upgradeDecision u c k v = .accept ↔
      (lowerB u = tokWebsocket ∧ containsSub (lowerB c) tokUpgrade = true ∧ k ≠ [] ∧ v = tok13) :=
  upgradeDecision_accept_iff u c k v

/-- the tokens are the strings of the source; `WebSocket` + `keep-alive, Upgrade` is accepted, `keep-alive` alone is a 400,
`h2c` is not ours, version `8` is a 426 -/
example : tokWebsocket = [119, 101, 98, 115, 111, 99, 107, 101, 116] ∧ tokUpgrade = [117, 112, 103, 114, 97, 100, 101] ∧ tok13 = [49, 51] := by decide +kernel
example : upgradeDecision [87, 101, 98, 83, 111, 99, 107, 101, 116] [107, 101, 101, 112, 45, 97, 108, 105, 118, 101, 44, 32, 85, 112, 103, 114, 97, 100, 101] [120] [49, 51] = .accept ∧
    upgradeDecision tokWebsocket [107, 101, 101, 112, 45, 97, 108, 105, 118, 101] [120] [49, 51] = .reject 400 ∧
    upgradeDecision [104, 50, 99] [85, 112, 103, 114, 97, 100, 101] [120] [49, 51] = .notWebSocket ∧
    upgradeDecision tokWebsocket [85, 112, 103, 114, 97, 100, 101] [120] [56] = .reject 426 := by decide +kernel

/-- **`doConnect` re-arms every per-connection field** (as found in the working tree: `Gen.Ws.clientConnectResets`):
whatever the previous connection left - a failed protocol state, a sent CLOSE, an echoed CLOSE, unparsed bytes, half a
message, a completed upgrade - the client that starts the next connection is exactly the fresh client waiting for its
upgrade response, so every client theorem of this file applies to every connection, not only the first. -/
theorem C18_reconnect_fresh (s : CSess) : cReconnect s = preUpgrade := by
  cases s
  simp [cReconnect, preUpgrade, Gen.Ws.clientConnectResets]

/-- **W3 (client events).** For ANY stream of valid frames (CLOSE anywhere, messages of any size), any callback behaviour
and any two segmentations, a connected client produces the same events: each run gives the per-frame handler folded over
the frames (`cRun_data_eq`; frames that reach a connection the client has failed are ignored, in the same read or later). -/
theorem W3_client_segmentation_independent (cfg : CCfg) (fs : List Frame) (hv : ValidFrames cfg.max fs)
    (ss ts : List Bytes) (hs : ss.flatten = stream fs) (ht : ts.flatten = stream fs) :
    (cRun cfg {} (ss.map COp.data)).2 = (cRun cfg {} (ts.map COp.data)).2 := by
  rw [cRun_data_eq cfg ss {} fs hv rfl rfl (by simp) (by simpa using hs) (by simp [parse]),
      cRun_data_eq cfg ts {} fs hv rfl rfl (by simp) (by simpa using ht) (by simp [parse])]

/-- **W3 (client, across the upgrade boundary).** A client waiting for the upgrade response that receives a response it
accepts (`ValidResp`: ends with its first CRLF CRLF, at most `kMaxUpgradeResponse` bytes, `HTTP/1.1 101` status line, the
expected `Sec-WebSocket-Accept` value on a header line) followed by ANY stream of valid frames, the whole byte stream cut
ANYWHERE into reads — inside the response, exactly at its end, inside a frame — reports the connection once and then
produces exactly the events of the per-frame handler folded over the frames. -/
theorem W3_client_upgrade_boundary (cfg : CCfg) (resp : Bytes) (hr : ValidResp cfg resp) (fs : List Frame)
    (hv : ValidFrames cfg.max fs) (ss : List Bytes) (hs : ss.flatten = resp ++ stream fs) :
    (cRun cfg (waiting []) (ss.map COp.data)).2 = CEv.connected :: (cInterp cfg {} (fs.map toP)).2 :=
  cRun_upgrade_eq cfg resp hr fs hv ss [] (by have := hr.len4; simp; omega) (by simpa using hs)

/-- non-vacuity: `HTTP/1.1 101 OK\r\nSec-WebSocket-Accept: \tabc \r\nUpgrade: websocket\r\n\r\n` is accepted by a client expecting `abc` -/
example : ValidResp { accept := [97, 98, 99] } [72, 84, 84, 80, 47, 49, 46, 49, 32, 49, 48, 49, 32, 79, 75, 13, 10, 83, 101, 99, 45, 87, 101, 98, 83, 111, 99, 107, 101, 116, 45, 65, 99, 99, 101, 112, 116, 58, 32, 9, 97, 98, 99, 32, 13, 10, 85, 112, 103, 114, 97, 100, 101, 58, 32, 119, 101, 98, 115, 111, 99, 107, 101, 116, 13, 10, 13, 10] :=
  ⟨by decide +kernel, by decide +kernel, by decide +kernel, by decide +kernel,
    ⟨17, 6, by decide +kernel, by decide +kernel, by decide +kernel, by decide +kernel⟩⟩

/-- **W4 (client reassembly).** Same statement as the server's: one pong per ping in order, then ONE delivery of the
in-order concatenation, text only if valid UTF-8 (else close 1007), provided the message fits the client's limit. -/
theorem W4_client_reassembly (cfg : CCfg) (fs : List Frame) (acc : Bytes) (ht : Tail acc fs)
    (s : CSess) (hpf : s.protocolFailed = false) (hl : (s.fragBuf ++ acc).length ≤ cfg.max) :
    cInterp cfg s (fs.map toP) =
      ((cDeliver cfg.cb (cCleared s) s.fragOp (s.fragBuf ++ acc)).1,
       cPongsOf fs ++ (cDeliver cfg.cb (cCleared s) s.fragOp (s.fragBuf ++ acc)).2) :=
  cReassembly_tail cfg fs acc ht s hpf hl

example : Tail [3] [mkFrame 10 true [], mkFrame 0 true [3]] ∧ ({} : CSess).protocolFailed = false :=
  ⟨.ctl _ _ _ (.inr rfl) (.last (mkFrame 0 true [3]) rfl rfl), rfl⟩

/-- **W4 (client, message-level exactness)** for every segmentation. -/
theorem W4_client_messages_exact (cfg : CCfg) (ms : List (Nat × Bytes)) (fs : List Frame) (hm : Msgs ms fs)
    (hv : ValidFrames cfg.max fs) (hfit : ∀ m ∈ ms, m.2.length ≤ cfg.max) (ss : List Bytes) (hs : ss.flatten = stream fs) :
    cMsgs (cRun cfg {} (ss.map COp.data)).2 = ms.filterMap cDeliveryOf := by
  rw [cRun_data_eq cfg ss {} fs hv rfl rfl (by simp) (by simpa using hs) (by simp [parse])]
  exact cMsgs_exact cfg ms fs hm hfit {} rfl

/-- **W5 (client).** For every history of application sends, reads (incl. the upgrade response) and sends made from
inside callbacks, from any state, no data frame follows a close frame. -/
theorem W5_client_no_data_after_close (cfg : CCfg) (ops : List COp) (s : CSess) : NoDataAfterCloseC (cRun cfg s ops).2 :=
  (cRun_steps cfg ops s).tr.ndac

/-- **W6c/d (client).** For every history and arbitrary peer bytes a connected client retains fewer than `14 + max` unparsed
bytes and its fragment buffer never exceeds `max` (repair FC18b). -/
theorem W6_client_buffer_bounded (cfg : CCfg) (ops : List COp) :
    (cRun cfg {} ops).1.buffer.length < 14 + cfg.max ∧ (cRun cfg {} ops).1.fragBuf.length ≤ cfg.max := by
  obtain ⟨h1, _, h3⟩ := (cRun_steps cfg ops {}).bounded (cBounded_fresh cfg)
  exact ⟨h1 ((cRun_steps cfg ops {}).upgraded rfl), h3⟩

/-- **W6c/d (client, from the upgrade on).** The same for a client that starts waiting for the upgrade response (`preUpgrade`,
which is `waiting []`): until the upgrade completes it retains at most `kMaxUpgradeResponse` bytes (repair FC18d), afterwards
fewer than `14 + max`; the fragment buffer never exceeds `max`. -/
theorem W6_client_upgrade_bounded (cfg : CCfg) (ops : List COp) : CBounded cfg (cRun cfg preUpgrade ops).1 :=
  (cRun_steps cfg ops preUpgrade).bounded (cBounded_preUpgrade cfg)

/-- a delivery as (opcode, payload), for either endpoint -/
def evMsg : Ev → Option (Nat × Bytes)
  | .text b => some (1, b)
  | .binary b => some (2, b)
  | _ => none
def cEvMsg : CEv → Option (Nat × Bytes)
  | .text b => some (1, b)
  | .binary b => some (2, b)
  | _ => none

theorem deliveryOf_evMsg (m : Nat × Bytes) : (deliveryOf m).bind evMsg = (cDeliveryOf m).bind cEvMsg := by
  obtain ⟨op, pl⟩ := m
  simp only [deliveryOf, cDeliveryOf]
  split
  · split <;> rfl
  · rfl

/-- **"the server and the client deliver the same sequence of complete messages".** For the frames of a list of messages
(unfragmented or fragmented, pings/pongs anywhere, optional final CLOSE - the streams RFC 6455 allows a peer to send), each
within the common limit, a server fed ANY segmentation `ss` and a client fed ANY OTHER segmentation `ts` hand the same
(opcode, payload) sequence to their applications, whatever their callbacks send meanwhile. -/
theorem W4_server_client_same_messages (max : Nat) (cb : Cbs) (cfg : CCfg) (hmax : cfg.max = max)
    (ms : List (Nat × Bytes)) (fs : List Frame) (hm : Msgs ms fs) (hv : ValidFrames max fs) (hfit : ∀ m ∈ ms, m.2.length ≤ max)
    (ss ts : List Bytes) (hs : ss.flatten = stream fs) (ht : ts.flatten = stream fs) :
    (msgs (run max cb {} (ss.map AppOp.data)).2).filterMap evMsg =
      (cMsgs (cRun cfg {} (ts.map COp.data)).2).filterMap cEvMsg := by
  subst hmax
  rw [W4_messages_exact cfg.max cb ms fs hm hv hfit ss hs, W4_client_messages_exact cfg ms fs hm hv hfit ts ht,
    List.filterMap_filterMap, List.filterMap_filterMap]
  exact congrArg (List.filterMap · ms) (funext deliveryOf_evMsg)

/-- observation (NOT a violation: RFC 6455 5.5.1 forbids data frames after a CLOSE, so such a stream is outside the
clause): on `binary, CLOSE, binary` the server - which has erased the session - delivers one message, the client - which
only changes state - delivers both. The agreement theorem above is about streams whose CLOSE, if any, comes last. -/
theorem W4_data_after_peer_close_observation :
    msgs (run 100 {} {} [.data (stream [mkFrame 2 true [1], makeClose 1000 [], mkFrame 2 true [2]])]).2 = [.binary [1]] ∧
    cMsgs (cRun {} {} [.data (stream [mkFrame 2 true [1], makeClose 1000 [], mkFrame 2 true [2]])]).2 = [.binary [1], .binary [2]] := by
  decide +kernel

end Iora.C18
