import IoraModel.Lemmas.HttpRetry
import IoraModel.Lemmas.HttpRetryCache
import IoraModel.Lemmas.HttpLease
import IoraModel.Lemmas.HttpClose
import IoraModel.Lemmas.HttpClientLife
import IoraModel.Lemmas.HttpRetryFraming
/-!
# C17 — The HTTP client transmits a non-idempotent request at most once

The property theorems (the lemmas are in `Lemmas/HttpRetry`, `HttpRetryCache`, `HttpLease`, `HttpClose`, `HttpClientLife`,
`HttpRetryFraming`).  The model is `Model/HttpRetry.lean` (one caller), `Model/HttpLease.lean` (concurrent callers),
`Model/HttpClientLife.lean` (URL, lease wait, cleanup, start) and, for the byte-level link, C15's `Model/HttpClientFraming.lean`; the
idempotent-method table, the exception classes, the catch order, the disjuncts of `retryEligible`, the budget test,
the receive-branch table and the conjuncts of `reusable` come from the regenerated `Gen/HttpRetry.lean`.

A *fault script* `rq.script : Nat → Attempt` gives, for every attempt, the environment's answer to every question the
code asks (lease, idle check, connect, mode switches, `sendSync`, each `receiveSync`+`frameResponse` iteration).  All
theorems quantify over every script, every client state, every method string, every budget (a signed `int`).

Vocabulary of the statements that is not the model's: `isMore`, `loopRes`, `Retried`, `ThreadOK` are defined in `Lemmas/HttpRetry`,
`traceOf`, `World.work` in `Lemmas/HttpLease`, `connTokens` (`splitComma`, `segTok`) in `Lemmas/HttpClose`, `Link.absAttempt`
and `Link.absResult` in `Lemmas/HttpRetryFraming`.
-/
namespace Iora.C17
open Iora Iora.HttpRetry

/-- **R1 (at most once).** For a method that is not in the idempotent table, every attempt except the last one ended in
`HttpRequestNotSentError` without having called `sendSync` (and without a single receive): the request is handed to the
transport in at most one attempt, and once an attempt has reached `sendSync` no further attempt is made — for every
budget, every fault script, every client state. -/
theorem R1_at_most_once (cfg : Cfg) (c : Client) (rq : Request) (hm : isIdempotent rq.method = false) :
    ∀ lg ∈ (performRequest cfg c rq).log.dropLast,
      lg.result = .error .notSent ∧ lg.reachedSend = false ∧ lg.receives = 0 :=
  (atMostOnce_of_retried hm (performRequest_thread cfg c rq).2.2.1).1

/-- R1, counted: at most one attempt of a non-idempotent request reaches `sendSync`. -/
theorem R1_send_count (cfg : Cfg) (c : Client) (rq : Request) (hm : isIdempotent rq.method = false) :
    (performRequest cfg c rq).log.countP (·.reachedSend) ≤ 1 :=
  (atMostOnce_of_retried hm (performRequest_thread cfg c rq).2.2.1).2

/-- R1 on the engine trace: `engine->send` is called at most once for a non-idempotent request -/
theorem R1_trace (cfg : Cfg) (c : Client) (rq : Request) (hm : isIdempotent rq.method = false) :
    (performRequest cfg c rq).evs.countP isSend ≤ 1 := by
  have := performLoop_sends cfg rq (rq.retries.toNat + 2) 0 c
  unfold performRequest
  rw [this]
  exact R1_send_count cfg c rq hm

/-- a POST whose first attempt is refused at connect and whose second attempt is reset after the request
was sent makes exactly two attempts, the first one not sent, and is not retried again although the budget is 5 -/
example :
    let rq : Request := { method := "POST", retries := 5,
                          script := fun i => if i = 0 then { connect := .refused } else { recvs := [.peerClosed none] } }
    isIdempotent rq.method = false ∧
    ((performRequest {} {} rq).log.map fun l => (l.reachedSend, l.receives)) = [(false, 0), (true, 1)] := by
  decide +kernel

/-- **R2 (budget).** For every method, at most `budget + 1` attempts (a negative budget counts as 0), and the model's own
recursion bound is never what stops the loop. -/
theorem R2_budget (cfg : Cfg) (c : Client) (rq : Request) :
    (performRequest cfg c rq).log.length ≤ rq.retries.toNat + 1 ∧ (performRequest cfg c rq).fuelOut = false :=
  ⟨(performRequest_thread cfg c rq).2.1, (performRequest_thread cfg c rq).1⟩

/-- an idempotent request against a peer that always resets uses the whole budget, no more -/
example :
    let rq : Request := { method := "GET", retries := 3, script := fun _ => { recvs := [.more, .peerClosed none] } }
    (performRequest {} {} rq).log.length = 4 := by
  decide +kernel

/-- **R3 (framing errors are final).** For EVERY method: an attempt that was followed by another attempt did not end in
`HttpFramingError`; so a framing error is always the last attempt, and (next theorem) it is what the caller gets. -/
theorem R3_framing_not_retried (cfg : Cfg) (c : Client) (rq : Request) :
    ∀ lg ∈ (performRequest cfg c rq).log.dropLast, lg.result ≠ .error .framing := by
  intro lg hlg hf
  obtain ⟨e, hres, hne, _⟩ := (performRequest_thread cfg c rq).2.2.1 lg hlg
  rw [hres] at hf
  cases hf
  exact hne rfl

/-- the caller always gets the outcome of the last attempt -/
theorem R3_result_is_last (cfg : Cfg) (c : Client) (rq : Request) (lg : AttemptLog)
    (h : (performRequest cfg c rq).log.getLast? = some lg) : lg.result = (performRequest cfg c rq).result := by
  obtain ⟨lg', h1, h2⟩ := (performRequest_thread cfg c rq).2.2.2
  rw [show (performRequest cfg c rq).log.getLast? = some lg' from h1] at h
  cases h
  exact h2

/-- what makes an attempt end in a framing error: once the request is sent, a malformed message, the response cap or a
sync-buffer overflow as the first event that is not "need more" -/
theorem R3_framing_outcomes (cfg : Cfg) (c : Client) (h : Host) (a : Attempt) (sid : Sid) (ev : RecvEv)
    (hl : a.lease = .granted) (hp : (preSend { c with leased := h :: c.leased } h a).2.1 = .ok sid) (hs : a.send = true)
    (hev : a.recvs.dropWhile isMore = ev :: rest) (hk : ev = .malformed ∨ ev = .capExceeded ∨ ev = .overflow) :
    (executeRequest cfg c true h a).2.1.result = .error .framing := by
  rw [exec_log_failed cfg c h a sid .framing hl hp hs]
  rw [loopRes_of_dropWhile hev]
  rcases hk with rfl | rfl | rfl <;> rfl

/-- the idempotent case: a GET with budget 4 that meets a malformed response is not retried -/
example :
    let rq : Request := { method := "GET", retries := 4, script := fun _ => { recvs := [.more, .more, .malformed] } }
    (performRequest {} {} rq).log.length = 1 ∧
      (match (performRequest {} {} rq).result with | .error .framing => true | _ => false) = true := by
  decide +kernel

/-- **R4 (a failed attempt leaves nothing cached).** Whenever an attempt got the lease and ended in an error — connect
failure, mode-switch failure, send failure, time-out, peer close, framing error, overflow — the host has no cached
connection afterwards, so the next attempt or request connects afresh. This holds for every client state. -/
theorem R4_failure_evicts {cl : List Sid} (cfg : Cfg) (c : Client) (hi : Inv cl c) (h : Host) (a : Attempt) (e : Exn)
    (hl : a.lease = .granted) (hr : (executeRequest cfg c true h a).2.1.result = .error e) :
    (executeRequest cfg c true h a).1.conns.lookup h = none :=
  (exec_kept cfg c h a hl).resolve_right fun ⟨hlog, r, k⟩ => by simp [hlog, sentLog, k.sent, k.framed] at hr

/-- **R4 (what may stay cached).** If a connection is cached for the host after an attempt that got the lease (a successful
one, by `R4_failure_evicts`), then the client allows reuse, the response did not signal close (`responseRequestsClose`: token list, HTTP/1.0 default), the framer saw
no surplus bytes, the body was not close-delimited, the transport held NO residue when it was probed (no received bytes
the framer was never handed, no peer close, no error — `residualDataPending`, repair FC17a), and the switch back to async
mode succeeded. -/
theorem R4_reuse_only_if {cl : List Sid} (cfg : Cfg) (c : Client) (hi : Inv cl c) (h : Host) (a : Attempt) (r0 : RespInfo)
    (hl : a.lease = .granted) (hr : (executeRequest cfg c true h a).2.1.result = .ok r0)
    (hc : (executeRequest cfg c true h a).1.conns.lookup h ≠ none) :
    ∃ r, loopRes a.recvs = .done r false false ∧ cfg.reuse = true ∧
      responseRequestsClose r.conn r.version = false ∧ a.residue = false ∧ a.setAsync = true :=
  let ⟨_, r, k⟩ := (exec_kept cfg c h a hl).resolve_left hc
  ⟨r, k.framed, k.reuse, k.noClose, k.noResidue, k.async⟩

/-- **R4 (surplus the framer never saw).** `frameResponse` detects surplus only inside the bytes it has been handed, and
one `receiveSync` hands over at most 8192 bytes; bytes that follow a message ending exactly where a read ends stay in the
transport. Whatever the response looks like otherwise: if the transport still holds something when the reuse decision is
taken, nothing stays cached for the host. -/
theorem R4_residue_evicts {cl : List Sid} (cfg : Cfg) (c : Client) (hi : Inv cl c) (h : Host) (a : Attempt)
    (hl : a.lease = .granted) (hres : a.residue = true) :
    (executeRequest cfg c true h a).1.conns.lookup h = none :=
  (exec_kept cfg c h a hl).resolve_right fun ⟨_, _, k⟩ => by simpa [hres] using k.noResidue

/-- the same keep-alive response is kept without residue and evicted with it -/
example :
    (executeRequest {} {} true 0 { recvs := [.more, .complete {}] }).1.conns.lookup 0 = some 1 ∧
    (executeRequest {} {} true 0 { recvs := [.more, .complete {}], residue := true }).1.conns.lookup 0 = none := by
  decide +kernel

/-- **R4 (what "signals close" means).** The index loop of `responseRequestsClose` computes the RFC 7230 §6.1/§6.3 reading
for EVERY field value and version string: split the `Connection` value at commas, trim SP/HTAB, fold ASCII case; the
response signals close iff some element is exactly `close`, or no element is exactly `keep-alive` and the version is
`1.0` (the bytes `[49, 46, 48]`). (`connTokens`, `splitComma`, `segTok` are the specification, `Lemmas/HttpClose.lean`.) -/
theorem R4_close_signal_spec (v ver : Bytes) :
    responseRequestsClose (some v) ver =
      (decide (tokClose ∈ connTokens v) || (!decide (tokKeepAlive ∈ connTokens v) && decide (ver = [49, 46, 48]))) :=
  responseRequestsClose_spec v ver

/-- without a `Connection` field: HTTP/1.0 closes, everything else persists -/
theorem R4_close_signal_absent (ver : Bytes) : responseRequestsClose none ver = decide (ver = [49, 46, 48]) :=
  responseRequestsClose_absent ver

/-- `Connection: foo,	Close ` has the tokens `foo` and `close`; `x-close-hint` and `c lose` are not `close` -/
example : connTokens [102, 111, 111, 44, 9, 67, 108, 111, 115, 101, 32] = [[102, 111, 111], tokClose] ∧
    tokClose ∉ connTokens [120, 45, 99, 108, 111, 115, 101, 45, 104, 105, 110, 116] ∧
    tokClose ∉ connTokens [99, 32, 108, 111, 115, 101] ∧ connTokens [44, 32, 44] = [] := by decide +kernel

/-- a response that carries a `close` token is never kept, whatever else it says -/
theorem R4_close_token_evicts {cl : List Sid} (cfg : Cfg) (c : Client) (hi : Inv cl c) (h : Host) (a : Attempt)
    (r : RespInfo) (v : Bytes) (rest : List RecvEv) (hl : a.lease = .granted)
    (hev : a.recvs.dropWhile isMore = .complete r :: rest) (hv : r.conn = some v) (hc : tokClose ∈ connTokens v) :
    (executeRequest cfg c true h a).1.conns.lookup h = none := by
  refine (exec_kept cfg c h a hl).resolve_right fun ⟨_, r', k⟩ => ?_
  have h1 := k.framed
  rw [loopRes_of_dropWhile hev] at h1
  obtain ⟨rfl, _, _⟩ := RecvRes.done.inj h1
  simpa [hv, R4_close_signal_spec, hc] using k.noClose

/-- **R4 (a kept connection saw no surplus bytes at all).** If a connection stays cached, the response was completed by
`frameResponse` itself (never by a peer close: not close-delimited), with no bytes beyond the message among those handed to
the framer, AND none left behind in the transport: surplus anywhere in what the client had received when it took the
decision evicts the connection. -/
theorem R4_surplus_or_close_delimited_never_kept {cl : List Sid} (cfg : Cfg) (c : Client) (hi : Inv cl c) (h : Host)
    (a : Attempt) (r0 : RespInfo) (hl : a.lease = .granted) (hr : (executeRequest cfg c true h a).2.1.result = .ok r0)
    (hc : (executeRequest cfg c true h a).1.conns.lookup h ≠ none) :
    ∃ r rest, a.recvs.dropWhile isMore = .complete r :: rest ∧ r.surplus = false ∧ a.residue = false := by
  obtain ⟨_, r, k⟩ := (exec_kept cfg c h a hl).resolve_left hc
  obtain ⟨rest, hd, hs⟩ := loopRes_done k.framed
  exact ⟨r, rest, hd, hs, k.noResidue⟩

/-- **R4 (scheme).** A cached connection whose TLS mode differs from the request's scheme (FC07a) — or that is idle — is
not handed out: it is closed and evicted first, and a new connection is opened in the request's mode. -/
theorem R4_other_mode_not_reused (c : Client) (h : Host) (a : Attempt) (sid : Sid)
    (hl : c.conns.lookup h = some sid) (hu : entryUsable c sid a = false) :
    acquireConnection c h a =
      ((connectNew { c with conns := eraseHost h c.conns } h a).1, (connectNew { c with conns := eraseHost h c.conns } h a).2.1,
       .close sid :: (connectNew { c with conns := eraseHost h c.conns } h a).2.2) := by
  simp [acquireConnection, hl, hu]

/-- an http request caches session 1 in plain mode; an https request to the same host:port closes it and opens
session 2 -/
example :
    let c1 := (executeRequest {} {} true 0 { recvs := [.complete {}] }).1
    c1.conns.lookup 0 = some 1 ∧ entryUsable c1 1 { https := true } = false ∧
    (acquireConnection c1 0 { https := true }).2.2 = [.close 1, .connect 0 2] := by
  decide +kernel

/-- **R4 (cache and trace invariants, every sequence of requests).** Starting from a fresh client, after ANY sequence of
requests (any methods, budgets, fault scripts — keep-alive sequences included): no session is connected or sent on after
it was closed/evicted; at most one connection is cached per host:port; no session is cached under two hosts; no cached
session was ever closed; and no lease is left held. -/
theorem R4_sequences (cfg : Cfg) (rqs : List Request) :
    let out := runRequests cfg {} rqs
    wellUsed [] out.2.1 ∧ Inv (closedAfter [] out.2.1) out.1 ∧ out.1.leased = [] := by
  have := step_runRequests (cl := []) cfg rqs {} Inv.init
  exact ⟨this.used, this.inv, this.leased⟩

/-- a keep-alive sequence — the second request reuses session 1 and meets `Connection: foo, Close`, the third
one therefore opens session 2 -/
example :
    let ok : RespInfo := {}
    let rqs : List Request :=
      [{ method := "GET", script := fun _ => { recvs := [.complete ok] } },
       { method := "POST", script := fun _ => { recvs := [.complete { ok with conn := some [102, 111, 111, 44, 32, 67, 108, 111, 115, 101] }] } },
       { method := "GET", script := fun _ => { recvs := [.more, .complete ok] } }]
    (runRequests {} {} rqs).2.1.filter (fun e => match e with | .acquire _ => false | .release _ => false | _ => true) =
      [.connect 0 1, .send 1, .send 1, .close 1, .connect 0 2, .send 2] := by
  decide +kernel

/-! ### Concurrent callers sharing one client (`Model/HttpLease.lean`): every schedule -/

/-- **R4 (one lease holder at a time, every interleaving).** Any number of threads issue requests on one client, any
methods/budgets/fault scripts, any schedule `sched` (which thread moves next; a thread whose host is leased is blocked).
In every reachable state, for every host:port the number of threads inside an exchange equals the number of lease
entries and is at most one. -/
theorem R4_one_lease_holder (cfg : Cfg) (rqs : List Request) (sched : List Nat) (h : Host) :
    let w := runSched cfg (World.init rqs) sched
    holders w.threads h = w.client.leased.count h ∧ holders w.threads h ≤ 1 := by
  have hw := (WorldInv.init rqs).run cfg sched
  have := hw.lease h
  exact ⟨this.1, by rw [this.1]; exact this.2⟩

/-- **R4 (cache and trace under every interleaving).** Whatever the schedule, no session is connected or sent on after it
was closed, at most one connection is cached per host:port, and no cached session was ever closed. -/
theorem R4_concurrent_trace (cfg : Cfg) (rqs : List Request) (sched : List Nat) :
    let w := runSched cfg (World.init rqs) sched
    wellUsed [] (traceOf w) ∧ Inv (closedAfter [] (traceOf w)) w.client := by
  have hw := (WorldInv.init rqs).run cfg sched
  exact ⟨hw.trace, hw.cache⟩

/-- **R1/R2/R3 for every caller under every interleaving.** For each thread, at every moment: every attempt that was
followed by another one failed with an error other than `HttpFramingError`, and — unless the method is idempotent — it was
`HttpRequestNotSentError` without `sendSync` and without a receive; a finished thread made at most `budget + 1` attempts and
returned the outcome of its last attempt. -/
theorem R123_concurrent (cfg : Cfg) (rqs : List Request) (sched : List Nat) :
    ∀ t ∈ (runSched cfg (World.init rqs) sched).threads, ThreadOK t :=
  ((WorldInv.init rqs).run cfg sched).threads

/-- **no deadlock on the lease.** In every reachable state in which some caller has not finished, some thread can make a step
that does work: a caller blocked in `acquireLease` waits for a lease whose holder can always move (the model does not cover
the condition-variable hand-off itself — that `releaseLease` erases under `_mutex` and notifies ALL waiters is a translator check). -/
theorem R4_no_deadlock (cfg : Cfg) (rqs : List Request) (sched : List Nat)
    (hun : ∃ t ∈ (runSched cfg (World.init rqs) sched).threads, t.finished = false) :
    ∃ i, (runSched cfg (World.init rqs) sched).work < (stepThread cfg (runSched cfg (World.init rqs) sched) i).work :=
  ((WorldInv.init rqs).run cfg sched).progress cfg hun

/-- reading `ThreadOK` for a finished thread with a non-idempotent method -/
theorem R1_concurrent_reading (t : Thread) (res : Except Exn RespInfo) (hpc : t.pc = .done res) (ht : ThreadOK t)
    (hm : isIdempotent t.rq.method = false) :
    t.log.length ≤ t.rq.retries.toNat + 1 ∧
    (∀ lg ∈ t.log.dropLast, lg.result = .error .notSent ∧ lg.reachedSend = false ∧ lg.receives = 0) ∧
    t.log.countP (·.reachedSend) ≤ 1 := by
  rw [ThreadOK, hpc] at ht
  exact ⟨ht.1, atMostOnce_of_retried hm ht.2.1⟩

/-- two POSTs and a GET to the same host, the GET's first exchange is cut after the request was sent; under
this schedule the three exchanges are serialised and the GET is retried on a new session -/
example :
    let ok : RespInfo := {}
    let rqs : List Request :=
      [{ method := "POST", script := fun _ => { recvs := [.complete ok] } },
       { method := "GET", retries := 1, script := fun i => if i = 0 then { recvs := [.peerClosed none] } else { recvs := [.complete ok] } },
       { method := "POST", script := fun _ => { recvs := [.more, .complete ok] } }]
    let w := runSched {} (World.init rqs) [0, 1, 2, 1, 0, 1, 1, 2, 1, 1, 2, 1, 1]
    w.threads.all Thread.finished = true ∧ w.client.leased = [] ∧
    (traceOf w).filter (fun e => match e with | .acquire _ => false | .release _ => false | _ => true) =
      [.connect 0 1, .send 1, .send 1, .close 1, .connect 0 2, .send 2, .send 2] := by
  decide +kernel

/-- **R5 (method matching).** `isIdempotentMethod` is exactly membership in the six-entry table, compared byte for byte:
no case folding, no prefix matching, no trimming. -/
theorem R5_exact (m : String) :
    isIdempotent m = true ↔ (m = "GET" ∨ m = "HEAD" ∨ m = "PUT" ∨ m = "DELETE" ∨ m = "OPTIONS" ∨ m = "TRACE") := by
  simp [isIdempotent, Gen.HttpRetry.idempotentMethods]

/-- every idempotent token is upper-case ASCII, so any method with another character is treated as non-idempotent -/
theorem R5_case_sensitive (m : String) (h : isIdempotent m = true) : m.toList.all Char.isUpper = true := by
  rcases (R5_exact m).1 h with rfl | rfl | rfl | rfl | rfl | rfl <;> decide +kernel

example : isIdempotent "get" = false ∧ isIdempotent "Get" = false ∧ isIdempotent "GETX" = false ∧ isIdempotent "GE" = false ∧
    isIdempotent " GET" = false ∧ isIdempotent "POST" = false ∧ isIdempotent "PATCH" = false := by decide +kernel

/-- the table agrees with RFC 9110 §9.2.2 (safe methods GET/HEAD/OPTIONS/TRACE plus PUT and DELETE) and every public entry
point has default budget 0 -/
theorem R5_table_and_defaults :
    Gen.HttpRetry.idempotentMethods = ["GET", "HEAD", "PUT", "DELETE", "OPTIONS", "TRACE"] ∧
    Gen.HttpRetry.entryPoints.all (fun e => decide (e.2.2.2 = 0)) = true := by
  decide +kernel

/-! ### The public API (every function with an `int retries` parameter) -/

/-- **P1 (entry-point table).** Every public entry point (every row the translator extracted: each function that calls
`performRequest` or another entry point) resolves — directly or by delegation — to ONE method handed to `performRequest`;
no name occurs twice; and the documented API keeps its documented methods (a NEW entry point does not break this statement, a
changed method of an existing one does). The fuel 4 of `entryMethod` bounds the delegation depth; the table's chains have length 2. For every row the translator has checked that the body contains exactly ONE
request-issuing call, outside any try/catch and any loop, with the caller's unmodified `retries` as its budget. -/
theorem P1_entry_table :
    Gen.HttpRetry.entryPoints.all (fun e => (entryMethod 4 e.1).isSome) = true ∧
    (Gen.HttpRetry.entryPoints.map (·.1)).Nodup ∧
    [("get", "GET"), ("head", "HEAD"), ("postJson", "POST"), ("post", "POST"), ("deleteRequest", "DELETE"), ("getAsync", "GET"),
     ("postJsonAsync", "POST"), ("postStream", "POST"), ("postFile", "POST")].all
      (fun d => entryMethod 4 d.1 == some d.2) = true := by
  decide +kernel

/-- **P2 (every call site).** `Gen.HttpRetry.requestCallers` lists EVERY textual call of `performRequest` / `executeRequest` in
http_client.hpp and http_client_pool.hpp (translator: a call anywhere else is a `TranslateError`). The only caller of
`executeRequest` is `performRequest`; every caller of `performRequest` is a row of the entry-point table whose recorded callee is
`performRequest`; no function contains two such calls; and every such row is a real call site. So there is no path to the wire
that bypasses the retry discipline of R1–R3, and no wrapper that calls the loop twice. -/
theorem P2_call_sites :
    (∀ p ∈ Gen.HttpRetry.requestCallers,
      (p.2 = "executeRequest" → p.1 = "performRequest") ∧
      (p.2 = "performRequest" → ∃ e ∈ Gen.HttpRetry.entryPoints, e.1 = p.1 ∧ e.2.1 = "performRequest") ∧
      (p.2 = "executeRequest" ∨ p.2 = "performRequest")) ∧
    (Gen.HttpRetry.requestCallers.map (·.1)).Nodup ∧
    (∀ e ∈ Gen.HttpRetry.entryPoints, e.2.1 = "performRequest" → (e.1, "performRequest") ∈ Gen.HttpRetry.requestCallers) ∧
    ("performRequest", "executeRequest") ∈ Gen.HttpRetry.requestCallers := by
  decide +kernel

/-- a public call is exactly one run of the retry loop with the table's method and the caller's budget (that no other path reaches
the wire is `P2_call_sites` and the translator's per-row checks) -/
theorem P2_public_is_one_performRequest (cfg : Cfg) (c : Client) (fn : String) (rq : Request) (r : Run)
    (h : publicCall cfg c fn rq = some r) :
    ∃ m, entryMethod 4 fn = some m ∧ r = performRequest cfg c { rq with method := m } := by
  unfold publicCall at h
  cases hm : entryMethod 4 fn with
  | none => simp [hm] at h
  | some m => simp [hm] at h; exact ⟨m, rfl, h.symm⟩

/-- **R1 for the public API.** A call of `post`, `postJson`, `postFile`, `postStream`, `postJsonAsync` — any entry point
whose method is not in the idempotent table — with ANY budget and fault script: every attempt but the last ended in
`HttpRequestNotSentError` without `sendSync`, and at most one attempt reached `sendSync`. -/
theorem R1_public (cfg : Cfg) (c : Client) (fn : String) (rq : Request) (r : Run) (m : String)
    (h : publicCall cfg c fn rq = some r) (hm : entryMethod 4 fn = some m) (hi : isIdempotent m = false) :
    (∀ lg ∈ r.log.dropLast, lg.result = .error .notSent ∧ lg.reachedSend = false ∧ lg.receives = 0) ∧
    r.log.countP (·.reachedSend) ≤ 1 ∧ r.log.length ≤ rq.retries.toNat + 1 := by
  obtain ⟨m', hm', hr⟩ := P2_public_is_one_performRequest cfg c fn rq r h
  rw [hm] at hm'
  cases hm'
  subst hr
  exact ⟨R1_at_most_once cfg c { rq with method := m } hi, R1_send_count cfg c { rq with method := m } hi,
         (R2_budget cfg c { rq with method := m }).1⟩

example : entryMethod 4 "postStream" = some "POST" ∧ isIdempotent "POST" = false ∧ entryMethod 4 "put" = none := by decide +kernel

/-! ### Back-off and timed waits -/

/-- **no overflow in the back-off (repair FC17c).** `(1 << min(attempt, 16)) * 100 + jitter` fits a 32-bit `int` for EVERY
attempt number, so "any retry budget" stays inside defined behaviour (the unclamped `1 << attempt` overflows at attempt 25). -/
theorem Backoff_fits_int (attempt : Nat) : backoffHi attempt < 2 ^ 31 := by
  have h1 : backoffExp attempt ≤ 16 := by
    have : backoffExp attempt = min attempt 16 := by simp [backoffExp, Gen.HttpRetry.backoffShiftCap]
    rw [this]; exact Nat.min_le_right _ _
  have h2 : 2 ^ backoffExp attempt ≤ 2 ^ 16 := Nat.pow_le_pow_right (by decide) h1
  simp only [backoffHi, Gen.HttpRetry.backoffBaseMs, Gen.HttpRetry.jitterHi]
  omega

example : backoffLo 0 = 100 ∧ backoffHi 3 = 899 ∧ backoffHi 40 = backoffHi 16 := by decide +kernel

/-- **R6 (what each timed wait may cost).** The time-out expression of every timed wait on the request path, read from the
source: the lease wait is `leaseAcquireTimeout`, a connect to a loopback address `min(connectTimeout, 200 ms)`, every
receive `requestTimeout`, the residual-data probe 0 — for every configuration. -/
theorem R6_wait_budgets (t : Timeouts) :
    waitMs t "lease" = some t.lease ∧ waitMs t "connect" = some (min t.connect 200) ∧
    waitMs t "receive" = some t.request ∧ waitMs t "probe" = some 0 := by
  simp [waitMs, evalWait, Gen.HttpRetry.timedWaits, Gen.HttpRetry.localConnectCapMs, lookup_cons_ite]

/-- **R6 (step bound; the wall-clock part is measured by the harness).** An attempt makes at most one `receiveSync` call per
"need more" answer plus one; each call is bounded by `requestTimeout` (assumption on `Transport::receiveSync`, C03/C04). -/
theorem R6_receive_bound (cfg : Cfg) (c : Client) (urlOk : Bool) (h : Host) (a : Attempt) :
    (executeRequest cfg c urlOk h a).2.1.receives ≤ (a.recvs.takeWhile isMore).length + 1 := by
  refine exec_cases cfg c urlOk h a (P := fun x => x.2.1.receives ≤ _) (fun _ => Nat.zero_le _) fun _ => ?_
  rw [leaseWrap_log]
  rcases underLease_cache cfg { c with leased := h :: c.leased } h a with hu | hu <;> rw [hu.1]
  · exact Nat.zero_le _
  · exact (sentLog_spec a).2.2

/-- a peer that goes silent (a time-out, or simply no further event) ends the attempt with an error at that very receive -/
theorem R6_silence_ends_attempt (cfg : Cfg) (c : Client) (h : Host) (a : Attempt) (sid : Sid)
    (hl : a.lease = .granted) (hp : (preSend { c with leased := h :: c.leased } h a).2.1 = .ok sid) (hs : a.send = true)
    (hsil : a.recvs.dropWhile isMore = [] ∨ ∃ rest, a.recvs.dropWhile isMore = .timeout :: rest) :
    (executeRequest cfg c true h a).2.1 = ⟨.error .runtime, true, (a.recvs.takeWhile isMore).length + 1⟩ := by
  refine exec_log_failed cfg c h a sid .runtime hl hp hs ?_
  rcases hsil with h | ⟨rest, h⟩
  · exact loopRes_of_dropWhile_nil h
  · exact loopRes_of_dropWhile h

example : (executeRequest {} {} true 0 { recvs := [.more, .more, .timeout, .complete {}] }).2.1.receives = 3 := by decide +kernel

/-! ### parseUrl, pre-lease failures, the lease wait as a loop of wake-ups, cleanup -/

/-- **U1 (the port is a `uint16_t`).** Whatever the URL, the port `parseUrl` hands on — the one `connectSync` is called with AND
the one in the `host:port` cache/lease key — is below 65536. -/
theorem U1_port_in_range (u : UrlIn) (p : Nat) (h : parseUrlPort u = .ok p) : p < 65536 := by
  have := parseUrlPort_spec u
  rwa [h] at this

/-- **U2 (observation: the port wraps).** `static_cast<std::uint16_t>(std::stoi(...))`: an explicit port `p + 65536` (that still
fits `int`) is the SAME port, the same connection and the same cache key as `p` — `http://h:65616/` is sent to port 80. Not a
clause of C17 (request and cache key agree, so nothing is reused wrongly); recorded as the behaviour of the code. -/
theorem U2_port_wraps (u : UrlIn) (p : Nat) (h : p + 65536 ≤ 2147483647) :
    parseUrlPort { u with port := some (p + 65536) } = parseUrlPort { u with port := some p } := by
  have h1 : ¬ (p + 65536 > 2147483647) := by omega
  have h2 : ¬ (p > 2147483647) := by omega
  simp [parseUrlPort, Gen.HttpRetry.portParseMax, Gen.HttpRetry.portCastModulus, h1, h2]

example : parseUrlPort { port := some 65616 } = .ok 80 ∧ parseUrlPort { port := some 99999999999 } = .error .other ∧
    parseUrlPort { wellFormed := false } = .error .invalidArg ∧ parseUrlPort { https := true } = .ok 443 := by
  simp [parseUrlPort, portRange_exn, urlFail_exn, Gen.HttpRetry.portParseMax, Gen.HttpRetry.portCastModulus,
    Gen.HttpRetry.defaultPortHttps]

/-- **U3 (a URL that does not parse sends nothing, within the budget).** `parseUrl` throws `std::invalid_argument` (no match) or
`std::out_of_range` (port beyond `int`) — nothing else — before the lease is taken; whichever it is: at most `budget + 1`
calls of `executeRequest`, exactly ONE for a non-idempotent method (an idempotent method re-tries the deterministic failure:
observation). For `invalid_argument` the count is the one of the full model, which makes no engine call and leaves the client
unchanged. -/
theorem U3_url_failure (u : UrlIn) (e : Exn) (m : String) (retries : Int) (h : parseUrlPort u = .error e) :
    (e = .invalidArg ∨ e = .other) ∧ failAttempts m retries e ≤ retries.toNat + 1 ∧
    (isIdempotent m = false → failAttempts m retries e = 1) := by
  have he : e = .invalidArg ∨ e = .other := by
    have := parseUrlPort_spec u
    rwa [h] at this
  refine ⟨he, ?_, ?_⟩
  · have := failLoop_le m retries e (retries.toNat + 2) 0
    simpa [failAttempts] using this
  · intro hm
    have hne : e ≠ .notSent := by rcases he with rfl | rfl <;> decide
    simp [failAttempts, failLoop_succ, nextAttempt_eq, hm, hne]

/-- the counter `failAttempts` of U3 IS the attempt count of the full model when the URL does not parse (`std::invalid_argument`),
and such a request makes no engine call and leaves the client unchanged -/
theorem U3_tie (cfg : Cfg) (c : Client) (rq : Request) (hu : rq.urlOk = false) :
    (performRequest cfg c rq).log.length = failAttempts rq.method rq.retries .invalidArg ∧
    (performRequest cfg c rq).evs = [] ∧ (performRequest cfg c rq).client = c :=
  have h := performLoop_noLease cfg rq (fun _ => by simp [getsLease, hu]) (rq.retries.toNat + 2) 0 c
  ⟨by simpa [hu, performRequest, failAttempts] using h.attempts, h.evs, h.client⟩

example : failAttempts "GET" 3 .other = 4 ∧ failAttempts "POST" 3 .other = 1 := by decide +kernel

/-- **R6 (lease wait, every wake-up pattern).** `acquireLease` with `leaseAcquireTimeout = d > 0`: however often and whenever the
waiter is woken — by `notify_all` of exchanges with OTHER hosts, spuriously, by `cleanup` — the wait is over no later than `d`
after it began; a time-out is reported at exactly `d`; and the lease is granted only by a wake-up (or the entry test) that saw the
host free and the client not closing. (The model's deadline is DEFINED from the extracted form of the wait: with a loop that re-arms
`wait_for(lock, d)` after each wake-up this theorem does not build.) -/
theorem R6_lease_wait_bounded (d : Nat) (free0 closing0 : Bool) (wakes : List Wake) :
    (acquireLeaseTimed d free0 closing0 wakes).time ≤ d ∧
    (∀ t, acquireLeaseTimed d free0 closing0 wakes = .timedOut t → t = d) ∧
    ((acquireLeaseTimed d free0 closing0 wakes).ans = .granted →
      closing0 = false ∧ (free0 = true ∨ ∃ w ∈ wakes, w.free = true ∧ w.closing = false)) := by
  unfold acquireLeaseTimed
  cases closing0 with
  | true => simp [LeaseOut.time, LeaseOut.ans]
  | false =>
    cases free0 with
    | true => simp [LeaseOut.time, LeaseOut.ans]
    | false =>
      rcases leaseLoop_cases d 0 wakes 0 (Nat.zero_le _) with h | ⟨w, hw, t, ht, h⟩
      · simp [h, LeaseOut.time, LeaseOut.ans]
      · obtain ⟨h1, h2, h3⟩ := wakeOutcome_some w t _ h
        exact ⟨by simpa [h1] using ht, fun t e => absurd e (h2 t), fun e => ⟨rfl, .inr ⟨w, hw, h3 e⟩⟩⟩

/-- the scenario of the seeded change `seeded/C17-d`: a caller completes an exchange with ANOTHER host every `step` ms, `n` times, each release waking
the same-host waiter; the host stays leased: the waiter times out at exactly `d`, whatever `step` and `n` -/
theorem R6_lease_wait_foreign_wakeups (d step n : Nat) :
    acquireLeaseTimed d false false (foreignWakes step n 0) = .timedOut d :=
  acquireLeaseTimed_held d (foreignWakes_held step n 0)

/-- seven wake-ups 40 ms apart do not move a 250 ms deadline; a wake-up that sees the host free grants at once, one that sees
`_closing` ends the wait at once; a wake-up due after the deadline is not waited for: the predicate is tested once more AT the
deadline (here it finds the host free); a host free at entry is granted without a wait -/
example : acquireLeaseTimed 250 false false (foreignWakes 40 7 0) = .timedOut 250 ∧
    acquireLeaseTimed 250 false false [⟨40, false, false⟩, ⟨80, true, false⟩] = .granted 80 ∧
    acquireLeaseTimed 250 false false [⟨40, false, false⟩, ⟨90, false, true⟩] = .closing 90 ∧
    acquireLeaseTimed 250 false false [⟨300, true, false⟩] = .granted 250 ∧
    acquireLeaseTimed 250 true false [] = .granted 0 := by decide +kernel

/-- **L1 (cleanup).** `cleanup()` sets `_closing` for good, closes exactly the cached sessions and leaves an empty cache. -/
theorem L1_cleanup (lc : LClient) :
    (cleanup lc).1.closing = true ∧ (cleanup lc).1.client.conns = [] ∧
    (cleanup lc).2 = lc.client.conns.map (fun p => Ev.close p.2) := by
  simp [cleanup, Gen.HttpRetry.cleanupSteps]

/-- **L2 (a cleaned-up client is dead, safely).** After `cleanup()` EVERY request — any method, budget, script — makes no engine call
at all (no connect, no send: nothing reaches the wire), leaves the cache empty, reaches `sendSync` in no attempt, makes at most
`budget + 1` attempts, and (URL well-formed) ends in `std::runtime_error`. -/
theorem L2_after_cleanup_every_request_fails (cfg : Cfg) (lc : LClient) (rq : Request) :
    let lc' := (cleanup lc).1
    let r := performRequestL cfg lc' rq
    r.evs = [] ∧ r.client.conns = [] ∧ (∀ lg ∈ r.log, lg.reachedSend = false ∧ lg.receives = 0) ∧
    r.log.length ≤ rq.retries.toNat + 1 ∧ (rq.urlOk = true → r.result = .error .runtime) := by
  intro lc' r
  have hr : r = performRequest cfg lc'.client (forceClosing rq) := by
    show performRequestL cfg lc' rq = _
    simp [performRequestL, lc', (L1_cleanup lc).1]
  have h := performLoop_noLease cfg (forceClosing rq) (fun _ => by simp [getsLease, forceClosing])
    ((forceClosing rq).retries.toNat + 2) 0 lc'.client
  have hb := R2_budget cfg lc'.client (forceClosing rq)
  rw [hr]
  refine ⟨h.evs, ?_, h.unsent, hb.1, fun hu => ?_⟩
  · exact h.client.symm ▸ (L1_cleanup lc).2.1
  · simpa [forceClosing, hu, performRequest] using h.result hb.2

/-- a client with a cached connection; cleanup closes session 1; a GET with budget 2 then fails three times at the lease -/
example :
    let c1 := (executeRequest {} {} true 0 { recvs := [.complete {}] }).1
    let lc := (cleanup { client := c1 }).1
    (cleanup { client := c1 }).2 = [.close 1] ∧
    (performRequestL {} lc { method := "GET", retries := 2, script := fun _ => { recvs := [.complete {}] } }).log.length = 3 ∧
    (performRequestL {} lc { method := "POST", retries := 2, script := fun _ => { recvs := [.complete {}] } }).log.length = 1 := by
  decide +kernel

/-- **G (skeleton facts the model relies on but does not compute with).** Pinned here so that a change of any of them stops the
build: what runs before / inside the pre-send region, the comparison of the response cap, `receiveSync` never reports success
with zero bytes, the form of the lease wait, and the two types `parseUrl` throws are ones the model knows (the other thrown types
of the request path are the closed facts `connectFail_exn` … `framingExn_eq` of `Lemmas/HttpRetry`). -/
theorem G_skeleton_pins :
    Gen.HttpRetry.beforePreSend = ["parseUrl", "acquireLease"] ∧
    Gen.HttpRetry.preSendCalls = ["acquireConnection", "setReadMode", "dropConnection"] ∧
    Gen.HttpRetry.capCmp = ">" ∧ Gen.HttpRetry.receiveOkHasBytes = true ∧
    Gen.HttpRetry.leaseWaitForm = "wait_for_pred" ∧
    exnOfName Gen.HttpRetry.portRangeThrow = .other ∧ exnOfName Gen.HttpRetry.urlFailThrow = .invalidArg :=
  ⟨rfl, rfl, rfl, rfl, rfl, portRange_exn, urlFail_exn⟩

/-! ### Link to the byte-level model of the response framer (C15's `Model/HttpClientFraming.lean`, imported read-only) -/

/-- **R4 (bytes): the two models of the reuse decision are one.** For every method, cap, `reuseConnections`, every script of
`receiveSync` answers carrying the RECEIVED BYTES, every client state and host: C15's byte-level `executeReceive` drops the
connection iff C17's `underLease` — run on the attempt ABSTRACTED from the same bytes (`Link.absAttempt`: one `RecvEv` per
`receiveSync`, `surplus` = the framer's `forceEvict`, `residue` = bytes left unread in the transport, `conn`/`version` = what
`parseHeaderBlock` extracted) — leaves nothing cached for the host; and the result classes agree. `RespInfo.conn/version/surplus`
and `Attempt.residue` are therefore not free inputs: they are functions of the bytes. -/
theorem R4_bytes_reuse_decision_agrees (method : Bytes) (mrb jmp : Nat) (reuse : Bool) (script : List Http.Recv)
    (c : Client) (h : Host) :
    (((Http.executeReceive method mrb jmp reuse script).2 = true) ↔
      ((underLease { reuse := reuse } c h (Link.absAttempt method (Http.effectiveCap mrb jmp) script)).1.conns.lookup h = none)) ∧
    (underLease { reuse := reuse } c h (Link.absAttempt method (Http.effectiveCap mrb jmp) script)).2.1.result =
      Link.absResult (Http.executeReceive method mrb jmp reuse script).1 :=
  Link.reuse_decision_agrees method mrb jmp reuse script c h

/-- the two Lean readings of the C++ `responseRequestsClose` (C15: split/trim/lower/contains; C17: the index loop) agree on
every parsed response -/
theorem R4_bytes_close_signal_agrees (r : Http.Resp) :
    Http.responseRequestsClose r = responseRequestsClose (Http.hdrFind r.headers (Http.ascii "Connection")) r.version :=
  Link.rrc_agree r

/-- **R4 (bytes): any received byte beyond the message ⇒ not cached.** If the byte-level run ends in a response and ANY received
byte lies beyond the framed message — handed to the framer (`forceEvict`) or left in the transport (`residual`) — nothing is
cached for the host afterwards, whatever the client state and configuration. -/
theorem R4_bytes_beyond_message_not_cached (method : Bytes) (mrb jmp : Nat) (reuse : Bool) (script : List Http.Recv)
    (c : Client) (h : Host) (st : Http.St) (r : Http.Resp) (fe residual : Bool)
    (hrun : Http.runScript method (Http.effectiveCap mrb jmp) {} script = (st, .response r fe, residual))
    (hbeyond : st.forceEvict = true ∨ fe = true ∨ residual = true) :
    (underLease { reuse := reuse } c h (Link.absAttempt method (Http.effectiveCap mrb jmp) script)).1.conns.lookup h = none :=
  (Link.reuse_decision_agrees method mrb jmp reuse script c h).1.mp (Link.executeReceive_beyond_drops reuse hrun hbeyond)

/-- concrete bytes: a keep-alive `Content-Length: 0` response followed by ONE surplus byte in the same delivery is
not cached; the same response without that byte is -/
theorem R4_bytes_demo :
    (underLease { reuse := true } {} 0 (Link.absAttempt (Http.ascii "GET") (Http.effectiveCap 1048576 0)
      [.data (Link.demoResp ++ [88])])).1.conns.lookup 0 = none ∧
    (underLease { reuse := true } {} 0 (Link.absAttempt (Http.ascii "GET") (Http.effectiveCap 1048576 0)
      [.data Link.demoResp])).1.conns.lookup 0 ≠ none := by
  refine ⟨(Link.reuse_decision_agrees (Http.ascii "GET") 1048576 0 true [.data (Link.demoResp ++ [88])] {} 0).1.mp
    Link.demo_c15.1, fun hn => ?_⟩
  have := (Link.reuse_decision_agrees (Http.ascii "GET") 1048576 0 true [.data Link.demoResp] {} 0).1.mpr hn
  rw [Link.demo_c15.2] at this
  cases this

/-- **R6 (the list of timed waits is complete; observation on DNS).** Besides lease / connect / receive / probe the request path
has two more timed waits: `sendSync`, bounded by `requestTimeout` like every receive, and — only for a host NAME other than
`localhost` — the DNS look-up inside `resolveHostAddress`, whose length is `DnsClient`'s own default (5 s per query, 3 retries,
A and AAAA in turn), which NO `HttpClient::Config` value bounds (observation: the clause "configured timeout" has no handle on
it; a resolution failure falls through to `connectSync` with the literal name). -/
theorem R6_send_and_dns_waits (t : Timeouts) :
    waitMs t "send" = some t.request ∧ Gen.HttpRetry.timedWaits.lookup "dns" = some "dnsClientDefaults" ∧ waitMs t "dns" = none ∧
    Gen.HttpRetry.timedWaits.length = 6 := by
  simp [waitMs, evalWait, Gen.HttpRetry.timedWaits, lookup_cons_ite]

/-- **S1 (transport start failure).** `ensureInitialized()` runs before the retry loop: when the transport cannot be started the
caller gets `std::runtime_error` after ZERO attempts — no `executeRequest` call, no engine call, client unchanged — whatever the
method and budget (a start failure is not retried even for an idempotent method); otherwise the call is the loop of L2/R1–R6. -/
theorem S1_start_failure_no_attempt (cfg : Cfg) (lc : LClient) (rq : Request) :
    (performRequestS cfg lc false rq).log = [] ∧ (performRequestS cfg lc false rq).evs = [] ∧
    (performRequestS cfg lc false rq).client = lc.client ∧ (performRequestS cfg lc false rq).result = .error .runtime ∧
    performRequestS cfg lc true rq = performRequestL cfg lc rq := by
  simp [performRequestS, exnOfName, Gen.HttpRetry.startFailThrow]

/-- **R3 (bytes): an announced chunk-size above the response cap is a framing error AT THE SIZE LINE** (the seeded change `seeded/C17-e`).
(1) the source rejects right after the chunk-size parse, before it waits for the chunk data, when the number does not parse OR
`chunkSize > effectiveCap` (regenerated fact `Gen.HttpRetry.chunkSizeReject`: moving the cap test behind the data makes this fail to build);
(2) the byte-level model (C15's `sizeLine`, mirrored from that test) accepts a size line only for a size within the cap;
(3) so `advanceChunked` answers NeedMore after a complete size line — i.e. the attempt goes on to another `receiveSync`, which a
silent or closing peer ends with a RETRYABLE generic error — only for an announced size within the cap;
(4) and whatever the byte-level loop classifies as a framing error is `HttpFramingError` in this model (never retried: R3), with the
connection dropped. -/
theorem R3_bytes_chunk_size_above_cap_is_framing_error :
    ("chunkSize>effectiveCap" ∈ Gen.HttpRetry.chunkSizeReject ∧ Gen.HttpRetry.chunkRejectBeforeDataWait = true) ∧
    (∀ (buf : Bytes) (cap pos n ds : Nat), Http.sizeLine buf cap pos = .ok n ds → n ≤ cap) ∧
    (∀ (buf : Bytes) (cap : Nat) (st : Http.ChunkState), Http.chunkStep buf cap st = .needMore →
      Http.sizeLine buf cap st.pos = .noLF ∨ ∃ n ds, Http.sizeLine buf cap st.pos = .ok n ds ∧ n ≤ cap) ∧
    (∀ (method : Bytes) (mrb jmp : Nat) (reuse : Bool) (script : List Http.Recv) (c : Client) (h : Host) (k : Http.Kind),
      (Http.executeReceive method mrb jmp reuse script).1 = .framingError k →
      (underLease { reuse := reuse } c h (Link.absAttempt method (Http.effectiveCap mrb jmp) script)).2.1.result = .error .framing ∧
      (underLease { reuse := reuse } c h (Link.absAttempt method (Http.effectiveCap mrb jmp) script)).1.conns.lookup h = none) := by
  refine ⟨by simp [Gen.HttpRetry.chunkSizeReject, Gen.HttpRetry.chunkRejectBeforeDataWait], Link.sizeLine_ok_le_cap, fun buf cap st h => ?_, ?_⟩
  · cases hs : Http.sizeLine buf cap st.pos with
    | noLF => exact .inl rfl
    | bad => simp [Http.chunkStep, hs] at h
    | ok n ds => exact .inr ⟨n, ds, rfl, Link.sizeLine_ok_le_cap buf cap st.pos n ds hs⟩
  intro method mrb jmp reuse script c h k hk
  have hl := Link.reuse_decision_agrees method mrb jmp reuse script c h
  exact ⟨by rw [hl.2, hk]; rfl, hl.1.mp (Link.executeReceive_framingError_drops hk)⟩

/-- concrete bytes: `7FFFFFFF`, `FFFFFFFFFFFFFFFF` and cap + 1 are Malformed at the size line with the default cap,
exactly the cap is NeedMore -/
theorem R3_bytes_chunk_demo :
    Http.chunkStep Link.demoChunkOverCap 16777216 {} = .malformed ∧
    Http.chunkStep (Http.ascii "FFFFFFFFFFFFFFFF\r\nhello") 16777216 {} = .malformed ∧
    Http.chunkStep (Http.ascii "1000001\r\nhello") 16777216 {} = .malformed ∧
    Http.chunkStep (Http.ascii "1000000\r\nhello") 16777216 {} = .needMore ∧
    (Http.advanceChunked Link.demoChunkOverCap 16777216 {}).1 = .malformed := by
  have h1 : Http.chunkStep Link.demoChunkOverCap 16777216 {} = .malformed := by decide +kernel
  refine ⟨h1, by decide +kernel, by decide +kernel, by decide +kernel, ?_⟩
  -- the first `chunkStep` is `h1`, and `malformed` ends the loop
  rw [Http.advanceChunked]
  have hl : ({} : Http.ChunkState).pos < Link.demoChunkOverCap.length := by decide +kernel
  simp only [hl, ↓reduceDIte]
  split <;> simp_all

end Iora.C17
