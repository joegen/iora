import IoraModel.Lemmas.DnsTyped
import IoraModel.Lemmas.DnsWork
import IoraModel.Lemmas.DnsCache
import IoraModel.Lemmas.DnsTcp
/-!
# C19 — DNS messages decode exactly or are rejected; cached answers honour TTL

Property theorems, read off the helper lemmas of `Lemmas/Dns*.lean`; the typed-record theorems `N2_typed_*` hold the layout proof of
their own parser, and the statements about the transport callbacks unfold the callback they speak of.  Models: `Model/Dns.lean` (dns_message.hpp),
`Model/DnsCache.lean` (expiring_cache.hpp + dns_cache.hpp), `Model/DnsTransport.lean` and `Model/DnsTcp.lean` (dns_transport.hpp: `processResponse`
and the data callbacks, N6); reference relation: `Spec/DnsWire.lean`; the other predicates the statements use (`QuestionAt`/`RecordAt`, `typedSpec`,
`aRuleFires`, `encodeTxt`, `normQ`, `parseRounds`/`workBound`, `Op.stores`/`Op.touches`, `ValidMsgs`) are defined in the lemma file of their part;
constants, tables and code-shape flags come from the regenerated `Gen/Dns.lean`.
-/
namespace Iora.C19
open Iora Iora.Dns Iora.DnsCache

/-- **N1 (exactly).** `decodeName` answers `ok (n, next)` exactly when a well-formed name with presentation form `n` stands at
`off` and the enclosing structure continues at `next`.  N1a and N1b below are its two directions. -/
theorem N1_exact (m : Bytes) (off : Nat) (n : Bytes) (next : Nat) :
    decodeName m off = .ok (n, next) ↔ ∃ ls, WellFormedName m off ls next ∧ n = dottedName ls :=
  ⟨(decodeName_post m off).of_ok, fun ⟨ls, hw, hn⟩ => hn ▸ decodeName_sound m off ls next hw⟩

/-- **N1a (soundness against RFC 1035, every layout of compression pointers).** If the bytes at `off` are a well-formed name
with labels `ls` — `WellFormedName`: the reference relation `DenotesH` (labels, pointers at any position, pointers to
pointers, forward or backward, anything whose chain is finite), the RFC 1035 §2.3.4 length limit of 255 octets on the wire
including the root label, and at most `maxJumps` = 128 compression pointers followed (the decoder's documented bound; a name
has at most 127 labels and compressors point at labels) — then `decodeName` returns exactly those labels in presentation
form, and the offset at which the enclosing record continues. -/
theorem N1_sound (m : Bytes) (off : Nat) (ls : List Bytes) (next : Nat) (h : WellFormedName m off ls next) :
    decodeName m off = .ok (dottedName ls, next) :=
  decodeName_sound m off ls next h

/-- non-vacuity: `03 'w' 'w' 'w' C0 00` preceded by `01 'a' 00` — a label followed by a pointer to an earlier name -/
example : WellFormedName [1, 97, 0, 3, 119, 119, 119, 192, 0] 3 [[119, 119, 119], [97]] 9 := by
  have h0 : DenotesH [1, 97, 0, 3, 119, 119, 119, 192, 0] 0 [[97]] 3 0 :=
    DenotesH.label (b := 1) (by decide) (by decide) (by decide) (by decide) (DenotesH.root (by decide))
  have h7 : DenotesH [1, 97, 0, 3, 119, 119, 119, 192, 0] 7 [[97]] 9 1 :=
    DenotesH.ptr (b := 192) (b2 := 0) (by decide) (by decide) (by decide) h0
  exact ⟨1, DenotesH.label (b := 3) (by decide) (by decide) (by decide) (by decide) h7, by decide, by decide⟩

/-- **N1b (completeness: exact or rejected).** An `ok` answer of `decodeName` is always a well-formed name the bytes denote, with
exactly the returned labels and continuation offset.  Hence a pointer loop, a pointer outside the message, a label running
past the end and a name without its root label are NEVER accepted (none of them has a derivation). -/
theorem N1_complete (m : Bytes) (off : Nat) (n : Bytes) (next : Nat) (h : decodeName m off = .ok (n, next)) :
    ∃ ls, WellFormedName m off ls next ∧ n = dottedName ls :=
  (decodeName_post m off).of_ok h

/-- the reference relation with and without the pointer count describe the same names -/
theorem N1_denotes_iff (m : Bytes) (off : Nat) (ls : List Bytes) (next : Nat) :
    Denotes m off ls next ↔ ∃ h, DenotesH m off ls next h :=
  ⟨fun h => h.toH, fun ⟨_, h⟩ => h.toDenotes⟩

/-- **N1 (RFC 1035 maximum).** The legal maximum-length name — 255 octets on the wire, labels 63.63.63.61 — is accepted (it was
rejected before the repair of FC19b, which compared the wire length with the presentation-form limit 253). -/
theorem N1_max_length_name_accepted : decodeName longNameMsg 0 = .ok (dottedName longNameLabels, 255) :=
  decodeName_sound _ _ _ _ longName_wellFormed

/-- presentation form: `dottedName` (defined in `Spec/DnsWire.lean` by folding the model's `appendLabel`) is the labels joined by
dots — stated without reference to the model, so the N1 theorems speak of the usual dotted name -/
theorem N1_dotted (l : Bytes) (ls : List Bytes) (hl : l ≠ []) :
    dottedName (l :: ls) = l ++ (ls.map (fun x => (46 : UInt8) :: x)).flatten :=
  joinFrom_nonempty ls l hl

/-- **N1c (encoder).** What `encodeName` accepts and writes: the uncompressed RFC 1035 encoding of the non-empty dot-separated
pieces of the name, every label 1..63 octets, at most 255 octets in all (RFC limit; 253 before the repair of FC19b). -/
theorem N1_encodeName (name w : Bytes) (h : encodeName name = .ok w) :
    w = encodeWire (labelsOf name) ∧ ValidLabels (labelsOf name) ∧ w.length ≤ 255 := by
  obtain ⟨e, hv, hl⟩ := encodeName_ok h
  refine ⟨e, hv, ?_⟩
  rw [e, encodeWire_length]; exact hl

/-- **N1c (encode/decode round trip).** A name accepted by `encodeName`, placed anywhere in a message, decodes to its
non-empty dot-separated pieces joined by dots, and decoding continues right behind it. -/
theorem N1_roundtrip (name w : Bytes) (h : encodeName name = .ok w) (pre post : Bytes) :
    decodeName (pre ++ w ++ post) pre.length = .ok (dottedName (labelsOf name), pre.length + w.length) :=
  decodeName_sound _ _ _ _ (wellFormed_encodeName h (by rw [List.append_assoc, List.drop_left]))

example : encodeName [119, 119, 119, 46, 97] = .ok [3, 119, 119, 119, 1, 97, 0] := rfl

/-- generated-facts conformance (tripwire, `rfl`): `encodeName` tests the 255-octet limit AFTER the root label has been appended
(the model's encoder is DEFINED from this fact; with the test inside the label loop the root octet is not counted, a
256-octet name is emitted, and `N1_encodeName` / `N1_roundtrip` do not build) -/
theorem N1_gen_encode_shape : Gen.Dns.encodeLimitCountsRoot = true := rfl

/-- generated-facts conformance (tripwire, `rfl` on `Gen/Dns.lean`): the decoder counts the root label against a limit of 255,
bounds the compression pointers per name by 128 and treats an unterminated name as an error.  (`Gen.Dns.lowerAsciiOnly` is
deliberately NOT part of it: with `<cctype>` tolower the model's ASCII fold is right in the "C" locale only, and the plugin
then lists that as an assumption of the run.) -/
theorem N1_gen_shape : Gen.Dns.maxName = 255 ∧ Gen.Dns.nameLimitCountsRoot = true ∧ Gen.Dns.hasJumpCap = true ∧
    Gen.Dns.maxJumps = 128 ∧ Gen.Dns.unterminatedIsError = true := ⟨rfl, rfl, rfl, rfl, rfl⟩

/-- **N1q (query round trip).** Every query built by `buildQuery` parses back to its id, RD flag and question list (names
normalised by dropping empty labels), with empty record sections.  The id is the caller's when it is non-zero; for `id = 0`
the code draws one from `generateQueryId()` (an input `generated` of the model) and the round trip holds for that id. -/
theorem N1_query_roundtrip (qs : List Question) (rd : Bool) (id generated : Nat) (w : Bytes)
    (h : buildQuery qs rd id generated = .ok w)
    (hid : (if id = 0 then generated else id) < 65536) (hn : qs.length < 65536) (hq : ∀ q ∈ qs, q.qtype < 65536 ∧ q.qclass < 65536) :
    parse w = .ok { header := { id := if id = 0 then generated else id, qr := false, opcode := 0, aa := false, tc := false,
                                rd := rd, ra := false, z := 0, rcode := 0, qd := qs.length, an := 0, ns := 0, ar := 0 },
                    questions := qs.map normQ } :=
  by
  unfold buildQuery at h
  dsimp only at h
  generalize (if id = 0 then generated else id) = i at h hid ⊢
  split at h
  · cases h
  · rename_i body hb
    cases h
    have hfl : (if rd = true then Gen.Dns.rdFlag else 0) < 65536 := by cases rd <;> decide
    have hh := parseHeader_exact i _ qs.length 0 0 0 body hid hfl hn (by decide) (by decide) (by decide)
    have hqs : parseQuestions _ qs.length 12 [] = .ok (qs.map normQ, 12 + body.length) :=
      parseQuestions_encoded (post := []) qs [] hb hq
        (drop_at (x := be16 i ++ be16 (if rd = true then Gen.Dns.rdFlag else 0) ++ be16 qs.length ++ be16 0 ++ be16 0 ++ be16 0)
          (o := 0) (by rw [List.drop_zero, List.append_nil]))
    generalize be16 i ++ be16 (if rd = true then Gen.Dns.rdFlag else 0) ++ be16 qs.length ++ be16 0 ++ be16 0 ++ be16 0 ++ body = m at *
    unfold parse
    simp only [show ¬ m.length < Gen.Dns.headerSize from Nat.not_lt.mpr (parseHeader_ok_inv hh).1, ↓reduceIte, hh, bind, Except.bind, mkHeader, hqs, parseSection]
    cases rd <;> rfl

example : ∃ w, buildQuery [{ qname := [97, 46, 98], qtype := 33, qclass := 1 }] true 7 = .ok w := ⟨_, rfl⟩

example : ∃ w, buildQuery [{ qname := [97, 46, 98], qtype := 33, qclass := 1 }] true 0 4711 = .ok w := ⟨_, rfl⟩

/-- **N3 (no read outside the buffer).** For ARBITRARY bytes, `parse` never performs an out-of-range read: the explicit
outcome `oob` (every `data[i]` / `rdata[i]` of the model goes through `rd`) is unreachable — in the header, the
questions, the resource records, `validateRdataSecurity`, and every typed RDATA parser including name decoding inside
RDATA. -/
theorem N3_parse_no_oob (m : Bytes) : parse m ≠ .error .oob := (parse_post m).no_oob

/-- N3 for `decodeNameFromRdata` with arbitrary arguments -/
theorem N3_rdataName_no_oob (m : Bytes) (rdStart rdOff : Nat) (r : Bytes) : rdataName m rdStart rdOff r ≠ .error .oob :=
  (rdataName_safe m rdStart rdOff r).no_oob

/-- N3/N4 for the public `decodeNameWithLoopDetection` with ANY caller-supplied visited set: no out-of-range read, fuel never
exhausted (the potential of the start state does not depend on the visited set) -/
theorem N4_name_visited_safe (m : Bytes) (off : Nat) (visited : List Nat) :
    decodeNameVisited m off visited ≠ .error .oob ∧ decodeNameVisited m off visited ≠ .error .fuel :=
  ⟨(decodeNameVisited_post m off visited).no_oob, (decodeNameVisited_post m off visited).no_fuel⟩

/-- with the empty visited set it is `decodeName` -/
theorem N4_name_visited_empty (m : Bytes) (off : Nat) : decodeNameVisited m off [] = decodeName m off := rfl

/-- N3 for the public name decoder, any start offset: the empty visited set of `N4_name_visited_safe` -/
theorem N3_name_no_oob (m : Bytes) (off : Nat) : decodeName m off ≠ .error .oob := (N4_name_visited_safe m off []).1

/-- **N4a (prompt termination of name decoding).** For ARBITRARY bytes and any start offset the loop of
`decodeNameWithLoopDetection` never exhausts its fuel — and the fuel is the CONSTANT 257 (`N4_name_iterations_constant`): each
label adds ≥ 2 to the running length capped at 255, each jump counts against `maxJumps` = 128.  The cost of one name does
not depend on the message (before the repair of FC19c it was bounded only by the number of distinct pointer targets, i.e.
by the message size). -/
theorem N4_name_fuel (m : Bytes) (off : Nat) : decodeName m off ≠ .error .fuel :=
  (N4_name_visited_safe m off []).2

/-- the fuel of the name loop is a constant: the cost of one name does not depend on the message -/
theorem N4_name_iterations_constant (m : Bytes) : nameFuel m = 257 := rfl

/-- **N4b.** The whole parser never exhausts fuel either; everything else in it is structurally bounded by the 16-bit section
counts and the RDATA length. -/
theorem N4_parse_fuel (m : Bytes) : parse m ≠ .error .fuel := (parse_post m).no_fuel

/-- **N4c (loops are always errors).** Whatever `decodeName` accepts has a finite pointer chain (N1b): a name that is a pointer to
itself has no derivation, so it is rejected, at every offset below 2¹⁴. -/
theorem N4_self_pointer_rejected (pre post : Bytes) (hp : pre.length < 16384) :
    ∃ e, decodeName (pre ++ [b8 (192 + pre.length / 256), b8 pre.length] ++ post) pre.length = .error e :=
  by
  have hat : (pre ++ [b8 (192 + pre.length / 256), b8 pre.length] ++ post).drop pre.length =
      [b8 (192 + pre.length / 256), b8 pre.length] ++ post := by rw [List.append_assoc, List.drop_left]
  have hb : (b8 (192 + pre.length / 256)).toNat = 192 + pre.length / 256 := b8_toNat_small (by omega)
  exact decodeName_error (no_self_loop (getElem?_at hat Nat.zero_lt_two) (by omega) (getElem?_at hat Nat.one_lt_two)
    (by rw [hb, b8_toNat]; omega))

/-- **N4c (out-of-range pointers are always errors).** A pointer whose target lies beyond the end of the message starts no
derivation (N1b), so the name is rejected. -/
theorem N4_out_of_range_rejected (m : Bytes) (off : Nat) (b b2 : UInt8) (h0 : m[off]? = some b) (h1 : m[off + 1]? = some b2)
    (hp : 192 ≤ b.toNat) (hr : m.length ≤ (b.toNat % 64) * 256 + b2.toNat) :
    ∃ e, decodeName m off = .error e :=
  decodeName_error (no_far_pointer h0 hp h1 hr)

/-- non-vacuity: `C0 05` in a 2-byte buffer -/
example : ∃ e, decodeName [192, 5] 0 = .error e :=
  N4_out_of_range_rejected [192, 5] 0 192 5 (by decide) (by decide) (by decide) (by decide)

/-- **N4d (message level: rounds).** Whatever the four 16-bit counts of the header claim, `parse` executes at most
`(size + 11) / 5` question / record rounds: an accepted question occupies ≥ 5 bytes, an accepted record ≥ 11, and the first
rejected one ends the parse. -/
theorem N4_message_rounds_linear (m : Bytes) : 5 * parseRounds m ≤ m.length + 11 := parseRounds_linear m

/-- **N4e (message level: total work).** rounds × names per round (3: owner/question name + at most two RDATA names, read off
the model) × iterations per name (257) ≤ `workBound size` = `((size + 11) / 5) · 771` — LINEAR in the message size. -/
theorem N4_message_work_linear (m : Bytes) : parseRounds m * (namesPerRound * nameFuel m) ≤ workBound m.length :=
  by
  rw [N4_name_iterations_constant]
  unfold workBound
  have := N4_message_rounds_linear m
  have h : parseRounds m ≤ (m.length + 11) / 5 := by omega
  exact Nat.mul_le_mul_right _ h

example : workBound 65535 = 10107039 := by decide

/-- **N4f (malformed names INSIDE RDATA).** When the typed parser of a record throws — a pointer loop, an out-of-range pointer,
a truncated name inside RDATA, a wrong RDATA length — the message is NOT rejected: the raw record is kept and the typed
record is silently omitted (`catch (const std::exception &)` in `parseTypedRecord`). -/
theorem N4_rdata_error_drops_typed (m : Bytes) (rr : RR) (o : Nat) (e : Err) (h : typedOf rr m o = .error e) :
    typedSpec m (rr, o) = none :=
  typedSpec_of_error h

set_option maxRecDepth 100000 in
/-- non-vacuity: a CNAME whose RDATA is a pointer to itself -/
example : typedOf { name := [], type := 5, cls := 1, ttl := 1, rdlength := 2, rdata := [192, 0] } [192, 0, 0] 0 = .error .loop := rfl

/-- full-strength statement: the security validation never rejects a well-formed (4-byte) A record -/
def N2_A_statement : Prop :=
  ∀ rr : RR, rr.type = 1 → rr.rdata.length = 4 → validateRdata rr = .ok ()

/-- **partial**: outside the carve-out `aRuleFires` every 4-byte A record passes the validation and its typed form is
exactly its four octets -/
theorem N2_A_partial (rr : RR) (ht : rr.type = 1) (hl : rr.rdata.length = 4) (hk : aRuleFires rr.rdata = false) :
    validateRdata rr = .ok () ∧ parseA rr = .ok (.a rr.name rr.rdata rr.ttl) :=
  ⟨by rw [validateRdata_a rr ht hl, hk]; rfl, parseA_exact rr hl⟩

/-- tightness of the carve-out: every 4-byte A record inside `aRuleFires` IS rejected, so `aRuleFires` is exactly the set lost -/
theorem N2_A_carveout_tight (rr : RR) (ht : rr.type = 1) (hl : rr.rdata.length = 4) (hk : aRuleFires rr.rdata = true) :
    validateRdata rr = .error .malicious :=
  by rw [validateRdata_a rr ht hl, hk]; rfl

example : aRuleFires [192, 64, 0, 0] = false ∧ aRuleFires [10, 0, 0, 1] = false ∧ aRuleFires [192, 32, 0, 0] = true := by decide

/-- **refuted** (finding F13A): `192.32.0.0` is rejected as a "malicious compression pointer" -/
theorem N2_A_refuted : ¬ N2_A_statement := by
  intro h
  have h1 := h { name := [97], type := 1, cls := 1, ttl := 60, rdlength := 4, rdata := [192, 32, 0, 0] } rfl rfl
  rw [N2_A_carveout_tight _ rfl rfl (by decide)] at h1
  cases h1

set_option maxRecDepth 100000 in
/-- the same witness as a complete, well-formed response: rejected as a whole -/
theorem N2_A_witness_rejected :
    parse [0, 1, 129, 128, 0, 0, 0, 1, 0, 0, 0, 0, 1, 97, 0, 0, 1, 0, 1, 0, 0, 0, 60, 0, 4, 192, 32, 0, 0] = .error .malicious := by
  rfl

/-- **N2 (no other record type is ever rejected by the validation).** The validation looks at A records only (F12/F13
repaired): TXT, AAAA and every other type pass whatever bytes their RDATA holds. -/
theorem N2_other_types_pass (rr : RR) (ht : rr.type ≠ 1) : validateRdata rr = .ok () :=
  by
  unfold validateRdata
  rw [if_neg (fun h => ht h.1)]
  rfl

/-- generated-facts conformance (tripwire, `rfl`): `validateRdataSecurity` compares `rr.type` with A only and contains no
`rdata.size() - 1` arithmetic -/
theorem N2_gen_shape : Gen.Dns.validatedTypes = [1] ∧ Gen.Dns.validateHasSizeMinusOne = false := ⟨rfl, rfl⟩

/-- AAAA: any sixteen octets are an address -/
theorem N2_aaaa_exact (rr : RR) (hl : rr.rdata.length = 16) : parseAAAA rr = .ok (.aaaa rr.name rr.rdata rr.ttl) :=
  parseAAAA_exact rr hl

/-- TXT: a sequence of character strings decodes to exactly those strings -/
theorem N2_txt_exact (rr : RR) (ts : List Bytes) (h : ∀ t ∈ ts, t.length < 256) (hr : rr.rdata = encodeTxt ts) :
    parseTxt rr = .ok (.txt rr.name ts rr.ttl) :=
  parseTxt_exact rr ts h hr

/-- non-vacuity: UTF-8 text with bytes ≥ 0xC0 -/
example : encodeTxt [[195, 169], []] = [2, 195, 169, 0] := by decide

/-- **N2 (whole response, names compressed at any position).** A message laid out as RFC 1035 §4.1 prescribes — 12-byte
header, questions, three record sections; EVERY question and owner name a `WellFormedName` (encoded in any way the reference
relation admits — labels, pointers anywhere, chains, forward pointers — within the RFC length limit and the bound of 128
pointers per name; `QuestionAt` / `RecordAt` say exactly this and nothing more) — and in which no record trips the recorded A rule
(`validateRdata = ok`: automatic for every type but A, see `N2_other_types_pass` / `N2_A_partial`), parses to EXACTLY its
header fields, questions and raw resource records; the typed vectors are the per-record typed decodings in order of
appearance (`typedSpec`, characterised per type below). -/
theorem N2_response (id flags : Nat) (rest : Bytes) (qs : List Question) (an ns ar : List (RR × Nat)) (o1 o2 o3 o4 : Nat)
    (h1 : id < 65536) (h2 : flags < 65536) (h3 : qs.length < 65536) (h4 : an.length < 65536) (h5 : ns.length < 65536)
    (h6 : ar.length < 65536)
    (hq : QuestionsAt (be16 id ++ be16 flags ++ be16 qs.length ++ be16 an.length ++ be16 ns.length ++ be16 ar.length ++ rest) 12 qs o1)
    (han : RecordsAt (be16 id ++ be16 flags ++ be16 qs.length ++ be16 an.length ++ be16 ns.length ++ be16 ar.length ++ rest) o1 an o2)
    (hns : RecordsAt (be16 id ++ be16 flags ++ be16 qs.length ++ be16 an.length ++ be16 ns.length ++ be16 ar.length ++ rest) o2 ns o3)
    (har : RecordsAt (be16 id ++ be16 flags ++ be16 qs.length ++ be16 an.length ++ be16 ns.length ++ be16 ar.length ++ rest) o3 ar o4)
    (hval : ∀ p ∈ an ++ ns ++ ar, validateRdata p.1 = .ok ()) :
    parse (be16 id ++ be16 flags ++ be16 qs.length ++ be16 an.length ++ be16 ns.length ++ be16 ar.length ++ rest) =
      .ok { header := mkHeader id flags qs.length an.length ns.length ar.length, questions := qs,
            answers := an.map (·.1), authority := ns.map (·.1), additional := ar.map (·.1),
            typed := (an ++ ns ++ ar).filterMap
              (typedSpec (be16 id ++ be16 flags ++ be16 qs.length ++ be16 an.length ++ be16 ns.length ++ be16 ar.length ++ rest)) } :=
  by
  have hh := parseHeader_exact id flags qs.length an.length ns.length ar.length rest h1 h2 h3 h4 h5 h6
  generalize be16 id ++ be16 flags ++ be16 qs.length ++ be16 an.length ++ be16 ns.length ++ be16 ar.length ++ rest = m at *
  unfold parse
  simp only [show ¬ m.length < Gen.Dns.headerSize from Nat.not_lt.mpr (parseHeader_ok_inv hh).1, ↓reduceIte, hh, bind, Except.bind, mkHeader, parseQuestions_exact hq, List.nil_append,
    parseSection_exact han (fun p hp => hval p (by simp [hp])),
    parseSection_exact hns (fun p hp => hval p (by simp [hp])),
    parseSection_exact har (fun p hp => hval p (by simp [hp])), pure, Except.pure, List.filterMap_append, List.append_assoc]

/-- non-vacuity: a response with question `a A IN` and one answer whose owner name is the pointer `C0 0C` -/
example :
    let rest : Bytes := [1, 97, 0, 0, 1, 0, 1, 192, 12, 0, 1, 0, 1, 0, 0, 0, 60, 0, 4, 10, 0, 0, 1]
    let m : Bytes := be16 1 ++ be16 33152 ++ be16 1 ++ be16 1 ++ be16 0 ++ be16 0 ++ rest
    let rr : RR := { name := [97], type := 1, cls := 1, ttl := 60, rdlength := 4, rdata := [10, 0, 0, 1] }
    QuestionsAt m 12 [{ qname := [97], qtype := 1, qclass := 1 }] 19 ∧ RecordsAt m 19 [(rr, 31)] 35 ∧
      validateRdata rr = .ok () := by
  intro rest m rr
  have d12 : DenotesH m 12 [[97]] 15 0 :=
    DenotesH.label (b := 1) (by decide) (by decide) (by decide) (by decide) (DenotesH.root (by decide))
  have d19 : DenotesH m 19 [[97]] 21 1 := DenotesH.ptr (b := 192) (b2 := 12) (by decide) (by decide) (by decide) d12
  refine ⟨.cons ⟨[[97]], m.take 15, m.drop 19, ⟨0, d12, by decide, by decide⟩, rfl, by decide, by decide, by decide, rfl⟩ (.nil _),
    .cons ⟨[[97]], m.take 21, m.drop 35, ⟨1, d19, by decide, by decide⟩, rfl, by decide, by decide, by decide, by decide, rfl, by decide, rfl, rfl⟩ (.nil _),
    (N2_A_partial rr rfl rfl (by decide)).1⟩

/-- **N2 (names inside RDATA, every compression layout).** If the RDATA (a slice of the message) holds at `rdOff` a well-formed
name with labels `ls` that ends inside the RDATA, `decodeNameFromRdata` returns exactly it and the offset behind it — with NO
side condition on the layout: the root name written as a root label (null MX of RFC 7505, SRV target `.`) and the root name
written as a POINTER to a root label, including a root label that is the very last byte of the message (refused before the
repair of FC19f, whose guard asked for `pointer + 1 < messageSize`). -/
theorem N2_rdata_name (m r : Bytes) (rdStart rdOff nx : Nat) (ls : List Bytes)
    (hr : r = slice m rdStart r.length) (hoff : rdOff < r.length)
    (hd : WellFormedName m (rdStart + rdOff) ls (rdStart + nx)) (hnx : nx ≤ r.length) :
    rdataName m rdStart rdOff r = .ok (dottedName ls, nx) :=
  rdataName_exact m r rdStart rdOff nx ls hr hd hnx

/-- non-vacuity: name `a` at 0, and RDATA `C0 00` at 3 -/
example : rdataName [1, 97, 0, 192, 0] 3 0 [192, 0] = .ok (dottedName [[97]], 2) := by
  have h0 : DenotesH [1, 97, 0, 192, 0] 0 [[97]] 3 0 :=
    DenotesH.label (b := 1) (by decide) (by decide) (by decide) (by decide) (DenotesH.root (by decide))
  exact N2_rdata_name [1, 97, 0, 192, 0] [192, 0] 3 0 2 [[97]] (by decide) (by decide)
    ⟨1, DenotesH.ptr (b := 192) (b2 := 0) (by decide) (by decide) (by decide) h0, by decide, by decide⟩ (by decide)

/-- non-vacuity, the FC19f shape: RDATA `C0 04` at 0 is a FORWARD pointer to the root label that is the LAST byte of the message -/
example : rdataName [192, 4, 7, 7, 0] 0 0 [192, 4] = .ok (dottedName [], 2) :=
  N2_rdata_name [192, 4, 7, 7, 0] [192, 4] 0 0 2 [] (by decide) (by decide)
    ⟨1, DenotesH.ptr (b := 192) (b2 := 4) (by decide) (by decide) (by decide) (DenotesH.root (by decide)), by decide, by decide⟩ (by decide)

/-- generated-facts conformance (tripwire, `rfl`): the direct-pointer branch of `decodeNameFromRdata` accepts every target
inside the message (margin 0); on a tree with the old `pointer + 1 < messageSize` test this — and `N2_rdata_name` — do not build. -/
theorem N2_gen_rdata_pointer : Gen.Dns.rdataPointerMargin = 0 := rfl

/-! **N2 (typed records).** Exact typed decoding per record type: A and AAAA for arbitrary octets, TXT for arbitrary
character strings, CNAME / PTR / MX / SRV with the embedded name compressed in any way (root target included when written as
a root label or as a pointer to one), SOA with both names compressed in any way and arbitrary numbers; types without a typed
parser (NS, OPT, unknown) yield no typed record. -/

/-- A: any four octets -/
theorem N2_typed_a (m : Bytes) (rr : RR) (o : Nat) (ht : rr.type = 1) (hl : rr.rdata.length = 4) :
    typedSpec m (rr, o) = some (.a rr.name rr.rdata rr.ttl) :=
  typedSpec_of (by rw [typedOf_a m o ht, parseA_exact rr hl]; rfl)

/-- AAAA: any sixteen octets -/
theorem N2_typed_aaaa (m : Bytes) (rr : RR) (o : Nat) (ht : rr.type = 28) (hl : rr.rdata.length = 16) :
    typedSpec m (rr, o) = some (.aaaa rr.name rr.rdata rr.ttl) :=
  typedSpec_of (by rw [typedOf_aaaa m o ht, parseAAAA_exact rr hl]; rfl)

/-- TXT: any sequence of character strings -/
theorem N2_typed_txt (m : Bytes) (rr : RR) (o : Nat) (ts : List Bytes) (ht : rr.type = 16) (h : ∀ t ∈ ts, t.length < 256)
    (hr : rr.rdata = encodeTxt ts) : typedSpec m (rr, o) = some (.txt rr.name ts rr.ttl) :=
  typedSpec_of (by rw [typedOf_txt m o ht, parseTxt_exact rr ts h hr]; rfl)

/-- CNAME: the RDATA is a name, compressed in any way -/
theorem N2_typed_cname (m : Bytes) (rr : RR) (o : Nat) (ls : List Bytes) (ht : rr.type = 5)
    (hr : rr.rdata = slice m o rr.rdata.length) (hd : WellFormedName m o ls (o + rr.rdata.length)) :
    typedSpec m (rr, o) = some (.cname rr.name (dottedName ls) rr.ttl) :=
  have e : parseCname rr m o = .ok _ := nameRecord_exact (.cname rr.name · rr.ttl) hr hd
  typedSpec_of (by rw [typedOf_cname m o ht, e]; rfl)

/-- PTR: the RDATA is a name, compressed in any way -/
theorem N2_typed_ptr (m : Bytes) (rr : RR) (o : Nat) (ls : List Bytes) (ht : rr.type = 12)
    (hr : rr.rdata = slice m o rr.rdata.length) (hd : WellFormedName m o ls (o + rr.rdata.length)) :
    typedSpec m (rr, o) = some (.ptr rr.name (dottedName ls) rr.ttl) :=
  have e : parsePtr rr m o = .ok _ := nameRecord_exact (.ptr rr.name · rr.ttl) hr hd
  typedSpec_of (by rw [typedOf_ptr m o ht, e]; rfl)

/-- MX: preference, then a name compressed in any way -/
theorem N2_typed_mx (m : Bytes) (rr : RR) (o : Nat) (ls : List Bytes) (pref : Nat) (ht : rr.type = 15)
    (hr : rr.rdata = slice m o rr.rdata.length) (hp : rd16 rr.rdata 0 = .ok pref) (hlen : 2 < rr.rdata.length)
    (hd : WellFormedName m (o + 2) ls (o + rr.rdata.length)) :
    typedSpec m (rr, o) = some (.mx rr.name pref (dottedName ls) rr.ttl) := by
  have := rdataName_exact m rr.rdata o 2 rr.rdata.length ls hr hd (Nat.le_refl _)
  exact typedSpec_of (by
    rw [typedOf_mx m o ht]
    simp [parseMx, this, Except.map, Gen.Dns.minMx, show ¬ rr.rdata.length < 2 by omega, hp, hlen, bind,
      Except.bind, pure, Except.pure])

/-- SRV: priority, weight, port, then a name compressed in any way -/
theorem N2_typed_srv (m : Bytes) (rr : RR) (o : Nat) (ls : List Bytes) (prio weight port : Nat) (ht : rr.type = 33)
    (hr : rr.rdata = slice m o rr.rdata.length) (h0 : rd16 rr.rdata 0 = .ok prio) (h2 : rd16 rr.rdata 2 = .ok weight)
    (h4 : rd16 rr.rdata 4 = .ok port) (hlen : 6 < rr.rdata.length)
    (hd : WellFormedName m (o + 6) ls (o + rr.rdata.length)) :
    typedSpec m (rr, o) = some (.srv rr.name prio weight port (dottedName ls) rr.ttl) := by
  have := rdataName_exact m rr.rdata o 6 rr.rdata.length ls hr hd (Nat.le_refl _)
  exact typedSpec_of (by
    rw [typedOf_srv m o ht]
    simp [parseSrv, this, Except.map, Gen.Dns.minSrv, show ¬ rr.rdata.length < 6 by omega, h0, h2, h4, hlen,
      bind, Except.bind, pure, Except.pure])

/-- non-vacuity: CNAME and PTR whose RDATA is `C0 00` → `a`; the null MX `0 .` of RFC 7505; an SRV record with target `.` -/
example : typedSpec [1, 97, 0, 192, 0] ({ name := [], type := 5, cls := 1, ttl := 9, rdlength := 2, rdata := [192, 0] }, 3) =
    some (.cname [] (dottedName [[97]]) 9) := by
  have h0 : DenotesH [1, 97, 0, 192, 0] 0 [[97]] 3 0 :=
    DenotesH.label (b := 1) (by decide) (by decide) (by decide) (by decide) (DenotesH.root (by decide))
  exact N2_typed_cname _ _ 3 [[97]] rfl (by decide)
    ⟨1, DenotesH.ptr (b := 192) (b2 := 0) (by decide) (by decide) (by decide) h0, by decide, by decide⟩

example : typedSpec [1, 97, 0, 192, 0] ({ name := [], type := 12, cls := 1, ttl := 9, rdlength := 2, rdata := [192, 0] }, 3) =
    some (.ptr [] (dottedName [[97]]) 9) := by
  have h0 : DenotesH [1, 97, 0, 192, 0] 0 [[97]] 3 0 :=
    DenotesH.label (b := 1) (by decide) (by decide) (by decide) (by decide) (DenotesH.root (by decide))
  exact N2_typed_ptr _ _ 3 [[97]] rfl (by decide)
    ⟨1, DenotesH.ptr (b := 192) (b2 := 0) (by decide) (by decide) (by decide) h0, by decide, by decide⟩

example : typedSpec [0, 0, 0] ({ name := [], type := 15, cls := 1, ttl := 9, rdlength := 3, rdata := [0, 0, 0] }, 0) =
    some (.mx [] 0 (dottedName []) 9) :=
  N2_typed_mx _ _ 0 [] 0 rfl (by decide) rfl (by decide) ⟨0, DenotesH.root (by decide), by decide, by decide⟩

example : typedSpec [0, 1, 0, 2, 0, 3, 0] ({ name := [], type := 33, cls := 1, ttl := 9, rdlength := 7, rdata := [0, 1, 0, 2, 0, 3, 0] }, 0) =
    some (.srv [] 1 2 3 (dottedName []) 9) :=
  N2_typed_srv _ _ 0 [] 1 2 3 rfl (by decide) rfl rfl rfl (by decide) ⟨0, DenotesH.root (by decide), by decide, by decide⟩

/-- **N2 (typed SOA).** MNAME and RNAME each compressed in any way the reference relation admits (root, pointer to root,
chains, forward pointers), followed by exactly the five 32-bit numbers: the typed SOA record is exactly those two names and
those five numbers — in particular MINIMUM, on which the negative-caching TTL rests (`N5_negative_ttl_le_soa`). -/
theorem N2_typed_soa (m : Bytes) (rr : RR) (o : Nat) (ls1 ls2 : List Bytes) (n1 n2 : Nat)
    (serial refresh retry expire minimum : Nat) (ht : rr.type = 6)
    (hr : rr.rdata = slice m o rr.rdata.length)
    (hd1 : WellFormedName m o ls1 (o + n1)) (hd2 : WellFormedName m (o + n1) ls2 (o + n2))
    (hlen : rr.rdata.length = n2 + 20)
    (h0 : rd32 rr.rdata n2 = .ok serial) (h1 : rd32 rr.rdata (n2 + 4) = .ok refresh)
    (h2 : rd32 rr.rdata (n2 + 8) = .ok retry) (h3 : rd32 rr.rdata (n2 + 12) = .ok expire)
    (h4 : rd32 rr.rdata (n2 + 16) = .ok minimum) :
    typedSpec m (rr, o) = some (.soa rr.name (dottedName ls1) (dottedName ls2) serial refresh retry expire minimum rr.ttl) := by
  apply typedSpec_of
  have hpos2 := lt_next_of_wellFormed hd2
  have hn1 : n1 < rr.rdata.length := by omega
  have e1 := rdataName_exact m rr.rdata o 0 n1 ls1 hr (by simpa using hd1) (by omega)
  have e2 := rdataName_exact m rr.rdata o n1 n2 ls2 hr hd2 (by omega)
  rw [typedOf_soa m o ht]
  simp [parseSoa, e1, e2, Except.map, Gen.Dns.minSoa, Gen.Dns.soaTail,
    show ¬ rr.rdata.length < 20 by omega, hn1, show ¬ n2 + 20 > rr.rdata.length by omega,
    h0, h1, h2, h3, h4, bind, Except.bind, pure, Except.pure]

/-- non-vacuity: both names the root, written out -/
example :
    typedSpec ([0, 0] ++ [0,0,0,1, 0,0,0,2, 0,0,0,3, 0,0,0,4, 0,0,0,5])
      ({ name := [], type := 6, cls := 1, ttl := 9, rdlength := 22,
         rdata := [0, 0] ++ [0,0,0,1, 0,0,0,2, 0,0,0,3, 0,0,0,4, 0,0,0,5] }, 0) =
      some (.soa [] (dottedName []) (dottedName []) 1 2 3 4 5 9) :=
  N2_typed_soa _ _ 0 [] [] 1 2 1 2 3 4 5 rfl (by decide)
    ⟨0, DenotesH.root (by decide), by decide, by decide⟩
    ⟨0, DenotesH.root (by decide), by decide, by decide⟩ (by decide) rfl rfl rfl rfl rfl

/-- non-vacuity with a compressed RNAME: MNAME = `a.` written out at 0..3, RNAME = pointer to offset 0; the five reads by evaluation -/
example :
    typedSpec ([1, 97, 0, 192, 0] ++ be32 1 ++ be32 2 ++ be32 3 ++ be32 4 ++ be32 4294967295)
      ({ name := [], type := 6, cls := 1, ttl := 9, rdlength := 25,
         rdata := [1, 97, 0, 192, 0] ++ be32 1 ++ be32 2 ++ be32 3 ++ be32 4 ++ be32 4294967295 }, 0) =
      some (.soa [] (dottedName [[97]]) (dottedName [[97]]) 1 2 3 4 4294967295 9) := by
  have hA : DenotesH ([1, 97, 0, 192, 0] ++ be32 1 ++ be32 2 ++ be32 3 ++ be32 4 ++ be32 4294967295) 0 [[97]] 3 0 :=
    DenotesH.label (b := 1) (by decide) (by decide) (by decide) (by decide) (DenotesH.root (by decide))
  exact N2_typed_soa _ _ 0 [[97]] [[97]] 3 5 1 2 3 4 4294967295 rfl (by decide)
    ⟨0, hA, by decide, by decide⟩
    ⟨1, DenotesH.ptr (b := 192) (b2 := 0) (by decide) (by decide) (by decide) hA, by decide, by decide⟩
    (by decide) rfl rfl rfl rfl rfl

/-- the same with the five numbers given as values: RDATA = (two names) ++ be32 serial ++ … ++ be32 minimum -/
theorem N2_typed_soa_values (m : Bytes) (rr : RR) (o : Nat) (ls1 ls2 : List Bytes) (n1 n2 : Nat) (pre : Bytes)
    (serial refresh retry expire minimum : Nat) (ht : rr.type = 6)
    (hr : rr.rdata = slice m o rr.rdata.length)
    (hd1 : WellFormedName m o ls1 (o + n1)) (hd2 : WellFormedName m (o + n1) ls2 (o + n2))
    (hpre : pre.length = n2)
    (hrd : rr.rdata = pre ++ be32 serial ++ be32 refresh ++ be32 retry ++ be32 expire ++ be32 minimum)
    (b0 : serial < 4294967296) (b1 : refresh < 4294967296) (b2 : retry < 4294967296)
    (b3 : expire < 4294967296) (b4 : minimum < 4294967296) :
    typedSpec m (rr, o) = some (.soa rr.name (dottedName ls1) (dottedName ls2) serial refresh retry expire minimum rr.ttl) := by
  have d0 : rr.rdata.drop n2 = be32 serial ++ (be32 refresh ++ (be32 retry ++ (be32 expire ++ (be32 minimum ++ [])))) := by
    rw [hrd, ← hpre]; simp only [List.append_assoc, List.drop_left, List.append_nil]
  have d4 : rr.rdata.drop (n2 + 4) = _ := drop_at d0
  have d8 : rr.rdata.drop (n2 + 8) = _ := drop_at d4
  have d12 : rr.rdata.drop (n2 + 12) = _ := drop_at d8
  have d16 : rr.rdata.drop (n2 + 16) = _ := drop_at d12
  exact N2_typed_soa m rr o ls1 ls2 n1 n2 serial refresh retry expire minimum ht hr hd1 hd2
    (by rw [hrd]; simp only [List.length_append, be32_length, hpre])
    (rd32_at d0 b0) (rd32_at d4 b1) (rd32_at d8 b2) (rd32_at d12 b3) (rd32_at d16 b4)

/-- non-vacuity: MNAME `a` written out, RNAME a pointer to it, MINIMUM = 2³²−1 -/
example : typedSpec ([1, 97, 0, 192, 0] ++ be32 1 ++ be32 2 ++ be32 3 ++ be32 4 ++ be32 4294967295)
    ({ name := [], type := 6, cls := 1, ttl := 9, rdlength := 25,
       rdata := [1, 97, 0, 192, 0] ++ be32 1 ++ be32 2 ++ be32 3 ++ be32 4 ++ be32 4294967295 }, 0) =
    some (.soa [] (dottedName [[97]]) (dottedName [[97]]) 1 2 3 4 4294967295 9) := by
  have h0 : DenotesH ([1, 97, 0, 192, 0] ++ be32 1 ++ be32 2 ++ be32 3 ++ be32 4 ++ be32 4294967295) 0 [[97]] 3 0 :=
    DenotesH.label (b := 1) (by decide) (by decide) (by decide) (by decide) (DenotesH.root (by decide))
  exact N2_typed_soa_values _ _ 0 [[97]] [[97]] 3 5 [1, 97, 0, 192, 0] 1 2 3 4 4294967295 rfl (by decide)
    ⟨0, h0, by decide, by decide⟩
    ⟨1, DenotesH.ptr (b := 192) (b2 := 0) (by decide) (by decide) (by decide) h0, by decide, by decide⟩
    rfl rfl (by decide) (by decide) (by decide) (by decide) (by decide)

/-- **N2 (typed NAPTR).** ORDER, PREFERENCE, the three character strings FLAGS / SERVICES / REGEXP (arbitrary octets, each
shorter than 256) and the REPLACEMENT name compressed in any way: the typed NAPTR record is exactly those. -/
theorem N2_typed_naptr (m : Bytes) (rr : RR) (o : Nat) (ls : List Bytes) (order pref : Nat)
    (flags service regexp : Bytes) (tail : Bytes) (ht : rr.type = 35)
    (hr : rr.rdata = slice m o rr.rdata.length)
    (ho : order < 65536) (hp : pref < 65536)
    (hf : flags.length < 256) (hsv : service.length < 256) (hre : regexp.length < 256)
    (hrd : rr.rdata = be16 order ++ be16 pref ++ (b8 flags.length :: flags) ++ (b8 service.length :: service) ++
      (b8 regexp.length :: regexp) ++ tail)
    (htail : 0 < tail.length)
    (hd : WellFormedName m (o + (7 + flags.length + service.length + regexp.length)) ls (o + rr.rdata.length)) :
    typedSpec m (rr, o) = some (.naptr rr.name order pref flags service regexp (dottedName ls) rr.ttl) := by
  apply typedSpec_of
  have d0 : rr.rdata.drop 0 = be16 order ++ (be16 pref ++ (b8 flags.length :: (flags ++ (b8 service.length :: (service ++
      (b8 regexp.length :: (regexp ++ tail))))))) := by
    rw [hrd]; simp only [List.drop_zero, List.append_assoc, List.cons_append]
  have d2 : rr.rdata.drop 2 = _ := drop_at d0
  have d4 : rr.rdata.drop 4 = _ := drop_at d2
  have d5 : rr.rdata.drop (4 + 1 + flags.length) = _ := drop_at (drop_at (x := [_]) d4)
  have d6 : rr.rdata.drop (4 + 1 + flags.length + 1 + service.length) = _ := drop_at (drop_at (x := [_]) d5)
  have d7 : rr.rdata.drop (4 + 1 + flags.length + 1 + service.length + 1) = regexp ++ tail := drop_at (x := [_]) d6
  have hlen := length_at d7 (lt_length_at d6)
  have e7 : 4 + 1 + flags.length + 1 + service.length + 1 + regexp.length = 7 + flags.length + service.length + regexp.length := by
    omega
  have ho3 : 4 + 1 + flags.length + 1 + service.length + 1 + regexp.length < rr.rdata.length := by omega
  rw [typedOf_naptr m o ht]
  unfold parseNaptr
  simp [Except.map, Gen.Dns.minNaptr, show ¬ rr.rdata.length < 4 by omega, bind, Except.bind, pure, Except.pure,
    rd16_at d0 ho, rd16_at d2 hp, naptrString_exact d4 hf, naptrString_exact d5 hsv, naptrString_exact d6 hre, ho3,
    rdataName_exact m rr.rdata o _ rr.rdata.length ls hr (e7 ▸ hd) (Nat.le_refl _)]

/-- non-vacuity: order 10, preference 20, flags "S", empty services and regexp, replacement `.` -/
example :
    typedSpec (be16 10 ++ be16 20 ++ [1, 83] ++ [0] ++ [0] ++ [0])
      ({ name := [], type := 35, cls := 1, ttl := 9, rdlength := 9, rdata := be16 10 ++ be16 20 ++ [1, 83] ++ [0] ++ [0] ++ [0] }, 0) =
      some (.naptr [] 10 20 [83] [] [] (dottedName []) 9) :=
  N2_typed_naptr _ _ 0 [] 10 20 [83] [] [] [0] rfl (by decide) (by decide) (by decide) (by decide) (by decide) (by decide) (by decide)
    (by decide) ⟨0, DenotesH.root (by decide), by decide, by decide⟩

/-- generated-facts conformance (tripwire): the record-type numbers the model's `switch` is written with are the values of
`enum class DnsType`, and `IN` = 1 -/
theorem N2_gen_type_numbers :
    Gen.Dns.types.lookup "A" = some 1 ∧ Gen.Dns.types.lookup "AAAA" = some 28 ∧ Gen.Dns.types.lookup "SRV" = some 33 ∧
    Gen.Dns.types.lookup "NAPTR" = some 35 ∧ Gen.Dns.types.lookup "CNAME" = some 5 ∧ Gen.Dns.types.lookup "MX" = some 15 ∧
    Gen.Dns.types.lookup "TXT" = some 16 ∧ Gen.Dns.types.lookup "PTR" = some 12 ∧ Gen.Dns.types.lookup "SOA" = some 6 ∧
    Gen.Dns.types.lookup "NS" = some 2 ∧ Gen.Dns.classes.lookup "IN" = some 1 := by decide

/-- record types without a typed parser yield no typed record -/
theorem N2_typed_none (m : Bytes) (rr : RR) (o : Nat) (ht : Gen.Dns.typedTypes.contains rr.type = false) :
    typedSpec m (rr, o) = none :=
  typedSpec_of (by unfold typedOf; simp only [ht, Bool.not_false, ↓reduceIte]; rfl)

/-- **N6a (containment).** For ARBITRARY bytes and any set of pending queries `processResponse` ends normally: every exception
of the parser is caught, and (N3) nothing that is not an exception can happen. -/
theorem N6_contained (pending : List Nat) (data : Bytes) : ∃ out, DnsTransport.processResponse pending data = .ok out :=
  DnsTransport.processResponse_total pending data

/-- **N6b.** A rejected message of at least two bytes completes exactly the pending query whose id is those two bytes — with a
parse error — and leaves every other pending query alone; a shorter one completes nothing. -/
theorem N6_error_completes_by_first_two_bytes (pending : List Nat) (data : Bytes) (e : Err) (he : parse data = .error e)
    (h2 : 2 ≤ data.length) :
    ∃ b0 b1 : UInt8, data[0]? = some b0 ∧ data[1]? = some b1 ∧
      DnsTransport.processResponse pending data =
        .ok (if pending.contains (b0.toNat * 256 + b1.toNat) then some (.parseError (b0.toNat * 256 + b1.toNat)) else none,
             pending.filter (· ≠ b0.toNat * 256 + b1.toNat)) :=
  ⟨data[0], data[1], List.getElem?_eq_getElem (by omega), List.getElem?_eq_getElem (by omega), by
    rw [DnsTransport.processResponse_error pending he, dif_pos h2]⟩

set_option maxRecDepth 100000 in
/-- non-vacuity of N6a/N6b: a message with a self-pointing question name, pending queries 0x1234 and 7 -/
example : DnsTransport.processResponse [4660, 7] [18, 52, 129, 128, 0, 1, 0, 0, 0, 0, 0, 0, 192, 12, 0, 1, 0, 1] =
    .ok (some (.parseError 4660), [7]) := rfl

/-- **N6c.** An accepted message completes the pending query whose id is its first two bytes, with the parsed result. -/
theorem N6_ok_completes (pending : List Nat) (data : Bytes) (r : Result) (h : parse data = .ok r) :
    rd16 data 0 = .ok r.header.id ∧
    DnsTransport.processResponse pending data =
      .ok (if pending.contains r.header.id then some (.result r.header.id r) else none, pending.filter (· ≠ r.header.id)) :=
  ⟨(parse_post data).of_ok h, DnsTransport.processResponse_ok pending h⟩

set_option maxRecDepth 100000 in
/-- non-vacuity of N6c: an accepted message -/
example : ∃ r, parse [18, 52, 129, 128, 0, 0, 0, 0, 0, 0, 0, 0] = .ok r ∧
    DnsTransport.processResponse [4660, 7] [18, 52, 129, 128, 0, 0, 0, 0, 0, 0, 0, 0] = .ok (some (.result 4660 r), [7]) := ⟨_, rfl, rfl⟩

/-- full-strength statement one would want at this seam (RFC 5452 §9.1): a response is accepted for a pending query only if
its question section is the question that was asked -/
def N6_question_checked_statement : Prop :=
  ∀ (pending : List Nat) (data : Bytes) (r : Result) (asked : Question),
    parse data = .ok r → r.questions ≠ [asked] → ∀ out, DnsTransport.processResponse pending data = .ok out → out.1.isNone

set_option maxRecDepth 100000 in
/-- **refuted** (finding FC19e): `processResponse` keys the pending query by (id, server, port) only; neither it nor
`DnsResolver::query/queryAsync` compare `result.questions` with the request before `cache_->put(question, result)`.  A
response with the right 16-bit id but another (here: no) question completes the query and is cached under the ASKED key. -/
theorem N6_question_checked_refuted : ¬ N6_question_checked_statement := by
  intro h
  have h1 := h [4660] [18, 52, 129, 128, 0, 0, 0, 0, 0, 0, 0, 0] _ { qname := [97], qtype := 1, qclass := 1 } rfl
    (by intro hc; cases hc) _ rfl
  cases h1

/-- **N6t (every segmentation).** Take any list of messages, each non-empty, at most 65535 bytes and within the configured
buffer limit, written to the stream as RFC 1035 §4.2.2 prescribes (two-byte length, then the message).  However the stream
is cut into reads — inside a length prefix, inside a message, several messages in one read, empty reads — `handleTcpData`
hands `processResponse` EXACTLY those messages, in order, each with exactly its own bytes, never closes the session and ends
with an empty buffer; provided no single read trips the growth check `buffer.size() + data.size() > maxTcpBufferSize`
(`Fits`, which is a statement about the reads, not about the messages; `N6_tcp_segmentation_small` replaces it by "the whole
stream is no longer than the limit"). -/
theorem N6_tcp_segmentation (cap : Nat) (ms : List Bytes) (hv : DnsTcp.ValidMsgs cap ms) (ss : List Bytes)
    (hflat : ss.flatten = DnsTcp.tcpStream ms) (hfit : DnsTcp.Fits cap [] ss) :
    DnsTcp.tcpFeed cap [] ss = (ms.map DnsTcp.Ev.msg, []) :=
  DnsTcp.tcpFeed_segmentation cap ms hv ss hflat hfit

theorem N6_tcp_segmentation_small (cap : Nat) (ms : List Bytes) (hv : DnsTcp.ValidMsgs cap ms) (ss : List Bytes)
    (hflat : ss.flatten = DnsTcp.tcpStream ms) (hsmall : (DnsTcp.tcpStream ms).length ≤ cap) :
    DnsTcp.tcpFeed cap [] ss = (ms.map DnsTcp.Ev.msg, []) :=
  DnsTcp.tcpFeed_segmentation_small cap ms hv ss hflat hsmall

/-- non-vacuity: two messages cut inside the first length prefix and with the second message sharing a read with the tail of the first -/
example : DnsTcp.tcpFeed 64 [] [[0], [3, 1, 2], [3, 0, 1, 9]] = ([.msg [1, 2, 3], .msg [9]], []) :=
  N6_tcp_segmentation_small 64 [[1, 2, 3], [9]] (by decide) [[0], [3, 1, 2], [3, 0, 1, 9]] (by decide) (by decide)

/-- **N6t (exact size, no over-read).** Whatever is in the buffer, a message handed out by one round of the loop is exactly
the `len` bytes behind the two-byte prefix that announces `len`, lies completely inside the buffer, `0 < len ≤ 65535`,
`len ≤ maxTcpBufferSize`, and exactly `2 + len` bytes are popped. -/
theorem N6_tcp_exact_size (cap : Nat) (d : Bytes) (a : DnsTcp.Ev) (n : Nat) (h : DnsTcp.frameAt cap d = .frame a n) :
    ∃ b0 b1 rest, d = b0 :: b1 :: rest ∧ n = 2 + (b0.toNat * 256 + b1.toNat) ∧
      a = .msg (rest.take (b0.toNat * 256 + b1.toNat)) ∧ b0.toNat * 256 + b1.toNat ≤ rest.length ∧
      0 < b0.toNat * 256 + b1.toNat ∧ b0.toNat * 256 + b1.toNat ≤ cap :=
  have ⟨b0, b1, rest, h1, h2, h3, h4, h5, h6, _⟩ := DnsTcp.frameAt_frame_inv cap d a n h
  ⟨b0, b1, rest, h1, h2, h3, h4, h5, h6⟩

/-- the loop of `handleTcpData` IS the generic greedy drain of `Common/Framing` over the stable parser `frameAt` (stable on
every buffer: its verdict depends on the two prefix bytes and on whether enough bytes are present) -/
theorem N6_tcp_loop_is_drain (cap f : Nat) (d : Bytes) :
    DnsTcp.tcpLoop cap f d = ((Framing.drainF (DnsTcp.tcpParser cap) f d).1, DnsTcp.carryBuf (Framing.drainF (DnsTcp.tcpParser cap) f d).2) :=
  DnsTcp.tcpLoop_eq_drainF_carryBuf cap f d

/-- a zero length prefix clears the buffer and closes the session -/
theorem N6_tcp_zero_length_closes (cap : Nat) (rest : Bytes) (h : 2 + rest.length ≤ cap) :
    DnsTcp.tcpData cap [] (0 :: 0 :: rest) = ([.close], []) :=
  DnsTcp.tcpData_zero_length cap [] _ rest rfl (by simp only [List.length_nil, List.length_cons]; omega)

/-- a read that would grow the buffer beyond the limit clears it and closes the session -/
theorem N6_tcp_overflow_closes (cap : Nat) (buf data : Bytes) (h : buf.length + data.length > cap) :
    DnsTcp.tcpData cap buf data = ([.close], []) := by
  unfold DnsTcp.tcpData
  rw [if_pos h]

/-- **N6t (containment at the callbacks).** For ARBITRARY bytes, session ids, buffers, session tables and pending sets the
complete data callback `handleTcpData` ends normally. -/
theorem N6_tcp_contained (cap : Nat) (st : DnsTcp.TSt) (sid : Nat) (data : Bytes) : ∃ out, DnsTcp.handleTcpData cap st sid data = .ok out :=
  by
  unfold DnsTcp.handleTcpData
  simp only
  obtain ⟨⟨o, p⟩, h⟩ := DnsTcp.deliver_total sid (DnsTcp.lookup sid st.sessions)
    (DnsTcp.tcpData cap (DnsTcp.bufOf sid st.bufs) data).1 st.pending
  rw [h]
  exact ⟨_, rfl⟩

/-- **N6t (containment)** for `handleUdpData` -/
theorem N6_udp_contained (st : DnsTcp.TSt) (sid : Nat) (data : Bytes) : ∃ out, DnsTcp.handleUdpData st sid data = .ok out :=
  by
  unfold DnsTcp.handleUdpData
  cases DnsTcp.lookup sid st.sessions with
  | none => exact ⟨_, rfl⟩
  | some s =>
    obtain ⟨⟨c, p⟩, h⟩ := DnsTcp.respond_total st.pending s data
    simp only [h]
    exact ⟨_, rfl⟩

/-- **N6t (containment)** for `handleUdpData` in transport mode Both (truncation → TCP fallback) -/
theorem N6_udp_both_contained (st : DnsTcp.TSt) (sid : Nat) (data : Bytes) : ∃ out, DnsTcp.handleUdpDataBoth st sid data = .ok out :=
  by
  unfold DnsTcp.handleUdpDataBoth
  cases DnsTcp.lookup sid st.sessions with
  | none => exact ⟨_, rfl⟩
  | some s =>
    obtain ⟨⟨c, p⟩, h⟩ := DnsTcp.respond_total st.pending s data
    simp only [h]
    split
    · split
      · split <;> exact ⟨_, rfl⟩
      · exact ⟨_, rfl⟩
    · exact ⟨_, rfl⟩

/-- **N6f (truncated UDP answer, transport mode Both).** A truncated answer (TC = 1) for a pending query that has not fallen back
yet completes NOTHING — the pending set is unchanged, the query is marked and re-sent over TCP exactly once (a second truncated
answer then completes it the normal way: the flag is set). -/
theorem N6_tc_falls_back_once (st : DnsTcp.TSt) (sid s : Nat) (data : Bytes) (r : Result) (hs : DnsTcp.lookup sid st.sessions = some s)
    (hp : parse data = .ok r) (htc : r.header.tc = true) (hpend : st.pending.contains (r.header.id, s) = true)
    (hfb : st.fallback.contains (r.header.id, s) = false) :
    ∃ t st', DnsTcp.handleUdpDataBoth st sid data = .ok ([.resent r.header.id s t], st') ∧ st'.pending = st.pending ∧
      st'.fallback = (r.header.id, s) :: st.fallback :=
  by
  unfold DnsTcp.handleUdpDataBoth
  simp only [hs, hp, htc, hpend, hfb, and_self, Bool.false_eq_true, not_false_eq_true, ↓reduceIte]
  cases ht : DnsTcp.lookup s st.tcpSess with
  | some t => exact ⟨t, _, rfl, rfl, rfl⟩
  | none => exact ⟨st.nextSid, _, rfl, rfl, rfl⟩

set_option maxRecDepth 100000 in
/-- non-vacuity: id 0x1234 pending at server 0, session 5 belongs to server 0, the 12-byte answer has TC set (flags 0x8380) -/
example : ∃ t st', DnsTcp.handleUdpDataBoth { sessions := [(5, 0)], pending := [(4660, 0)] } 5 [18, 52, 131, 128, 0, 0, 0, 0, 0, 0, 0, 0] =
    .ok ([.resent 4660 0 t], st') ∧ st'.pending = [(4660, 0)] ∧ st'.fallback = [(4660, 0)] := by
  obtain ⟨t, st', h1, h2, h3⟩ := N6_tc_falls_back_once { sessions := [(5, 0)], pending := [(4660, 0)] } 5 0
    [18, 52, 131, 128, 0, 0, 0, 0, 0, 0, 0, 0] { header := ⟨4660, true, 0, false, true, true, true, 0, 0, 0, 0, 0, 0⟩ } rfl rfl rfl rfl rfl
  exact ⟨t, st', h1, h2, h3⟩

/-- **N6s (server and port are part of the key).** A response arriving from server:port `s` leaves every pending query that
was sent to ANOTHER server:port pending, whatever its 16-bit id, and never adds one. -/
theorem N6_other_servers_untouched (p p' : List (Nat × Nat)) (s : Nat) (d : Bytes) (c : Option DnsTransport.Completion)
    (h : DnsTcp.respond p s d = .ok (c, p')) : (∀ q ∈ p, q.2 ≠ s → q ∈ p') ∧ (∀ q ∈ p', q ∈ p) :=
  by
  unfold DnsTcp.respond at h
  split at h
  · cases h
  · cases h
    exact ⟨fun q hq hne => List.mem_filter.mpr ⟨hq, by simp [hne]⟩, fun q hq => (List.mem_filter.mp hq).1⟩

set_option maxRecDepth 100000 in
/-- non-vacuity: id 0x1234 is pending at servers 0 and 1; the answer from server 1 completes only that one -/
example : ∃ c, DnsTcp.respond [(4660, 0), (4660, 1)] 1 [18, 52, 129, 128, 0, 0, 0, 0, 0, 0, 0, 0] = .ok (c, [(4660, 0)]) := ⟨_, rfl⟩

/-- generated-facts conformance (tripwire, `rfl`): the reassembly steps of `handleTcpData` in source order (exact-size copy
`buffer.begin() + 2 … + 2 + messageLength`, `processResponse(messageData.data(), messageLength, …)`, pop of `2 + messageLength`),
the 65535 limit, and the members compared by the pending-query key and by the cache key -/
theorem N6_gen_tcp_shape :
    Gen.Dns.tcpSkeleton = ["buffer-of-session", "growth-check-close", "append", "loop-while-2", "length-be16", "zero-or-max-close", "cap-close",
      "incomplete-break", "session-lookup", "unknown-session-pop-continue", "copy-exact", "process-exact", "pop-exact"] ∧
    Gen.Dns.tcpMaxMessage = 65535 ∧ Gen.Dns.queryKeyFields = ["queryId", "server", "port"] ∧
    Gen.Dns.cacheKeyFields = ["qname", "qtype", "qclass"] := ⟨rfl, rfl, rfl, rfl⟩

/-- **N5 (served only for the same question and only while fresh).** Take ANY history of put / putNegative (explicit or
SOA-derived TTL) / get / remove / clear / setDefaultTtl / purge-thread sweeps, every operation at an arbitrary clock
reading (the clock is an input, not even assumed monotone).  If `get q` at time `now` then returns an answer, the history
contains a store operation that put exactly this answer under the same normalised key `(lower-case name, type, class)`,
its TTL — smallest record TTL for `put`, the given or SOA-derived TTL for `putNegative`, computed with the default
in force at that moment — is positive and has not elapsed (`now < t + ttl·10⁹ ns`), and no later put / remove / clear
touched that key. -/
theorem N5_served_only_fresh (ttl0 : Nat) (ops : List Op) (q : Question) (now : Nat) (v : Cached)
    (h : (((DC.new ttl0).run ops).get q now).1 = some v) :
    ∃ pre op post t ttl, ops = pre ++ op :: post ∧
      op.stores ((DC.new ttl0).run pre).defaultTtl = some (Key.fromQuestion q, v.result, v.isNegative, t, ttl) ∧
      0 < ttl ∧ now < t + ttl * nsPerSec ∧ ∀ o ∈ post, o.touches (Key.fromQuestion q) = false :=
  by
  obtain ⟨e, hf, hv, hl⟩ := DC.get_some h
  obtain ⟨pre, op, post, t, ttl, e1, hs, hpos, hexp, hpost⟩ := all_justified ttl0 ops _ (findKey_some hf)
  subst hv
  refine ⟨pre, op, post, t, ttl, e1, hs, hpos, ?_, hpost⟩
  dsimp only at hexp
  rw [← hexp]
  simpa [live, Gen.Dns.getStrict] using hl

/-- non-vacuity: a stored answer with TTL 60 s is served 59.999 s later -/
example : ∃ v, (((DC.new 300).run [.put 0 { qname := [65], qtype := 1, qclass := 1 }
      { header := ⟨7, false, 0, false, false, true, false, 0, 0, 0, 0, 0, 0⟩,
        answers := [{ name := [], type := 1, cls := 1, ttl := 60, rdlength := 0, rdata := [] }] }]).get
      { qname := [97], qtype := 1, qclass := 1 } 59999000000).1 = some v := ⟨_, rfl⟩

/-- **N5b (the TTL of `put` is the smallest record TTL).** The TTL used for a positive entry is no larger than the TTL of
any record of the stored result — raw answer / authority / additional records and every typed record. -/
theorem N5_put_ttl_is_minimum (r : Result) (dflt : Nat) (x : Nat)
    (hx : x ∈ r.answers.map (·.ttl) ++ r.authority.map (·.ttl) ++ r.additional.map (·.ttl) ++ r.typed.map (·.ttl)) :
    resultTtl r dflt ≤ x :=
  resultTtl_le r dflt hx

/-- **N5n (negative-caching TTL).** When the response carries a typed SOA record, the TTL `putNegative(question, result,
errorMessage)` uses is at most SOA.MINIMUM and at most the TTL of the SOA record itself (RFC 2308 §5) — whatever else the
response holds.  Together with `N2_typed_soa` (a well-formed SOA always HAS its typed record, with exactly its MINIMUM) and
`N5_served_only_fresh` this is the negative-TTL clause end to end. -/
theorem N5_negative_ttl_le_soa (r : Result) (d mn ttl : Nat) (h : firstSoa r.typed = some (mn, ttl)) :
    negativeTtl r d ≤ mn ∧ negativeTtl r d ≤ ttl := by
  simp only [negativeTtl, h]
  exact ⟨Nat.min_le_left _ _, Nat.min_le_right _ _⟩

/-- the fallback, stated: ONLY when no typed SOA exists (its RDATA was malformed, so MINIMUM is unknown — a well-formed SOA
always has one by `N2_typed_soa`) the TTL is the raw TTL of the first SOA record of the authority section, else the default -/
theorem N5_negative_ttl_fallback (r : Result) (d : Nat) (h : firstSoa r.typed = none) :
    (∀ ttl, firstSoaRaw r.authority = some ttl → negativeTtl r d = ttl) ∧
    (firstSoaRaw r.authority = none → negativeTtl r d = d % 4294967296) := by
  constructor
  · intro ttl h2; simp only [negativeTtl, h, h2]
  · intro h2; simp only [negativeTtl, h, h2]

/-- non-vacuity: MINIMUM 5, SOA TTL 3600 → 5; and the fallback really can exceed any MINIMUM the broken RDATA may have meant -/
example : negativeTtl ({ header := ⟨7, true, 0, false, false, true, true, 0, 3, 0, 0, 1, 0⟩, typed := [.soa [] [] [] 1 2 3 4 5 3600] } : Result) 300 = 5 := by decide

example : negativeTtl ({ header := ⟨7, true, 0, false, false, true, true, 0, 3, 0, 0, 1, 0⟩, authority := [{ name := [], type := 6, cls := 1, ttl := 3600, rdlength := 0, rdata := [] }] } : Result) 300 = 3600 := by decide

/-- **N5c (key normalisation).** Two questions share a cache key iff type and class agree and the names agree after
ASCII lower-casing. -/
theorem N5_key_iff (q q' : Question) :
    Key.fromQuestion q = Key.fromQuestion q' ↔
      q.qname.map lowerByte = q'.qname.map lowerByte ∧ q.qtype = q'.qtype ∧ q.qclass = q'.qclass := by
  simp [Key.fromQuestion]

/-- generated-facts conformance (tripwire): every ExpiringCache method and the purge sweep use `_cache` only inside the scope of a
guard over `_mutex` — the justification for modelling cache operations as atomic steps of a history -/
theorem N5_lock_skeleton : Gen.Dns.cacheLockedMethods = ["set", "get", "remove", "size", "purge"] := rfl

/-- generated-facts conformance (tripwire, `rfl`): `put` and `putNegative` drop a TTL-0 entry instead of caching it (the F14
repair) and `get` compares the expiry strictly.  (That TTL 0 is never SERVED is the `0 < ttl` conjunct of `N5_served_only_fresh`.) -/
theorem N5_zero_ttl_guard : Gen.Dns.zeroTtlNotCachedPut = true ∧ Gen.Dns.zeroTtlNotCachedNeg = true ∧ Gen.Dns.getStrict = true :=
  ⟨rfl, rfl, rfl⟩

end Iora.C19
