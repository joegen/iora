import IoraModel.Lemmas.KvFiles
import IoraModel.Lemmas.KvRace
import IoraModel.Lemmas.KvRaceN
/-!
# C12 — The key-value store is a map with absolute expiry, across restarts

Lemmas: `Lemmas/KvMap.lean`, `Lemmas/KvStore.lean`, `Lemmas/KvLog.lean`, `Lemmas/KvFiles.lean`.  Model:
`Model/KvStore.lean` (the running store, mirroring `kvstore.hpp`), `Model/KvLog.lean` (files), specification
`Model/KvSpec.lean` (the plain reference map), `Model/KvRace.lean` (lock skeleton of `get()` on a cache miss ∥ one writer;
lemmas `Lemmas/KvRace.lean`), `Model/KvRaceN.lean` (the same step relations for any number of threads making any sequences
of calls; lemmas `Lemmas/KvRaceN.lean`).  Constants and lock scopes come from the regenerated `Gen/Kv.lean`.
-/
namespace Iora.C12
open Iora Iora.Kv

/-- the limits of the working tree, a trivial CRC, the cache off, inline compaction at 64 bytes -/
def exCfg0 : Cfg := { lim := Lim.gen, crc := fun _ => 0, maxCache := 0, maxLog := 64, inlineCompact := true }

/-- a concrete configuration: the limits of the working tree, a trivial CRC, cache of one entry, inline compaction at 64 bytes -/
def exCfg : Cfg := { lim := Lim.gen, crc := fun _ => 0, maxCache := 1, maxLog := 64, inlineCompact := true }

/-- **Gen obligation.** The limits and format constants extracted from the working tree satisfy what the proofs need:
`load` re-admits every key, value and record the API admits (in particular `loadTotalLenMax` covers the largest record
`writeLogEntry` can produce), lengths fit their 32-bit fields, and every plausible expiry is representable as a
`system_clock::time_point` (`maxPlausibleEpochMs ≤ timePointMaxMs`: neither `fromEpochMs` in `load` nor a TTL deadline can overflow). -/
theorem gen_limits_ok : Lim.gen.OK := by
  constructor <;> decide

/-- **Gen obligation.** Format facts the model hard-wires: op letters and which of them carry an expiry / a value, field
widths, snapshot versions, the no-expiry sentinel, the two shape facts of `load` the model depends on (torn tail cut
before the log is reopened; expiry judged once, after the replay), the saturating TTL deadline and `maxCacheSize == 0` = cache off. -/
theorem gen_format_ok :
    Gen.Kv.opsWritten = [opD, opE, opS, opX].map (·.toNat) ∧ Gen.Kv.opsAccepted = [opD, opE, opS, opX].map (·.toNat) ∧
    Gen.Kv.opsWithExpiry = [opE, opX].map (·.toNat) ∧ Gen.Kv.opsWithValue = [opE, opS].map (·.toNat) ∧
    (Gen.Kv.lenWidth, Gen.Kv.keyLenWidth, Gen.Kv.expiryWidth, Gen.Kv.valLenWidth, Gen.Kv.crcWidth) = (4, 4, 8, 4, 4) ∧
    Gen.Kv.snapVersionWritten = 2 ∧ Gen.Kv.snapVersionsAccepted = [1, 2] ∧ Gen.Kv.noExpirySentinel = sentinel ∧
    Gen.Kv.validateMin = 10 ∧ Gen.Kv.loadTruncatesTornTail = true ∧ Gen.Kv.loadSweepsOnceAtEnd = true ∧
    Gen.Kv.ttlDeadlineSaturates = true ∧ Gen.Kv.cacheSizeZeroDisables = true := by
  decide

/-- **M1 (refinement).** For every configuration (any cache size, any compaction threshold, inline or background
compaction, any CRC function), every start time, every sequence of cache-victim choices and every history of `set`,
`set`+TTL, batches, `get`, `remove`, prefix removal, `clear`, `expireAt`, `persist`, `compact`, clock advances of any size,
eviction callbacks for any key with any timer generation, and clean close/reopen: the store's abstract state
(memory filtered by `expiry > now`) is exactly what the plain reference map holds after the same history, every result
is the one the reference map allows, and the invariants (cache coherence, `_expiry ⊆ _kv`, files replay to memory) hold. -/
theorem M1_refinement (cfg : Cfg) (hl : cfg.lim.OK) (now : Int) (hn : 0 < now) (choices : List Nat) (ops : List Op)
    (hok : RunOK cfg (W.init cfg now choices) ops) :
    (run cfg (W.init cfg now choices) ops).abs = specRun cfg.lim { m := fun _ => none, now := now } ops
      ∧ OutsOK cfg (W.init cfg now choices) { m := fun _ => none, now := now } ops
      ∧ Inv cfg (run cfg (W.init cfg now choices) ops) := by
  obtain ⟨a, b, c⟩ := run_ok cfg hl ops _ (init_inv cfg now hn choices) hok
  rw [init_abs] at b c
  exact ⟨b, c, a⟩

/-- the hypotheses of `M1_refinement` are satisfiable by a history that sets, overwrites with a TTL, lets it lapse,
re-arms, compacts inline and evicts -/
example : RunOK exCfg (W.init exCfg 1000 [])
    [.set [1] [2], .setTtl [1] [3] 5, .set [7, 7] [], .advance 6000, .expireAt [7, 7] 9000, .evictFire [1] 1, .persist [7, 7]] := by
  refine ⟨⟨by decide, trivial⟩, ⟨by decide, by decide⟩, ⟨by decide, trivial⟩, ⟨by decide, trivial⟩, ⟨by decide, by decide⟩,
    ⟨by decide, trivial⟩, ⟨by decide, trivial⟩, trivial⟩

/-- **M1 (reads).** In every reachable state all read paths — `exists`, `ttl`, `getBatch`, `keys`, `keysWithPrefix`,
`size` (and `get`, which is a step because it fills the cache: see `M1_refinement`/`OutOK`) — return what the reference
map returns at the moment of the read. -/
theorem M1_reads (cfg : Cfg) (w : W) (hi : Inv cfg w) :
    (∀ k, rdExists w.mem w.now k = specExists w.abs k) ∧
    (∀ k, rdTtl w.mem w.now k = specTtl w.abs k) ∧
    (∀ ks, rdGetBatch w.mem w.now ks = specGetBatch w.abs ks) ∧
    (∀ p, SpecKeys w.abs p (keysWithPrefix w.mem w.now p)) ∧
    SpecKeys w.abs [] (rdKeys w.mem w.now) ∧
    rdSize w.mem w.now = (rdKeys w.mem w.now).length :=
  ⟨rdExists_spec w hi.mem, rdTtl_spec w hi.mem, rdGetBatch_spec w hi.mem, keysWithPrefix_spec w hi.mem,
   rdKeys_spec w hi.mem, rdSize_spec w hi.mem⟩

/-- **M2 (expired keys are invisible; eviction never touches a live key).** Whatever the wheel does — any key, any timer
generation, early, late, stale, repeated — the eviction callback leaves the abstract state unchanged (so every read path
answers the same whether or not eviction has run), and a key that is live stays in `_kv` with its value. -/
theorem M2_eviction_invisible (cfg : Cfg) (w : W) (hi : Inv cfg w) (k : Key) (gen : Nat) :
    (step cfg w (.evictFire k gen)).1.abs = w.abs ∧
    ∀ k' v, w.mem.kv.get? k' = some v → w.mem.expired w.now k' = false →
      (step cfg w (.evictFire k gen)).1.mem.kv.get? k' = some v :=
  ⟨(evictFire_ok cfg { w with tr := [] } hi.minv k gen).2, fun k' v h1 h2 => evictFire_live cfg { w with tr := [] } hi.minv k gen k' v h1 h2⟩

/-- **M2 (clock).** Advancing the clock by any amount does to the store exactly what it does to the reference map:
entries whose expiry has passed disappear from every read path at that instant, with no eviction step needed. -/
theorem M2_clock (cfg : Cfg) (w : W) (dt : Nat) :
    (step cfg w (.advance dt)).1.abs = { m := fun k => live (w.now + dt) (w.abs.m k), now := w.now + dt } :=
  advance_ok w dt

/-- **M3 (plain overwrite clears an earlier expiry; values byte for byte).** After `set k v` the key holds exactly `v`
with no expiry, whatever it held before. -/
theorem M3_overwrite (cfg : Cfg) (hl : cfg.lim.OK) (w : W) (hi : Inv cfg w) (k : Key) (v : Val)
    (hok : StepOK cfg w (.set k v)) (hv : validate cfg.lim k v = none) :
    (step cfg w (.set k v)).1.abs.m k = some (v, none) ∧
    (step cfg (step cfg w (.set k v)).1 (.get k)).2 = .value (some v) := by
  obtain ⟨h1, h2, _⟩ := step_ok cfg hl w hi (.set k v) hok
  have habs : (step cfg w (.set k v)).1.abs.m k = some (v, none) := by
    rw [h2]; simp [specStep, hv, Spec.upd]
  refine ⟨habs, ?_⟩
  obtain ⟨_, _, h5⟩ := step_mem_ok cfg (step cfg w (.set k v)).1 h1.minv (.get k) (by intro h; cases h)
  simp only [OutOK] at h5
  rw [h5, habs]; rfl

/-- non-vacuity: `hv` of `M3_overwrite` -/
example : validate Lim.gen [1] [2] = none := by decide

/-- **M3 (TTL write is there, however large the TTL).** After `set k v ttl` with any `ttl > 0` — `std::chrono::seconds::max()`
included — the key holds exactly `v` with deadline `min (now + ttl) lastRepresentableInstant`: the deadline saturates instead of
wrapping into the past (FC12b), so an acknowledged TTL write is never immediately absent (as long as the clock itself is
before the last representable instant). -/
theorem M3_ttl_deadline (cfg : Cfg) (hl : cfg.lim.OK) (w : W) (hi : Inv cfg w) (k : Key) (v : Val) (ttl : Int)
    (hok : StepOK cfg w (.setTtl k v ttl)) (hv : validate cfg.lim k v = none) (ht : 0 < ttl) (hn : w.now < cfg.lim.maxPlausible) :
    (step cfg w (.setTtl k v ttl)).1.abs.m k = some (v, some (deadlineAfter cfg.lim w.now ttl)) ∧
    w.now < deadlineAfter cfg.lim w.now ttl := by
  obtain ⟨_, h2, _⟩ := step_ok cfg hl w hi (.setTtl k v ttl) hok
  have hlt : w.now < deadlineAfter cfg.lim w.now ttl := by unfold deadlineAfter; omega
  refine ⟨?_, hlt⟩
  rw [h2]
  have h0 : ¬ ttl ≤ 0 := by omega
  have hnow : (W.abs w).now = w.now := rfl
  simp [specStep, hv, h0, Spec.upd, live, hnow, hlt]

/-- non-vacuity: a TTL of 8·10⁹ s (≈ 253 years) satisfies the hypotheses on a fresh store -/
example : StepOK exCfg0 (W.init exCfg0 1000 []) (.setTtl [0x6b] [0x76] 8000000000) ∧ validate exCfg0.lim [0x6b] [0x76] = none ∧
    (1000 : Int) < exCfg0.lim.maxPlausible := ⟨⟨by decide, trivial⟩, by decide, by decide⟩

/-- **M4 (restart).** A clean close followed by a new instance on the same directory — at the current time, i.e. after
any clock advance — shows exactly the same abstract state: nothing is lost, nothing expired comes back, expiries are
the same absolute instants. -/
theorem M4_restart (cfg : Cfg) (hl : cfg.lim.OK) (w : W) (hi : Inv cfg w) :
    (step cfg w .reopen).1.abs = w.abs ∧ (step cfg w .reopen).2 = .ok ∧ Inv cfg (step cfg w .reopen).1 := by
  obtain ⟨a, c, d⟩ := reopen_ok cfg hl { w with tr := [] } hi.minv (FInv.resetTr cfg w hi.file)
  exact ⟨c, d, a⟩

/-- **M4 (the reference map does not see a restart).** `reopen` is the identity of `specStep`; so in `M1_refinement` it may occur
anywhere in a history, any number of times, with clock advances of any size in between. -/
theorem M4_spec_identity (l : Lim) (s : SpecSt) : specStep l s .reopen = s := rfl

/-- **M5 (compaction).** Compaction changes nothing a reader can see; afterwards memory holds no expired key, and the
new snapshot alone holds exactly the live entries (value and expiry) — so nothing dropped can reappear from the files. -/
theorem M5_compaction (cfg : Cfg) (w : W) (hi : Inv cfg w) :
    (step cfg w .compact).1.abs = w.abs ∧
    (∀ k, (step cfg w .compact).1.mem.expired w.now k = false) ∧
    (∀ k, (snapState (survivors w.mem w.now)).look k = live w.now (w.mem.look k)) ∧
    (step cfg w .compact).1.fs = { snap := some (encodeSnap cfg.lim (survivors w.mem w.now)), log := some [], tmp := none } := by
  refine ⟨abs_compact cfg { w with tr := [] }, expired_compact cfg { w with tr := [] }, fun k => ?_, compact_fs cfg { w with tr := [] }⟩
  rw [look_snapState_survivors cfg { w with tr := [] } hi.file.nodup k]
  exact compact_look_eq_live cfg _ k

/-- **Gen obligation (lock scopes).** What the translator extracts from `kvstore.hpp` about the guards on `_mutex` and
`_cacheMutex`: `get()` looks the key up and refills the cache inside ONE guard on `_mutex`; its fast path holds `_cacheMutex`
only; every writer changes `_cache`, `_kv` and `_expiry` while it holds `_mutex` exclusively; every access to `_cache` holds
`_cacheMutex` (writes: exclusively); every read of `_kv` / `_expiry` outside the constructor-only functions (`exists`, `ttl`,
`size`, `getBatch`, `keys`, ...) holds `_mutex` (`readersHoldStoreLock`).  These are the hypotheses under which a public method is one atomic step of the
sequential model as far as the read cache is concerned (`M6_get_miss_race`). -/
theorem gen_locks_ok :
    Gen.Kv.getRefillsCacheUnderStoreLock = true ∧ Gen.Kv.getFastPathTakesCacheLockOnly = true ∧
    Gen.Kv.writersTouchCacheUnderStoreLock = true ∧ Gen.Kv.storeWritesUnderStoreLock = true ∧
    Gen.Kv.cacheAccessUnderCacheLock = true ∧ Gen.Kv.readersHoldStoreLock = true := by
  decide

/-- **M6 (cache coherence under every schedule).** For the lock scopes of the working tree (`Race.Shape.gen`): whatever
the key holds (`kv`), whatever coherent cache entry it has, whatever a writer stores for it (`set`, `set`+TTL, `setBatch`,
`remove`, `expireAt`, `persist`, `clear`, eviction: `o.OK`), and for EVERY interleaving of the steps of `get()`'s cache-miss
path (lock `_mutex` shared, copy value and expiry, lock `_cacheMutex`, assign `_cache[k]`, unlock, unlock) with the
writer's steps (lock `_mutex`, store, lock `_cacheMutex`, update/erase `_cache[k]`, unlock, unlock), stopped anywhere:
the cache entry of the key is absent or equal to the stored entry (value and expiry) whenever the writer is not between its
two assignments; when the writer has returned, `_kv` holds what it stored.  So no `get`/`getString` can serve a removed
key, an overwritten value or a lapsed expiry from the cache after the writer's call has returned. -/
theorem M6_get_miss_race (fresh : Ent → Bool) (o : Race.WOp) (ho : o.OK) (kv cache : Option Ent)
    (h0 : cache = none ∨ cache = kv) (sched : List Bool) :
    let s := Race.run Race.Shape.gen fresh o (Race.St.init kv cache) sched
    ((s.w ≠ .wroteKv ∧ s.w ≠ .hasC) → s.Coherent) ∧ (s.w = .done → s.kv = o.kv) := by
  intro s
  have hi := Race.inv_run Race.Shape.gen (by decide) (by decide) fresh o ho sched _ (Race.inv_init _ o kv cache h0)
  refine ⟨fun hne => ?_, fun hd => hi.wk (by rw [hd]; rfl)⟩
  rcases hi.coh with h | h
  · rcases h with h | h
    · exact absurd h hne.1
    · exact absurd h hne.2
  · exact h

/-- **M6 (progress).** Under the same lock scopes the two calls cannot block each other for ever: in every reachable
state in which a call has not returned at least one of the two threads can move (both take `_mutex` before
`_cacheMutex`), and the schedule "reader to its end, then writer to its end" makes both return. -/
theorem M6_progress (fresh : Ent → Bool) (o : Race.WOp) (ho : o.OK) (kv cache : Option Ent)
    (h0 : cache = none ∨ cache = kv) (sched : List Bool) :
    (let s := Race.run Race.Shape.gen fresh o (Race.St.init kv cache) sched
     ¬ (s.r = .done ∧ s.w = .done) →
       (Race.stepR Race.Shape.gen fresh s).r ≠ s.r ∨ (Race.stepW Race.Shape.gen o s).w ≠ s.w) ∧
    (let s := Race.run Race.Shape.gen fresh o (Race.St.init kv cache) (List.replicate 7 true ++ List.replicate 7 false)
     s.r = .done ∧ s.w = .done) := by
  -- `ho` and `h0` are not needed: the first clause holds in every state, the second is one schedule, evaluated
  have _ := ho
  refine ⟨Race.race_no_deadlock Race.Shape.gen fresh o _, ?_⟩
  cases kv with
  | none =>
    simp [Race.run, Race.St.init, Race.stepR, Race.stepW, Race.rHoldsMu, Race.rHoldsC, Race.wHoldsMu, Race.wHoldsC,
      Race.Shape.gen, Gen.Kv.getRefillsCacheUnderStoreLock, Gen.Kv.writersTouchCacheUnderStoreLock, List.replicate]
  | some e =>
    cases hf : fresh e <;>
      simp [Race.run, Race.St.init, Race.stepR, Race.stepW, Race.rHoldsMu, Race.rHoldsC, Race.wHoldsMu, Race.wHoldsC,
        Race.Shape.gen, Gen.Kv.getRefillsCacheUnderStoreLock, Gen.Kv.writersTouchCacheUnderStoreLock, hf, List.replicate]

/-- **M6 (the other lock scope is refuted).** If `get()` releases `_mutex` before it refills the cache, a schedule exists
after which both calls have returned, the key has been removed and the cache still holds its old value: the hypothesis
`getRefillsCacheUnderStoreLock` of `M6_get_miss_race` cannot be dropped. -/
theorem M6_unlocked_refill_refuted :
    ∃ (o : Race.WOp) (kv : Option Ent) (sched : List Bool), o.OK ∧
      let s := Race.run { refillUnderStoreLock := false, writerCacheUnderStoreLock := true } (fun _ => true) o (Race.St.init kv none) sched
      s.r = .done ∧ s.w = .done ∧ s.kv = none ∧ s.cache = kv ∧ kv ≠ none ∧ ¬ s.Coherent := by
  -- reader up to the release of `_mutex`, the whole `remove`, the rest of the reader
  refine ⟨{ kv := none, cache := none }, some ([1], none),
    [true, true, true, false, false, false, false, false, false, false, true, true, true, true], ?_⟩
  decide

/-- **M6 (any number of threads, any calls, every schedule).** The same lock skeleton with `n` threads for every `n`; each
thread makes any sequence of calls: the fast path of `get(k)` (a read of `_cache[k]` under `_cacheMutex`), `get(k)` on the
cache-miss path, any writer of `k` (`a.OK`: it erases the cache entry or sets it to what it stored), any erasure of `k`'s
cache entry under `_cacheMutex` (LRU victim of a call on another key).  For
the lock scopes of the working tree and EVERY schedule of their steps, stopped anywhere: (1) `k`'s cache entry is absent or
exactly the stored entry whenever no writer stands between its two assignments; (2) in particular whenever no call is in
flight (quiescence: what the harness' coherence monitor checks after the racing threads were joined); (3) `_mutex` has at
most one exclusive holder and then no shared holder; (4) `_cacheMutex` has at most one holder. -/
theorem M6_any_threads (n : Nat) (kv cache : Option Ent) (h0 : cache = none ∨ cache = kv) (sched : List RaceN.Act)
    (hok : ∀ a ∈ sched, a.OK) :
    let s := RaceN.run Race.Shape.gen (RaceN.St.init n kv cache) sched
    ((∀ i, i < n → (s.th i).mid = false) → s.Coherent) ∧
    ((∀ i, i < n → (s.th i).finished = true) → s.Coherent) ∧
    (∀ i j, i < n → j < n → (s.th i).holdsX Race.Shape.gen = true →
      (s.th j).holdsS Race.Shape.gen = false ∧ (i ≠ j → (s.th j).holdsX Race.Shape.gen = false)) ∧
    (∀ i j, i < n → j < n → i ≠ j → (s.th i).holdsC = true → (s.th j).holdsC = false) := by
  intro s
  obtain ⟨hi, hn⟩ : RaceN.Inv Race.Shape.gen s ∧ s.n = n :=
    RaceN.inv_reach Race.Shape.gen (by decide) (by decide) n kv cache h0 sched hok
  have hq : (∀ i, i < n → (s.th i).mid = false) → s.Coherent := fun hq => hi.coh fun i hin => hq i (hn ▸ hin)
  refine ⟨hq, fun hf => hq (fun i hin => RaceN.finished_not_mid _ (hf i hin)), ?_, ?_⟩
  · intro i j hin hjn hx
    exact ⟨hi.xs i j (hn ▸ hin) (hn ▸ hjn) hx, fun hij => hi.xx i j (hn ▸ hin) (hn ▸ hjn) hij hx⟩
  · intro i j hin hjn hij hc
    exact hi.cc i j (hn ▸ hin) (hn ▸ hjn) hij hc

/-- the hypotheses of `M6_any_threads` are satisfiable by a schedule in which things happen: three threads, two `get(k)` and
one `set(k, [2])`; both readers take `_mutex` shared, the writer is blocked, reader 0 refills the cache with the old value,
the readers return, the writer runs to its end: the cache then holds the NEW value, no call is in flight -/
example :
    let sched : List RaceN.Act :=
      [.call 0 .get, .call 1 .get, .call 2 (.write { kv := some ([2], none), cache := some ([2], none) }),
       .move 0 true, .move 1 true, .move 2 true, .move 0 true, .move 1 true, .move 0 true, .move 0 true, .move 2 true,
       .move 0 true, .move 0 true, .move 1 true, .move 1 true, .move 1 true, .move 1 true,
       .move 2 true, .move 2 true, .move 2 true, .move 2 true, .move 2 true, .move 2 true]
    let s := RaceN.run Race.Shape.gen (RaceN.St.init 3 (some ([1], none)) none) sched
    (∀ a ∈ sched, a.OK) ∧ s.kv = some ([2], none) ∧ s.cache = some ([2], none) ∧
      (RaceN.run Race.Shape.gen (RaceN.St.init 3 (some ([1], none)) none) (sched.take 11)).cache = some ([1], none) := by
  decide

/-- **M6 (any number of threads: the other lock scope is refuted).** With the refill outside the store lock two of the threads
suffice: a schedule exists after which no call is in flight, the key is removed and its cache entry still holds the old value. -/
theorem M6_any_threads_unlocked_refill_refuted :
    ∃ (kv : Option Ent) (sched : List RaceN.Act), (∀ a ∈ sched, a.OK) ∧
      let s := RaceN.run { refillUnderStoreLock := false, writerCacheUnderStoreLock := true } (RaceN.St.init 2 kv none) sched
      (∀ i, i < 2 → (s.th i).finished = true) ∧ s.kv = none ∧ s.cache = kv ∧ ¬ s.Coherent := by
  -- thread 0: `get(k)`, thread 1: `remove(k)`
  refine ⟨some ([1], none),
    [.call 0 .get, .call 1 (.write { kv := none, cache := none }),
     .move 0 true, .move 0 true, .move 0 true,
     .move 1 true, .move 1 true, .move 1 true, .move 1 true, .move 1 true, .move 1 true, .move 1 true,
     .move 0 true, .move 0 true, .move 0 true, .move 0 true], ?_⟩
  decide

/-- **M6 (the writers' lock scope is needed too).** If a writer releases `_mutex` before it updates the cache, two writers and
no reader suffice: `set(k, v)` ∥ `remove(k)` end, with no call in flight, with the key gone and the cache serving `v`.  So
`writersTouchCacheUnderStoreLock` cannot be dropped either (the two-thread model, one writer, cannot show this). -/
theorem M6_any_threads_unlocked_writer_refuted :
    ∃ (v : Ent) (sched : List RaceN.Act), (∀ a ∈ sched, a.OK) ∧
      let s := RaceN.run { refillUnderStoreLock := true, writerCacheUnderStoreLock := false } (RaceN.St.init 2 none none) sched
      (∀ i, i < 2 → (s.th i).finished = true) ∧ s.kv = none ∧ s.cache = some v ∧ ¬ s.Coherent := by
  -- `set(k, v)` stores and releases `_mutex`, `remove(k)` runs from start to end, then the `set` writes its cache entry
  refine ⟨([1], none),
    [.call 0 (.write { kv := some ([1], none), cache := some ([1], none) }), .call 1 (.write { kv := none, cache := none }),
     .move 0 true, .move 0 true, .move 0 true,
     .move 1 true, .move 1 true, .move 1 true, .move 1 true, .move 1 true, .move 1 true, .move 1 true,
     .move 0 true, .move 0 true, .move 0 true, .move 0 true], ?_⟩
  decide

/-- **M6 (linearizability of one key to an atomic register).** `St.lin` is a ghost of the n-thread skeleton (no step reads
it).  For the lock scopes of the working tree, every `n`, every schedule, every reachable state: (1) what the fast path of
`get(k)` reads from `_cache[k]` is absent (a miss: the call goes on to the authoritative path) or `lin`; (2) what the miss
path is about to load from `_kv[k]` is `lin`; (3) `lin` is what `_kv[k]` holds whenever no writer stands between its two
assignments, in particular when no call is in flight.  Together with `M6_register_steps` (`lin` changes in exactly one step
of each writer's call — its assignment to `_cache[k]`, strictly between the call's first and last step — and becomes what
that writer stores) every `get` returns the value of an atomic register at a moment inside the call, and every writer
updates that register at a moment inside its call: the calls on one key are linearizable to the map specification's entry
for that key, which is what makes "every public method is one atomic step" (the sequential model, M1–M5) sound for the
values `get` returns, not only for the state at rest. -/
theorem M6_linearizable (n : Nat) (kv cache : Option Ent) (h0 : cache = none ∨ cache = kv) (sched : List RaceN.Act)
    (hok : ∀ a ∈ sched, a.OK) :
    let s := RaceN.run Race.Shape.gen (RaceN.St.init n kv cache) sched
    (s.cache = none ∨ s.cache = s.lin) ∧
    (∀ i tmp, i < n → s.th i = .rd .hasS tmp → s.kv = s.lin) ∧
    ((∀ i, i < n → (s.th i).mid = false) → s.lin = s.kv) := by
  intro s
  obtain ⟨hi, hn⟩ : RaceN.Inv Race.Shape.gen s ∧ s.n = n :=
    RaceN.inv_reach Race.Shape.gen (by decide) (by decide) n kv cache h0 sched hok
  refine ⟨hi.cl, ?_, fun hq => hi.lk (fun i hin => hq i (hn ▸ hin))⟩
  intro i tmp hin ht
  exact (hi.lk (RaceN.no_mid_of_holdsS _ (by decide) s hi i (hn ▸ hin) (by rw [ht]; rfl))).symm

/-- **M6 (the register changes once per writer, inside its call).** An action leaves `lin` alone, or it is the step "writer
`i` assigns `_cache[k]`" (program counter `hasC`: the call has taken `_mutex` and `_cacheMutex` and has not released them) and
`lin` becomes what that writer stores.  Holds for every state and every lock scope. -/
theorem M6_register_steps (sh : Race.Shape) (s : RaceN.St) (a : RaceN.Act) :
    (RaceN.apply sh s a).lin = s.lin ∨
      ∃ i fresh o, a = .move i fresh ∧ i < s.n ∧ s.th i = .wr .hasC o ∧ (RaceN.apply sh s a).lin = o.kv := by
  cases a with
  | call i c => simp only [RaceN.apply]; split <;> exact Or.inl rfl
  | move i fresh =>
    simp only [RaceN.apply]
    split
    · next hn =>
      rcases RaceN.lin_step sh fresh s i with h | ⟨o, h1, h2⟩
      · exact Or.inl h
      · exact Or.inr ⟨i, fresh, o, rfl, hn, h1, h2⟩
    · exact Or.inl rfl

/-- **M6 (no deadlock, any number of threads).** In every reachable state of the n-thread skeleton in which some thread is
inside a call, some thread is not blocked (given the processor it moves, whatever its expiry test answers): every call takes
`_mutex` before `_cacheMutex`, a holder of `_cacheMutex` never waits, and a holder of `_mutex` waits for `_cacheMutex` only. -/
theorem M6_any_threads_progress (n : Nat) (kv cache : Option Ent) (h0 : cache = none ∨ cache = kv) (sched : List RaceN.Act)
    (hok : ∀ a ∈ sched, a.OK) :
    let s := RaceN.run Race.Shape.gen (RaceN.St.init n kv cache) sched
    ∀ i, i < n → (s.th i).finished = false → ∃ j, j < n ∧ RaceN.Moves Race.Shape.gen s j := by
  intro s i hin hf
  obtain ⟨hi, hn⟩ : RaceN.Inv Race.Shape.gen s ∧ s.n = n :=
    RaceN.inv_reach Race.Shape.gen (by decide) (by decide) n kv cache h0 sched hok
  obtain ⟨j, hj, hm⟩ := RaceN.raceN_no_deadlock Race.Shape.gen (by decide) (by decide) s hi i (hn ▸ hin) hf
  exact ⟨j, hn ▸ hj, hm⟩

end Iora.C12
