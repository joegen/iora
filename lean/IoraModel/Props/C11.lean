import IoraModel.Lemmas.KvCrash
import IoraModel.Lemmas.JsonFileStore
/-!
# C11 — Persistent stores recover every acknowledged write after a crash

Model: `Model/KvLog.lean` (record and snapshot codec, `load`, files and crash images),
`Model/KvStore.lean` (which file operations every API call issues), `Model/JsonFileStore.lean`.
The invariants and relations the statements are written in stand with their lemmas: `framesLen`, `snapState`, `EntWF` in
`Lemmas/KvLog.lean`; `FInv`, `Inv`, `StepOK`, `RunOK`, `TornDurable` in `Lemmas/KvFiles.lean`; `CrashAdm`, `Op.Distinct`, `crashRecover` in
`Lemmas/KvCrash.lean`.
`crc` is a parameter of every statement: nothing is assumed about it.
-/
namespace Iora.C11
open Iora Iora.Kv

/-- a concrete configuration for the non-vacuity examples -/
def C12ex.cfg : Cfg := { lim := Lim.gen, crc := fun _ => 0, maxCache := 1, maxLog := 64, inlineCompact := true }

/-- **Gen obligation** (shared with C12): everything the API admits is re-admitted by `load`; in particular the
`totalLen` ceiling of the replay loop covers the largest record `writeLogEntry` can produce. -/
theorem gen_limits_ok : Lim.gen.OK := by
  constructor <;> decide

/-- **Gen obligation** (shape of `load`): the torn-tail offset `goodEnd` is taken from the stream position right after a record's
body has been read completely, before any path of the loop can skip the record (`continue`) — which is how the model's
`replayLoop` advances it (`replayLoop_goodEnd`). -/
theorem gen_goodEnd_ok : Gen.Kv.loadTruncatesTornTail = true ∧ Gen.Kv.loadGoodEndCountsEveryCompleteRecord = true := by
  decide

/-- **D1 (codec round trip).** For every list of records written through the API — any keys of 1..MAX_KEY_LENGTH bytes, any
values of 0..MAX_VALUE_LENGTH bytes (empty values and both boundaries included), any plausible expiry, any CRC function —
the replay loop reads back exactly those records, in order, and stops exactly at the end of the file. -/
theorem D1_roundtrip (l : Lim) (hl : l.OK) (crc : Bytes → UInt32) (rs : List Rec) (h : ∀ r ∈ rs, r.WF l) (st : LState) :
    replayLoop l crc (rs.flatMap (encode crc)) st 0 = (rs.foldl (applyRec l) st, (rs.flatMap (encode crc)).length) := by
  have := replayLoop_records_all l hl crc rs h st 0
  simpa using this

/-- non-vacuity: the empty value and the two length boundaries are well-formed records -/
example : (Rec.set [1] []).WF Lim.gen := by simp only [Rec.WF]; decide
example (k v : Bytes) (hk : k.length = 65535) (hv : v.length = 104857600) : (Rec.setE k v 1).WF Lim.gen := by
  refine ⟨by omega, by simp only [Lim.gen, Gen.Kv.maxKeyLength]; omega, by simp only [Lim.gen, Gen.Kv.maxValueLength]; omega, by decide⟩

/-- **D2 (torn tail).** After any complete records, every strict prefix of one more written record contributes nothing and
the loop reports the offset of the last complete record (`goodEnd`) — from the length prefix alone, no CRC assumption. -/
theorem D2_torn_tail (l : Lim) (hl : l.OK) (crc : Bytes → UInt32) (rs : List Rec) (h : ∀ r ∈ rs, r.WF l)
    (r : Rec) (hr : r.WF l) (p q : Bytes) (hpq : p ++ q = encode crc r) (hq : q ≠ []) (st : LState) :
    replayLoop l crc (rs.flatMap (encode crc) ++ p) st 0
      = (rs.foldl (applyRec l) st, (rs.flatMap (encode crc)).length) := by
  have := replayLoop_records_torn l hl crc rs h r hr p q hpq hq st 0
  simpa using this

/-- **load truncates only a torn tail.** For ARBITRARY log bytes (not only logs this code wrote): when the constructor succeeds,
the log it leaves behind is exactly the longest prefix of complete frames `[totalLen:4][totalLen bytes]` of the log it found —
`goodEnd` counts every record that was read completely, also one the replay then skips (CRC mismatch, unknown op letter, bad
inner lengths, implausible expiry, an orphan 'X' expiry change) — and what it cut off does not start with a complete frame.
So `load` never truncates inside or before a complete record, and records appended afterwards are read at the next load. -/
theorem load_truncates_only_torn_tail (l : Lim) (crc : Bytes → UInt32) (fs : Fs) (lg : Bytes) (hlog : fs.log = some lg)
    (now : Int) (st : LState) (ops : List FsOp) (h : openStore l crc fs now = .ok (st, ops)) :
    (applyAll fs ops).log = some (lg.take (framesLen l lg)) ∧ framesLen l lg ≤ lg.length ∧
    framesLen l (lg.drop (framesLen l lg)) = 0 :=
  ⟨openStore_log l crc fs lg hlog now st ops h, framesLen_le l lg, framesLen_drop l lg⟩

/-- the counted prefix, concretely: any sequence of complete frames with admissible lengths — WHATEVER they contain — followed by
a strict prefix of one more frame is cut exactly at the end of the last complete frame -/
theorem goodEnd_after_frames (l : Lim) (hl : l.OK) (bs : List Bytes) (h : ∀ b ∈ bs, l.ldMin ≤ b.length ∧ b.length ≤ l.ldMax)
    (b p q : Bytes) (hb : l.ldMin ≤ b.length ∧ b.length ≤ l.ldMax) (hpq : p ++ q = frame b) (hq : q ≠ []) :
    framesLen l (bs.flatMap frame ++ p) = (bs.flatMap frame).length := by
  rw [framesLen_frames l hl bs h p, framesLen_torn l hl b p q hb.1 hb.2 hpq hq]; rfl

/-- non-vacuity: an orphan 'X' record is a complete frame of admissible length -/
example : Lim.gen.ldMin ≤ ((Rec.exp [0x6b] 5000).body ++ le32 0).length ∧ ((Rec.exp [0x6b] 5000).body ++ le32 0).length ≤ Lim.gen.ldMax := by
  decide

/-- **Gen obligation (snapshot entry count, repair FC11d).** `load` bounds the entry count by what the rest of the snapshot file can
hold (`count > remaining / kMinSnapshotEntryBytes` is refused) instead of by a constant, the divisor is positive and not larger than
the smallest entry of either snapshot version (4 + 1 + 4), the count field is 32 bits wide, and `compactLocked` refuses to write a
snapshot whose count would not fit the field.  So the only bound left in `D1_snapshot` / `StepOK` is the width of the field. -/
theorem gen_snapcount_ok :
    Gen.Kv.snapCountBoundFromFileSize = true ∧ Gen.Kv.compactRefusesCountOverflow = true ∧
    Gen.Kv.snapCountFieldMax = 2 ^ 32 - 1 ∧ 1 ≤ Gen.Kv.snapMinEntryBytes ∧ Gen.Kv.snapMinEntryBytes ≤ 4 + 1 + 4 := by
  decide

/-- **snapshot round trip.** What `compactLocked` writes, `load` reads back: version 2, ANY number of entries the 32-bit count
field can express (`l.snapCountMax = 2^32 − 1` for the generated limits; `compactLocked` refuses more) — `load`'s plausibility
check `count ≤ remaining bytes / kMinSnapshotEntryBytes` never refuses a snapshot this code wrote (`snapEntries_length`). -/
theorem D1_snapshot (l : Lim) (hl : l.OK) (ents : List (Key × Val × Option Int)) (h : ∀ x ∈ ents, EntWF l x)
    (hc : ents.length ≤ l.snapCountMax) : loadSnap l (encodeSnap l ents) = .ok (snapState ents) :=
  loadSnap_ok l hl ents h hc

/-- the executable enumeration used by the driver lists only crash images -/
theorem crashImage_sound (fs : Fs) (ops : List FsOp) (k cut : Nat) : IsCrashImage fs ops (crashImage fs ops k cut) := by
  unfold crashImage
  refine ⟨ops.take k, ops.drop k, (List.take_append_drop k ops).symm, ?_⟩
  cases hd : ops.drop k with
  | nil => exact .inl rfl
  | cons o rest =>
    cases o with
    | append f bs =>
      right
      exact ⟨f, bs, rest, bs.take cut, bs.drop cut, rfl, (List.take_append_drop cut bs).symm, rfl⟩
    | trunc f n => exact .inl rfl
    | rename a b => exact .inl rfl

/-- **D3 for arbitrary crash images** (not only the ones the executable enumeration `crashImage` lists): the relational
form of §6.5. -/
theorem D3_every_image (cfg : Cfg) (hl : cfg.lim.OK) (w : W) (hi : Inv cfg w) (op : Op) (hok : StepOK cfg w op) (hd : op.Distinct) :
    CrashAdm cfg w.now w.fs (step cfg w op).1.tr w.mem.look (step cfg w op).1.mem.look :=
  crash_step cfg hl w hi op hok hd

/-- **D3 (crash prefix).** From every reachable state (`Inv`: any history, see `C12.M1_refinement`), for every operation —
set, set+TTL, batch, delete, prefix delete, clear, expiry change, persist, compaction, eviction callback, close+reopen — and
every crash point of §6.5 (any prefix `k` of the file operations the step issues, the write in progress cut after any
number `cut` of bytes), a new process started at any time `t ≥ now` on what is left: the constructor succeeds, and every
key shows what it held before the operation or what it holds after it (as seen at `t`) — never a torn, foreign or
resurrected value.  This includes the compaction windows: temp file partly/fully written, renamed but log not yet reset
(the old log replayed over the new snapshot is idempotent), log reset.  **D4 (continuation)** is the `Inv` conjunct: the
recovered store satisfies the full invariant again, so D3, the refinement M1 and the restart theorem M4 apply to everything
that follows — further operations, clean closes, further crashes, for any number of generations. -/
theorem D3_D4_crash_recover (cfg : Cfg) (hl : cfg.lim.OK) (w : W) (hi : Inv cfg w) (op : Op) (hok : StepOK cfg w op)
    (hd : op.Distinct) (k cut : Nat) (t : Int) (ht : w.now ≤ t) (m0 : Mem) :
    (crashRecover cfg w op k cut t m0).2 = .ok ∧ Inv cfg (crashRecover cfg w op k cut t m0).1 ∧
    (crashRecover cfg w op k cut t m0).1.now = t ∧
    ∀ key, (crashRecover cfg w op k cut t m0).1.abs.m key = live t (w.mem.look key) ∨
           (crashRecover cfg w op k cut t m0).1.abs.m key = live t ((step cfg w op).1.mem.look key) := by
  obtain ⟨ents, rs, p, htd, hadm⟩ := D3_every_image cfg hl w hi op hok hd _ (crashImage_sound w.fs (step cfg w op).1.tr k cut)
  have hpos : 0 < t := by have := hi.file.pos; omega
  obtain ⟨h1, h2, h3, h4⟩ := open_torn cfg hl { mem := m0, fs := crashImage w.fs (step cfg w op).1.tr k cut, tr := [], now := t }
    ents rs p htd hpos
  refine ⟨h1, h2, h3, fun key => ?_⟩
  have habs : (crashRecover cfg w op k cut t m0).1.abs.m key = live t ((rep cfg.lim ents rs).look key) := by
    show live (crashRecover cfg w op k cut t m0).1.now ((crashRecover cfg w op k cut t m0).1.mem.look key) = _
    unfold crashRecover
    rw [h3, h4 key, look_sweep, live_idem]
  rw [habs]
  rcases hadm key with h | h
  · exact .inl (h t ht)
  · exact .inr (h t ht)

/-- **D4 (continuation, spelled out).** After recovering from any crash image, every further history — ending in a clean
close and reopen or not — behaves exactly as the reference map started from the recovered contents: nothing acknowledged
after the recovery is lost at the next load. -/
theorem D4_continuation (cfg : Cfg) (hl : cfg.lim.OK) (w : W) (hi : Inv cfg w) (op : Op) (hok : StepOK cfg w op)
    (hd : op.Distinct) (k cut : Nat) (t : Int) (ht : w.now ≤ t) (m0 : Mem) (ops : List Op)
    (hops : RunOK cfg (crashRecover cfg w op k cut t m0).1 ops) :
    (run cfg (crashRecover cfg w op k cut t m0).1 (ops ++ [.reopen])).abs
      = specRun cfg.lim (crashRecover cfg w op k cut t m0).1.abs ops := by
  obtain ⟨_, hinv, _, _⟩ := D3_D4_crash_recover cfg hl w hi op hok hd k cut t ht m0
  exact run_reopen_ok cfg hl ops _ hinv hops

/-- recovery from any directory of the crash-image shape, wherever it comes from (first generation or not), at any positive time
(`FInv.pos`: a positive clock makes every unexpired deadline plausible, hence persistable) -/
theorem D4_recover_any (cfg : Cfg) (hl : cfg.lim.OK) (img : Fs) (ents : List (Key × Val × Option Int)) (rs : List Rec) (p : Bytes)
    (hd : TornDurable cfg img ents rs p) (t : Int) (ht : 0 < t) (m0 : Mem) :
    (opOpen cfg { mem := m0, fs := img, tr := [], now := t }).2 = .ok ∧
    Inv cfg (opOpen cfg { mem := m0, fs := img, tr := [], now := t }).1 :=
  have ⟨h1, h2, _⟩ := open_torn cfg hl { mem := m0, fs := img, tr := [], now := t } ents rs p hd ht
  ⟨h1, h2⟩

/-- non-vacuity: the hypotheses of D3/D4 hold for the first `set` on a fresh store, for a batch with distinct keys -/
example : Inv C12ex.cfg (W.init C12ex.cfg 1000 []) := init_inv _ 1000 (by decide) []
example : StepOK C12ex.cfg (W.init C12ex.cfg 1000 []) (.setBatch [([1], [2]), ([3], [])]) ∧
    (Op.setBatch [([1], [2]), ([3], [])]).Distinct := ⟨⟨by decide, trivial⟩, by simp only [Op.Distinct]; decide⟩

/-- **J1 (JSON file store).** With `saveToFile()` as the working tree has it (a generated fact), at every crash point of a
flush — between any two file operations, or inside the write at any byte — the store file is either untouched (the last
completed flush) or the complete new text (the flush in progress); never empty or partial. -/
theorem J1_flush_atomic (fs : Fs) (data : Bytes) (k cut : Nat) :
    Jfs.loaded (crashImage fs (Jfs.saveToFile data) k cut) = Jfs.loaded fs ∨
    Jfs.loaded (crashImage fs (Jfs.saveToFile data) k cut) = some data := by
  rw [Jfs.saveToFile_eq]; exact Jfs.crash_any fs data _ (crashImage_sound fs _ k cut)

/-- **J1 over histories.** After any sequence of completed flushes the file holds the last one. -/
theorem J1_last_flush (fs : Fs) (datas : List Bytes) (d : Bytes) : Jfs.loaded (Jfs.flushAll fs (datas ++ [d])) = some d :=
  Jfs.flushAll_snap fs datas d

/-- the in-place rewrite of the unrepaired code does NOT have this property: the model tells the two shapes apart
(a crash right after the truncating open leaves an empty file) -/
theorem J1_in_place_refuted :
    ¬ ∀ (fs : Fs) (data : Bytes) (k cut : Nat),
        Jfs.loaded (crashImage fs (Jfs.saveOpsInPlace data) k cut) = Jfs.loaded fs ∨
        Jfs.loaded (crashImage fs (Jfs.saveOpsInPlace data) k cut) = some data := by
  intro h
  have := h { snap := some [1] } [2, 3] 1 0
  revert this
  decide

end Iora.C11
