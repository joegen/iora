import IoraModel.Lemmas.TimingWheelSat
import IoraModel.Lemmas.TimingWheelRestart
import IoraModel.Lemmas.TimerDrain
import IoraModel.Lemmas.TimerSys
import IoraModel.Lemmas.SteadyTimer
import IoraModel.Gen.Timer
/-!
# C08 — Timers never fire early, twice, or after a successful cancel

The property theorems (lemmas: `Lemmas/TimingWheel*.lean`, `Lemmas/Timer*.lean`, `Lemmas/SteadyTimer.lean`).
Models: `Model/TimingWheel.lean` (the hierarchical wheel as repaired by F21/F22/F32), `Model/TimerService.lean`
(the epoll timer service as repaired by F23/F41) and, on top of the service, `Model/TimerSys.lean` (restart, wake-up plumbing) and
`Model/SteadyTimer.lean`; the life of one wheel object across `reset()` (`ROp`, `rrun`) is modelled at the head of
`Lemmas/TimingWheelRestart.lean`; shape facts come from the regenerated `Gen/Timer.lean`.

Wheel theorems quantify over EVERY operation list `ops : List Op` — any interleaving of
`start / schedule / cancel / reschedule / advance / drain / stop`, with every clock value an input of the operation
(no monotonicity assumed), any delay (negative, zero, beyond the wheel span) and any geometry.
-/
namespace Iora.C08
open Iora Iora.Wheel

/-! ## Wheel -/

/-- **Gen conformance (wheel).** The working tree has the shapes the model assumes: `schedule` re-tests `_accepting`
under `_wheelMutex` (F32); `collectFromBucket` re-inserts when `deadline - now > _tickDuration` (F21); both bucket
loops that may re-insert walk a detached vector (F22); `cascadeDown`/`drain` fire on `deadline <= now`.  Atomicity of the model's
steps: every wheel function that reads or writes `_entryMap`, the buckets, the tick counters or `_lastAdvanceTime` declares
`std::lock_guard lock(_wheelMutex)` BEFORE its first such access and in a scope that contains all of them
(`wheelMutexSections`), and callbacks are fired outside every such scope. -/
theorem G_wheel_shapes :
    Gen.Timer.wheelScheduleRechecksUnderLock = true ∧ Gen.Timer.wheelLevel0NotDueOp = ">" ∧ Gen.Timer.wheelLevel0NotDueRhs = "_tickDuration" ∧
    Gen.Timer.wheelLevel0Detached = true ∧ Gen.Timer.wheelCascadeDetached = true ∧ Gen.Timer.wheelCascadeDueOp = "<=" ∧
    Gen.Timer.wheelDrainDueOp = "<=" ∧ Gen.Timer.wheelCatchUpAbove = 1 ∧
    Gen.Timer.wheelAdvanceOrder = ["collectFromBucket", "level0.currentTick++", "cascadeDown"] ∧
    Gen.Timer.wheelMutexSections = ["schedule", "cancel", "reschedule", "advance", "start", "drain", "clearAllEntries", "reset", "pendingCount"] ∧
    Gen.Timer.wheelFiresOutsideLock = true :=
  ⟨rfl, rfl, rfl, rfl, rfl, rfl, rfl, rfl, rfl, rfl, rfl⟩

/-- **W6 (lifecycle order, Gen conformance).** `stop()` and `drain()` clear `_accepting` first, then join the tick thread
(`stopTickThread`: flag, notify, join), and only then clear/collect the entries: once they return no tick thread exists,
so without a dispatcher no callback is running or starts later. -/
theorem W6_lifecycle_order :
    Gen.Timer.wheelStopOrder = ["accepting=false", "stopTickThread", "clearAllEntries", "state=STOPPED"] ∧
    Gen.Timer.wheelDrainOrder = ["accepting=false", "stopTickThread", "lock", "entryMap.clear"] ∧
    Gen.Timer.wheelStopTickThreadOrder = ["running=false", "notify_all", "join"] :=
  ⟨rfl, rfl, rfl⟩

/-- **W0 (well-formedness).** In every reachable state there is one tick counter per level and every linked entry sits
on an existing level, so the default of `curAt` is never used. -/
theorem W0_levels_in_range (c : Cfg) (hl : 0 < c.levels) (ops : List Op) :
    (run c ops).1.cur.length = c.levels ∧ ∀ e ∈ (run c ops).1.entries, e.level < c.levels :=
  ⟨(inv_run c ops).curLen, (inv_run c ops).lvl hl⟩

/-- **W0' (valid geometries).** For a geometry the constructor accepts, the model's `% slots` is the code's `& _tickMask`
(`_tickMask = ticksPerWheel - 1`), and there is at least one slot.  Invalid geometries (tick ≤ 0, slot count not a power of two, no
level) are outside what the model claims about the C++; the wheel theorems below hold for them as statements about the model only. -/
theorem W0_mask_is_mod (c : Cfg) (h : c.Valid) (n : Nat) : n &&& (c.slots - 1) = n % c.slots ∧ 0 < c.slots := by
  obtain ⟨_, _, k, hk⟩ := h
  rw [hk]
  exact ⟨Nat.and_two_pow_sub_one_eq_mod n k, Nat.pow_pos (by decide)⟩

example : (⟨10, 8, 2⟩ : Cfg).Valid := ⟨by decide, by decide, 3, rfl⟩

/-- **W1 (conservation).** After every history, the ids still linked in the wheel together with the ids that have left
it (fired, cancelled with `true`, drained, cleared by `stop`) are — as a multiset — exactly the ids handed out, and no id
was handed out twice: every scheduled timer is at every moment in exactly one place, never duplicated, never silently
dropped. -/
theorem W1_conservation (c : Cfg) (ops : List Op) :
    (ids (run c ops).1 ++ left (run c ops).2).Perm (issued (run c ops).2) ∧ (issued (run c ops).2).Nodup :=
  ⟨(inv_run c ops).perm, (inv_run c ops).nodup⟩

/-- **W1' (at most once).** Over a whole history no id is handed to `fireCallback` twice, every fired id was issued, and a
fired id is no longer pending. -/
theorem W1_fires_at_most_once (c : Cfg) (ops : List Op) :
    (fired (run c ops).2).Nodup ∧ ∀ a ∈ fired (run c ops).2, a ∈ issued (run c ops).2 ∧ a ∉ ids (run c ops).1 :=
  (inv_run c ops).fired_nodup

/-- non-vacuity: a history in which two timers fire (one of them rescheduled first) and one is cancelled -/
example : fired (run ⟨10, 8, 2⟩ [.start 0, .sched 0 5, .sched 0 25, .sched 0 300, .resched 1000000 2 12, .cancel 3,
    .adv 10000000, .adv 20000000, .adv 30000000]).2 = [1, 2] := by decide +kernel

/-- **W2a.** `cancel` answers `true` exactly when the id is pending (linked in some bucket). -/
theorem W2_cancel_iff_pending (w : Wheel) (id : Nat) : (cancel w id).2 = true ↔ id ∈ ids w :=
  cancel_true_iff w id

/-- **W2a'.** `reschedule` answers `true` exactly when the id is pending. -/
theorem W2_resched_iff_pending (c : Cfg) (w : Wheel) (now : Int) (id : Nat) (d : Int) : (reschedule c w now id d).2 = true ↔ id ∈ ids w :=
  resched_true_iff c w now id d

/-- **W2b.** After `cancel(id)` returned `true`, whatever happens next (`rest` is any continuation), the id is never
pending again and is never handed to `fireCallback`. -/
theorem W2_cancelled_never_fires (c : Cfg) (ops : List Op) (id : Nat) (rest : List Op)
    (h : (cancel (run c ops).1 id).2 = true) :
    id ∉ ids (run c (ops ++ .cancel id :: rest)).1 ∧ id ∉ fired (trace c (cancel (run c ops).1 id).1 rest) := by
  -- `id` leaves at the cancel, and what fires leaves
  have g := left_for_good c ops (.cancel id) rest (id := id) (by simp [step, h, leftOf])
  exact ⟨g.1, fun hf => g.2 ((fired_sublist _).subset hf)⟩

/-- non-vacuity: a cancel that succeeds -/
example : (cancel (run ⟨10, 8, 2⟩ [.start 0, .sched 0 50]).1 1).2 = true := by decide +kernel

/-- **W2c.** `cancel(id) = false` means the id was never handed out, or it has already left the wheel (fired,
cancelled before, drained or cleared): a pending timer is never reported as unknown. -/
theorem W2_false_means_gone (c : Cfg) (ops : List Op) (id : Nat) (h : (cancel (run c ops).1 id).2 = false) :
    id ∉ issued (run c ops).2 ∨ id ∈ left (run c ops).2 :=
  (inv_run c ops).cancel_false h

/-- **W3 (not early).** Whatever the history and whenever `advance()` is called — on time, late by any number of ticks
(catch-up), early, with a clock that jumped — every entry it hands to `fireCallback` carries exactly the deadline the caller's
latest successful `schedule`/`reschedule` of that id asked for (`lastDeadline` is computed from the history alone), and
`now ≥ deadline − tick`.  A rescheduled timer therefore never fires on its old schedule. -/
theorem W3_not_early (c : Cfg) (hc : 0 ≤ c.tick) (ops : List Op) (now : Int) :
    ∀ e ∈ (advance c (run c ops).1 now).2,
      lastDeadline (run c ops).2 e.id = some e.deadline ∧ e.deadline - now ≤ c.tick * nsPerMs :=
  (inv_run c ops).not_early hc now

/-- non-vacuity and tightness: a 15 ms timer scheduled 1 ms before a 2.5-tick-late `advance` is NOT fired by it (it would be
14 ms early; the unrepaired code fired it) and fires two ticks later -/
example : (advance ⟨10, 8, 2⟩ (run ⟨10, 8, 2⟩ [.start 0, .sched 24000000 15]).1 25000000).2 = [] ∧
          (fired (run ⟨10, 8, 2⟩ [.start 0, .sched 24000000 15, .adv 25000000, .adv 35000000]).2) = [1] := by decide +kernel

/-- **W3 for `drain`.** `drain` fires only entries whose (caller-requested) deadline has passed. -/
theorem W3_drain_not_early (c : Cfg) (ops : List Op) (now : Int) (b : Nat) :
    ∀ e ∈ (drain (run c ops).1 now b).2.fired, lastDeadline (run c ops).2 e.id = some e.deadline ∧ e.deadline ≤ now :=
  fun e he => ⟨(inv_run c ops).dl e (drain_fired_due _ now b e he).1, (drain_fired_due _ now b e he).2⟩

/-- **W5.** An entry fired from a higher level (by `cascadeDown`) is not early at all: `deadline ≤ now`.  The guard is in `advance`
itself, so this holds of any wheel, reachable or not (W3 needs the invariant to know which deadline the entry carries). -/
theorem W5_cascade_exact (c : Cfg) (w : Wheel) (now : Int) : ∀ e ∈ (advance c w now).2, 0 < e.level → e.deadline ≤ now := by
  intro e he hl
  rcases (advance_tr c w now).fired_due e he with ⟨h0, _⟩ | ⟨_, h⟩
  · omega
  · exact h

/-- **W4 (termination).** In the repaired code both bucket loops of `advance` iterate over a detached list (structural
`List.foldl` in the model: one iteration per entry that was in the bucket), and the level recursion of `cascadeDown` needs at
most `levels` calls: more fuel never changes the result, i.e. the model's fuel-0 exit is the `level >= _numWheels` exit.  (Start level 1 is
the one call site: `advance` cascades from level 1 when level 0 wraps.) -/
theorem W4_cascade_terminates (c : Cfg) (now : Int) (s : Wheel × List Entry) :
    ∀ k, cascadeDown c now (c.levels + k) 1 s = cascadeDown c now c.levels 1 s :=
  cascadeDown_levels c now 1 s

/-- **F22 on record.** The walk of the UNREPAIRED `cascadeDown` over the live bucket does not terminate for two entries
whose remaining delay is beyond the wheel span: for every number of iterations `f` it is still running.  (Witness replayed
against the real code by the check: corpus/C08/F22-*.json answers `hang` on the unrepaired tree.) -/
theorem W4_legacy_walk_livelock : ∀ f : Nat, legacyWalk legacyCfg 160000000 1 0 f legacyA (some 1) [] = none :=
  fun f => (legacy_livelock f).1

/-- **W7a.** `schedule` on a wheel that is not accepting returns `InvalidTimerId` and changes nothing. -/
theorem W7_refused (c : Cfg) (w : Wheel) (now d : Int) (h : w.accepting = false) : schedule c w now d = (w, 0) := by
  simp [schedule, h]

/-- **W7b.** Once `stop()` or `drain()` has run, whatever follows, the wheel never accepts again and nothing is ever linked in
it: every later `schedule` is refused (W7a) rather than accepted and lost. -/
theorem W7_stopped_forever (c : Cfg) (ops : List Op) (op : Op) (hop : op = .stop ∨ ∃ n b, op = .drain n b) (rest : List Op) :
    (run c (ops ++ op :: rest)).1.accepting = false ∧ (run c (ops ++ op :: rest)).1.entries = [] := by
  have i := inv_run c (ops ++ op :: rest)
  have hs : (run c (ops ++ op :: rest)).1.state = .stopped := by
    rw [run_append]
    exact stopped_runFrom c rest _ _ (by rcases hop with h | ⟨n, b, h⟩ <;> subst h <;> rfl)
  exact ⟨i.not_accepting_of_stopped hs, i.idle hs⟩

/-- **W7c (all interleavings of `schedule()` with `stop()`).** With the flag re-tested under `_wheelMutex` (the shape `Gen`
reports for the working tree), for EVERY schedule of the two threads: once `stop()` has returned, no entry of the racing
`schedule()` is linked in the wheel — it was either refused or inserted before the clear and cleared. -/
theorem W7_concurrent (sched : List Bool) :
    (Race.runSched Gen.Timer.wheelScheduleRechecksUnderLock {} sched).t = .done →
    (Race.runSched Gen.Timer.wheelScheduleRechecksUnderLock {} sched).stored = false :=
  -- the invariant is about the code that re-tests the flag under the lock: the shape the translator reads from the source
  (rfl : Gen.Timer.wheelScheduleRechecksUnderLock = true) ▸ Race.good_safe _ (Race.good_run sched {} Race.good_init)

/-- **F32 on record.** Without the re-test there is a schedule after which `stop()` has returned, `schedule()` has returned a
valid id, and the entry is linked in the stopped wheel (it never fires). -/
theorem W7_without_retest_witness :
    let x := Race.runSched false {} [false, true, true, true, false, false, false]
    x.t = .done ∧ x.s = .accepted ∧ x.stored = true := by decide +kernel

/-! ### wheel: the saturating deadline (FC08c) -/

/-- **W8a (FC08c: the deadline computation never wraps).** For every clock value a `steady_clock::time_point` can hold
(`0 ≤ now ≤ tpMax = 2^63 - 1` ns) and EVERY delay — `milliseconds::max()`, `milliseconds::min()`, 300 years — the deadline that
`schedule`/`reschedule` store (`deadlineAfter`, the value `W3_not_early` shows every fired entry carries) is a time point between the
epoch and `TimePoint::max()`, and `deadline - now'` is representable for every clock value `now'` a later `advance()`/`drain()` can read;
it IS `now + delay` whenever that is a representable time point at or after the epoch, and otherwise (delay too large) lies in the last
millisecond before `TimePoint::max()`.  No assumption `now + delay < 2^63` is needed. -/
theorem W8_deadline_never_wraps (now d : Int) (h0 : 0 ≤ now) (h1 : now ≤ tpMax) :
    (0 ≤ deadlineAfter now d ∧ deadlineAfter now d ≤ tpMax ∧
      ∀ now', 0 ≤ now' → now' ≤ tpMax → -tpMax ≤ deadlineAfter now d - now' ∧ deadlineAfter now d - now' ≤ tpMax) ∧
    (0 ≤ now + d * nsPerMs → now + d * nsPerMs ≤ tpMax → deadlineAfter now d = now + d * nsPerMs) ∧
    (tpMax < now + d * nsPerMs → tpMax - nsPerMs < deadlineAfter now d) :=
  ⟨deadlineAfter_bounds now d h0 h1, deadlineAfter_exact now d h0 h1, fun h => (deadlineAfter_saturates now d h0 h1 h).1⟩

/-- **W8b (never early w.r.t. the REQUESTED deadline, no overflow assumption).** If the guard of `W3_not_early` lets an entry
scheduled at `now` with delay `d ≥ 0` fire at clock `now'`, then `now'` is within one tick (+ the 1 ms granularity of the clamp)
of `min(now + d, TimePoint::max())`: a timer asked for beyond the end of the clock's range cannot fire before the clock is
within a tick and a millisecond of its end — in particular not "at once", as the unrepaired `Clock::now() + delay` made it. -/
theorem W8_request_not_early (tick now d now' : Int) (h0 : 0 ≤ now) (h1 : now ≤ tpMax) (hd : 0 ≤ d)
    (hg : deadlineAfter now d - now' ≤ tick * nsPerMs) :
    min (now + d * nsPerMs) tpMax - now' < (tick + 1) * nsPerMs := by
  have := (deadlineAfter_is_min now d h0 h1 hd).2
  unfold nsPerMs at *
  omega

/-- non-vacuity / the witness of FC08c: `schedule(milliseconds::max())` at virtual clock 0 on the harness's epoch (30 days)
stores a deadline 292 years ahead, and 40 on-time ticks (five level-0 revolutions) later nothing has fired -/
example : (run ⟨10, 8, 2⟩ [.start 2592000000000000, .sched 2592000000000000 9223372036854775807]).1.entries.map (·.deadline) = [9223372036854000000] ∧
          fired (run ⟨10, 8, 2⟩ ([.start 2592000000000000, .sched 2592000000000000 9223372036854775807] ++
            (List.range 40).map (fun (i : Nat) => Op.adv (2592000000000000 + ((i : Int) + 1) * 10000000)))).2 = [] := by decide +kernel

/-- **Gen conformance (wheel: ids, deadline, restart).** `schedule` takes its id with ONE atomic read-modify-write `_nextId.fetch_add(1, ..)` — the
allocation sits outside `_wheelMutex`, so W1's "no id is handed out twice" holds for concurrent callers only because of this shape
(a `load` followed by a `store` hands one id to two callers; harness op `mtsched`) — and nothing but `reset()` writes `_nextId`
otherwise; `schedule`/`reschedule` compute the deadline with the saturating `deadlineAfter` (FC08c) whose body is the clamp
`now + std::clamp(delay, -behind, ahead)` that `Wheel.deadlineAfter` mirrors; `reset()` asserts STOPPED, clears every entry, zeroes the tick counters, unsets `_lastAdvanceTime`,
restarts the ids at 1 and publishes RESET, in that order; `clearAllEntries` empties the id map and every bucket of every level under
`_wheelMutex`; `start()` leaves exactly CREATED and RESET. -/
theorem G_wheel_shapes_r2 :
    Gen.Timer.wheelIdAllocAtomic = true ∧ Gen.Timer.wheelDeadlineSaturates = true ∧ Gen.Timer.wheelDeadlineIsClamp = true ∧
    Gen.Timer.wheelResetOrder = ["assert-STOPPED", "clearAllEntries", "currentTick=0", "lastAdvance=unset", "nextId=1", "state=RESET"] ∧
    Gen.Timer.wheelClearOrder = ["lock", "freeEntry", "entryMap.clear", "head=null", "tail=null"] ∧
    Gen.Timer.wheelStartFrom = ["CREATED", "RESET"] :=
  ⟨rfl, rfl, rfl, rfl, rfl, rfl⟩

/-- **Gen conformance (KV store's TTL wheel).** The default geometry `KVStoreConfig` hands to the `TimingWheel` constructor
(`ttlTickDuration`, `ttlTicksPerWheel`, `ttlNumWheels`, regenerated from kvstore.hpp) satisfies the constructor's preconditions
`Cfg.Valid` — tick > 0, a power-of-two slot count (any exponent up to 64), at least one level — which is what `W0_mask_is_mod`
needs for the model's `% slots` to be the code's `& _tickMask`.  The check runs this geometry in lockstep (GEOMETRIES takes it from
the same generated values). -/
theorem G_kv_wheel_geometry_valid :
    (⟨Gen.Timer.kvWheelTickMs, Gen.Timer.kvWheelSlots, Gen.Timer.kvWheelLevels⟩ : Cfg).Valid := by
  refine ⟨by decide, by decide, ?_⟩
  have h : (List.range 65).any (fun k => Gen.Timer.kvWheelSlots == 2 ^ k) = true := by decide +kernel
  obtain ⟨k, _, hk⟩ := List.any_eq_true.mp h
  exact ⟨k, by simpa using hk⟩

/-! ### wheel: restart — `stop()`/`drain()` → `reset()` → `start()`

`reset()` restarts the ids at 1, so ids are unique only within an EPOCH (between two successful `reset()` calls).  A life of one wheel
object is a list `rops : List ROp` of ordinary operations and `reset`s (`Lemmas/TimingWheelRestart.lean`); `(rrun c rops).h` is the
`(op, answer)` history of the CURRENT epoch, `(rrun c rops).w` the wheel.  Every prefix of a life is a life, so a statement about "the
current epoch of every life" is a statement about every epoch. -/

/-- **WR0 (`reset()` drops nothing, leaves nothing).** In every reachable life a STOPPED wheel — the only state in which `reset()` may be
called — holds no entry and does not accept: everything scheduled in the closing epoch has already left by a route W1 accounts for
(fired, cancelled with `true`, drained, cleared by `stop()`), so `reset()`'s own clear never loses a timer silently.  And a successful
`reset()` leaves no entry linked, every tick counter 0, `_lastAdvanceTime` unset, the next id 1, state RESET, still not accepting:
nothing from before the reset is linked afterwards. -/
theorem WR0_reset_drops_nothing (c : Cfg) (rops : List ROp) (hs : (rrun c rops).w.state = .stopped) :
    ((rrun c rops).w.entries = [] ∧ (rrun c rops).w.accepting = false) ∧
    (rrun c (rops ++ [.reset])).w.entries = [] ∧ (rrun c (rops ++ [.reset])).h = [] ∧ (rrun c (rops ++ [.reset])).w.nextId = 1 ∧
    (rrun c (rops ++ [.reset])).w.lastAdvance = none ∧ (∀ l, curAt (rrun c (rops ++ [.reset])).w l = 0) ∧
    (rrun c (rops ++ [.reset])).w.state = .reset ∧ (rrun c (rops ++ [.reset])).w.accepting = false := by
  have g := And.intro ((inv_rrun c rops).idle hs) ((inv_rrun c rops).not_accepting_of_stopped hs)
  have r := reset_clears (rrun c rops).w hs
  rw [rrun_reset c rops hs]
  exact ⟨g, r.entries, rfl, r.nextId, r.lastAdvance, r.cur, r.state, r.accepting.trans g.2⟩

/-- **WR1 (conservation and at-most-once in every epoch, across any number of restarts).** W1 and W1' for the current epoch of every
life: pending ids + ids that left = ids issued in this epoch, no id issued twice in this epoch, no id fired twice in this epoch, a fired
id was issued in this epoch and is no longer pending. -/
theorem WR1_every_epoch (c : Cfg) (rops : List ROp) :
    (ids (rrun c rops).w ++ left (rrun c rops).h).Perm (issued (rrun c rops).h) ∧ (issued (rrun c rops).h).Nodup ∧
    (fired (rrun c rops).h).Nodup ∧ ∀ a ∈ fired (rrun c rops).h, a ∈ issued (rrun c rops).h ∧ a ∉ ids (rrun c rops).w :=
  ⟨(inv_rrun c rops).perm, (inv_rrun c rops).nodup, (inv_rrun c rops).fired_nodup.1, (inv_rrun c rops).fired_nodup.2⟩

/-- **WR1' (ids DO restart).** Uniqueness of ids over the whole life of a wheel object is false: after stop → reset → start the first
`schedule` returns id 1 again.  A caller that keeps an id across `reset()` can cancel a different timer with it. -/
theorem WR1_ids_restart_witness :
    (step ⟨10, 8, 2⟩ (rrun ⟨10, 8, 2⟩ [.op (.start 0), .op (.sched 0 50)]).w (.sched 0 70)).2 matches .id 2 ∧
    (step ⟨10, 8, 2⟩ (rrun ⟨10, 8, 2⟩ [.op (.start 0), .op (.sched 0 50), .op .stop, .reset, .op (.start 5)]).w (.sched 5 70)).2 matches .id 1 := by
  decide +kernel

/-- **WR2 (cancel across restarts).** In every life `cancel(id) = true` iff the id is pending now (W2a holds in every state), and
`cancel(id) = false` means the id was not issued in the current epoch or has left in it: an id that was pending when an earlier epoch was
stopped is not cancellable after the restart unless the new epoch issued it again. -/
theorem WR2_false_means_gone_in_epoch (c : Cfg) (rops : List ROp) (id : Nat) (h : (cancel (rrun c rops).w id).2 = false) :
    id ∉ issued (rrun c rops).h ∨ id ∈ left (rrun c rops).h :=
  (inv_rrun c rops).cancel_false h

/-- **WR3 (not early, across restarts).** In every life, every entry `advance()` hands to `fireCallback` carries exactly the deadline that
the latest successful `schedule`/`reschedule` of its id asked for IN THE CURRENT EPOCH (`lastDeadline` of the current epoch's history),
and `now ≥ deadline − tick`: an id issued after a restart never fires on a deadline that belonged to its namesake of an earlier epoch. -/
theorem WR3_not_early_across_restarts (c : Cfg) (hc : 0 ≤ c.tick) (rops : List ROp) (now : Int) :
    ∀ e ∈ (advance c (rrun c rops).w now).2,
      lastDeadline (rrun c rops).h e.id = some e.deadline ∧ e.deadline - now ≤ c.tick * nsPerMs :=
  (inv_rrun c rops).not_early hc now

/-- non-vacuity: two epochs; id 1 of the first epoch (deadline 50 ms) is pending at `stop()`; id 1 of the second epoch is scheduled at
60 ms for 200 ms later; the ticks at 70 … 290 ms (all past the OLD deadline) fire nothing, the tick at 300 ms fires it (deadline 260 ms; filed on level 1, it comes down with the
next cascade) -/
example :
    let pre : List ROp := [.op (.start 0), .op (.sched 0 50), .op .stop, .reset, .op (.start 60000000), .op (.sched 60000000 200)]
    fired (rrun ⟨10, 8, 2⟩ (pre ++ (List.range 23).map (fun (i : Nat) => ROp.op (.adv (70000000 + (i : Int) * 10000000))))).h = [] ∧
    fired (rrun ⟨10, 8, 2⟩ (pre ++ (List.range 24).map (fun (i : Nat) => ROp.op (.adv (70000000 + (i : Int) * 10000000))))).h = [1] ∧
    (rrun ⟨10, 8, 2⟩ pre).epochs = 1 := by decide +kernel

/-! ## Timer service

Theorems quantify over EVERY list of atomic steps `ops : List Tsvc.Op` — the locked sections of `scheduleAt`,
`schedulePeriodic`, `cancel`, of the loop thread (`collect`, with its clock value as input), of `drain()` (gate, sweep, wait
outcome, restore) and of `stop()` (flag, halt, join+publish), plus the start and end of each handler outside the lock — in any
order: every interleaving of any number of caller threads with the loop thread is such a list. -/

section Service
open Iora.Tsvc

/-- **Gen conformance (service).** `scheduleAt`/`schedulePeriodic` re-test `_accepting` under `_mutex`; `cancel` decides under
`_mutex`; `collectDueLocked` breaks on `top.tp > now`, erases the record before it hands the handler over, re-arms after that;
both collect sites pre-announce `_executingCallbacks` inside the same locked block; `safeRun`'s guard decrements, then
locks/unlocks `_mutex`, then notifies; a timed-out `drain` restores `_accepting` under `_mutex`; `stop()` clears `_accepting` under
`_mutex` before it halts the loop and publishes Stopped + not-accepting together after the join (F23); periodic invocations go
through the cancel guard (F41), which `cancel` closes for every periodic entry it finds — also one a `drain` sweep has already marked.  Atomicity of the model's
steps: every section the model treats as one step declares its `_mutex` lock before its first access to
`_records/_periodicTimers/_heap/_nextId/_accepting/_lifecycleState` and in a scope containing all of them (`svcMutexSections`);
handlers run outside every such scope; the restore `_accepting = true` sits INSIDE the braces of `if (CAS Draining → Running)`. -/
theorem G_service_shapes :
    Gen.Timer.svcScheduleAtRechecksUnderLock = true ∧ Gen.Timer.svcSchedulePeriodicRechecksUnderLock = true ∧
    Gen.Timer.svcCancelOrder = ["lock", "records.find", "canceled=true", "periodic.erase"] ∧
    Gen.Timer.svcCollectBreakOp = ">" ∧
    Gen.Timer.svcCollectOrder = ["heapPop", "records.erase", "canceled-test", "push", "re-arm"] ∧
    Gen.Timer.svcPreAnnounceUnderLock = true ∧
    Gen.Timer.svcSafeRunOrder = ["fetch_sub", "lock-unlock", "notify_all"] ∧
    Gen.Timer.svcDrainRestoresAcceptingOnTimeout = true ∧ Gen.Timer.svcDrainSweepOp = ">" ∧
    Gen.Timer.svcStopClearsAccepting = true ∧ Gen.Timer.svcStopPublishesStoppedUnderLock = true ∧
    Gen.Timer.svcPeriodicCancelGuard = true ∧ Gen.Timer.svcCancelClosesGuardAlways = true ∧
    Gen.Timer.svcMutexSections = ["scheduleAt", "schedulePeriodic", "cancel", "drain.gate", "drain.sweep", "drain.wait", "drain.restore",
      "stop.flag", "markStopped", "reset", "getInFlightCount", "runLoop.collect"] ∧
    Gen.Timer.svcHandlersRunOutsideLock = true ∧ Gen.Timer.svcDrainRestoreInsideCas = true :=
  ⟨rfl, rfl, rfl, rfl, rfl, rfl, rfl, rfl, rfl, rfl, rfl, rfl, rfl, rfl, rfl, rfl⟩

/-- **S1 (at most once, nothing collected is lost).** After every history, the invocations whose handler started, those skipped
because `cancel` closed their guard, and those still waiting in the loop thread's `ready` list are — as a multiset — exactly
the collected invocations, and no invocation `(id, firing index)` was collected twice.  So a one-shot handler starts at most
once, the k-th firing of a periodic timer starts at most once, and a collected handler is never dropped. -/
theorem S1_collected_exactly_once (L : Limits) (ops : List Tsvc.Op) :
    (started (Tsvc.run L ops).2 ++ skipped (Tsvc.run L ops).2 ++ (Tsvc.run L ops).1.ready).Perm (collected (Tsvc.run L ops).2) ∧
    ((collected (Tsvc.run L ops).2).map ekey).Nodup ∧ ((started (Tsvc.run L ops).2).map ekey).Nodup := by
  have i := (Tsvc.inv_run L ops).hi
  exact ⟨i.perm, i.q.nodup, i.started_nodup⟩

/-- **S2 (never early).** Whatever the history and whatever clock value the loop thread reads, every invocation it collects is
due (`tp ≤ now`); its time point is `t0 + k · iv` where `(t0, iv)` is what the CALLER asked for according to the history
alone — for `scheduleAt(tp)`: `t0 = tp`, `iv = 0`; for `schedulePeriodic(interval)` called at clock `t0`: `iv = interval` and
`k = 1, 2, …` is the firing index.  Hence the k-th firing of a periodic timer happens no earlier than k intervals after it
was scheduled. -/
theorem S2_collected_is_due (L : Limits) (ops : List Tsvc.Op) (now : Int) (atExit : Bool) :
    ∀ e ∈ (collect (Tsvc.run L ops).1 now atExit).2.1,
      e.tp ≤ now ∧ e.tp = e.t0 + e.k * e.iv ∧ reqOf (Tsvc.run L ops).2 e.id = some (e.t0, e.iv) := by
  intro e he
  unfold collect at he
  split at he
  · cases he
  · exact (collect_spec (Tsvc.inv_run L ops) now).1.out e he

/-- non-vacuity: a periodic timer scheduled at clock 1 ms with interval 2 ms; a collect at 7.5 ms hands over firings 1, 2, 3
(due at 3, 5, 7 ms) and nothing else -/
example : ((collect (Tsvc.run ⟨100, 10, 86400000000000⟩ [.schedPer 1000000 2000000]).1 7500000).2.1.map (fun e => (e.id, e.k, e.tp))) =
    [(1, 1, 3000000), (1, 2, 5000000), (1, 3, 7000000)] := by decide +kernel

/-- **S3a (successful cancel).** After `cancel(id)` has answered `true` in any reachable state — reached by ANY history `ops`, in
particular one in which a `drain()` (or the `drain(5000)` inside `stop()`) has passed its gate and swept, marking periodic entries
cancelled without closing their guards, has timed out and put the service back to Running, or is still waiting — whatever happens
next (`rest` is any continuation: other threads, further drain/stop steps, the loop thread, handlers already collected before the
cancel and waiting behind a slow handler), no handler of that id ever STARTS.  The proof uses the source fact
`Gen.Timer.svcCancelClosesGuardAlways` (lemma `cancel_true_dead`): with the guard closed only on the `!entry.canceled` transition
the statement is false (`S3_conditional_close_witness`). -/
theorem S3_cancelled_never_starts (L : Limits) (ops : List Tsvc.Op) (id : Nat) (rest : List Tsvc.Op)
    (h : (Tsvc.cancel (Tsvc.run L ops).1 id).2 = true) :
    ∀ e ∈ started (Tsvc.trace L (Tsvc.cancel (Tsvc.run L ops).1 id).1 rest), e.id ≠ id :=
  trace_started (fun s => Dead id s ∧ id ≤ s.nextId) (·.id ≠ id) (fun s op h => (step_eff L s op).dead h.1 h.2) (fun _ h => h.1.shut)
    rest _ (cancel_true_dead _ _ id (Tsvc.inv_run L ops).wf (Tsvc.inv_run L ops).hi h)

/-- non-vacuity (the drain-sweep window): A (one-shot) and P (periodic) are collected together, A's handler is running, P's invocation
waits in `ready`; a `drain` passes its gate and sweeps (P's periodic entry is now marked cancelled, its guard still open);
`cancel(P)` answers `true` and closes the guard; after A has returned the loop thread SKIPS P's invocation.  `rest` in S3a may
contain any number of `drainGate / drainSweep / drainTimeout / drainRestore / stopFlag …` steps before and after the cancel. -/
example :
    let s := (Tsvc.run ⟨100, 10, 86400000000000⟩ [.schedAt 0 5000000, .schedPer 0 5000000, .collect 5000000 false, .hstart, .drainGate, .drainSweep 5000000 50000000]).1
    s.periodic.map (fun p => (p.id, p.canceled)) = [(2, true)] ∧ s.closed = [] ∧ s.ready.map (·.id) = [2] ∧
    (Tsvc.cancel s 2).2 = true ∧
    (hstart (hend (Tsvc.cancel s 2).1)).2.skippedId = some 2 := by decide +kernel

/-- **On record (seeded change C08-b).** If `cancel` closed the guard only on the transition `!entry.canceled` (the other possible
position of the store, `cancelWith false`), the same history lets P's handler START after `cancel(P)` returned `true`. -/
theorem S3_conditional_close_witness :
    let s := (Tsvc.run ⟨100, 10, 86400000000000⟩ [.schedAt 0 5000000, .schedPer 0 5000000, .collect 5000000 false, .hstart, .drainGate, .drainSweep 5000000 50000000]).1
    (Tsvc.cancelWith false s 2).2 = true ∧
    (hstart (hend (Tsvc.cancelWith false s 2).1)).2.startedId = some 2 := by decide +kernel

/-- non-vacuity (the F41 window): a one-shot and a periodic timer are collected together; the one-shot handler is running, the
periodic invocation waits in `ready`; `cancel` of the periodic timer answers `true` -/
example : (Tsvc.cancel (Tsvc.run ⟨100, 10, 86400000000000⟩ [.schedAt 0 5000000, .schedPer 0 5000000, .collect 5000000 false, .hstart]).1 2).2 = true ∧
          (Tsvc.run ⟨100, 10, 86400000000000⟩ [.schedAt 0 5000000, .schedPer 0 5000000, .collect 5000000 false, .hstart]).1.ready.map (·.id) = [2] := by decide +kernel

/-- **S3b (failed cancel).** If `cancel(id)` answers `false`, no live record and no periodic entry of that id exists: the timer was
never issued, was cancelled before (by `cancel` or by a `drain` sweep), or has already been collected — and a collected
invocation is started, skipped-by-cancel or waiting (S1), never dropped. -/
theorem S3_false_means_not_pending (L : Limits) (ops : List Tsvc.Op) (id : Nat) (h : (Tsvc.cancel (Tsvc.run L ops).1 id).2 = false) :
    (∀ r ∈ (Tsvc.run L ops).1.records, r.id = id → r.canceled = true) ∧ ∀ p ∈ (Tsvc.run L ops).1.periodic, p.id ≠ id :=
  cancel_false (Tsvc.inv_run L ops).wf.core.rnd h

/-- **S3c (never silently dropped).** A record leaves `_records` only inside `collect`, and then it is either handed over (it was
live) or it had been cancelled; no other step removes a record. -/
theorem S3_record_accounting (L : Limits) (ops : List Tsvc.Op) (now : Int) (atExit : Bool) :
    ∀ r ∈ (Tsvc.run L ops).1.records,
      r ∈ (collect (Tsvc.run L ops).1 now atExit).1.records ∨ (r.canceled = false ∧ r.hnd ∈ (collect (Tsvc.run L ops).1 now atExit).2.1) ∨
      (r.canceled = true ∧ r ∈ (collect (Tsvc.run L ops).1 now atExit).2.2) := by
  intro r hr
  unfold collect
  split
  · exact Or.inl hr
  · exact (collect_spec (Tsvc.inv_run L ops) now).1.acct r hr

/-- **S3d.** No step other than `collect` removes a record: every record is still there afterwards, with its id and time point. -/
theorem S3_other_steps_keep_records (L : Limits) (s : Svc) (op : Tsvc.Op) (hop : ∀ now ax, op ≠ .collect now ax) :
    ∀ r ∈ s.records, ∃ r' ∈ (Tsvc.step L s op).1.records, r'.id = r.id ∧ r'.tp = r.tp :=
  (step_eff L s op).keeps_records hop

/-- **S4a (drain).** `drain()` reports success only from a state with no live record, `_executingCallbacks = 0`, nothing waiting in
`ready` and no handler running. -/
theorem S4_drain_success (L : Limits) (ops : List Tsvc.Op) (h : (drainDone (Tsvc.run L ops).1).2 = true) :
    liveCount (Tsvc.run L ops).1 = 0 ∧ (Tsvc.run L ops).1.executing = 0 ∧ (Tsvc.run L ops).1.ready = [] ∧ (Tsvc.run L ops).1.inflight = none :=
  have d := (drainDone_true (Tsvc.inv_run L ops).wf h).1
  ⟨d.live, d.exec, d.rd, d.inf⟩

/-- **S4b / S6 (stop).** Once `stop()` has returned (`stopFinish` succeeded: the loop thread is joined and Stopped is published),
whatever any thread does afterwards: no handler starts, the service stays Stopped and never accepts again. -/
theorem S4_after_stop (L : Limits) (ops : List Tsvc.Op) (rest : List Tsvc.Op) (h : (stopFinish (Tsvc.run L ops).1).2 = true) :
    started (Tsvc.trace L (stopFinish (Tsvc.run L ops).1).1 rest) = [] ∧
    ∀ hist, (Tsvc.runFrom L (stopFinish (Tsvc.run L ops).1).1 hist rest).1.life = .stopped ∧
            (Tsvc.runFrom L (stopFinish (Tsvc.run L ops).1).1 hist rest).1.accepting = false := by
  have t := stopFinish_stopped (Tsvc.inv_run L ops).wf h
  exact ⟨trace_silent Stopped (fun s op t => (step_eff L s op).stopped t) (fun _ t => t.rd) rest _ t,
    fun hist => ⟨(t.runFrom L rest hist).life, (t.runFrom L rest hist).acc⟩⟩

/-- `stop()` returns only after the loop thread has exited, which it does only with nothing collected left to run -/
theorem S4_stop_waits_for_handlers (L : Limits) (ops : List Tsvc.Op) (h : (stopFinish (Tsvc.run L ops).1).2 = true) :
    (Tsvc.run L ops).1.exited = true ∧ (Tsvc.run L ops).1.ready = [] ∧ (Tsvc.run L ops).1.inflight = none ∧ (Tsvc.run L ops).1.executing = 0 := by
  have w := (Tsvc.inv_run L ops).wf
  obtain ⟨_, hx, _⟩ := stopFinish_true h
  obtain ⟨_, h2, h3⟩ := w.ex1 hx
  exact ⟨hx, h2, h3, w.idle.mpr ⟨h2, h3⟩⟩

/-- non-vacuity: a complete stop with a handler collected on the exit path -/
example : (stopFinish (Tsvc.run ⟨100, 10, 86400000000000⟩
    [.schedAt 0 1000000, .drainGate, .drainSweep 0 5000000000, .stopFlag, .stopHalt, .collect 2000000 true, .hstart, .hend, .loopExit]).1).2 = true := by decide +kernel

/-- **S4d (after a successful drain).** Once `drain()` has reported success, whatever any thread does afterwards (further drains, `stop`,
`cancel`, the loop thread), no handler ever starts: the service is not accepting, not Running, every record is cancelled, nothing is
collected or running — and every step preserves that. -/
theorem S4_after_drain_nothing_starts (L : Limits) (ops : List Tsvc.Op) (rest : List Tsvc.Op) (h : (drainDone (Tsvc.run L ops).1).2 = true) :
    started (Tsvc.trace L (drainDone (Tsvc.run L ops).1).1 rest) = [] :=
  trace_silent Quiet (fun s op q => (step_eff L s op).quiet q) (fun _ q => q.rd) rest _
    (drainDone_quiet (Tsvc.inv_run L ops).wf (Tsvc.inv_run L ops).busy h)

/-- non-vacuity: a drain that succeeds after the last handler has finished -/
example : (drainDone (Tsvc.run ⟨100, 10, 86400000000000⟩
    [.schedAt 0 1000000, .drainGate, .drainSweep 0 5000000, .collect 1000000 false, .hstart, .hend]).1).2 = true := by decide +kernel

/-! ### S3b: the clause that is false (finding FC08a) -/

/-- **S3b, full clause** ("if cancel reports failure on a running service the handler has run or will run exactly once — a scheduled
timer is never silently dropped while the service runs"), for one-shot timers: on a Running service, `cancel(id) = false` for an
id that `scheduleAt` handed out means the invocation was collected (then it is started exactly once or still waiting, S1) or an
earlier `cancel(id)` answered `true`. -/
def C08_S3b_statement : Prop :=
  ∀ (L : Limits) (ops : List Tsvc.Op) (id : Nat),
    (Tsvc.run L ops).1.life = .running → id ∈ issued1 (Tsvc.run L ops).2 → (Tsvc.cancel (Tsvc.run L ops).1 id).2 = false →
    id ∈ (collected (Tsvc.run L ops).2).map (·.id) ∨ id ∈ userCancelled (Tsvc.run L ops).2

/-- the witness: timer 1 (3 ms, its handler is running) and timer 2 (one hour); `drain(5 ms)` passes its gate and sweeps — timer 2
is beyond the drain deadline and is marked cancelled — then times out because handler 1 is still running, and restores
Running + accepting.  Timer 2 is gone: `cancel(2)` answers `false`, it was never collected and nobody cancelled it. -/
def S3b_witness : List Tsvc.Op :=
  [.schedAt 0 3000000, .schedAt 0 3600000000000, .collect 3000000 false, .hstart, .drainGate, .drainSweep 3000000 5000000,
   .drainTimeout, .drainRestore]

/-- **S3b refuted (finding FC08a).** A `drain(timeout > 0)` that times out has already cancelled the far-future one-shot records (and
marked every periodic entry) and then puts the service back to Running. -/
theorem C08_S3b_refuted : ¬ C08_S3b_statement := by
  intro h
  have := h ⟨100, 10, 86400000000000⟩ S3b_witness 2 (by decide +kernel) (by decide +kernel) (by decide +kernel)
  revert this
  decide +kernel

/-- the witness state is what the clause talks about: Running and accepting again, timer 2's record still there but cancelled -/
example : (Tsvc.run ⟨100, 10, 86400000000000⟩ S3b_witness).1.life = .running ∧ (Tsvc.run ⟨100, 10, 86400000000000⟩ S3b_witness).1.accepting = true ∧
    (Tsvc.run ⟨100, 10, 86400000000000⟩ S3b_witness).1.records.map (fun r => (r.id, r.canceled)) = [(2, true)] := by decide +kernel

/-- **S3b, partial.** Without a `drain(timeout > 0)` sweep in the history (`noSweep`: every `drainSweep` step has `timeout ≤ 0`, i.e.
`drain(0)`, or there is none) the clause holds in every state, Running or not: an issued one-shot id for which `cancel` answers
`false` was collected or was cancelled by a `cancel` that answered `true`. -/
theorem C08_S3b_partial (L : Limits) (ops : List Tsvc.Op) (id : Nat) (hns : noSweep ops)
    (hi : id ∈ issued1 (Tsvc.run L ops).2) (hc : (Tsvc.cancel (Tsvc.run L ops).1 id).2 = false) :
    id ∈ (collected (Tsvc.run L ops).2).map (·.id) ∨ id ∈ userCancelled (Tsvc.run L ops).2 := by
  have n := noLoss_runFrom L ops _ _ Inv.init ⟨by simp, by simp [issued1]⟩ hns
  rcases n.u2 id hi with ⟨r, hr, hrid⟩ | h' | h'
  · exact Or.inr (hrid ▸ n.u1 r hr ((S3_false_means_not_pending L ops id hc).1 r hr hrid))
  · exact Or.inl h'
  · exact Or.inr h'

/-- non-vacuity: a history with `drain(0)`, a collected timer and a successful cancel; `cancel` of the collected one answers `false` -/
example : noSweep [.schedAt 0 1, .schedAt 0 9, .drainGate, .drainSweep 0 0, .collect 5 false, .cancel 2] ∧
    (Tsvc.cancel (Tsvc.run ⟨100, 10, 86400000000000⟩ [.schedAt 0 1, .schedAt 0 9, .drainGate, .drainSweep 0 0, .collect 5 false, .cancel 2]).1 1).2 = false := by
  refine ⟨?_, by decide +kernel⟩
  intro op hm now t he
  subst he
  simp only [List.mem_cons, List.mem_nil_iff, or_false, reduceCtorEq, false_or, Op.drainSweep.injEq] at hm
  omega

/-- **S5a (heap order).** In every reachable state `_heap` is in heap order for `less` (no element is less than its parent), whatever
sequence of `siftUp`/`siftDown`/`heapPop` produced it; so `_heap.front()` is a minimum. -/
theorem S5_heap_order (L : Limits) (ops : List Tsvc.Op) : HeapOk (Tsvc.run L ops).1.heap := (Tsvc.inv_run L ops).hok

/-- **S5b (no silent loss).** When the loop of `collectDueLocked(now)` leaves through `break` or the empty heap, no record with
`tp ≤ now` remains: together with S3c every live record that was due has been handed over.  (The loop always leaves that way
when all periodic intervals are positive; with an interval ≤ 0 the C++ loop does not terminate, and the model's loop runs out of
fuel with `complete = false`.) -/
theorem S5_no_due_record_left (L : Limits) (ops : List Tsvc.Op) (now : Int)
    (hc : (collectLoop now collectFuel { records := (Tsvc.run L ops).1.records, periodic := (Tsvc.run L ops).1.periodic,
                                         heap := (Tsvc.run L ops).1.heap }).complete = true) :
    ∀ r ∈ (collectLoop now collectFuel { records := (Tsvc.run L ops).1.records, periodic := (Tsvc.run L ops).1.periodic,
                                         heap := (Tsvc.run L ops).1.heap }).records, now < r.tp := by
  have sp := collect_spec (Tsvc.inv_run L ops) now
  intro r hr
  -- heap items and records correspond, and a complete run leaves no due heap item
  obtain ⟨x, hx, hxr⟩ := sp.1.core.item_of_rec hr
  have := sp.2 hc x hx
  omega

/-- non-vacuity: five timers, a collect in the middle: it completes, hands over the three that are due, keeps the two later ones -/
example :
    let s := (Tsvc.run ⟨100, 10, 86400000000000⟩ [.schedAt 0 5, .schedAt 0 3, .schedAt 0 9, .schedAt 0 1, .schedAt 0 7]).1
    let c := collectLoop 5 collectFuel { records := s.records, periodic := s.periodic, heap := s.heap }
    c.complete = true ∧ c.out.map (·.id) = [4, 2, 1] ∧ c.records.map (·.id) = [3, 5] := by decide +kernel

/-- **S6 (refusal).** A service that is not accepting stores nothing and answers 0. -/
theorem S6_refused (L : Limits) (s : Svc) (now x : Int) (h : s.accepting = false) :
    scheduleAt L s now x = (s, 0) ∧ schedulePeriodic L s now x = (s, 0) := by
  simp [scheduleAt, schedulePeriodic, h]

end Service

/-! ## Second layer: restart (`stop → reset → start`), wake-up plumbing, concurrent `scheduleAt` -/

section Sys
open Iora.Tsvc Iora.Tsys

/-- **Gen conformance (second layer).** `programTimerfd` bumps a zero `it_value` to 1 ns; `scheduleAt`, `schedulePeriodic`, `cancel`,
`drain` and `stop` call `poke()` after their locked section; `reset()` clears `_records`, `_periodicTimers`, `_heap` and restarts
`_nextId` at 0 (seeded change C08-d drops the heap); `stop()`'s internal drain is `drain(5000)`. -/
theorem G_sys_shapes :
    Gen.Timer.svcTimerfdZeroGuard = true ∧ Gen.Timer.svcTimerfdZeroNs = 1 ∧
    Gen.Timer.svcPokeSites = ["scheduleAt", "schedulePeriodic", "cancel", "drain", "stop"] ∧
    Gen.Timer.svcResetClears = ["records", "periodic", "heap", "nextId"] ∧ Gen.Timer.svcStopDrainMs = 5000 :=
  ⟨rfl, rfl, rfl, rfl, rfl⟩

/-- **R1 (every epoch is a fresh service).** For EVERY history of the restartable service — any interleaving of first-layer steps, pokes,
loop wake-ups, `reset()` and `start()`, any number of restarts — outside the Reset state the state and the history of the current epoch
are exactly a run of the first-layer model from the constructor's state.  Hence every theorem about `Tsvc.run` (S1–S6) holds in every
epoch (`R_transfer`). -/
theorem R_epoch_is_fresh_run (L : Limits) (ops : List Tsys.Op) (h : (Tsys.run L ops).isReset = false) :
    ∃ sops, Tsvc.run L sops = ((Tsys.run L ops).s, (Tsys.run L ops).hist) := by
  rcases Tsys.refines L ops with ⟨_, r⟩ | ⟨h1, _⟩
  · exact r
  · rw [h] at h1; cases h1

/-- **R2 (transfer).** Whatever holds of every first-layer run holds of the current epoch of every history with restarts. -/
theorem R_transfer (L : Limits) (P : Svc × Tsvc.Hist → Prop) (hP : ∀ sops, P (Tsvc.run L sops)) (ops : List Tsys.Op)
    (h : (Tsys.run L ops).isReset = false) : P ((Tsys.run L ops).s, (Tsys.run L ops).hist) := by
  obtain ⟨sops, hs⟩ := R_epoch_is_fresh_run L ops h
  rw [← hs]; exact hP sops

/-- **R3 (S2 across restarts: an id issued after a restart never fires at a deadline of an earlier epoch).** In every history with
restarts, every invocation the loop collects is due (`tp ≤ now`) and `tp = t0 + k·iv` where `(t0, iv)` is what the caller asked for
IN THE CURRENT EPOCH (`reqOf` of the epoch's own history: a request of an earlier epoch for the same numeric id does not count). -/
theorem R_S2_across_restarts (L : Limits) (ops : List Tsys.Op) (h : (Tsys.run L ops).isReset = false) (now : Int) (atExit : Bool) :
    ∀ e ∈ (collect (Tsys.run L ops).s now atExit).2.1,
      e.tp ≤ now ∧ e.tp = e.t0 + e.k * e.iv ∧ reqOf (Tsys.run L ops).hist e.id = some (e.t0, e.iv) :=
  R_transfer L (fun p => ∀ e ∈ (collect p.1 now atExit).2.1, e.tp ≤ now ∧ e.tp = e.t0 + e.k * e.iv ∧ reqOf p.2 e.id = some (e.t0, e.iv))
    (fun sops => S2_collected_is_due L sops now atExit) ops h

/-- **R4 (S1 and S3 across restarts).** In the current epoch of every history with restarts: collected = started + skipped + waiting with
no (id, firing) twice; and after `cancel(id) = true` no handler of that id starts in any first-layer continuation. -/
theorem R_S1_S3_across_restarts (L : Limits) (ops : List Tsys.Op) (h : (Tsys.run L ops).isReset = false) :
    ((started (Tsys.run L ops).hist ++ skipped (Tsys.run L ops).hist ++ (Tsys.run L ops).s.ready).Perm (collected (Tsys.run L ops).hist) ∧
     ((started (Tsys.run L ops).hist).map ekey).Nodup) ∧
    ∀ id rest, (Tsvc.cancel (Tsys.run L ops).s id).2 = true →
      ∀ e ∈ started (Tsvc.trace L (Tsvc.cancel (Tsys.run L ops).s id).1 rest), e.id ≠ id :=
  R_transfer L (fun p => ((started p.2 ++ skipped p.2 ++ p.1.ready).Perm (collected p.2) ∧ ((started p.2).map ekey).Nodup) ∧
      ∀ id rest, (Tsvc.cancel p.1 id).2 = true → ∀ e ∈ started (Tsvc.trace L (Tsvc.cancel p.1 id).1 rest), e.id ≠ id)
    (fun sops => ⟨⟨(S1_collected_exactly_once L sops).1, (S1_collected_exactly_once L sops).2.2⟩,
                  fun id rest hc => S3_cancelled_never_starts L sops id rest hc⟩) ops h

/-- **R5.** `reset()` followed by `start()` on a reachable Stopped service (no `drain()` still in progress) leaves EXACTLY the
constructor's state: no record, no periodic entry, no heap item, no closed guard, `_nextId = 0` — nothing of the old epoch survives. -/
theorem R_reset_start_is_constructor_state (L : Limits) (sops : List Tsvc.Op) (hl : (Tsvc.run L sops).1.life = .stopped)
    (hd : (Tsvc.run L sops).1.dpc = .idle) : startSvc (resetSvc (Tsvc.run L sops).1) = {} :=
  Tsys.reset_start_fresh _ (Tsvc.inv_run L sops).wf hl hd

/-- non-vacuity of R1–R5: a complete stop (a cancelled timer's heap item and a far-future timer are left behind), `reset()`, `start()`,
a new timer: it gets id 1 again and the heap holds only the new item -/
example :
    let y := Tsys.run ⟨100, 10, 86400000000000⟩ [.svc (.schedAt 0 4000000), .svc (.cancel 1), .svc (.schedAt 0 9000000000), .svc .drainGate,
      .svc (.drainSweep 0 5000000000), .svc .drainDone, .svc .stopFlag, .svc .stopHalt, .svc (.collect 1 true), .svc .loopExit, .svc .stopFinish,
      .reset, .start, .svc (.schedAt 5 15000000)]
    y.isReset = false ∧ y.epoch = 1 ∧ y.s.heap = [⟨15000000, 1⟩] ∧ y.s.records.map (·.id) = [1] := by decide +kernel

/-- **On record (seeded change C08-d).** A `reset()` that does not clear `_heap` (clears = records, periodic, nextId): after the same
restart the heap still holds the OLD item `(4 ms, id 1)`; the new timer — id 1 again, due at 15 ms — is collected at 4 ms. -/
theorem R_without_heap_clear_witness :
    let s0 := (Tsvc.run ⟨100, 10, 86400000000000⟩ [.schedAt 0 4000000, .cancel 1, .drainGate, .drainSweep 0 5000000000, .drainDone, .stopFlag, .stopHalt,
      .collect 1 true, .loopExit, .stopFinish]).1
    let s1 := startSvc (resetSvcWith ["records", "periodic", "nextId"] s0)
    let s2 := (scheduleAt ⟨100, 10, 86400000000000⟩ s1 5 15000000).1
    (collect s2 4000000 false).2.1.map (fun e => (e.id, e.tp)) = [(1, 15000000)] := by decide +kernel

/-- **WK1 (wake-up invariant).** For EVERY history: while the loop thread sleeps in `epoll_wait` and the heap is not empty, a wake-up is
pending (`poked`: the eventfd is readable), or owed (a client thread is between its locked section and its `poke()`), or the timerfd is
armed no later than the heap top's time point — or 1 ns after the clock value `programTimerfd` read, when the top was already due then
(the zero guard).  And the eventfd is closed only after the loop thread has been joined. -/
theorem WK_parked_has_wakeup (L : Limits) (ops : List Tsys.Op) (hp : (Tsys.run L ops).lpc = .parked) (t : HeapItem)
    (ht : (Tsys.run L ops).s.heap.head? = some t) :
    (Tsys.run L ops).poked = true ∨ 0 < (Tsys.run L ops).owed ∨
    ∃ a, (Tsys.run L ops).armed = some a ∧ (a ≤ t.tp ∨ a ≤ (Tsys.run L ops).armNow + 1) :=
  (Tsys.winv_run L ops).wk hp t ht

/-- **WK2 (a due record wakes the loop: never silently lost).** For every history: if the loop thread sleeps in `epoll_wait`, no client
thread still owes its `poke()`, and some record (live or not) has `tp ≤ now` at a clock value `now` later than the one the loop armed
with, then `epoll_wait` returns: the eventfd is readable or the timerfd has expired.  (With S5b/S3c the pass that follows hands every
live due record over.) -/
theorem WK_due_record_wakes (L : Limits) (ops : List Tsys.Op) (hr : (Tsys.run L ops).isReset = false) (hp : (Tsys.run L ops).lpc = .parked)
    (ho : (Tsys.run L ops).owed = 0) (now : Int) (hn : (Tsys.run L ops).armNow < now)
    (r : Rec) (hm : r ∈ (Tsys.run L ops).s.records) (hdue : r.tp ≤ now) :
    wakeEnabled (Tsys.run L ops) now = true :=
  (Tsys.winv_run L ops).due_wakes (R_transfer L (fun p => Tsvc.Inv p.1 p.2) (Tsvc.inv_run L) ops hr) hp ho hn hm hdue

/-- non-vacuity of WK2, the window in which a missing zero guard loses the wake-up: timer 1's handler runs while timer 2 comes due; the loop arms at 3 ms with the top
(2 ms) already due: the timerfd is programmed for 3 ms + 1 ns (not disarmed), and it wakes the loop -/
example :
    let y := Tsys.run ⟨100, 10, 86400000000000⟩ [.svc (.schedAt 0 1000000), .poke, .svc (.schedAt 0 2000000), .poke, .arm 0, .wake 1000000,
      .svc (.collect 1000000 false), .svc .hstart, .svc .hend, .arm 3000000]
    y.lpc = .parked ∧ y.poked = false ∧ y.owed = 0 ∧ y.armed = some 3000001 ∧ wakeEnabled y 3000001 = true := by decide +kernel

/-- **On record (zero guard).** Without the zero guard a heap top that is already due programs `it_value = 0`, which
DISARMS the timerfd: the loop sleeps with a due timer and nothing to wake it. -/
theorem WK_without_zero_guard_witness (now tp : Int) (id : Nat) (h : tp ≤ now) :
    armValueWith false 1 now (some ⟨tp, id⟩) = none ∧ armValueWith true 1 now (some ⟨tp, id⟩) = some (now + 1) := by
  have : ¬ tp > now := by omega
  simp [armValueWith, this]

/-- **S6c (concurrent `scheduleAt`).** `scheduleAt` tests `_accepting` lock-free, then takes `_mutex` and tests it AGAIN: whatever other
threads did in between (`rest`: any steps), once `stop()` has returned the locked section stores nothing and answers 0 — a timer is
refused, never accepted by a stopped service.  (That the two halves executed back to back are `scheduleAt` is `S6_split`.) -/
theorem S6_concurrent (L : Limits) (ops rest : List Tsvc.Op) (tp : Int) (h : (stopFinish (Tsvc.run L ops).1).2 = true) (hist : Tsvc.Hist) :
    scheduleAtLocked L (Tsvc.runFrom L (stopFinish (Tsvc.run L ops).1).1 hist rest).1 tp =
      ((Tsvc.runFrom L (stopFinish (Tsvc.run L ops).1).1 hist rest).1, 0) := by
  have := ((S4_after_stop L ops rest h).2 hist).2
  simp [scheduleAtLocked, this]

/-- **S6s.** The lock-free part and the locked section executed back to back are `scheduleAt`. -/
theorem S6_split (L : Limits) (s : Svc) (now tp : Int) :
    scheduleAt L s now tp = if scheduleAtPre L s now tp then scheduleAtLocked L s tp else (s, 0) := by
  unfold scheduleAt scheduleAtPre scheduleAtLocked
  cases s.accepting <;> by_cases h : tp - now > L.maxTimeoutNs <;> simp [h]

/-- non-vacuity of S6c: the racing thread passes the lock-free test on the running service; a complete `stop()` follows; the locked
section then refuses -/
example :
    scheduleAtPre ⟨100, 10, 86400000000000⟩ ({} : Svc) 0 5 = true ∧
    (stopFinish (Tsvc.run ⟨100, 10, 86400000000000⟩ [.drainGate, .drainSweep 0 5000000000, .drainDone, .stopFlag, .stopHalt, .collect 1 true, .loopExit]).1).2 = true := by
  decide +kernel

end Sys

/-! ## SteadyTimer (as repaired by FC08b) -/

section SteadyT
open Iora.Tsvc Iora.Steady

/-- **ST1 (a successful cancel is final).** For every history of the SteadyTimer layer (service steps of any thread, arms, re-arms and
cancels of any number of SteadyTimer objects): if `SteadyTimer[i].cancel()` answers `true` for the wait with service id `tok`, then in
EVERY continuation the user's handler of that wait never starts — whether the record was still pending (the service-level cancel
succeeded) or had already been collected by the loop thread (the wrapper finds the shared state `Canceled`).  This is about the
`cancel()` that reports a suppressed wait, the shape `Gen.Timer.steadyCancelReportsSuppressed` reads from the source. -/
theorem ST_cancel_true_never_starts (L : Limits) (ops : List Steady.Op) (i tok : Nat) (rest : List Steady.Op)
    (ht : getTok (Steady.run L ops) i = some tok) (h : (Steady.cancel (Steady.run L ops) i).2 = true) :
    tok ∉ userStarted (Steady.trace L (Steady.cancel (Steady.run L ops) i).1 rest) := by
  have hg : Gen.Timer.steadyCancelReportsSuppressed = true := rfl
  unfold Steady.cancel at h ⊢
  rw [hg] at h ⊢
  exact never_trace L tok rest _ (cancel_never (reach_run L ops) ht h)

/-- **ST2 (a failed cancel).** `cancel() = false` means: nothing is armed (no token: never armed, refused by the service, or cancelled
before), or the wait's shared state is no longer `Armed` — the wrapper has STARTED the user's handler (it ran or is running, once: S1), or
an earlier `cancel()` had won — and the service-level cancel found no live record.  In particular never "false, and the handler is
silently suppressed" (the FC08b defect). -/
theorem ST_cancel_false_means_not_armed (L : Limits) (ops : List Steady.Op) (i : Nat) (h : (Steady.cancel (Steady.run L ops) i).2 = false) :
    getTok (Steady.run L ops) i = none ∨
    ∃ tok, getTok (Steady.run L ops) i = some tok ∧ (Tsvc.cancel (Steady.run L ops).s tok).2 = false ∧
      (armState (Steady.run L ops).arms tok = some .started ∨ armState (Steady.run L ops).arms tok = some .cancelled) := by
  have hg : Gen.Timer.steadyCancelReportsSuppressed = true := rfl
  unfold Steady.cancel at h
  rw [hg] at h
  exact cancel_false_not_armed (reach_run L ops) h

/-- non-vacuity of ST1/ST2, the FC08b window: timer 1 (a plain one-shot) and the SteadyTimer wait (id 2) are collected together, handler
1 is running, wait 2 sits in the loop's ready list: the service-level cancel fails, the repaired `cancel()` answers `true`, and the
wrapper then does not call the handler; in the window where the handler has started `cancel()` answers `false` -/
example :
    let l := Steady.run ⟨100, 10, 86400000000000⟩ [.svc (.schedAt 0 1000000), .sat 0 0 1000000, .svc (.collect 1000000 false), .svc .hstart]
    getTok l 0 = some 2 ∧ (Tsvc.cancel l.s 2).2 = false ∧ (Steady.cancel l 0).2 = true ∧
    userStarted (Steady.trace ⟨100, 10, 86400000000000⟩ (Steady.cancel l 0).1 [.svc .hend, .svc .hstart]) = [] ∧
    (Steady.cancel (Steady.runFrom ⟨100, 10, 86400000000000⟩ l [.svc .hend, .svc .hstart]) 0).2 = false := by decide +kernel

/-- **On record (finding FC08b, repaired).** The unrepaired `cancel()` — the flag stored first, the answer the service-level answer alone
(`cancelWith false`) — answers `false` in that window, and the user's handler never starts: "cancel = false" and the timer is silently
dropped. -/
theorem ST_legacy_cancel_witness :
    let l := Steady.run ⟨100, 10, 86400000000000⟩ [.svc (.schedAt 0 1000000), .sat 0 0 1000000, .svc (.collect 1000000 false), .svc .hstart]
    (Steady.cancelWith false l 0).2 = false ∧
    userStarted (Steady.trace ⟨100, 10, 86400000000000⟩ (Steady.cancelWith false l 0).1 [.svc .hend, .svc .hstart, .svc .hend]) = [] := by decide +kernel

end SteadyT

/-! ### the periodic guard is read a few instructions before the handler is called -/

section GuardWindow
open Iora.Tsvc

/-- **S3p, the clause at instruction granularity** for PERIODIC timers.  The stored function of a periodic timer is
`if (!cancelFlag->load()) fn();`: the guard is read, THEN the user's handler is called.  The first-layer step `hstart` takes both as
one atomic step.  At instruction granularity the clause "cancel = true ⇒ the handler never starts afterwards" needs: whenever the loop
thread has read the guard of a waiting invocation as open, a `cancel(id)` that runs before `fn()` is entered must not answer `true`. -/
def C08_S3p_statement : Prop :=
  ∀ (L : Limits) (ops : List Tsvc.Op) (h : Hnd) (rest : List Hnd),
    (Tsvc.run L ops).1.ready = h :: rest → (Tsvc.run L ops).1.inflight = none →
    (h.guarded && (Tsvc.run L ops).1.closed.contains h.id) = false →      -- the loop thread reads the guard: open
    (Tsvc.cancel (Tsvc.run L ops).1 h.id).2 = false                        -- … then no cancel may still succeed

/-- **S3p refuted.** A periodic timer is collected; the loop thread reads its guard (open) and is descheduled before `fn()`; `cancel(1)`
answers `true` (the periodic entry is there); the loop thread goes on and calls the handler. -/
theorem C08_S3p_refuted : ¬ C08_S3p_statement := by
  intro h
  have := h ⟨100, 10, 86400000000000⟩ [.schedPer 0 5000000, .collect 5000000 false] ⟨1, 5000000, true, 1, 0, 5000000⟩ [] (by decide +kernel) (by decide +kernel) (by decide +kernel)
  revert this
  decide +kernel

/-- **S3p, partial** = `S3_cancelled_never_starts`: with the guard read and the call of the user's handler taken as ONE step (the window is
a handful of instructions on the loop thread; the real-time monitor RT3 allows 5 ms for it), after `cancel(id) = true` no handler of the
id starts in any continuation. -/
theorem C08_S3p_partial (L : Limits) (ops : List Tsvc.Op) (id : Nat) (rest : List Tsvc.Op)
    (h : (Tsvc.cancel (Tsvc.run L ops).1 id).2 = true) :
    ∀ e ∈ started (Tsvc.trace L (Tsvc.cancel (Tsvc.run L ops).1 id).1 rest), e.id ≠ id :=
  S3_cancelled_never_starts L ops id rest h

end GuardWindow

end Iora.C08
